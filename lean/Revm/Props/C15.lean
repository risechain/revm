import Revm.Proofs.StateDb
/-! C15 — reads of `revm::db::State` reflect exactly the committed history. `Model.StateDb` follows `State`,
`CacheState`, `CacheAccount`, `AccountStatus` (`unreachable!`, `expect`, `unwrap` are `Except.error`); `Spec.StateDb`
applies each committed account to a plain reference state; `Reach`: what the EVM guarantees of its histories. Proved
except for code-less nonce-less accounts with storage (possible before EIP-161; hypotheses `CodelessNoStorage D`,
`Excl`), where the real code fails (confirmed on it, `state_reads_ref_counterexample_A/_B`): (A) such a database
account turns `InMemoryChange` on its first change, its unknown slots then read 0 (DESIGN §9 #11); (B) state clearing
off, `touch_create_pre_eip161` from `InMemoryChange` rebuilds it without its storage. Not claimed: State and CacheDB
executing alike (CacheDB is C20's), compared in-harness on every `tx` line. -/
namespace Revm.Props.C15
open Revm Revm.Model.StateDb Revm.Spec.StateDb

/-- the property at full strength: every reachable history runs without panic on the block-state database and
every read returns what the plain reference state returns -/
def StateReadsRefStatement : Prop :=
  ∀ (D : Db) (sc bu : Bool) (ops : List Op), DbWf D → Reach D.code sc (St.init D) ops →
    ∃ s', (State.build D sc bu none).run ops = .ok (s', (run D.code sc (St.init D) ops).2)

/-- C15 outside the excluded region: all replies of the block-state database (account views, storage
words, code, drained balances) equal those of the plain reference state; in particular the run never panics -/
theorem state_reads_ref_partial (D : Db) (sc bu : Bool) (ops : List Op) (hD : DbWf D)
    (hE : CodelessNoStorage D) (hx : Excl sc ops) (hr : Reach D.code sc (St.init D) ops) :
    ∃ s', (State.build D sc bu none).run ops = .ok (s', (run D.code sc (St.init D) ops).2) :=
  Proofs.StateDb.state_reads_ref sc bu ops hD hE hx hr

/-- the `unreachable!` arms of the status machine (`on_touched_empty_post_eip161`,
`on_touched_created_pre_eip161`, `State::storage`), the `expect` in `apply_account_state` and the
`unwrap` in `drain_balance` are never reached by a reachable history -/
theorem unreachable_arms_unreachable_partial (D : Db) (sc bu : Bool) (ops : List Op) (hD : DbWf D)
    (hE : CodelessNoStorage D) (hx : Excl sc ops) (hr : Reach D.code sc (St.init D) ops) :
    ∀ e, (State.build D sc bu none).run ops ≠ .error e := by
  obtain ⟨s', h⟩ := state_reads_ref_partial D sc bu ops hD hE hx hr
  intro e he; rw [h] at he; cases he

/-- touched empty accounts are removed once state clearing is active (reference semantics, which
the database reads equal by `state_reads_ref_partial`) -/
theorem touched_empty_removed (ra : Option (Info × (Slot → Word))) (a : CommitAcct)
    (ht : a.touched = true) (hs : a.selfdestructed = false) (hc : a.created = false)
    (he : a.info.isEmpty = true) : applyAcct true ra a = none := by
  simp [applyAcct, ht, hs, hc, he]

/-- the per-account status machine never panics and keeps `AcctInv`: one committed account applied to
a related cache entry gives a related cache entry -/
theorem account_step_refines (D : Db) (sc : Bool) (a : Addr) (oc : Option CacheAccount) (ra)
    (acct : CommitAcct) (hD : DbWf D) (hE : CodelessNoStorage D)
    (hinv : Proofs.StateDb.AcctInv D D sc a oc ra) (hl : acct.touched = true → oc ≠ none)
    (hw : acct.touched = true → WfInfo acct.info)
    (hre : acct.touched = true → acct.selfdestructed = false → acct.created = false →
      acct.info.isEmpty = true → isEmptyRef ra ∧ acct.changed = [])
    (hx : ExclAcct sc acct) :
    ∃ oc' t, applyAccountState sc oc acct = .ok (oc', t) ∧
      Proofs.StateDb.AcctInv D D sc a oc' (applyAcct sc ra acct) :=
  (Proofs.StateDb.acct_step acct hD hE hinv hl hw hre hx).imp fun _ h => h.imp fun _ h => ⟨h.1, h.2.1⟩

def KE : Nat := KECCAK_EMPTY
def a1 : Addr := 0xa1

/-- (A) the database holds an empty account with slot 1 = 9 -/
def dbA : Db :=
  { basic := fun a => if a = a1 then some ⟨0, 0, KE, none⟩ else none,
    storage := fun a k => if a = a1 ∧ k = 1 then 9 else 0,
    code := fun _ => [] }
/-- load it, commit a balance change (5 wei arrive), read slot 1 -/
def opsA : List Op :=
  [.basic a1,
   .commit [{ addr := a1, info := ⟨5, 0, KE, none⟩, storage := [], touched := true, created := false,
              selfdestructed := false }],
   .storage a1 1]

def dbB : Db := { basic := fun _ => none, storage := fun _ _ => 0, code := fun _ => [] }
/-- (B) state clearing off: create an empty account with slot 0 = 1, read it, touch it, read again -/
def opsB : List Op :=
  [.basic a1,
   .commit [{ addr := a1, info := ⟨0, 0, KE, some []⟩, storage := [(0, 0, 1)], touched := true,
              created := true, selfdestructed := false }],
   .storage a1 0,
   .commit [{ addr := a1, info := ⟨0, 0, KE, some []⟩, storage := [], touched := true,
              created := false, selfdestructed := false }],
   .storage a1 0]

def replies (r : Except String (State × List Reply)) : Option (List Reply) :=
  match r with
  | .ok p => some p.2
  | .error _ => none

theorem dbA_wf : DbWf dbA := by
  intro a i h
  simp only [dbA] at h
  split at h
  · cases h; exact ⟨by decide, fun _ => Or.inl rfl⟩
  · cases h

theorem dbB_wf : DbWf dbB := by intro a i h; cases h

theorem wf_KE_none (b n : Nat) : WfInfo ⟨b, n, KE, none⟩ := ⟨by show KE ≠ 0; decide, fun _ => Or.inl rfl⟩
theorem wf_KE_nil (b n : Nat) : WfInfo ⟨b, n, KE, some []⟩ := ⟨by show KE ≠ 0; decide, fun _ => Or.inr rfl⟩

theorem reachA : Reach dbA.code true (St.init dbA) opsA := by
  refine ⟨trivial, ⟨?_, trivial⟩, rfl, trivial⟩
  intro _
  exact ⟨rfl, wf_KE_none 5 0, fun _ _ h => by simp [Info.isEmpty] at h⟩

theorem reachB : Reach dbB.code false (St.init dbB) opsB := by
  refine ⟨trivial, ⟨?_, trivial⟩, rfl, ⟨?_, trivial⟩, rfl, trivial⟩
  · intro _
    exact ⟨rfl, wf_KE_nil 0 0, fun _ h _ => by cases h⟩
  · intro _
    refine ⟨rfl, wf_KE_nil 0 0, fun _ _ _ => ⟨by exact rfl, rfl⟩⟩

/-- on witness (A) the database answers 0 for slot 1, the reference 9 -/
theorem witnessA_replies :
    replies ((State.build dbA true false none).run opsA) =
      some [.info (some ⟨0, 0, KE, []⟩), .done, .word 0] ∧
    (run dbA.code true (St.init dbA) opsA).2 = [.info (some ⟨0, 0, KE, []⟩), .done, .word 9] := by
  constructor <;> decide

/-- on witness (B) the second read answers 0, the reference 1 -/
theorem witnessB_replies :
    replies ((State.build dbB false false none).run opsB) =
      some [.info none, .done, .word 1, .done, .word 0] ∧
    (run dbB.code false (St.init dbB) opsB).2 = [.info none, .done, .word 1, .done, .word 1] := by
  constructor <;> decide

/-- the full statement is false of the code as it is: witness (A), DESIGN §9 #11 -/
theorem state_reads_ref_counterexample_A : ¬ StateReadsRefStatement := by
  intro h
  obtain ⟨s', hs⟩ := h dbA true false opsA dbA_wf reachA
  have h1 := witnessA_replies.1
  rw [hs, witnessA_replies.2] at h1
  simp only [replies] at h1
  exact absurd h1 (by decide)

/-- the full statement is false of the code as it is: witness (B), state clearing off -/
theorem state_reads_ref_counterexample_B : ¬ StateReadsRefStatement := by
  intro h
  obtain ⟨s', hs⟩ := h dbB false false opsB dbB_wf reachB
  have h1 := witnessB_replies.1
  rw [hs, witnessB_replies.2] at h1
  simp only [replies] at h1
  exact absurd h1 (by decide)

/-! ## non-vacuity: a non-trivial history satisfying every hypothesis of the theorem -/

/-- a contract-like account (nonce 1) with slot 1 = 9 -/
def dbC : Db :=
  { basic := fun a => if a = a1 then some ⟨7, 1, KE, none⟩ else none,
    storage := fun a k => if a = a1 ∧ k = 1 then 9 else 0,
    code := fun _ => [] }
/-- change it (slot 2 written), read both slots, then it self-destructs -/
def opsC : List Op :=
  [.basic a1,
   .commit [{ addr := a1, info := ⟨5, 2, KE, none⟩, storage := [(2, 0, 4), (1, 9, 9)], touched := true,
              created := false, selfdestructed := false }],
   .storage a1 1, .storage a1 2,
   .commit [{ addr := a1, info := ⟨0, 2, KE, none⟩, storage := [], touched := true, created := false,
              selfdestructed := true }],
   .basic a1]

example : DbWf dbC ∧ CodelessNoStorage dbC ∧ Excl true opsC ∧ Reach dbC.code true (St.init dbC) opsC := by
  refine ⟨?_, ?_, ?_, ?_⟩
  · intro a i h
    simp only [dbC] at h
    split at h
    · cases h; exact wf_KE_none 7 1
    · cases h
  · intro a i h hc
    simp only [dbC] at h
    split at h
    · cases h; simp [Info.hasNoCodeAndNonce] at hc
    · cases h
  · intro op hop
    simp only [opsC, List.mem_cons, List.mem_nil_iff, or_false] at hop
    rcases hop with h | h | h | h | h | h <;> subst h <;> simp only [ExclOp]
    · intro a ha hsc; cases hsc
    · intro a ha hsc; cases hsc
  · refine ⟨trivial, ⟨?_, trivial⟩, rfl, rfl, ⟨?_, trivial⟩, trivial, trivial⟩
    · intro _
      exact ⟨rfl, wf_KE_none 5 2, fun _ _ h => by simp [Info.isEmpty] at h⟩
    · intro _
      exact ⟨rfl, wf_KE_none 0 2, fun h => by cases h⟩

example : replies ((State.build dbC true true none).run opsC) =
    some [.info (some ⟨7, 1, KE, []⟩), .done, .word 9, .word 4, .done, .info none] := by decide

end Revm.Props.C15
