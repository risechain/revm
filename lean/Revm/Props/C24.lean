import Revm.Proofs.Backend
/-! C24 — alternative cryptographic back ends agree. `ecrecover`: `Model.Backend.secpCore` is the C `secp256k1` path
(`RecoverableSignature::from_compact`, `recover_ecdsa`), `k256Core` the pure-Rust path (`Signature::from_slice`,
`normalize_s` with the parity flip, `recover_from_prehash` with its identity check, low-s check and re-verification),
both over one abstract group `C : Curve`; proved in full for every `C` with `CurveLaws C`. Trusted: that libsecp256k1's
and k256's field / group code implement such a `C`, and the same one (exercised by the two-binary correspondence run).
KZG point evaluation: both libraries are opaque, only `kzg_point_evaluation::run` is modelled; the `_partial` theorems
reduce agreement of the precompile to agreement of the libraries and show which replies depend on neither. -/
namespace Revm.Props.C24
open Revm Revm.Model.Backend Revm.Spec.Backend

/-- Malleability of public-key recovery: `recover(r, n - s, v xor 1) = recover(r, s, v)`.
This is what k256's `normalize_s()` + `recid ^= 1` relies on. -/
theorem recover_malleable (C : Curve) (L : CurveLaws C) (z r s recid : Nat)
    (hrec : recid < 2) (hs0 : 0 < s) (hs : s < C.n) :
    secpCore C z r (C.n - s) (recid ^^^ 1) = secpCore C z r s recid :=
  Proofs.Backend.secp_malleable L z r s recid hrec hs0 hs

/-- The C path computes the textbook recovery `Q = r^-1 (s R - z G)`, `R = lift r parity`, rejecting
the identity; the message enters only through `z mod n`. -/
theorem secp_is_textbook_recovery (C : Curve) (L : CurveLaws C) (z r s recid : Nat)
    (hr0 : 0 < r) (hr : r < C.n) (hs0 : 0 < s) (hs : s < C.n) :
    secpCore C z r s recid = Spec.Backend.recover C z r s (isOdd recid) :=
  Proofs.Backend.secp_eq_spec L z r s recid hr0 hr hs0 hs

/-- The ECDSA verification equation holds on every recovered key, so k256's final
`vk.verify_prehash(prehash, signature)?` can never reject what was just recovered:
`[z s^-1]G + [r s^-1]Q = R` for `Q = [-(r^-1 z)]G + [r^-1 s]R`. -/
theorem verification_equation_holds (C : Curve) (L : CurveLaws C) (z r s : Nat) (R : C.Pt)
    (hr0 : 0 < r) (hr : r < C.n) (hs0 : 0 < s) (hs : s < C.n) :
    C.add (smul C (z * C.inv s % C.n) C.G)
      (smul C (r * C.inv s % C.n)
        (C.add (smul C (negModN C (C.inv r * z % C.n)) C.G) (smul C (C.inv r * s % C.n) R))) = R :=
  Proofs.Backend.verify_point L z r s R hr0 hr hs0 hs

/-! ## ecrecover: the range gates of the two wrappers (no group law needed) -/

/-- Both paths reject exactly the same (r, s): outside `0 < r < n`, `0 < s < n` both return nothing
(libsecp256k1: overflow at parse, zero at recovery; k256: `ScalarPrimitive` range, then `is_zero`). -/
theorem rs_gates_reject_same (C : Curve) (z r s recid : Nat)
    (h : ¬ (0 < r ∧ r < C.n ∧ 0 < s ∧ s < C.n)) :
    secpCore C z r s recid = none ∧ k256Core C z r s recid = none :=
  ⟨Proofs.Backend.gated_out _ h, Proofs.Backend.gated_out _ h⟩

theorem rs_gates_necessary (C : Curve) (z r s recid : Nat)
    (h : secpCore C z r s recid ≠ none ∨ k256Core C z r s recid ≠ none) :
    0 < r ∧ r < C.n ∧ 0 < s ∧ s < C.n := by
  apply Classical.byContradiction
  intro hn
  have := rs_gates_reject_same C z r s recid hn
  rcases h with h | h
  · exact h this.1
  · exact h this.2

/-! ## ecrecover: the two back ends are the same function -/

/-- Headline: the k256 path returns exactly what the C secp256k1 path returns, (r, s) in range or not, low or high s,
liftable or not, recovered key at infinity or not. -/
theorem k256_core_eq_secp_core (C : Curve) (L : CurveLaws C) (z r s recid : Nat) (hrec : recid < 2) :
    k256Core C z r s recid = secpCore C z r s recid :=
  Proofs.Backend.k256_eq_secp L z r s recid hrec

/-- `ec_recover_run` over the k256 back end = `ec_recover_run` over the secp256k1 back end, as
functions of the input bytes (any length: right-padded / cut to 128) and the gas limit, including all
failures (out of gas, bad `v` word, empty output). -/
theorem ecrecover_backends_agree (C : Curve) (L : CurveLaws C) (input : List Nat) (gas : Nat) :
    ecRecoverRun (fun z r s recid => outBytes C (k256Core C z r s recid)) input gas
      = ecRecoverRun (fun z r s recid => outBytes C (secpCore C z r s recid)) input gas :=
  Proofs.Backend.ecRecoverRun_congr _ _
    (fun z r s recid h => by rw [Proofs.Backend.k256_eq_secp L z r s recid h]) input gas

/-- the `v` gate: a `v` word other than 27 / 28 (as a 32-byte big-endian integer) gives the empty
output at the base price, whatever the back end -/
theorem ecrecover_v_gate (f : Nat → Nat → Nat → Nat → List Nat) (input : List Nat) (gas : Nat)
    (hg : 3000 ≤ gas) (hv : vGate (rightPad 128 input) = false) :
    ecRecoverRun f input gas = .ok 3000 [] := by
  rw [Proofs.Backend.ecRecoverRun_eq, if_neg (by omega), if_pos hv]

/-- the `expect("recovery ID is valid")` / `unwrap()` sites of the wrapper never fire -/
theorem ecrecover_never_panics (f : Nat → Nat → Nat → Nat → List Nat) (input : List Nat) (gas : Nat) :
    ecRecoverRun f input gas ≠ .panic := by
  rw [Proofs.Backend.ecRecoverRun_eq]
  split
  · nofun
  · split <;> nofun

/-- The executable model used by the correspondence driver (`oracleCore`: gates and liftability of r
decided concretely for secp256k1, the recovered address taken from the request line) reproduces the
abstract model whenever the claim on the request line is the back end's real answer. -/
theorem oracle_model_sound (C : Curve) (hn : C.n = N)
    (hlift : ∀ r b, C.lift r b = none ↔ liftable r = false) (z r s recid : Nat) :
    oracleCore (outBytes C (secpCore C z r s recid)) z r s recid = outBytes C (secpCore C z r s recid) := by
  unfold oracleCore secpCore
  rw [hn]
  by_cases hov : r ≥ N ∨ s ≥ N
  · rw [if_pos hov, if_pos hov]; rfl
  rw [if_neg hov, if_neg hov]
  by_cases hz : r = 0 ∨ s = 0
  · rw [if_pos hz, if_pos hz]; rfl
  rw [if_neg hz, if_neg hz]
  cases hl : liftable r with
  | true => rfl
  | false =>
    rw [(hlift r (isOdd recid)).mpr hl]
    rfl

/-! ## KZG point evaluation (wrapper only; both libraries are parameters) -/

/-- FULL statement of the KZG half (not proved: `verifyA`, `verifyB` stand for
`c_kzg::KzgProof::verify_kzg_proof(..).unwrap_or(false)` and the `kzg_rs` one, which are not modelled) -/
def KzgBackendsAgreeStatement (verifyA verifyB : List Nat → Nat → Nat → List Nat → Bool) : Prop :=
  ∀ (input : List Nat), (∀ b ∈ input, b < 256) → ∀ gas : Nat, kzgRun verifyA input gas = kzgRun verifyB input gas

/-- Reduction: if the two libraries agree on well-formed arguments (48-byte commitment and proof,
256-bit z and y — canonical or not), the precompile agrees on every input and gas limit.
Missing for the full statement: the hypothesis itself (carried by the two-binary diff). -/
theorem kzg_backends_agree_partial (verifyA verifyB : List Nat → Nat → Nat → List Nat → Bool)
    (h : ∀ c z y p, c.length = 48 → p.length = 48 → z < 2^256 → y < 2^256 → verifyA c z y p = verifyB c z y p) :
    KzgBackendsAgreeStatement verifyA verifyB := by
  intro input hb gas
  rcases Proofs.Backend.kzgRun_cases input gas with ⟨e, he⟩ | ⟨_, hlen, _, hr⟩
  · rw [he, he]
  · -- behind the gates the arguments handed to the library are well formed
    have hsub : ∀ k m, ∀ b ∈ (input.drop k).take m, b < 256 :=
      fun k m b hbm => hb b (List.mem_of_mem_drop (List.mem_of_mem_take hbm))
    rw [hr, hr, h _ _ _ _ (Proofs.Backend.length_take_drop (by omega)) (Proofs.Backend.length_take_drop (by omega))
      (Proofs.Backend.beNat32_lt _ (hsub 32 32) (Proofs.Backend.length_take_drop (by omega)))
      (Proofs.Backend.beNat32_lt _ (hsub 64 32) (Proofs.Backend.length_take_drop (by omega)))]

/-- when a gate of the wrapper fails (gas < 50000, length ≠ 192, versioned hash ≠ 0x01 ++ sha256(commitment)[1..])
the reply does not depend on the library -/
theorem kzg_gate_failure_any_library_partial (verifyA verifyB : List Nat → Nat → Nat → List Nat → Bool)
    (input : List Nat) (gas : Nat)
    (hgate : gas < 50000 ∨ input.length ≠ 192 ∨ versionedHash ((input.drop 96).take 48) ≠ input.take 32) :
    kzgRun verifyA input gas = kzgRun verifyB input gas := by
  rcases Proofs.Backend.kzgRun_cases input gas with ⟨e, he⟩ | ⟨hg, hlen, hv, _⟩
  · rw [he, he]
  · rcases hgate with h | h | h
    · exact absurd hg (Nat.not_le_of_lt h)
    · exact absurd hlen h
    · exact absurd hv h

/-- success is the constant 64-byte return value at exactly 50000 gas and implies every gate and a
positive library verdict -/
theorem kzg_success_shape_partial (v : List Nat → Nat → Nat → List Nat → Bool) (input : List Nat)
    (gas g : Nat) (out : List Nat) (h : kzgRun v input gas = .ok g out) :
    g = 50000 ∧ out = returnValue ∧ 50000 ≤ gas ∧ input.length = 192 ∧
    versionedHash ((input.drop 96).take 48) = input.take 32 ∧
    v ((input.drop 96).take 48) (beNat ((input.drop 32).take 32)) (beNat ((input.drop 64).take 32))
      ((input.drop 144).take 48) = true := by
  rcases Proofs.Backend.kzgRun_cases input gas with ⟨e, he⟩ | ⟨hg, hlen, hv, hr⟩
  · rw [he] at h; cases h
  · rw [hr] at h
    cases hver : v ((input.drop 96).take 48) (beNat ((input.drop 32).take 32)) (beNat ((input.drop 64).take 32))
        ((input.drop 144).take 48) with
    | false => rw [hver] at h; cases h
    | true =>
      rw [hver] at h
      injection h with h1 h2
      exact ⟨h1.symm, h2.symm, hg, hlen, hv, rfl⟩

/-- in the library model used by the driver (`libVerify`: canonical-scalar check, then an opaque
pairing check) a z or y `≥ BLS_MODULUS` is rejected whatever the pairing check would say -/
theorem kzg_noncanonical_rejected_partial (pr : List Nat → Nat → Nat → List Nat → Bool)
    (c p : List Nat) (z y : Nat) (h : z ≥ BLS_R ∨ y ≥ BLS_R) : libVerify pr c z y p = false := by
  unfold libVerify
  rcases h with h | h
  · have : decide (z < BLS_R) = false := decide_eq_false (by omega)
    rw [this]; rfl
  · have : decide (y < BLS_R) = false := decide_eq_false (by omega)
    rw [this, Bool.and_false, Bool.false_and]

/-! ## non-vacuity: a concrete group satisfying `CurveLaws`, with recoverable signatures

Toy "curve": the cyclic group Z/7 (point k = [k]G, G = 1), x coordinate `x(k) = min(k, 7-k)` so that
`x(P) = x(-P)`; x = 1, 2, 3 lift to the points (1,6), (2,5), (3,4); x = 0 belongs to the identity only
and x ≥ 4 to no point. -/

def toyLift : Nat → Bool → Option (Fin 7)
  | 1, false => some 1 | 1, true => some 6
  | 2, false => some 2 | 2, true => some 5
  | 3, false => some 3 | 3, true => some 4
  | _, _ => none

def toy : Curve where
  Pt := Fin 7
  deq := inferInstance
  n := 7
  zero := 0
  add := fun a b => a + b
  neg := fun a => -a
  G := 1
  lift := toyLift
  xmodn := fun k => min k.val (7 - k.val) % 7
  inv := fun a => a ^ 5 % 7
  ser := fun k => List.replicate 31 0 ++ [k.val]

def toyPt (k : Fin 7) : toy.Pt := k

theorem toy_laws : CurveLaws toy where
  n_gt_one := by decide
  add_assoc := by show ∀ a b c : Fin 7, a + b + c = a + (b + c); decide +kernel
  add_comm := by show ∀ a b : Fin 7, a + b = b + a; decide
  add_zero := by show ∀ a : Fin 7, a + 0 = a; decide
  add_neg := by show ∀ a : Fin 7, a + -a = 0; decide
  order := by
    have h : ∀ a : Fin 7, smul toy 7 (toyPt a) = toyPt 0 := by decide +kernel
    exact h
  inv_mul := by
    intro a h0 h7
    have h7' : a < 7 := h7
    have : a = 1 ∨ a = 2 ∨ a = 3 ∨ a = 4 ∨ a = 5 ∨ a = 6 := by omega
    rcases this with rfl | rfl | rfl | rfl | rfl | rfl <;> decide
  lift_x := by
    intro r b R _ h
    match r, b, h with
    | 1, false, h | 1, true, h | 2, false, h | 2, true, h | 3, false, h | 3, true, h =>
      cases h; decide
  lift_neg := by
    intro r b
    match r, b with
    | 0, true | 0, false => rfl
    | 1, true | 1, false => rfl
    | 2, true | 2, false => rfl
    | 3, true | 3, false => rfl
    | _ + 4, true | _ + 4, false => rfl

/-- the hypotheses of the headline theorem are satisfiable, and on the toy group both paths do
recover keys: low s (s = 2 ≤ 3) and high s (s = 5 > 3, normalised to 2 with the parity flipped) -/
example : k256Core toy 3 2 2 0 = some (toyPt 4) ∧ secpCore toy 3 2 2 0 = some (toyPt 4) := by decide
example : k256Core toy 3 2 5 1 = some (toyPt 4) ∧ secpCore toy 3 2 5 1 = some (toyPt 4) := by decide
/-- the recovered key is the identity (s R = z G): both reject -/
example : k256Core toy 2 1 2 0 = none ∧ secpCore toy 2 1 2 0 = none := by decide
/-- x = 4 is not on the toy curve; r = 7 is out of range -/
example : k256Core toy 3 4 2 0 = none ∧ secpCore toy 3 7 2 0 = none := by decide
example : k256Core toy 3 2 5 1 = secpCore toy 3 2 5 1 := k256_core_eq_secp_core toy toy_laws 3 2 5 1 (by decide)

/-- `oracle_model_sound`'s hypotheses are satisfiable for the real order N -/
def unitCurve : Curve where
  Pt := Unit
  deq := inferInstance
  n := N
  zero := ()
  add := fun _ _ => ()
  neg := fun _ => ()
  G := ()
  lift := fun r _ => if liftable r then some () else none
  xmodn := fun _ => 0
  inv := fun _ => 0
  ser := fun _ => []
example : unitCurve.n = N ∧ ∀ r b, unitCurve.lift r b = none ↔ liftable r = false := by
  refine ⟨rfl, fun r b => ?_⟩
  show (if liftable r then some () else none) = none ↔ _
  cases liftable r <;> simp

/-- wrapper-level examples on concrete bytes: a `v` word of 29 fails the gate; 27 passes it -/
example : vGate (rightPad 128 (List.replicate 63 0 ++ [29])) = false := by decide
example : vGate (rightPad 128 (List.replicate 63 0 ++ [27])) = true := by decide
/-- the KZG gate hypothesis is satisfiable: wrong length -/
example : kzgRun (fun _ _ _ _ => true) [1, 2, 3] 50000 = .err .BlobInvalidInputLength := by decide
example : kzgRun (fun _ _ _ _ => true) [1, 2, 3] 49999 = .err .OutOfGas := by decide

/-- the trivial instance of the reduction's hypothesis, and of the full statement -/
example (f : List Nat → Nat → Nat → List Nat → Bool) : KzgBackendsAgreeStatement (libVerify f) (libVerify f) :=
  kzg_backends_agree_partial _ _ (fun _ _ _ _ _ _ _ _ => rfl)

/-! A successful call, evaluated by the kernel: the opening of the zero polynomial (commitment and
proof = point at infinity `c0 00..00`, z = y = 0) under the versioned hash `010657f3..4014` of that
commitment. It checks the model's SHA-256 on a 48-byte message against an independently computed
digest, and is an instance of the hypothesis of `kzg_success_shape_partial`. -/
def infCommitment : List Nat := 0xc0 :: List.replicate 47 0
def zeroOpening : List Nat :=
  [0x01, 0x06, 0x57, 0xf3, 0x75, 0x54, 0xc7, 0x81, 0x40, 0x2a, 0x22, 0x91, 0x7d, 0xee, 0x2f, 0x75,
   0xde, 0xf7, 0xab, 0x96, 0x6d, 0x7b, 0x77, 0x09, 0x05, 0x39, 0x8e, 0xba, 0x3c, 0x44, 0x40, 0x14]
  ++ List.replicate 64 0 ++ infCommitment ++ infCommitment
example : kzgRun (libVerify (fun _ _ _ _ => true)) zeroOpening 50000 = .ok 50000 returnValue := by
  decide +kernel

end Revm.Props.C24
