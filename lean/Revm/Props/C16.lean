import Revm.Proofs.BundleChangeset
/-! C16 — bundle changesets turn the pre-state into the post-state: after any commits and merges, `to_plain_state` of
the bundle, applied to the plain state before the history, gives the plain state after it, and nothing panics.
Model `Revm.Model.Bundle`, spec `Revm.Spec.Bundle`. Histories are those the EVM can commit (`reachHistory`, `EvmState`
and account storages being hash maps); the database agrees with a plain state keeping no storage under absent accounts
(`plainWF`; it cannot be dropped: `changeset_needs_wellformed_db_counterexample`).
Proved in full, destroy / re-create / destroy-again inside one merge group included, for a bundle built by a fresh
`State`. Excluded by the statement and false of the code: a bundle started by `take_bundle` on a continuing `State`
(F3, `take_bundle_counterexample`). -/
namespace Revm.Props.C16
open Revm.Model.Bundle Revm.Spec.Bundle Revm.Proofs.Bundle

/-- the full statement of C16 (see `Spec/Bundle.lean`) -/
def FullStatement : Prop := ChangesetCorrectStatement

/-- C16, headline (all databases, all EVM-reachable histories, all merge schedules, both state-clear
settings, both `OriginalValuesKnown` settings; bundle built by a fresh `State` from an empty bundle) -/
theorem changeset_correct : FullStatement := changeset_correct_proof

/-- the hypotheses of `changeset_correct` are satisfiable by a non-trivial case: contract 1 with slot 1 = 7,
destroyed and re-created (writing slot 1) inside one merge group -/
example : dbMatches Wit.f1db Wit.f1p0 ∧ plainWF Wit.f1p0 ∧ reachHistory true Wit.f1p0 Wit.f1h = true := by
  refine ⟨fun a => ?_, fun a ha k => ?_, by decide +kernel⟩
  · by_cases h : a = 1
    · subst h; rfl
    · have h' : ¬ 1 = a := fun hh => h hh.symm
      simp [Wit.f1db, Wit.f1p0, BMap.get, Plain.acct, List.find?, h']
  · by_cases h : a = 1
    · subst h; simp [Wit.f1p0, Plain.acct] at ha
    · have h' : ¬ 1 = a := fun hh => h hh.symm
      simp [Wit.f1p0, Plain.slot, List.find?, h']

/-- the per-address merge lemma behind the headline: whenever a bundle account satisfies the A.3 invariant
w.r.t. (pre-bundle → last merge) and the accumulated transition satisfies the transition invariant w.r.t.
(last merge → now), `update_and_create_revert` does not panic, the new bundle account satisfies the A.3
invariant w.r.t. (pre-bundle → now), and the recorded revert leads from now back to the last merge -/
theorem invariant_preserved_by_merge (b? : Option BAcct) (t : Transition) (c : CacheAcct) (Pi : Option Info)
    (Ps : Nat → Nat) (Mi : Option Info) (Ms : Nat → Nat) (Ri : Option Info) (Rs : Nat → Nat)
    (hb : BInv b? t.prevStatus Pi Ps Mi Ms) (hm : Facts t.prevStatus Mi Ms)
    (ht : TInv t c Mi Ms Rs) (hc : CInv c Ri Rs) :
    ∃ b?' rev, oneAcct b? t = some (b?', rev) ∧ BInv b?' c.status Pi Ps Ri Rs ∧
      RevSem rev t.prevStatus Ps Mi Ms Ri Rs :=
  merge_acct hb hm ht hc

/-- the accumulation law behind the headline: one committed account (any EVM-possible one) keeps the cache
invariant and the transition invariant, through `apply_account_state` and `TransitionAccount::update` -/
theorem invariant_preserved_by_commit (sc : Bool) (c : CacheAcct) (t? : Option Transition) (ms : Status)
    (Mi : Option Info) (Ms : Nat → Nat) (Ri : Option Info) (Rs : Nat → Nat) (ea : EvmAcct)
    (hc : CInv c Ri Rs) (hg : GInv t? c ms Mi Ms Ri Rs) (he : ea.touched = true → EvOk Ri Rs ea) :
    ∃ c' tr, applyAccountState sc c ea = some (c', tr) ∧
      CInv c' (evInfo sc Ri ea) (evSlots sc Rs ea) ∧
      GInv (combine t? tr) c' ms Mi Ms (evInfo sc Ri ea) (evSlots sc Rs ea) :=
  apply_event sc c t? ms Mi Ms Ri Rs ea hc hg he

/-- the `plainWF` hypothesis is needed: with storage kept under an absent address, a post-EIP-161 touch of
that address wipes it in the reference state but produces no transition (`touch_empty_eip161` on
`LoadedNotExisting`), so the changeset leaves slot (1,1) = 7 where the post-state has 0 -/
theorem changeset_needs_wellformed_db_counterexample :
    let p0 : Plain := { accts := [], stor := [(1, 1, 7)] }
    let h : List Group := [[[(1, Wit.ea 0 0 0 false false [])]]]
    reachHistory true p0 h = true ∧
    (Wit.runLast { db := [], sc := true } p0 h).map (fun r =>
      ((applyChangeset (toPlainState r.1.bundle false) p0).slot 1 1, r.2.slot 1 1)) = some (7, 0) := by
  decide +kernel

/-- storage row of `to_plain_state` (wipe flag + listed slots) maps the pre-bundle slots of the account
to its current slots, for `OriginalValuesKnown::Yes` and `No`, given the A.3 storage invariant -/
theorem changeset_storage_row_correct (acc : BAcct) (known : Bool) (p c : Nat → Nat)
    (h : StorageInv acc p c) (k : Nat) :
    applyRow acc.status.wasDestroyed (acc.plainStorage known) p k = c k :=
  storage_row_correct acc known p c h k

/-- when `to_plain_state` emits no storage row for an account, its slots did not change -/
theorem changeset_no_row_unchanged (acc : BAcct) (known : Bool) (p c : Nat → Nat) (h : StorageInv acc p c)
    (hrow : ((!(acc.plainStorage known).isEmpty) || acc.status.wasDestroyed) = false) (k : Nat) : c k = p k :=
  no_row_means_unchanged acc known p c h hrow k

/-- account row of `to_plain_state`: emitted value (or, when omitted under `Yes`, the pre-bundle info)
is the current info -/
theorem changeset_account_row_correct (acc : BAcct) (known : Bool) (pInfo cInfo : Option Info)
    (hc : cInfo = acc.info.map Info.withoutCode) (hp : pInfo = acc.origInfo.map Info.withoutCode) :
    (if !known || acc.isInfoChanged then acc.info.map Info.withoutCode else pInfo) = cInfo :=
  account_row_correct acc known pInfo cInfo hc hp

/-- the invariant is satisfiable by a destroyed-and-recreated account with a non-trivial storage -/
example : StorageInv ⟨some ⟨1, 1, 1, true⟩, some ⟨2, 1, 2, false⟩, [(1, ⟨9, 5⟩), (2, ⟨7, 0⟩)], .destroyedChanged⟩
    (fun k => if k = 3 then 8 else 0) (fun k => if k = 1 then 5 else 0) := by
  refine ⟨by unfold WF; decide, fun h => by simp [Status.wasDestroyed] at h, ?_⟩
  intro _ k
  by_cases h1 : k = 1
  · subst h1; simp [BMap.get]
  · by_cases h2 : k = 2
    · subst h2; simp [BMap.get]
    · have h1' : ¬ 1 = k := fun h => h1 h.symm
      have h2' : ¬ 2 = k := fun h => h2 h.symm
      simp [BMap.get, h1, h1', h2']

/-- `update_and_create_revert` panics exactly on the listed (bundle status, transition status) pairs -/
theorem update_panics_iff (b : BAcct) (t : Transition) :
    updateAndCreateRevert b t = none ↔ panicPair b.status t.status = true := by
  unfold updateAndCreateRevert
  cases hb : b.status <;> cases ht : t.status <;>
    simp [panicPair, newSelfdestructedFromBundle, hb, Option.map]
  -- `DestroyedChanged` onto `DestroyedChanged` branches on the transition's `was_destroyed`
  cases t.wasDestroyed <;> simp

/-- no merge schedule reaches an `unreachable!` arm: if the bundle account has the cache status `s0` of
the last merge (`Changed` only with nonce-or-code) and the cache status moved to `s ≠ s0` through any
sequence of EVM-possible events, the accumulated transition (status `s`) does not panic -/
theorem merge_never_unreachable (s0 : Status) (nc0 : Bool) (es : List Event) (s : Status) (nc : Bool)
    (h0 : s0 = .changed → nc0 = true) (he : evolve s0 nc0 es = some (s, nc)) (hne : s0 ≠ s)
    (b : BAcct) (t : Transition) (hb : b.status = s0) (ht : t.status = s) :
    updateAndCreateRevert b t ≠ none := by
  intro hp
  have hinv := inv_evolve s0 s0 nc0 es s nc (inv_refl s0 nc0 h0) he
  have hr : reach s0 s = true := by
    simp only [inv, Bool.and_eq_true] at hinv; exact hinv.1
  have := (update_panics_iff b t).mp hp
  rw [hb, ht, reach_no_panic s0 s hr hne] at this
  exact absurd this (by decide)

/-- the hypotheses of `merge_never_unreachable` are satisfiable:
Loaded contract, destroyed, re-created, destroyed again -/
example : evolve .loaded true [.selfdestruct, .create true, .change true, .selfdestruct] = some (.destroyedAgain, false) := by
  decide +kernel

/-- equal statuses at both ends: only (Destroyed, Destroyed) panics -/
theorem same_status_only_destroyed_panics (s : Status) : panicPair s s = true ↔ s = .destroyed :=
  (by decide +kernel : ∀ s : Status, panicPair s s = true ↔ s = .destroyed) s

/-- no event moves a destroyed status into `Destroyed` except the touch that yields no transition -/
theorem no_transition_into_destroyed_from_destroyed (s : Status) (nc : Bool) (e : Event) (nc' : Bool)
    (hd : s.wasDestroyed = true) (hs : stepStatus s nc e = some (.destroyed, nc')) :
    e = .touchEmptyPost ∧ s = .destroyed :=
  (by decide +kernel : ∀ (s : Status) (nc : Bool) (e : Event), s.wasDestroyed = true →
    ∀ r ∈ stepStatus s nc e, r.1 = .destroyed → e = .touchEmptyPost ∧ s = .destroyed) s nc e hd _ hs rfl

/-- the model satisfies C16 on a destroy / re-create history (both flags): sanity instance -/
theorem changeset_correct_instance :
    (Wit.runLast { db := Wit.f1db, sc := true } Wit.f1p0 Wit.f1h).map (fun r =>
      ((applyChangeset (toPlainState r.1.bundle true) Wit.f1p0).slot 1 1,
       (applyChangeset (toPlainState r.1.bundle false) Wit.f1p0).slot 1 1, r.2.slot 1 1)) = some (5, 5, 5) := by
  decide +kernel

/-- FINDING F3. After `take_bundle` on a continuing `State`, the next bundle inherits the destroyed
status of account 2 and flags `wipe_storage` without listing slot 4: its changeset applied to the state
after bundle A gives slot 4 = 0, the reference post-state has 7 (history is EVM-reachable).
Request lines: corpus/C16/F3-take-bundle-on-continuing-state.bundle.case -/
theorem take_bundle_counterexample :
    reachHistory true Wit.f3p0 (Wit.f3h1 ++ Wit.f3h2) = true ∧
    ((Wit.runLast { db := Wit.f3db, sc := true } Wit.f3p0 Wit.f3h1).bind fun (s1, r1) =>
      (Wit.runLast (Wit.takeBundle s1) r1 Wit.f3h2).map fun (s2, r2) =>
        ((applyChangeset (toPlainState s2.bundle false) r1).slot 2 4, r2.slot 2 4)) = some (0, 7) := by
  decide +kernel

end Revm.Props.C16
