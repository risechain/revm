import Revm.Proofs.Gas
/-! C13 — the gas meter never goes negative and failed charges change nothing.

`Model.Gas` follows crates/interpreter/src/gas.rs operator by operator (release profile: `+=` and `-`
wrap). `Spec.Gas` is the meter over unbounded integers.

Reading used (DESIGN §8): the property holds under *frame accounting* — gas handed back by
`erase_cost` was spent before (`returned ≤ spent`, `FrameOk`), the refund counter stays inside `i64`,
and the counter is non-negative when `set_final_refund` caps it (`Spec.Gas.Admissible`). What the code
does outside these conditions is stated by the `…_counterexample` theorems (the `Gas` API itself does
not enforce them: `erase_cost`, `record_refund` use unchecked wrapping arithmetic and
`set_final_refund` casts a negative counter to a huge `u64`). -/
namespace Revm.Props.C13
open Revm Revm.Model.Gas
open Revm.Spec.Gas (abs Meter Admissible AdmissibleRun)

/-! ## record_cost -/

/-- `record_cost` is the checked charge: with `cost ≤ remaining` it succeeds and takes exactly `cost`
(limit and refund untouched), otherwise it fails and the meter is returned unchanged. -/
theorem record_cost_exact (g : Gas) (c : Nat) (hw : WF g) :
    recordCost g c =
      if c ≤ g.remaining then ({ g with remaining := g.remaining - c }, true) else (g, false) :=
  Proofs.Gas.recordCost_eq g c hw.2.1

theorem record_cost_ok (g : Gas) (c : Nat) (hw : WF g) (h : (recordCost g c).2 = true) :
    (recordCost g c).1.remaining + c = g.remaining ∧ (recordCost g c).1.limit = g.limit ∧
    (recordCost g c).1.refunded = g.refunded := by
  rw [Proofs.Gas.recordCost_flag] at h
  have h : c ≤ g.remaining := by simpa using h
  rw [Proofs.Gas.recordCost_ok g c hw.2.1 h]
  exact ⟨by show g.remaining - c + c = g.remaining; omega, rfl, rfl⟩

/-- it fails exactly when the cost exceeds what remains (no typing hypothesis needed) -/
theorem record_cost_fail_iff (g : Gas) (c : Nat) : (recordCost g c).2 = false ↔ g.remaining < c := by
  rw [Proofs.Gas.recordCost_flag]; simp

theorem record_cost_fail_unchanged (g : Gas) (c : Nat) (h : (recordCost g c).2 = false) :
    (recordCost g c).1 = g := by
  rw [record_cost_fail_iff] at h
  rw [Proofs.Gas.recordCost_fail g c h]

example : WF (new 100) ∧ (recordCost (new 100) 30).2 = true ∧ (recordCost (new 100) 30).1.remaining = 70 := by decide
example : (recordCost (new 100) 101).2 = false ∧ (recordCost (new 100) 101).1 = new 100 := by decide

/-! ## spent = limit − remaining, remaining ≤ limit -/

/-- `spent()` is `limit − remaining` (no wrap) whenever `remaining ≤ limit` -/
theorem spent_eq (g : Gas) (hw : WF g) (hi : MeterInv g) :
    spent g = g.limit - g.remaining ∧ spent g + g.remaining = g.limit := by
  have h := Proofs.Gas.spent_eq g hw.1 hi
  unfold MeterInv at hi
  exact ⟨h, by rw [h]; omega⟩

example : WF (recordCost (new 100) 30).1 ∧ MeterInv (recordCost (new 100) 30).1 ∧ spent (recordCost (new 100) 30).1 = 30 := by decide

/-- outside the invariant `spent()` wraps: `limit = 10`, `remaining = 11` reports 2^64 − 1 spent -/
theorem spent_wraps_counterexample :
    WF { limit := 10, remaining := 11, refunded := 0 } ∧
    spent { limit := 10, remaining := 11, refunded := 0 } = 18446744073709551615 := by decide

theorem step_limit (g : Gas) (op : Op) : (step g op).1.limit = g.limit := Proofs.Gas.step_limit g op

/-- every operation maps u64/u64/i64 values to u64/u64/i64 values (the model never leaves the machine
ranges, so wrap-around is the only way the numbers can go wrong) -/
theorem step_wf (g : Gas) (op : Op) (hw : WF g) (ht : op.typed) : WF (step g op).1 :=
  Proofs.Gas.step_WF g op hw ht

/-- `remaining ≤ limit` is preserved by `record_cost` (success or failure), `spend_all`, `set_spent`,
`record_refund`, `set_refund`, `set_final_refund` unconditionally, and by `erase_cost r` when
`r ≤ spent` (`FrameOk`) -/
theorem step_preserves_inv (g : Gas) (op : Op) (hw : WF g) (hi : MeterInv g) (hf : FrameOk g op) :
    MeterInv (step g op).1 := Proofs.Gas.step_Inv g op hw.1 hi hf

example : WF (newSpent 100) ∧ MeterInv (newSpent 100) ∧ FrameOk (newSpent 100) (.eraseCost 100) := by decide

/-- under frame accounting `erase_cost` adds exactly the returned gas -/
theorem erase_cost_exact (g : Gas) (r : Nat) (hw : WF g) (hi : MeterInv g) (h : r ≤ spent g) :
    eraseCost g r = { g with remaining := g.remaining + r } ∧ MeterInv (eraseCost g r) :=
  Proofs.Gas.eraseCost_exact g r hw.1 hi h

/-- OUTSIDE frame accounting (`returned > spent`) the invariant is lost: on a fresh meter with limit
10, `erase_cost(1)` gives `remaining = 11 > limit` and `spent()` wraps to 2^64 − 1.
Request lines: `begin gas new a` / `gas erase_cost 1`. -/
theorem erase_cost_counterexample :
    WF (new 10) ∧ MeterInv (new 10) ∧ ¬ FrameOk (new 10) (.eraseCost 1) ∧
    (eraseCost (new 10) 1).remaining = 11 ∧ ¬ MeterInv (eraseCost (new 10) 1) ∧
    spent (eraseCost (new 10) 1) = 18446744073709551615 := by decide

/-- OUTSIDE frame accounting the `+=` itself wraps: limit 2^64 − 1, 5 gas spent, `erase_cost(10)`
leaves 4 gas remaining (handing gas back destroyed the whole balance).
Request lines: `begin gas new ffffffffffffffff` / `gas record_cost 5` / `gas erase_cost a`. -/
theorem erase_cost_wrap_counterexample :
    let g := (recordCost (new 18446744073709551615) 5).1
    WF g ∧ MeterInv g ∧ ¬ FrameOk g (.eraseCost 10) ∧ (eraseCost g 10).remaining = 4 := by decide

theorem set_spent_exact (g : Gas) (s : Nat) (hw : WF g) :
    MeterInv (setSpent g s) ∧ spent (setSpent g s) = min s g.limit ∧ (setSpent g s).limit = g.limit := by
  have hi : MeterInv (setSpent g s) := by show g.limit - s ≤ g.limit; omega
  refine ⟨hi, ?_, rfl⟩
  rw [Proofs.Gas.spent_eq (setSpent g s) hw.1 hi]
  show g.limit - (g.limit - s) = min s g.limit; omega

theorem spend_all_exact (g : Gas) (hw : WF g) :
    (spendAll g).remaining = 0 ∧ spent (spendAll g) = g.limit := by
  have hi : MeterInv (spendAll g) := by show 0 ≤ g.limit; omega
  refine ⟨rfl, ?_⟩
  rw [Proofs.Gas.spent_eq (spendAll g) hw.1 hi]; rfl

/-! ## refunds -/

/-- `record_refund` adds exactly when the sum is an `i64` -/
theorem record_refund_exact (g : Gas) (r : Int) (h0 : I64MIN ≤ g.refunded + r) (h1 : g.refunded + r ≤ I64MAX) :
    recordRefund g r = { g with refunded := g.refunded + r } := by
  unfold recordRefund; rw [Proofs.Gas.i64WrapAdd_exact _ _ h0 h1]

example : I64MIN ≤ (setRefund (new 5) 40).refunded + (-15) ∧ (recordRefund (setRefund (new 5) 40) (-15)).refunded = 25 := by decide

/-- outside that range the release build wraps (a debug build panics): i64::MAX + 1 = i64::MIN.
Request lines: `begin gas new 0` / `gas set_refund 9223372036854775807` / `gas record_refund 1`. -/
theorem record_refund_wrap_counterexample :
    (recordRefund (setRefund (new 0) 9223372036854775807) 1).refunded = -9223372036854775808 := by decide

/-- the refund cap, for a non-negative recorded refund: the final refund is the recorded refund capped
at `spent / 5` (London) or `spent / 2`; limit and remaining are untouched -/
theorem final_refund (g : Gas) (isLondon : Bool) (hw : WF g) (h0 : 0 ≤ g.refunded) :
    (setFinalRefund g isLondon).refunded =
      min g.refunded ((spent g / (if isLondon then 5 else 2) : Nat) : Int) ∧
    (setFinalRefund g isLondon).limit = g.limit ∧ (setFinalRefund g isLondon).remaining = g.remaining :=
  ⟨Proofs.Gas.setFinalRefund_nonneg g isLondon h0 hw.2.2.2, rfl, rfl⟩

example : WF (recordRefund (recordCost (new 100) 60).1 50) ∧ 0 ≤ (recordRefund (recordCost (new 100) 60).1 50).refunded ∧
    (setFinalRefund (recordRefund (recordCost (new 100) 60).1 50) true).refunded = 12 ∧
    (setFinalRefund (recordRefund (recordCost (new 100) 60).1 50) false).refunded = 30 ∧
    (setFinalRefund (recordRefund (recordCost (new 100) 60).1 7) true).refunded = 7 := by decide

/-- whatever the recorded refund was, the final refund is within `0 … spent / q` -/
theorem final_refund_bounds (g : Gas) (isLondon : Bool) :
    0 ≤ (setFinalRefund g isLondon).refunded ∧
    (setFinalRefund g isLondon).refunded ≤ ((spent g / (if isLondon then 5 else 2) : Nat) : Int) :=
  Proofs.Gas.setFinalRefund_bounds g isLondon

/-- negative recorded refund, characterised: `refunded as u64 ≥ 2^63` always loses the `min`, so the
final refund is the FULL cap `spent / q` (not the recorded value, not 0) -/
theorem final_refund_negative (g : Gas) (isLondon : Bool) (hw : WF g) (h0 : g.refunded < 0) :
    (setFinalRefund g isLondon).refunded = ((spent g / (if isLondon then 5 else 2) : Nat) : Int) :=
  Proofs.Gas.setFinalRefund_neg g isLondon h0 hw.2.2.1

/-- the literal property text ("the final refund is the recorded refund capped at spent/5") fails for a
negative counter: limit 100 all spent, recorded refund −1, London: the final refund is 20, not
`min (−1) 20 = −1`. Excluded by the reading (DESIGN §8).
Request lines: `begin gas new 64` / `gas spend_all` / `gas record_refund -1` / `gas set_final_refund 1`. -/
theorem final_refund_negative_counterexample :
    let g := recordRefund (spendAll (new 100)) (-1)
    WF g ∧ MeterInv g ∧ g.refunded = -1 ∧ (setFinalRefund g true).refunded = 20 ∧
    (setFinalRefund g true).refunded ≠ min g.refunded ((spent g / 5 : Nat) : Int) := by decide

/-- `spent_sub_refunded` is `spent − refunded`, floored at 0, for a non-negative refund -/
theorem spent_sub_refunded_eq (g : Gas) (hw : WF g) (h0 : 0 ≤ g.refunded) :
    spentSubRefunded g = spent g - g.refunded.toNat :=
  Proofs.Gas.spentSubRefunded_nonneg g h0 hw.2.2.2

example : WF (recordRefund (spendAll (new 100)) 30) ∧ spentSubRefunded (recordRefund (spendAll (new 100)) 30) = 70 := by decide

/-- for a negative refund the cast makes it 0 instead of `spent + |refunded|`.
Request lines: `begin gas new 64` / `gas spend_all` / `gas record_refund -10`. -/
theorem spent_sub_refunded_negative_counterexample :
    spentSubRefunded (recordRefund (spendAll (new 100)) (-10)) = 0 := by decide

/-- `remaining_63_of_64_parts` never wraps -/
theorem remaining_63_of_64 (g : Gas) (hw : WF g) :
    remaining63of64 g = g.remaining - g.remaining / 64 ∧ remaining63of64 g ≤ g.remaining := by
  have h := Proofs.Gas.remaining63of64_eq g hw.2.1
  exact ⟨h, by rw [h]; omega⟩

/-! ## whole sequences -/

/-- For every sequence of operations with typed arguments that respects frame accounting
(`FrameOkRun`: each `erase_cost r` has `r ≤ spent` in the state it is applied to — nothing is assumed
about refunds), after EVERY prefix of the sequence: the values are still u64/u64/i64, remaining gas
does not exceed the limit, the limit is the initial one, and `spent()` is `limit − remaining`
without wrap. -/
theorem run_never_exceeds_limit (g : Gas) (ops : List Op) (hw : WF g) (hi : MeterInv g)
    (hf : FrameOkRun g ops) (xs ys : List Op) (hx : ops = xs ++ ys) :
    WF (run g xs).1 ∧ (run g xs).1.remaining ≤ (run g xs).1.limit ∧ (run g xs).1.limit = g.limit ∧
    spent (run g xs).1 + (run g xs).1.remaining = g.limit := by
  subst hx
  have h := Proofs.Gas.run_invariant g xs hw hi (Proofs.Gas.frameOkRun_prefix g xs ys hf)
  have hs := spent_eq _ h.1 h.2.1
  exact ⟨h.1, h.2.1, h.2.2, by rw [hs.2, h.2.2]⟩

/-- Under the same hypothesis the gas columns of the code ARE the unbounded meter: limit, remaining and
the success flag of every `record_cost` equal those of `Spec.Gas.run` (where a charge succeeds iff
`cost ≤ remaining` and then takes exactly `cost`, a failed charge changes nothing, returned gas is
added). Refunds may be arbitrary here (even wrapping): the gas columns do not depend on them. -/
theorem run_gas_refines_spec (g : Gas) (ops : List Op) (hw : WF g) (hi : MeterInv g)
    (hf : FrameOkRun g ops) :
    (run g ops).1.limit = (Spec.Gas.run (abs g) ops).1.limit ∧
    (run g ops).1.remaining = (Spec.Gas.run (abs g) ops).1.remaining ∧
    (run g ops).2 = (Spec.Gas.run (abs g) ops).2 := by
  have h := Proofs.Gas.run_gas_refines g (abs g) ops ⟨rfl, rfl⟩ hw hi hf
  exact ⟨h.1.1.symm, h.1.2.symm, h.2⟩

/-- Full refinement: under `AdmissibleRun` (frame accounting on gas AND on the refund counter: sums
stay `i64`, counter non-negative when capped) the code's meter equals the unbounded meter in every
field and every returned flag, for every sequence; and such a sequence is in particular `FrameOkRun`. -/
theorem run_refines_spec (g : Gas) (ops : List Op) (hw : WF g) (hi : MeterInv g)
    (ha : AdmissibleRun (abs g) ops) :
    abs (run g ops).1 = (Spec.Gas.run (abs g) ops).1 ∧ (run g ops).2 = (Spec.Gas.run (abs g) ops).2 ∧
    FrameOkRun g ops := Proofs.Gas.run_refines g ops hw hi ha

/-- the shape of a real frame: charge, charge too much (fails), sub-call returns gas, refunds (one
negative), final refund. The hypotheses of the sequence theorems hold and the run is non-trivial. -/
def sampleOps : List Op :=
  [.recordCost 21000, .recordCost 1000000, .recordCost 30000, .eraseCost 12000, .recordRefund 19200,
   .recordRefund (-4800), .recordRefund 4800, .setFinalRefund true]

example : WF (new 100000) ∧ MeterInv (new 100000) ∧ FrameOkRun (new 100000) sampleOps ∧
    AdmissibleRun (abs (new 100000)) sampleOps := by decide
example : run (new 100000) sampleOps =
    ({ limit := 100000, remaining := 61000, refunded := 7800 }, [true, false, true, true, true, true, true, true]) := by decide

end Revm.Props.C13
