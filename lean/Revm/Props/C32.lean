import Revm.Proofs.Blob
/-! C32 — blob fee functions match the EIP-4844 integer definitions.

`Model.Blob` follows the **repaired** `utilities.rs` (commit "fix: blob fee helpers wrapped silently
on large excess blob gas": U256 intermediates with `checked_add` / `checked_mul`, saturation to
`u128::MAX` / `u64::MAX`). `Spec.Blob` is the EIP-4844 Python over unbounded integers.

The property now holds at full strength, for all `u64` arguments and with no intermediate-overflow
hypothesis: the price is the EIP value clamped to `u128` (so it is the EIP value whenever that fits
in 128 bits, and `u128::MAX` — never a wrapped residue — otherwise), and the excess is
`max(0, a+b−t)` clamped to `u64`. The witnesses of the former finding are kept as regression
theorems (and in `corpus/C32`). -/
namespace Revm.Props.C32
open Revm Revm.Model.Blob Revm.Proofs.Blob

/-- the property as written, for the price function -/
def FullStatementFakeExp : Prop :=
  ∀ f n d r, f < U64 → n < U64 → d < U64 → d ≠ 0 → Spec.Blob.FakeExp f n d r → r < 2^128 →
    ∃ fuel, fakeExponential fuel f n d = some (.ok r)
/-- the property as written, for the excess function (result clamped to the `u64` return type) -/
def FullStatementExcess : Prop :=
  ∀ a b t, a < U64 → b < U64 → t < U64 →
    (calcExcessBlobGas a b t : Int) = min (max 0 ((a : Int) + b - t)) (2^64 - 1)

/-! ## the specification is a total function -/

/-- the EIP-4844 loop over unbounded integers terminates for all arguments with a unique value -/
theorem fake_exp_spec_total (f n d : Nat) :
    ∃ r, Spec.Blob.FakeExp f n d r ∧ ∀ r', Spec.Blob.FakeExp f n d r' → r' = r := by
  obtain ⟨r, hr⟩ := fakeExp_total f n d
  exact ⟨r, hr, fun r' h' => fakeExp_unique f n d r' r h' hr⟩

/-! ## price -/

/-- for **all** `u64` factor, numerator and non-zero denominator: `fake_exponential` returns
`min r (2^128 − 1)` where `r` is the EIP value over unbounded integers (for every sufficiently large
fuel; the answer does not depend on the fuel, `fake_exp_fuel_independent`) -/
theorem fake_exp_eq (f n d r : Nat) (hf : f < U64) (hn : n < U64) (hd : d < U64) (hd0 : d ≠ 0)
    (hr : Spec.Blob.FakeExp f n d r) :
    ∃ fuel0, ∀ fuel, fuel0 ≤ fuel → fakeExponential fuel f n d = some (.ok (min r (2^128 - 1))) :=
  Proofs.Blob.fake_exp_eq f n d r hf hn hd hd0 hr

example : Spec.Blob.FakeExp 1 192204553 3338477 10079296854086811361005191 := ⟨400, cancun_spec_at⟩

/-- whenever the EIP value fits in 128 bits the function returns exactly it -/
theorem fake_exp_exact (f n d r : Nat) (hf : f < U64) (hn : n < U64) (hd : d < U64) (hd0 : d ≠ 0)
    (hr : Spec.Blob.FakeExp f n d r) (hfit : r < 2^128) :
    ∃ fuel0, ∀ fuel, fuel0 ≤ fuel → fakeExponential fuel f n d = some (.ok r) := by
  obtain ⟨fuel0, h⟩ := Proofs.Blob.fake_exp_eq f n d r hf hn hd hd0 hr
  refine ⟨fuel0, fun fuel hle => ?_⟩
  rw [h fuel hle]; unfold Spec.Blob.clamp128
  rw [Nat.min_eq_left (by omega)]

example : (10079296854086811361005191 : Nat) < 2^128 := by decide

/-- when it does not fit the function returns `u128::MAX` — never a wrapped value -/
theorem fake_exp_saturates (f n d r : Nat) (hf : f < U64) (hn : n < U64) (hd : d < U64) (hd0 : d ≠ 0)
    (hr : Spec.Blob.FakeExp f n d r) (hbig : 2^128 ≤ r) :
    ∃ fuel0, ∀ fuel, fuel0 ≤ fuel → fakeExponential fuel f n d = some (.ok (2^128 - 1)) := by
  obtain ⟨fuel0, h⟩ := Proofs.Blob.fake_exp_eq f n d r hf hn hd hd0 hr
  refine ⟨fuel0, fun fuel hle => ?_⟩
  rw [h fuel hle]; unfold Spec.Blob.clamp128
  rw [Nat.min_eq_right (by omega)]

example : Spec.Blob.FakeExp 1 89 1 448904602005332587071412458193989150132 ∧
    2^128 ≤ (448904602005332587071412458193989150132 : Nat) := ⟨⟨400, by decide +kernel⟩, by decide⟩

/-- the property as written holds -/
theorem full_statement_fake_exp : FullStatementFakeExp := by
  intro f n d r hf hn hd hd0 hr hfit
  obtain ⟨fuel0, h⟩ := fake_exp_exact f n d r hf hn hd hd0 hr hfit
  exact ⟨fuel0, h fuel0 (Nat.le_refl _)⟩

/-- with a non-zero denominator the function always returns a value: it never panics (no division
by zero through a wrapped `denominator * i`) and its loop terminates -/
theorem fake_exp_never_panics (f n d : Nat) (hf : f < U64) (hn : n < U64) (hd : d < U64) (hd0 : d ≠ 0) :
    ∃ fuel v, fakeExponential fuel f n d = some (.ok v) ∧ v < 2^128 := by
  obtain ⟨r, hr⟩ := fakeExp_total f n d
  obtain ⟨fuel0, h⟩ := Proofs.Blob.fake_exp_eq f n d r hf hn hd hd0 hr
  refine ⟨fuel0, _, h fuel0 (Nat.le_refl _), ?_⟩
  unfold Spec.Blob.clamp128; omega

/-- the answer does not depend on the fuel given to the model's loop -/
theorem fake_exp_fuel_independent (a b f n d : Nat) (r r' : Res Nat)
    (h : fakeExponential a f n d = some r) (h' : fakeExponential b f n d = some r') : r = r' :=
  model_top_unique a b f n d r r' h h'

example : fakeExponential 400 1 88 1 = some (.ok 165162653699637111792770913913821835905) := small_model_at

/-- a zero denominator panics (`assert_ne!`) -/
theorem fake_exp_zero_denominator (fuel f n : Nat) : fakeExponential fuel f n 0 = some .panic := by
  simp [fakeExponential]

/-- `calc_blob_gasprice(excess, is_prague)` for **every** `u64` excess and both update fractions is the
EIP value clamped to `u128` -/
theorem blob_gasprice_eq (excess : Nat) (p : Bool) (r : Nat) (he : excess < U64)
    (hr : Spec.Blob.FakeExp 1 excess (Spec.Blob.fraction p) r) :
    ∃ fuel0, ∀ fuel, fuel0 ≤ fuel → calcBlobGasprice fuel excess p = some (.ok (min r (2^128 - 1))) := by
  have hU := U64_val
  cases p with
  | false => exact Proofs.Blob.fake_exp_eq 1 excess 3338477 r (by omega) he (by omega) (by omega) hr
  | true => exact Proofs.Blob.fake_exp_eq 1 excess 5007716 r (by omega) he (by omega) (by omega) hr

example : Spec.Blob.FakeExp 1 284284039 (Spec.Blob.fraction true) 4513890120847598646169468 :=
  ⟨400, prague_spec_at⟩

/-- the Spec column printed by the driver (`Spec.fakeExpSat`, unbounded integers with an early exit)
is the clamped EIP value -/
theorem spec_column_eq (fuel f n d v r : Nat) (hd0 : d ≠ 0)
    (h : Spec.Blob.fakeExpSat fuel f n d = some v) (hr : Spec.Blob.FakeExp f n d r) :
    v = min r (2^128 - 1) :=
  sat_eq_clamp fuel f n d v r hd0 h hr

example : Spec.Blob.fakeExpSat 400 1 18446744073709551615 3338477 = some (2^128 - 1) := by decide +kernel

/-- regression: the witnesses of the former finding (DESIGN section 9 item 7) now give the EIP value -/
theorem fake_exp_regression :
    Spec.Blob.blobGaspriceFuel 400 192204553 false = some 10079296854086811361005191
    ∧ calcBlobGasprice 400 192204553 false = some (.ok 10079296854086811361005191)
    ∧ Spec.Blob.blobGaspriceFuel 400 284284039 true = some 4513890120847598646169468
    ∧ calcBlobGasprice 400 284284039 true = some (.ok 4513890120847598646169468)
    ∧ Spec.Blob.fakeExpFuel 400 1 88 1 = some 165162653699637111792770913913821835905
    ∧ fakeExponential 400 1 88 1 = some (.ok 165162653699637111792770913913821835905)
    ∧ calcBlobGasprice 400 18446744073709551615 false = some (.ok (2^128 - 1)) :=
  ⟨cancun_spec_at, cancun_model_at, prague_spec_at, prague_model_at, small_spec_at, small_model_at, max_model_at⟩

/-! ## excess blob gas -/

/-- for **all** `u64` arguments: `calc_excess_blob_gas = min(max(0, excess + used − target), 2^64 − 1)` -/
theorem excess_eq (a b t : Nat) (ha : a < U64) (hb : b < U64) (ht : t < U64) :
    (calcExcessBlobGas a b t : Int) = min (max 0 ((a : Int) + b - t)) (2^64 - 1) :=
  Proofs.Blob.excess_eq a b t ha hb ht

/-- in particular it is exactly `max(0, excess + used − target)` whenever that fits in a `u64` -/
theorem excess_exact (a b t : Nat) (ha : a < U64) (hb : b < U64) (ht : t < U64)
    (hfit : (a : Int) + b - t < 2^64) :
    (calcExcessBlobGas a b t : Int) = max 0 ((a : Int) + b - t) := by
  rw [Proofs.Blob.excess_eq a b t ha hb ht]
  unfold Spec.Blob.excessBlobGasClamped Spec.Blob.excessBlobGas
  have h64 : ((2:Int)^64) = 18446744073709551616 := by decide
  rw [h64] at hfit ⊢
  omega

example : ((18446744073709551615 : Nat) : Int) + (1 : Nat) - (1 : Nat) < 2^64 := by decide

theorem full_statement_excess : FullStatementExcess :=
  fun a b t ha hb ht => Proofs.Blob.excess_eq a b t ha hb ht

/-- the returned value is a `u64` -/
theorem excess_is_u64 (a b t : Nat) : calcExcessBlobGas a b t < U64 := by
  have hU := U64_val
  unfold calcExcessBlobGas U64_MAX
  by_cases h : (a + b) % U128 - t < U64
  · simp only [h, if_true]
  · simp only [h, if_false]; omega

/-- regression: `calc_excess_blob_gas(2^64−1, 1, 1) = 2^64−1` (was 0), and a sum that does not fit
saturates -/
theorem excess_regression :
    calcExcessBlobGas 18446744073709551615 1 1 = 18446744073709551615
    ∧ calcExcessBlobGas 18446744073709551615 18446744073709551615 0 = 18446744073709551615 := by
  refine ⟨by decide +kernel, by decide +kernel⟩

/-! ## `BlobExcessGasAndPrice` -/

/-- `BlobExcessGasAndPrice::new` stores the excess it was given and the price of `calc_blob_gasprice` -/
theorem blob_new_eq (fuel e : Nat) (p : Bool) (r : Nat)
    (h : calcBlobGasprice fuel e p = some (.ok r)) :
    BlobExcessGasAndPrice.new fuel e p = some (.ok ⟨e, r⟩) := by
  simp [BlobExcessGasAndPrice.new, h]

example : calcBlobGasprice 400 0 true = some (.ok 1) := by decide +kernel

/-- `from_parent_and_target` composes the two functions -/
theorem blob_from_parent_eq (fuel a b t : Nat) (p : Bool) :
    BlobExcessGasAndPrice.fromParentAndTarget fuel a b t p
      = BlobExcessGasAndPrice.new fuel (calcExcessBlobGas a b t) p := rfl

end Revm.Props.C32
