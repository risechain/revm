import Revm.Proofs.Collision
import Revm.Props.C20
/-! C21 — contract creation collides with any address that already has code, a nonce or storage. `makeCreateFrame` is
what create transactions, CREATE, CREATE2 and EOF creation share once the address is known: `db.has_storage(address)`
on the database (any stack of C20's wrappers), then `create_account_checkpoint`. `make_create_frame` drops the
`is_cold` of `load_account` and asks `has_storage` unconditionally; `makeCreateFrameJ` / `makeCreateFrameW` take the
target's journal entry, however it got there (`Warmth`). Proved in full for code or nonce; for storage only where the
database answers `has_storage` faithfully (`HsFaithful`), false of `CacheDB`, `State`, `DatabaseComponents` (C20,
situation 1): creation proceeds, `create_collision_storage_behind_wrappers_counterexample`, witnessed by the
correspondence stream on create transactions, CREATE and CREATE2 (not EOF creation), the target warm in each way. -/
namespace Revm.Props.C21
open Revm Revm.Model.Db Revm.Model.Collision Revm.Proofs.Collision

/-- code or non-zero nonce at the target: `CreateCollision`, all gas passed is consumed, target
unchanged, whatever database stack the EVM runs on -/
theorem create_collision_code_or_nonce (db : Db) (a : Addr) (t : Target) (value gasLimit : Nat) (sd : Bool)
    (h : t.codeHash ≠ KECCAK_EMPTY ∨ t.nonce ≠ 0) :
    makeCreateFrame db a t value gasLimit sd = ⟨.collision, t, some gasLimit⟩ := by
  rw [makeCreateFrame_eq]
  exact cac_collides ((collides_iff t _).mpr (h.elim Or.inl fun h => Or.inr (Or.inl h))) _ _ _

/-- the property under the explicit hypothesis that the database layer answers `has_storage`
faithfully: code, nonce or non-empty storage ⇒ collision, gas consumed, target unchanged -/
theorem create_collision_partial (db : Db) (a : Addr) (t : Target) (value gasLimit : Nat) (sd : Bool)
    (hf : HsFaithful db a)
    (h : t.codeHash ≠ KECCAK_EMPTY ∨ t.nonce ≠ 0 ∨ ∃ k, db.view.storage a k ≠ 0) :
    (makeCreateFrame db a t value gasLimit sd).result = .collision ∧
    (makeCreateFrame db a t value gasLimit sd).gasLost = some gasLimit ∧
    (makeCreateFrame db a t value gasLimit sd).target = t := by
  have : makeCreateFrame db a t value gasLimit sd = ⟨.collision, t, some gasLimit⟩ := by
    rcases h with h | h | h
    · exact create_collision_code_or_nonce db a t value gasLimit sd (Or.inl h)
    · exact create_collision_code_or_nonce db a t value gasLimit sd (Or.inr h)
    · exact collision_of_storage db a t value gasLimit sd hf h
  rw [this]; exact ⟨rfl, rfl, rfl⟩

/-- the layers that are faithful: a database implementing `has_storage`, `WrapDatabaseRef` over it,
and `&mut` / `Box` over anything faithful -/
theorem has_storage_faithful_layers (b : Base) (hb : HonestBase b) (a : Addr) :
    HsFaithful (.base b) a ∧ HsFaithful (.wrapRef (.base b)) a ∧ HsFaithful (.fwd (.base b)) a ∧
    HsFaithful (.fwd (.fwd (.base b))) a :=
  ⟨faithful_base b hb a, faithful_base b hb a, faithful_fwd _ a (faithful_base b hb a),
   faithful_fwd _ a (faithful_fwd _ a (faithful_base b hb a))⟩

/-! ## the decision does not depend on how (or whether) the target is already warm -/

/-- Whichever way `w` the target entered the journal before the creation reaches it (first touch; tx access list with any list of storage keys; BALANCE / EXTCODESIZE; a CALL that touched
it; an earlier failed CREATE2 with the same salt; a reverted sub-call that left it cold in the map):
the result (collision / overflow / frame) and the gas taken from the creator are those of the cold
first touch, and a collision leaves the target exactly as the journal had it. -/
theorem collision_independent_of_warmth (db : Db) (a : Addr) (w : Warmth) (value gasLimit : Nat) (sd : Bool) :
    (makeCreateFrameW db a w value gasLimit sd).result = (makeCreateFrameW db a .coldFirstTouch value gasLimit sd).result ∧
    (makeCreateFrameW db a w value gasLimit sd).gasLost = (makeCreateFrameW db a .coldFirstTouch value gasLimit sd).gasLost ∧
    ((makeCreateFrameW db a w value gasLimit sd).result = .collision →
      (makeCreateFrameW db a w value gasLimit sd).target = loadedTarget db a w) := by
  rw [makeCreateFrameW_eq, makeCreateFrameW_eq]
  have hsame : SameInfo (loadedTarget db a w) (loadedTarget db a .coldFirstTouch) := by
    obtain ⟨h1, h2, h3⟩ := loadedTarget_sameInfo db a w
    obtain ⟨g1, g2, g3⟩ := loadedTarget_sameInfo db a .coldFirstTouch
    exact ⟨h1.trans g1.symm, h2.trans g2.symm, h3.trans g3.symm⟩
  obtain ⟨hr, hg⟩ := cac_congr _ _ hsame (hsOf db a) value gasLimit sd
  exact ⟨hr, hg, cac_collision_target _ _ _ _ _⟩

/-- Journal entries for the target holding the same account info give the same decision and gas lost, whatever their
`cold` flags, their loaded slots and membership in `warm_preloaded_addresses` (against no entry at all:
`collision_no_entry`): only the account's code hash, nonce, balance and the database's `has_storage` answer are read. -/
theorem collision_reads_only_info_and_has_storage (db : Db) (a : Addr) (j1 j2 : JAccount) (p1 p2 : Bool)
    (value gasLimit : Nat) (sd : Bool) (h : SameInfo j1.target j2.target) :
    (makeCreateFrameJ db a (some j1) p1 value gasLimit sd).result = (makeCreateFrameJ db a (some j2) p2 value gasLimit sd).result ∧
    (makeCreateFrameJ db a (some j1) p1 value gasLimit sd).gasLost = (makeCreateFrameJ db a (some j2) p2 value gasLimit sd).gasLost := by
  rw [makeCreateFrameJ_some, makeCreateFrameJ_some]
  exact cac_congr _ _ h _ _ _ _

theorem collision_no_entry (db : Db) (a : Addr) (j : JAccount) (p1 p2 : Bool)
    (value gasLimit : Nat) (sd : Bool) (h : SameInfo j.target (infoTarget db a)) :
    (makeCreateFrameJ db a (some j) p1 value gasLimit sd).result = (makeCreateFrameJ db a none p2 value gasLimit sd).result ∧
    (makeCreateFrameJ db a (some j) p1 value gasLimit sd).gasLost = (makeCreateFrameJ db a none p2 value gasLimit sd).gasLost := by
  rw [makeCreateFrameJ_some, makeCreateFrameJ_none]
  exact cac_congr _ _ h _ _ _ _

/-- the property for a target that is already warm, under the same hypothesis as
`create_collision_partial` (the database answers `has_storage` faithfully): code, nonce or
non-empty storage ⇒ collision, the whole gas passed consumed, target as the journal had it -/
theorem create_collision_warm_partial (db : Db) (a : Addr) (w : Warmth) (value gasLimit : Nat) (sd : Bool)
    (hf : HsFaithful db a)
    (h : (loadedTarget db a w).codeHash ≠ KECCAK_EMPTY ∨ (loadedTarget db a w).nonce ≠ 0 ∨ ∃ k, db.view.storage a k ≠ 0) :
    (makeCreateFrameW db a w value gasLimit sd).result = .collision ∧
    (makeCreateFrameW db a w value gasLimit sd).gasLost = some gasLimit ∧
    (makeCreateFrameW db a w value gasLimit sd).target = loadedTarget db a w := by
  rw [makeCreateFrameW_eq, ← makeCreateFrame_eq]
  exact create_collision_partial db a (loadedTarget db a w) value gasLimit sd hf h

/-! ## the decision does not depend on the `LoadedAsNotExisting` flag of the journal's account -/

/-- `create_account_checkpoint` tests `info.code_hash`, `info.nonce` and `address_has_storage` of the
journal's account and never its `LoadedAsNotExisting` status flag: setting the flag to either value
gives the same outcome, and the flag itself is carried through
the creation unchanged (it is sticky for the rest of the transaction), so it says nothing about
whether the address is vacant at the time of the creation. -/
theorem collision_independent_of_not_existing_flag (db : Db) (a : Addr) (j : JAccount) (f : Bool) (preloaded : Bool)
    (value gasLimit : Nat) (sd : Bool) (hs : Bool) :
    makeCreateFrameJ db a (some { j with notExisting := f }) preloaded value gasLimit sd =
      makeCreateFrameJ db a (some j) preloaded value gasLimit sd ∧
    (createAccountCheckpointJ { j with notExisting := f } hs value gasLimit sd).1 =
      (createAccountCheckpointJ j hs value gasLimit sd).1 ∧
    (createAccountCheckpointJ { j with notExisting := f } hs value gasLimit sd).2.notExisting = f :=
  ⟨by rw [makeCreateFrameJ_some, makeCreateFrameJ_some], rfl, rfl⟩

/-- A second creation onto the same address in one transaction collides (forks with EIP-161, i.e.
every fork that has CREATE2): if a creation on the journal account `j` made a frame, then whatever
code its init code deployed (`ch`, also none), whatever happened to the balance since (value
transfers, SELFDESTRUCT of the new contract, before or after Cancun), whatever the
`LoadedAsNotExisting` flag of the first load (`f`), and whatever the database says, the next
creation onto it is a `CreateCollision` that consumes the gas passed and leaves the account as it is. -/
theorem second_creation_collides (db db' : Db) (a : Addr) (j : JAccount) (value gasLimit : Nat)
    (h1 : (makeCreateFrame db a j.target value gasLimit true).result = .frame)
    (ch bal : Nat) (f : Bool) (value' gasLimit' : Nat) (preloaded : Bool) :
    let o1 := makeCreateFrame db a j.target value gasLimit true
    let t2 : Target := { o1.target with codeHash := ch, balance := bal }
    makeCreateFrameJ db' a (some { j with target := t2, notExisting := f }) preloaded value' gasLimit' true =
      ⟨.collision, t2, some gasLimit'⟩ := by
  intro o1 t2
  refine makeCreateFrameJ_nonce db' a _ ?_ preloaded value' gasLimit' true
  show o1.target.nonce ≠ 0
  rw [makeCreateFrame_frame_nonce db a j.target value gasLimit h1]
  exact Nat.one_ne_zero

/-- the histories of the correspondence grid: created earlier (alive or self-destructed since) ⇒ the
creation in question collides, gas consumed, journal account unchanged -/
theorem created_earlier_collides (db : Db) (a : Addr) (ch : Nat) (value gasLimit : Nat) (destroyed : Bool)
    (h1 : (makeCreateFrameH db a (if destroyed then .createdDestroyed ch else .createdAlive ch) value gasLimit true).first = some .frame) :
    let r := makeCreateFrameH db a (if destroyed then .createdDestroyed ch else .createdAlive ch) value gasLimit true
    r.outcome = ⟨.collision, r.entry.target, some gasLimit⟩ := by
  -- in both histories the first creation made a frame, which leaves nonce 1 on the entry: neither
  -- `set_code` nor the later SELFDESTRUCT changes the nonce
  have hn : ∀ db' t, (makeCreateFrame db' a t value gasLimit true).result = .frame →
      (makeCreateFrame db' a t value gasLimit true).target.nonce ≠ 0 := fun db' t h => by
    rw [makeCreateFrame_frame_nonce db' a t value gasLimit h]; exact Nat.one_ne_zero
  cases destroyed
  · simp only [Bool.false_eq_true, if_false, makeCreateFrameH, Option.some.injEq] at h1 ⊢
    rw [if_pos h1]
    exact makeCreateFrameJ_nonce _ a _ (hn _ _ h1) false value gasLimit true
  · simp only [if_true, makeCreateFrameH, Option.some.injEq] at h1 ⊢
    rw [if_pos h1]
    exact makeCreateFrameJ_nonce _ a _ (hn _ _ h1) false value gasLimit true

/-- the converse control: an account with no code and nonce 0 whose database reports no storage —
e.g. one loaded as not existing by BALANCE and then funded by a value CALL — does NOT collide
(whatever its `LoadedAsNotExisting` flag), as long as the endowment does not overflow its balance -/
theorem funded_empty_account_does_not_collide (db : Db) (a : Addr) (j : JAccount) (preloaded : Bool)
    (value gasLimit : Nat) (sd : Bool)
    (hc : j.target.codeHash = KECCAK_EMPTY) (hn : j.target.nonce = 0) (hs : hsOf db a = false)
    (hb : j.target.balance + value < W) :
    (makeCreateFrameJ db a (some j) preloaded value gasLimit sd).result = .frame := by
  rw [makeCreateFrameJ_some, hs]
  exact cac_vacant _ hc hn _ _ _ hb

/-- a database that reports storage for an address whose `basic` is `None`: collision, although the
journal account is `LoadedAsNotExisting` with no code and nonce 0 -/
theorem has_storage_without_account_collides (db : Db) (a : Addr) (j : JAccount) (preloaded : Bool)
    (value gasLimit : Nat) (sd : Bool) (hs : hsOf db a = true) :
    makeCreateFrameJ db a (some j) preloaded value gasLimit sd = ⟨.collision, j.target, some gasLimit⟩ := by
  rw [makeCreateFrameJ_some, hs]
  exact cac_collides ((collides_iff _ true).mpr (Or.inr (Or.inr rfl))) _ _ _

/-- collision happens for no other reason: exactly code, nonce, or the database's `has_storage` -/
theorem collision_iff (t : Target) (hs : Bool) (value gasLimit : Nat) (sd : Bool) :
    (createAccountCheckpoint t hs value gasLimit sd).result = .collision ↔
      (t.codeHash ≠ KECCAK_EMPTY ∨ t.nonce ≠ 0 ∨ hs = true) :=
  Proofs.Collision.collision_iff t hs value gasLimit sd

/-- databases built from a properly implemented one by the crate's wrappers -/
inductive OverHonest : Db → Prop
  | base (b : Base) (h : HonestBase b) : OverHonest (.base b)
  | cache (i : Db) (c : CacheDB) : OverHonest i → OverHonest (.cache i c)
  | state (i : Db) (s : StateDb) : OverHonest i → OverHonest (.state i s)
  | wrapRef (i : Db) : OverHonest i → OverHonest (.wrapRef i)
  | fwd (i : Db) : OverHonest i → OverHonest (.fwd i)
  | components (i : Db) : OverHonest i → OverHonest (.components i)

/-- The property at full strength ("regardless of which of the crate's database layers holds that
storage"). FALSE of the current code, see the counterexamples. -/
def CreateCollisionFullStatement : Prop :=
  ∀ (db : Db), OverHonest db → ∀ (a : Addr) (t : Target) (value gasLimit : Nat) (sd : Bool),
    (t.codeHash ≠ KECCAK_EMPTY ∨ t.nonce ≠ 0 ∨ ∃ k, db.view.storage a k ≠ 0) →
    makeCreateFrame db a t value gasLimit sd = ⟨.collision, t, some gasLimit⟩

open Revm.Props.C20 (exBase exData)

theorem exBase_honest : HonestBase exBase := by
  intro a
  by_cases ha : a = 1
  · subst ha; exact ⟨fun _ => ⟨7, by decide⟩, fun _ => by decide⟩
  · constructor
    · intro h; simp [exBase, ha] at h
    · intro ⟨k, hk⟩; simp [exBase, exData, ha] at hk

/-- an empty account (no code, nonce 0) whose only content is storage slot 7 = 9 -/
def exTarget : Target := { codeHash := KECCAK_EMPTY, nonce := 0, balance := 5 }

example : HsFaithful (.base exBase) 1 := faithful_base exBase exBase_honest 1
example : (makeCreateFrame (.base exBase) 1 exTarget 1 1000 true) = ⟨.collision, exTarget, some 1000⟩ := by decide
example : (makeCreateFrame (.wrapRef (.base exBase)) 1 exTarget 1 1000 true).result = .collision := by decide
example : (makeCreateFrame (.base exBase) 2 ⟨KECCAK_EMPTY, 0, 0, false, false⟩ 1 1000 true).result = .frame := by decide

/-- the storage-only target (slot 7 = 9 in the underlying database) collides however it became warm;
in particular when the journal loaded NO slot of it (access list without keys, BALANCE, CALL, retry)
or only a zero-valued one (key 3) -/
example : ∀ w ∈ [Warmth.coldFirstTouch, .accessList [], .accessList [3], .accessList [7], .accessList [3, 7, 3],
      .opcodeLoad, .called, .retried, .revertedCold],
    (makeCreateFrameW (.wrapRef (.base exBase)) 1 w 1 1000 true).result = .collision ∧
    (makeCreateFrameW (.wrapRef (.base exBase)) 1 w 1 1000 true).gasLost = some 1000 := by decide
example : ((journalEntry (.base exBase) 1 (.accessList [3, 7])).2.map (·.slots)) = some [(7, 9), (3, 0)] := by decide
example : (makeCreateFrameW (.base exBase) 2 .opcodeLoad 1 1000 true).result = .frame := by decide
example : (loadedTarget (.base exBase) 1 .called).touched = true ∧ (loadedTarget (.base exBase) 1 .retried).touched = false := by decide
example : SameInfo (loadedTarget (.base exBase) 1 .called) (infoTarget (.base exBase) 1) := ⟨rfl, rfl, rfl⟩

/-- histories on an address absent from the database (account 2 of `exBase`): the first creation
makes a frame, the entry keeps `LoadedAsNotExisting`, the second creation collides; funded by a
CALL it does not collide; a database with `has_storage` for an absent account collides -/
example :
    let r := makeCreateFrameH (.base exBase) 2 (.createdAlive 0x1234) 1 1000 true
    r.first = some .frame ∧ r.entry.notExisting = true ∧ r.entry.target.nonce = 1 ∧
    r.outcome.result = .collision ∧ r.outcome.gasLost = some 1000 ∧ r.outcome.target = r.entry.target := by decide
example :
    let r := makeCreateFrameH (.base exBase) 2 (.createdDestroyed 0x1234) 1 1000 true
    r.first = some .frame ∧ r.entry.notExisting = true ∧ r.entry.target.balance = 0 ∧ r.outcome.result = .collision := by decide
example :
    let r := makeCreateFrameH (.base exBase) 2 (.funded 1) 1 1000 true
    r.entry.notExisting = true ∧ r.entry.target.balance = 1 ∧ r.outcome.result = .frame ∧ r.outcome.target.balance = 2 := by decide
example :
    let b : Base := { exBase with hasStorage := fun a => a == 2 }
    let r := makeCreateFrameH (.base b) 2 .untouched 1 1000 true
    r.entry.notExisting = true ∧ r.outcome.result = .collision ∧ r.outcome.gasLost = some 1000 := by decide

/-- the same target behind `CacheDB`, `State`, `State` over `CacheDB` or `DatabaseComponents`:
the storage is there (slot 7 reads 9 through the layer) but creation proceeds — the account is
marked created, gets nonce 1 and the value, no gas is taken -/
theorem create_collision_storage_behind_wrappers_counterexample :
    (Db.cache (.base exBase) CacheDB.new).view.storage 1 7 = 9 ∧
    (makeCreateFrame (.cache (.base exBase) CacheDB.new) 1 exTarget 1 1000 true) =
      ⟨.frame, { exTarget with created := true, touched := true, balance := 6, nonce := 1 }, none⟩ ∧
    (makeCreateFrame (.state (.base exBase) StateDb.new) 1 exTarget 1 1000 true).result = .frame ∧
    (makeCreateFrame (.state (.cache (.base exBase) CacheDB.new) StateDb.new) 1 exTarget 1 1000 true).result = .frame ∧
    (makeCreateFrame (.components (.base exBase)) 1 exTarget 1 1000 true).result = .frame := by decide

/-- storage inserted into an `InMemoryDB` (`CacheDB<EmptyDB>`) itself -/
theorem create_collision_storage_inserted_counterexample :
    let e : Data := (Base.emptyDB (fun _ => 0)).toData
    let c := (CacheDB.new.insertAccountInfo 1 ⟨5, 0, KECCAK_EMPTY, none⟩).insertAccountStorage e 1 7 9
    (c.storage e 1 7).2 = 9 ∧
    (makeCreateFrame (.cache (.empty (fun _ => 0)) c) 1 exTarget 1 1000 true).result = .frame := by decide

theorem create_collision_full_statement_counterexample : ¬ CreateCollisionFullStatement := by
  intro h
  have := h (.cache (.base exBase) CacheDB.new) (.cache _ _ (.base _ exBase_honest)) 1 exTarget 1 1000 true
    (Or.inr (Or.inr ⟨7, by decide⟩))
  revert this
  decide

end Revm.Props.C21

