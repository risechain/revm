import Revm.Proofs.Jump
/-! C04 — a jump is accepted only onto a real JUMPDEST outside push data.

`Model.Jump` follows `to_analysed` / `analyze` / `JumpTable::is_valid` / `Contract::is_valid_jump` /
`jump` / `jumpi` / `jump_inner`; `Spec.Jump.ValidDest code t` says: `t` is inside the code, the byte at `t`
is 0x5b and `t` is an instruction boundary (`ValidDestText`: ... and `t` is not in the immediate data of a
PUSH1..PUSH32; the two are proved equal). The proofs rest on `Revm.Proofs.Jump`; the halting cases at the
end are read off the model here.

Quantification: every list of bytes as code (`Bytes code`: elements `< 256`; truncated trailing PUSH data
included), every position / every 256-bit target. Reading used for JUMPI: with a zero condition no jump
is performed and the target is not examined (as the Yellow Paper has it). -/
namespace Revm.Props.C04
open Revm Revm.Model.Jump Revm.Spec.Jump

/-- the table that `to_analysed` builds (scan over the code padded with 33 zeros) answers
`JumpTable::is_valid` with exactly `ValidDest` of the original code: all byte strings, all positions
(also positions in the padding and beyond the table) -/
theorem analyze_correct (code : List Nat) (hb : Bytes code) (t : Nat) :
    isValid (analyze (pad code)) t = true ↔ ValidDest code t :=
  Proofs.Jump.analyze_correct hb t

/-- the same in the words of the property: inside the code, JUMPDEST byte, not PUSH immediate data -/
theorem analyze_correct_text (code : List Nat) (hb : Bytes code) (t : Nat) :
    isValid (analyze (pad code)) t = true ↔ ValidDestText code t := by
  rw [← Proofs.Jump.validDest_iff_text]; exact Proofs.Jump.analyze_correct hb t

/-- "instruction boundary" and "not inside PUSH immediate data" coincide -/
theorem validDest_iff_text (code : List Nat) (t : Nat) : ValidDest code t ↔ ValidDestText code t :=
  Proofs.Jump.validDest_iff_text code t

/-- the executable byte-by-byte Spec scan (the Spec column of the correspondence stream) decides `ValidDest` -/
theorem spec_scan_iff (code : List Nat) (t : Nat) : validDestB code t = true ↔ ValidDest code t :=
  Proofs.Jump.validDestB_iff code t

theorem spec_list_iff (code : List Nat) (t : Nat) : t ∈ validDests code ↔ ValidDest code t := by
  unfold validDests
  rw [Proofs.Jump.mem_trueIdx, ← Proofs.Jump.validDestB_iff]
  unfold validDestB
  constructor
  · rintro ⟨_, h⟩; rw [Nat.sub_zero] at h; rw [h]; rfl
  · intro h; exact ⟨by omega, by rw [Nat.sub_zero]; exact eq_of_beq h⟩

theorem pad_length (code : List Nat) : (pad code).length = code.length + 33 := Proofs.Jump.pad_length code
theorem pad_prefix (code : List Nat) : (pad code).take code.length = code := by
  unfold pad; rw [List.take_left']; rfl
theorem pad_tail_zero (code : List Nat) : (pad code).drop code.length = List.replicate 33 0 := by
  unfold pad; rw [List.drop_left']; rfl
/-- the bit vector has one bit per byte of the padded code -/
theorem table_length (code : List Nat) (hb : Bytes code) : (analyze (pad code)).length = code.length + 33 := by
  rw [(Proofs.Jump.analyze_spec (Proofs.Jump.bytes_pad hb)).2, Proofs.Jump.pad_length]
/-- no position at or beyond the original length is ever valid (padding bytes, truncated-PUSH overrun) -/
theorem no_dest_in_padding (code : List Nat) (hb : Bytes code) (t : Nat) (ht : code.length ≤ t) :
    isValid (analyze (pad code)) t = false := Proofs.Jump.isValid_beyond hb t ht
/-- padding changes no destination: analysing `code ++ zeros` is about the same destinations as `code` -/
theorem padding_harmless (code : List Nat) (t : Nat) : ValidDest (pad code) t ↔ ValidDest code t :=
  Proofs.Jump.validDest_pad code t

theorem to_analysed_raw (code : List Nat) :
    toAnalysed (.legacyRaw code) = .legacyAnalyzed ⟨pad code, code.length, analyze (pad code)⟩ := rfl
/-- already analysed code is returned as it is, so analysing eagerly and then again in `Contract::new`
(the lazy path) gives the same table -/
theorem to_analysed_idem (b : Bytecode) : toAnalysed (toAnalysed b) = toAnalysed b :=
  Proofs.Jump.toAnalysed_idem b
/-- `Contract::is_valid_jump` of a contract made by `Contract::new` from raw code -/
theorem contract_is_valid_jump (code : List Nat) (hb : Bytes code) (t : Nat) :
    isValidJump (contractNew (.legacyRaw code)) t = true ↔ ValidDest code t :=
  Proofs.Jump.isValidJump_contract hb t
/-- same when the bytecode had been analysed before it reached `Contract::new` -/
theorem contract_is_valid_jump_eager (code : List Nat) (hb : Bytes code) (t : Nat) :
    isValidJump (contractNew (toAnalysed (.legacyRaw code))) t = true ↔ ValidDest code t :=
  Proofs.Jump.isValidJump_contract hb t
/-- unanalysed code has no table (every jump would be invalid) and is refused by `Interpreter::new` -/
theorem raw_not_executable (code : List Nat) (t : Nat) :
    isValidJump (.legacyRaw code) t = false ∧ (Bytecode.legacyRaw code).isExecutionReady = false := ⟨rfl, rfl⟩

/-- `as_usize_or_fail!`: exactly the words below 2^64 pass, unchanged -/
theorem as_usize_or_fail_eq (v : Nat) (hv : v < W) :
    asUsizeOrFail v = if v < U64 then some v else none := Proofs.Jump.asUsizeOrFail_eq hv

/-- JUMP with enough gas and a target on the stack: the frame keeps running with `pc = target` exactly when
the target is a valid destination; for every 256-bit target. (`code.length ≤ 2^64`: a byte string in
memory; it only serves to say that a valid destination is `< 2^64`.) -/
theorem jump_ok_iff (code : List Nat) (hb : Bytes code) (hlen : code.length ≤ U64) (s : Interp)
    (hs : s.bytecode = contractNew (.legacyRaw code)) (hres : s.result = .Continue) (hgas : MID ≤ s.gas)
    (target : Nat) (rest : List Nat) (hst : s.stack = target :: rest) (ht : target < W) :
    ((jump s).result = .Continue ∧ (jump s).pc = target) ↔ ValidDest code target :=
  Proofs.Jump.jump_ok_iff hb hlen s hs hres hgas hst ht

/-- complete post-state of an accepted JUMP: 8 gas, target popped, pc moved, nothing else -/
theorem jump_ok (code : List Nat) (hb : Bytes code) (hlen : code.length ≤ U64) (s : Interp)
    (hs : s.bytecode = contractNew (.legacyRaw code)) (hgas : MID ≤ s.gas)
    (target : Nat) (rest : List Nat) (hst : s.stack = target :: rest) (ht : target < W)
    (hv : ValidDest code target) :
    jump s = { s with gas := s.gas - 8, stack := rest, pc := target } :=
  (Proofs.Jump.jump_eq hb s hs hgas hst ht).trans (if_pos ((Proofs.Jump.accepts_iff_validDest hlen target).mpr hv))

/-- otherwise the frame halts with InvalidJump (pc untouched) -/
theorem jump_invalid (code : List Nat) (hb : Bytes code) (s : Interp)
    (hs : s.bytecode = contractNew (.legacyRaw code)) (hgas : MID ≤ s.gas)
    (target : Nat) (rest : List Nat) (hst : s.stack = target :: rest) (ht : target < W)
    (hv : ¬ ValidDest code target) :
    jump s = { s with gas := s.gas - 8, stack := rest, result := .InvalidJump } :=
  (Proofs.Jump.jump_eq hb s hs hgas hst ht).trans (if_neg fun ha => hv ha.2)

/-- targets of 2^64 and above are InvalidJump whatever the code is -/
theorem jump_huge_target (code : List Nat) (hb : Bytes code) (s : Interp)
    (hs : s.bytecode = contractNew (.legacyRaw code)) (hgas : MID ≤ s.gas)
    (target : Nat) (rest : List Nat) (hst : s.stack = target :: rest) (ht : target < W)
    (hbig : U64 ≤ target) :
    jump s = { s with gas := s.gas - 8, stack := rest, result := .InvalidJump } :=
  (Proofs.Jump.jump_eq hb s hs hgas hst ht).trans (if_neg fun ha => Nat.not_le.mpr ha.1 hbig)

/-- safety form without any assumption on gas or stack depth: if the frame is still running after JUMP,
its pc is a valid destination (out-of-gas and stack underflow halt, they never move the pc) -/
theorem jump_lands_only_on_valid (code : List Nat) (hb : Bytes code) (s : Interp)
    (hs : s.bytecode = contractNew (.legacyRaw code)) (hw : ∀ w ∈ s.stack, w < W)
    (hres : (jump s).result = .Continue) : ValidDest code (jump s).pc :=
  (Proofs.Jump.jump_safe hb s hs hw hres).2

/-- JUMPI with a non-zero condition behaves as JUMP -/
theorem jumpi_nonzero_ok_iff (code : List Nat) (hb : Bytes code) (hlen : code.length ≤ U64) (s : Interp)
    (hs : s.bytecode = contractNew (.legacyRaw code)) (hres : s.result = .Continue) (hgas : HIGH ≤ s.gas)
    (target cond : Nat) (rest : List Nat) (hst : s.stack = target :: cond :: rest) (ht : target < W)
    (hc : cond ≠ 0) :
    ((jumpi s).result = .Continue ∧ (jumpi s).pc = target) ↔ ValidDest code target :=
  Proofs.Jump.jumpi_nonzero_ok_iff hb hlen s hs hres hgas hst ht hc

theorem jumpi_nonzero_ok (code : List Nat) (hb : Bytes code) (hlen : code.length ≤ U64) (s : Interp)
    (hs : s.bytecode = contractNew (.legacyRaw code)) (hgas : HIGH ≤ s.gas)
    (target cond : Nat) (rest : List Nat) (hst : s.stack = target :: cond :: rest) (ht : target < W)
    (hc : cond ≠ 0) (hv : ValidDest code target) :
    jumpi s = { s with gas := s.gas - 10, stack := rest, pc := target } :=
  (Proofs.Jump.jumpi_eq hb s hs hgas hst ht).trans
    ((if_neg hc).trans (if_pos ((Proofs.Jump.accepts_iff_validDest hlen target).mpr hv)))

theorem jumpi_nonzero_invalid (code : List Nat) (hb : Bytes code) (s : Interp)
    (hs : s.bytecode = contractNew (.legacyRaw code)) (hgas : HIGH ≤ s.gas)
    (target cond : Nat) (rest : List Nat) (hst : s.stack = target :: cond :: rest) (ht : target < W)
    (hc : cond ≠ 0) (hv : ¬ ValidDest code target) :
    jumpi s = { s with gas := s.gas - 10, stack := rest, result := .InvalidJump } :=
  (Proofs.Jump.jumpi_eq hb s hs hgas hst ht).trans ((if_neg hc).trans (if_neg fun ha => hv ha.2))

/-- JUMPI with a zero condition falls through: pc and result unchanged, whatever the target is -/
theorem jumpi_zero_falls_through (code : List Nat) (hb : Bytes code) (s : Interp)
    (hs : s.bytecode = contractNew (.legacyRaw code)) (hgas : HIGH ≤ s.gas)
    (target : Nat) (rest : List Nat) (hst : s.stack = target :: 0 :: rest) (ht : target < W) :
    jumpi s = { s with gas := s.gas - 10, stack := rest } :=
  (Proofs.Jump.jumpi_eq hb s hs hgas hst ht).trans (if_pos rfl)

set_option linter.unusedVariables false in
/-- safety form for JUMPI: still running ⇒ fell through or landed on a valid destination -/
theorem jumpi_lands_only_on_valid (code : List Nat) (hb : Bytes code) (s : Interp)
    (hs : s.bytecode = contractNew (.legacyRaw code)) (hw : ∀ w ∈ s.stack, w < W)
    (hres : (jumpi s).result = .Continue) :
    (jumpi s).pc = s.pc ∨ ValidDest code (jumpi s).pc :=
  (Proofs.Jump.jumpi_safe hb s hs hw).imp id And.right

/-! ## the other ways JUMP / JUMPI end: they halt the frame and never move the pc -/

theorem jump_out_of_gas (s : Interp) (h : s.gas < 8) : jump s = { s with result := .OutOfGas } := by
  unfold jump recordCost MID; rw [if_neg (by omega)]
theorem jumpi_out_of_gas (s : Interp) (h : s.gas < 10) : jumpi s = { s with result := .OutOfGas } := by
  unfold jumpi recordCost HIGH; rw [if_neg (by omega)]
theorem jump_stack_underflow (s : Interp) (h : 8 ≤ s.gas) (hst : s.stack = []) :
    jump s = { s with gas := s.gas - 8, result := .StackUnderflow } := by
  unfold jump recordCost MID; rw [if_pos h]; simp only [hst]
theorem jumpi_stack_underflow (s : Interp) (h : 10 ≤ s.gas) (hst : s.stack.length < 2) :
    jumpi s = { s with gas := s.gas - 10, result := .StackUnderflow } := by
  unfold jumpi recordCost HIGH; rw [if_pos h]
  match hs : s.stack with
  | [] => rfl
  | [_] => rfl
  | _ :: _ :: _ => rw [hs] at hst; simp at hst; omega

/-! ## the hypotheses are satisfiable (PUSH1 0x5b; JUMPDEST: position 1 is push data, position 2 is valid;
and a truncated PUSH2 at the end) -/

def exCode : List Nat := [0x60, 0x5b, 0x5b, 0x61, 0x5b]
def exState (stack : List Nat) : Interp := ⟨contractNew (.legacyRaw exCode), 1, stack, 100, .Continue⟩

example : Bytes exCode := by decide
example : exCode.length ≤ U64 := by decide
example : ValidDest exCode 2 := (spec_scan_iff _ _).mp (by decide)
example : ¬ ValidDest exCode 1 := fun h => absurd ((spec_scan_iff _ _).mpr h) (by decide)
example : ¬ ValidDest exCode 4 := fun h => absurd ((spec_scan_iff _ _).mpr h) (by decide)
private theorem exBytes : Bytes exCode := by decide
private theorem exValid2 : ValidDest exCode 2 := (spec_scan_iff _ _).mp (by decide)
private theorem exInvalid1 : ¬ ValidDest exCode 1 := fun h => absurd ((spec_scan_iff _ _).mpr h) (by decide)
private theorem exSmall (n : Nat) (h : n < 1000 := by decide) : n < W := by have := W_val; omega

example : isValid (analyze (pad exCode)) 2 = true := (analyze_correct exCode exBytes 2).mpr exValid2
example : isValid (analyze (pad exCode)) 1 = false :=
  Bool.eq_false_iff.mpr fun h => exInvalid1 ((analyze_correct exCode exBytes 1).mp h)
example : isValid (analyze (pad exCode)) 5 = false := no_dest_in_padding exCode exBytes 5 (by decide)
private theorem exJump2 : jump (exState [2]) = { exState [] with gas := 92, pc := 2 } :=
  jump_ok exCode exBytes (by decide) (exState [2]) rfl (by decide) 2 [] rfl (exSmall 2) exValid2
example : jump (exState [2]) = { exState [] with gas := 92, pc := 2 } := exJump2
/-- hypotheses of the safety form hold on a concrete run, and it yields the expected fact -/
example : (jump (exState [2])).result = .Continue ∧ ValidDest exCode (jump (exState [2])).pc := by
  have hres : (jump (exState [2])).result = .Continue := by rw [exJump2]; rfl
  exact ⟨hres, jump_lands_only_on_valid exCode exBytes (exState [2]) rfl
    (by intro w hw; have := W_val; simp [exState] at hw; omega) hres⟩
example : jump (exState [1]) = { exState [] with gas := 92, result := .InvalidJump } :=
  jump_invalid exCode exBytes (exState [1]) rfl (by decide) 1 [] rfl (exSmall 1) exInvalid1
example : jump (exState [2^64 + 2]) = { exState [] with gas := 92, result := .InvalidJump } :=
  jump_huge_target exCode exBytes (exState [2^64 + 2]) rfl (by decide) (2^64 + 2) [] rfl
    (by have := W_val; omega) (by rw [U64_val]; decide)
example : jumpi (exState [2, 7]) = { exState [] with gas := 90, pc := 2 } :=
  jumpi_nonzero_ok exCode exBytes (by decide) (exState [2, 7]) rfl (by decide) 2 7 [] rfl (exSmall 2)
    (by decide) exValid2
example : jumpi (exState [1, 7]) = { exState [] with gas := 90, result := .InvalidJump } :=
  jumpi_nonzero_invalid exCode exBytes (exState [1, 7]) rfl (by decide) 1 7 [] rfl (exSmall 1)
    (by decide) exInvalid1
example : jumpi (exState [1, 0]) = { exState [] with gas := 90 } :=
  jumpi_zero_falls_through exCode exBytes (exState [1, 0]) rfl (by decide) 1 [] rfl (exSmall 1)
example : (exState [2]).gas = 100 ∧ (exState []).stack = [] ∧ (exState [3]).stack.length < 2 := by decide
example : ∀ w ∈ (exState [2, 7]).stack, w < W := by
  intro w hw; have := W_val; simp [exState] at hw; omega

end Revm.Props.C04
