import Revm.Model.Evm
import Revm.Proofs.Evm
import Revm.Proofs.EvmStepTable
import Revm.Proofs.EvmHost
import Revm.Proofs.EvmRefineMain
/-! C01 — "For every pre-state, block environment, valid transaction and hardfork from Frontier to Prague, executing the
transaction yields the same outcome class, the same gas used, the same return data and logs, and the same post-state as
the Ethereum execution specification."

`Revm.Model.Evm.transact` is the executable, code-shaped model of `Evm::transact` for legacy code. TRUSTED: it is tied
to the compiled code by the whole-transaction correspondence stream `C01` (generated multi-contract worlds, all five
transaction types, every SpecId Frontier … Prague) and to the execution specification by the shipped reference vectors
(every vector case that revm passes must be reproduced by the model, result and post-state).

The theorems are about the model, universally quantified. Of the closed statement `FullStatement_transact_refines_spec`
the part for admissible runs is `transact_refines_spec_partial`; of `FullStatement_transact_total` the parts in
`Props/C01Link.lean` (`transact_terminates`, `transact_total_fresh'`). -/
namespace Revm.Props.C01
open Revm Revm.Model Revm.Model.Evm
open Revm.Model.Gas (I64MIN I64MAX)

/-! ## no fuel bound leaks into a result -/

/-- a transaction that completes with fuel `n` gives the same result and the same world with any larger fuel -/
theorem transact_fuel_independent {n m : Nat} (h : n ≤ m) (w : World) (e : Env) (spec : Nat) (r : Outcome × World)
    (hr : transact n w e spec = .ok r) : transact m w e spec = .ok r :=
  Proofs.Evm.transactWith_mono journalOps h hr

/-- the hypothesis is satisfiable: a plain value transfer between two accounts under Cancun completes -/
example : ∃ r, transact 10
    { js := Journal.JState.new 17 (fun _ => false),
      pre := [{ addr := 0xaa, balance := 10^18, nonce := 0, code := [], codeHash := KECCAK_EMPTY, storage := [] }] }
    { block := { gasLimit := 30000000, basefee := 7, prevrandao := some 0, blobGasPrice := some 1 },
      tx := { caller := 0xaa, gasLimit := 21000, gasPrice := 10, to := some 0xbb, value := 5, nonce := some 0 } }
    17 = .ok r :=
  Proofs.Evm.exists_of_isOk (by decide +kernel)

/-- the frame loop alone: more fuel never changes a completed run -/
theorem runLoop_fuel_independent {κ : Type} (C : CpOps κ) (cfg : Cfg) {n m : Nat} (h : n ≤ m)
    (stack : List (Frame κ)) (w : World) (r : Interp.ChildResult × World)
    (hr : runLoop C cfg n stack w = .ok r) : runLoop C cfg m stack w = .ok r :=
  Proofs.Evm.runLoop_mono C cfg h hr

/-! ## gas of the transaction handler -/

set_option linter.unusedVariables false in
/-- `last_frame_return`, `refund`, the EIP-7623 floor and `output`, for EVERY first-frame result that gives back at
most the gas limit (the frame-accounting condition of C13): `gas_used ≤ gas_limit`, `floor ≤ gas_used` (the Prague
calldata floor; `floor = 0` before), the refund is non-negative and capped by `spent / 5` (London) or `spent / 2`, and
`gas_used + refunded + remaining = gas_limit` — what the sender is charged and reimbursed adds up to the limit. -/
theorem transact_gas_bounds (e : Env) (spec floorGas eip7702Refund : Nat) (res : Interp.ChildResult)
    (hL : e.tx.gasLimit < U64) (hrem : res.gasRemaining ≤ e.tx.gasLimit)
    (hrr : I64MIN ≤ res.gasRefunded ∧ res.gasRefunded ≤ I64MAX) (h7 : eip7702Refund < U64)
    (hfl : floorGas ≤ e.tx.gasLimit) :
    let g := finalGas e spec floorGas eip7702Refund res
    let used := U64ops.wsub (Gas.spent g) (Gas.i64AsU64 g.refunded)
    used ≤ e.tx.gasLimit ∧ floorGas ≤ used ∧ 0 ≤ g.refunded ∧
    g.refunded ≤ ((Gas.spent g / (if GasCalc.enabled spec GasCalc.SpecId.LONDON then 5 else 2) : Nat) : Int) ∧
    used + Gas.i64AsU64 g.refunded + g.remaining = e.tx.gasLimit :=
  Proofs.Evm.finalGas_bounds e spec floorGas eip7702Refund res _ rfl hL hrem hfl

example : ∃ (e : Env) (res : Interp.ChildResult), e.tx.gasLimit < U64 ∧ res.gasRemaining ≤ e.tx.gasLimit ∧
    (I64MIN ≤ res.gasRefunded ∧ res.gasRefunded ≤ I64MAX) ∧ (21000 : Nat) ≤ e.tx.gasLimit :=
  ⟨{ tx := { gasLimit := 100000 } }, { result := .Stop, output := [], gasRemaining := 40000, gasRefunded := 4800 },
   by decide, by decide, by decide, by decide⟩

/-! ## the outcome class -/

/-- every `InstructionResult` other than the four internal flags has an outcome class (`output` does not panic) -/
theorem result_class_total (r : Interp.IResult)
    (h : r ≠ .Continue ∧ r ≠ .CallOrCreate ∧ r ≠ .FatalExternalError ∧ r ≠ .InvalidExtDelegateCallTarget) :
    ∃ c, classOf r = some c := by
  obtain ⟨h1, h2, h3, h4⟩ := h
  cases r <;> first | exact ⟨_, rfl⟩ | contradiction

example : (Interp.IResult.OutOfGas ≠ .Continue ∧ Interp.IResult.OutOfGas ≠ .CallOrCreate ∧
    Interp.IResult.OutOfGas ≠ .FatalExternalError ∧ Interp.IResult.OutOfGas ≠ .InvalidExtDelegateCallTarget) := by decide

/-- every COMPLETED executed transaction ends in exactly one of success / revert / halt — the class
(`SuccessOrHalt::from`) of the final `InstructionResult` of its first frame, never an internal flag — with
`gas_used = spent − refunded` of the handler's final meter (to which `transact_gas_bounds` applies). That every
transaction completes is the subject of `FullStatement_transact_total`. -/
theorem transact_result_class_total_partial (fuel : Nat) (w w' : World) (e : Evm.Env) (spec : Nat) (r : TxResult)
    (h : transact fuel w e spec = .ok (.executed r, w')) :
    ∃ (res : Interp.ChildResult) (floorGas refund : Nat),
      classOf res.result = some r.cls ∧ r.reason = res.result ∧
      r.gasUsed = U64ops.wsub (Gas.spent (finalGas e (GasCalc.canon spec) floorGas refund res))
                    (Gas.i64AsU64 (finalGas e (GasCalc.canon spec) floorGas refund res).refunded) := by
  obtain ⟨res, fg, refund, isCreate, w2, hf⟩ := Proofs.Evm.transactWith_executed_inv journalOps fuel w w' e spec r h
  exact ⟨res, fg, refund, Proofs.Evm.finish_result e _ fg refund isCreate res w2 w' r hf⟩

/-- the full statement of totality: on a fresh world whose oracle answers every question the run asks, `2 · gas_limit + 2`
units of fuel always suffice and the run never panics. `Props/C01Link.lean` proves of it: the fuel bound, for every
world and environment (`transact_terminates`, through `Proofs/EvmLoop.lean` `EvmTerm.runLoop_fuel`); and, on inputs that are
Rust values, that the answer is a result or a soft error — code-store miss, precompile panic, missing oracle answer,
fatal database error — and no other panic (`transact_total_fresh'`, which also says what separates it from this
statement). -/
def FullStatement_transact_total : Prop :=
  ∀ (spec : Nat) (pre : List PreAcct) (dbHasStorage : Bool) (oracle : List PcAnswer) (e : Evm.Env),
    (∀ p ∈ pre, p.codeHash = (if p.code.isEmpty then Evm.KECCAK_EMPTY else Keccak.keccak256w p.code)) →
    match transact (2 * e.tx.gasLimit + 2) (Spec.Evm.freshWorld spec pre dbHasStorage oracle) e spec with
    | .ok _ => True
    | .error (.oracleMiss _) => True
    | .error (.fatal _) => True
    | .error _ => False

/-- success is exactly the `return_ok!` results a frame can end with; a `revert` class result gives its gas back
(`return_revert!`) -/
theorem result_class_sound (r : Interp.IResult) :
    (classOf r = some .success ↔ (r.isOk = true ∧ r ≠ .Continue)) ∧
    (classOf r = some .revert → r.isRevert = true) := by
  cases r <;> decide


/-! ## the interpreter step against the Yellow-Paper-style rules of `Spec/EvmRules.lean` (theorems `step_*_agrees`)

For ANY machine state (any code, pc, stack, memory, gas, environment, fork) whose next opcode belongs to the family,
`Interp.step` is exactly the family's rule: the same stack / pc / gas effect or the same exceptional halt (not activated,
out of gas, stack underflow, stack overflow) with the same machine state. `WF`: the gas meter holds a `u64`, the stack
at most 1024 words `< 2^256`. -/

open Revm.Model.Interp Revm.Spec.EvmRules

/-- the 24 word operations ADD … SAR (without EXP) with their `Spec.Arith` meaning: unbounded arithmetic mod 2^256,
two's complement for the signed ones (through the C03 theorems), static gas 3 / 5 / 8, activation fork -/
theorem step_word_agrees (e : WordEntry) (he : e ∈ wordTable) (s : IState) (hcode : s.code[s.pc]? = some e.op)
    (hwf : WF s) : step s = .pure (e.rule s) :=
  Proofs.EvmStep.step_word_agrees e he s hcode hwf

/-- the 18 environment reads (ADDRESS, ORIGIN, CALLER, CALLVALUE, CALLDATASIZE, CODESIZE, GASPRICE, RETURNDATASIZE,
COINBASE, TIMESTAMP, NUMBER, GASLIMIT, CHAINID, BASEFEE, BLOBBASEFEE, PC, MSIZE, GAS); CODESIZE in legacy code
(`hleg`: in an EOF frame its `assume!(!is_eof)` is violated, a fault of the model) -/
theorem step_env_agrees (e : EnvEntry) (he : e ∈ envTable) (s : IState) (hcode : s.code[s.pc]? = some e.op)
    (hwf : WF s) (hleg : e.op = 0x38 → s.isEof = false) : step s = .pure (e.rule s) :=
  Proofs.EvmStep.step_env_agrees e he s hcode hwf hleg

/-- a state satisfying the hypotheses: `PUSH1 1 PUSH1 2 ADD` at the ADD -/
example : ∃ s : IState, WF s ∧ s.code[s.pc]? = some 0x01 ∧ (⟨0x01, 3, 0, .bin Spec.Arith.add⟩ : WordEntry) ∈ wordTable :=
  ⟨{ IState.init [0x60, 1, 0x60, 2, 0x01] [] 100000 false 17 0 0 0 {} with pc := 4, stack := [1, 2] },
   ⟨by decide, by decide, by decide⟩, by decide, by simp [wordTable, GasCalc.VERYLOW, GasCalc.SpecId.FRONTIER]⟩

/-- EXP with its exponent-length gas (10 resp. 50 per byte from Spurious Dragon) and the `Spec.Arith` power -/
theorem step_exp_agrees (s : IState) (hcode : s.code[s.pc]? = some 0x0a) (hwf : WF s) :
    step s = .pure (expRule s) := Proofs.EvmStep.step_exp s hcode hwf

/-- DIFFICULTY / PREVRANDAO (EIP-4399) -/
theorem step_difficulty_agrees (s : IState) (hcode : s.code[s.pc]? = some 0x44) (hwf : WF s) :
    step s = .pure (difficultyRule s) := Proofs.EvmStep.step_difficulty s hcode hwf

theorem step_pop_agrees (s : IState) (hcode : s.code[s.pc]? = some 0x50) (hwf : WF s) :
    step s = .pure (popRule s) := Proofs.EvmStep.step_pop s hcode hwf

theorem step_push0_agrees (s : IState) (hcode : s.code[s.pc]? = some 0x5f) (hwf : WF s) :
    step s = .pure (push0Rule s) := Proofs.EvmStep.step_push0 s hcode hwf

theorem step_jumpdest_agrees (s : IState) (hcode : s.code[s.pc]? = some 0x5b) (hwf : WF s) :
    step s = .pure (jumpdestRule s) := Proofs.EvmStep.step_jumpdest s hcode hwf

/-- JUMP: the destination must be marked by the jump analysis (C04: exactly the JUMPDESTs at instruction boundaries) -/
theorem step_jump_agrees (s : IState) (hcode : s.code[s.pc]? = some 0x56) (hwf : WF s) :
    step s = .pure (jumpRule s) := Proofs.EvmStep.step_jump s hcode hwf

theorem step_jumpi_agrees (s : IState) (hcode : s.code[s.pc]? = some 0x57) (hwf : WF s) :
    step s = .pure (jumpiRule s) := Proofs.EvmStep.step_jumpi s hcode hwf

theorem step_dup_agrees (s : IState) (n : Fin 16) (hcode : s.code[s.pc]? = some (0x80 + n.val)) (hwf : WF s) :
    step s = .pure (dupRule (n.val + 1) s) :=
  Proofs.EvmStep.step_dup s _ n hcode (Proofs.EvmStep.decode_dup n) hwf

theorem step_swap_agrees (s : IState) (n : Fin 16) (hcode : s.code[s.pc]? = some (0x90 + n.val)) (hwf : WF s) :
    step s = .pure (swapRule (n.val + 1) s) :=
  Proofs.EvmStep.step_swap s _ n hcode (Proofs.EvmStep.decode_swap n) hwf

/-- PUSH1 … PUSH32: the immediate bytes, big-endian -/
theorem step_push_agrees (s : IState) (n : Fin 32) (hcode : s.code[s.pc]? = some (0x60 + n.val)) (hwf : WF s) :
    step s = .pure (pushRule (n.val + 1) s) :=
  Proofs.EvmStep.step_push s _ n hcode (Proofs.EvmStep.decode_push n) hwf

/-! ## what the interpreter is told about the state is what the abstract state holds (theorems `host_*_agrees`)

`Spec.JournalAbs.absAcct` is the observable content of the journaled state (C06): an address absent from the journal's
map is the database's account, cold unless pre-warmed. The answers of the journal-backed host (`Evm.answer`, the model
of `impl Host for Context`) for the state-reading instructions carry exactly the abstract values and cold flags, from
which the interpreter computes results and gas (C14's formulas). -/

open Revm.Spec.JournalAbs in
/-- the answer behind BALANCE and SELFBALANCE -/
theorem host_balance_agrees (he : HostEnv) (w w' : World) (a : Nat) (resp : HostResp)
    (h : answer he w (.balance a) = .ok (resp, w')) :
    resp.word = (absAcct w.db w.js a).balance ∧ resp.isCold = !(absAcct w.db w.js a).warm ∧ resp.ok = true := by
  simp only [answer, World.loadAccount, bind, Except.bind] at h
  cases hl : Journal.loadAccount w.db w.js a with
  | none => rw [hl] at h; simp [ofOpt] at h
  | some p =>
    obtain ⟨js, cold⟩ := p
    rw [hl] at h
    obtain ⟨hcold, acc, hacc, hbal, _, _⟩ := Proofs.EvmHost.loadAccount_abs w.db w.js js a cold hl
    simp only [ofOpt, pure, Except.pure, World.acct, Proofs.EvmHost.noteAddr_js, hacc] at h
    simp only [Except.ok.injEq, Prod.mk.injEq] at h
    obtain ⟨h1, _⟩ := h
    rw [← h1]
    exact ⟨hbal, hcold, rfl⟩

open Revm.Spec.JournalAbs in
theorem host_sload_agrees (he : HostEnv) (w w' : World) (a k : Nat) (resp : HostResp)
    (h : answer he w (.sload a k) = .ok (resp, w')) :
    resp.word = ((absAcct w.db w.js a).slot k).present ∧ resp.isCold = !((absAcct w.db w.js a).slot k).warm ∧
    resp.ok = true :=
  Proofs.EvmHost.sload_agrees he w w' a k resp h

open Revm.Spec.JournalAbs in
/-- SSTORE: the (original, present, new, cold) tuple behind EIP-2200 / 2929 / 3529 gas and refunds -/
theorem host_sstore_agrees (he : HostEnv) (w w' : World) (a k v : Nat) (resp : HostResp)
    (h : answer he w (.sstore a k v) = .ok (resp, w')) :
    resp.original = ((absAcct w.db w.js a).slot k).orig ∧ resp.present = ((absAcct w.db w.js a).slot k).present ∧
    resp.new = v ∧ resp.isCold = !((absAcct w.db w.js a).slot k).warm :=
  Proofs.EvmHost.sstore_agrees he w w' a k v resp h

open Revm.Spec.JournalAbs in
/-- SLOAD end to end on the journal-backed machine: the instruction asks for the slot of the executing account, and
continues with the abstract state's present value on the stack, charged `sloadCost` of the fork and of the slot's
warmth (EIP-2929: 2100 cold / 100 warm; 800 / 200 / 50 before Berlin); from `Proofs.EvmStep.step_sload` and
`Proofs.EvmHost.sload_agrees` -/
theorem sload_end_to_end (he : HostEnv) (w w' : World) (s : IState) (key : Nat) (rest : List Nat) (resp : HostResp)
    (hcode : s.code[s.pc]? = some 0x54) (hwf : WF s) (hstack : s.stack.reverse = key :: rest)
    (hans : answer he w (.sload s.target key) = .ok (resp, w')) :
    ∃ k, step s = .host (.sload s.target key) k ∧
      k resp =
        (let slot := (absAcct w.db w.js s.target).slot key
         let cost := GasCalc.sloadCost s.spec (!slot.warm)
         if s.gas.remaining < cost then Done.halt .OutOfGas [] (adv s)
         else .next { charge (adv s) cost with stack := (slot.present :: rest).reverse }) := by
  obtain ⟨hv, hc, hok⟩ := Proofs.EvmHost.sload_agrees he w w' s.target key resp hans
  refine ⟨sloadAfter (adv s) rest, ?_, ?_⟩
  · rw [Proofs.EvmStep.step_sload s hcode hwf]
    unfold sloadRule
    rw [hstack]
  · unfold sloadAfter
    simp only [hok, Bool.not_true, Bool.false_eq_true, if_false, hv, hc]
    rfl

/-- SLOAD: one host question, then `sloadAfter` -/
theorem step_sload_agrees (s : IState) (hcode : s.code[s.pc]? = some 0x54) (hwf : WF s) :
    step s = sloadRule s := Proofs.EvmStep.step_sload s hcode hwf

theorem step_tload_agrees (s : IState) (hcode : s.code[s.pc]? = some 0x5c) (hwf : WF s) :
    step s = tloadRule s := Proofs.EvmStep.step_tload s hcode hwf

theorem host_tload_agrees (he : HostEnv) (w w' : World) (a k : Nat) (resp : HostResp)
    (h : answer he w (.tload a k) = .ok (resp, w')) : resp.word = Journal.tload w.js a k ∧ w' = w := by
  simp only [answer, pure, Except.pure, Except.ok.injEq, Prod.mk.injEq] at h
  exact ⟨by rw [← h.1], h.2.symm⟩

/-- the host hypotheses are satisfiable: a balance query on a fresh journal over a one-account database -/
example : ∃ r, answer { blockNumber := 1 }
    { js := Journal.JState.new 17 (fun _ => false),
      pre := [{ addr := 0xaa, balance := 7, nonce := 0, code := [], codeHash := Evm.KECCAK_EMPTY, storage := [] }] }
    (.balance 0xaa) = .ok r :=
  Proofs.Evm.exists_of_isOk (by decide +kernel)


/-! ## the closed statement, and what is proved of it

`Spec.Evm.transact` is the transaction of the execution specification as far as this development states it: the
instruction semantics, host effects, message-call / creation rules and transaction handler of `Evm.transactWith`, run
with the specification's state discipline — every subroutine SAVES the state it starts from and a failing one RESTORES
it (EELS `begin_transaction` / `rollback_transaction`), accessed sets, transient storage and logs included — instead of
the code's journal of undo entries. The statement: for every pre-state, oracle, environment, transaction and SpecId,
the model (= the code, by correspondence) and the specification yield the same outcome class, gas used, refund, return
data, created address, logs and post-state of the touched accounts (and, when the model stops with an error of the
model — panic, fatal database / precompile error, missing oracle answer, fuel — the specification stops with the same
kind of error).

The pre-state is a database with 256-bit balances (the model's words are unbounded naturals) and a FAITHFUL
`has_storage` (`dbHasStorage = true`; with the default `has_storage = false` the creation rules themselves differ from
the execution specification — the known findings of C20 / C21 — and C06's revert theorem is stated under `DbOk`). -/

open Revm.Spec.Evm in
def FullStatement_transact_refines_spec : Prop :=
  ∀ (fuel spec : Nat) (pre : List PreAcct) (oracle : List PcAnswer) (e : Evm.Env),
    (∀ p ∈ pre, p.balance < W) →
    ObsEq (Evm.transact fuel (freshWorld spec pre true oracle) e spec)
          (Spec.Evm.transact fuel (freshWorld spec pre true oracle) e spec)

open Revm.Spec.Evm in
/-- `FullStatement_transact_refines_spec` for EVERY ADMISSIBLE RUN, completed or not — every program, transaction type,
SpecId, depth of nesting and fuel; a run that stops with a model-level error (panic, fatal database / precompile error,
missing oracle answer, out of fuel) is matched by the same KIND of error of the specification. The only hypothesis:
the strict run does not stop AT ONE OF ITS TWO CHECKS (`StopsInadmissible`). `transactStrict` is the model
(`Evm.transact`, journal of undo entries) with the two admissibility conditions of C06 checked at run time
(Spec/EvmStrict.lean): `set_code` only on an account with empty code, `create_account_checkpoint` only on a target not
yet created in this transaction. A completed strict run IS a run of the model with the same result
(`transactStrict_is_transact`).

How: a simulation generic in the subroutine discipline (`runLoop_rr`, `transactWith_rr`; errors included, through the
relation `RRw` of `Proofs/EvmRR.lean`, a congruence for `bind`), instantiated (`Proofs.EvmRefine.refineSimE`) with
`CfgRel`: the journal state is observably the snapshot state (`JRel`), and every open checkpoint carries the C06
history since it was taken (`Chain`), so that a failing frame closes by C06's `revert_restores` plus what undo keeps
(`revert_rel`), a successful one by folding its history into the enclosing one.
The other admissibility conditions of C06 are DISCHARGED from the frame machine: the caller of a creation is funded,
the `has_storage` answer is faithful, `initial_account_load` only runs before the first checkpoint (`load_accounts`),
a reverted checkpoint is the innermost open one.

MISSING for the full statement: that every run of the model is admissible, i.e. `transactStrict` never stops at one
of its two checks — true when `keccak256` address derivation does not collide within a transaction (a created
address is fresh; the code of an address under creation can only change by its own `create_return`), which this
development does not assume. Outside both statements: the CALL / CREATE gas bookkeeping across frames, precompile
internals and signature recovery are shared by the two sides (oracle inputs / the same functions), so nothing is
claimed about them. -/
theorem transact_refines_spec_partial (fuel spec : Nat) (pre : List PreAcct) (oracle : List PcAnswer) (e : Evm.Env)
    (hbal : ∀ p ∈ pre, p.balance < W)
    (hadm : ¬ Proofs.EvmRefine.StopsInadmissible (transactStrict fuel (freshWorld spec pre true oracle) e spec)) :
    ObsEq (Evm.transact fuel (freshWorld spec pre true oracle) e spec)
          (Spec.Evm.transact fuel (freshWorld spec pre true oracle) e spec) :=
  Proofs.EvmRefine.transact_refines_spec_total fuel _ e spec (Proofs.EvmRefine.start_fresh spec pre oracle hbal) hadm

open Revm.Spec.Evm in
/-- the form for completed runs: a run of the strict machine that completes does not stop at a check -/
theorem transact_refines_spec_completed (fuel spec : Nat) (pre : List PreAcct) (oracle : List PcAnswer) (e : Evm.Env)
    (hbal : ∀ p ∈ pre, p.balance < W)
    (hrun : ∃ x, transactStrict fuel (freshWorld spec pre true oracle) e spec = .ok x) :
    ObsEq (Evm.transact fuel (freshWorld spec pre true oracle) e spec)
          (Spec.Evm.transact fuel (freshWorld spec pre true oracle) e spec) := by
  refine transact_refines_spec_partial fuel spec pre oracle e hbal ?_
  rintro ⟨err, herr, _⟩
  obtain ⟨x, hx⟩ := hrun
  rw [hx] at herr; cases herr

open Revm.Spec.Evm in
/-- the hypotheses are satisfiable, with a run that reverts a subroutine: a call with value to a contract that writes a
storage slot and reverts (`PUSH1 1 PUSH1 0 SSTORE PUSH1 0 PUSH1 0 REVERT`) — the journal undoes the transfer, the touch,
the warming and the write; the specification restores the snapshot -/
example : ∃ x, transactStrict 50
    (freshWorld 17 [{ addr := 0xaa, balance := 10^18, nonce := 0, code := [], codeHash := Evm.KECCAK_EMPTY, storage := [] },
      { addr := 0xbb, balance := 1, nonce := 1, code := [0x60, 0x01, 0x60, 0x00, 0x55, 0x60, 0x00, 0x60, 0x00, 0xfd],
        codeHash := 0x1234, storage := [] }] true [])
    { block := { gasLimit := 30000000, basefee := 7, prevrandao := some 0, blobGasPrice := some 1 },
      tx := { caller := 0xaa, gasLimit := 100000, gasPrice := 10, to := some 0xbb, value := 5, nonce := some 0 } }
    17 = .ok x :=
  Proofs.Evm.exists_of_isOk (by decide +kernel)

open Revm.Spec.Evm in
/-- WHERE the admissibility hypothesis is used, as two named conditions on the world at the only two places of the frame
machine that consult it. The strict machine differs from the model exactly there:
* `create_account_checkpoint` in `make_create_frame` — it is the model's under `CreateTargetFresh w a has_storage` (the
  target is not an account already created in this transaction unless the collision check fires anyway) and stops
  otherwise;
* `set_code` in `create_return` — it is the model's under `CodeEmptyAt w a` (the code of the address whose creation
  returns is still empty) and stops otherwise.
Both are consequences of the freshness of `CREATE` / `CREATE2` address derivation inside one transaction (a derived
address is not that of an account created earlier in the transaction that still has empty code and nonce 0); from
Spurious Dragon on the created account carries nonce 1, so the collision check alone gives `CreateTargetFresh`
(`Proofs.EvmRefine.createTargetFresh_of_nonce`) once `created → nonce ≠ 0` is known along the run. Deriving the two
conditions for every reachable state takes an invariant of the whole run (the addresses of the open creations) that
this development does NOT have: `¬ StopsInadmissible` is the hypothesis of `transact_refines_spec_partial`, and the
driver evaluates it on the tested transactions. -/
theorem admissibility_sites (w : World) (caller a : Nat) (hs : Bool) (v spec hash : Nat) :
    ((Proofs.EvmRefine.CreateTargetFresh w a hs →
        journalOpsStrict.createCheckpoint w caller a hs v spec = journalOps.createCheckpoint w caller a hs v spec) ∧
      (¬ Proofs.EvmRefine.CreateTargetFresh w a hs →
        ∃ e, journalOpsStrict.createCheckpoint w caller a hs v spec = .error e ∧ Proofs.EvmRR.Esc e)) ∧
    ((Proofs.EvmRefine.CodeEmptyAt w a → journalOpsStrict.setCode w a hash = journalOps.setCode w a hash) ∧
      (¬ Proofs.EvmRefine.CodeEmptyAt w a →
        ∃ e, journalOpsStrict.setCode w a hash = .error e ∧ Proofs.EvmRR.Esc e)) :=
  ⟨Proofs.EvmRefine.strict_create_iff w caller a hs v spec, Proofs.EvmRefine.strict_setCode_iff w a hash⟩

/-- the hypotheses are satisfiable: nothing is loaded in a fresh world, both conditions hold -/
example : Proofs.EvmRefine.CreateTargetFresh (Spec.Evm.freshWorld 17 [] true []) 0xaa false ∧
    Proofs.EvmRefine.CodeEmptyAt (Spec.Evm.freshWorld 17 [] true []) 0xaa :=
  ⟨fun acc h => by simp [Spec.Evm.freshWorld, Journal.JState.new] at h,
   fun acc h => by simp [Spec.Evm.freshWorld, Journal.JState.new] at h⟩

open Revm.Spec.Evm in
/-- the same from any world that satisfies `Start` (not only a fresh one): the journal has its transaction level, code
caches hold the code of their hash, the address list is the domain of the state map, faithful `has_storage`, 256-bit
balances, journal well-formedness -/
theorem transact_refines_spec_from (fuel : Nat) (w : World) (e : Evm.Env) (spec : Nat)
    (hw : Proofs.EvmRefine.Start w) (hrun : ∃ x, transactStrict fuel w e spec = .ok x) :
    ObsEq (Evm.transact fuel w e spec) (Spec.Evm.transact fuel w e spec) := by
  obtain ⟨x, hx⟩ := hrun
  exact Proofs.EvmRefine.transact_refines_spec_of_strict fuel w e spec hw x hx

open Revm.Spec.Evm in
/-- a completed admissible run is a run of the model: the strict machine only adds two checks -/
theorem transactStrict_is_transact (fuel : Nat) (w : World) (e : Evm.Env) (spec : Nat) (x : Evm.Outcome × World)
    (h : transactStrict fuel w e spec = .ok x) : Evm.transact fuel w e spec = .ok x :=
  Proofs.EvmRefine.strict_is_model fuel w e spec x h

open Revm.Spec.Evm in
/-- independently of admissibility: every transaction that validation does not accept (rejected, or failing before
execution), for every world -/
theorem transact_refines_spec_not_accepted (fuel : Nat) (w : World) (e : Evm.Env) (spec : Nat)
    (h : ∀ x, preverify w e (GasCalc.canon spec) ≠ .ok (some x)) :
    ObsEq (Evm.transact fuel w e spec) (Spec.Evm.transact fuel w e spec) :=
  Proofs.Evm.refines_spec_of_not_accepted fuel w e spec h

/-- the hypothesis is satisfiable: a transaction whose gas limit is below the intrinsic cost is not accepted -/
example : ∃ (w : World) (e : Evm.Env), ∀ x, preverify w e (GasCalc.canon 17) ≠ .ok (some x) :=
  ⟨Spec.Evm.freshWorld 17 [] true [],
   { block := { gasLimit := 30000000, prevrandao := some 0, blobGasPrice := some 1 },
     tx := { caller := 0xaa, gasLimit := 20999, to := some 0xbb } },
   Proofs.Evm.ne_some_of_notAccepted (by decide +kernel)⟩

end Revm.Props.C01
