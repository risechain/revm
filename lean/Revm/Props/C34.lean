import Revm.Spec.AccessSets
import Revm.Spec.AccessHistory
import Revm.Proofs.AccessRun
/-! C34 — cold/warm accounting: `JournaledState` reports `is_cold` iff the address / slot was not yet accessed.
`Spec/AccessSets.lean` is EIP-2929/2930/3651/7702 as pure sets: an access is cold iff its key is not in the current set
and puts it in; `checkpoint` saves a copy, a reverting frame restores its copy, the transaction-level pre-warmed set is
never forgotten. `Spec/AccessHistory.lean` runs that machine in lockstep (`lockStep`, `lockRun`) with
`Model/Journal.lean`, under the checkpoint discipline of the frame machine (`wnStep`) and the admissibility conditions
of C06 (`admOp`). The model's flags are `warmSets db js`: an account absent from the state map is warm iff it is in
`warm_preloaded_addresses`, an absent slot is cold. One finding, repaired in /repo eeb6165b:
`prewarm_blockhash_regression`. -/
namespace Revm.Props.C34
open Revm Revm.Model.Journal Revm.Spec.JournalAbs Revm.Spec.AccessHistory Revm.Proofs.Access
open Revm.Spec.AccessSets (Access Sets State TxEnv)

/-- `is_cold` iff not yet accessed. After `JournaledState::new` and ANY admissible well-nested history (transaction-level
pre-warming first), one more operation that reports `is_cold` (`load_account`, `load_code`, `load_account_delegated`
(two bits), `sload`, `sstore`, `selfdestruct`'s target) reports exactly the bits of the access-set machine: cold ⇔ the
address / slot is not in the accessed set. -/
theorem is_cold_iff (db : Db) (hasStorage : Addr → Bool) (spec : Nat) (pre : Addr → Bool)
    (hdb : DbOk db hasStorage) (hwf : WF db (JState.new spec pre))
    (ops : List Op) (l l' : Lock) (op : Op)
    (hrun : lockRun db hasStorage (Lock.init spec pre) ops = some l)
    (hstep : lockStep db hasStorage l op = some l') (hx : exposes op = true) :
    ∃ r' st' bits, step db l.r op = some r' ∧ specStep db l.r r' l.st op = some (st', bits) ∧
      coldBits db l.r.js op = some bits :=
  (sim_step hdb (sim_run hdb ops (sim_init spec pre hwf) hrun) hstep).2 hx

/-- the same in the words of the property, for accounts: after any history, `load_account a` reports cold
exactly when `a` is not in the accessed-address set -/
theorem load_account_cold_iff (db : Db) (hasStorage : Addr → Bool) (spec : Nat) (pre : Addr → Bool)
    (hdb : DbOk db hasStorage) (hwf : WF db (JState.new spec pre))
    (ops : List Op) (l : Lock) (a : Addr) (js' : JState) (c : Bool)
    (hrun : lockRun db hasStorage (Lock.init spec pre) ops = some l)
    (hload : loadAccount db l.r.js a = some (js', c)) :
    (c = true ↔ l.st.cur.addrs a = false) := by
  have hs := sim_run hdb ops (sim_init spec pre hwf) hrun
  obtain ⟨_, hc, _⟩ := Proofs.Journal.loadAccount_pushes (db := db) hload
  rw [hc, ← hs.rel.1 a]; simp [warmSets]

/-- … and for storage slots: `sload a k` reports cold exactly when `(a, k)` is not in the accessed-slot set -/
theorem sload_cold_iff (db : Db) (hasStorage : Addr → Bool) (spec : Nat) (pre : Addr → Bool)
    (hdb : DbOk db hasStorage) (hwf : WF db (JState.new spec pre))
    (ops : List Op) (l : Lock) (a : Addr) (k v : Nat) (js' : JState) (c : Bool)
    (hrun : lockRun db hasStorage (Lock.init spec pre) ops = some l)
    (hload : sload db l.r.js a k = some (js', v, c)) :
    (c = true ↔ l.st.cur.slots a k = false) := by
  have hs := sim_run hdb ops (sim_init spec pre hwf) hrun
  obtain ⟨_, hc, _⟩ := Proofs.Journal.sload_pushes (db := db) hload
  rw [hc, ← hs.rel.2 a k]; simp [warmSets]

/-- the refinement itself: along every admissible history the model's warm/cold flags ARE the access sets -/
theorem warm_flags_are_access_sets (db : Db) (hasStorage : Addr → Bool) (spec : Nat) (pre : Addr → Bool)
    (hdb : DbOk db hasStorage) (hwf : WF db (JState.new spec pre))
    (ops : List Op) (l : Lock) (hrun : lockRun db hasStorage (Lock.init spec pre) ops = some l) :
    SetsEq (warmSets db l.r.js) l.st.cur :=
  (sim_run hdb ops (sim_init spec pre hwf) hrun).rel

/-- Transaction-level pre-warming is never forgotten: whatever is in the pre-warmed set — the
`warm_preloaded_addresses` the transaction started with and every address and slot given to
`initial_account_load` — is warm after any admissible history, through any number of reverts (also through
the revert of an account creation at a pre-warmed address). -/
theorem prewarmed_never_forgotten (db : Db) (hasStorage : Addr → Bool) (spec : Nat) (pre : Addr → Bool)
    (hdb : DbOk db hasStorage) (hwf : WF db (JState.new spec pre))
    (ops : List Op) (l : Lock) (hrun : lockRun db hasStorage (Lock.init spec pre) ops = some l) :
    (∀ a, pre a = true → (warmSets db l.r.js).addrs a = true) ∧
    (∀ ops1 ops2 a ks, ops = ops1 ++ Op.initLoad a ks :: ops2 →
      (warmSets db l.r.js).addrs a = true ∧ ∀ k, k ∈ ks → (warmSets db l.r.js).slots a k = true) := by
  have hs := sim_run hdb ops (sim_init spec pre hwf) hrun
  have hle : SetsLe l.st.pre (warmSets db l.r.js) :=
    ⟨fun a h => by rw [hs.rel.1 a]; exact hs.preCur.1 a h, fun a k h => by rw [hs.rel.2 a k]; exact hs.preCur.2 a k h⟩
  refine ⟨fun a ha => hle.1 a ((lockRun_pre_mono ops hrun).1 a ha), ?_⟩
  intro ops1 ops2 a ks hops
  subst hops
  obtain ⟨l1, _, h2⟩ := lockRun_append _ _ hrun
  obtain ⟨l2, hst, h2⟩ := lockRun_cons h2
  obtain ⟨p1, p2⟩ := lockStep_initLoad_pre hst
  have hm := lockRun_pre_mono ops2 h2
  exact ⟨hle.1 a (hm.1 a p1), fun k hk => hle.2 a k (hm.2 a k (p2 k hk))⟩

/-- An access made inside a frame that reverts is forgotten: after `checkpoint_revert` of the open
checkpoint `i` the warm flags are exactly the copy the set machine saved at checkpoint `i` plus the
pre-warmed set — whatever was accessed since (and is not pre-warmed) is cold again. -/
theorem reverted_access_forgotten (db : Db) (hasStorage : Addr → Bool) (spec : Nat) (pre : Addr → Bool)
    (hdb : DbOk db hasStorage) (hwf : WF db (JState.new spec pre))
    (ops : List Op) (l l' : Lock) (i : Nat)
    (hrun : lockRun db hasStorage (Lock.init spec pre) ops = some l)
    (hstep : lockStep db hasStorage l (.revert i) = some l') :
    ∃ snap, l.st.snaps[i]? = some snap ∧ SetsEq (warmSets db l'.r.js) (snap.union l.st.pre) ∧
      ∀ x, snap.has x = false → l.st.pre.has x = false → (warmSets db l'.r.js).has x = false := by
  have hs := sim_run hdb ops (sim_init spec pre hwf) hrun
  have hs' := (sim_step hdb hs hstep).1
  obtain ⟨_, r', o', st', bits, _, _, hsp, rfl⟩ := lockStep_some hstep
  simp only [specStep, Spec.AccessSets.revert, Option.map_eq_some_iff] at hsp
  obtain ⟨x, ⟨snap, hsnap, rfl⟩, hx⟩ := hsp
  cases hx
  refine ⟨snap, hsnap, hs'.rel, fun x h1 h2 => ?_⟩
  rw [setsEq_iff.1 hs'.rel x, union_has, h1, h2]; rfl

/-- the warm component of C06's theorem: reverting a checkpoint restores warm/cold status -/
theorem warm_restored (db : Db) (hasStorage : Addr → Bool) (rpre r0 r : Run) (op : Op) (cp : Checkpoint)
    (ops : List Op) (s' : JState)
    (hdb : DbOk db hasStorage) (hwf : WF db rpre.js)
    (hadm0 : admissible db hasStorage 0 rpre op = true)
    (hstep : step db rpre op = some r0) (hcp : r0.cps = rpre.cps ++ [cp])
    (hadm : admissibleRun db hasStorage (rpre.cps.length + 1) r0 ops = true)
    (hrun : run db r0 ops = some r)
    (hrev : revert r.js cp = some s') : SetsEq (warmSets db s') (warmSets db rpre.js) := by
  have h := Proofs.Journal.revert_restores_core hdb hwf hadm0 hstep hcp hadm hrun hrev
  refine ⟨fun a => ?_, fun a k => ?_⟩
  · exact (h.1 a).2.2.2.2.2.2.2.1
  · exact congrArg AbsSlot.warm ((h.1 a).2.2.2.2.2.2.2.2 k)

/-! ### what a transaction pre-warms, per fork

`codePreloaded` / `codePrewarmOps` (Spec/AccessHistory.lean) model what revm warms up to the first frame's load of the
target; `eipPrewarm` is the list of EIP-2929/2930/3651/7702. -/

/-- Berlin … Prague: when the first frame starts, the model's warm flags are exactly the EIP sets — sender,
recipient (or created address), precompiles, access list, coinbase from Shanghai, and from Prague the
authorities and the recipient's delegation target. `hdel`: the delegation target read by
`load_account_delegated` is the one named in the environment (none before Prague, where no designator exists). -/
theorem prewarm_set_eq_spec (db : Db) (hasStorage : Addr → Bool) (e : TxEnv) (isCreate : Bool)
    (hdb : DbOk db hasStorage) (hB : e.spec ≥ Spec.AccessSets.BERLIN)
    (hwf : WF db (JState.new e.spec (fun a => (codePreloaded e).contains a)))
    (l : Lock)
    (hrun : lockRun db hasStorage (Lock.init e.spec (fun a => (codePreloaded e).contains a))
      (codePrewarmOps e isCreate) = some l)
    (hdel : ∀ s, (if isCreate = true then none else delegateOf db s e.target) =
      (if e.spec ≥ Spec.AccessSets.PRAGUE then e.targetDelegate else none)) :
    SetsEq (warmSets db l.r.js) (Spec.AccessSets.txInit e).cur := by
  have hs := sim_run hdb _ (sim_init _ _ hwf) hrun
  obtain ⟨l1, _, hc⟩ := prewarm_cur e isCreate hrun
  rw [hdel] at hc
  exact SetsEq.trans hs.rel (SetsEq.trans hc (codeKeys_sets e hB))

/-! ### the hypotheses are satisfiable -/
section examples

def exDb : Db := { basic := fun _ => none, storage := fun _ _ => 0, delegate := fun _ => none }
def exHs : Addr → Bool := fun _ => false

theorem exDb_ok : DbOk exDb exHs := fun _ _ _ => rfl

theorem exWF (spec : Nat) (pre : Addr → Bool) : WF exDb (JState.new spec pre) := by
  intro a; simp [absAcct, JState.new, exDb, Info.default]; rw [W_val]; decide

theorem exDelegate (s : JState) (a : Addr) : delegateOf exDb s a = none := by
  unfold delegateOf
  split
  · rename_i s1 _ _
    cases s1.state a with
    | none => rfl
    | some acc => cases acc.info.code <;> simp [exDb]
  · rfl

/-- a history with transaction-level pre-warming, a frame that reverts, a frame that commits inside a frame
that reverts, and re-probing after the reverts -/
def exOps : List Op :=
  [.initLoad 7 [1, 2], .load 0xf0, .loadDelegated 0x40,
   .checkpoint, .load 5, .sload 7 1, .sload 7 3, .checkpoint, .load 6, .commit, .revert 0,
   .load 5, .load 6, .sload 7 1, .sload 7 3, .load 9]

theorem exRun : (lockRun exDb exHs (Lock.init 17 (fun a => a = 9)) exOps).isSome = true := by decide

/-- the bits reported along that history: 5 and 6 are cold again after the revert, slot (7,3) too, while the
access-list slot (7,1) and the pre-loaded address 9 stay warm -/
theorem exBits :
    let l := (lockRun exDb exHs (Lock.init 17 (fun a => a = 9)) (exOps.take 11)).get (by decide)
    coldBits exDb l.r.js (.load 5) = some [true] ∧
    (loadAccount exDb l.r.js 6).map (·.2) = some true ∧
    (sload exDb l.r.js 7 1).map (·.2.2) = some false ∧
    (sload exDb l.r.js 7 3).map (·.2.2) = some true ∧
    (loadAccount exDb l.r.js 9).map (·.2) = some false := by decide

/-- a Prague call transaction: sender 0xf0, recipient 0x40, coinbase 0x20, two precompiles, one access-list
entry, one authority -/
def exEnv : TxEnv :=
  { spec := 18, sender := 0xf0, target := 0x40, coinbase := 0x20, precompiles := [1, 2],
    accessList := [(0x30, [0, 5])], authorities := [0x21], targetDelegate := none }

theorem exEnvRun : (lockRun exDb exHs (Lock.init exEnv.spec (fun a => (codePreloaded exEnv).contains a))
    (codePrewarmOps exEnv false)).isSome = true := by decide

/-- every hypothesis of `prewarm_set_eq_spec` holds for this Prague transaction -/
example : SetsEq (warmSets exDb ((lockRun exDb exHs (Lock.init exEnv.spec (fun a => (codePreloaded exEnv).contains a))
    (codePrewarmOps exEnv false)).get exEnvRun).r.js) (Spec.AccessSets.txInit exEnv).cur :=
  prewarm_set_eq_spec exDb exHs exEnv false exDb_ok (by decide) (exWF _ _) _
    (Option.some_get exEnvRun).symm (fun s => by show delegateOf exDb s exEnv.target = none; exact exDelegate s _)

/-- Regression (repaired in /repo eeb6165b). `load_accounts` used to put `BLOCKHASH_STORAGE_ADDRESS`, which is
on no EIP list, into `warm_preloaded_addresses` from Prague; now that address is cold when the first frame
starts, as the EIP sets say. (Real transaction, harness/src/c34tx.rs: under Prague two BALANCE probes of that address,
`acctx bh=1 18 20 40 - - - bal:bb bal:bb`, must be charged `2600,100`.) -/
theorem prewarm_blockhash_regression :
    (warmSets exDb ((lockRun exDb exHs (Lock.init exEnv.spec (fun a => (codePreloaded exEnv).contains a))
      (codePrewarmOps exEnv false)).get exEnvRun).r.js).addrs BLOCKHASH_STORAGE_ADDRESS = false ∧
    (Spec.AccessSets.txInit exEnv).cur.addrs BLOCKHASH_STORAGE_ADDRESS = false := by decide

/-- a Cancun transaction satisfying every hypothesis of `prewarm_set_eq_spec` -/
def exEnv17 : TxEnv := { exEnv with spec := 17, authorities := [] }

theorem exEnv17Run : (lockRun exDb exHs (Lock.init exEnv17.spec (fun a => (codePreloaded exEnv17).contains a))
    (codePrewarmOps exEnv17 false)).isSome = true := by decide

example : SetsEq (warmSets exDb ((lockRun exDb exHs (Lock.init exEnv17.spec (fun a => (codePreloaded exEnv17).contains a))
    (codePrewarmOps exEnv17 false)).get exEnv17Run).r.js) (Spec.AccessSets.txInit exEnv17).cur :=
  prewarm_set_eq_spec exDb exHs exEnv17 false exDb_ok (by decide) (exWF _ _) _
    (Option.some_get exEnv17Run).symm (fun s => by show delegateOf exDb s exEnv17.target = none; exact exDelegate s _)

example : (Spec.AccessSets.txInit exEnv).cur.addrs 0x21 = true ∧ (Spec.AccessSets.txInit exEnv).cur.slots 0x30 5 = true ∧
    (Spec.AccessSets.txInit exEnv).cur.addrs BLOCKHASH_STORAGE_ADDRESS = false := by decide

end examples

end Revm.Props.C34
