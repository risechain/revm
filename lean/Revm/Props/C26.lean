import Revm.Proofs.EofTop
import Revm.Gen.Tables
/-! C26 — EOF decoding round-trips and validation protects execution.

*Any byte string that decodes as an EOF container re-encodes to exactly the same bytes, decoding
never panics, and validation returns the same verdict every time. Every container that validation
accepts executes without reaching any interpreter path that assumes a valid container (missing
code section, jump outside a section, missing subcontainer).*

`Model.Eof` follows `eof.rs`, `eof/header.rs`, `eof/body.rs`, `eof/types_section.rs` function by
function; `Model.EofValidate` follows `analysis.rs` (`validate_raw_eof_inner`, `validate_eof_inner`,
`validate_eof_codes`, `validate_eof_code`, `AccessTracker`). Byte strings are `List Nat` with
`IsBytes` (every element `< 256`). Every Rust slicing / indexing / `split_off` / `panic!` site is
the explicit outcome `R.panic` of the model, so "never panics" is a statement about the model that
can fail. The model is tied to the compiled code by the correspondence stream `eof`
(decode / decode_dangling / into_eof / validate verdict incl. error kind, on random bytes,
header-shaped bytes, structurally generated containers, mutated containers and the shipped
vectors), and every container the *real* validator accepts is executed by the *real* interpreter
under `catch_unwind` (a panic there is reported as a violation of the last sentence).

The proofs are in `Revm.Proofs.Eof` (codec) and `Revm.Proofs.EofValidate` … `EofTop` (validator). -/
namespace Revm.Props.C26
open Revm.Model.Eof Revm.Model.EofValidate

/-! ## 1. the codec -/

/-- **Round trip, all byte strings.** Whatever `Eof::decode` accepts re-encodes
(`Eof::encode_slow`) to exactly the input, including containers whose data section is only
partially present; the `raw` field is the input as well. -/
theorem decode_encode (bs : List Nat) (e : Eof) (hb : IsBytes bs) (h : Eof.decode bs = .ok e) :
    e.encodeSlow = bs ∧ e.raw = bs :=
  let r := Proofs.Eof.decode_ok h hb; ⟨r.1, r.2.1⟩

/-- non-vacuity: a container with a partially filled data section (1 of 2 bytes) decodes -/
example : (match Eof.decode [0xef, 0, 1, 1, 0, 4, 2, 0, 1, 0, 1, 4, 0, 2, 0, 0, 0x80, 0, 0, 0xfe, 0x11] with
    | .ok e => e.body.isDataFilled == false && e.body.dataSection == [0x11] && e.header.dataSize == 2
    | _ => false) = true := by decide

/-- **Decoding never panics**: no slice / index of `EofHeader::decode`, `consume_header_section_size`,
`EofBody::decode`, `TypesSection::decode` is out of range, for any byte string. -/
theorem decode_total (bs : List Nat) (hb : IsBytes bs) : Eof.decode bs ≠ .panic :=
  (Proofs.Eof.decode_spec hb).1

/-- the header alone: total, and what it accepts is `encode h ++ rest` (canonical header) -/
theorem header_decode_total (bs : List Nat) : Header.decode bs ≠ .panic :=
  (Proofs.Eof.headerDecode_spec bs).1

theorem header_decode_encode (bs rest : List Nat) (h : Header) (hb : IsBytes bs)
    (hd : Header.decode bs = .ok (h, rest)) : bs = h.encode ++ rest :=
  (Proofs.Eof.headerDecode_ok hd hb).1

/-- **`decode_dangling`**: never panics (`split_off` is in range); the container part re-encodes to
the prefix, the returned tail is the rest, and the data section is always completely filled. -/
theorem decode_dangling_total (bs : List Nat) (hb : IsBytes bs) : Eof.decodeDangling bs ≠ .panic :=
  (Proofs.Eof.decodeDangling_spec hb).1

theorem decode_dangling_encode (bs d : List Nat) (e : Eof) (hb : IsBytes bs)
    (h : Eof.decodeDangling bs = .ok (e, d)) :
    e.encodeSlow ++ d = bs ∧ e.raw = e.encodeSlow ∧ e.body.isDataFilled = true :=
  let r := (Proofs.Eof.decodeDangling_spec hb).2 (e, d) h; ⟨r.1, r.2.1, r.2.2.1⟩

example : (match Eof.decodeDangling
    [0xef, 0, 1, 1, 0, 4, 2, 0, 1, 0, 1, 4, 0, 0, 0, 0, 0x80, 0, 0, 0xfe, 1, 2, 3] with
    | .ok (e, d) => d == [1, 2, 3] && e.body.codeSection == [[0xfe]]
    | _ => false) = true := by decide

/-! ## 2. header size arithmetic -/

/-- `EofHeader::size()` is the number of bytes `EofHeader::encode` writes — for every header. -/
theorem header_size_eq_encode_length (h : Header) : h.encode.length = h.size :=
  Proofs.Eof.encode_length h

/-- "It is minimum 15 bytes": `13 + 2·#code sections`, and a decoded header has ≥ 1 section. -/
theorem header_size_min (bs rest : List Nat) (h : Header) (hb : IsBytes bs)
    (hd : Header.decode bs = .ok (h, rest)) : 15 ≤ h.size := by
  have := (Proofs.Eof.headerDecode_ok hd hb).2.code_pos
  have := Proofs.Eof.size_ge h
  omega

/-- `data_size_raw_i()` indexes the two bytes holding `data_size` (used by RETURNCONTRACT to patch
the deployed container). -/
theorem data_size_raw_index (h : Header) :
    (h.encode.drop h.dataSizeRawI).take 2 = be16 h.dataSize :=
  Proofs.Eof.dataSizeRawI_spec h

theorem eof_size_def (h : Header) : h.eofSize = h.size + h.bodySize := rfl

/-- A decoded container: the header's sizes describe the body exactly; the input is
`size + types + Σcode + Σcontainers + |data present|` bytes long, never longer than `eof_size()`,
and equal to it iff the data section is filled; types count = code count = `types_size / 4`;
every code / container section has the announced non-zero length; sums do not overflow `usize`. -/
theorem decoded_sizes (bs : List Nat) (e : Eof) (hb : IsBytes bs) (h : Eof.decode bs = .ok e) :
    bs.length = e.header.size + e.header.typesSize + e.header.sumCodeSizes +
        e.header.sumContainerSizes + e.body.dataSection.length ∧
    bs.length ≤ e.header.eofSize ∧
    (e.body.isDataFilled = true ↔ bs.length = e.header.eofSize) ∧
    e.body.typesSection.length = e.body.codeSection.length ∧
    4 * e.body.typesSection.length = e.header.typesSize ∧
    1 ≤ e.body.codeSection.length ∧ e.body.codeSection.length ≤ 1024 ∧
    e.body.containerSection.length ≤ 256 ∧
    e.body.codeSection.map List.length = e.header.codeSizes ∧
    e.body.containerSection.map List.length = e.header.containerSizes ∧
    (∀ c ∈ e.body.codeSection, 0 < c.length ∧ c.length < 65536) ∧
    e.header.sumCodeSizes = e.header.codeSizes.sum ∧
    e.header.sumContainerSizes = e.header.containerSizes.sum ∧
    e.header.eofSize < 2 ^ 32 := by
  obtain ⟨_, _, hw, bw, hlen⟩ := Proofs.Eof.decode_ok h hb
  have hcl : e.body.codeSection.length = e.header.codeSizes.length := by
    rw [← bw.code_len, List.length_map]
  have hkl : e.body.containerSection.length = e.header.containerSizes.length := by
    rw [← bw.cont_len, List.length_map]
  have hdl := bw.data_le
  have h1 := hw.code_count
  have h2 := hw.types_mod
  refine ⟨hlen, ?_, ?_, ?_, ?_, ?_, ?_, ?_, bw.code_len, bw.cont_len, ?_, hw.sum_code, hw.sum_cont,
    Proofs.Eof.eofSize_lt hw⟩
  · unfold Header.eofSize Header.bodySize; omega
  · rw [bw.filled, beq_iff_eq]; unfold Header.eofSize Header.bodySize; omega
  · rw [bw.types_len, hcl]
  · rw [bw.types_len]; omega
  · have := hw.code_pos; omega
  · have := hw.code_le; omega
  · have := hw.cont_le; omega
  · intro c hc
    exact hw.code_sizes _ (bw.code_len ▸ List.mem_map_of_mem hc)

/-- every decoded types entry satisfies `TypesSection::validate` (so `max_stack_size - inputs`, a
`u16` subtraction in CALLF / JUMPF, cannot underflow) -/
theorem decoded_types_ok (bs : List Nat) (e : Eof) (hb : IsBytes bs) (h : Eof.decode bs = .ok e) :
    ∀ t ∈ e.body.typesSection,
      t.inputs ≤ 0x7f ∧ t.outputs ≤ 0x80 ∧ t.maxStackSize ≤ 0x3ff ∧ t.inputs ≤ t.maxStackSize :=
  (Proofs.Eof.decode_ok h hb).2.2.2.1.types_ok

/-! ## 3. validation is a function of the bytes (determinism) -/

/-- `validate_raw_eof_inner` is modelled as a pure function, so two calls agree by reflexivity; the
content of this obligation is therefore carried by the correspondence stream, where the *real*
function is called twice on every input and the verdicts are compared (`det=1`). -/
theorem validate_deterministic (bs : List Nat) (t : Option CodeType) :
    ∀ r₁ r₂, validateRawEofInner bs t = r₁ → validateRawEofInner bs t = r₂ → r₁ = r₂ :=
  fun _ _ h₁ h₂ => h₁ ▸ h₂ ▸ rfl

/-- oversized inputs are rejected before decoding; a decode error is reported as such -/
theorem validate_rejects_undecodable (bs : List Nat) (t : Option CodeType) (e : Eof)
    (h : validateRawEofInner bs t = .ok e) :
    bs.length ≤ 49152 ∧ Eof.decode bs = .ok e ∧ e.body.isDataFilled = true :=
  let r := Proofs.EofValidate.validateRaw_ok _ h; ⟨r.1, r.2.1, r.2.2.1⟩

/-! ## 4. validation protects execution -/
open Revm.Spec.Eof

/-- the hand-copied opcode table of the model is the `OPCODE_INFO_JUMPTABLE` of the compiled code
(dumped on every run into `Gen.opInfo`: exists, inputs, outputs, immediate size, not_eof, terminating) -/
theorem opTable_matches_code :
    Gen.opInfo.map (fun (op, ex, i, o, imm, ne, t) =>
      (op, if ex = 1 then some (OpInfo.mk i o imm (ne = 1) (t = 1)) else none)) =
    (List.range 256).map (fun op => (op, opInfo op)) := by
  -- `opTable` as a list is compared in one pass; `opInfo op` per `op` is an array read for the kernel to unfold each time
  rw [show 256 = opTable.size by decide +kernel,
    show (fun op => (op, opInfo op)) = fun op => (op, (opTable[op]?).join) from rfl,
    Proofs.EofValidate.range_map_getElem? opTable fun op x => (op, x.join)]
  decide +kernel

/-- **One code section.** If `validate_eof_code` accepts a section then every instruction of its
linear decoding (`IsInstrStart`) is `InstrOk`: defined and EOF-enabled opcode, all immediates inside
the section (no truncated immediate, nothing runs off the end), CALLF / JUMPF section index
`< types.len()`, EOFCREATE / RETURNCONTRACT container index `< container_section.len()`, every
RJUMP / RJUMPI / RJUMPV target inside `[0, code.len())`. -/
theorem section_validated_in_range (code : Array Nat) (dataSize idx nContainers : Nat)
    (types : Array TypesSection) (tr tr' : Tracker)
    (h : validateEofCode code dataSize idx nContainers types tr = .ok tr') :
    SectionOk code types.size nContainers :=
  let ⟨_, _, _, v⟩ := Proofs.EofValidate.validateEofCode_valid h; v.ok

/-- **One code section: no jump into immediate bytes.** If `validate_eof_code` accepts a section
then the target of every relative jump of its linear decoding — RJUMP, RJUMPI and **every entry of
every RJUMPV table** — is the first byte of an instruction of that decoding (`IsInstrStart`), never
an immediate byte (PUSHn data, a relative offset, an RJUMPV count or table byte, a section /
container index, a DUPN / SWAPN / EXCHANGE / DATALOADN operand). Both orders are covered: the
immediate is marked *before* the jump is processed (`BackwardJumpToImmediateBytes`) and *after* it
(`mark_as_immediate` finds `is_jumpdest` => `JumpToImmediateBytes`); see `Proofs/EofJumps.lean`. -/
theorem section_jumps_on_starts (code : Array Nat) (dataSize idx nContainers : Nat)
    (types : Array TypesSection) (tr tr' : Tracker)
    (h : validateEofCode code dataSize idx nContainers types tr = .ok tr') :
    JumpsOnStarts code :=
  let ⟨_, _, _, v⟩ := Proofs.EofValidate.validateEofCode_valid h; v.jumps

/-- non-vacuity and the two neighbours: `PUSH0 PUSH0 RJUMPI+3 RJUMP+k NOP RJUMPV[0:+0] STOP` with the
RJUMP landing on the RJUMPV opcode (k = 1) or on the STOP after its table (k = 5) is accepted —
request `eof validate rs ef0001010004020001000e04000000008000025f5fe10003e000015be200000000` -/
example : (match validateRawEofInner [239, 0, 1, 1, 0, 4, 2, 0, 1, 0, 14, 4, 0, 0, 0, 0, 128, 0, 2, 95, 95, 225, 0, 3, 224, 0, 1, 91, 226, 0, 0, 0, 0] (some .ReturnOrStop),
      validateRawEofInner [239, 0, 1, 1, 0, 4, 2, 0, 1, 0, 14, 4, 0, 0, 0, 0, 128, 0, 2, 95, 95, 225, 0, 3, 224, 0, 5, 91, 226, 0, 0, 0, 0] (some .ReturnOrStop) with
    | .ok _, .ok _ => true
    | _, _ => false) = true := by decide +kernel

/-- the model refuses the same container when the earlier RJUMP lands on the count byte (k = 2) or
on a byte of the later RJUMPV's table (k = 3, 4) with `JumpToImmediateBytes` — the check made by
`mark_as_immediate` while the table is marked (request
`eof validate rs ef0001010004020001000e04000000008000025f5fe10003e000035be200000000`) -/
example : ([2, 3, 4].map fun k => match validateRawEofInner [239, 0, 1, 1, 0, 4, 2, 0, 1, 0, 14, 4, 0, 0, 0, 0, 128, 0, 2, 95, 95, 225, 0, 3, 224, 0, k, 91, 226, 0, 0, 0, 0] (some .ReturnOrStop) with
    | .err (.Validation .JumpToImmediateBytes) => true
    | _ => false) = [true, true, true] := by decide +kernel

/-- **One container.** If `validate_eof_codes` accepts, *every* code section went through
`validate_eof_code` (the access tracker: what is marked accessed is either still on the
processing stack or validated; at the end the stack is empty and everything is marked), so every
section is `SectionOk`; there are as many type entries as sections and at least one section
(`types_section.get(idx)` and `body.code(idx)` succeed together). -/
theorem container_validated_in_range (e : Eof) (t : Option CodeType) (l : List CodeType)
    (h : validateEofCodes e t = .ok l) : ContainerOk e ∧ l.length = e.body.containerSection.length :=
  ⟨Proofs.EofValidate.validateEofCodes_container h, (Proofs.EofValidate.validateEofCodes_ok _ h).subs_len⟩

/-- **Whole container, recursively (partial).** What `validate_raw_eof_inner` accepts decodes, has a
filled data section, and it and — recursively — every sub-container is `ContainerOk`; every
sub-container decodes (so `Eof::decode(sub).expect("Subcontainer is verified")` in EOFCREATE and
`EofHeader::decode(&container).expect("valid EOF header")` in RETURNCONTRACT cannot fail).
That relative jumps land on instruction starts is `validate_ok_no_jump_into_immediate` below.

Partial: see `ValidatedSafeStatement` for the full statement. Not covered here: RETF / JUMPF
return-stack discipline and the step from these static facts to "the interpreter's EOF instructions
never reach their panic sites" (both in `Props.C25`: `validation_gives_wf`, `validated_eof_safe`).
Not covered in Lean: stack-height soundness (`max_stack_size`) and the validator itself never
panicking; these are carried by the correspondence stream (verdict incl. error kind equal to the
real validator on every input) and by executing every accepted container on the real interpreter
under `catch_unwind`. -/
theorem validated_in_range_partial (bs : List Nat) (t : Option CodeType) (e : Eof)
    (h : validateRawEofInner bs t = .ok e) :
    Eof.decode bs = .ok e ∧ e.body.isDataFilled = true ∧ DeepOk e :=
  let r := Proofs.EofValidate.validateRaw_ok _ h; ⟨r.2.1, r.2.2.1, r.2.2.2.deepOk⟩

/-- non-vacuity: a two-section container (CALLF 1; POP; STOP / ORIGIN; RJUMPI +2; PUSH0; RETF; STOP)
is accepted by the model, as by the real validator (request
`eof validate rs ef000101000802000200050007040000000080000100010001e30001500032e100025fe400`) -/
example : (match validateRawEofInner [239, 0, 1, 1, 0, 8, 2, 0, 2, 0, 5, 0, 7, 4, 0, 0, 0, 0, 128, 0, 1, 0, 1, 0, 1, 227, 0, 1, 80, 0, 50, 225, 0, 2, 95, 228, 0] (some .ReturnOrStop) with
    | .ok e => e.body.codeSection.length == 2
    | _ => false) = true := by decide +kernel

/-- **No jump into immediate bytes, whole container.** In an accepted container and in every
(transitive) sub-container `e'` of it (`SubOf`), every code section is `SectionOk` and the target of
every RJUMP / RJUMPI / RJUMPV-table entry of every code section is an instruction start of that
section. So `rjump` / `rjumpi` / `rjumpv` of the interpreter, which add the offset to the
instruction pointer unchecked, always continue at an opcode the validator has looked at as an
opcode (and never e.g. at a table byte that happens to read as RETF). -/
theorem validate_ok_no_jump_into_immediate (bs : List Nat) (t : Option CodeType) (e : Eof)
    (h : validateRawEofInner bs t = .ok e) :
    ∀ e', SubOf e e' →
      ContainerOk e' ∧ ∀ code, code ∈ e'.body.codeSection → JumpsOnStarts code.toArray :=
  fun e' hs => by
  obtain ⟨_, @⟨_, _, _, hl, _, _⟩⟩ := (Proofs.EofValidate.validateRaw_ok _ h).2.2.2.sub hs
  exact ⟨Proofs.EofValidate.validateEofCodes_container hl, Proofs.EofValidate.validateEofCodes_jumps hl⟩

/-- non-vacuity: a container with a sub-container (EOFCREATE of an initcode container that
RETURNCONTRACTs a runtime container) preceded by a taken RJUMPI is accepted; `SubOf` then ranges
over three containers (request
`eof validate rs ef0001010004020001000c030001003004000000008000055f5f5f5f6001e10000ec0000ef00010100040200010004030001001404000000008000025f5fee00ef00010100040200010001040000000080000000`) -/
example : (match validateRawEofInner [239, 0, 1, 1, 0, 4, 2, 0, 1, 0, 12, 3, 0, 1, 0, 48, 4, 0, 0, 0, 0, 128, 0, 5, 95, 95, 95, 95, 96, 1, 225, 0, 0, 236, 0, 0, 239, 0, 1, 1, 0, 4, 2, 0, 1, 0, 4, 3, 0, 1, 0, 20, 4, 0, 0, 0, 0, 128, 0, 2, 95, 95, 238, 0, 239, 0, 1, 1, 0, 4, 2, 0, 1, 0, 1, 4, 0, 0, 0, 0, 128, 0, 0, 0] (some .ReturnOrStop) with
    | .ok e => e.body.containerSection.length == 1
    | _ => false) = true := by decide +kernel

/-- The full statement behind C26's last sentence, as far as it can be said of the validator alone:
validation never panics, and in every (sub-)container of an accepted container every
section is `SectionOk` **and** all relative jumps land on instruction starts. (Not in this
statement: RETF is executed only with a non-empty return stack and no EOF instruction handler reaches
a `panic!` / `expect` / out-of-range pointer, which is `Props.C25.validated_eof_safe`; that
`max_stack_size` bounds the real stack height is not proved.) The second conjunct is
`validate_ok_no_jump_into_immediate`; NOT proved is the first one (every index of the validator
itself is in range), see `validated_safe_of_total`. -/
def ValidatedSafeStatement : Prop :=
  (∀ bs t, IsBytes bs → validateRawEofInner bs t ≠ .panic) ∧
  ∀ bs t e, validateRawEofInner bs t = .ok e → ∀ e', SubOf e e' →
    ContainerOk e' ∧ ∀ code, code ∈ e'.body.codeSection → JumpsOnStarts code.toArray

/-- what is left of `ValidatedSafeStatement`: totality of the validator -/
theorem validated_safe_of_total
    (htotal : ∀ bs t, IsBytes bs → validateRawEofInner bs t ≠ .panic) : ValidatedSafeStatement :=
  ⟨htotal, fun bs t e h => validate_ok_no_jump_into_immediate bs t e h⟩

end Revm.Props.C26
