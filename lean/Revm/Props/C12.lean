import Revm.Proofs.Stack
/-! C12 — the EVM stack is a bounded LIFO of 1024 256-bit words.

`Model.Stack` is the `Vec<U256>` of `interpreter/stack.rs` with the Rust's index arithmetic (index 0 =
bottom, last element = top); `Spec.Stack` is a list whose head is the top, with limit 1024.
`abs` reads the buffer from its end. The proofs rest on `Revm.Proofs.Stack`; `peek_push` and `push_pop` are proved here.

Preconditions. `Op.pre` is the documented contract of the API: `dup n` needs `n > 0`, `swap n` /
`exchange n m` need `m > 0` (`assume!` in the Rust: a panic in debug builds, `unreachable_unchecked`
in release builds) and `n + m` must not wrap in `usize`, `popTop k v` (`pop_top!` with `k - 1` names) needs `k > 0`.
The opcode handlers of `instructions/stack.rs` always satisfy it (`instr_args_pre`). `d.length ≤ 1024` is the
invariant itself (`len_le_1024`), it holds for `Stack::new()`.

Reading of "the last word right-padded with zeros" (DESIGN §8): numerically `push_slice` zero-EXTENDS
the short last chunk (`push_slice(&[0x2a])` pushes 42, as PUSH1 must and as the repo's unit test
asserts); the zeros are the trailing `u64` limbs of the word in ruint's little-endian limb array.
`push_slice_words` states the values exactly as the code produces them, and
`push_slice_not_byte_right_padded_counterexample` records that the byte-level reading of the sentence
(value of `chunk ++ zeros`) is not what the code does. -/
namespace Revm.Props.C12
open Revm Revm.Model.Stack
open Revm.Proofs.Stack (abs)

/-- each of push, push_b256, pop, peek, dup, swap, exchange, set, push_slice, and the `pop!` /
`pop_top!` macros over the `pop_unsafe` family (length check, then `pop<k>_unsafe` /
`pop<k-1>_top_unsafe` and a store through the returned `&mut` top), run on the buffer `d`, returns
the Spec's result and leaves the buffer that reads (top first) as the Spec's new list -/
theorem step_refines (d : List Nat) (op : Op) (hd : d.length ≤ STACK_LIMIT) (hp : op.pre) :
    abs (step d op) = Spec.Stack.step d.reverse op := Proofs.Stack.step_refines d op hd hp
example : ([5, 6, 7] : List Nat).length ≤ STACK_LIMIT ∧ (Op.exchange 0 2).pre := by
  refine ⟨by decide, by decide, ?_⟩; rw [U64_val]; omega

/-- the same for any sequence of calls from any stack within the limit (in particular from
`Stack::new()`): same final stack, same list of results -/
theorem run_refines (d : List Nat) (ops : List Op) (hd : d.length ≤ STACK_LIMIT) (hp : ∀ op ∈ ops, op.pre) :
    ((run d ops).1.reverse, (run d ops).2) = Spec.Stack.run d.reverse ops :=
  Proofs.Stack.run_refines ops d hd hp
example : (new).length ≤ STACK_LIMIT ∧ ∀ op ∈ [Op.push 1, Op.dup 1, Op.pop, Op.pushSlice [1, 2]], op.pre := by
  refine ⟨by decide, ?_⟩; intro op h; simp at h; rcases h with rfl | rfl | rfl | rfl <;> simp [Op.pre]

/-- an operation that reports StackOverflow / StackUnderflow leaves the stack unchanged
(no hypothesis: any buffer, any arguments) -/
theorem error_leaves_unchanged (d : List Nat) (op : Op) (e : Err) (h : (step d op).2 = .err e) :
    (step d op).1 = d :=
  Proofs.Stack.step_fail_unchanged d op (by rw [h]; rfl)
example : (step [1] (.dup 2)).2 = .err .StackUnderflow := by decide
example : (step [] .pop).2 = .err .StackUnderflow := by decide

/-- more generally, anything that is not a success (error, or outside the preconditions the
model's `panic` / `ub`) leaves it unchanged -/
theorem failure_leaves_unchanged (d : List Nat) (op : Op) (h : (step d op).2.failed = true) :
    (step d op).1 = d := Proofs.Stack.step_fail_unchanged d op h
example : (step [1, 2] (.popN 3)).2.failed = true := by decide

/-- with the preconditions, the bounds-checked indexing never panics and the raw-pointer copies of
`dup` / `exchange` / `push_slice` stay inside the initialised part of the buffer -/
theorem no_panic_no_ub (d : List Nat) (ops : List Op) (hd : d.length ≤ STACK_LIMIT)
    (hp : ∀ op ∈ ops, op.pre) : ∀ o ∈ (run d ops).2, o ≠ .panic ∧ o ≠ .ub := by
  induction ops generalizing d with
  | nil => intro o ho; simp [run] at ho
  | cons op ops ih =>
    intro o ho
    simp only [run, List.mem_cons] at ho
    rcases ho with rfl | ho
    · exact Proofs.Stack.step_no_panic_ub d op hd (hp op (by simp))
    · exact ih (step d op).1 (Proofs.Stack.step_len_le d op hd (hp op (by simp)))
        (fun o ho => hp o (by simp [ho])) o ho

/-- the opcode handlers (`pop`, `push0`, `push<N>`, `dup<N>`, `swap<N>`, `dupn`, `swapn`, `exchange`)
only make calls that satisfy the preconditions -/
theorem instr_args_pre (opcode : Nat) (imm : List Nat) (op : Op) (hi : ∀ b ∈ imm, b < 256)
    (h : instrOp opcode imm = some op) : op.pre := Proofs.Stack.instrOp_pre opcode imm op hi h
example : instrOp 0xe8 [0x2f] = some (.exchange 3 16) := by decide

/-- after any sequence of calls the stack holds at most 1024 words -/
theorem len_le_1024 (d : List Nat) (ops : List Op) (hd : d.length ≤ STACK_LIMIT) (hp : ∀ op ∈ ops, op.pre) :
    (run d ops).1.length ≤ 1024 := Proofs.Stack.run_len_le ops d hd hp

theorem len_le_1024_from_new (ops : List Op) (hp : ∀ op ∈ ops, op.pre) :
    (run new ops).1.length ≤ 1024 := Proofs.Stack.run_len_le ops new (by decide) hp

/-- and every word on it is a 256-bit word, when the pushed payloads are -/
theorem words_lt_W (d : List Nat) (ops : List Op) (hd : d.length ≤ STACK_LIMIT) (hw : ∀ w ∈ d, w < W)
    (hp : ∀ op ∈ ops, op.pre ∧ op.wf) : ∀ w ∈ (run d ops).1, w < W := by
  induction ops generalizing d with
  | nil => exact hw
  | cons op ops ih =>
    have h := hp op (by simp)
    exact ih (step d op).1 (Proofs.Stack.step_len_le d op hd h.1) (Proofs.Stack.step_words_lt d op hd hw h.1 h.2)
      (fun o ho => hp o (by simp [ho]))
example : (Op.pushSlice [255, 0, 1]).pre ∧ (Op.pushSlice [255, 0, 1]).wf := by
  refine ⟨trivial, ?_⟩; intro b h; simp at h; omega

/-! Last in, first out, stated on the code-shaped model itself. -/

theorem pop_push (d : List Nat) (v : Nat) (h : d.length < STACK_LIMIT) :
    pop (push d v).1 = (d, .ok v) := Proofs.Stack.pop_push d v h
theorem peek_push (d : List Nat) (v : Nat) (h : d.length < STACK_LIMIT) :
    peek (push d v).1 0 = ((push d v).1, .ok v) := by
  have : ¬ d.length = STACK_LIMIT := by omega
  simp [push, peek, this]
theorem push_pop (d : List Nat) (v : Nat) (hd : d.length ≤ STACK_LIMIT) (h : (pop d).2 = .ok v) :
    push (pop d).1 v = (d, .ok ()) := by
  rcases List.eq_nil_or_concat d with rfl | ⟨l, a, rfl⟩
  · simp [pop] at h
  · simp [pop, List.concat_eq_append] at h hd ⊢
    subst h
    have : ¬ l.length = STACK_LIMIT := by omega
    simp [push, this]
example : (pop [3, 4]).2 = .ok 4 := by decide

/-- the unchecked pops behind `pop!` with `k` names, whenever the macro's length check passed: the
`k` top words, first popped first, and the rest of the buffer -/
theorem pop_unchecked_family (d : List Nat) (k : Nat) (h : k ≤ d.length) :
    popNUnsafe k d = ((d.reverse.drop k).reverse, .ok (d.reverse.take k)) := by
  have := Proofs.Stack.popNUnsafe_rev k d.reverse (by simpa using h)
  rwa [List.reverse_reverse] at this
example : popNUnsafe 2 [1, 2, 3] = ([1], .ok [3, 2]) := by decide

/-- `push_slice` is all-or-nothing; on success it appends one word per 32-byte chunk, in order (the
first chunk deepest, the last chunk on top), each word being the big-endian value
`Σ bᵢ·256^(k-1-i)` of its `k ≤ 32` bytes — for the short last chunk that is a zero-extension
(left-padding as bytes), see the header. The limb-level writes of the Rust (`rchunks_exact(8)`,
`tmp`, `write_bytes(0, 4 - m)`) are in `Model.Stack.pushSlice`; this is their closed form. -/
theorem push_slice_words (d bs : List Nat) (hd : d.length ≤ STACK_LIMIT) :
    pushSlice d bs =
      if d.length + Spec.Stack.ceil32 bs.length > STACK_LIMIT then (d, .err .StackOverflow)
      else (d ++ (Spec.Stack.chunks32 bs).map Spec.Stack.beNat, .ok ()) :=
  Proofs.Stack.pushSlice_eq d bs hd

/-- it pushes `⌈len / 32⌉` words -/
theorem push_slice_count (bs : List Nat) :
    (Spec.Stack.chunks32 bs).length = (bs.length + 31) / 32 := Proofs.Stack.chunks32_length bs

/-- the `i`-th pushed word comes from bytes `32 i ..< min (32 i + 32) len` -/
theorem push_slice_chunk (bs : List Nat) (i : Nat) :
    (Spec.Stack.chunks32 bs)[i]? =
      if 32 * i < bs.length then some ((bs.drop (32 * i)).take 32) else none :=
  Proofs.Stack.chunks32_get i bs

/-- overflow is reported iff `len + ⌈n / 32⌉ > 1024` -/
theorem push_slice_overflow_iff (d bs : List Nat) (hd : d.length ≤ STACK_LIMIT) :
    (pushSlice d bs).2 = .err .StackOverflow ↔ d.length + (bs.length + 31) / 32 > 1024 := by
  rw [Proofs.Stack.pushSlice_eq d bs hd]
  by_cases h : d.length + Spec.Stack.ceil32 bs.length > STACK_LIMIT
  · rw [if_pos h]; simp; exact h
  · rw [if_neg h]; simp; exact Nat.le_of_not_gt h

/-- concrete values: a 1-byte slice, and a 33-byte slice (one full word, then a 1-byte chunk) -/
theorem push_slice_short_chunk_zero_extended :
    pushSlice [] [0x2a] = ([42], .ok ()) ∧
    pushSlice [7] (List.replicate 31 0 ++ [1] ++ [0xab]) = ([7, 1, 0xab], .ok ()) :=
  ⟨Proofs.Stack.pushSlice_2a, Proofs.Stack.pushSlice_33⟩

/-- the byte-level reading of "last word right-padded with zeros" (the value of the 32 bytes
`chunk ++ 0…0`, here `0x2a·256^31`) is NOT what `push_slice` pushes. This is the wording issue of
DESIGN §8, not a defect: the Ethereum specification requires PUSH1 0x2a to push 42. -/
theorem push_slice_not_byte_right_padded_counterexample :
    (pushSlice [] [0x2a]).1 ≠ [Spec.Stack.beNat ([0x2a] ++ List.replicate 31 0)] := by
  rw [Proofs.Stack.pushSlice_2a]; decide

end Revm.Props.C12
