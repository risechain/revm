import Revm.Proofs.EvmLinkValidate
import Revm.Spec.Evm
import Revm.Proofs.EvmLinkLoop
import Revm.Props.C02
import Revm.Proofs.EvmLinkHost
import Revm.Props.C34
import Revm.Proofs.EvmLinkGasLoop
import Revm.Proofs.EvmLinkFeesTx
import Revm.Proofs.EvmLinkEtherTx
import Revm.Proofs.EvmLinkStaticLoop
import Revm.Proofs.EvmLinkTerm
import Revm.Proofs.EvmLinkTotalTx
import Revm.Proofs.EvmLinkInterpFrame
import Revm.Proofs.EvmLinkPcOut
import Revm.Proofs.EvmLinkInterpTx
import Revm.Proofs.EvmLinkHaltOutput
/-! C01Link — the whole-transaction model `Revm.Model.Evm.transact` (C01) SATISFIES the component properties.

`Evm.transact` and the component models that carry the proved properties (`Model.TxValidate` C02, `Model.TxGas` C09,
`Model.Frame` C07, …) are separate texts, each tied to the Rust code by its own correspondence stream. A LINK theorem
says that a part of the whole-EVM model IS the component model (equal as functions) or keeps its invariant; a COROLLARY
restates a component property on `Evm.transact` / `Evm.preverify` / `Evm.finalGas` / `Evm.runLoop` themselves.
The translations (`tvTx`, `senderOf`, `gasEnv`, `frameRes`, `toIR` …: environment, sender and first frame's result as
C02 / C09 read them) and the predicates of the statements (`KOutcome`, `GasNext`, `LoopInv`, `Steps`, `SW`, `WOk` …) are
in the namespace `Revm.Proofs.EvmLink`: each is found by its name under `Proofs/EvmLink*.lean`,
`Proofs/FrameKept*.lean` or `Proofs/EvmMove.lean`.

HYPOTHESISED: `loadSender … = .ok …` (the journal can load the sender: no `unwrap` panic in the journal model, the
code store knows the sender's code hash); for C34 the history `lockRun … = some l` leading to the world's journal.
C09's hypothesis on the first frame (`FrameAccounting`) is not among them: `evm_frame_accounting`. -/
namespace Revm.Props.C01Link
open Revm Revm.Model Revm.Model.Evm
open Revm.Proofs.EvmLink
open Revm.Model.GasCalc (enabled)
open Revm.Spec.GasCalc (Fork)
open Revm.Spec.TxValid
open Revm.Proofs.TxValidate (InRange GasFits TypeGap BlobFeeSaturation)

/-! ## 1. validation (C02) -/

/-- LINK: `Evm.validateEnv` (accept / reject / panic) is `TxValidate.validateEnv` of C02, as functions -/
theorem evm_validateEnv_eq_txvalidate (e : Evm.Env) (spec : Nat) :
    Evm.validateEnv e spec = resToR (TxValidate.validateEnv spec (tvCfg e) (tvBlock e) (tvTx e)) :=
  validateEnv_link e spec

/-- LINK: `Evm.validateAgainstState` accepts exactly when `TxValidate.validateTxAgainstState` answers `Ok` -/
theorem evm_validateAgainstState_eq_txvalidate (e : Evm.Env) (spec : Nat) (code : List Nat) (info : Journal.Info) :
    Evm.validateAgainstState e spec code info =
      accepted (TxValidate.validateTxAgainstState spec (tvTx e) (senderOf code info)) :=
  validateAgainstState_link e spec code info

/-- LINK: the validation `Evm.preverify` performs agrees with `TxValidate.validateCanon` (C02) on the sender as the
journal loads it — accepted iff `Ok`, rejected iff some `Err`, panic iff `panic` -/
theorem evm_validation_accepts_iff (w w1 : World) (e : Evm.Env) (spec : Nat) (acc : Journal.Acct) (code : List Nat)
    (hload : loadSender w e.tx.caller = .ok (w1, acc, code)) :
    ((∃ x, Evm.preverify w e spec = .ok (some x)) ↔
      TxValidate.validateCanon spec (tvCfg e) (tvBlock e) (tvTx e) (senderOf code acc.info) = .ok) ∧
    (Evm.preverify w e spec = .ok none ↔
      ∃ err, TxValidate.validateCanon spec (tvCfg e) (tvBlock e) (tvTx e) (senderOf code acc.info) = .err err) ∧
    ((∃ msg, Evm.preverify w e spec = .error (.panic msg)) ↔
      TxValidate.validateCanon spec (tvCfg e) (tvBlock e) (tvTx e) (senderOf code acc.info) = .panic) := by
  obtain ⟨h1, h2, h3⟩ := preverify_verdict w w1 e spec acc code hload
  cases hv : TxValidate.validateCanon spec (tvCfg e) (tvBlock e) (tvTx e) (senderOf code acc.info) with
  | ok =>
    obtain ⟨ig, fg, _, hp⟩ := h1 hv
    refine ⟨⟨fun _ => rfl, fun _ => ⟨_, hp⟩⟩, ⟨fun h => ?_, fun ⟨_, h⟩ => nomatch h⟩, ⟨fun ⟨_, h⟩ => ?_, fun h => nomatch h⟩⟩
    · rw [hp] at h; cases h
    · rw [hp] at h; cases h
  | err x =>
    have hp := h2 x hv
    refine ⟨⟨fun ⟨_, h⟩ => ?_, fun h => nomatch h⟩, ⟨fun _ => ⟨x, rfl⟩, fun _ => hp⟩, ⟨fun ⟨_, h⟩ => ?_, fun h => nomatch h⟩⟩
    · rw [hp] at h; cases h
    · rw [hp] at h; cases h
  | panic =>
    obtain ⟨msg, hp⟩ := h3 hv
    refine ⟨⟨fun ⟨_, h⟩ => ?_, fun h => nomatch h⟩, ⟨fun h => ?_, fun ⟨_, h⟩ => nomatch h⟩, ⟨fun _ => rfl, fun _ => ⟨msg, hp⟩⟩⟩
    · rw [hp] at h; cases h
    · rw [hp] at h; cases h

/-- a sender that loads: one pre-state account on a fresh journal -/
def sampleWorld : World :=
  { js := Journal.JState.new 17 (fun _ => false),
    pre := [{ addr := 0xaa, balance := 10^18, nonce := 0, code := [], codeHash := KECCAK_EMPTY, storage := [] }] }
def sampleEnv : Evm.Env :=
  { block := { gasLimit := 30000000, basefee := 7, prevrandao := some 0, blobGasPrice := some 1 },
    tx := { caller := 0xaa, gasLimit := 21000, gasPrice := 10, to := some 0xbb, value := 5, nonce := some 0 } }

example : ∃ r, loadSender sampleWorld sampleEnv.tx.caller = .ok r :=
  Proofs.Evm.exists_of_isOk (by decide +kernel)

/-- COROLLARY (C02 `rejected_iff_invalid_partial` on `Evm.transact`): a transaction is answered `rejected` by the
whole-EVM model exactly when it breaks a validity rule of its hardfork (`Spec.TxValid.ValidTx`), outside the departure
regions of C02 (`TypeGap`, `BlobFeeSaturation`) -/
theorem transact_rejected_iff_invalid_partial (f : Fork) (fuel : Nat) (w w1 : World) (e : Evm.Env)
    (acc : Journal.Acct) (code : List Nat) (hload : loadSender w e.tx.caller = .ok (w1, acc, code))
    (hr : InRange (tvBlock e) (tvTx e) (senderOf code acc.info)) (hfit : GasFits f (tvTx e))
    (hgap : ¬ TypeGap f (tvTx e) (senderOf code acc.info))
    (hsat : ¬ BlobFeeSaturation (tvTx e) (senderOf code acc.info)) :
    (∃ w', Evm.transact fuel w e f.id = .ok (.rejected, w')) ↔
      ¬ ValidTx f (tvCfg e) (tvBlock e) (tvTx e) (senderOf code acc.info) := by
  rw [← Props.C02.rejected_iff_invalid_partial f _ _ _ _ hr hfit hgap hsat]
  have hl := (evm_validation_accepts_iff w w1 e (GasCalc.canon f.id) acc code hload).2.1
  constructor
  · rintro ⟨w', h⟩
    exact hl.1 ((transactWith_rejected_iff journalOps fuel w w' e f.id).1 h).1
  · intro h
    exact ⟨w, (transactWith_rejected_iff journalOps fuel w w e f.id).2 ⟨hl.2 h, rfl⟩⟩

/-- the full statement: without the excluded regions. False of the code, by C02's counterexamples (the code accepts a
priority fee before London, a delegated sender before Prague, a saturated blob fee). -/
def FullStatement_transact_rejected_iff_invalid : Prop :=
  ∀ (f : Fork) (fuel : Nat) (w w1 : World) (e : Evm.Env) (acc : Journal.Acct) (code : List Nat),
    loadSender w e.tx.caller = .ok (w1, acc, code) →
    InRange (tvBlock e) (tvTx e) (senderOf code acc.info) → GasFits f (tvTx e) →
    ((∃ w', Evm.transact fuel w e f.id = .ok (.rejected, w')) ↔
      ¬ ValidTx f (tvCfg e) (tvBlock e) (tvTx e) (senderOf code acc.info))

/-- the Berlin witness of C02 (`priority_fee_before_london_counterexample`) as a whole-EVM transaction: sender `0xaa`
with 10^18 wei and nonce 3, a plain transfer carrying `gas_priority_fee = Some(0)` -/
def ceWorld : World :=
  { js := Journal.JState.new 11 (fun _ => false),
    pre := [{ addr := 0xaa, balance := 10^18, nonce := 3, code := [], codeHash := KECCAK_EMPTY, storage := [] }] }
def ceEnv : Evm.Env :=
  { block := { gasLimit := 30000000, basefee := 7, prevrandao := some 0, blobGasPrice := some 1 },
    tx := { caller := 0xaa, gasLimit := 21000, gasPrice := 10, to := some 0xbb, value := 5, nonce := some 3,
            chainId := some 1, priorityFee := some 0 } }

/-- the full statement is FALSE of the whole-EVM model too (as it is of the code, C02): `Evm.transact` EXECUTES the
Berlin transaction with a priority fee, which `Spec.TxValid.ValidTx` rejects (EIP-1559 transactions do not exist before
London) — the departure region `TypeGap` of C02, reproduced by the whole-transaction model -/
theorem transact_rejected_iff_invalid_full_counterexample : ¬ FullStatement_transact_rejected_iff_invalid := by
  intro hall
  obtain ⟨w1, acc, code, hl, hs⟩ :=
    loadedSenderIs_spec (w := ceWorld) (a := ceEnv.tx.caller) (snd := Props.C02.sndPlain) (by decide +kernel)
  have htx : tvTx ceEnv = { Props.C02.txPlain with priorityFee := some 0 } := rfl
  have hblk : tvBlock ceEnv = Props.C02.blkPlain := rfl
  have hcfg : tvCfg ceEnv = {} := rfl
  have hr : InRange (tvBlock ceEnv) (tvTx ceEnv) (senderOf code acc.info) := by
    rw [hs, htx, hblk]
    exact Props.C02.inRange_plain _ _ (by rw [W_val, U64_val]; decide)
  have hf : GasFits .berlin (tvTx ceEnv) := by
    rw [htx]; unfold GasFits; rw [U64_val]; decide
  have hiff := hall .berlin 10 ceWorld w1 ceEnv acc code hl hr hf
  rw [hs, htx, hblk, hcfg] at hiff
  obtain ⟨w', hrej⟩ := hiff.2 Props.C02.priority_fee_before_london_counterexample.2
  obtain ⟨r, w'', hex⟩ : ∃ r w'', Evm.transact 10 ceWorld ceEnv Fork.berlin.id = .ok (.executed r, w'') :=
    exists_of_isExecuted (by decide +kernel)
  rw [hex] at hrej
  cases hrej

/-- COROLLARY (C02 `valid_accepted`, full strength): a valid transaction is never answered `rejected` -/
theorem transact_valid_not_rejected (f : Fork) (fuel : Nat) (w w1 w' : World) (e : Evm.Env)
    (acc : Journal.Acct) (code : List Nat) (hload : loadSender w e.tx.caller = .ok (w1, acc, code))
    (hr : InRange (tvBlock e) (tvTx e) (senderOf code acc.info)) (hfit : GasFits f (tvTx e))
    (hvalid : ValidTx f (tvCfg e) (tvBlock e) (tvTx e) (senderOf code acc.info)) :
    Evm.transact fuel w e f.id ≠ .ok (.rejected, w') := by
  intro h
  have hrej := ((transactWith_rejected_iff journalOps fuel w w' e f.id).1 h).1
  obtain ⟨err, herr⟩ := (evm_validation_accepts_iff w w1 e (GasCalc.canon f.id) acc code hload).2.1.1 hrej
  have hok := Props.C02.valid_accepted f _ _ _ _ hr hfit hvalid
  unfold TxValidate.validate at hok
  rw [hok] at herr; cases herr

/-- COROLLARY (C02 "a rejected transaction changes nothing"): `Evm.transact` hands a rejected transaction's world back
unchanged — not even the sender's account stays loaded -/
theorem transact_rejected_world_unchanged (fuel : Nat) (w w' : World) (e : Evm.Env) (spec : Nat)
    (h : Evm.transact fuel w e spec = .ok (.rejected, w')) : w' = w :=
  ((transactWith_rejected_iff journalOps fuel w w' e spec).1 h).2

/-- a rejected transaction exists: gas limit below the intrinsic gas -/
example : ∃ w', Evm.transact 10 sampleWorld { sampleEnv with tx := { sampleEnv.tx with gasLimit := 20999 } } 17
    = .ok (.rejected, w') :=
  ⟨_, (transactWith_rejected_iff journalOps 10 _ _ _ 17).2 ⟨eq_none_of_isNoneOk (by decide +kernel), rfl⟩⟩

/-! ## 2. gas and fees (C09) -/

open Revm.Model.Gas in
/-- LINK: **the gas pipeline of `EvmTx` is `TxGas`** (C09), as functions: `last_frame_return`, `refund` and the EIP-7623
floor give `TxGas.finalGas` for every first-frame result, every floor and every number `k` of refunded EIP-7702
authorities; the classification of results is `TxGas.IR.gasClass` / `IR.report`; `effective_gas_price`, the data fees,
the first frame's gas limit, the reimbursement and the reward are the `TxGas` functions -/
theorem evm_gas_pipeline_eq_txgas (e : Evm.Env) (spec floorGas k : Nat) (res : Interp.ChildResult) (limit : Nat) :
    Evm.finalGas e spec floorGas (U64ops.wmul k (Evm.PER_EMPTY_ACCOUNT_COST - Evm.PER_AUTH_BASE_COST)) res =
      TxGas.finalGas (gasEnv e spec) floorGas k (frameRes res limit) ∧
    (toIR res.result).gasClass =
      (if res.result.isOk then .ok else if res.result.isRevert then .revert else .other) ∧
    classOf res.result = classOfReport (toIR res.result).report ∧
    e.effectiveGasPrice = TxGas.effectiveGasPrice (gasEnv e spec) ∧
    e.calcDataFee = TxGas.calcDataFee (gasEnv e spec) ∧
    e.calcMaxDataFee = TxGas.calcMaxDataFee (gasEnv e spec) ∧
    (∀ ig, U64ops.wsub e.tx.gasLimit ig = TxGas.frameGasLimit (gasEnv e spec) ig) ∧
    (∀ g : Gas, U256.wmul e.effectiveGasPrice (U64ops.wadd g.remaining (i64AsU64 g.refunded)) =
      TxGas.reimburseAmount (gasEnv e spec) g) ∧
    (∀ g : Gas, U256.wmul (if enabled spec GasCalc.SpecId.LONDON then U256.saturatingSub e.effectiveGasPrice e.block.basefee
        else e.effectiveGasPrice) (U64ops.wsub (spent g) (i64AsU64 g.refunded)) = TxGas.rewardAmount (gasEnv e spec) g) :=
  ⟨finalGas_eq_txgas e spec floorGas k res limit, toIR_gasClass _, classOf_eq_report _, rfl, calcDataFee_eq e spec,
   calcMaxDataFee_eq e spec, fun _ => rfl, fun _ => rfl, fun _ => rfl⟩

/-- LINK: what `Evm.deductCaller` takes from the caller is `TxGas.deductAmount`, applied with `TxGas.deductCaller` -/
theorem evm_deduct_caller_eq_txgas (e : Evm.Env) (spec : Nat) (w w' : World) (h : Evm.deductCaller e spec w = .ok w') :
    ∃ (w1 : World) (cold : Bool) (acc acc' : Journal.Acct) (d : Nat),
      w.loadAccount e.tx.caller = .ok (w1, cold) ∧ w1.acct e.tx.caller = .ok acc ∧
      TxGas.deductAmount (gasEnv e spec) = some d ∧
      w'.js.state e.tx.caller = some acc' ∧
      acc'.info.balance = TxGas.deductCaller acc.info.balance d ∧
      acc'.info.nonce = (if e.tx.to.isSome then U64ops.saturatingAdd acc.info.nonce 1 else acc.info.nonce) ∧
      (∀ x, x ≠ e.tx.caller → w'.js.state x = w1.js.state x) :=
  deductCaller_leg e spec w w' h

/-- a completed executed transaction exists (the plain transfer of C01) -/
example : ∃ r w', Evm.transact 10 sampleWorld sampleEnv 17 = .ok (.executed r, w') :=
  exists_of_isExecuted (by decide +kernel)

/-! ### frame accounting through `Evm.runLoop` -/

/-- LINK (C13 / C25 gas accounting on the interpreter `Evm.runLoop` runs): one step of ANY frame in ANY state keeps
`is_static` and the limit of its gas meter, only spends gas, and an action it hands out (CALL family, CREATE, EOFCREATE,
EXT*CALL — directly or after the host's answer) has paid for the child's gas limit:
`remaining' + child_gas_limit ≤ remaining` (for a CALL with value the 2300 stipend is covered by the 9000 surcharge) -/
theorem evm_step_gas_accounting (s : Interp.IState) : KOutcome s (Interp.step s) := step_kept s

/-- the loop invariant "every open frame's remaining ≤ its limit, and a child's limit ≤ what the parent paid", along
ANY run of `run_the_loop` (no fuel in the statement): from a state satisfying it, every state passed satisfies it, and
the first frame's result gives back at most the first frame's gas limit `L0` -/
theorem evm_loop_gas_invariant (cfg : Cfg) (L0 : Nat) (n m : Next Journal.Checkpoint) (t : Steps cfg n m)
    (hi : GasNext L0 n) : GasNext L0 m := steps_gas t hi

/-- a state satisfying the invariant: one fresh frame -/
example : GasNext 100000 (.run [
    { kind := .call 0 0, checkpoint := { logI := 0, journalI := 1 },
      interp := Interp.IState.init [] [] 100000 false 17 0 0 0 {} Memory.new }] sampleWorld) :=
  .run (Nat.le_refl _) rfl

/-- COROLLARY — **the frame machine's guarantee, the hypothesis of C09 (`Admissible.frame_remaining`) and of C01
`transact_gas_bounds`, holds of the whole-EVM model**: for every world, transaction, fork and fuel, the first frame of
`Evm.transact` gives back at most the gas it was given, `gas_limit − initial_gas` -/
theorem evm_frame_accounting (fuel : Nat) (w : World) (e : Evm.Env) (spec : Nat) : FrameAccounting fuel w e spec :=
  frameAccounting fuel w e spec


open Revm.Model.Gas Revm.Model.TxGas in
/-- COROLLARY (C09 `spent_bounds`, `used_le_limit`, `floor_le_used`, `used_eq_max` on `Evm.transact`): for a completed
executed transaction intrinsic gas ≤ gas spent ≤ gas limit, the reported
`gas_used` is at most the gas limit, at least the EIP-7623 floor, and equals `max (spent − refunded) floor` -/
theorem transact_spent_bounds (fuel : Nat) (w w' : World) (e : Evm.Env) (spec : Nat) (r : TxResult)
    (h : Evm.transact fuel w e spec = .ok (.executed r, w'))
    (hL : e.tx.gasLimit < U64) :
    ∃ ig fg k res,
      initialGas e (GasCalc.canon spec) = some (ig, fg) ∧
      ig ≤ spent (Props.C09.afterRefund (gasEnv e (GasCalc.canon spec)) k (txFrame e ig res)) ∧
      spent (Props.C09.afterRefund (gasEnv e (GasCalc.canon spec)) k (txFrame e ig res)) ≤ e.tx.gasLimit ∧
      r.gasUsed ≤ e.tx.gasLimit ∧ fg ≤ r.gasUsed ∧
      r.gasUsed = max (spent (Props.C09.afterRefund (gasEnv e (GasCalc.canon spec)) k (txFrame e ig res)) -
        gasRefunded (Props.C09.afterRefund (gasEnv e (GasCalc.canon spec)) k (txFrame e ig res))) fg := by
  obtain ⟨x, rfl, rfl⟩ := transact_exec h
  have ha := x.admissible hL
  have hb := Props.C09.spent_bounds _ _ _ x.k _ ha
  rw [x.out.2.2.1]
  exact ⟨x.ig, x.fg, x.k, x.res, x.initial, hb.1, hb.2, Props.C09.used_le_limit _ _ _ _ _ ha,
    Props.C09.floor_le_used _ _ _ _ _ ha, Props.C09.used_eq_max _ _ _ _ _ ha⟩

open Revm.Model.Gas Revm.Model.TxGas in
/-- COROLLARY (C09 `refund_cap`, `used_plus_refunded` on the RESULT of `Evm.transact`): the reported refund is at most
a fifth (London on; half before) of the gas spent, where spent = `gas_used + gas_refunded` of the result; on revert and
halt the reported refund is 0 -/
theorem transact_refund_cap (fuel : Nat) (w w' : World) (e : Evm.Env) (spec : Nat) (r : TxResult)
    (h : Evm.transact fuel w e spec = .ok (.executed r, w'))
    (hL : e.tx.gasLimit < U64) :
    r.gasRefunded ≤ (r.gasUsed + r.gasRefunded) / (if enabled (GasCalc.canon spec) GasCalc.SpecId.LONDON = true then 5 else 2) ∧
    (r.cls ≠ .success → r.gasRefunded = 0) := by
  obtain ⟨x, rfl, rfl⟩ := transact_exec h
  have ha := x.admissible hL
  obtain ⟨_, _, hu, hs, hn⟩ := x.out
  refine ⟨?_, hn⟩
  by_cases hc : x.r.cls = .success
  · rw [hu, hs hc, (Props.C09.used_plus_refunded _ _ _ _ _ ha).1]
    exact (Props.C09.refund_cap _ _ _ _ _ ha).1
  · rw [hn hc]; exact Nat.zero_le _

open Revm.Model.Gas Revm.Model.TxGas in
/-- COROLLARY (C09 `halt_uses_all_partial` on `Evm.transact`): a halted transaction without an EIP-7702 authorization
list, whose halt is not one of the two revert-class results `CallTooDeep` / `OutOfFunds`, uses its whole gas limit -/
theorem transact_halt_uses_all_partial (fuel : Nat) (w w' : World) (e : Evm.Env) (spec : Nat) (r : TxResult)
    (h : Evm.transact fuel w e spec = .ok (.executed r, w'))
    (hL : e.tx.gasLimit < U64)
    (hcls : r.cls = .halt) (hauth : e.tx.authList = none)
    (hir : r.reason ≠ .CallTooDeep ∧ r.reason ≠ .OutOfFunds) :
    r.gasUsed = e.tx.gasLimit := by
  obtain ⟨x, rfl, rfl⟩ := transact_exec h
  obtain ⟨hc, hreason, hu, _⟩ := x.out
  have hk := x.k_le
  rw [authLen_none hauth] at hk
  have ha := x.admissible hL
  rw [Nat.le_zero.mp hk] at hu
  rw [hu]
  have hrep : (txFrame e x.ig x.res).ir.report = .halt := by
    show (toIR x.res.result).report = .halt
    rw [classOf_eq_report, hcls] at hc
    generalize (toIR x.res.result).report = rep at hc
    cases rep <;> first | rfl | cases hc
  rw [hreason] at hir
  exact Props.C09.halt_uses_all_partial _ _ _ _ ha hrep
    ⟨fun hx => hir.1 (toIR_depth_or_funds.1 hx), fun hx => hir.2 (toIR_depth_or_funds.2 hx)⟩

/-- the literal clause on `Evm.transact` without the two hypotheses; false of the code for EIP-7702 transactions with a
refunded authority (C09 `halt_uses_all_counterexample`: the behaviour EIP-7702 specifies) -/
def FullStatement_transact_halt_uses_all : Prop :=
  ∀ (fuel : Nat) (w w' : World) (e : Evm.Env) (spec : Nat) (r : TxResult),
    Evm.transact fuel w e spec = .ok (.executed r, w') → e.tx.gasLimit < U64 →
    r.cls = .halt → r.gasUsed = e.tx.gasLimit

open Revm.Model.Gas Revm.Model.TxGas in
/-- COROLLARY (C09 `halt_used_exact`, full strength): a halted transaction (result outside `return_ok!` /
`return_revert!`) uses `max (gas_limit − min (12500·k) (gas_limit / q)) floor` for some number `k` of refunded
authorities, at most the length of the authorization list -/
theorem transact_halt_used_exact (fuel : Nat) (w w' : World) (e : Evm.Env) (spec : Nat) (r : TxResult)
    (h : Evm.transact fuel w e spec = .ok (.executed r, w'))
    (hL : e.tx.gasLimit < U64)
    (hcls : r.reason.isOk = false ∧ r.reason.isRevert = false)
    (hlen : 12500 * authLen e < 9223372036854775808) :
    ∃ ig fg k, initialGas e (GasCalc.canon spec) = some (ig, fg) ∧ k ≤ authLen e ∧
      r.gasUsed = max (e.tx.gasLimit - min (12500 * k)
        (e.tx.gasLimit / (if enabled (GasCalc.canon spec) GasCalc.SpecId.LONDON = true then 5 else 2))) fg := by
  obtain ⟨x, rfl, rfl⟩ := transact_exec h
  obtain ⟨_, hreason, hu, _⟩ := x.out
  have hk := x.k_le
  refine ⟨x.ig, x.fg, x.k, x.initial, hk, ?_⟩
  rw [hu]
  have hgc : (txFrame e x.ig x.res).ir.gasClass = .other := by
    show (toIR x.res.result).gasClass = .other
    rw [toIR_gasClass, ← hreason, hcls.1, hcls.2]; rfl
  exact Props.C09.halt_used_exact _ _ _ _ _ (x.admissible hL) hgc (by omega)

example : (Interp.IResult.OutOfGas).isOk = false ∧ (Interp.IResult.OutOfGas).isRevert = false := ⟨rfl, rfl⟩


/-- COROLLARY (C09 `sender_pays` on the RESULT of `Evm.transact`): for a completed executed transaction — validated
sender balance below 2^256 — the sender pays exactly
`effective gas price · gas_used + blob fee` through the two fee legs of the handler:
* the balance validation saw covers `gas_limit · eff + blob_fee`, and the `deduct_caller` inside `prepare` (run on the
  world after `load_accounts`) finds that very balance and leaves it lower by exactly that amount (no saturation);
* `reimburse_caller` adds to whatever the execution left on the sender's account (`accX`, loaded from the world `w3` the
  first frame left) exactly `(gas_limit · eff + blob_fee) − (eff · gas_used + blob_fee)`, with `saturating_add`
  (the sender is not the beneficiary). -/
theorem transact_sender_pays (fuel : Nat) (w w' : World) (e : Evm.Env) (spec : Nat) (r : TxResult)
    (h : Evm.transact fuel w e spec = .ok (.executed r, w'))
    (hL : e.tx.gasLimit < U64) :
    ∃ (w1 : World) (accV : Journal.Acct) (code : List Nat) (ig fg k : Nat) (res : Interp.ChildResult) (w3 : World),
      loadSender w e.tx.caller = .ok (w1, accV, code) ∧
      FirstFrameResult fuel w e spec ig fg k res w3 ∧
      (accV.info.balance < W →
        e.tx.gasLimit * effPrice e spec + blobFeeOf e spec ≤ accV.info.balance ∧
        effPrice e spec * r.gasUsed + blobFeeOf e spec ≤ e.tx.gasLimit * effPrice e spec + blobFeeOf e spec ∧
        (∃ wd accD, deductCaller e (GasCalc.canon spec) (loadAccounts e (GasCalc.canon spec) w1) = .ok wd ∧
          wd.js.state e.tx.caller = some accD ∧
          accD.info.balance = accV.info.balance - (e.tx.gasLimit * effPrice e spec + blobFeeOf e spec)) ∧
        (e.tx.caller ≠ e.block.coinbase → ∃ (wx : World) (c : Bool) (accX accF : Journal.Acct),
          w3.loadAccount e.tx.caller = .ok (wx, c) ∧ wx.acct e.tx.caller = .ok accX ∧
          w'.js.state e.tx.caller = some accF ∧
          accF.info.balance = U256.saturatingAdd accX.info.balance
            (e.tx.gasLimit * effPrice e spec + blobFeeOf e spec -
              (effPrice e spec * r.gasUsed + blobFeeOf e spec)))) := by
  obtain ⟨w1, accV, code, ig, fg, k, res, w3, hl, hff, hrest⟩ := transact_payments fuel w w' e spec r h hL
  refine ⟨w1, accV, code, ig, fg, k, res, w3, hl, hff, fun hW => ?_⟩
  obtain ⟨a, b, c, d, _⟩ := hrest hW
  exact ⟨a, b, c, d⟩

/-- COROLLARY (C09 `beneficiary_gets` on the RESULT of `Evm.transact`): the beneficiary's account in the final world is
the account `reward_beneficiary` loaded (`accB`) plus exactly `(effective price − base fee) · gas_used` from London on,
`effective price · gas_used` before — no 256-bit wrap in the product; the addition saturates -/
theorem transact_beneficiary_gets (fuel : Nat) (w w' : World) (e : Evm.Env) (spec : Nat) (r : TxResult)
    (h : Evm.transact fuel w e spec = .ok (.executed r, w'))
    (hL : e.tx.gasLimit < U64) :
    ∃ (w1 : World) (accV : Journal.Acct) (code : List Nat),
      loadSender w e.tx.caller = .ok (w1, accV, code) ∧
      (accV.info.balance < W →
        ∃ (wy : World) (accB accG : Journal.Acct), wy.acct e.block.coinbase = .ok accB ∧
          w'.js.state e.block.coinbase = some accG ∧
          accG.info.balance = U256.saturatingAdd accB.info.balance (tipPrice e spec * r.gasUsed)) := by
  obtain ⟨w1, accV, code, ig, fg, k, res, w3, hl, hff, hrest⟩ := transact_payments fuel w w' e spec r h hL
  exact ⟨w1, accV, code, hl, fun hW => (hrest hW).2.2.2.2⟩

/-- COROLLARY (C09 `sender_is_beneficiary` on the RESULT of `Evm.transact`): when the sender is the block's
beneficiary, `reward_beneficiary` loads the very account `reimburse_caller` has just written: the account ends at what
the execution left on it, plus `(gas_limit · eff + blob_fee) − (eff · gas_used + blob_fee)`, plus
`(eff − base fee) · gas_used` (both `saturating_add`), and the reward is at most the gas fee paid -/
theorem transact_sender_is_beneficiary (fuel : Nat) (w w' : World) (e : Evm.Env) (spec : Nat) (r : TxResult)
    (h : Evm.transact fuel w e spec = .ok (.executed r, w')) (hL : e.tx.gasLimit < U64)
    (heq : e.tx.caller = e.block.coinbase) :
    ∃ (w1 : World) (accV : Journal.Acct) (code : List Nat) (ig fg k : Nat) (res : Interp.ChildResult) (w3 : World),
      loadSender w e.tx.caller = .ok (w1, accV, code) ∧
      FirstFrameResult fuel w e spec ig fg k res w3 ∧
      (accV.info.balance < W →
        tipPrice e spec * r.gasUsed ≤ effPrice e spec * r.gasUsed ∧
        ∃ (wx : World) (c : Bool) (accX accF : Journal.Acct),
          w3.loadAccount e.tx.caller = .ok (wx, c) ∧ wx.acct e.tx.caller = .ok accX ∧
          w'.js.state e.tx.caller = some accF ∧
          accF.info.balance = U256.saturatingAdd (U256.saturatingAdd accX.info.balance
            (e.tx.gasLimit * effPrice e spec + blobFeeOf e spec - (effPrice e spec * r.gasUsed + blobFeeOf e spec)))
            (tipPrice e spec * r.gasUsed)) :=
  Proofs.EvmLink.transact_sender_is_beneficiary fuel w w' e spec r h hL heq

example : ({ sampleEnv with block := { sampleEnv.block with coinbase := 0xaa } } : Evm.Env).tx.caller =
    ({ sampleEnv with block := { sampleEnv.block with coinbase := 0xaa } } : Evm.Env).block.coinbase := rfl

example : (10 : Nat)^18 < W := by rw [W_val]; decide

/-! ## 3. frame depth (C07)

Every frame function runs a journal history (`makeCallFrame_hist`, `makeCreateFrame_hist`, `callReturn_hist`,
`createReturn_hist`, `answer_hist`), whose depth effect is that of C07's journal-level depth lemmas (`Hist.depth`).
Runs are stated WITHOUT fuel: `Steps cfg n m` is the step relation of `run_the_loop` (`iterate` / `frameEnd`), and
every completed `Evm.runLoop` run is a `Steps` path (`contOf_steps`). -/

open Revm.Model.Journal (incU64 decU64) in
/-- COROLLARY (C07 `frame_depth_neutral_call` on EvmFrame): an immediate result of `make_call_frame` leaves the journal
depth unchanged; an opened frame, once `call_return` runs on a state of the depth right after frame creation, returns
to the depth before the call — whatever the frame's result -/
theorem evm_frame_depth_neutral_call (cfg : Cfg) (w w1 : World) (i : Interp.CallInputs) (mem : Memory.SharedMemory)
    (fr : FrameOrResult Journal.Checkpoint) (h : makeCallFrame journalOps cfg w i mem = .ok (fr, w1)) :
    (∀ r, fr = .result r → w1.js.depth = w.js.depth) ∧
    (∀ f, fr = .frame f → ∀ (w2 w3 : World) (res res' : Interp.ChildResult),
      w2.js.depth = w1.js.depth → callReturn journalOps w2 f.checkpoint res = .ok (res', w3) →
      w3.js.depth = w.js.depth) := by
  obtain ⟨x, y⟩ := makeCallFrame_depth h
  refine ⟨fun r hr => (x r hr).1, fun f hf w2 w3 res res' h2 h3 => ?_⟩
  rw [callReturn_depth h3, h2, (y f hf).1, Proofs.Frame.dec_inc]

open Revm.Model.Journal (incU64 decU64) in
/-- COROLLARY (C07 `frame_depth_neutral_create` on EvmFrame): the same for `make_create_frame` + `create_return`, on
every path (depth, OutOfFunds, nonce overflow, precompile address, collision, balance overflow; result not ok, EF first
byte, size limit, code-deposit failure before / after Homestead, success) -/
theorem evm_frame_depth_neutral_create (cfg : Cfg) (w w1 : World) (i : Interp.CreateInputs)
    (mem : Memory.SharedMemory) (fr : FrameOrResult Journal.Checkpoint)
    (h : makeCreateFrame journalOps cfg w i mem = .ok (fr, w1)) :
    (∀ r, fr = .result r → w1.js.depth = w.js.depth) ∧
    (∀ f, fr = .frame f → ∀ (w2 w3 : World) (a : Nat) (res res' : Interp.ChildResult),
      w2.js.depth = w1.js.depth → createReturn journalOps cfg w2 f.checkpoint a res = .ok (res', w3) →
      w3.js.depth = w.js.depth) := by
  obtain ⟨x, y⟩ := makeCreateFrame_depth h
  refine ⟨fun r hr => (x r hr).1, fun f hf w2 w3 a res res' h2 h3 => ?_⟩
  rw [createReturn_depth h3, h2, (y f hf).1, Proofs.Frame.dec_inc]

/-- COROLLARY (C07 `host_op_depth_neutral` on EvmHost): no answer of the journal-backed `Host` moves the depth -/
theorem evm_host_depth_neutral (he : HostEnv) (w w1 : World) (op : Interp.HostOp) (resp : Interp.HostResp)
    (h : answer he w op = .ok (resp, w1)) : w1.js.depth = w.js.depth := answer_depth h

/-- COROLLARY (C07 `loop_depth_invariant_from` on EvmLoop): along ANY run of `run_the_loop` — any program, any number
of steps, no fuel in the statement — from a state with `journal depth = frame-stack length`, every state passed
satisfies it (`1 ≤ length ≤ 1025`), and the depth is 0 once the first frame has returned -/
theorem evm_loop_depth_invariant (cfg : Cfg) (stack : List JFrame) (w : World) (n : Next Journal.Checkpoint)
    (hi : LoopInv stack w) (t : Steps cfg (.run stack w) n) : NextInv n :=
  steps_inv t (.run hi)

/-- every completed fuel-indexed run of `Evm.runLoop` is such a run, and ends at depth 0 -/
theorem evm_runLoop_ends_at_depth_zero (cfg : Cfg) (fuel : Nat) (stack : List JFrame) (w w' : World)
    (r : Interp.ChildResult) (hi : LoopInv stack w) (h : runLoop journalOps cfg fuel stack w = .ok (r, w')) :
    Steps cfg (.run stack w) (.done r w') ∧ w'.js.depth = 0 :=
  ⟨contOf_steps fuel (.run stack w) h, runLoop_depth_zero hi h⟩

/-- COROLLARY (C07 `loop_depth_invariant` on a whole `Evm.transact`): from a journal at depth 0 (a fresh `Evm`), after
validation and `prepare` the first frame runs at depth 1 = one frame on the stack, every state the loop passes has
`depth = stack length`, and the first frame's result is delivered at depth 0 -/
theorem transact_depth_invariant (w w1 w2 : World) (e : Evm.Env) (spec ig fg k : Nat) (isCreate : Bool)
    (first : FrameOrResult Journal.Checkpoint) (h0 : w.js.depth = 0)
    (hp : Evm.preverify w e spec = .ok (some (w1, ig, fg)))
    (hpr : Evm.prepare journalOps e spec ig w1 = .ok (first, w2, isCreate, k)) :
    (∀ f, first = .frame f → ∀ n, Steps (e.toCfg spec) (.run [f] w2) n → NextInv n) ∧
    (∀ fuel res w3, Evm.runFirst journalOps (e.toCfg spec) fuel first w2 = .ok (res, w3) → w3.js.depth = 0) := by
  obtain ⟨_, _, _, _, acc, code, hl, _⟩ := preverify_some_inv w w1 e spec ig fg hp
  obtain ⟨cold, hh, hlc, _⟩ := loadSender_inv hl
  have h1 : w1.js.depth = 0 := by rw [w_loadCode_depth hlc, h0]
  obtain ⟨hf, hr⟩ := prepare_inv h1 hpr
  refine ⟨fun f hfr n t => steps_inv t (.run (hf f hfr)), fun fuel res w3 hrun => ?_⟩
  cases first with
  | frame f => exact runLoop_depth_zero (hf f rfl) hrun
  | result r =>
    simp only [runFirst, pure, Except.pure, Except.ok.injEq, Prod.mk.injEq] at hrun
    rw [← hrun.2]; exact hr r rfl

example : sampleWorld.js.depth = 0 := rfl

/-- the invariant is satisfiable: one frame on the stack, journal at depth 1 -/
example : ∃ (stack : List JFrame) (w : World), LoopInv stack w :=
  ⟨[{ kind := .call 0 0, checkpoint := { logI := 0, journalI := 1 },
      interp := Interp.IState.init [] [] 0 false 17 0 0 0 {} Memory.new }],
   { js := (Journal.checkpoint (Journal.JState.new 17 (fun _ => false))).1 }, rfl, by decide, by decide⟩

/-- COROLLARY (C07 `max_depth` on EvmLoop): in every loop state with `depth = stack length` — i.e. every state a
transaction reaches, by `transact_depth_invariant` — a CALL-family action is refused with `CallTooDeep` iff the calling
frame is exactly 1024 levels below the transaction frame; frames never sit deeper -/
theorem evm_max_depth (cfg : Cfg) (stack : List JFrame) (w w' : World) (i : Interp.CallInputs)
    (mem : Memory.SharedMemory) (fr : FrameOrResult Journal.Checkpoint) (hi : LoopInv stack w)
    (h : makeCallFrame journalOps cfg w i mem = .ok (fr, w')) :
    ((∃ r, fr = .result r ∧ r.result = .CallTooDeep) ↔ stack.length - 1 = CALL_STACK_LIMIT) ∧
    stack.length - 1 ≤ CALL_STACK_LIMIT := by
  obtain ⟨h1, h2, h3⟩ := hi
  obtain ⟨x, y⟩ := makeCallFrame_depth h
  refine ⟨⟨fun ⟨r, hr, hc⟩ => ?_, fun hl => ?_⟩, by omega⟩
  · have := ((x r hr).2).1 hc; omega
  · cases fr with
    | result r => exact ⟨r, rfl, ((x r rfl).2).2 (by omega)⟩
    | frame f => exact absurd (show w.js.depth > CALL_STACK_LIMIT by omega) (y f rfl).2

/-- COROLLARY (C07 `max_depth_create` on EvmLoop): the same refusal for a CREATE / CREATE2 action -/
theorem evm_max_depth_create (cfg : Cfg) (stack : List JFrame) (w w' : World) (i : Interp.CreateInputs)
    (mem : Memory.SharedMemory) (fr : FrameOrResult Journal.Checkpoint) (hi : LoopInv stack w)
    (h : makeCreateFrame journalOps cfg w i mem = .ok (fr, w')) :
    ((∃ r, fr = .result r ∧ r.result = .CallTooDeep) ↔ stack.length - 1 = CALL_STACK_LIMIT) := by
  obtain ⟨h1, h2, h3⟩ := hi
  obtain ⟨x, y⟩ := makeCreateFrame_depth h
  refine ⟨fun ⟨r, hr, hc⟩ => ?_, fun hl => ?_⟩
  · have := ((x r hr).2).1 hc; omega
  · cases fr with
    | result r => exact ⟨r, rfl, ((x r rfl).2).2 (by omega)⟩
    | frame f => exact absurd (show w.js.depth > CALL_STACK_LIMIT by omega) (y f rfl).2

/-! ## 4. the `Host` as a journal history; cold / warm (C34)

C06, C08, C10 and C34 are stated on histories of journal operations (`Spec.JournalAbs.run`). The `Host` of the
whole-EVM model is linked to them operation by operation (`answer_hist`; the frame functions likewise, see
`Proofs/EvmLinkHist.lean`). -/

open Revm.Spec.JournalAbs Revm.Spec.AccessHistory in
/-- LINK: **every answer of `Evm.answer` (the model of `impl Host for Context`) is a journal history**: the journal
after the answer is `JournalAbs.run` of `hostOps` (at most one operation) on the journal before it, over the same
database; and for the operations that report `is_cold`, the bits handed to the interpreter (`respBits`) are `coldBits`
of the operation — the bits C34 `is_cold_iff` is about -/
theorem evm_host_is_journal_history (he : HostEnv) (w w1 : World) (op : Interp.HostOp) (resp : Interp.HostResp)
    (h : answer he w op = .ok (resp, w1)) (cps : List Journal.Checkpoint) :
    run w.db { js := w.js, cps := cps } (hostOps w op) = some { js := w1.js, cps := cps } ∧ w1.db = w.db ∧
    (∀ o, o ∈ hostOps w op → exposes o = true → coldBits w.db w.js o = some (respBits op resp)) :=
  answer_trace h cps

open Revm.Spec.JournalAbs Revm.Spec.AccessHistory Revm.Model.Journal in
/-- COROLLARY (C34 `is_cold_iff` on EvmHost): when the world's journal is the journal of an admissible well-nested
history `ops` from the start of the transaction (`lockRun`), and the operation behind a `Host` question is admissible
there (`lockStep`), the `is_cold` bits the interpreter receives are exactly those of the access-set machine of
EIP-2929 / 2930 / 3651 / 7702 — cold ⇔ not in the accessed set -/
theorem evm_host_cold_bits_are_access_sets (hasStorage : Addr → Bool) (spec : Nat) (pre : Addr → Bool)
    (he : HostEnv) (w w1 : World) (op : Interp.HostOp) (resp : Interp.HostResp)
    (hdb : DbOk w.db hasStorage) (hwf : WF w.db (JState.new spec pre))
    (ops : List Op) (l l' : Lock) (o : Op)
    (hrun : lockRun w.db hasStorage (Lock.init spec pre) ops = some l) (hw : l.r.js = w.js)
    (h : answer he w op = .ok (resp, w1)) (ho : o ∈ hostOps w op) (hx : exposes o = true)
    (hstep : lockStep w.db hasStorage l o = some l') :
    ∃ r' st', step w.db l.r o = some r' ∧ specStep w.db l.r r' l.st o = some (st', respBits op resp) := by
  obtain ⟨r', st', bits, h1, h2, h3⟩ := Props.C34.is_cold_iff w.db hasStorage spec pre hdb hwf ops l l' o hrun hstep hx
  have h4 := (answer_trace h []).2.2 o ho hx
  rw [hw, h4] at h3
  cases h3
  exact ⟨r', st', h1, h2⟩

open Revm.Spec.JournalAbs Revm.Spec.AccessHistory Revm.Model.Journal in
/-- COROLLARY (C34 `load_account_cold_iff` on BALANCE / SELFBALANCE): the `is_cold` of the answer is true exactly when
the address is not in the accessed-address set of the specification -/
theorem evm_balance_cold_iff (hasStorage : Addr → Bool) (spec : Nat) (pre : Addr → Bool)
    (he : HostEnv) (w w1 : World) (a : Nat) (resp : Interp.HostResp)
    (hdb : DbOk w.db hasStorage) (hwf : WF w.db (JState.new spec pre))
    (ops : List Op) (l : Lock)
    (hrun : lockRun w.db hasStorage (Lock.init spec pre) ops = some l) (hw : l.r.js = w.js)
    (h : answer he w (.balance a) = .ok (resp, w1)) :
    (resp.isCold = true ↔ l.st.cur.addrs a = false) := by
  have h4 := (answer_trace h []).2.2 (.load a) (by simp [hostOps]) rfl
  simp only [coldBits, respBits, Option.map_eq_some_iff] at h4
  obtain ⟨⟨js', c⟩, h5, h6⟩ := h4
  simp only [List.cons.injEq, and_true] at h6
  rw [← h6]
  rw [← hw] at h5
  exact Props.C34.load_account_cold_iff w.db hasStorage spec pre hdb hwf ops l a js' c hrun h5

open Revm.Spec.JournalAbs Revm.Spec.AccessHistory Revm.Model.Journal in
/-- COROLLARY (C34 `sload_cold_iff` on SLOAD): cold ⇔ the slot is not in the accessed-storage-key set -/
theorem evm_sload_cold_iff (hasStorage : Addr → Bool) (spec : Nat) (pre : Addr → Bool)
    (he : HostEnv) (w w1 : World) (a k : Nat) (resp : Interp.HostResp)
    (hdb : DbOk w.db hasStorage) (hwf : WF w.db (JState.new spec pre))
    (ops : List Op) (l : Lock)
    (hrun : lockRun w.db hasStorage (Lock.init spec pre) ops = some l) (hw : l.r.js = w.js)
    (h : answer he w (.sload a k) = .ok (resp, w1)) :
    (resp.isCold = true ↔ l.st.cur.slots a k = false) := by
  have h4 := (answer_trace h []).2.2 (.sload a k) (by simp [hostOps]) rfl
  simp only [coldBits, respBits, Option.map_eq_some_iff] at h4
  obtain ⟨⟨js', v, c⟩, h5, h6⟩ := h4
  simp only [List.cons.injEq, and_true] at h6
  rw [← h6]
  rw [← hw] at h5
  exact Props.C34.sload_cold_iff w.db hasStorage spec pre hdb hwf ops l a k v js' c hrun h5

/-- the hypotheses are satisfiable: the empty history at the start of a transaction on the sample world -/
example : Spec.AccessHistory.lockRun sampleWorld.db (fun _ => false) (Spec.AccessHistory.Lock.init 17 (fun _ => false)) []
    = some (Spec.AccessHistory.Lock.init 17 (fun _ => false)) ∧
    (Spec.AccessHistory.Lock.init 17 (fun _ => false)).r.js = sampleWorld.js := ⟨rfl, rfl⟩

/-! ## 5. static mode (C10)

C10 proves the static guard on its own opcode-level model (`Static.stepStatic`, tied to the code by the generated
table) and the frame theorem on journal histories. Here the guard is proved of the interpreter `Evm.runLoop` runs
(`Model.Interp`, for every machine state), and joined with the `Host` link above. -/

/-- COROLLARY / LINK (C10 `static_step_no_mutation`, `static_step_actions`, `static_inherited` on `Interp.step`): in a
static frame — any code, pc, stack, memory, gas, fork — one interpreter step asks the host no mutating question
(SSTORE, TSTORE, LOG0–4, SELFDESTRUCT end in `StateChangeDuringStaticCall` before the host is reached), hands out no
CREATE / CREATE2, and every call it hands out, directly or after the host's answer, has `is_static = true` and moves
no value between two accounts (a CALL with value ends in `CallNotAllowedInsideStatic`) -/
theorem evm_static_step_no_mutation (s : Interp.IState) (hs : s.isStatic = true) :
    StaticOutcome (Interp.step s) := step_static s hs

/-- read out: the host question of a static step is never a mutation -/
theorem evm_static_host_op_not_mutating (s : Interp.IState) (hs : s.isStatic = true) (op : Interp.HostOp)
    (k : Interp.HostResp → Interp.Done) (h : Interp.step s = .host op k) : mutating op = false := by
  have := step_static s hs
  rw [h] at this
  cases this with
  | host hop _ => exact hop

/-- read out: an action of a static step (directly, or after any host answer) is a static call without value transfer
between two accounts — never a create -/
theorem evm_static_action_is_static_call (s s' : Interp.IState) (hs : s.isStatic = true) (a : Interp.Action) :
    (Interp.step s = .pure (.action a s') → ∃ i, a = .call i ∧ StaticCall i) ∧
    (∀ op k r, Interp.step s = .host op k → k r = .action a s' → ∃ i, a = .call i ∧ StaticCall i) := by
  have hst := step_static s hs
  constructor
  · intro h
    rw [h] at hst
    cases hst with
    | pure hd => cases hd with | call hi => exact ⟨_, rfl, hi⟩
  · intro op k r h hk
    rw [h] at hst
    cases hst with
    | host _ hk' =>
      have := hk' r
      rw [hk] at this
      cases this with | call hi => exact ⟨_, rfl, hi⟩

/-- a static machine state exists; STATICCALL's child is one -/
example : (Interp.IState.init [0x55] [] 100000 true 17 0 0 0 {} Memory.new).isStatic = true := rfl

/-- COROLLARY (C10 `static_inherited`, frame side): the frame `make_call_frame` opens runs with the `is_static` of the
call inputs — a static frame's children are static -/
theorem evm_static_inherited (cfg : Cfg) (w w' : World) (i : Interp.CallInputs) (mem : Memory.SharedMemory)
    (f : JFrame) (h : makeCallFrame journalOps cfg w i mem = .ok (.frame f, w')) :
    f.interp.isStatic = i.isStatic := makeCallFrame_isStatic h

/-- COROLLARY (C10 `static_frame_state_equal` on EvmHost + Interp): every `Host` answer given to a static frame leaves
the journaled world state (accounts, storage, transient storage, logs; not warm / cold, not touch marks) equal -/
theorem evm_static_host_world_equal (he : HostEnv) (w w1 : World) (s : Interp.IState) (op : Interp.HostOp)
    (k : Interp.HostResp → Interp.Done) (resp : Interp.HostResp)
    (hs : s.isStatic = true) (hstep : Interp.step s = .host op k) (h : answer he w op = .ok (resp, w1))
    (hbal : Static.BalOk w.db w.js) : Static.WorldEq w.db w1.js w.js :=
  static_host_world_equal he w w1 s op k resp hs hstep h hbal

/-- the full frame statement on the whole-EVM model: in every state `Evm.runLoop` passes while a static frame `f` is
still open (`StepsAbove`: more than `rest.length` frames on the stack), the world state equals the world state when
`f` started to run. It holds: `static_frame_state_equal`. -/
def FullStatement_static_frame_state_equal : Prop :=
  ∀ (cfg : Cfg) (f : JFrame) (rest : List JFrame) (w : World) (n : Next Journal.Checkpoint),
    f.interp.isStatic = true → LoopInv (f :: rest) w → Static.BalOk w.db w.js →
    StepsAbove cfg rest.length (.run (f :: rest) w) n →
    ∀ stack' w', n = .run stack' w' → Static.WorldEq w.db w'.js w.js

/-- LINK (C10 on EvmFrame): `make_call_frame` for a call a static frame hands out (`StaticCall`: static again, value 0
or a transfer of the frame to itself) keeps C10's invariant `Proofs.Static.Inv` — world state equal to the start, only
benign journal entries above the start level, every checkpoint handed out since inside that region (`SW`); a frame it
opens is static, a call frame, and its checkpoint is one of those handed out -/
theorem evm_static_make_call_frame (db : Journal.Db) (L : Nat) (s0 : Journal.JState) (hb0 : Static.BalOk db s0)
    (cps : List Journal.Checkpoint) (cfg : Cfg) (w w' : World) (i : Interp.CallInputs) (mem : Memory.SharedMemory)
    (fr : FrameOrResult Journal.Checkpoint) (h : SW db L s0 cps w) (hsc : StaticCall i)
    (hmk : makeCallFrame journalOps cfg w i mem = .ok (fr, w')) :
    ∃ cps', SW db L s0 cps' w' ∧ (∀ c ∈ cps, c ∈ cps') ∧ ∀ f, fr = .frame f →
      f.checkpoint ∈ cps' ∧ f.interp.isStatic = true ∧ ∃ rs re, f.kind = .call rs re :=
  sw_makeCallFrame hb0 h hsc hmk

/-- LINK (C10 on EvmFrame): `call_return` of a frame opened inside the static region (commit, or revert to its
checkpoint) keeps the invariant -/
theorem evm_static_call_return (db : Journal.Db) (L : Nat) (s0 : Journal.JState) (hb0 : Static.BalOk db s0)
    (cps : List Journal.Checkpoint) (w w' : World) (cp : Journal.Checkpoint) (r r' : Interp.ChildResult)
    (h : SW db L s0 cps w) (hcp : cp ∈ cps) (hr : callReturn journalOps w cp r = .ok (r', w')) :
    SW db L s0 cps w' :=
  sw_callReturn hb0 h hcp hr

/-- COROLLARY (C10 `static_frame_state_equal` for whole-EVM runs): **the world state inside a static frame never
changes.** For every configuration, every static frame `f` on any stack, every world with 256-bit balances: in every
state `run_the_loop` passes while `f` is still open — after any number of instructions of `f` and of the frames it
calls, at any nesting, including sub-calls that revert or fail with `StateChangeDuringStaticCall` — accounts (balance,
nonce, code), storage, transient storage and logs are those `f` started on -/
theorem static_frame_state_equal : FullStatement_static_frame_state_equal :=
  fun cfg f rest w n hf _ hbal t => static_frame_state_equal_evm cfg f rest w n hf hbal t

/-- non-vacuity: the static frame of the section's example with nothing below it, after zero steps -/
example : StepsAbove (sampleEnv.toCfg 17) 0
    (.run [{ kind := .call 0 0, checkpoint := (Journal.checkpoint sampleWorld.js).2,
             interp := Interp.IState.init [0x55] [] 100000 true 17 0 0 0 {} Memory.new }] sampleWorld)
    (.run [{ kind := .call 0 0, checkpoint := (Journal.checkpoint sampleWorld.js).2,
             interp := Interp.IState.init [0x55] [] 100000 true 17 0 0 0 {} Memory.new }] sampleWorld) :=
  .refl _

/-! ## 6. ether conservation (C08)

C08 proves conservation for journal histories (`step_inv`: every operation of `Spec.JournalAbs` keeps the ledger
invariant `BInv`) and for the fee legs around an execution that is only ASSUMED to conserve (`tx_conserves`, hypothesis
`hexec`). Here the execution is the whole EVM: every move of `run_the_loop` runs a history of `Spec.JournalAbs`
operations on the world's journal (`Hist`, `WRun`) or leaves balances alone, so `step_inv` applies along any run
(`pres_steps`); `Evm.deductCaller` and the balance part of `Evm.finish` ARE the fee legs of `TxFeeLegs`; C08's
hypotheses `Validated` and `GasOk` follow from C02 validation and from the gas loop invariant. -/

open Revm.Spec.Ether in
/-- LINK: the debit and the two credits of the whole-EVM model are the fee legs of C08, on the world's journal -/
theorem evm_fee_legs_eq_txfeelegs (e : Evm.Env) (spec fg r7 : Nat) (isCreate : Bool) (res : Interp.ChildResult)
    (w w' w3 w4 : World) (r : TxResult) :
    (Evm.deductCaller e spec w = .ok w' →
      TxFeeLegs.deductCaller w.db w.js spec (feeEnv e) = some w'.js ∧ w'.db = w.db) ∧
    (Evm.finish e spec fg r7 isCreate res w3 = .ok (r, w4) →
      TxFeeLegs.postExecution w3.db w3.js spec (feeEnv e) true (Evm.finalGas e spec fg r7 res).remaining
        (Gas.spent (Evm.finalGas e spec fg r7 res)) (Gas.i64AsU64 (Evm.finalGas e spec fg r7 res).refunded)
        = some w4.js ∧ w4.db = w3.db) :=
  ⟨deductCaller_feeLegs, finish_feeLegs⟩

open Revm.Spec.Ether Revm.Proofs.Ether in
/-- LINK (C08 `step_inv` along the interpreter loop, no fuel in the statement): along ANY run of `run_the_loop`, if the
accounts present at the end lie in the duplicate-free list `L`, the ledger invariant of C08 — the balances over `L`
plus what the journal's self-destruct entries burnt is the base sum — is carried from the start to the end, and the
backing store's accounts are not written -/
theorem evm_loop_conserves_ether (L : List Nat) (B : Nat → Nat) (hn : L.Nodup) (hB : sumOver L B < W) (cfg : Cfg)
    (n m : Next Journal.Checkpoint) (t : Steps cfg n m) (hK : KeysIn L (nextWorld m))
    (h : BInv L B (absB (nextWorld n).db (nextWorld n).js)) :
    BInv L B (absB (nextWorld m).db (nextWorld m).js) ∧ (nextWorld m).db.basic = (nextWorld n).db.basic :=
  ⟨(pres_steps hn hB t).ei hK h, (pres_steps hn hB t).dbb⟩

open Revm.Spec.Ether Revm.Proofs.Ether in
/-- COROLLARY (C08 `tx_conserves` on `Evm.transact`): **the whole EVM conserves ether.** For every executed
transaction, from a journal without balance entries (`JB w.js = []`: the fresh journal `Evm::transact` starts on), with
every balance a 256-bit word, `L` a duplicate-free address list that contains every account present in the final
journal state, and the sum of the initial balances over `L` below 2^256 (C08's hypothesis):

  Σ_L balances(after) + (effective price − beneficiary's price) · gas_used + blob fee + burnt by self-destructs
    = Σ_L balances(before).

`burnt w'.js` is the ether that SELFDESTRUCTs naming themselves as target destroyed (C08 `burnt`); before London
`burntPerGas` is 0. `World.addrs` of the final world is such an `L` (`transact_conserves_ether_addrs`). -/
theorem transact_conserves_ether (fuel : Nat) (w w' : World) (e : Evm.Env) (spec : Nat) (r : TxResult) (L : List Nat)
    (h : Evm.transact fuel w e spec = .ok (.executed r, w'))
    (hL : e.tx.gasLimit < U64) (hn : L.Nodup) (hK : KeysIn L w')
    (hok : BalOk w.db w.js) (hj : JB w.js = []) (hSum : total L w.db w.js < W) :
    total L w'.db w'.js + burntPerGas (GasCalc.canon spec) (feeEnv e) * r.gasUsed
      + dataFee (GasCalc.canon spec) (feeEnv e) + burnt w'.js = total L w.db w.js :=
  transact_conserves fuel w w' e spec r L h hL hn hK hok hj hSum

/-- LINK: **`World.addrs` covers the journal**: every `World` / `Host` operation notes the accounts it may add to the
journal's state map (each journal operation adds at most the accounts it names: `Revm.Proofs.Journal.Dom`), so if every
account present before `Evm.transact` is in `World.addrs`, every account present after it is -/
theorem evm_addrs_cover_journal (fuel : Nat) (w w' : World) (e : Evm.Env) (spec : Nat) (r : TxResult)
    (h : Evm.transact fuel w e spec = .ok (.executed r, w')) (hN : Noted w) : Noted w' :=
  transact_noted fuel w w' e spec r h hN

open Revm.Spec.Ether Revm.Proofs.Ether in
/-- COROLLARY: **ether conservation over the address list the model maintains** — `L` = `World.addrs` of the final
world without repetitions (`dedup`); on a world whose journal holds only noted accounts (a fresh journal holds none) -/
theorem transact_conserves_ether_addrs (fuel : Nat) (w w' : World) (e : Evm.Env) (spec : Nat) (r : TxResult)
    (h : Evm.transact fuel w e spec = .ok (.executed r, w'))
    (hL : e.tx.gasLimit < U64) (hN : Noted w)
    (hok : BalOk w.db w.js) (hj : JB w.js = []) (hSum : total (dedup w'.addrs) w.db w.js < W) :
    total (dedup w'.addrs) w'.db w'.js + burntPerGas (GasCalc.canon spec) (feeEnv e) * r.gasUsed
      + dataFee (GasCalc.canon spec) (feeEnv e) + burnt w'.js = total (dedup w'.addrs) w.db w.js :=
  transact_conserves_addrs fuel w w' e spec r h hL hN hok hj hSum

example : Noted sampleWorld := fun _ ha => absurd rfl ha

open Revm.Spec.Ether in
/-- the hypothesis on the initial journal holds for the sample world (fresh journal) -/
example : JB sampleWorld.js = [] := rfl

open Revm.Spec.Ether in
/-- the ledger equation on a completed run, as a check -/
def ledgerCheck (fuel : Nat) (w : World) (e : Evm.Env) (spec : Nat) (L : List Nat) (perGasBurn : Nat) : Bool :=
  match Evm.transact fuel w e spec with
  | .ok (.executed r, w') =>
    decide (total L w'.db w'.js + burntPerGas spec (feeEnv e) * r.gasUsed + dataFee spec (feeEnv e) + burnt w'.js
        = total L w.db w.js) &&
      decide (burntPerGas spec (feeEnv e) * r.gasUsed = perGasBurn)
  | _ => false

/-- the sample transfer: 21000 gas at price 10 with base fee 7, 147000 wei burnt -/
example : ledgerCheck 10 sampleWorld sampleEnv 17 [0xaa, 0xbb, 0] 147000 = true := by decide +kernel

/-- the address list of the sample run: sender, recipient, beneficiary -/
example : (match Evm.transact 10 sampleWorld sampleEnv 17 with
    | .ok (_, w') => dedup w'.addrs
    | _ => []) = [0, 0xbb, 0xaa] := by decide +kernel

/-! ## 7. termination

The fuel of `Evm.runLoop` is an artefact of the model; here it is bounded by the gas, through `runLoop_fuel` of
`Proofs/EvmLoop.lean` (every iteration lowers a measure, or stops with an error other than "out of fuel"). The measure
is `2 · Σ gas remaining on the meters of the stack + number of frames`. It falls with every iteration, in ANY state and
with no invariant: `record_cost` either fails or lowers `remaining` by exactly the cost, every instruction that lets
its frame continue records a cost of at least 1 (`Proofs/InterpCost.lean` for the dynamic costs), every action pays the
child's gas limit and at least 1 more (`step_strict`: `evm_step_gas_accounting` of section 2 made strict), and a
returning frame hands back at most what it has left. -/

/-- LINK (C25 `gas_decreases`, for every frame of the whole EVM and without the invariant of C25): one interpreter step
in ANY state — an instruction after which the frame continues leaves at least one unit of gas less on the meter; an
action (CALL family, CREATE, EOFCREATE, EXT*CALL) has paid the child's gas limit and one more -/
theorem evm_step_gas_strict (s : Interp.IState) : SOutcome s (Interp.step s) := step_strict s

/-- LINK: every iteration of `run_the_loop` lowers `2 · Σ gas remaining + number of frames` -/
theorem evm_iterate_measure (cfg : Cfg) (stack : List JFrame) (w : World) (n : Next Journal.Checkpoint)
    (h : iterate journalOps cfg stack w = .ok n) : mu n < mu (.run stack w) := iterate_mu h

/-- COROLLARY: **`run_the_loop` terminates** — for every stack of frames in any state, with more fuel than
`2 · Σ gas remaining + number of frames` the loop does not run out of fuel -/
theorem evm_runLoop_terminates (cfg : Cfg) (fuel : Nat) (stack : List JFrame) (w : World)
    (h : 2 * gsum stack + stack.length < fuel) : runLoop journalOps cfg fuel stack w ≠ .error .outOfFuel :=
  runLoop_terminates cfg fuel stack w h

/-- COROLLARY (the termination part of C01 `FullStatement_transact_total`, with the fuel bound stated there):
**`Evm.transact` terminates.** For EVERY world, environment, fork — no hypothesis, not even `gas_limit < 2^64` —
`2 · gas_limit + 2` units of fuel suffice: the answer is never "out of fuel". (It is a result, or one of the model-level
errors — panic, fatal database error, missing oracle answer — none of which depends on the fuel; that those do not
occur on a well-formed world is the other part of `FullStatement_transact_total` and is not claimed here.) -/
theorem transact_terminates :
    ∃ bound : Nat → Nat, (∀ g, bound g = 2 * g + 2) ∧
      ∀ (fuel : Nat) (w : World) (e : Evm.Env) (spec : Nat), bound e.tx.gasLimit ≤ fuel →
        Evm.transact fuel w e spec ≠ .error .outOfFuel :=
  ⟨fun g => 2 * g + 2, fun _ => rfl, fun fuel w e spec hf => transact_terminates' fuel w e spec hf⟩

/-- the sample transaction completes within the fuel bound -/
example : 2 * sampleEnv.tx.gasLimit + 2 = 42002 := rfl
example : ∃ r w', Evm.transact 42002 sampleWorld sampleEnv 17 = .ok (.executed r, w') :=
  exists_of_isExecuted (by decide +kernel)

/-! ## 8. panic-freedom of the journal and frame machine (C07 `*_total` on EvmHost / EvmFrame / EvmLoop / EvmTx)

`WOk w`: C07's `Good` journal (entries refer to present accounts / slots, at least the transaction level, cached
balances are words) and 256-bit balances in the database. The failures that remain fall in two classes:
* `Soft` — not Rust panics of the journal / frame / interpreter code: the code store does not know a hash
  (`code_by_hash`: a database miss), an executable precompile panics (C23: MODEXP on a huge length and gas limit does,
  so unconditional panic-freedom is FALSE), a missing oracle answer, a fatal database error;
* `Resid` — interpreter faults (`interpreter: …`, `insert outcome: …`, `free_context`, an EOFCREATE action) and the
  fuel: admitted by the journal-side results (`Tot2`), excluded on typed inputs at the end of this section (`Tot3`).
Every other panic of the model — each `unwrap` of the journal and of the frame machine (`load_account`, `transfer`,
`checkpoint_revert`, `set_code`, `account not loaded`, `empty call stack` …) — is thereby excluded. In particular:
`sload` / `sstore` / `selfdestruct` never meet a vacant account (the request carries the frame's own address, which is
loaded); `already checked` and `initcode_cost` are impossible for EVERY environment (`tv_validateEnv_ne_panic`,
`initialTxGas_ne_none`); no frame ends with an internal result flag (`RGood`, carried by `step_strict` for every halt),
so `output` never panics. -/

open Revm.Proofs.Frame (Good DbBal) in
/-- LINK (C07 `hostStep_total` on EvmHost): every `Host` answer on a well-formed world, with the account whose storage is
accessed loaded, is a value on a well-formed world with the same number of journal levels — or a soft failure -/
theorem evm_host_total (w : World) (h : WOk w) (he : HostEnv) (op : Interp.HostOp) (hok : HOk w.js op) :
    Tot (answer he w op) (fun r => WS w r.2) := tot_answer h he op hok

/-- LINK (C07 `makeCallFrame_total`, `makeCreateFrame_total`, `callReturn_total`, `createReturn_total` on EvmFrame):
the frame functions are total on a well-formed world; the checkpoint of a frame they open lies strictly inside the
journal; a return needs the frame's checkpoint inside the journal (and the created account loaded) -/
theorem evm_frame_functions_total (w : World) (h : WOk w) (cfg : Cfg) (mem : Memory.SharedMemory) :
    (∀ i : Interp.CallInputs, Tot (makeCallFrame journalOps cfg w i mem) (fun r => FOut w r.2 r.1)) ∧
    (∀ i : Interp.CreateInputs, Tot (makeCreateFrame journalOps cfg w i mem) (fun r => FOut w r.2 r.1)) ∧
    (∀ (cp : Journal.Checkpoint) (r : Interp.ChildResult), 1 ≤ cp.journalI → cp.journalI < w.js.journal.length →
      Tot (callReturn journalOps w cp r) (fun p => WOk p.2)) ∧
    (∀ (cp : Journal.Checkpoint) (a : Nat) (r : Interp.ChildResult), 1 ≤ cp.journalI →
      cp.journalI < w.js.journal.length → (w.js.state a).isSome →
      Tot (createReturn journalOps cfg w cp a r) (fun p => WOk p.2)) :=
  ⟨fun i => tot_mono (tot_makeCallFrame h cfg i mem) (fun _ hr => hr.1),
   fun i => tot_mono (tot_makeCreateFrame h cfg i mem) (fun _ hr => hr.1),
   fun cp r h1 h2 => tot_mono (tot_callReturn h cp r h1 h2) (fun _ hr => hr.1),
   fun cp a r h1 h2 h3 => tot_mono (tot_createReturn h cfg cp a r h1 h2 h3) (fun _ hr => hr.1)⟩

/-- LINK (C07 `run_total` on EvmLoop): from a stack whose checkpoints are nested inside the journal of a well-formed
world (`LI`) and whose targets are loaded (`EvmInstLoaded.Inv`), `run_the_loop` — for every fuel — ends in a result
on a well-formed world, a soft failure or a residual failure -/
theorem evm_runLoop_total (cfg : Cfg) (fuel : Nat) (stack : List JFrame) (w : World) (hne : stack ≠ [])
    (h : LI stack w) (hi : Revm.Proofs.EvmInstLoaded.Inv stack w) :
    Tot2 (runLoop journalOps cfg fuel stack w) (fun p => WOk p.2 ∧ RGood p.1.result) :=
  tot2_contOf cfg fuel (.run stack w) ⟨hne, h⟩ hi

/-- LINK: the `HostOp` an interpreter step emits for SLOAD / SSTORE / SELFDESTRUCT carries the frame's own address
(with the loop invariant `EvmInstLoaded.Inv` — every open frame's target is in the journal — the three journal
operations never meet a vacant account) -/
theorem evm_storage_requests_own_address (s : Interp.IState) (op : Interp.HostOp) (k : Interp.HostResp → Interp.Done)
    (h : Interp.step s = .host op k) : OpT s.target op := step_addr s h

/-- COROLLARY (`FullStatement_transact_total_link` up to the residual class): on a well-formed world, for every
environment and fork, with `2 · gas_limit + 2` units of fuel or more, `Evm.transact` returns a result (rejected or
executed) on a well-formed world — or fails softly (`Soft`), or with a residual failure (`Resid`) that is not "out of
fuel" -/
theorem transact_total_partial (fuel : Nat) (w : World) (e : Evm.Env) (spec : Nat) (h : WOk w)
    (hf : 2 * e.tx.gasLimit + 2 ≤ fuel) :
    (∃ o w', Evm.transact fuel w e spec = .ok (o, w') ∧ WOk w') ∨
    (∃ err, Evm.transact fuel w e spec = .error err ∧ (Soft err ∨ Resid err) ∧ err ≠ .outOfFuel) := by
  have h1 := transact_tot2 fuel w e spec h
  have h2 := transact_terminates' fuel w e spec hf
  cases hx : Evm.transact fuel w e spec with
  | ok p => rw [hx] at h1; exact Or.inl ⟨p.1, p.2, rfl, h1⟩
  | error err =>
    rw [hx] at h1
    exact Or.inr ⟨err, rfl, h1, fun he => h2 (by rw [hx, he])⟩

/-- in particular: a panic `Evm.transact` returns on a well-formed world carries one of the residual messages (or is
the code-store miss / the precompile panic) — never a journal or frame-machine `unwrap` -/
theorem transact_no_journal_panic (fuel : Nat) (w : World) (e : Evm.Env) (spec : Nat) (h : WOk w) (m : String)
    (hx : Evm.transact fuel w e spec = .error (.panic m)) :
    Soft (.panic m) ∨ Resid (.panic m) := by
  have h1 := transact_tot2 fuel w e spec h
  rw [hx] at h1
  exact h1

/-- the full statement of this section: no residual panic either, i.e. outcomes are only results and soft failures.
It holds on typed inputs (`transact_total_typed`). Excluding `interpreter: …`, `insert outcome: …`, `free_context` and
the EOFCREATE action takes C25's per-frame invariant (`init_inv` for the frames `makeFrame` creates — code and input
within `isize::MAX`, fresh memory context below 2^62 — `step_good` with `RespOk` for every `Host` answer and `ChildOk`
for every delivered result), which inputs that are not Rust values need not satisfy. -/
def FullStatement_transact_total_link : Prop :=
  ∀ (fuel : Nat) (w : World) (e : Evm.Env) (spec : Nat), WOk w → 2 * e.tx.gasLimit + 2 ≤ fuel →
    (∃ r, Evm.transact fuel w e spec = .ok r) ∨ (∃ err, Evm.transact fuel w e spec = .error err ∧ Soft err)

/-- COROLLARY, in the shape of C01 `FullStatement_transact_total`: on the fresh world of a pre-state with 256-bit
balances, with the fuel bound stated there, the answer is a result, or an error that is soft (code-store miss,
precompile panic, oracle miss, fatal) or one of the four residual interpreter-side panics (`Resid`) — and never "out of
fuel". What separates this from `FullStatement_transact_total`: its `.error _ => False` for panics needs the residual
messages excluded (`transact_total_fresh'`) and cannot hold for the precompile panic (C23) nor, without a consistent
code store, for `code_by_hash`. -/
theorem transact_total_fresh_partial (spec : Nat) (pre : List PreAcct) (dbHasStorage : Bool)
    (oracle : List PcAnswer) (e : Evm.Env) (hbal : ∀ p ∈ pre, p.balance < W) :
    match Evm.transact (2 * e.tx.gasLimit + 2) (Spec.Evm.freshWorld spec pre dbHasStorage oracle) e spec with
    | .ok _ => True
    | .error err => (Soft err ∨ Resid err) ∧ err ≠ .outOfFuel := by
  have hw : WOk (Spec.Evm.freshWorld spec pre dbHasStorage oracle) :=
    wok_fresh _ (GasCalc.canon spec) (fun _ => false) rfl hbal
  rcases transact_total_partial (2 * e.tx.gasLimit + 2) _ e spec hw (Nat.le_refl _) with ⟨o, w', h, _⟩ | ⟨err, h, h1, h2⟩
  · rw [h]; trivial
  · rw [h]; exact ⟨h1, h2⟩

/-! ### C25's per-frame invariant on the frames `makeFrame` creates, `RespOk` for the answers of EvmHost -/

/-- LINK (C25 `init_inv` without its `Bytes` hypothesis): the initial interpreter state on ANY code satisfies C25's
invariant — the jump analysis marks a position only where the opcode is JUMPDEST, so never in the padding -/
theorem evm_init_inv_any_code (code input : List Nat) (gasLimit : Nat) (isStatic : Bool)
    (spec target caller callValue : Nat) (env : Interp.Env) (mem : Memory.SharedMemory)
    (hcl : code.length ≤ Memory.ISIZE_MAX) (hil : input.length ≤ Memory.ISIZE_MAX) (hgas : gasLimit < U64)
    (henv : Revm.Proofs.Interp.EnvOk spec env) (hmem : Revm.Proofs.Interp.FreshMem mem) :
    Revm.Proofs.Interp.Inv (Interp.IState.init code input gasLimit isStatic spec target caller callValue env mem) :=
  (Proofs.Interp.init_inv' code input gasLimit isStatic spec target caller callValue env mem hcl hil hgas henv hmem).1

/-- LINK: the frame `make_create_frame` opens satisfies C25's invariant, with measure = its gas limit -/
theorem evm_create_frame_init_inv (cfg : Cfg) (w w' : World) (i : Interp.CreateInputs) (mem : Memory.SharedMemory)
    (f : Frame Journal.Checkpoint) (h : makeCreateFrame journalOps cfg w i mem = .ok (.frame f, w'))
    (hcl : i.initCode.length ≤ Memory.ISIZE_MAX) (hg : i.gasLimit < U64)
    (henv : Revm.Proofs.Interp.EnvOk cfg.spec cfg.env) (hm : Revm.Proofs.Memory.WF mem)
    (hl : mem.buffer.length ≤ 2^62) :
    Revm.Proofs.Interp.Inv f.interp ∧ Revm.Proofs.Interp.measure f.interp = i.gasLimit :=
  makeCreateFrame_init_inv h hcl hg henv hm hl

/-- LINK (C25 `RespOk` for EvmHost): with a code store whose entries are at most `isize::MAX` bytes, every `Host`
answer is acceptable to the interpreter -/
theorem evm_host_respOk (he : HostEnv) (w w1 : World) (op : Interp.HostOp) (resp : Interp.HostResp)
    (h : answer he w op = .ok (resp, w1))
    (hc : ∀ (wx : World) (hh : Nat) (bytes : List Nat), wx.codes = w.codes → wx.codeOf hh = some bytes →
      bytes.length ≤ Memory.ISIZE_MAX) : Revm.Proofs.Interp.RespOk resp :=
  answer_respOk h hc (fun _ _ _ hl => w_loadCode_codes hl)

/-- non-vacuity: the sample world is well formed -/
example : WOk sampleWorld := wok_fresh sampleWorld 17 (fun _ => false) rfl (by
  intro p hp
  simp only [sampleWorld, List.mem_singleton] at hp
  subst hp
  show (10 : Nat)^18 < W
  rw [W_val]; decide)

/-! ### C25's per-frame invariant through `run_the_loop`: the interpreter-side panics are excluded

`Proofs/EvmLinkInterpLoop.lean` extends the loop invariant `LI` by `SI`: every frame on the stack satisfies C25's `Inv`;
every code in the store and every recorded precompile output is a Rust `Bytes` (at most `isize::MAX` bytes); the
checkpoint of the frame at height `k` is at most `k · 2^43` — the measures of all frames add up to at most
`u64::MAX - 1`, since an action hands the child gas the parent paid for, so no memory cost is saturated and a context is
at most 2^43 bytes; with at most 1025 frames the shared buffer stays below 2^62. With it no `Interp.step` faults (C25
`step_fetch`), `insert_*_outcome` never faults (C25 `insertCall_sat` / `insertCreate_sat`), `free_context` never
fails. -/

/-- the residual class that remains inside the loop: the fuel. Legacy code never hands out the EOFCREATE action
(EOFCREATE stops at its `require_eof!`), so the EOFCREATE action of `Resid` cannot occur either. -/
theorem resid3_iff (e : Err) : Resid3 e ↔ e = .outOfFuel := Iff.rfl

/-- **`FullStatement_transact_total_link` on typed inputs**, with a well-formed final world: on a well-formed world
between two transactions whose code store and precompile oracle hold Rust `Bytes` (`WTyped`), for an environment whose
calldata is a `Bytes` and whose gas limit is a `u64` below `u64::MAX` (`ETyped`), for every fork, with
`2 · gas_limit + 2` units of fuel or more, `Evm.transact` returns a result on a well-formed world, or fails softly
(`Soft`). The whole residual class `Resid` of `transact_total_partial` is excluded: NEVER `interpreter: …`,
`insert outcome: …`, `free_context`, the EOFCREATE action, nor "out of fuel". -/
theorem transact_total_partial' (fuel : Nat) (w : World) (e : Evm.Env)
    (spec : Nat) (h : WOk w) (hw : WTyped w) (he : ETyped e) (hf : 2 * e.tx.gasLimit + 2 ≤ fuel) :
    (∃ o w', Evm.transact fuel w e spec = .ok (o, w') ∧ WOk w') ∨
    (∃ err, Evm.transact fuel w e spec = .error err ∧ Soft err) := by
  have h1 := transact_tot3 pcOut fuel w e spec h hw he
  have h2 := transact_terminates' fuel w e spec hf
  cases hx : Evm.transact fuel w e spec with
  | ok p => rw [hx] at h1; exact Or.inl ⟨p.1, p.2, rfl, h1⟩
  | error err =>
    rw [hx] at h1
    refine Or.inr ⟨err, rfl, ?_⟩
    rcases h1 with h1 | h1
    · exact h1
    · exact absurd (by rw [hx, h1]) h2

/-- `FullStatement_transact_total_link` under the two further hypotheses `WTyped w`, `ETyped e`: a result or a `Soft`
error. The two say that the inputs are Rust values: a `World` / `Env` that comes from the Rust types satisfies them
(`Bytes` is at most `isize::MAX` long, `gas_limit : u64`), except for the single value `gas_limit = u64::MAX`, which
the invariant "measure ≤ u64::MAX - 1" of the loop excludes (C25's `Inv` allows it only with an empty stack). -/
theorem transact_total_typed (fuel : Nat) (w : World) (e : Evm.Env) (spec : Nat) (h : WOk w) (hw : WTyped w)
    (he : ETyped e) (hf : 2 * e.tx.gasLimit + 2 ≤ fuel) :
    (∃ r, Evm.transact fuel w e spec = .ok r) ∨ (∃ err, Evm.transact fuel w e spec = .error err ∧ Soft err) := by
  rcases transact_total_partial' fuel w e spec h hw he hf with ⟨o, w', hx, _⟩ | hx
  · exact Or.inl ⟨_, hx⟩
  · exact Or.inr hx

/-- the fresh world of a pre-state whose codes and recorded precompile outputs are Rust `Bytes` is typed -/
theorem wtyped_fresh (spec : Nat) (pre : List PreAcct) (dbHasStorage : Bool) (oracle : List PcAnswer)
    (hcode : ∀ p ∈ pre, p.code.length ≤ Memory.ISIZE_MAX) (hpc : ∀ a ∈ oracle, a.out.length ≤ Memory.ISIZE_MAX) :
    WTyped (Spec.Evm.freshWorld spec pre dbHasStorage oracle) := by
  refine ⟨⟨fun q hq => ?_, hpc⟩, rfl⟩
  obtain ⟨p, hp, hq⟩ := List.mem_filterMap.mp hq
  split at hq
  · cases hq
  · cases hq; exact hcode p hp

/-- COROLLARY, in the shape of C01 `FullStatement_transact_total`: on the fresh world of a pre-state made of Rust values
(256-bit balances, codes and recorded precompile outputs `Bytes`), for a transaction made of Rust values (calldata a
`Bytes`, `gas_limit < u64::MAX`), with the fuel bound stated there, the answer is a result or a SOFT error (code-store
miss, precompile panic, oracle miss, fatal database error) — never a panic of the journal, the frame machine or the
interpreter, never "out of fuel". What separates this from `FullStatement_transact_total`: the precompile panic
(C23: MODEXP on a huge length does panic) and `code_by_hash` on an inconsistent code store, which are true of the code. -/
theorem transact_total_fresh' (spec : Nat) (pre : List PreAcct) (dbHasStorage : Bool)
    (oracle : List PcAnswer) (e : Evm.Env) (hbal : ∀ p ∈ pre, p.balance < W)
    (hcode : ∀ p ∈ pre, p.code.length ≤ Memory.ISIZE_MAX) (hpc : ∀ a ∈ oracle, a.out.length ≤ Memory.ISIZE_MAX)
    (he : ETyped e) :
    match Evm.transact (2 * e.tx.gasLimit + 2) (Spec.Evm.freshWorld spec pre dbHasStorage oracle) e spec with
    | .ok _ => True
    | .error err => Soft err := by
  have hw : WOk (Spec.Evm.freshWorld spec pre dbHasStorage oracle) :=
    wok_fresh _ (GasCalc.canon spec) (fun _ => false) rfl hbal
  rcases transact_total_partial' (2 * e.tx.gasLimit + 2) _ e spec hw
    (wtyped_fresh spec pre dbHasStorage oracle hcode hpc) he (Nat.le_refl _) with ⟨o, w', h, _⟩ | ⟨err, h, h1⟩
  · rw [h]; trivial
  · rw [h]; exact h1

/-- non-vacuity: the sample world and environment are typed -/
example : WTyped sampleWorld where
  store := by
    constructor
    · intro p hp; cases hp
    · intro p hp; cases hp
  depth := rfl
example : ETyped sampleEnv := ⟨Nat.zero_le _, by show 21000 ≤ U64 - 2; rw [U64_val]; decide⟩

end Revm.Props.C01Link
