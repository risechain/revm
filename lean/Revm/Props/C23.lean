import Revm.Proofs.PrecompileModexp
/-! C23 — precompiles return the output and gas their EIPs define.

`Model.Precompile` follows `crates/precompile/src` function by function (gas / length / padding /
validity layer of every precompile; identity, SHA-256, RIPEMD-160, BLAKE2F, modexp and BN254 add/mul are
fully executable; the cores of ecrecover, the BN254 pairing, KZG and BLS12-381 are parameters).
`Spec.Precompile` states the Yellow-Paper linear prices and EIP-198 / EIP-2565 over unbounded `Nat`
on the infinitely zero-extended input. The longer proofs are in `Revm.Proofs.Precompile*`.

Every length-dependent price is computed by the code in `u64`; the theorems carry the explicit bound
`input.length < 2^40` (1 TiB) under which no `u64` product wraps. For modexp the region is
`base_len + exp_len + mod_len < 2^61` and `gas_limit < 2^64 - 1`; outside it the code does NOT follow the
EIP (`modexp_*_counterexample`, recorded as a finding). -/
namespace Revm.Props.C23
open Revm Revm.Model.Precompile Revm.Model.PrecompileHash
open Revm.Proofs.Precompile (ValidBytes NoIterSat msmSpecGas witnessInput)
open Revm.Spec.Precompile (num eip198Gas eip2565Gas ModexpPost modexpFields adjExpLen)

/-! ## the linear price (identity, SHA-256, RIPEMD-160) -/

/-- `calc_linear_cost_u32` = `base + word * ⌈len / 32⌉` whenever that fits in `u64` -/
theorem linear_cost_formula (len base word : Nat) (h : Spec.Precompile.linearCost len base word < U64) :
    calcLinearCost len base word = Spec.Precompile.linearCost len base word :=
  Proofs.Precompile.calcLinearCost_eq len base word h
/-- … which is the case for every input shorter than 2^40 bytes at the three price points in use -/
theorem linear_cost_fits (len base word : Nat) (hl : len < 2 ^ 40) (hb : base ≤ 600) (hw : word ≤ 120) :
    Spec.Precompile.linearCost len base word < U64 := Proofs.Precompile.linearCost_lt len base word hl hb hw

/-- identity: gas `15 + 3⌈len/32⌉`, out of gas iff that exceeds the limit, output = input -/
theorem identity_eq_spec (input : Bytes) (gas : Nat) (hl : input.length < 2 ^ 40) :
    identityRun input gas = Spec.Precompile.identity input gas := Proofs.Precompile.identityRun_eq input gas hl
/-- SHA-256: gas `60 + 12⌈len/32⌉`, output the 32-byte digest -/
theorem sha256_eq_spec (input : Bytes) (gas : Nat) (hl : input.length < 2 ^ 40) :
    sha256Run input gas = Spec.Precompile.sha256 input gas := Proofs.Precompile.sha256Run_eq input gas hl
/-- RIPEMD-160: gas `600 + 120⌈len/32⌉`, output the digest left-padded to 32 bytes -/
theorem ripemd160_eq_spec (input : Bytes) (gas : Nat) (hl : input.length < 2 ^ 40) :
    ripemd160Run input gas = Spec.Precompile.ripemd160 input gas := Proofs.Precompile.ripemd160Run_eq input gas hl
theorem identity_oog_iff (input : Bytes) (gas : Nat) (hl : input.length < 2 ^ 40) :
    identityRun input gas = .err .OutOfGas ↔ Spec.Precompile.linearCost input.length 15 3 > gas := by
  rw [Proofs.Precompile.identityRun_eq _ _ hl]; exact Proofs.Precompile.oog_gate nofun
theorem sha256_oog_iff (input : Bytes) (gas : Nat) (hl : input.length < 2 ^ 40) :
    sha256Run input gas = .err .OutOfGas ↔ Spec.Precompile.linearCost input.length 60 12 > gas := by
  rw [Proofs.Precompile.sha256Run_eq _ _ hl]; exact Proofs.Precompile.oog_gate nofun
theorem ripemd160_oog_iff (input : Bytes) (gas : Nat) (hl : input.length < 2 ^ 40) :
    ripemd160Run input gas = .err .OutOfGas ↔ Spec.Precompile.linearCost input.length 600 120 > gas := by
  rw [Proofs.Precompile.ripemd160Run_eq _ _ hl]; exact Proofs.Precompile.oog_gate nofun
theorem sha256_output_length (msg : Bytes) : (sha256 msg).length = 32 := Proofs.Precompile.sha256_length msg
theorem ripemd160_output_length (msg : Bytes) : (List.replicate 12 0 ++ ripemd160 msg).length = 32 := by
  simp [Proofs.Precompile.ripemd160_length]

/-! ## out of gas exactly when the price exceeds the limit (fixed and per-element prices) -/

theorem ecrecover_oog_iff (rec : Bytes → Nat → Bytes → Option Bytes) (input : Bytes) (gas : Nat) :
    ecRecoverRun rec input gas = .err .OutOfGas ↔ 3000 > gas := by
  obtain ⟨v, rest, hv⟩ := Proofs.Precompile.rightPad128_drop63 input
  rw [Proofs.Precompile.ecRecoverRun_eq rec input gas hv]; exact Proofs.Precompile.oog_gate nofun
theorem bn_add_oog_iff (cost : Nat) (input : Bytes) (gas : Nat) :
    bnAddRun cost input gas = .err .OutOfGas ↔ cost > gas := by
  unfold bnAddRun
  refine Proofs.Precompile.oog_gate ?_
  simp only []
  split
  · next e he => intro hc; injection hc with hc; subst hc; exact Proofs.Precompile.readPoint_not_oog _ he
  · split
    · next e he => intro hc; injection hc with hc; subst hc; exact Proofs.Precompile.readPoint_not_oog _ he
    · simp
theorem bn_mul_oog_iff (cost : Nat) (input : Bytes) (gas : Nat) :
    bnMulRun cost input gas = .err .OutOfGas ↔ cost > gas := by
  unfold bnMulRun
  refine Proofs.Precompile.oog_gate ?_
  simp only []
  split
  · next e he => intro hc; injection hc with hc; subst hc; exact Proofs.Precompile.readPoint_not_oog _ he
  · simp
/-- pairing: `base + perPoint * ⌊len/192⌋` (EIP-197 / EIP-1108), checked before the length rule -/
theorem bn_pair_oog_iff (core : BnPairCore) (perPoint base : Nat) (input : Bytes) (gas : Nat)
    (hl : input.length < 2 ^ 40) (hp : perPoint ≤ 80000) (hb : base ≤ 100000) :
    bnPairRun core perPoint base input gas = .err .OutOfGas ↔ base + perPoint * (input.length / 192) > gas :=
  Proofs.Precompile.bnPair_oog_iff core perPoint base input gas hl hp hb
/-- BLAKE2F: one gas per round, after the length check -/
theorem blake2_oog_iff (input : Bytes) (gas : Nat) :
    blake2Run input gas = .err .OutOfGas ↔ input.length = 213 ∧ beNat (input.take 4) > gas := by
  unfold blake2Run
  by_cases hl : input.length = 213
  · simp only [hl, ne_eq, not_true_eq_false, if_false, true_and, Nat.mul_one]
    refine Proofs.Precompile.oog_gate ?_
    split <;> simp
  · simp [hl]
theorem kzg_oog_iff (verify : Bytes → Bytes → Bytes → Bytes → Bool) (input : Bytes) (gas : Nat) :
    kzgRun verify input gas = .err .OutOfGas ↔ gas < 50000 := by
  unfold kzgRun
  refine Proofs.Precompile.oog_gate ?_
  simp only []
  split; · simp
  split; · simp
  split <;> simp
theorem bls_g1add_oog_iff (core : BlsCore) (input : Bytes) (gas : Nat) :
    blsG1AddRun core input gas = .err .OutOfGas ↔ 375 > gas := by
  unfold blsG1AddRun
  refine Proofs.Precompile.oog_gate ?_
  split; · simp
  split; · simp
  split <;> simp
theorem bls_g2add_oog_iff (core : BlsCore) (input : Bytes) (gas : Nat) :
    blsG2AddRun core input gas = .err .OutOfGas ↔ 600 > gas := by
  unfold blsG2AddRun
  refine Proofs.Precompile.oog_gate ?_
  split; · simp
  split; · simp
  split <;> simp
theorem bls_mapfp_oog_iff (core : BlsCore) (input : Bytes) (gas : Nat) :
    blsMapFpRun core input gas = .err .OutOfGas ↔ 5500 > gas := by
  unfold blsMapFpRun
  refine Proofs.Precompile.oog_gate ?_
  split; · simp
  split <;> simp
theorem bls_mapfp2_oog_iff (core : BlsCore) (input : Bytes) (gas : Nat) :
    blsMapFp2Run core input gas = .err .OutOfGas ↔ 23800 > gas := by
  unfold blsMapFp2Run
  refine Proofs.Precompile.oog_gate ?_
  split; · simp
  split <;> simp
/-- EIP-2537 MSM price `k * 12000 * discount(k) / 1000` over `Nat`, after the length rule -/
theorem bls_g1msm_oog_iff (core : BlsCore) (input : Bytes) (gas : Nat) (hl : input.length < 2 ^ 40) :
    blsG1MsmRun core input gas = .err .OutOfGas ↔
      (input.length ≠ 0 ∧ input.length % 160 = 0 ∧ msmSpecGas (input.length / 160) g1DiscountTable 12000 > gas) := by
  unfold blsG1MsmRun
  exact Proofs.Precompile.lenGate_oog_iff 160 _ gas _ _ _
    (fun _ _ => Proofs.Precompile.msmRequiredGas_eq _ _ _ (by omega) (by omega) (by omega)
      Proofs.Precompile.g1Table_le Proofs.Precompile.g1Table_ne) (by split <;> nofun)
theorem bls_g2msm_oog_iff (core : BlsCore) (input : Bytes) (gas : Nat) (hl : input.length < 2 ^ 40) :
    blsG2MsmRun core input gas = .err .OutOfGas ↔
      (input.length ≠ 0 ∧ input.length % 288 = 0 ∧ msmSpecGas (input.length / 288) g2DiscountTable 22500 > gas) := by
  unfold blsG2MsmRun
  exact Proofs.Precompile.lenGate_oog_iff 288 _ gas _ _ _
    (fun _ _ => Proofs.Precompile.msmRequiredGas_eq _ _ _ (by omega) (by omega) (by omega)
      Proofs.Precompile.g2Table_le Proofs.Precompile.g2Table_ne) (by split <;> nofun)
theorem bls_pairing_oog_iff (core : BlsCore) (input : Bytes) (gas : Nat) (hl : input.length < 2 ^ 40) :
    blsPairingRun core input gas = .err .OutOfGas ↔
      (input.length ≠ 0 ∧ input.length % 384 = 0 ∧ 32600 * (input.length / 384) + 37700 > gas) := by
  unfold blsPairingRun
  exact Proofs.Precompile.lenGate_oog_iff 384 _ gas _ _ _
    (fun _ _ => by unfold U64ops.wadd U64ops.wmul; rw [U64_val]; omega) (by split <;> nofun)
/-- the `u64` MSM price function = the `Nat` formula for every realistic `k` -/
theorem msm_gas_formula (k : Nat) (table : List Nat) (mulCost : Nat) (hk : 0 < k) (hk2 : k < 2 ^ 33)
    (hm : mulCost ≤ 22500) (hb : ∀ d ∈ table, d ≤ 1000) (hne : table ≠ []) :
    msmRequiredGas k table mulCost = msmSpecGas k table mulCost :=
  Proofs.Precompile.msmRequiredGas_eq k table mulCost hk hk2 hm hb hne

/-! ## modexp -/

/-- the square-and-multiply of the model is `b^e mod m` -/
theorem modPow_eq (b e m : Nat) : modPow b e m = b ^ e % m := Proofs.Precompile.modPow_eq b e m

/-- `calculate_iteration_count` = EIP `max(adjusted_exponent_length, 1)` unless the `u64` count saturates -/
theorem iteration_count_eq (el hp : Nat) (hhp : hp < W) (hns : NoIterSat el) :
    calculateIterationCount el hp = max (adjExpLen el hp) 1 := Proofs.Precompile.iterCount_eq el hp hhp hns
/-- Byzantium price = EIP-198 price clamped to `u64` (the `u64` / `U256` intermediates never wrap) -/
theorem modexp_gas_eq_eip198 (bl el ml hp : Nat) (hbl : bl < U64) (hml : ml < U64) (hhp : hp < W)
    (hns : NoIterSat el) : byzantiumGasCalc bl el ml hp = min (eip198Gas bl el ml hp) (U64 - 1) :=
  Proofs.Precompile.byzantiumGasCalc_eq bl el ml hp hbl hml hhp hns
/-- Berlin price = EIP-2565 price clamped to `u64` -/
theorem modexp_gas_eq_eip2565 (bl el ml hp : Nat) (hbl : bl < U64) (hml : ml < U64) (hhp : hp < W)
    (hns : NoIterSat el) : berlinGasCalc bl el ml hp = min (eip2565Gas bl el ml hp) (U64 - 1) :=
  Proofs.Precompile.berlinGasCalc_eq bl el ml hp hbl hml hhp hns

/-- The property for modexp, at full strength: for EVERY input and gas limit the call is out of gas iff
the EIP price exceeds the limit, and otherwise charges the EIP price and returns `base^exp mod m` in
`mod_len` bytes. FALSE of the code (see the counterexamples below); proved on the region below. -/
def ModexpFullStatement : Prop :=
  ∀ (berlin : Bool) (input : Bytes) (gas : Nat), ValidBytes input → gas < U64 →
    ModexpPost berlin input gas (modexpRun berlin input gas)

/-- modexp follows EIP-198 (Byzantium) / EIP-2565 (Berlin) — header parsing with right padding, price,
out of gas iff price > limit, output `base^exp mod m` left-padded to `mod_len` — for every byte string
whose three declared lengths sum to less than 2^61 and every gas limit below `u64::MAX`.
Missing for the full statement: lengths ≥ 2^61 (iteration-count saturation, length-overflow errors,
allocation panics / aborts) and the gas limit 2^64 - 1 (price clamp). -/
theorem modexp_refines_eip_partial (berlin : Bool) (input : Bytes) (gas : Nat) (hv : ValidBytes input)
    (hlen : num input 0 32 + num input 32 32 + num input 64 32 < 2 ^ 61) (hgas : gas < U64 - 1) :
    ModexpPost berlin input gas (modexpRun berlin input gas) :=
  Proofs.Precompile.modexpRun_post berlin input gas hv (by unfold NoIterSat; rw [U64_val]; omega)
    (by unfold isizeMax; omega) hgas

/-- huge lengths, part 1: exactly when the code answers `ModexpBaseOverflow` -/
theorem modexp_base_overflow_iff (berlin : Bool) (input : Bytes) (gas : Nat) :
    modexpRun berlin input gas = .err .ModexpBaseOverflow ↔
      ((if berlin then 200 else 0) ≤ gas ∧ num input 0 32 ≥ U64) := by
  rw [Proofs.Precompile.modexpRun_eq, Proofs.Precompile.guard_ne, Proofs.Precompile.guard_eq,
    Proofs.Precompile.guard_ne, Proofs.Precompile.guard_ne, Proofs.Precompile.guard_ne]
  · simp only [Proofs.Precompile.modexpBody_ne (e := .ModexpBaseOverflow) nofun, and_false, or_false, Nat.not_lt]
  all_goals nofun
/-- huge lengths, part 2: exactly when the code answers `ModexpModOverflow` (also for exp_len, as coded;
note the order: base_len = mod_len = 0 succeeds before exp_len is looked at) -/
theorem modexp_mod_overflow_iff (berlin : Bool) (input : Bytes) (gas : Nat) :
    modexpRun berlin input gas = .err .ModexpModOverflow ↔
      ((if berlin then 200 else 0) ≤ gas ∧ num input 0 32 < U64 ∧
        (num input 64 32 ≥ U64 ∨ (¬ (num input 0 32 = 0 ∧ num input 64 32 = 0) ∧ num input 32 32 ≥ U64))) := by
  rw [Proofs.Precompile.modexpRun_eq, Proofs.Precompile.guard_ne, Proofs.Precompile.guard_ne,
    Proofs.Precompile.guard_eq, Proofs.Precompile.guard_ne, Proofs.Precompile.guard_eq]
  · simp only [Proofs.Precompile.modexpBody_ne (e := .ModexpModOverflow) nofun, or_false, Nat.not_lt, Nat.not_le]
  all_goals nofun
/-- … and a base or modulus length ≥ 2^64 prices the call above every `u64` limit in both EIPs, so failing is right -/
theorem modexp_huge_len_price (bl el ml hp : Nat) (h : bl ≥ U64 ∨ ml ≥ U64) :
    eip198Gas bl el ml hp ≥ U64 ∧ eip2565Gas bl el ml hp ≥ U64 :=
  ⟨Proofs.Precompile.eip198Gas_huge bl el ml hp h, Proofs.Precompile.eip2565Gas_huge bl el ml hp h⟩

/-- the library call + `left_pad_vec`: exactly `mod_len` bytes with value `base^exp mod m` (0 for m = 0) -/
theorem modexp_output (base exponent modulus : Bytes) (ml : Nat) (hm : beNat modulus < 256 ^ ml) :
    (leftPad ml (modexpLib base exponent modulus)).length = ml ∧
    beNat (leftPad ml (modexpLib base exponent modulus)) =
      Spec.Precompile.modexpValue (beNat base) (beNat exponent) (beNat modulus) :=
  Proofs.Precompile.modexpLib_padded base exponent modulus ml hm

/-- FINDING (code ≠ property): `exp_len = 2^63`, `mod_len = 1`, Byzantium pricing, gas limit
922337203685477580. EIP-198 prices the call at 3689348814741910310 > limit (out of gas); the code's
saturated iteration count prices it at the limit, so it is not out of gas and panics while
allocating 2^63 + 1 bytes. One gas less and the code reports out of gas. -/
theorem modexp_byzantium_counterexample :
    modexpRun false witnessInput 922337203685477580 = .panic ∧
    modexpRun false witnessInput 922337203685477579 = .err .OutOfGas ∧
    (modexpFields false witnessInput).cost = 3689348814741910310 ∧
    ¬ ModexpPost false witnessInput 922337203685477580 (modexpRun false witnessInput 922337203685477580) := by
  have h1 : modexpRun false witnessInput 922337203685477580 = .panic := by decide +kernel
  have h2 : modexpRun false witnessInput 922337203685477579 = .err .OutOfGas := by decide +kernel
  exact ⟨h1, h2, Proofs.Precompile.witness_cost false, by rw [h1]; exact Proofs.Precompile.modexpPost_not_panic _ _ _⟩
/-- the same under Berlin pricing: EIP-2565 price 24595658764946068736 (above every `u64`), code price 6148914691236517205 -/
theorem modexp_berlin_counterexample :
    modexpRun true witnessInput 6148914691236517205 = .panic ∧
    modexpRun true witnessInput 6148914691236517204 = .err .OutOfGas ∧
    (modexpFields true witnessInput).cost = 24595658764946068736 ∧
    ¬ ModexpPost true witnessInput 6148914691236517205 (modexpRun true witnessInput 6148914691236517205) := by
  have h1 : modexpRun true Proofs.Precompile.witnessInput 6148914691236517205 = .panic := by decide +kernel
  have h2 : modexpRun true Proofs.Precompile.witnessInput 6148914691236517204 = .err .OutOfGas := by decide +kernel
  exact ⟨h1, h2, Proofs.Precompile.witness_cost true, by rw [h1]; exact Proofs.Precompile.modexpPost_not_panic _ _ _⟩
/-- hence the full statement is false of the code -/
theorem modexp_full_statement_counterexample : ¬ ModexpFullStatement := by
  -- for variables: at the closed witness the type of `h …` is a closed `ModexpPost` term, which unification would evaluate
  have key : ∀ b i g, ValidBytes i → g < U64 → ¬ ModexpPost b i g (modexpRun b i g) → ¬ ModexpFullStatement :=
    fun b i g hv hg hn h => hn (h b i g hv hg)
  exact key _ _ _ Proofs.Precompile.witnessInput_valid (by rw [U64_val]; omega) modexp_byzantium_counterexample.2.2.2
theorem iteration_count_saturates_counterexample :
    calculateIterationCount (2 ^ 63) 0 = 2 ^ 64 - 1 ∧ max (adjExpLen (2 ^ 63) 0) 1 = 2 ^ 66 - 256 := by
  decide +kernel

/-! ## input padding -/

theorem rightPad_length (n : Nat) (d : Bytes) : (rightPad n d).length = n := Proofs.Precompile.rightPad_length n d
theorem leftPad_length (n : Nat) (d : Bytes) : (leftPad n d).length = n := Proofs.Precompile.leftPad_length n d
/-- byte `i` of `right_pad(data)`: the data byte, 0 beyond the data, nothing beyond the window -/
theorem rightPad_byte (n : Nat) (d : Bytes) (i : Nat) :
    (rightPad n d)[i]? = if i < n then some ((d[i]?).getD 0) else none := Proofs.Precompile.rightPad_getElem? n d i
/-- `right_pad_with_offset` is the EIP's read of the infinitely zero-extended input -/
theorem rightPadOff_is_zero_extension (input : Bytes) (off len : Nat) :
    rightPadOff len input off = Spec.Precompile.slice input off len := (Proofs.Precompile.slice_eq input off len).symm
theorem leftPad_value (n : Nat) (d : Bytes) (h : d.length ≤ n) : beNat (leftPad n d) = beNat d :=
  Proofs.Precompile.beNat_leftPad n d h
theorem rightPad_value (n : Nat) (d : Bytes) (h : d.length ≤ n) :
    beNat (rightPad n d) = beNat d * 256 ^ (n - d.length) := by
  rw [Proofs.Precompile.rightPad_of_ge n d h, Proofs.Precompile.beNat_append, Proofs.Precompile.beNat_zeros]; simp
theorem ecrecover_padding (rec : Bytes → Nat → Bytes → Option Bytes) (input : Bytes) (gas : Nat) :
    ecRecoverRun rec input gas = ecRecoverRun rec (rightPad 128 input) gas := by
  unfold ecRecoverRun; rw [Proofs.Precompile.rightPad_idem]
theorem bn_add_padding (cost : Nat) (input : Bytes) (gas : Nat) :
    bnAddRun cost input gas = bnAddRun cost (rightPad 128 input) gas := by
  unfold bnAddRun; rw [Proofs.Precompile.rightPad_idem]
theorem bn_mul_padding (cost : Nat) (input : Bytes) (gas : Nat) :
    bnMulRun cost input gas = bnMulRun cost (rightPad 96 input) gas := by
  unfold bnMulRun; rw [Proofs.Precompile.rightPad_idem]

/-! ## gates, length rules, formats -/

/-- with ≥ 3000 gas ecrecover always succeeds charging exactly 3000 (invalid input ⇒ empty output) -/
theorem ecrecover_always_ok (rec : Bytes → Nat → Bytes → Option Bytes) (input : Bytes) (gas : Nat) (h : 3000 ≤ gas) :
    ∃ out, ecRecoverRun rec input gas = .ok 3000 out := by
  obtain ⟨v, rest, hv⟩ := Proofs.Precompile.rightPad128_drop63 input
  rw [Proofs.Precompile.ecRecoverRun_eq rec input gas hv, if_neg (Nat.not_lt.mpr h)]; exact ⟨_, rfl⟩
/-- the `v` gate: a non-zero byte among bytes 32..62 of the padded input ⇒ empty output -/
theorem ecrecover_gate_zero_bytes (rec : Bytes → Nat → Bytes → Option Bytes) (input : Bytes) (gas : Nat)
    (h : 3000 ≤ gas) (hz : (((rightPad 128 input).drop 32).take 31).all (· == 0) = false) :
    ecRecoverRun rec input gas = .ok 3000 [] := by
  obtain ⟨v, rest, hv⟩ := Proofs.Precompile.rightPad128_drop63 input
  rw [Proofs.Precompile.ecRecoverRun_eq rec input gas hv, if_neg (Nat.not_lt.mpr h), hz]; rfl
/-- the `v` gate: byte 63 of the padded input other than 27 / 28 ⇒ empty output -/
theorem ecrecover_gate_v (rec : Bytes → Nat → Bytes → Option Bytes) (input : Bytes) (gas : Nat) (h : 3000 ≤ gas)
    (v : Nat) (rest : Bytes) (hv : (rightPad 128 input).drop 63 = v :: rest) (hne : v ≠ 27 ∧ v ≠ 28) :
    ecRecoverRun rec input gas = .ok 3000 [] := by
  rw [Proofs.Precompile.ecRecoverRun_eq rec input gas hv, if_neg (Nat.not_lt.mpr h), beq_false_of_ne hne.1,
    beq_false_of_ne hne.2, Bool.or_false, Bool.and_false]; rfl
/-- gate passed ⇒ the output is the recovery of (sig = bytes 64..127, recid = v - 27, msg = bytes 0..31) of
the padded input, or empty when the recovery fails -/
theorem ecrecover_gate_pass (rec : Bytes → Nat → Bytes → Option Bytes) (input : Bytes) (gas : Nat) (h : 3000 ≤ gas)
    (v : Nat) (rest : Bytes) (hv : (rightPad 128 input).drop 63 = v :: rest) (hv2 : v = 27 ∨ v = 28)
    (hz : (((rightPad 128 input).drop 32).take 31).all (· == 0) = true) :
    ecRecoverRun rec input gas =
      .ok 3000 ((rec (((rightPad 128 input).drop 64).take 64) (v - 27) ((rightPad 128 input).take 32)).getD []) := by
  have h1 : (v == 27 || v == 28) = true := by rcases hv2 with h | h <;> simp [h]
  rw [Proofs.Precompile.ecRecoverRun_eq rec input gas hv, if_neg (Nat.not_lt.mpr h), hz, h1]; rfl
theorem bn_pair_length_rule (core : BnPairCore) (perPoint base : Nat) (input : Bytes) (gas : Nat)
    (hg : ¬ U64ops.wadd (U64ops.wmul (input.length / 192) perPoint) base > gas) (hl : input.length % 192 ≠ 0) :
    bnPairRun core perPoint base input gas = .err .Bn128PairLength := by
  unfold bnPairRun; simp only [hg, if_false, hl, ne_eq, not_false_eq_true, if_true]
theorem bn_pair_empty_input (core : BnPairCore) (perPoint base : Nat) (gas : Nat) (hb : base < U64) (hg : base ≤ gas) :
    bnPairRun core perPoint base [] gas = .ok base (boolBytes32 true) := by
  unfold bnPairRun U64ops.wadd U64ops.wmul
  simp only [List.length_nil, Nat.zero_div, Nat.zero_mul, Nat.zero_mod, Nat.zero_add, Nat.mod_eq_of_lt hb]
  have : ¬ base > gas := by omega
  simp [this]
theorem blake2_wrong_length (input : Bytes) (gas : Nat) (h : input.length ≠ 213) :
    blake2Run input gas = .err .Blake2WrongLength := by
  unfold blake2Run; simp only [h, ne_eq, not_false_eq_true, if_true]
theorem blake2_gas_is_rounds (input : Bytes) (gas g : Nat) (out : Bytes) (h : blake2Run input gas = .ok g out) :
    g = beNat (input.take 4) ∧ input.length = 213 :=
  let ⟨h1, h2, _⟩ := Proofs.Precompile.blake2_ok input gas g out h; ⟨h1, h2⟩
theorem kzg_success_shape (verify : Bytes → Bytes → Bytes → Bytes → Bool) (input : Bytes) (gas g : Nat) (out : Bytes)
    (h : kzgRun verify input gas = .ok g out) :
    g = 50000 ∧ out = kzgReturnValue ∧ input.length = 192 ∧
      input.take 32 = kzgToVersionedHash ((input.drop 96).take 48) := by
  revert g out
  unfold kzgRun
  exact Proofs.Precompile.Ok.ite (fun _ => .err) fun _ => .ite (fun _ => .err) fun hl => .ite (fun _ => .err) fun hv =>
    .ite (fun _ => .err) fun _ => .ok ⟨rfl, rfl, Decidable.not_not.mp hl, (Decidable.not_not.mp hv).symm⟩
theorem kzg_wrong_length (verify : Bytes → Bytes → Bytes → Bytes → Bool) (input : Bytes) (gas : Nat)
    (hg : 50000 ≤ gas) (hl : input.length ≠ 192) : kzgRun verify input gas = .err .BlobInvalidInputLength := by
  unfold kzgRun
  have : ¬ gas < 50000 := by omega
  simp only [this, if_false, hl, ne_eq, not_false_eq_true, if_true]
theorem bls_g1add_wrong_length (core : BlsCore) (input : Bytes) (gas : Nat) (hg : 375 ≤ gas) (hl : input.length ≠ 256) :
    blsG1AddRun core input gas = .err .Other := by
  unfold blsG1AddRun
  have : ¬ 375 > gas := by omega
  simp only [this, if_false, hl, ne_eq, not_false_eq_true, if_true]
theorem bls_g2add_wrong_length (core : BlsCore) (input : Bytes) (gas : Nat) (hg : 600 ≤ gas) (hl : input.length ≠ 512) :
    blsG2AddRun core input gas = .err .Other := by
  unfold blsG2AddRun
  have : ¬ 600 > gas := by omega
  simp only [this, if_false, hl, ne_eq, not_false_eq_true, if_true]
theorem bls_msm_pairing_wrong_length (core : BlsCore) (input : Bytes) (gas : Nat) :
    (input.length = 0 ∨ input.length % 160 ≠ 0 → blsG1MsmRun core input gas = .err .Other) ∧
    (input.length = 0 ∨ input.length % 288 ≠ 0 → blsG2MsmRun core input gas = .err .Other) ∧
    (input.length = 0 ∨ input.length % 384 ≠ 0 → blsPairingRun core input gas = .err .Other) := by
  refine ⟨?_, ?_, ?_⟩ <;> intro h
  · unfold blsG1MsmRun; simp only [h, if_true]
  · unfold blsG2MsmRun; simp only [h, if_true]
  · unfold blsPairingRun; simp only [h, if_true]

/-! The cryptographic cores are arguments (`rec`, `core`, `verify`) of the theorems that meet them, arbitrary functions:
NOT proved here is that the real libraries compute
ecrecover, the BN254 pairing / G2 validity, the KZG verification and the BLS12-381 curve checks and group
operations correctly — no theorem of this file claims it. That part of C23 is carried by the
correspondence stream (real outputs passed as oracle, so only gas / format / validity order is compared)
and by the libraries' own test vectors; the level is therefore *partial* for those cores. -/

/-! ## the hypotheses are satisfiable; the functions are not trivial -/

example : ValidBytes witnessInput := Proofs.Precompile.witnessInput_valid
example : num witnessInput 0 32 = 0 ∧ num witnessInput 32 32 = 2 ^ 63 ∧ num witnessInput 64 32 = 1 :=
  Proofs.Precompile.witness_hdr
/-- 3^5 mod 7 = 5 through the whole precompile: header (1, 1, 1), data 03 05 07 -/
example : modexpRun true (toBE 32 1 ++ toBE 32 1 ++ toBE 32 1 ++ [3, 5, 7]) 1000 = .ok 200 [5] := by decide +kernel
/-- truncated data is zero-extended: modulus missing ⇒ modulus 0 ⇒ output 0 -/
example : modexpRun false (toBE 32 1 ++ toBE 32 1 ++ toBE 32 1 ++ [3, 5]) 1000 = .ok 0 [0] := by decide +kernel
example : modexpRun true (toBE 32 1 ++ toBE 32 1 ++ toBE 32 1 ++ [3, 5, 7]) 199 = .err .OutOfGas := by decide +kernel
example : num (toBE 32 1 ++ toBE 32 1 ++ toBE 32 1 ++ [3, 5, 7]) 0 32 + num (toBE 32 1 ++ toBE 32 1 ++ toBE 32 1 ++ [3, 5, 7]) 32 32
    + num (toBE 32 1 ++ toBE 32 1 ++ toBE 32 1 ++ [3, 5, 7]) 64 32 < 2 ^ 61 := by
  rw [Proofs.Precompile.num_eq, Proofs.Precompile.num_eq, Proofs.Precompile.num_eq]; decide +kernel
example : identityRun [1, 2, 3] 17 = .err .OutOfGas ∧ identityRun [1, 2, 3] 18 = .ok 18 [1, 2, 3] := by decide +kernel
example : calcLinearCost 33 600 120 = 840 ∧ calcLinearCost 0 60 12 = 60 := by decide +kernel
example : byzantiumGasCalc 64 32 64 (2 ^ 255) = 4096 * 255 / 20 ∧ berlinGasCalc 64 32 64 (2 ^ 255) = 64 * 255 / 3 := by
  decide +kernel
example : NoIterSat 1000 ∧ ¬ NoIterSat (2 ^ 63) := by unfold NoIterSat; rw [U64_val]; omega
example : msmRequiredGas 2 g1DiscountTable 12000 = 22776 ∧ msmRequiredGas 200 g2DiscountTable 22500 = 2358000 := by
  decide +kernel
example : bnAddRun 150 (toBE 32 1 ++ toBE 32 2 ++ toBE 32 1 ++ toBE 32 2) 150 =
    .ok 150 (toBE 32 0x030644e72e131a029b85045b68181585d97816a916871ca8d3c208c16d87cfd3 ++
             toBE 32 0x15ed738c0e0a7c92e7845f96b2ae9c0a68a6a449e3538fc7ff3ebf7a5a18a2c4) := by decide +kernel
example : bnAddRun 150 (toBE 32 1 ++ toBE 32 3) 150 = .err .Bn128AffineGFailedToCreate := by decide +kernel
example : blake2Run [] 100 = .err .Blake2WrongLength := by decide +kernel
/-- a 64-byte input with v = 28 in byte 63: the gate hypotheses of `ecrecover_gate_pass` hold -/
example : (rightPad 128 (List.replicate 63 0 ++ [28])).drop 63 = 28 :: List.replicate 64 0 ∧
    (((rightPad 128 (List.replicate 63 0 ++ [28])).drop 32).take 31).all (· == 0) = true := by decide +kernel

end Revm.Props.C23
