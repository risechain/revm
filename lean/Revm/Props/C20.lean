import Revm.Proofs.Db
/-! C20 — database wrappers answer queries exactly like the data they wrap. `Model.Db` follows `CacheDB`, `EmptyDB`,
`WrapDatabaseRef`, the `&mut`/`Box` forwarders, `DatabaseComponents`, the read side and block-hash cache of `State`;
`Spec.Db` is the underlying data overlaid with the committed changes (updates overwrite, queries change nothing).
Proved over underlying data that is a state (`Consistent`) except in five situations where the real code departs from
the overlay (`…_counterexample` at the end of the file): 1 `has_storage_not_forwarded_` (trait default `false` in
`CacheDB`, `State`, `DatabaseComponents`), kept out by the type `DQuery` of a history's queries; kept out by `GoodRun`:
2 `cachedb_code_cached_before_insert_`, 3 `cachedb_info_after_absent_lookup_`, 4 `cachedb_replace_storage_absent_`, 5
`cachedb_selfdestruct_then_touch_`. Not covered: `State::commit` (C15); errors (the generated database has none). -/
namespace Revm.Props.C20
open Revm.Model.Db Revm.Spec.Db

/-- every data query through `Database` answers like the `&self` reading (`DatabaseRef`) -/
theorem cachedb_query_answers_view (b : Data) (hb : Consistent b) (c : CacheDB) (q : DQuery) :
    (c.query b q.toQuery).2 = answer (c.view b) q := Proofs.Db.query_answer b hb c q

/-- The two access paths of a `CacheDB` agree. `CacheDB.refQuery` models `impl DatabaseRef for CacheDB`
(also what `&CacheDB`, `WrapDatabaseRef(&cache)` and a `CacheDB` stacked on `&cache` read), `CacheDB.query`
models `impl Database for CacheDB`; separate functions, as in the Rust. The immutable read answers what the mutable
read answers, and still does after the mutable read has cached what it fetched. -/
theorem ref_path_eq_mut_path (b : Data) (hb : Consistent b) (c : CacheDB) (q : Query) :
    c.refQuery b q = (c.query b q).2 ∧
    ∀ q', (c.query b q).1.refQuery b q' = c.refQuery b q' := by
  -- the immutable path reads the cache only through its view, which a query leaves as it is
  have e : ∀ (c : CacheDB) q', c.refQuery b q' = Base.answer ⟨c.view b, fun _ => false⟩ q' :=
    fun c q' => by cases q' <;> rfl
  have h2 : ∀ q', (c.query b q).1.refQuery b q' = c.refQuery b q' := fun q' => by
    rw [e, e, Proofs.Db.query_view b hb c q]
  -- and the mutable path answers what the immutable path reads from the cache it leaves
  exact ⟨(h2 q).symm.trans (Proofs.Db.query_settled b c q).2, h2⟩

/-- in a stack: `DatabaseRef` queries (on the `CacheDB` value, `&`, `WrapDatabaseRef`) read
`Db.view`, which for a `CacheDB` layer is `refQuery` on the reading of what is below -/
theorem stack_cache_ref_path (i : Db) (c : CacheDB) (q : Query) :
    (Db.cache i c).view.answer q = c.refQuery i.view.toData q ∧
    (Db.wrapRef (.cache i c)).query q = (Db.wrapRef (.cache i c), c.refQuery i.view.toData q) := by
  cases q <;> exact ⟨rfl, rfl⟩

/-- caching never changes an answer: whatever a query writes into the cache, the reading of all four data queries
is the same function as before -/
theorem cachedb_caching_never_changes_an_answer (b : Data) (hb : Consistent b) (c : CacheDB) (q : Query) :
    (c.query b q).1.view b = c.view b := Proofs.Db.query_view b hb c q

/-- caching is idempotent: the same query again gives the same answer and writes nothing -/
theorem cachedb_query_idempotent (b : Data) (c : CacheDB) (q : Query) :
    (c.query b q).1.query b q = ((c.query b q).1, (c.query b q).2) := (Proofs.Db.query_settled b c q).1

theorem cachedb_load_account_only_caches (b : Data) (hb : Consistent b) (c : CacheDB) (a : Addr) :
    (c.loadAccount b a).1.view b = c.view b := Proofs.Db.loadAccount_view b hb c a

theorem cachedb_new_reads_underlying (b : Data) (hb : Consistent b) : CacheDB.new.view b = b := by
  refine Proofs.Db.Data.ext' rfl rfl (funext fun h => ?_) rfl
  -- the two hashes `CacheDB::new` pre-fills with the empty code are those `Consistent` fixes
  simp only [CacheDB.view_def, CacheDB.new]
  by_cases h1 : h = KECCAK_EMPTY
  · subst h1; simp [hb.code_empty]
  · by_cases h2 : h = 0
    · subst h2; simp [hb.code_zero]
    · simp [h1, h2]

/-! ## CacheDB: updates are overwrites of the data -/

theorem cachedb_insert_account_storage (b : Data) (hb : Consistent b) (c : CacheDB) (a : Addr) (k : Slot) (x : Nat) :
    (c.insertAccountStorage b a k x).view b = setSlot (c.view b) a k x :=
  Proofs.Db.insertAccountStorage_view b hb c a k x

/-- partial: excludes situations 2 and 3 of the header -/
theorem cachedb_insert_account_info_partial (b : Data) (c : CacheDB) (a : Addr) (i : Info)
    (hcode : CodeOk c i) (habs : NotCachedAbsent c a) :
    (c.insertAccountInfo a i).view b = setInfo (c.view b) a i :=
  Proofs.Db.insertAccountInfo_view b c a i hcode habs

/-- partial: excludes situation 4 -/
theorem cachedb_replace_account_storage_partial (b : Data) (c : CacheDB) (a : Addr) (m : List (Slot × Nat))
    (hex : (c.view b).basic a ≠ none) :
    (c.replaceAccountStorage b a m).view b = replaceStorage (c.view b) a m :=
  Proofs.Db.replaceAccountStorage_view b c a m hex

/-- partial: excludes situations 2 and 5 -/
theorem cachedb_commit_partial (b : Data) (c : CacheDB) (chs : List Change) (hg : GoodCommit b c chs) :
    (c.commit chs).view b = commit (c.view b) chs := Proofs.Db.commit_view b chs c hg

/-! ## CacheDB: whole histories -/

/-- On a history (queries through both traits, `load_account`, inserts, replacements, commits) that stays out of
situations 2–5 the real `CacheDB` replies like the data overlaid with the committed changes, from any cache state
(a `CacheDB` wrapped in another one: `b := inner.view _`). `has_storage` is not among a history's queries
(situation 1), hence `_partial`. -/
theorem cachedb_history_from_partial (b : Data) (hb : Consistent b) (c : CacheDB) (ops : List Op)
    (hg : GoodRun b c ops) : crun b c ops = run (c.view b) ops := by
  induction ops generalizing c with
  | nil => rfl
  | cons op r ih =>
    obtain ⟨hs1, hs2⟩ := Proofs.Db.cstep_sim b hb c op hg.1
    simp only [crun, run]
    rw [ih _ hg.2, hs1, hs2]

/-- in particular from a fresh `CacheDB`, which reads like the underlying data -/
theorem cachedb_history_partial (b : Data) (hb : Consistent b) (ops : List Op)
    (hg : GoodRun b CacheDB.new ops) : crun b CacheDB.new ops = run b ops := by
  have := cachedb_history_from_partial b hb CacheDB.new ops hg
  rwa [cachedb_new_reads_underlying b hb] at this

/-- final data / final cache of a history, for the full statement -/
def cfinal (b : Data) : CacheDB → List Op → CacheDB
  | c, [] => c
  | c, op :: r => cfinal b (cstep b c op).1 r
def sfinal : Data → List Op → Data
  | v, [] => v
  | v, op :: r => sfinal (step v op).1 r

/-- The property at full strength for `CacheDB`: no `GoodRun` hypothesis, and `has_storage` answers
whether the overlaid data has a non-zero slot at the address. FALSE of the current code
(`cachedb_*_counterexample` below). -/
def CacheDbFullStatement : Prop :=
  ∀ (b : Data), Consistent b → ∀ (ops : List Op),
    crun b CacheDB.new ops = run b ops ∧
    ∀ a, CacheDB.hasStorage b (cfinal b CacheDB.new ops) a = true ↔ ∃ k, (sfinal b ops).storage a k ≠ 0

/-! ## forwarding wrappers and `EmptyDB` -/

/-- `WrapDatabaseRef` answers all five queries from the `DatabaseRef` reading of what it wraps and
writes nothing -/
theorem wrapref_forwards_all_five (i : Db) (q : Query) :
    (Db.wrapRef i).query q = (Db.wrapRef i, i.view.answer q) := rfl

/-- `&mut T` / `Box<T>`: all five queries (and their effects on `T`) are `T`'s -/
theorem mutref_box_forward_all_five (i : Db) (q : Query) :
    (Db.fwd i).query q = (Db.fwd (i.query q).1, (i.query q).2) := rfl

/-- `DatabaseComponents`: the four data queries are forwarded -/
theorem components_forward_data (i : Db) (q : DQuery) :
    (Db.components i).query q.toQuery = (Db.components (i.query q.toQuery).1, (i.query q.toQuery).2) := by
  cases q <;> rfl

/-- `EmptyDB`: no accounts, zero storage, empty code, `keccak256(number.to_string())`, no storage -/
theorem emptydb_answers (k : Nat → Hash) (a : Addr) (s : Slot) (h : Hash) (n : Nat) :
    ((Db.empty k).query (.basic a)).2 = .info none ∧
    ((Db.empty k).query (.storage a s)).2 = .word 0 ∧
    ((Db.empty k).query (.code h)).2 = .code Code.empty ∧
    ((Db.empty k).query (.blockHash n)).2 = .word (k n) ∧
    ((Db.empty k).query (.hasStorage a)).2 = .flag false := ⟨rfl, rfl, rfl, rfl, rfl⟩

/-- a `CacheDB` in a stack answers from the `DatabaseRef` reading of what is below it -/
theorem stack_cache_layer (i : Db) (hc : Consistent i.view.toData) (c : CacheDB) (q : DQuery) :
    ((Db.cache i c).query q.toQuery).2 = answer (c.view i.view.toData) q ∧
    ((Db.cache i c).query q.toQuery).1.view.toData = (Db.cache i c).view.toData := by
  constructor
  · exact Proofs.Db.query_answer i.view.toData hc c q
  · exact Proofs.Db.query_view i.view.toData hc c q.toQuery

/-! ## `State`: the block-hash cache with pruning -/

/-- one `block_hash(n)` of `State` over an inner database answering `f`: the answer is `f n`
whatever has been cached and pruned before, and every pair still cached is correct -/
theorem state_block_hash_step (f : Nat → Hash) (s : StateDb) (hs : Proofs.Db.BhOk f s.blockHashes) (n : Nat) :
    (s.step (.blockHash n) (.word (f n))).2.2 = .word (f n) ∧
    Proofs.Db.BhOk f (s.step (.blockHash n) (.word (f n))).2.1.blockHashes :=
  Proofs.Db.state_blockHash_step f s hs n

/-- block-hash pruning never changes an answer: whatever block numbers are asked of a fresh `State` (before, inside
or beyond the 256-block window), the answers are the inner database's -/
theorem state_block_hash_history (f : Nat → Hash) (ns : List Nat) :
    Proofs.Db.stateBhRun f StateDb.new ns = ns.map (fun n => Reply.word (f n)) :=
  Proofs.Db.stateBhRun_eq f ns StateDb.new (fun _ hp => by cases hp)

/-- what pruning does remove: after the loop nothing older than `last` is kept (ordered map) -/
theorem state_prune_bound (m : List (Nat × Hash)) (last : Nat)
    (hsorted : List.Pairwise (fun p q : Nat × Hash => p.1 < q.1) m) :
    ∀ p ∈ btPrune m last, last ≤ p.1 := by
  induction m with
  | nil => intro p hp; cases hp
  | cons q r ih =>
    obtain ⟨k, v⟩ := q
    have hr := List.pairwise_cons.mp hsorted
    unfold btPrune
    by_cases hk : k < last
    · rw [if_pos hk]; exact ih hr.2
    · rw [if_neg hk]
      intro p hp
      rcases List.mem_cons.mp hp with hp | hp
      · rw [hp]; exact Nat.le_of_not_lt hk
      · exact Nat.le_trans (Nat.le_of_not_lt hk) (Nat.le_of_lt (hr.1 p hp))

/-! ## `State`: read caches, and arbitrary stacks of wrappers -/

/-- `State::basic` returns the inner answer except that an *empty* account (no code, zero balance
and nonce) comes back as `AccountInfo::default()` -/
theorem state_basic_normalises_only_empty (oi : Option Info) :
    stateBasic oi = oi.map (fun i => if i.isEmpty then Info.default else i) := by
  cases oi with
  | none => rfl
  | some i => by_cases he : i.isEmpty = true <;> simp [stateBasic, CacheAccount.ofOpt, CacheAccount.accountInfo, he]

/-- one query of `State` whose caches agree with the inner reading `v` (`StOk`; true of a fresh
`State`): the answer is `v`'s (account info normalised as above) and the caches still agree.
`State::storage` on an address that was never loaded is `unreachable!` (a panic in the model),
hence the side condition. -/
theorem state_query_answers_inner (v : Data) (hv : Consistent v) (s : StateDb) (hs : Proofs.Db.StOk v s)
    (q : DQuery) (hl : ∀ a k, q = .storage a k → s.accounts a ≠ none) :
    (s.step q.toQuery (answer v q)).2.2 = answer (Proofs.Db.stateView v) q ∧
    Proofs.Db.StOk v (s.step q.toQuery (answer v q)).2.1 := Proofs.Db.state_step v hv s hs q hl

theorem state_fresh_ok (v : Data) : Proofs.Db.StOk v StateDb.new :=
  ⟨fun _ _ h => (nomatch h), fun _ _ h => (nomatch h), fun _ hp => (nomatch hp)⟩

/-- Wrappers composed: for every stack built from `CacheDB`, `State`, `WrapDatabaseRef`, `&mut` /
`Box`, `DatabaseComponents` over a generated database or `EmptyDB` whose `State` caches agree with
what is below them (`WF`), every data query answers like the stack's reading `d.view` (the underlying
data with the `CacheDB` overlays; empty accounts normalised by `State`), leaves that reading unchanged
and keeps the stack well-formed, so the statement iterates over query sequences. -/
theorem stack_query (d : Db) (q : DQuery) (hw : Proofs.Db.WF d) (hr : Proofs.Db.Ready d q) :
    (d.query q.toQuery).2 = answer d.view.toData q ∧ (d.query q.toQuery).1.view = d.view ∧
    Proofs.Db.WF (d.query q.toQuery).1 := Proofs.Db.stack_query d q hw hr

/-! ## instances of `GoodRun`, `WF` and a stack's answers -/

def exInfo : Info := ⟨5, 0, KECCAK_EMPTY, none⟩
def exCode : Code := ⟨[0x60, 0x00], 0x1234⟩
/-- account 1 (with slot 7 = 9) exists, nothing else -/
def exData : Data :=
  { basic := fun a => if a = 1 then some exInfo else none,
    storage := fun a k => if a = 1 ∧ k = 7 then 9 else 0,
    code := fun _ => Code.empty,
    blockHash := fun n => n + 100 }
def exBase : Base := { toData := exData, hasStorage := fun a => a == 1 }

theorem exData_consistent : Consistent exData :=
  ⟨by intro a h k; by_cases ha : a = 1 <;> simp_all [exData], rfl, rfl⟩

def exOps : List Op :=
  [.query (.storage 1 7), .insertSlot 2 3 4, .query (.storage 2 3), .query (.basic 2),
   .insertInfo 3 ⟨1, 1, KECCAK_EMPTY, some exCode⟩, .query (.code 0x1234), .refQuery (.basic 3),
   .commit [⟨1, exInfo, true, false, false, [(7, 8)]⟩], .query (.storage 1 7), .query (.blockHash 5)]

def exState (n : Nat) : CacheDB := cfinal exData CacheDB.new (exOps.take n)

example : GoodRun exData CacheDB.new exOps := by
  have h3 : (exState 4).accounts 3 = none := rfl
  have hk : (exState 4).contracts (codeKey ⟨1, 1, KECCAK_EMPTY, some exCode⟩ exCode) = none := rfl
  have h1 : (exState 7).accounts 1 = some ⟨exInfo, .none, upd (fun _ => none) 7 (some 9)⟩ := rfl
  refine ⟨trivial, trivial, trivial, trivial, ⟨?_, ?_⟩, trivial, trivial, ⟨?_, trivial⟩, trivial, trivial, trivial⟩
  · intro code hc he
    have : code = exCode := by simpa using hc.symm
    subst this; exact Or.inl hk
  · intro acc h
    have h' : (exState 4).accounts 3 = some acc := h
    rw [h3] at h'
    cases h'
  · intro _ _
    refine ⟨?_, ?_⟩
    · intro code hc; simp [exInfo] at hc
    · intro _ acc h hs
      have h' : (exState 7).accounts 1 = some acc := h
      rw [h1] at h'
      cases h'
      cases hs

example : run exData exOps =
    [some (.word 9), none, some (.word 4), some (.info none), none, some (.code exCode),
     some (.info (some ⟨1, 1, 0x1234, some exCode⟩)), none, some (.word 8), some (.word 105)] := by decide

/-- a three-layer stack over the example data is well-formed, and ready for a storage query once
the account has been loaded into the `State` layer -/
example : Proofs.Db.WF (.fwd (.state (.cache (.base exBase) CacheDB.new) StateDb.new)) := by
  have hv : (Db.cache (.base exBase) CacheDB.new).view.toData = exData := cachedb_new_reads_underlying exData exData_consistent
  refine ⟨⟨exData_consistent, exData_consistent⟩, ?_, ?_⟩
  · rw [hv]; exact exData_consistent
  · exact state_fresh_ok _
example :
    let d := Db.fwd (.state (.cache (.base exBase) CacheDB.new) StateDb.new)
    ((d.query (.basic 1)).1.query (.storage 1 7)).2 = .word 9 ∧ (d.query (.storage 1 7)).2 = .panic := by decide

/-! ## counterexamples on the current code (each is also a witness line of the correspondence) -/

/-- 1a. storage in the underlying database: it says `has_storage = true`, `CacheDB` over it,
`State` over it and `DatabaseComponents` over it say `false` -/
theorem has_storage_not_forwarded_counterexample :
    exBase.hasStorage 1 = true ∧ exBase.storage 1 7 ≠ 0 ∧
    ((Db.cache (.base exBase) CacheDB.new).query (.hasStorage 1)).2 = .flag false ∧
    ((Db.state (.base exBase) StateDb.new).query (.hasStorage 1)).2 = .flag false ∧
    ((Db.components (.base exBase)).query (.hasStorage 1)).2 = .flag false ∧
    (Db.cache (.base exBase) CacheDB.new).view.hasStorage 1 = false := by decide

/-- … while the forwarding wrappers do pass it on -/
theorem has_storage_forwarded_by_forwarders :
    ((Db.wrapRef (.base exBase)).query (.hasStorage 1)).2 = .flag true ∧
    ((Db.fwd (.base exBase)).query (.hasStorage 1)).2 = .flag true := by decide

/-- 1b. storage inserted into the `CacheDB` itself: the slot reads 4, `has_storage` is `false` -/
theorem cachedb_inserted_storage_has_storage_counterexample :
    let c := CacheDB.new.insertAccountStorage exData 2 3 4
    (c.storage exData 2 3).2 = 4 ∧ c.hasStorage exData 2 = false := by decide

theorem cachedb_full_statement_counterexample : ¬ CacheDbFullStatement := by
  intro h
  have := (h exData exData_consistent [.insertSlot 2 3 4]).2 2
  have h2 : ∃ k, (sfinal exData [.insertSlot 2 3 4]).storage 2 k ≠ 0 := ⟨3, by decide⟩
  have h3 := this.mpr h2
  simp [CacheDB.hasStorage] at h3

/-- 2. a code hash asked for before the contract is inserted keeps answering the empty code -/
theorem cachedb_code_cached_before_insert_counterexample :
    let ops : List Op := [.query (.code 0x1234), .insertInfo 3 ⟨0, 1, KECCAK_EMPTY, some exCode⟩, .query (.code 0x1234)]
    crun exData CacheDB.new ops = [some (.code Code.empty), none, some (.code Code.empty)] ∧
    run exData ops = [some (.code Code.empty), none, some (.code exCode)] ∧
    -- without the first query the code is found
    crun exData CacheDB.new ops.tail = [none, some (.code exCode)] := by decide

/-- 3. an address cached as not existing stays so after `insert_account_info` -/
theorem cachedb_info_after_absent_lookup_counterexample :
    let ops : List Op := [.query (.basic 9), .insertInfo 9 exInfo, .query (.basic 9)]
    crun exData CacheDB.new ops = [some (.info none), none, some (.info none)] ∧
    run exData ops = [some (.info none), none, some (.info (some exInfo))] ∧
    crun exData CacheDB.new ops.tail = [none, some (.info (some exInfo))] := by decide

/-- 4. `replace_account_storage` on a not existing address makes it an (empty) account -/
theorem cachedb_replace_storage_absent_counterexample :
    let ops : List Op := [.replaceStorage 3 [(1, 1)], .query (.basic 3)]
    crun exData CacheDB.new ops = [none, some (.info (some Info.default))] ∧
    run exData ops = [none, some (.info none)] := by decide

/-- 5. committed self-destruct, then a plain touch: the underlying slot value is visible again -/
theorem cachedb_selfdestruct_then_touch_counterexample :
    let ops : List Op := [.commit [⟨1, Info.default, true, true, false, []⟩], .query (.storage 1 7),
                          .commit [⟨1, exInfo, true, false, false, []⟩], .query (.storage 1 7)]
    crun exData CacheDB.new ops = [none, some (.word 0), none, some (.word 9)] ∧
    run exData ops = [none, some (.word 0), none, some (.word 0)] := by decide

/-- underlying slot 7 of account 1 holds 9, the account is self-destructed through a commit and not
re-created; both paths read zero (an instance of `ref_path_eq_mut_path` on a `NotExisting` entry) -/
example :
    let c := CacheDB.new.commit [⟨1, Info.default, true, true, false, []⟩]
    (c.accounts 1).map (·.state) = some .notExisting ∧ exData.storage 1 7 = 9 ∧
    c.refQuery exData (.storage 1 7) = .word 0 ∧ (c.query exData (.storage 1 7)).2 = .word 0 ∧
    c.refQuery exData (.basic 1) = .info none ∧ (c.query exData (.basic 1)).2 = .info none := by decide

/-- … and why `ref_path_eq_mut_path` assumes `Consistent`: over an underlying database that reports
storage for an account it says does not exist, the two paths differ on a vacant entry (the mutable
path asks `basic` first and answers 0, the immutable path forwards `storage_ref`) -/
theorem ref_path_inconsistent_underlying_counterexample :
    let b : Data := { exData with storage := fun _ _ => 6 }
    CacheDB.new.refQuery b (.storage 9 0) = .word 6 ∧ (CacheDB.new.query b (.storage 9 0)).2 = .word 0 := by decide

/-- why `Consistent` is assumed: if the underlying database reports storage for an account it
says does not exist, `CacheDB` answers 0 where the database answers the value -/
theorem cachedb_inconsistent_underlying_counterexample :
    let b : Data := { exData with storage := fun _ _ => 6 }
    (CacheDB.new.storage b 9 0).2 = 0 ∧ b.storage 9 0 = 6 ∧ b.basic 9 = none := by decide

end Revm.Props.C20
