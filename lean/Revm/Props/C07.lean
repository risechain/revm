import Revm.Proofs.FrameLoop
import Revm.Proofs.FrameRestore
import Revm.Proofs.FrameTotalLoop
/-! C07 — every call / create / eofcreate frame returns with the journal depth it started from, whatever its outcome;
consequently nesting reaches exactly 1024 levels below the transaction's own (first) frame, whatever happened earlier.
About `Model/Frame.lean`: the checkpoint discipline of the `make_*_frame` / `*_return` functions and of `run_the_loop`
over the journal model. What a program does is an oracle answer (precompile result, code class, created address,
has_storage, interpreter result, deposit gas, output size / first byte), universally quantified. `= some …` excludes
Rust panics (`none`) only; `.fatal` is `Err(EVMError)`, which aborts the transaction (no frame result exists).
The code before /repo commit 4cdd3651 leaked a level: `ext_delegate_call_leak_regression`. -/
namespace Revm.Props.C07
open Revm Revm.Model.Journal Revm.Model.Frame Revm.Proofs.Frame
open Revm.Spec.JournalAbs hiding step run

/-- `make_call_frame`: an immediate result (CallTooDeep, OutOfFunds / OverflowPayment, precompile ok / OOG /
error, InvalidExtDelegateCallTarget, Stop on empty code) leaves the depth unchanged; an opened frame, once
`call_return` runs on a state of the same depth as right after frame creation (what the loop invariant gives),
returns to the depth before the call - for every result of the frame. -/
theorem frame_depth_neutral_call (db : Db) (s s1 : JState) (inp : CallInputs) (o : CallOracle) (r : FrameOrResult)
    (h : makeCallFrame db s inp o = some (s1, r)) :
    (∀ res, r = .result res → s1.depth = s.depth) ∧
    (∀ cp, r = .frame cp → ∀ (s2 s3 : JState) (ok : Bool),
        s2.depth = s1.depth → callReturn s2 cp ok = some s3 → s3.depth = s.depth) := by
  have hd := makeCallFrame_opens h
  constructor
  · intro res hr; subst hr; exact hd.1
  · intro cp hr s2 s3 ok h2 h3; subst hr
    rw [callReturn_depth h3, h2, hd.1, dec_inc]

/-- `make_create_frame` + `create_return`, every path (depth, EF00 init code, OutOfFunds, nonce overflow,
precompile address, collision, balance overflow; result not ok, EF first byte, size limit, deposit failure
before / after Homestead, success) -/
theorem frame_depth_neutral_create (db : Db) (s s1 : JState) (spec : Nat) (inp : CreateInputs) (o : CreateOracle)
    (r : FrameOrResult) (a : Addr) (h : makeCreateFrame db s spec inp o = some (s1, r, a)) :
    (∀ res, r = .result res → s1.depth = s.depth) ∧
    (∀ cp, r = .frame cp → ∀ (s2 s3 : JState) (ret : CreateRet) (res : IRes),
        s2.depth = s1.depth → createReturn s2 spec cp a ret = some (s3, res) → s3.depth = s.depth) := by
  have hd := makeCreateFrame_opens h
  constructor
  · intro res hr; subst hr; exact hd.1
  · intro cp hr s2 s3 ret res h2 h3; subst hr
    rw [close_depth (createReturn_close .. ▸ h3), h2, hd.1, dec_inc]

/-- `make_eofcreate_frame` + `eofcreate_return`, every path (EOFCREATE opcode and EOF create transaction) -/
theorem frame_depth_neutral_eofcreate (db : Db) (s s1 : JState) (spec : Nat) (inp : CreateInputs) (kind : EofCreateKind)
    (o : CreateOracle) (r : FrameOrResult) (a : Addr) (h : makeEofCreateFrame db s spec inp kind o = some (s1, r, a)) :
    (∀ res, r = .result res → s1.depth = s.depth) ∧
    (∀ cp, r = .frame cp → ∀ (s2 s3 : JState) (ret : EofCreateRet) (res : IRes),
        s2.depth = s1.depth → eofcreateReturn s2 cp a ret = some (s3, res) → s3.depth = s.depth) := by
  have hd := makeEofCreateFrame_opens h
  constructor
  · intro res hr; subst hr; exact hd.1
  · intro cp hr s2 s3 ret res h2 h3; subst hr
    rw [close_depth (eofcreateReturn_close .. ▸ h3), h2, hd.1, dec_inc]

/-- nothing an interpreter does through `Host` between two frame actions moves the depth -/
theorem host_op_depth_neutral (db : Db) (s s' : JState) (op : HostOp) (h : hostStep db s op = some s') :
    s'.depth = s.depth := hostStep_depth h

/-- one iteration of `run_the_loop` keeps `depth = call_stack.len()`, `1 ≤ len ≤ 1025`; when the first frame
returns the depth is 0 -/
theorem loop_step_invariant (db : Db) (spec : Nat) (l : Loop) (a : Action) (out : StepOut)
    (hi : Inv l) (h : step db spec l a = some out) : OutInv out := step_inv hi h

/-- `run_the_loop` over ANY list of actions (any program, any number of steps), from any state satisfying the
invariant -/
theorem loop_depth_invariant_from (db : Db) (spec : Nat) (l : Loop) (prog : List Action) (out : StepOut)
    (hi : Inv l) (h : run db spec l prog = some out) : OutInv out := run_inv prog hi h

/-- a whole transaction body: from the transaction-level journal (depth 0), first frame, then the loop over
any program: while it runs `depth = call_stack.len()` (the first frame runs at depth 1), and when it ends the
depth is 0 again -/
theorem loop_depth_invariant (db : Db) (spec : Nat) (s : JState) (f : FirstFrame) (prog : List Action) (out : StepOut)
    (h0 : s.depth = 0) (h : transactFrames db spec s f prog = some out) :
    (∀ l, out = .running l → l.js.depth = l.stack.length ∧ 1 ≤ l.stack.length ∧ l.stack.length ≤ CALL_STACK_LIMIT + 1) ∧
    (∀ js r, out = .done js r → js.depth = 0) := by
  have := transactFrames_inv h0 h
  constructor
  · intro l hl; subst hl; exact this
  · intro js r hl; subst hl; exact this

/-- a loop state that some transaction (any first frame, any program prefix: any number of completed,
reverted, halted, refused calls and creates) reaches from a depth-0 journal -/
def Reachable (db : Db) (spec : Nat) (l : Loop) : Prop :=
  ∃ (s : JState) (f : FirstFrame) (prog : List Action), s.depth = 0 ∧ transactFrames db spec s f prog = some (.running l)

theorem reachable_inv {db : Db} {spec : Nat} {l : Loop} (h : Reachable db spec l) : Inv l := by
  obtain ⟨s, f, prog, h0, ht⟩ := h
  exact transactFrames_inv h0 ht

/-- the number of open frames besides the first one: how many levels below the transaction frame the top frame sits -/
def level (l : Loop) : Nat := l.stack.length - 1

private theorem reachable_level {db : Db} {spec : Nat} {l : Loop} (hr : Reachable db spec l) :
    (l.js.depth > CALL_STACK_LIMIT ↔ level l = CALL_STACK_LIMIT) ∧ level l ≤ CALL_STACK_LIMIT := by
  obtain ⟨h1, h2, h3⟩ := reachable_inv hr
  simp only [level]
  omega

/-- in every reachable state a CALL-family action is refused with CallTooDeep iff the calling frame is
exactly 1024 levels below the transaction frame - a statement about the number of OPEN frames only, not about
the history of completed siblings; and reachable frames never sit deeper than that -/
theorem max_depth (db : Db) (spec : Nat) (l : Loop) (inp : CallInputs) (o : CallOracle) (s' : JState) (r : FrameOrResult)
    (hr : Reachable db spec l) (h : makeCallFrame db l.js inp o = some (s', r)) :
    (r = .result .callTooDeep ↔ level l = CALL_STACK_LIMIT) ∧ level l ≤ CALL_STACK_LIMIT := by
  obtain ⟨hl, hle⟩ := reachable_level hr
  exact ⟨⟨fun hc => hl.1 ((makeCallFrame_opens (r := .result .callTooDeep) (hc ▸ h)).2 rfl), fun he => (makeCallFrame_deep h (hl.2 he)).1⟩, hle⟩

/-- the same for CREATE / CREATE2 -/
theorem max_depth_create (db : Db) (spec : Nat) (l : Loop) (inp : CreateInputs) (o : CreateOracle) (s' : JState)
    (r : FrameOrResult) (a : Addr)
    (hr : Reachable db spec l) (h : makeCreateFrame db l.js spec inp o = some (s', r, a)) :
    (r = .result .callTooDeep ↔ level l = CALL_STACK_LIMIT) := by
  have hl := (reachable_level hr).1
  exact ⟨fun hc => hl.1 ((makeCreateFrame_opens (r := .result .callTooDeep) (hc ▸ h)).2 rfl), fun he => (makeCreateFrame_deep h (hl.2 he)).1⟩

/-- the same for the EOFCREATE opcode -/
theorem max_depth_eofcreate (db : Db) (spec : Nat) (l : Loop) (inp : CreateInputs) (created : Addr) (o : CreateOracle)
    (s' : JState) (r : FrameOrResult) (a : Addr)
    (hr : Reachable db spec l) (h : makeEofCreateFrame db l.js spec inp (.opcode created) o = some (s', r, a)) :
    (r = .result .callTooDeep ↔ level l = CALL_STACK_LIMIT) := by
  have hl := (reachable_level hr).1
  exact ⟨fun hc => hl.1 ((makeEofCreateFrame_opens (r := .result .callTooDeep) (hc ▸ h)).2 rfl),
    fun he => (makeEofCreateFrame_deep h (hl.2 he) (fun _ _ _ hk => nomatch hk)).1⟩

/-- a frame is opened only when the caller is fewer than 1024 levels below the transaction frame, and the new
frame is one level deeper -/
theorem frame_opens_one_level_deeper (db : Db) (spec : Nat) (l : Loop) (a : Action) (l' : Loop)
    (hr : Reachable db spec l) (h : step db spec l a = some (.running l')) :
    l'.stack.length ≤ l.stack.length + 1 ∧ (l'.stack.length = l.stack.length + 1 → level l < CALL_STACK_LIMIT) := by
  have hi := reachable_inv hr
  have hi' : Inv l' := step_inv hi h
  -- the second part is the bound of the invariant on the new stack
  refine ⟨?_, fun he => by have := hi'.2.2; have := hi.2.1; simp only [level, CALL_STACK_LIMIT] at *; omega⟩
  cases a with
  | host op =>
    obtain ⟨s1, _, h2⟩ := Option.map_eq_some_iff.1 h
    cases h2; exact Nat.le_succ _
  | call inp o =>
    obtain ⟨⟨s1, r⟩, _, h2⟩ := Option.map_eq_some_iff.1 h
    exact afterFrameOrResult_len h2
  | create inp o =>
    obtain ⟨⟨s1, r, a⟩, _, h2⟩ := Option.map_eq_some_iff.1 h
    exact afterFrameOrResult_len h2
  | eofcreate inp kind o =>
    obtain ⟨⟨s1, r, a⟩, _, h2⟩ := Option.map_eq_some_iff.1 h
    exact afterFrameOrResult_len h2
  | ret r =>
    cases hst : l.stack with
    | nil => simp only [step, hst] at h; cases h
    | cons f rest =>
      rw [step_ret hst] at h
      obtain ⟨⟨s1, res⟩, _, h2⟩ := Option.map_eq_some_iff.1 h
      cases rest with
      | nil => cases h2
      | cons g rest' => cases h2; exact Nat.le_succ_of_le (Nat.le_succ _)

theorem reachable_run {db : Db} {spec : Nat} {l l' : Loop} {more : List Action}
    (hr : Reachable db spec l) (h : run db spec l more = some (.running l')) : Reachable db spec l' := by
  obtain ⟨s, f, prog, h0, ht⟩ := hr
  refine ⟨s, f, prog ++ more, h0, ?_⟩
  simp only [transactFrames] at ht ⊢
  split at ht
  · cases ht
  · rename_i l1 hf
    rw [run_append prog more l1 l ht]; exact h
  · rename_i o hne hf
    cases ht
    exact absurd rfl (hne l)

/-- CONSTRUCTIVE half ("nested calls can reach exactly 1024 levels ... no matter how many calls and creates
completed or failed earlier"): from a reachable state in which the called account `a` is loaded and warm (`Warm`: true
from the first call to it on), "call `a` again" opens one frame per call until the top frame is exactly 1024 levels
below the transaction frame; every call from there is refused with CallTooDeep. -/
theorem nesting_reaches_1024 (db : Db) (spec : Nat) (l : Loop) (caller a : Addr)
    (hr : Reachable db spec l) (hw : Warm db l.js a) :
    ∃ l', run db spec l (List.replicate (CALL_STACK_LIMIT + 1 - l.stack.length) (.call (plainCall caller a) plainOracle))
            = some (.running l') ∧
      level l' = CALL_STACK_LIMIT ∧ Reachable db spec l' ∧
      (∀ inp o s' r, makeCallFrame db l'.js inp o = some (s', r) → r = .result .callTooDeep) := by
  have hi := reachable_inv hr
  obtain ⟨_, h2, h3⟩ := hi
  obtain ⟨l', h1, hlen, _, _⟩ := run_nest (db := db) (spec := spec) (caller := caller)
    (CALL_STACK_LIMIT + 1 - l.stack.length) l (reachable_inv hr) hw (by omega)
  have hr' := reachable_run hr h1
  have hlev : level l' = CALL_STACK_LIMIT := by simp only [level]; omega
  refine ⟨l', h1, hlev, hr', ?_⟩
  intro inp o s' r h
  exact ((max_depth db spec l' inp o s' r hr' h).1).2 hlev

/-! ### no panics: the `= some …` hypotheses discharged from journal well-formedness

`Good s` and `DbBal db` (Proofs/FrameTotalJournal) hold for `JournaledState::new` over any real database and are kept by
every journal operation, every frame function and every iteration of the loop (`LInv`), so along unbounded runs. -/

/-- `make_call_frame` never hits an `unwrap` / index underflow, keeps the journal well-formed, and is
depth-neutral: immediate results leave the depth, an opened frame returns to it through `call_return` (which
does not panic either) whatever its result -/
theorem frame_depth_neutral_call_total (db : Db) (s : JState) (inp : CallInputs) (o : CallOracle)
    (hdb : DbBal db) (g : Good s) :
    ∃ s1 r, makeCallFrame db s inp o = some (s1, r) ∧ Good s1 ∧
      (∀ res, r = .result res → s1.depth = s.depth) ∧
      (∀ cp, r = .frame cp → ∀ (s2 : JState) (ok : Bool), Good s2 → cp.journalI < s2.journal.length →
          s2.depth = s1.depth → ∃ s3, callReturn s2 cp ok = some s3 ∧ Good s3 ∧ s3.depth = s.depth) := by
  obtain ⟨s1, r, h, fo⟩ := makeCallFrame_total hdb g inp o
  obtain ⟨hres, hfr⟩ := frame_depth_neutral_call db s s1 inp o r h
  refine ⟨s1, r, h, fo.good, hres, ?_⟩
  intro cp hr s2 ok g2 hlt hd
  have hpos := journal_len_pos g
  obtain ⟨s3, h3, g3, _, _⟩ := callReturn_total g2 ok (Nat.le_trans hpos (fo.cp cp hr).1) hlt
  exact ⟨s3, h3, g3, hfr cp hr s2 s3 ok hd h3⟩

/-- the same for `make_create_frame` / `create_return` -/
theorem frame_depth_neutral_create_total (db : Db) (s : JState) (spec : Nat) (inp : CreateInputs) (o : CreateOracle)
    (hdb : DbBal db) (g : Good s) :
    ∃ s1 r a, makeCreateFrame db s spec inp o = some (s1, r, a) ∧ Good s1 ∧
      (∀ res, r = .result res → s1.depth = s.depth) ∧
      (∀ cp, r = .frame cp → ∀ (s2 : JState) (ret : CreateRet), Good s2 → cp.journalI < s2.journal.length →
          (s2.state a).isSome → s2.depth = s1.depth →
          ∃ s3 res, createReturn s2 spec cp a ret = some (s3, res) ∧ Good s3 ∧ s3.depth = s.depth) := by
  obtain ⟨s1, r, a, h, fo, _⟩ := makeCreateFrame_total hdb g spec inp o
  obtain ⟨hres, hfr⟩ := frame_depth_neutral_create db s s1 spec inp o r a h
  refine ⟨s1, r, a, h, fo.good, hres, ?_⟩
  intro cp hr s2 ret g2 hlt ha hd
  have hpos := journal_len_pos g
  obtain ⟨s3, res, h3, g3, _, _⟩ := createReturn_total g2 spec a ret (Nat.le_trans hpos (fo.cp cp hr).1) hlt ha
  exact ⟨s3, res, h3, g3, hfr cp hr s2 s3 ret res hd h3⟩

/-- the same for `make_eofcreate_frame` / `eofcreate_return`; the two conditions outside the journal are explicit:
for a create transaction the caller is loaded (`deduct_caller` did it), and the deployed container decodes
(`Eof::decode(..).expect(..)`) -/
theorem frame_depth_neutral_eofcreate_total (db : Db) (s : JState) (spec : Nat) (inp : CreateInputs) (kind : EofCreateKind)
    (o : CreateOracle) (hdb : DbBal db) (g : Good s)
    (hcaller : ∀ d v f, kind = .tx d v f → (s.state inp.caller).isSome) :
    ∃ s1 r a, makeEofCreateFrame db s spec inp kind o = some (s1, r, a) ∧ Good s1 ∧
      (∀ res, r = .result res → s1.depth = s.depth) ∧
      (∀ cp, r = .frame cp → ∀ (s2 : JState) (ret : EofCreateRet), Good s2 → cp.journalI < s2.journal.length →
          (s2.state a).isSome → ret.decodes = true → s2.depth = s1.depth →
          ∃ s3 res, eofcreateReturn s2 cp a ret = some (s3, res) ∧ Good s3 ∧ s3.depth = s.depth) := by
  obtain ⟨s1, r, a, h, fo, _⟩ := makeEofCreateFrame_total hdb g spec inp kind o hcaller
  obtain ⟨hres, hfr⟩ := frame_depth_neutral_eofcreate db s s1 spec inp kind o r a h
  refine ⟨s1, r, a, h, fo.good, hres, ?_⟩
  intro cp hr s2 ret g2 hlt ha hdec hd
  have hpos := journal_len_pos g
  obtain ⟨s3, res, h3, g3, _, _⟩ := eofcreateReturn_total g2 a ret (Nat.le_trans hpos (fo.cp cp hr).1) hlt ha hdec
  exact ⟨s3, res, h3, g3, hfr cp hr s2 s3 ret res hd h3⟩

/-- one iteration of the loop never panics and keeps both invariants (`Inv`: depth = open frames; `LInv`: the journal
side). `actOk`: the instruction's own account is loaded (SLOAD / SSTORE / SELFDESTRUCT `unwrap` it), the deployed EOF
container decodes, the caller of an EOF create transaction is loaded. -/
theorem loop_step_total (db : Db) (spec : Nat) (l : Loop) (a : Action) (hdb : DbBal db) (hi : Inv l) (hl : LInv l)
    (hok : actOk l a) :
    ∃ out, step db spec l a = some out ∧ OutInv out ∧ ∀ l', out = .running l' → LInv l' := by
  obtain ⟨out, h, hl'⟩ := step_total (spec := spec) hdb hi hl a hok
  exact ⟨out, h, step_inv hi h, hl'⟩

/-- a whole transaction body never panics: from a well-formed depth-0 journal, any first frame, ANY program of
any length (whose instructions satisfy `actOk` in the state they execute in): `run_the_loop` produces an outcome,
while it runs depth = call_stack.len() in 1..=1025 and the journal stays well-formed, when it ends depth = 0 -/
theorem loop_depth_invariant_total (db : Db) (spec : Nat) (s : JState) (f : FirstFrame) (prog : List Action)
    (hdb : DbBal db) (g : Good s) (h0 : s.depth = 0)
    (hcaller : ∀ inp d v x o, f = .eofcreate inp (.tx d v x) o → (s.state inp.caller).isSome)
    (hacts : ∀ l, firstFrame db spec s f = some (.running l) → ActsOk db spec l prog) :
    ∃ out, transactFrames db spec s f prog = some out ∧ OutInv out ∧ ∀ l', out = .running l' → LInv l' := by
  obtain ⟨out1, h1, hl1⟩ := firstFrame_total (spec := spec) hdb g f hcaller
  have hi1 := firstFrame_inv h0 h1
  cases out1 with
  | running l =>
    obtain ⟨out, h2, hl2⟩ := run_total (spec := spec) hdb prog hi1 (hl1 l rfl) (hacts l h1)
    have ht : transactFrames db spec s f prog = some out := by simp [transactFrames, h1, h2]
    exact ⟨out, ht, transactFrames_inv h0 ht, hl2⟩
  | done js r =>
    have ht : transactFrames db spec s f prog = some (.done js r) := by simp [transactFrames, h1]
    exact ⟨_, ht, transactFrames_inv h0 ht, fun _ e => by cases e⟩
  | fatal =>
    have ht : transactFrames db spec s f prog = some .fatal := by simp [transactFrames, h1]
    exact ⟨_, ht, trivial, fun _ e => by cases e⟩

/-! ### a failing frame restores the state (C06 applied to the whole frame machine)

`body` is ANY admissible C06 history (`Spec.JournalAbs.Op`; nested frames are `checkpoint` / `commit` / `revert`) run in
the frame after it was opened; base 1 in `admissibleRun` says that it reverts no checkpoint older than its own, the
frame's `cp` being number 0. -/

/-- CALL family, frame opened, non-ok result: state = the state right after `load_account_delegated(bytecode_address)`
(the only effect of `make_call_frame` outside its checkpoint: it warms that account and a 7702 delegate) -/
theorem frame_state_restored_on_failure_call (db : Db) (hasStorage : Addr → Bool) (s s1 : JState) (inp : CallInputs)
    (o : CallOracle) (cp : Checkpoint) (hdb : DbBal db) (hok : DbOk db hasStorage) (g : Good s)
    (h : makeCallFrame db s inp o = some (s1, .frame cp)) (body : List Op) (r : Run)
    (hadm : admissibleRun db hasStorage 1 { js := s1, cps := [cp] } body = true)
    (hrun : Spec.JournalAbs.run db { js := s1, cps := [cp] } body = some r) :
    ∃ s0 x s3, loadAccountDelegated db s inp.bytecodeAddr = some (s0, x) ∧ callReturn r.js cp false = some s3 ∧
      AbsEq db s3 s0 := by
  rcases makeCallFrame_cases h with ⟨_, _, hr⟩ | ⟨_, s0, x, sv, e, codes, sm, h0, hv, hc, he⟩
  · cases hr
  cases he
  obtain ⟨rp, ap⟩ := inCall_run (hs := hasStorage) (b := 1) hv hc [(checkpoint s0).2]
  have g0 := good_loadAccountDelegated hdb g h0
  obtain ⟨s3, h3, he⟩ := Proofs.Journal.revert_restores_total (db := db) hok (rpre := { js := s0, cps := [] })
    (op := .checkpoint) (r0 := { js := (checkpoint s0).1, cps := [(checkpoint s0).2] }) (cp := (checkpoint s0).2) (r := r)
    (balOk_of hdb g0.bal) g0.refs g0.ne rfl rfl rfl (Proofs.Journal.adm_append _ _ ap rp hadm) ((Proofs.Journal.jrun_append _ body rp).trans hrun)
  exact ⟨s0, x, s3, h0, by simp [callReturn, h3], he⟩

/-- CALL family, rejected after the checkpoint (value transfer failure, precompile failure, EXTDELEGATECALL to a
non-EOF target): the same -/
theorem frame_state_restored_on_failure_call_rejected (db : Db) (s s1 : JState) (inp : CallInputs) (o : CallOracle)
    (res : IRes) (hdb : DbBal db) (g : Good s)
    (h : makeCallFrame db s inp o = some (s1, .result res)) (hnok : res.isOk = false) (hnd : res ≠ .callTooDeep) :
    ∃ s0 x, loadAccountDelegated db s inp.bytecodeAddr = some (s0, x) ∧ AbsEq db s1 s0 := by
  rcases makeCallFrame_cases h with ⟨_, _, hr⟩ | ⟨_, s0, x, sv, e, codes, sm, h0, hv, hc, he⟩
  · cases hr; exact absurd rfl hnd
  obtain ⟨rp, ap⟩ := inCall_run (hs := fun _ => true) (b := 1) hv hc [(checkpoint s0).2]
  have g0 := good_loadAccountDelegated hdb g h0
  cases he with
  | committed hok => rw [hok] at hnok; cases hnok
  | reverted _ _ hr =>
    exact ⟨s0, x, h0, Proofs.Journal.revert_restores_core (db := db) (dbOk_trivial db) (rpre := { js := s0, cps := [] })
      (op := .checkpoint) (r0 := { js := (checkpoint s0).1, cps := [(checkpoint s0).2] }) (cp := (checkpoint s0).2)
      (r := { js := sm, cps := [(checkpoint s0).2] }) (balOk_of hdb g0.bal) rfl rfl rfl ap rp hr⟩

/-- CREATE / CREATE2, frame opened, anything but a deployment: state = `sPre`, the state at the CREATE up to the
pre-checkpoint effects `PreCreate` (caller warm and its nonce bumped, created address warm). `CreateAdm` is C06's
admissibility of a creation (address not yet marked created, `has_storage` answered faithfully: C21) but for the
endowment, which the frame function's balance check covers. -/
theorem frame_state_restored_on_failure_create (db : Db) (hasStorage : Addr → Bool) (s s1 : JState) (spec : Nat)
    (inp : CreateInputs) (o : CreateOracle) (cp : Checkpoint) (a : Addr)
    (hdb : DbBal db) (hok : DbOk db hasStorage) (g : Good s)
    (h : makeCreateFrame db s spec inp o = some (s1, .frame cp, a))
    (hadmc : ∀ sPre, PreCreate db s inp.caller a sPre → CreateAdm hasStorage sPre a (o.hasStorage a))
    (body : List Op) (r : Run)
    (hadm : admissibleRun db hasStorage 1 { js := s1, cps := [cp] } body = true)
    (hrun : Spec.JournalAbs.run db { js := s1, cps := [cp] } body = some r) :
    ∃ sPre sR, PreCreate db s inp.caller a sPre ∧ revert r.js cp = some sR ∧ AbsEq db sR sPre ∧
      ∀ ret s3 res, createReturn r.js spec cp a ret = some (s3, res) → res ≠ .ret → s3 = sR := by
  obtain ⟨addrOf, h⟩ := makeCreateFrame_frame h
  obtain ⟨sPre, sR, hp, hr, he⟩ := createFrom_restored hdb hok g h hadmc body r hadm hrun
  refine ⟨sPre, sR, hp, hr, he, fun ret s3 res h3 hne => ?_⟩
  rw [createReturn_close] at h3
  rcases createVerdict_cases spec a ret with ⟨_, hv, _⟩ | ⟨_, hv⟩ <;> rw [hv] at h3
  · exact Option.some.inj ((close_revert h3).1.symm.trans hr)
  · exact absurd (close_deploy h3).2 hne

/-- EOFCREATE / EOF create transaction: the same -/
theorem frame_state_restored_on_failure_eofcreate (db : Db) (hasStorage : Addr → Bool) (s s1 : JState) (spec : Nat)
    (inp : CreateInputs) (kind : EofCreateKind) (o : CreateOracle) (cp : Checkpoint) (a : Addr)
    (hdb : DbBal db) (hok : DbOk db hasStorage) (g : Good s)
    (h : makeEofCreateFrame db s spec inp kind o = some (s1, .frame cp, a))
    (hadmc : ∀ sPre, PreCreate db s inp.caller a sPre → CreateAdm hasStorage sPre a (o.hasStorage a))
    (body : List Op) (r : Run)
    (hadm : admissibleRun db hasStorage 1 { js := s1, cps := [cp] } body = true)
    (hrun : Spec.JournalAbs.run db { js := s1, cps := [cp] } body = some r) :
    ∃ sPre sR, PreCreate db s inp.caller a sPre ∧ revert r.js cp = some sR ∧ AbsEq db sR sPre ∧
      ∀ ret s3 res, eofcreateReturn r.js cp a ret = some (s3, res) → res ≠ .returnContract → s3 = sR := by
  obtain ⟨addrOf, h⟩ := makeEofCreateFrame_frame h
  obtain ⟨sPre, sR, hp, hr, he⟩ := createFrom_restored hdb hok g h hadmc body r hadm hrun
  refine ⟨sPre, sR, hp, hr, he, fun ret s3 res h3 hne => ?_⟩
  rw [eofcreateReturn_close] at h3
  rcases eofcreateVerdict_cases a ret with ⟨_, hv, _⟩ | ⟨_, hv⟩ | ⟨_, hv⟩ <;> rw [hv] at h3
  · exact Option.some.inj ((close_revert h3).1.symm.trans hr)
  · cases h3
  · exact absurd (close_deploy h3).2 hne

set_option linter.unusedVariables false in
/-- a creation rejected inside `create_account_checkpoint` (CreateCollision with an existing account,
OverflowPayment): its own checkpoint is reverted and the state is the one right before it -/
theorem frame_state_restored_on_failure_create_rejected (db : Db) (hasStorage : Addr → Bool) (sPre s1 : JState)
    (caller created : Addr) (hsAns : Bool) (v spec : Nat) (e : CreateErr)
    (hdb : DbBal db) (hok : DbOk db hasStorage) (g : Good sPre) (ca : CreateAdm hasStorage sPre created hsAns)
    (hf : ∀ acc, sPre.state caller = some acc → v ≤ acc.info.balance)
    (hc : createAccountCheckpoint sPre caller created hsAns v spec = some (s1, .error e)) : AbsEq db s1 sPre := by
  have p := Proofs.Journal.create_pushes (db := db) hok (balOk_of hdb g.bal) ca.fresh ca.faithful hc
  simp only at p
  have hu := p.undo
  simp only [Proofs.Journal.undoTs] at hu
  exact Proofs.Journal.absEq_of_absT hu p.logs

/-! ### the hypotheses are satisfiable; the depth leak before /repo commit 4cdd3651 -/

def exDb : Db :=
  { basic := fun a => if a = 1 then some { balance := 100, nonce := 1, codeHash := KECCAK_EMPTY, code := none } else none,
    storage := fun _ _ => 0, delegate := fun _ => none }
/-- transaction-level journal (OSAKA), nothing loaded yet -/
def exS : JState := JState.new 19 (fun _ => false)
def exCall (ext : Bool) (v : CallValue) : CallInputs :=
  { caller := 1, target := 2, bytecodeAddr := 2, value := v, isExtDelegate := ext }
def exO (pc : Option PrecompileOutcome) (eof empty : Bool) : CallOracle :=
  { precompile := pc, codeIsEof := eof, codeIsEmpty := empty }
def exCreateO : CreateOracle :=
  { initStartsEF00 := false, createdAddr := fun n => 1000 + n, isPrecompile := fun a => a < 10, hasStorage := fun _ => false }
def exRet (ok : Bool) : RetOracle :=
  { callOk := ok, create := { resultOk := ok, firstByteEF := false, lenOverMax := false, depositOk := true, codeHash := 7 },
    eofcreate := { isReturnContract := ok, lenOverMax := false, depositOk := true, decodes := true, codeHash := 7 } }
-- what `decide` compares in the examples: the depth (and the stack length) of an outcome, not the whole state
def view (x : Option (JState × FrameOrResult)) : Option (Nat × FrameOrResult) := x.map fun p => (p.1.depth, p.2)
def view3 (x : Option (JState × FrameOrResult × Addr)) : Option (Nat × FrameOrResult × Addr) := x.map fun p => (p.1.depth, p.2)
def viewOut : Option StepOut → Option (Nat × Nat × Bool)
  | some (.running l) => some (l.js.depth, l.stack.length, false)
  | some (.done js _) => some (js.depth, 0, true)
  | _ => none

theorem view_some {x : Option (JState × FrameOrResult)} {d : Nat} {r : FrameOrResult} (h : view x = some (d, r)) :
    ∃ s1, x = some (s1, r) ∧ s1.depth = d := by
  simp only [view, Option.map_eq_some_iff] at h
  obtain ⟨⟨s1, r1⟩, h1, h2⟩ := h
  cases h2; exact ⟨s1, h1, rfl⟩

-- paths on a concrete state. `make_call_frame`: frame, transfer failure, precompile ok / failure, empty code,
-- EXTDELEGATECALL to a non-EOF target (depth unchanged since 4cdd3651); the create functions: frame, refusal
example : view (makeCallFrame exDb exS (exCall false (.transfer 5)) (exO none false false)) = some (1, .frame ⟨0, 1⟩) := by decide
example : view (makeCallFrame exDb exS (exCall false (.transfer 500)) (exO none false false)) = some (0, .result .outOfFunds) := by decide
example : view (makeCallFrame exDb exS (exCall false (.transfer 0)) (exO (some .ok) false false)) = some (0, .result .ret) := by decide
example : view (makeCallFrame exDb exS (exCall false (.transfer 0)) (exO (some .errOog) false false)) = some (0, .result .precompileOOG) := by decide
example : view (makeCallFrame exDb exS (exCall false (.transfer 0)) (exO none false true)) = some (0, .result .stop) := by decide
example : view (makeCallFrame exDb exS (exCall true (.apparent 0)) (exO none false false)) = some (0, .result .invalidExtDelegateCallTarget) := by decide
example : view3 (makeCreateFrame exDb exS 19 { caller := 1, value := 5 } exCreateO) = some (1, .frame ⟨0, 1⟩, 1001) := by decide
example : view3 (makeCreateFrame exDb exS 19 { caller := 1, value := 500 } exCreateO) = some (0, .result .outOfFunds, 0) := by decide
example : view3 (makeEofCreateFrame exDb exS 19 { caller := 1, value := 5 } (.opcode 77) exCreateO) = some (1, .frame ⟨0, 1⟩, 77) := by decide
example : view3 (makeEofCreateFrame exDb exS 19 { caller := 1, value := 5 } (.opcode 3) exCreateO) = some (0, .result .createCollision, 3) := by decide
-- a transaction: call frame, nested create that reverts, nested call that succeeds, return: depth 1,2,1,2,1 then 0
example : viewOut (transactFrames exDb 19 exS (.call (exCall false (.transfer 5)) (exO none false false))
    [.create { caller := 2, value := 1 } exCreateO]) = some (2, 2, false) := by decide
example : viewOut (transactFrames exDb 19 exS (.call (exCall false (.transfer 5)) (exO none false false))
    [.create { caller := 2, value := 1 } exCreateO, .ret (exRet false), .host (.sstore 2 0 9),
     .call { caller := 2, target := 1, bytecodeAddr := 1, value := .transfer 1, isExtDelegate := false } (exO none false false),
     .ret (exRet true), .ret (exRet true)]) = some (0, 0, true) := by decide

/-- `Reachable` is inhabited (hypothesis of `max_depth`), at level 1 -/
theorem reachable_example : ∃ l, Reachable exDb 19 l ∧ level l = 1 := by
  have hv : viewOut (transactFrames exDb 19 exS (.call (exCall false (.transfer 5)) (exO none false false))
      [.create { caller := 2, value := 1 } exCreateO]) = some (2, 2, false) := by decide
  cases h : transactFrames exDb 19 exS (.call (exCall false (.transfer 5)) (exO none false false))
      [.create { caller := 2, value := 1 } exCreateO] with
  | none => rw [h] at hv; simp [viewOut] at hv
  | some out =>
    rw [h] at hv
    cases out with
    | running l =>
      refine ⟨l, ⟨exS, _, _, rfl, h⟩, ?_⟩
      simp only [viewOut, Option.some.injEq, Prod.mk.injEq] at hv
      simp only [level]; omega
    | done js r => simp [viewOut] at hv
    | fatal => simp [viewOut] at hv

def warmView (a : Addr) : Option StepOut → Bool
  | some (.running l) => match l.js.state a with
    | some acc => !acc.cold && acc.info.code == some KECCAK_EMPTY
    | none => false
  | _ => false

/-- the hypotheses of `nesting_reaches_1024` hold in a concrete reachable state (after the first frame was
opened the callee's account is loaded, warm, with cached code) -/
theorem nesting_hypotheses_example : ∃ l, Reachable exDb 19 l ∧ Warm exDb l.js 2 := by
  have hv : warmView 2 (transactFrames exDb 19 exS (.call (exCall false (.transfer 5)) (exO none false false)) []) = true := by
    decide
  cases h : transactFrames exDb 19 exS (.call (exCall false (.transfer 5)) (exO none false false)) [] with
  | none => rw [h] at hv; simp [warmView] at hv
  | some out =>
    rw [h] at hv
    cases out with
    | running l =>
      refine ⟨l, ⟨exS, _, _, rfl, h⟩, ?_⟩
      simp only [warmView] at hv
      cases hs : l.js.state 2 with
      | none => rw [hs] at hv; simp at hv
      | some acc =>
        rw [hs] at hv
        simp only [Bool.and_eq_true, Bool.not_eq_true', beq_iff_eq] at hv
        exact ⟨acc, KECCAK_EMPTY, hs, hv.1, hv.2, rfl⟩
    | done js r => simp [warmView] at hv
    | fatal => simp [warmView] at hv

/-- the hypotheses of the total theorems hold for a fresh journal over the example database -/
theorem total_hypotheses_example : DbBal exDb ∧ Good exS ∧ exS.depth = 0 ∧ DbOk exDb (fun _ => false) := by
  refine ⟨?_, good_new _ _, rfl, fun a _ k => rfl⟩
  intro a
  have hW := W_val
  simp only [exDb]
  by_cases h : a = 1
  · simp [h]; omega
  · simp [h, Info.default]; omega

/-- and for a program: a BALANCE, a nested call, its return (`ActsOk` is evaluated along the run) -/
example (l : Loop) : ActsOk exDb 19 l [.host (.balance 5), .call (exCall false (.transfer 0)) (exO none false false), .ret (exRet true)] :=
  ⟨trivial, fun _ _ => ⟨trivial, fun _ _ => ⟨rfl, fun _ _ => trivial⟩⟩⟩

/-- `CreateAdm` holds for the creation of the example (fresh address, no storage in the database) -/
example : ∀ sPre, PreCreate exDb exS 1 1001 sPre → CreateAdm (fun _ => false) sPre 1001 false := by
  intro sPre hp
  refine ⟨?_, Or.inr rfl⟩
  obtain ⟨s1, c, n, s2, c3, h1, h2, h3⟩ := hp
  intro acc hacc
  -- the created address was absent before the load, a loaded account is not marked created
  have hv : ((loadAccount exDb exS 1).bind fun p => (incNonce p.1 1).bind fun q => (loadAccount exDb q.1 1001).bind fun t =>
      (t.1.state 1001).map fun a => a.created) = some false := by decide
  simp only [h1, h2, h3, Option.bind_some, hacc, Option.map_some, Option.some.injEq] at hv
  exact hv

/-- REGRESSION (the code before /repo commit 4cdd3651): `make_call_frame` returned InvalidExtDelegateCallTarget
after `checkpoint()` without closing it. For that version `frame_depth_neutral_call` is FALSE: the immediate
result leaves the journal one level deeper (DESIGN section 9 #2: three such calls moved depth 1 -> 4). -/
theorem ext_delegate_call_leak_regression :
    ∃ (db : Db) (s s1 : JState) (inp : CallInputs) (o : CallOracle),
      makeCallFrameOld db s inp o = some (s1, .result .invalidExtDelegateCallTarget) ∧ s1.depth = s.depth + 1 := by
  have h : view (makeCallFrameOld exDb exS (exCall true (.apparent 0)) (exO none false false))
      = some (1, .result .invalidExtDelegateCallTarget) := by decide
  obtain ⟨s1, h1, h2⟩ := view_some h
  exact ⟨exDb, exS, s1, _, _, h1, h2⟩

end Revm.Props.C07
