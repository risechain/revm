import Revm.Proofs.EtherStatements
import Revm.Proofs.EtherTx
/-! # C08 — ether is conserved: the journal's balance-moving operations, reverts and a transaction's fee legs neither
mint nor lose wei (DESIGN §8: the sum of the 256-bit balances is conserved as a natural number).
About `Model/Journal.lean` and `Model/TxFeeLegs.lean`, in the vocabulary of `Spec/Ether.lean`: `bal` the observable
balance (journal entry if loaded, database otherwise), `total L` its sum over a duplicate-free list, `burnt` what the
self-destructs naming themselves still in the journal destroyed. `some …` in a hypothesis: the Rust code did not panic.
Proved when the total fits in 256 bits (failing operations: unconditionally). Outside it two credits lose ether, both
characterised exactly: the wrapping one of a self-destruct's beneficiary (`selfdestruct_overflow_counterexample`), the
saturating one of `reward_beneficiary` (`reward_saturation_counterexample`). -/
namespace Revm.Props.C08
open Revm Revm.Model.Journal Revm.Model.TxFeeLegs Revm.Spec.JournalAbs Revm.Spec.Ether Revm.Proofs.Ether

/-! ## concrete states used by the non-vacuity examples -/

def exDb : Db :=
  { basic := fun a => if a = 1 then some { Info.default with balance := 1000000 }
                      else if a = 2 then some { Info.default with balance := 7 } else none,
    storage := fun _ _ => 0, delegate := fun _ => none }

/-- Cancun, accounts 1 (1 000 000 wei), 2 (7 wei) and 3 (non-existing) loaded, empty journal -/
def exS : JState :=
  { JState.new 17 (fun _ => false) with
    state := fun a => if a = 1 then some (Acct.ofInfo { Info.default with balance := 1000000 })
                      else if a = 2 then some (Acct.ofInfo { Info.default with balance := 7 })
                      else if a = 3 then some Acct.newNotExisting else none }

theorem exBalOk : BalOk exDb exS := by
  intro a
  have hW : (1000000 : Nat) < W := by rw [W_val]; decide
  by_cases h1 : a = 1
  · subst h1; rw [bal_some (acc := Acct.ofInfo { Info.default with balance := 1000000 }) rfl]; exact hW
  by_cases h2 : a = 2
  · subst h2; rw [bal_some (acc := Acct.ofInfo { Info.default with balance := 7 }) rfl]; exact Nat.lt_trans (by decide) hW
  by_cases h3 : a = 3
  · subst h3; rw [bal_some (acc := Acct.newNotExisting) rfl]; exact Nat.lt_trans (by decide) hW
  have hs : exS.state a = none := by simp [exS, JState.new, h1, h2, h3]
  have hb : exDb.basic a = none := by simp [exDb, h1, h2]
  rw [bal_none hs, hb]; exact Nat.lt_trans (by decide) hW

/-- a London transaction: 21 000 gas at price 10, base fee 3, beneficiary 2 -/
def exEnv : FeeEnv :=
  { caller := 1, coinbase := 2, gasLimit := 21000, gasPrice := 10, priorityFee := none, basefee := 3,
    blobGasPrice := none, totalBlobGas := 0, isCall := true }

def exEnv1 : FeeEnv := { exEnv with coinbase := 1 }

def ovDb : Db :=
  { basic := fun _ => none, storage := fun _ _ => 0, delegate := fun _ => none }
/-- a world whose total exceeds 2^256: account 1 holds 2^256-1, account 2 holds 2 -/
def ovS : JState :=
  { JState.new 17 (fun _ => false) with
    state := fun a => if a = 1 then some (Acct.ofInfo { Info.default with balance := W - 1 })
                      else if a = 2 then some (Acct.ofInfo { Info.default with balance := 2 }) else none }

/-! ## 1. `transfer` -/

/-- `JournaledState::transfer` leaves the sum unchanged on every path — success, `OutOfFunds`,
`OverflowPayment` — for all balances and values, without any bound on the sum. -/
theorem transfer_conserves {db : Db} {L : List Addr} {s s' : JState} {src dst : Addr} {v : Nat}
    {r : Option TransferErr} (hn : L.Nodup) (hs : src ∈ L) (hd : dst ∈ L) (hok : BalOk db s)
    (h : transfer db s src dst v = some (s', r)) : total L db s' = total L db s :=
  transfer_total hn hs hd hok h

example : (transfer exDb exS 1 2 5).isSome = true := rfl
example : ∀ s' r, transfer exDb exS 1 2 5 = some (s', r) → total [1, 2] exDb s' = total [1, 2] exDb exS :=
  fun _ _ h => transfer_conserves (by decide) (by decide) (by decide) exBalOk h

/-- a failing transfer moves nothing at all (the `OverflowPayment` path, repaired by /repo commit 7336926b, included) -/
theorem failed_transfer_moves_nothing {db : Db} {s s' : JState} {src dst : Addr} {v : Nat}
    {e : TransferErr} (hok : BalOk db s) (h : transfer db s src dst v = some (s', some e)) :
    bal db s' = bal db s ∧ burnt s' = burnt s := by
  obtain ⟨e1, e2⟩ := transfer_refines hok h
  rw [bTransfer_fail (by rw [← e2]; cases e <;> simp [resOf])] at e1
  exact ⟨bal_of_absB e1, burnt_of_absB e1⟩

example : ∃ s', transfer exDb exS 2 1 8 = some (s', some .outOfFunds) := ⟨_, rfl⟩

/-- the per-operation ledger form (what the driver's Spec column prints) -/
theorem transfer_ledger {db : Db} {L : List Addr} {s s' : JState} {src dst : Addr} {v : Nat} {r : Option TransferErr}
    (hn : L.Nodup) (hs : src ∈ L) (hd : dst ∈ L) (hok : BalOk db s)
    (h : transfer db s src dst v = some (s', r)) : total L db s' + burnt s' = total L db s + burnt s := by
  rw [transfer_total hn hs hd hok h, burnt_of_absB (transfer_refines hok h).1, bTransfer_burnt]; rfl

/-! ## 2. `create_account_checkpoint` / `make_create_frame` -/

/-- `create_account_checkpoint` conserves on the success path when the caller can pay the endowment
(the debit is a wrapping subtraction), and on both failure paths unconditionally -/
theorem create_conserves {db : Db} {L : List Addr} {s s' : JState} {caller a : Addr} {hs : Bool} {v spec : Nat}
    {r : Except CreateErr Checkpoint} (hn : L.Nodup) (hc : caller ∈ L) (ha : a ∈ L)
    (hfund : caller = a ∨ v ≤ bal db s caller)
    (h : createAccountCheckpoint s caller a hs v spec = some (s', r)) : total L db s' = total L db s :=
  create_total hn hc ha hfund h

example : (createAccountCheckpoint exS 1 3 false 4 17).isSome = true := rfl
example : ∀ s' r, createAccountCheckpoint exS 1 3 false 4 17 = some (s', r) →
    total [1, 2, 3] exDb s' = total [1, 2, 3] exDb exS :=
  fun _ _ h => create_conserves (by decide) (by decide) (by decide) (Or.inr (by decide)) h

theorem create_ledger {db : Db} {L : List Addr} {s s' : JState} {caller a : Addr} {hs : Bool} {v spec : Nat}
    {r : Except CreateErr Checkpoint} (hn : L.Nodup) (hc : caller ∈ L) (ha : a ∈ L)
    (hfund : caller = a ∨ v ≤ bal db s caller)
    (h : createAccountCheckpoint s caller a hs v spec = some (s', r)) :
    total L db s' + burnt s' = total L db s + burnt s := by
  rw [create_total hn hc ha hfund h]
  obtain ⟨k1, k2, _⟩ := create_refines (db := db) h
  cases r with
  | ok cp => rw [burnt_of_absB (k1 rfl).2, bCreateOk_burnt]; rfl
  | error er => rw [burnt_of_absB (k2 (by cases er <;> simp [createOutcome]))]; rfl

/-- collision and endowment overflow leave every balance as it was, whatever the endowment -/
theorem failed_create_moves_nothing {db : Db} {s s' : JState} {caller a : Addr} {hs : Bool} {v spec : Nat}
    {er : CreateErr} (h : createAccountCheckpoint s caller a hs v spec = some (s', .error er)) :
    bal db s' = bal db s ∧ burnt s' = burnt s := by
  have e := (create_refines (db := db) h).2.1 (by cases er <;> simp [createOutcome])
  exact ⟨bal_of_absB e, burnt_of_absB e⟩

example : ∃ s', createAccountCheckpoint exS 1 2 true 4 17 = some (s', .error .collision) := ⟨_, rfl⟩

/-- why the hypothesis of `create_conserves` is needed: called with an endowment the caller cannot
pay, `create_account_checkpoint` mints exactly 2^256 wei -/
theorem create_unfunded_mints {db : Db} {L : List Addr} {s s' : JState} {caller a : Addr} {hs : Bool}
    {v spec : Nat} {cp : Checkpoint} (hn : L.Nodup) (hc : caller ∈ L) (ha : a ∈ L) (hca : caller ≠ a)
    (hlt : bal db s caller < v)
    (h : createAccountCheckpoint s caller a hs v spec = some (s', .ok cp)) :
    total L db s' = total L db s + W := by
  obtain ⟨hv, e⟩ := (create_refines (db := db) h).1 rfl
  simp only [total, bal_of_absB e]
  exact bCreateOk_unfunded_mints hn hc ha hca (by omega) hlt

example : ∃ s' cp, createAccountCheckpoint exS 2 3 false 8 17 = some (s', .ok cp) := ⟨_, _, rfl⟩
example : bal exDb exS 2 < 8 := by decide

/-- `make_create_frame`, the only caller of `create_account_checkpoint`, checks the caller's balance itself: it
conserves on every path with no hypothesis -/
theorem make_create_frame_conserves {db : Db} {L : List Addr} {s s' : JState} {caller created : Addr}
    {hs : Bool} {v spec : Nat} {r : CreateFrame} (hn : L.Nodup) (hc : caller ∈ L) (ha : created ∈ L)
    (h : makeCreateFrame db s caller created hs v spec = some (s', r)) : total L db s' = total L db s :=
  makeCreateFrame_conserves hn hc ha h

example : (makeCreateFrame exDb exS 1 3 false 4 17).isSome = true := rfl
example : ∃ s', makeCreateFrame exDb exS 2 3 false 8 17 = some (s', .outOfFunds) := ⟨_, rfl⟩

/-! ## 3. `selfdestruct` -/

/-- the exact effect of `selfdestruct` on the sum, for every fork: the account's balance is burnt iff
it names itself and is really destroyed (before Cancun, or created in the same transaction), and
2^256 wei vanish iff the wrapping `+=` on a different beneficiary overflows -/
theorem selfdestruct_exact {db : Db} {L : List Addr} {s s' : JState} {a t : Addr} {res : Bool × Bool × Bool × Bool}
    (hn : L.Nodup) (ha : a ∈ L) (ht : t ∈ L) (hok : BalOk db s)
    (h : selfdestruct db s a t = some (s', res)) :
    total L db s'
      + (if a = t ∧ ((absAcct db s a).created ∨ !decide (s.spec ≥ CANCUN)) then bal db s a else 0)
      + (if a ≠ t ∧ W ≤ bal db s t + bal db s a then W else 0) = total L db s :=
  selfdestruct_total hn ha ht hok h

example : (selfdestruct exDb exS 1 2).isSome = true := rfl
example : (selfdestruct exDb exS 2 2).isSome = true := rfl

theorem selfdestruct_ledger {db : Db} {L : List Addr} {s s' : JState} {a t : Addr} {res : Bool × Bool × Bool × Bool}
    (hn : L.Nodup) (ha : a ∈ L) (ht : t ∈ L) (hok : BalOk db s)
    (h : selfdestruct db s a t = some (s', res)) :
    total L db s' + burnt s' + (if a ≠ t ∧ W ≤ bal db s t + bal db s a then W else 0) = total L db s + burnt s := by
  have h1 := selfdestruct_total hn ha ht hok h
  obtain ⟨prev, e⟩ := selfdestruct_refines (db := db) h
  have h2 : burnt s' = burnt s +
      (if a = t ∧ ((absAcct db s a).created ∨ !decide (s.spec ≥ CANCUN)) then bal db s a else 0) := by
    rw [burnt_of_absB e, bSelfdestruct_burnt, ← crt_eq_abs db s a]; rfl
  omega

theorem selfdestruct_to_other_conserves {db : Db} {L : List Addr} {s s' : JState} {a t : Addr}
    {res : Bool × Bool × Bool × Bool} (hn : L.Nodup) (ha : a ∈ L) (ht : t ∈ L) (hok : BalOk db s)
    (hat : a ≠ t) (hfit : bal db s t + bal db s a < W)
    (h : selfdestruct db s a t = some (s', res)) : total L db s' = total L db s := by
  have := selfdestruct_total hn ha ht hok h
  rw [if_neg (fun hh => hat hh.1), if_neg (fun hh => by omega)] at this
  omega

example : bal exDb exS 2 + bal exDb exS 1 < W := by rw [W_val]; decide

theorem selfdestruct_to_other_conserves_of_total {db : Db} {L : List Addr} {s s' : JState} {a t : Addr}
    {res : Bool × Bool × Bool × Bool} (hn : L.Nodup) (ha : a ∈ L) (ht : t ∈ L) (hok : BalOk db s)
    (hat : a ≠ t) (hSum : total L db s < W)
    (h : selfdestruct db s a t = some (s', res)) : total L db s' = total L db s :=
  selfdestruct_to_other_conserves hn ha ht hok hat
    (by have := two_le_sumOver (bal db s) hn ht ha (fun e => hat e.symm); unfold total at hSum; omega) h

example : total [1, 2, 3] exDb exS < W := by rw [W_val]; decide

theorem selfdestruct_self_pre_cancun_burns {db : Db} {L : List Addr} {s s' : JState} {a : Addr}
    {res : Bool × Bool × Bool × Bool} (hn : L.Nodup) (ha : a ∈ L) (hok : BalOk db s)
    (hspec : ¬ s.spec ≥ CANCUN)
    (h : selfdestruct db s a a = some (s', res)) : total L db s' + bal db s a = total L db s := by
  have := selfdestruct_total hn ha ha hok h
  rw [if_pos ⟨rfl, Or.inr (by simp [hspec])⟩, if_neg (fun hh => hh.1 rfl)] at this
  omega

example : ¬ ({ exS with spec := 12 } : JState).spec ≥ CANCUN := by decide
example : (selfdestruct exDb { exS with spec := 12 } 2 2).isSome = true := rfl

theorem selfdestruct_self_cancun_created_burns {db : Db} {L : List Addr} {s s' : JState} {a : Addr}
    {res : Bool × Bool × Bool × Bool} (hn : L.Nodup) (ha : a ∈ L) (hok : BalOk db s)
    (hcr : (absAcct db s a).created = true)
    (h : selfdestruct db s a a = some (s', res)) : total L db s' + bal db s a = total L db s := by
  have := selfdestruct_total hn ha ha hok h
  rw [if_pos ⟨rfl, Or.inl hcr⟩, if_neg (fun hh => hh.1 rfl)] at this
  omega

/-- account 3 created in this transaction (state after `create_account_checkpoint`) -/
example : ∃ s1 r, createAccountCheckpoint exS 1 3 false 4 17 = some (s1, r) ∧
    (absAcct exDb s1 3).created = true ∧ (selfdestruct exDb s1 3 3).isSome = true := ⟨_, _, rfl, rfl, rfl⟩

theorem selfdestruct_self_cancun_existing_keeps {db : Db} {L : List Addr} {s s' : JState} {a : Addr}
    {res : Bool × Bool × Bool × Bool} (hn : L.Nodup) (ha : a ∈ L) (hok : BalOk db s)
    (hspec : s.spec ≥ CANCUN) (hcr : (absAcct db s a).created = false)
    (h : selfdestruct db s a a = some (s', res)) : total L db s' = total L db s := by
  have := selfdestruct_total hn ha ha hok h
  rw [if_neg (fun hh => by rcases hh.2 with h1 | h1 <;> simp_all), if_neg (fun hh => hh.1 rfl)] at this
  omega

example : exS.spec ≥ CANCUN ∧ (absAcct exDb exS 2).created = false := by decide

/-- outside the Σ < 2^256 reading: when beneficiary and contract together hold 2^256 wei or more, the
wrapping credit destroys exactly 2^256 wei (not reachable when the world's total fits in 256 bits) -/
theorem selfdestruct_overflow_destroys {db : Db} {L : List Addr} {s s' : JState} {a t : Addr}
    {res : Bool × Bool × Bool × Bool} (hn : L.Nodup) (ha : a ∈ L) (ht : t ∈ L) (hok : BalOk db s)
    (hat : a ≠ t) (hov : W ≤ bal db s t + bal db s a)
    (h : selfdestruct db s a t = some (s', res)) : total L db s' + W = total L db s := by
  have := selfdestruct_total hn ha ht hok h
  rw [if_neg (fun hh => hat hh.1), if_pos ⟨hat, hov⟩] at this
  omega

/-- the witness `ovS`: a self-destruct of 2 naming 1 turns 2^256+1 wei into 1 wei -/
theorem selfdestruct_overflow_counterexample :
    ∃ s' r, selfdestruct ovDb ovS 2 1 = some (s', r) ∧
      total [1, 2] ovDb ovS = W + 1 ∧ total [1, 2] ovDb s' = 1 :=
  ⟨_, _, rfl, by rw [W_val]; rfl, rfl⟩

/-- the three balance-moving operations change no balance but those of the two accounts they name
(so the sum over the whole world changes exactly as the sum over any list containing them) -/
theorem ether_ops_touch_only_named {db : Db} {r r' : Run} {op : Op} (hok : BalOk db r.js)
    (hop : ∃ a b, opAddrs op = [a, b]) (h : step db r op = some r') {x : Addr} (hx : x ∉ opAddrs op) :
    bal db r'.js x = bal db r.js x :=
  step_only_named hok h (fun i hi => by subst hi; obtain ⟨_, _, h0⟩ := hop; cases h0) hx

example : ∃ a b, opAddrs (.transfer 1 2 5) = [a, b] := ⟨_, _, rfl⟩

/-! ## 4. operations that do not move ether, and reverts -/

/-- load*, initial_account_load, touch, inc_nonce, set_code, sload, sstore, tload, tstore, log,
checkpoint, checkpoint_commit: every observable balance and the burn ledger stay as they are -/
theorem non_ether_op_keeps_balances {db : Db} {r r' : Run} {op : Op} (hop : isEtherOp op = false)
    (h : step db r op = some r') : bal db r'.js = bal db r.js ∧ burnt r'.js = burnt r.js :=
  let e := non_ether_step (db := db) hop h
  ⟨e.1, by unfold burnt; rw [e.2]⟩

example : isEtherOp (.sstore 1 0 5) = false ∧ (step exDb ⟨exS, []⟩ (.sstore 1 0 5)).isSome = true := ⟨rfl, rfl⟩

/-- undoing one journal entry acts on balances exactly like `undoBal` (wrapping `+=` / `-=`) -/
theorem undo_entry_balances {db : Db} {sd : Bool} {s s' : JState} {e : Entry}
    (h : undoEntry sd s e = some s') : bal db s' = undoBal (bal db s) e :=
  (undoEntry_bal h).1

/-- every operation followed by the undo of the balance entries it pushed (`new`, at most one)
restores every balance exactly, hence also the sum: DESIGN A.1, per-operation lemma (b), on balances.
`StepOk` is the local hypothesis (funded creation, fitting self-destruct credit). -/
theorem op_then_undo_restores {db : Db} {r r' : Run} {op : Op} (hok : BalOk db r.js)
    (hloc : StepOk db r op) (h : step db r op = some r') (hnr : ∀ i, op ≠ .revert i) :
    ∃ new, JB r'.js = new ++ JB r.js ∧ undoAll (bal db r'.js) new = bal db r.js :=
  step_undo_restores hok hloc h hnr

example : StepOk exDb ⟨exS, []⟩ (.selfdestruct 2 1) := fun _ => by rw [W_val]; decide

/-- `checkpoint_revert` conserves: with `B` the balances that undoing the whole journal restores (the invariant `BInv`),
a revert to any checkpoint keeps the invariant and the ledger `Σ + burnt`: a reverted frame gives back exactly what
its transfers moved and what its self-destructs burnt -/
theorem undo_conserves {db : Db} {L : List Addr} {B : Addr → Nat} {s s' : JState} {cp : Checkpoint}
    (hn : L.Nodup) (hinv : BInv L B (absB db s)) (h : revert s cp = some s') :
    BInv L B (absB db s') ∧ total L db s' + burnt s' = total L db s + burnt s := by
  have h' : BInv L B (absB db s') := by rw [revert_refines h]; exact hinv.revert _
  exact ⟨h', by rw [ledger_of_inv hn h', ledger_of_inv hn hinv]⟩

example : BInv [1, 2, 3] (bal exDb exS) (absB exDb exS) := binv_fresh exBalOk rfl
/-- before Cancun: a frame burns 7 wei by a self-destruct naming itself and is reverted -/
example : ∃ s1 cp s2 r s3, checkpoint { exS with spec := 12 } = (s1, cp) ∧ selfdestruct exDb s1 2 2 = some (s2, r) ∧
    revert s2 cp = some s3 ∧ burnt s2 = 7 ∧ burnt s3 = 0 ∧ total [1, 2, 3] exDb s3 = 1000007 :=
  ⟨_, _, _, _, _, rfl, rfl, rfl, rfl, rfl, rfl⟩

/-! ## 5. histories -/

/-- every history of journal operations, reverts to any checkpoint in any order and nesting included, keeps the
invariant, provided the world's total fits in 256 bits and `create_account_checkpoint` is called with a funded caller
(as `make_create_frame` does: `make_create_frame_conserves`) -/
theorem history_keeps_invariant {db : Db} {L : List Addr} {B : Addr → Nat} {ops : List Op} {r r' : Run}
    (hn : L.Nodup) (hB : sumOver L B < W) (hinv : BInv L B (absB db r.js))
    (hL : ∀ op ∈ ops, ∀ a ∈ opAddrs op, a ∈ L) (hf : FundedRun db r ops) (h : run db r ops = some r') :
    BInv L B (absB db r'.js) :=
  run_inv hn hB hinv hL hf h

/-- conservation over arbitrary histories, from a state whose journal holds no balance entry
(the start of a transaction): what is left plus what was burnt by self-destructs that were not
reverted equals what was there. Failing operations need no hypothesis (they are part of `run`). -/
theorem history_conserves {db : Db} {L : List Addr} {ops : List Op} {r r' : Run}
    (hn : L.Nodup) (hok : BalOk db r.js) (hj : JB r.js = []) (hSum : total L db r.js < W)
    (hL : ∀ op ∈ ops, ∀ a ∈ opAddrs op, a ∈ L) (hf : FundedRun db r ops) (h : run db r ops = some r') :
    total L db r'.js + burnt r'.js = total L db r.js :=
  ledger_of_inv hn (run_inv hn hSum (binv_fresh hok hj) hL hf h)

/-- a history with a funded creation, a transfer, a real self-destruct-to-self of the created account, and
a nested frame whose self-destruct is reverted -/
def exOps : List Op :=
  [.create 1 3 false 4 17, .transfer 1 2 5, .selfdestruct 3 3, .checkpoint, .selfdestruct 2 1, .revert 1, .sstore 1 0 9]
example : (run exDb ⟨exS, []⟩ exOps).isSome = true := rfl
example : JB exS = [] := rfl
theorem exFunded : FundedRun exDb ⟨exS, []⟩ exOps := by
  simp only [exOps, FundedRun, Funded, implies_true, and_true]
  decide
example : ∀ r', run exDb ⟨exS, []⟩ exOps = some r' →
    total [1, 2, 3] exDb r'.js + burnt r'.js = total [1, 2, 3] exDb exS := fun _ h =>
  history_conserves (by decide) exBalOk rfl (by rw [W_val]; decide)
    (by decide) exFunded h

/-- the same law under the local form of the hypotheses (what the driver evaluates step by step):
each creation funded, each self-destruct's credit fitting in 256 bits — no bound on the total -/
theorem history_conserves_local {db : Db} {L : List Addr} {ops : List Op} {r r' : Run}
    (hn : L.Nodup) (hok : BalOk db r.js) (hj : JB r.js = [])
    (hL : ∀ op ∈ ops, ∀ a ∈ opAddrs op, a ∈ L) (hf : StepOkRun db r ops) (h : run db r ops = some r') :
    total L db r'.js + burnt r'.js = total L db r.js :=
  ledger_of_inv hn (run_inv_local (binv_fresh hok hj) hL hf h)

theorem history_conserves_from {db : Db} {L : List Addr} {B : Addr → Nat} {ops : List Op} {r r' : Run}
    (hn : L.Nodup) (hB : sumOver L B < W) (hinv : BInv L B (absB db r.js))
    (hL : ∀ op ∈ ops, ∀ a ∈ opAddrs op, a ∈ L) (hf : FundedRun db r ops) (h : run db r ops = some r') :
    total L db r'.js + burnt r'.js = total L db r.js + burnt r.js := by
  rw [ledger_of_inv hn (run_inv hn hB hinv hL hf h), ledger_of_inv hn hinv]

/-! ## 6. the transaction: fee legs around a conserving execution -/

/-- Σ(post) + burnt base fee + blob fee + self-destruct burns + (beneficiary share if rewards are
disabled) = Σ(pre), for any execution phase that conserves (sections 1–5), under what validation
guarantees about the caller's balance. `burntPerGas` is the part of the effective gas price the
beneficiary does not receive. -/
theorem tx_conserves {db : Db} {L : List Addr} {s0 s1 s2 s3 : JState} {spec : Nat} {e : FeeEnv}
    {rewards : Bool} {remaining spent refunded burntExec : Nat}
    (hn : L.Nodup) (hcL : e.caller ∈ L) (hbL : e.coinbase ∈ L)
    (hok0 : BalOk db s0) (hSum : total L db s0 < W)
    (hval : Validated db s0 spec e) (hgas : GasOk e remaining spent refunded)
    (hded : deductCaller db s0 spec e = some s1)
    (hexec : total L db s2 + burntExec = total L db s1)
    (hpost : postExecution db s2 spec e rewards remaining spent refunded = some s3) :
    total L db s3 + burntPerGas spec e * (spent - refunded) + dataFee spec e + burntExec
      + (if rewards then 0 else coinbaseGasPrice spec e * (spent - refunded)) = total L db s0 :=
  Proofs.Ether.tx_conserves hn hcL hbL hok0 hSum hval hgas hded hexec hpost

example : Validated exDb exS 12 exEnv := ⟨by decide, by decide⟩
example : GasOk exEnv 0 21000 0 := ⟨rfl, by decide, by rw [U64_val]; decide⟩
example : ((deductCaller exDb exS 12 exEnv).bind fun s1 => postExecution exDb s1 12 exEnv true 0 21000 0).isSome = true := rfl
/-- the plain transfer-less transaction: 21 000 gas, base fee 3 of price 10: 63 000 wei are burnt -/
example : ∀ s1 s3, deductCaller exDb exS 12 exEnv = some s1 → postExecution exDb s1 12 exEnv true 0 21000 0 = some s3 →
    total [1, 2] exDb s3 + 63000 = total [1, 2] exDb exS := fun s1 s3 h1 h3 => by
  have := tx_conserves (L := [1, 2]) (burntExec := 0) (by decide) (by decide) (by decide) exBalOk (by rw [W_val]; decide)
    (show Validated exDb exS 12 exEnv from ⟨by decide, by decide⟩)
    (show GasOk exEnv 0 21000 0 from ⟨rfl, by decide, by rw [U64_val]; decide⟩) h1 rfl h3
  have hb : burntPerGas 12 exEnv = 3 := by decide
  have hd : dataFee 12 exEnv = 0 := by decide
  rw [hb, hd] at this
  simpa using this

/-- the same law under the local conditions the driver evaluates on the observed balances (the two
credits fit in 256 bits) instead of the bound on the total -/
theorem tx_conserves_local {db : Db} {L : List Addr} {s0 s1 s2 s3 : JState} {spec : Nat} {e : FeeEnv}
    {rewards : Bool} {remaining spent refunded burntExec : Nat}
    (hn : L.Nodup) (hcL : e.caller ∈ L) (hbL : e.coinbase ∈ L) (hok0 : BalOk db s0)
    (hfitR : bal db s2 e.caller + specReimbursement e remaining refunded < W)
    (hfitC : bal db s2 e.coinbase + (if e.coinbase = e.caller then specReimbursement e remaining refunded else 0)
      + specReward spec e spent refunded < W)
    (hval : Validated db s0 spec e) (hgas : GasOk e remaining spent refunded)
    (hded : deductCaller db s0 spec e = some s1)
    (hexec : total L db s2 + burntExec = total L db s1)
    (hpost : postExecution db s2 spec e rewards remaining spent refunded = some s3) :
    total L db s3 + specTxBurn spec e rewards spent refunded burntExec = total L db s0 := by
  have := Proofs.Ether.tx_conserves_local hn hcL hbL hok0 hfitR hfitC hval hgas hded hexec hpost
  unfold specTxBurn specReward; omega

example : bal exDb exS exEnv.caller + specReimbursement exEnv 0 0 < W ∧
    bal exDb exS exEnv.coinbase + (if exEnv.coinbase = exEnv.caller then specReimbursement exEnv 0 0 else 0)
      + specReward 12 exEnv 21000 0 < W := by rw [W_val]; decide

/-- sections 5 and 6 together: `deduct_caller`, then ANY history of journal operations (the frames of
the execution with their transfers, creations, self-destructs and reverts), then `reimburse_caller`
and `reward_beneficiary`: the transaction takes out of the sum exactly the burnt base fee, the blob fee,
what non-reverted self-destructs naming themselves burnt, and the withheld beneficiary share -/
theorem tx_with_any_execution_conserves {db : Db} {L : List Addr} {s0 s1 s3 : JState} {r2 : Run}
    {cps : List Checkpoint} {ops : List Op} {spec : Nat} {e : FeeEnv} {rewards : Bool}
    {remaining spent refunded : Nat}
    (hn : L.Nodup) (hcL : e.caller ∈ L) (hbL : e.coinbase ∈ L)
    (hok0 : BalOk db s0) (hj0 : JB s0 = []) (hSum : total L db s0 < W)
    (hval : Validated db s0 spec e) (hgas : GasOk e remaining spent refunded)
    (hded : deductCaller db s0 spec e = some s1)
    (hL : ∀ op ∈ ops, ∀ a ∈ opAddrs op, a ∈ L) (hf : FundedRun db ⟨s1, cps⟩ ops)
    (hrun : run db ⟨s1, cps⟩ ops = some r2)
    (hpost : postExecution db r2.js spec e rewards remaining spent refunded = some s3) :
    total L db s3 + specTxBurn spec e rewards spent refunded (burnt r2.js) = total L db s0 := by
  obtain ⟨c, hc, b1, j1⟩ := deductCaller_bal hded
  have t1 := total_upd hn hcL b1
  unfold U256.saturatingSub at b1 t1
  have hok1 : BalOk db s1 := by
    intro x; rw [b1]
    exact upd_ok hok0 _ (by have := hok0 e.caller; omega) x
  have hSum1 : sumOver L (bal db s1) < W := by show total L db s1 < W; omega
  have hexec := ledger_of_inv hn (run_inv (r := ⟨s1, cps⟩) hn hSum1 (binv_fresh hok1 (j1.trans hj0)) hL hf hrun)
  have := Proofs.Ether.tx_conserves hn hcL hbL hok0 hSum hval hgas hded hexec hpost
  unfold specTxBurn specReward; omega

example : ((deductCaller exDb exS 12 exEnv).bind fun s1 =>
    (run exDb ⟨s1, []⟩ [.checkpoint, .transfer 1 2 5, .selfdestruct 2 2, .commit]).bind fun r2 =>
      postExecution exDb r2.js 12 exEnv false 0 21000 0).isSome = true := rfl

/-- the three legs in closed form under the same hypotheses (the driver's Spec column) -/
theorem deduct_caller_exact {db : Db} {s0 s1 : JState} {spec : Nat} {e : FeeEnv} (hok : BalOk db s0)
    (hval : Validated db s0 spec e) (h : deductCaller db s0 spec e = some s1) :
    bal db s1 = upd (bal db s0) e.caller (bal db s0 e.caller - specDebit spec e) ∧ burnt s1 = burnt s0 := by
  obtain ⟨c, hc, b1, j1⟩ := deductCaller_bal h
  rw [b1, gasCost_validated hok hval hc]
  exact ⟨rfl, by unfold burnt; rw [j1]⟩

theorem reimbursement_closed_form {e : FeeEnv} {remaining spent refunded : Nat} (hg : GasOk e remaining spent refunded)
    (hfit : e.gasLimit * effectiveGasPrice e < W) :
    reimbursement e remaining refunded = specReimbursement e remaining refunded :=
  reimbursement_exact hg hfit

theorem reward_closed_form {spec : Nat} {e : FeeEnv} {remaining spent refunded : Nat} (hg : GasOk e remaining spent refunded)
    (hfit : e.gasLimit * effectiveGasPrice e < W) :
    reward spec e spent refunded = specReward spec e spent refunded :=
  reward_exact hg hfit

example : exEnv.gasLimit * effectiveGasPrice exEnv < W := by rw [W_val]; decide

/-- outside the Σ < 2^256 reading: `reward_beneficiary` uses `saturating_add`, so a beneficiary whose
balance plus reward does not fit in 256 bits ends at 2^256-1 and the rest of the reward is lost -/
theorem reward_beneficiary_saturates {db : Db} {s s' : JState} {spec : Nat} {e : FeeEnv} {spent refunded : Nat}
    (h : rewardBeneficiary db s spec e spent refunded = some s')
    (hov : W ≤ bal db s e.coinbase + reward spec e spent refunded) : bal db s' e.coinbase = W - 1 := by
  obtain ⟨b, _⟩ := rewardBeneficiary_bal h
  rw [b, upd_same]; unfold U256.saturatingAdd; rw [if_neg (by omega)]

/-- witness: beneficiary 1 of `ovS` holds 2^256-1; the reward of 210 000 wei (Frontier, 21 000 gas at
price 10) is lost: the beneficiary's balance is the same before and after -/
theorem reward_saturation_counterexample :
    (rewardBeneficiary ovDb ovS 0 exEnv1 21000 0).isSome = true ∧
    reward 0 exEnv1 21000 0 = 210000 ∧ bal ovDb ovS 1 = W - 1 ∧
    ∀ s', rewardBeneficiary ovDb ovS 0 exEnv1 21000 0 = some s' → bal ovDb s' 1 = W - 1 := by
  have hr : reward 0 exEnv1 21000 0 = 210000 := by
    rw [reward_exact (spec := 0) (e := exEnv1) (remaining := 0) (spent := 21000) (refunded := 0)
      ⟨rfl, by decide, by rw [U64_val]; decide⟩ (by rw [W_val]; decide)]; rfl
  have hb : bal ovDb ovS 1 = W - 1 := rfl
  refine ⟨rfl, hr, hb, fun s' h => reward_beneficiary_saturates h ?_⟩
  show W ≤ bal ovDb ovS 1 + reward 0 exEnv1 21000 0
  rw [hr, hb]; have := W_val; omega

/-- from London on, with the validated `effective_gas_price ≥ basefee`, the burnt part is the base
fee times the gas used -/
theorem burnt_per_gas_london {spec : Nat} {e : FeeEnv} (h : spec ≥ LONDON)
    (hbf : e.basefee ≤ effectiveGasPrice e) : burntPerGas spec e = e.basefee := by
  rw [burntPerGas_london h]; omega

example : 12 ≥ LONDON ∧ exEnv.basefee ≤ effectiveGasPrice exEnv := by decide

theorem burnt_per_gas_pre_london {spec : Nat} {e : FeeEnv} (h : ¬ spec ≥ LONDON) : burntPerGas spec e = 0 := by
  unfold burntPerGas coinbaseGasPrice; rw [if_neg h]; omega

theorem data_fee_pre_cancun {spec : Nat} {e : FeeEnv} (h : ¬ spec ≥ CANCUN) : dataFee spec e = 0 := by
  unfold dataFee; rw [if_neg h]

end Revm.Props.C08
