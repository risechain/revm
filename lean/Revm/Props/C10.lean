import Revm.Gen.Tables
import Revm.Gen.StaticTable
import Revm.Proofs.StaticTable
import Revm.Proofs.StaticFrame
/-! C10 — static calls cannot change state: while a frame executes in static mode (directly or inherited), every attempt
to write storage or transient storage, emit a log, create, self-destruct, or call with non-zero value fails that frame,
and the world state at the end of the static call equals the state at its start. Reading fixed in DESIGN section 8:
"call with non-zero value" = CALL and EXTCALL; CALLCODE with value is allowed (its transfer has caller = target).
Parts 1–2 are about the real `Interpreter`: `Gen.staticTable` / `Gen.staticChild` are regenerated on every run by
executing every opcode byte × SpecId × {legacy, EOF} × {zero, one} stack fill with `is_static = true` and a recording
host, and the kernel checks the whole dump against `Model/Static.lean`. Parts 3–4 are about the journal model; `WorldEq`
is accounts, storage, transient storage, logs — warm/cold status and touch marks excluded (DESIGN section 8). -/
namespace Revm.Props.C10
open Revm Revm.Model.Journal Revm.Spec.JournalAbs Revm.Model.Static Revm.Proofs.Static

/-! ## 1. the guard -/

/-- both dumps are complete and in order: `staticTable` has a row for every SpecId × {legacy, EOF} × {fill 0, fill 1},
`staticChild` one for every SpecId × code kind × parent flag × call opcode -/
theorem static_table_complete :
    Gen.staticTable.map (fun r => (r.1, r.2.1, r.2.2.1)) =
      Gen.specIds.flatMap (fun s => [(s, 0, 0), (s, 0, 1), (s, 1, 0), (s, 1, 1)]) ∧
    Gen.staticChild.map (fun r => (r.1, r.2.1, r.2.2.1, r.2.2.2.1)) =
      Gen.specIds.flatMap (fun s => [0, 1].flatMap fun e => [0, 1].flatMap fun p => callOps.map fun op => (s, e, p, op)) := by
  decide +kernel

/-- `row_spec` says what the check means for one entry -/
theorem static_guard_table : Gen.staticTable.all rowOk = true := by
  decide +kernel

/-- No opcode mutates in static mode. For every SpecId, code kind, stack fill and opcode byte: the entry
is "not executed" (999: the opcode is rejected by EOF validation, EOF rows only) or the recording host saw no
`sstore` / `tstore` / `log` / `selfdestruct` (`mut = 0`) and the instruction emitted no action (0), or a call
with value 0 and `is_static = true` (1), or a CALLCODE with value and `is_static = true` (6) — never a
Create (3), EOFCreate (4), value CALL / EXTCALL (2) or a call that lost the static flag (5). -/
theorem static_no_mutation (spec eof fill : Nat) (codes : List Nat) (h : (spec, eof, fill, codes) ∈ Gen.staticTable)
    (op : Nat) (hop : op < 256) :
    codes.getD op 999 = 999 ∨ (codeMut (codes.getD op 999) = 0 ∧
      (codeAct (codes.getD op 999) = 0 ∨ codeAct (codes.getD op 999) = 1 ∨ codeAct (codes.getD op 999) = 6)) :=
  (row_spec (List.all_eq_true.mp static_guard_table _ h) op hop).1

/-- The guarded opcodes behave as the model says (SSTORE, TSTORE, LOG0–4, CREATE, CREATE2, SELFDESTRUCT,
EOFCREATE): what precedes `require_non_staticcall!` in the handler (`check!(CANCUN)` for TSTORE,
`require_eof!` for EOFCREATE, nothing for the others — in particular not CREATE2's fork check), then
`StateChangeDuringStaticCall` (1). -/
theorem static_guard (spec eof fill : Nat) (codes : List Nat) (h : (spec, eof, fill, codes) ∈ Gen.staticTable)
    (op : Nat) (hop : op < 256) (hg : guarded op = true) :
    codes.getD op 999 = 999 ∨ codeRes (codes.getD op 999) = resCode (guardResult spec (Nat.beq eof 1) op) :=
  (row_spec (List.all_eq_true.mp static_guard_table _ h) op hop).2.1 hg

/-- legacy code: a guarded opcode that exists under `spec` (hand-written EIP activation table of C05) is executed
and yields `StateChangeDuringStaticCall` -/
theorem static_guard_legacy (spec fill : Nat) (codes : List Nat) (h : (spec, 0, fill, codes) ∈ Gen.staticTable)
    (op : Nat) (hop : op < 256) (hg : guarded op = true) (hex : Spec.Activation.undefinedIn spec op = false) :
    codeRes (codes.getD op 999) = 1 := by
  have hr := row_spec (List.all_eq_true.mp static_guard_table _ h) op hop
  rcases hr.2.1 hg with h9 | hres
  · exact absurd h9 (hr.2.2.2.1 rfl)
  · have h0 : Nat.beq 0 1 = false := rfl
    rw [h0, guardResult_legacy_exists hex] at hres
    exact hres

/-- EOF code from OSAKA on: SSTORE, TSTORE, LOG0–4 and EOFCREATE (the guarded opcodes EOF validation admits) are
executed and yield `StateChangeDuringStaticCall` -/
theorem static_guard_eof (spec fill : Nat) (codes : List Nat) (h : (spec, 1, fill, codes) ∈ Gen.staticTable)
    (hs : OSAKA ≤ spec) (op : Nat) (hop : op < 256) (hg : guarded op = true) (hm : op ∈ eofExecuted) :
    codeRes (codes.getD op 999) = 1 := by
  have hr := row_spec (List.all_eq_true.mp static_guard_table _ h) op hop
  rcases hr.2.1 hg with h9 | hres
  · exact absurd h9 (hr.2.2.2.2 rfl hm)
  · have h1 : Nat.beq 1 1 = true := rfl
    rw [h1, guardResult_eof_osaka hs] at hres
    exact hres

/-- The call family behaves as `stepStatic` says on the probe (17 equal stack words `fill`, ample gas):
with `fill = 1` CALL (legacy) and EXTCALL (EOF) carry value 1 and end in `CallNotAllowedInsideStatic`, CALLCODE
emits its action with `is_static = true`; with `fill = 0` all seven emit a call with value 0 and
`is_static = true`; fork / code-kind gates as in the handlers. -/
theorem static_call_family (spec eof fill : Nat) (codes : List Nat) (h : (spec, eof, fill, codes) ∈ Gen.staticTable)
    (op : Nat) (hop : op < 256) (hc : op ∈ callOps) :
    codes.getD op 999 = 999 ∨ codes.getD op 999 = expectedCall spec (Nat.beq eof 1) fill op :=
  (row_spec (List.all_eq_true.mp static_guard_table _ h) op hop).2.2.1 hc

/-- the model's verdict on the two value calls, for every fork: the guard (2 = CallNotAllowedInsideStatic) -/
theorem value_call_rejected (spec : Nat) :
    expectedCall spec false 1 0xf1 = 200 ∧ expectedCall spec true 1 0xf8 = 200 := by
  constructor <;> rfl

/-- model level, all inputs: in static mode CALL with a non-zero value and at least three stack words fails
with `CallNotAllowedInsideStatic` whatever the gas, the fork and the rest of the stack; EXTCALL with a
non-zero value never emits an action (it fails with the guard or with an earlier check) -/
theorem value_call_never_passes (spec gas g to v : Nat) (rest : List Nat) (eof : Bool) (hv : v ≠ 0) :
    stepStatic spec eof 0xf1 gas (g :: to :: v :: rest) = some { res := .callNotAllowed } ∧
    ∀ t off len, ∃ r, stepStatic spec eof 0xf8 gas (t :: off :: len :: v :: rest) = some { res := r } ∧
      r ≠ .callOrCreate := by
  refine ⟨by simp [stepStatic, guarded, isMutatingHostOp, isCreateOp, hv], fun t off len => ?_⟩
  simp only [stepStatic, guarded, isMutatingHostOp, isCreateOp]
  cases eof <;> simp
  · by_cases h1 : 2 ^ 160 ≤ t
    · simp [h1]
    · by_cases h2 : len ≠ 0 ∧ gas < memCost (off + len)
      · simp [h1, h2]
      · simp only [h1, if_false, h2, hv]
        simp

/-- model level, all inputs: a guarded opcode in static mode never depends on stack or gas and never emits an
action -/
theorem static_step_no_mutation (spec gas op : Nat) (eof : Bool) (stack : List Nat) (hg : guarded op = true) :
    stepStatic spec eof op gas stack = some { res := guardResult spec eof op } := by
  simp [stepStatic, hg]

/-- the outcome, if any, is no mutating action; a `Bool`, so that `apply_ite` takes it through the branches of
`stepStatic` -/
def quiet (r : Option StepOut) : Bool := r.all fun o => !o.mutatingAction

private theorem quiet_none : quiet none = true := rfl
private theorem quiet_res (r : Res) : quiet (some { res := r }) = true := rfl
private theorem quiet_emit_zero (s : Scheme) : quiet (some (emit s true)) = true := by cases s <;> rfl
private theorem quiet_emit_callCode (z : Bool) : quiet (some (emit .callCode z)) = true := by cases z <;> rfl

private theorem stepStatic_quiet (spec gas op : Nat) (eof : Bool) (stack : List Nat) :
    quiet (stepStatic spec eof op gas stack) = true := by
  -- `stepStatic` looks at most four words into the stack
  rcases stack with _ | ⟨_, _ | ⟨_, _ | ⟨_, _ | ⟨_, _⟩⟩⟩⟩ <;>
    simp only [stepStatic, apply_ite quiet, quiet_none, quiet_res, quiet_emit_zero, quiet_emit_callCode, ite_self]

/-- model level, all inputs: whatever `stepStatic` returns is not a mutating action -/
theorem static_step_actions (spec gas op : Nat) (eof : Bool) (stack : List Nat) (o : StepOut)
    (h : stepStatic spec eof op gas stack = some o) : o.mutatingAction = false := by
  have := stepStatic_quiet spec gas op eof stack
  rw [h] at this
  simpa [quiet] using this

/-! ## 2. inheritance -/

/-- The static flag is inherited. For every call scheme and parent flag the child's `is_static` is the
parent's, or the scheme is STATICCALL / EXTSTATICCALL (which set it); in particular no scheme clears it. -/
theorem static_inherited (s : Scheme) (parent : Bool) :
    (childIsStatic s parent = parent ∨ s = .staticCall ∨ s = .extStaticCall) ∧ childIsStatic s true = true := by
  cases s <;> simp [childIsStatic]

/-- the same, observed on the real handlers: for every SpecId, code kind, parent flag and call opcode the
`CallInputs.is_static` of the emitted action is `childIsStatic`; and whenever the opcode exists in that
fork / code kind an action was emitted (so the flag was observed) -/
theorem static_inherited_table : Gen.staticChild.all childOk = true := by
  decide +kernel

/-! ## 3. from instructions to journal operations -/

/-- the `Host` calls of the unguarded state-reading opcodes (BALANCE, SELFBALANCE, EXTCODESIZE / EXTCODECOPY /
EXTCODEHASH, SLOAD, TLOAD) are operations the frame theorem allows, for every frame address and argument -/
theorem static_instr_ops_allowed (base op : Nat) (self : Addr) (arg : Nat) :
    allowedAll base (readOps op self arg) = true := by
  simp only [readOps, apply_ite (allowedAll base)]
  simp [allowedAll, allowed]

/-- Every call action a static instruction can emit leads `make_call_frame` only to allowed operations:
`load_account_delegated`, `checkpoint`, the touch (value 0) or the transfer (CALLCODE: `self → self`), and `load_code`;
a CALL / EXTCALL with value never gets here. `hz`: the value is zero exactly when the model says so. -/
theorem static_action_ops_allowed (base spec gas op : Nat) (eof : Bool) (stack : List Nat) (o : StepOut) (a : Act)
    (h : stepStatic spec eof op gas stack = some o) (ha : o.act = some a)
    (self to : Addr) (value : Nat) (hv : value < W) (hz : a.valueZero = decide (value = 0)) :
    allowedAll base (callFrameOps a.scheme self to value) = true := by
  have hsafe := static_step_actions spec gas op eof stack o h
  simp only [StepOut.mutatingAction, ha] at hsafe
  by_cases hv0 : value = 0
  · subst hv0
    cases hsch : a.scheme <;> simp [callFrameOps, allowedAll, allowed]
  · have hz' : a.valueZero = false := by simp [hz, hv0]
    cases hsch : a.scheme <;> simp_all [callFrameOps, allowedAll, allowed]

/-! ## 4. frames -/

/-- Every operation left to a static frame (`allowed`) preserves the world state. -/
theorem static_ops_preserve_world (db : Db) (r r' : Run) (op : Op) (hbal : BalOk db r.js)
    (ha : allowed r.cps.length op = true) (h : step db r op = some r') : WorldEq db r'.js r.js :=
  (inv_step hbal (inv_init db r) ha h).world

/-- The world state at the end of a static frame equals the world state at its start: for every history `ops`, of any
length and nesting, of the operations a static frame can cause (`base` = number of checkpoints that existed when the
frame started; histories that leave checkpoints open included), if it runs without a Rust panic (`run = some`) the
world state is unchanged. -/
theorem static_frame_state_equal (db : Db) (r r' : Run) (ops : List Op) (hbal : BalOk db r.js)
    (hops : allowedAll r.cps.length ops = true) (hrun : run db r ops = some r') : WorldEq db r'.js r.js :=
  (inv_run hbal ops r r' (inv_init db r) hops hrun).world

/-- the shape `make_call_frame` … `call_return` gives a static call: `checkpoint`, the frame's history, then
`checkpoint_commit` (ok result) or `checkpoint_revert` of that checkpoint (revert / error result, e.g. after
`StateChangeDuringStaticCall`) -/
theorem static_call_state_equal (db : Db) (r r' : Run) (ops : List Op) (close : Op) (hbal : BalOk db r.js)
    (hops : allowedAll (r.cps.length + 1) ops = true) (hclose : close = .commit ∨ close = .revert r.cps.length)
    (hrun : run db r (.checkpoint :: ops ++ [close]) = some r') : WorldEq db r'.js r.js := by
  refine static_frame_state_equal db r r' _ hbal ?_ hrun
  simp only [allowedAll, List.all_cons, List.all_append, List.all_nil, Bool.and_true, Bool.and_eq_true]
  refine ⟨⟨rfl, ?_⟩, ?_⟩
  · exact List.all_eq_true.mpr fun op hm => allowed_mono (List.all_eq_true.mp hops op hm)
  · rcases hclose with h | h <;> subst h <;> simp [allowed]

/-! ## non-vacuity -/

/-- a database with one funded contract (address 5) and a state at CANCUN with nothing loaded -/
def exDb : Db :=
  { basic := fun a => if a = 5 then some { balance := 1000, nonce := 1, codeHash := 77, code := none } else none,
    storage := fun a k => if a = 5 ∧ k = 1 then 9 else 0, delegate := fun _ => none }
def exRun : Run := { js := JState.new 17 (fun a => a = 4), cps := [] }

/-- a static frame that reads (cold and warm), touches, makes a CALLCODE-style self transfer of 3 wei, and runs
two nested frames of which one is reverted -/
def exOps : List Op :=
  [.checkpoint, .loadDelegated 5, .load 5, .sload 5 1, .sload 5 2, .tload 5 0, .touch 5, .transfer 5 5 3,
   .checkpoint, .load 9, .touch 9, .transfer 5 9 0, .revert 1,
   .checkpoint, .loadCode 4, .commit, .revert 0]

example : BalOk exDb exRun.js := by
  intro a
  by_cases h : a = 5
  · subst h; decide
  · have : 0 < W := by rw [W_val]; decide
    simpa [worldAcct, absAcct, exRun, JState.new, exDb, h, Info.default] using this

example : allowedAll exRun.cps.length exOps = true := by decide
example : (run exDb exRun exOps).isSome = true := by decide +kernel
/-- the example history really changes the concrete state (address 5 is now in the state map) -/
example : ((run exDb exRun exOps).map fun r => (r.js.state 5).isSome) = some true := by decide +kernel
example : guarded 0x55 = true ∧ Spec.Activation.undefinedIn 17 0x5d = false ∧ 0xec ∈ eofExecuted := by decide
example : stepStatic 17 false 0xf1 0 [0, 0xb0, 1] = some { res := .callNotAllowed } := by decide
/-- CALLCODE with value 3 in a static frame: an action is emitted and its frame operations are allowed -/
example : (stepStatic 17 false 0xf2 0 [0, 0xb0, 3, 0, 0, 0, 0]).map (·.act.isSome) = some true ∧
    callFrameOps .callCode 5 0xb0 3 = [.loadDelegated 0xb0, .checkpoint, .transfer 5 5 3, .loadCode 0xb0] := by decide
example : (Gen.staticTable.filter (fun r => r.1 = 17)).length = 4 := by decide +kernel

end Revm.Props.C10
