import Revm.Proofs.BundleExtend
/-! C18 — splitting and joining bundles does not change what they describe: for a history split at a group boundary,
`extend(A, B)` has the post-state changeset and the per-block pre-values of the monolithic bundle.
Statement `Spec.Bundle.ExtendStatement`, over the runs of C16; each half is built by a fresh `State` over the state
committed so far (otherwise F3, see C16). Post-state half proved in full, accounts destroyed in either or both halves
included. Pre-value half (database reading of `Destroyed`) proved where `extendOk A B`; F4 falsifies the rest
(`extend_prevalue_counterexample`: `entry(key).or_insert(..)` keeps B's `Destroyed` marker instead of A's present
value). `revert` after `extend`, not part of `ExtendStatement`: proved where `extRevertOk A B j`; F5 falsifies the rest
(`extend_revert_counterexample`: B's reverts carry the `previous_status` of another cache lineage). -/
namespace Revm.Props.C18
open Revm.Model.Bundle Revm.Spec.Bundle Revm.Proofs.Bundle

def FullStatement : Prop := ExtendStatement true

def FullStatementPostState : Prop := ExtendPostStatement

/-- C18, post-state, headline: for a history split at any group boundary (each half under any merge schedule, by a
fresh `State` over the state committed so far), `extend(A, B)`'s changeset, with either `OriginalValuesKnown`, applied
to the pre-state of A is the post-state of B; nothing panics -/
theorem extend_post_state : FullStatementPostState := by
  intro db db2 sc p0 h1 h2 known hdb hwf hr
  obtain ⟨l1, l2, q1, q2⟩ := extend_partial_proof db db2 sc p0 h1 h2 known hdb hwf hr
  exact ⟨l1, l2, q1, fun s1 r1 hl hdb2 =>
    ⟨(q2 s1 r1 hl hdb2).1, fun s2 r2 hl2 => ((q2 s1 r1 hl hdb2).2 s2 r2 hl2).1⟩⟩

def FullStatementPrependPostState : Prop := PrependPostStatement

/-- C18, `prepend_state`, post-state: same quantification as `extend_post_state`; `B.prepend_state(A)` for the
newer bundle B (second half) and the older A: its changeset applied to the pre-state of A is the post-state of B
(`extend_state` without the revert rewriting of `extend`), and its reverts are A's -/
theorem prepend_post_state : FullStatementPrependPostState := by
  intro db db2 sc p0 h1 h2 known hdb hwf hr
  obtain ⟨l1, l2, q1, q2⟩ := split_run db db2 sc p0 h1 h2 hdb hwf hr
  refine ⟨l1, l2, q1, fun s1 r1 hl1 hdb2 => ?_⟩
  obtain ⟨w1, _, hF1, w3⟩ := q2 s1 r1 hl1 hdb2
  refine ⟨w1, fun s2 r2 hl2 => ?_⟩
  have hF2 := w3 s2 r2 hl2
  exact ⟨changeset_of_bundleOK _ known p0 r2
    (prepend_bundleOK (bundleOK_of_inv hF1.inv hF1.ts) (bundleOK_of_inv hF2.inv hF2.ts) hF2.inv.wipe), rfl⟩

/-- C18, whole statement outside F4: the post-state as above and, when no storage-wiping revert of B
lists as `Destroyed` a slot held by A's account (`extendOk`, decidable), every block of the extended
bundle's plain reverts maps the reference state after its group to the one before it. Missing for
`FullStatement`: the region `extendOk = false`, where the statement is false of the code (F4 below). -/
theorem extend_assoc_partial (db db2 : BMap Info) (sc : Bool) (p0 : Plain) (h1 h2 : List Group) (known : Bool)
    (hdb : dbMatches db p0) (hwf : plainWF p0) (hr : reachHistory sc p0 (h1 ++ h2) = true) :
    ∃ l1 l2, runHistory { db := db, sc := sc } p0 h1 = some l1 ∧
      ∀ s1 r1, l1.getLast? = some (s1, r1) → dbMatches db2 r1 →
        runHistory { db := db2, sc := sc } r1 h2 = some l2 ∧
        ∀ s2 r2, l2.getLast? = some (s2, r2) →
          PlainEq (applyChangeset (toPlainState (extend s1.bundle s2.bundle) known) p0) r2 ∧
          (extendOk s1.bundle s2.bundle = true →
            ∀ (k : Nat) blk before after, (toPlainStateReverts (extend s1.bundle s2.bundle))[k]? = some blk →
              ((p0 :: (l1 ++ l2).map (·.2))[k]? = some before) → (((l1 ++ l2).map (·.2))[k]? = some after) →
              PlainEq (applyRevertBlock true p0 blk after) before) :=
  extend_partial_proof db db2 sc p0 h1 h2 known hdb hwf hr

/-- C18, `revert` after `extend`, region outside F5: for the same split histories, `revert(j)` on the extended
bundle describes, relative to A's pre-state, the reference state after the first n-j groups of the second half.
Missing outside `extRevertOk`: reverting into A's blocks, storage-wiping reverts (F2), and accounts destroyed in A
and present in B, where it is false of the code (F5 below). -/
theorem extend_revert_partial (db db2 : BMap Info) (sc : Bool) (p0 : Plain) (h1 h2 : List Group) (j : Nat) (known : Bool)
    (hdb : dbMatches db p0) (hwf : plainWF p0) (hr : reachHistory sc p0 (h1 ++ h2) = true) :
    ∃ l1 l2, runHistory { db := db, sc := sc } p0 h1 = some l1 ∧
      ∀ s1 r1, l1.getLast? = some (s1, r1) → dbMatches db2 r1 →
        runHistory { db := db2, sc := sc } r1 h2 = some l2 ∧
        ∀ s2 r2, l2.getLast? = some (s2, r2) → extRevertOk s1.bundle s2.bundle j = true →
          ∀ tgt, (r1 :: l2.map (·.2))[h2.length - j]? = some tgt →
            PlainEq (applyChangeset (toPlainState (revertN (extend s1.bundle s2.bundle) j) known) p0) tgt :=
  extend_revert_proof db db2 sc p0 h1 h2 j known hdb hwf hr

/-- the region is non-trivial: bundle A writes slot 2 of contract 2, bundle B destroys and re-creates the
contract writing slot 1 (a wiping revert with a `Destroyed` slot): `extendOk`, and the extended bundle's
blocks give slot (2,2) the pre-values 0 and 7; F4's split is outside the region -/
example :
    (Wit.split Wit.f4db [(2, ⟨3, 1, 1, false⟩)] Wit.f4p0
        [[[(2, Wit.ea 3 1 1 false false [(2, ⟨0, 7⟩)])]]] Wit.f4h2).map (fun (a, b, r1, r2) =>
      (extendOk a b, Wit.slotsBefore true (extend a b) Wit.f4p0 [r1, r2] 2 2)) = some (true, [0, 7]) ∧
    (Wit.split Wit.f4db [(2, ⟨3, 1, 1, false⟩)] Wit.f4p0 Wit.f4h1 Wit.f4h2).map (fun (a, b, _, _) =>
      extendOk a b) = some false := by decide +kernel

/-- `take_n_reverts(n)` returns the first n blocks and leaves the rest: it is `List.splitAt n`
(for `n > len` the code's `take_all_reverts` branch agrees with `splitAt`) -/
theorem take_n_reverts_splitAt (b : BState) (n : Nat) :
    ((takeNReverts b n).1, (takeNReverts b n).2.reverts) = b.reverts.splitAt n := by
  rw [takeN_fst, takeN_snd_reverts, List.splitAt_eq]

theorem take_n_reverts_append (b : BState) (n : Nat) :
    (takeNReverts b n).1 ++ (takeNReverts b n).2.reverts = b.reverts := by
  rw [takeN_fst, takeN_snd_reverts, List.take_append_drop]

theorem take_n_reverts_keeps_state (b : BState) (n : Nat) :
    (takeNReverts b n).2.state = b.state ∧ (takeNReverts b n).2.contracts = b.contracts := by
  unfold takeNReverts
  by_cases h : n > b.reverts.length <;> simp [h]

theorem take_all_reverts_eq (b : BState) : takeAllReverts b = takeNReverts b (b.reverts.length + 1) := by
  simp [takeAllReverts, takeNReverts]

/-- `prepend_state`: for every account of the newer bundle (`self`), the result has its info, its whole
storage if it was destroyed, and for each of its slots its present value -/
theorem prepend_never_overrides (self other : BState) (hw : WF self.state) (a : Nat) (acc : BAcct)
    (h : self.state.get a = some acc) :
    ∃ r, (prependState self other).state.get a = some r ∧ NewerWins acc r :=
  extendState_newer_wins other.state self.state hw a acc (mem_of_get _ _ _ h)

/-- `prepend_state`: addresses only the older bundle has are kept unchanged, and the reverts are the older bundle's -/
theorem prepend_keeps_older (self other : BState) (a : Nat) (h : a ∉ self.state.map (·.1)) :
    (prependState self other).state.get a = other.state.get a ∧ (prependState self other).reverts = other.reverts :=
  ⟨by rw [prependState, extendState_eq]
      exact foldl_get_not_mem (fun acc e k hk => by rw [extStep_get, if_neg hk]) self.state other.state a h, rfl⟩

/-- `prepend_never_overrides` for `extend` (newer = `other`) -/
theorem extend_newer_wins (this other : BState) (hw : WF other.state) (a : Nat) (acc : BAcct)
    (h : other.state.get a = some acc) :
    ∃ r, (extend this other).state.get a = some r ∧ NewerWins acc r :=
  extendState_newer_wins _ other.state hw a acc (mem_of_get _ _ _ h)

/-- `extend` concatenates the revert lists block by block (length) -/
theorem extend_reverts_prefix (this other : BState) : (extend this other).reverts.take this.reverts.length = this.reverts := by
  simp [extend]

/-- the hypothesis `WF` of `prepend_never_overrides` / `extend_newer_wins` is satisfiable: a two-account newer bundle -/
example : WF ([(1, ⟨none, none, [], .destroyed⟩), (2, ⟨some ⟨1, 0, 0, true⟩, none, [(5, ⟨0, 3⟩)], .inMemoryChange⟩)] : BMap BAcct) := by
  unfold WF; decide

/-- `extend_storage` (used by `extend_state` for non-destroyed accounts): updated slots carry the newer
present value and keep the older original value -/
theorem extend_storage_present (this upd : BMap Slot) (hw : WF upd) (k : Nat) (s : Slot) (hm : (k, s) ∈ upd) :
    ∃ r, (extendStorage this upd).get k = some r ∧ r.present = s.present ∧
         r.orig = (match this.get k with | some o => o.orig | none => s.orig) :=
  extendStorage_present this upd hw k s hm

/-- positive instance (model): split with a fresh `State`, account destroyed in the second half: the
extended bundle's changeset gives the reference post-state, both flags -/
theorem extend_instance :
    (Wit.split Wit.f4db [(2, ⟨3, 1, 1, false⟩)] Wit.f4p0 Wit.f4h1 Wit.f4h2).map (fun (a, b, _, r2) =>
      ((applyChangeset (toPlainState (extend a b) true) Wit.f4p0).slot 2 1,
       (applyChangeset (toPlainState (extend a b) false) Wit.f4p0).slot 2 1, r2.slot 2 1,
       (applyChangeset (toPlainState (extend a b) false) Wit.f4p0).acct 2 == r2.acct 2)) = some (9, 9, 9, true) := by
  decide +kernel

/-- FINDING F4. Bundle A sets slot 1 of contract 2 to 7; bundle B (fresh `State`) destroys and re-creates
the contract writing slot 1. In the extended bundle the second block's revert lists slot 1 as
`Destroyed` (value 0 under both readings; the pre-bundle value is 0 too) although it was 7 before that
block; the monolithic bundle records 7.
Request lines: corpus/C18/F4-extend-keeps-destroyed-marker.bundle.case -/
theorem extend_prevalue_counterexample :
    reachHistory true Wit.f4p0 (Wit.f4h1 ++ Wit.f4h2) = true ∧
    (Wit.split Wit.f4db [(2, ⟨3, 1, 1, false⟩)] Wit.f4p0 Wit.f4h1 Wit.f4h2).map (fun (a, b, r1, r2) =>
      (Wit.slotsBefore false (extend a b) Wit.f4p0 [r1, r2] 2 1,
       Wit.slotsBefore true (extend a b) Wit.f4p0 [r1, r2] 2 1, r1.slot 2 1)) = some ([0, 0], [0, 0], 7) ∧
    (Wit.runLast { db := Wit.f4db, sc := true } Wit.f4p0 (Wit.f4h1 ++ Wit.f4h2)).map (fun r =>
      Wit.slotsBefore false r.1.bundle Wit.f4p0
        (Wit.refsOf { db := Wit.f4db, sc := true } Wit.f4p0 (Wit.f4h1 ++ Wit.f4h2)) 2 1) = some [0, 7] := by
  decide +kernel

/-- FINDING F5. Contract 5 (slot 3 = 7) destroyed in bundle A, re-created in bundle B (fresh `State`).
`revert(1)` on the extended bundle restores status `LoadedNotExisting` (from B's cache) instead of
`Destroyed`: no wipe, the changeset (Yes) leaves slot 3 = 7 whereas the state after A has 0. The
monolithic bundle reverts correctly.
Request lines: corpus/C18/F5-extend-then-revert-status.bundle.case -/
theorem extend_revert_counterexample :
    reachHistory true Wit.f5p0 (Wit.f5h1 ++ Wit.f5h2) = true ∧
    (Wit.split Wit.f5db [] Wit.f5p0 Wit.f5h1 Wit.f5h2).map (fun (a, b, r1, _) =>
      ((applyChangeset (toPlainState (revertN (extend a b) 1) true) Wit.f5p0).slot 5 3, r1.slot 5 3)) = some (7, 0) ∧
    (Wit.runLast { db := Wit.f5db, sc := true } Wit.f5p0 (Wit.f5h1 ++ Wit.f5h2)).map (fun r =>
      (applyChangeset (toPlainState (revertN r.1.bundle 1) true) Wit.f5p0).slot 5 3) = some 0 := by
  decide +kernel

/-- F5's split is outside the region `extRevertOk` in which `revert` after `extend` is claimed (contract 5 is held
with status `Destroyed` by bundle A and re-created in bundle B); a split without destruction is inside -/
theorem f5_outside_region :
    (Wit.split Wit.f5db [] Wit.f5p0 Wit.f5h1 Wit.f5h2).map (fun (a, b, _, _) => extRevertOk a b 1) = some false ∧
    (Wit.split Wit.f4db [(2, ⟨3, 1, 1, false⟩)] Wit.f4p0 Wit.f4h1
        [[[(2, Wit.ea 3 1 1 false false [(1, ⟨7, 9⟩)])]]]).map (fun (a, b, r1, _) =>
      (extRevertOk a b 1, (applyChangeset (toPlainState (revertN (extend a b) 1) true) Wit.f4p0).slot 2 1,
       (applyChangeset (toPlainState (revertN (extend a b) 1) false) Wit.f4p0).slot 2 1, r1.slot 2 1)) =
      some (true, 7, 7, 7) := by
  decide +kernel

end Revm.Props.C18
