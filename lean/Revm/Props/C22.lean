import Revm.Proofs.HandlerCfg
/-! C22 — the reward switch survives reconfiguration.

Model: `Revm.Model.HandlerCfg` (handler = cfg + reward slot + register list; every rebuild path of
`handler.rs` / `builder.rs` / `evm.rs` as the code performs it after /repo commit 578545da; the fee
stage of `transact_preverified_inner`).

Alphabet of the sequence theorems (`Admissible P`): `modify_spec_id` to any spec (on the `Evm`, on the
`Handler`, through `modify().with_spec_id(..).build()`), appending a register of class `P` (directly or
through the builder), `pop_handle_register`, `create_handle_generic` (result kept or dropped),
`modify().build()`. NOT in the alphabet, because they are resets by name and documented as such
(`reset_handler*`, `.mainnet()`, `.optimism()`, `Handler::new(cfg)`): they enable rewards
(`explicit_reset_enables`).

Register classes: `KeepsDisabled r` (running `r` on an empty reward slot leaves it empty) for the
"disabled stays disabled" direction, `KeepsEnabled r` for the converse, `Neutral` = both. Registers that
do not assign `post_execution.reward_beneficiary` (inspector, instruction-table, no-op registers) and
`optimism_handle_register(false)` are `Neutral`; `optimism_handle_register(true)` keeps enabled only.
An arbitrary user register is `generic f`; the theorems cover exactly those `f` with `f none = none`
(resp. `f (some _)` non-empty) and `user_register_can_enable` shows the hypothesis is needed. -/
namespace Revm.Props.C22
open Revm Revm.Model.HandlerCfg Revm.Proofs.HandlerCfg

/-! ### the flag is preserved by every reconfiguration sequence -/

/-- A handler with rewards disabled (slot empty, no register that would fill it) still has them
disabled after ANY sequence of reconfigurations of the alphabet — unbounded length, any specs. -/
theorem reward_flag_preserved_disabled (h : Handler) (ops : List Op)
    (h0 : h.reward = none) (hregs : ∀ r ∈ h.registers, KeepsDisabled r)
    (hops : ∀ op ∈ ops, Admissible KeepsDisabled op) :
    (run h ops).reward = none :=
  (run_disabled h ops ⟨h0, hregs⟩ hops).1

theorem reward_flag_preserved_enabled (h : Handler) (ops : List Op)
    (h0 : h.reward.isSome = true) (hregs : ∀ r ∈ h.registers, KeepsEnabled r)
    (hops : ∀ op ∈ ops, Admissible KeepsEnabled op) :
    (run h ops).reward.isSome = true :=
  (run_enabled h ops ⟨h0, hregs⟩ hops).1

/-- For the four ways a handler is constructed with an explicit setting
(`Handler::mainnet_with_spec(s, b)`, `Handler::optimism_with_spec(s, b)`, installed with
`with_handler`) and every sequence of reconfigurations with neutral registers,
"rewards enabled" is what it was at construction -/
theorem reward_flag_preserved (s : Spec) (optimism b : Bool) (ops : List Op)
    (hops : ∀ op ∈ ops, Admissible Neutral op) :
    (run (if optimism then optimismWithSpec s b else mainnetWithSpec s b) ops).reward.isSome = b := by
  have hd : ∀ op ∈ ops, Admissible KeepsDisabled op := fun op h => admissible_mono (fun _ x => x.1) (hops op h)
  have he : ∀ op ∈ ops, Admissible KeepsEnabled op := fun op h => admissible_mono (fun _ x => x.2) (hops op h)
  cases optimism <;> cases b <;> simp only [if_true, if_false, Bool.false_eq_true]
  · rw [(run_disabled _ ops (mainnet_disabled s) hd).1]; rfl
  · exact (run_enabled _ ops (mainnet_enabled s) he).1
  · rw [(run_disabled _ ops (optimism_disabled s) hd).1]; rfl
  · exact (run_enabled _ ops (optimism_enabled s) he).1

/-- the hypotheses are satisfiable by a non-trivial sequence: inspector register, hardfork changes in
both directions (one of them a no-op), builder round trip, pop, generic rebuild -/
example : ∀ op ∈ [Op.append (.neutral 1), .modifySpecId .LONDON, .builderSpecId .LONDON, .builderAppend (.optimism false),
      .pop, .createGeneric .CANCUN, .modifySpecId .FRONTIER, .rebuild, .createGenericDrop .BERLIN, .pop],
    Admissible Neutral op := by
  intro op h
  simp only [List.mem_cons, List.not_mem_nil, or_false] at h
  rcases h with h | h | h | h | h | h | h | h | h | h <;> subst h <;>
    first | exact neutral_is_neutral 1 | exact optimism_false_is_neutral | exact True.intro

example : (run (mainnetWithSpec .CANCUN false)
    [.append (.neutral 1), .modifySpecId .LONDON, .pop, .createGeneric .CANCUN]).reward = none := by decide
example : (run (optimismWithSpec .ECOTONE false) [.modifySpecId .FJORD, .append (.neutral 0), .pop]).optHandles = true := by
  decide

/-- REGRESSION (the code before /repo commit 578545da, `true` hard-coded in the three rebuilds): the
theorem is false there — one hardfork change re-enables the rewards of a handler built without -/
theorem reward_flag_preserved_regression :
    ∃ (s : Spec) (ops : List Op), (∀ op ∈ ops, Admissible Neutral op) ∧
      (mainnetWithSpec s false).reward = none ∧ (runOld (mainnetWithSpec s false) ops).reward ≠ none :=
  ⟨.CANCUN, [.modifySpecId .LONDON],
    by intro op h; simp only [List.mem_cons, List.not_mem_nil, or_false] at h; subst h; exact True.intro,
    rfl, by decide⟩

/-- the same for the other two rebuild paths of the old code -/
theorem reward_flag_preserved_regression_pop_generic :
    (runOld (mainnetWithSpec .CANCUN false) [.append (.neutral 0), .pop]).reward = some .mainnet ∧
    (runOld (mainnetWithSpec .CANCUN false) [.createGeneric .CANCUN]).reward = some .mainnet ∧
    (runOld (optimismWithSpec .ECOTONE false) [.modifySpecId .FJORD]).reward = some .mainnet := by
  decide

/-- why explicit resets are outside the alphabet: each of them enables rewards, whatever the handler was -/
theorem explicit_reset_enables (h : Handler) (op : Op) (hr : op.isReset = true) :
    (step h op).reward.isSome = true := by
  cases op <;> first | cases hr | skip
  · show (handlerNew h.spec h.isOptimism).reward.isSome = true
    unfold handlerNew; cases h.isOptimism <;> rfl
  · rfl
  · rfl

/-- everything in the alphabet is not a reset, i.e. the alphabet is exactly "no explicit reset, registers of
the class" -/
theorem alphabet_has_no_reset (P : Register → Prop) (op : Op) (h : Admissible P op) : op.isReset = false := by
  cases op <;> first | rfl | exact absurd h (by simp [Admissible])

/-- why the register class is needed: a user register that assigns the slot (here
`optimism_handle_register(true)` appended by hand, or any `generic f` with `f none ≠ none`) turns
rewards on, and the rebuilds re-apply it faithfully -/
theorem user_register_can_enable :
    (run (mainnetWithSpec .CANCUN false) [.append (.optimism true), .modifySpecId .LONDON]).reward = some .optimism ∧
    (run (mainnetWithSpec .CANCUN false)
      [.append (.generic 0 (fun _ => some .mainnet)), .modifySpecId .LONDON]).reward = some .mainnet := by
  decide

/-- the other handler fields after a hardfork change: `cfg.spec_id` is the requested one, `is_optimism` and
the register list are kept -/
theorem modify_spec_id_cfg (h : Handler) (s : Spec) :
    (modifySpecId h s).spec = s ∧ (modifySpecId h s).isOptimism = h.isOptimism ∧
    (modifySpecId h s).registers = h.registers := by
  unfold modifySpecId
  split
  · rename_i heq; exact ⟨heq, rfl, rfl⟩
  · refine ⟨rfl, rfl, ?_⟩
    show (reapply _ h.registers).registers = h.registers
    rw [reapply_registers]; rfl

/-! ### what the flag means for a transaction -/

/-- With the slot empty the reward stage is skipped: the journal state is returned as it is. -/
theorem reward_stage_skipped (db : Db) (e : FeeEnv) (used : Nat) (st : JState) :
    rewardStage none db e used st = some st := rfl

/-- With rewards disabled the tail of `transact` (reimburse, reward, output) never
fails and leaves EVERY account other than the caller — in particular the coinbase and the three
Optimism vaults — exactly as execution left it: same balance, same touched mark, and if it was never
loaded it is still absent from the returned state. For all gas figures, prices and states. -/
theorem disabled_no_credit {σ : Type} (db : Db) (e : FeeEnv) (used back : Nat) (st : JState) (x : σ) :
    ∃ st', postExecution none db e used back st x = some (st', x) ∧
      ∀ a, a ≠ e.caller → st' a = st a :=
  ⟨reimburseCaller db e back st, rfl, fun a ha => reimburse_other db e back st a ha⟩

/-- the coinbase and the vaults are not even loaded: an account (other than the caller) that execution
did not bring into the journal — e.g. the coinbase or a fee vault — is absent from the returned state -/
theorem disabled_fee_accounts_absent {σ : Type} (db : Db) (e : FeeEnv) (used back : Nat) (st : JState) (x : σ)
    (a : Addr) (hc : a ≠ e.caller) (habs : st a = none) :
    ∀ r, postExecution none db e used back st x = some r → r.1 a = none := by
  intro r hr
  obtain ⟨st', h1, h2⟩ := disabled_no_credit db e used back st x
  rw [h1] at hr; cases hr
  show st' a = none
  rw [h2 a hc]; exact habs

example : (2 : Addr) ≠ (⟨1, 2, 10, none, 3, true, none⟩ : FeeEnv).caller ∧
    (fun a : Addr => if a = 1 then some (⟨1000000, 1, true⟩ : Acct) else none) 2 = none := by decide

/-- The same transaction on the same EVM with rewards enabled (either reward
handle) gives the same execution results (`x`: result, gas, logs, output, storage) and the same state
of every account that is not a fee recipient of that handle. -/
theorem other_effects_equal {σ : Type} (k : RewardKind) (db : Db) (e : FeeEnv) (used back : Nat)
    (st : JState) (x : σ) (s1 : JState) (x1 : σ)
    (h1 : postExecution (some k) db e used back st x = some (s1, x1)) :
    ∃ s0, postExecution none db e used back st x = some (s0, x1) ∧
      ∀ a, a ∉ feeRecipients e (some k) → s1 a = s0 a := by
  unfold postExecution at h1
  cases hr : rewardStage (some k) db e used (reimburseCaller db e back st) with
  | none => rw [hr] at h1; cases h1
  | some s =>
    rw [hr] at h1
    simp only [Option.map_some, Option.some.injEq, Prod.mk.injEq] at h1
    obtain ⟨hs, hx⟩ := h1
    subst hs; subst hx
    exact ⟨reimburseCaller db e back st, rfl, fun a ha => rewardStage_other _ db e used _ _ hr a ha⟩

/-- the hypothesis of `other_effects_equal` is satisfiable: mainnet rewards never fail; optimism rewards
succeed once validation has loaded the L1 block info -/
example : ∃ r, postExecution (some .mainnet) (fun _ => ⟨7, 0, false⟩) ⟨1, 2, 10, none, 3, true, none⟩ 21000 79000
    (fun a => if a = 1 then some ⟨1000000, 1, true⟩ else none) () = some r := ⟨_, rfl⟩
example : ∃ r, postExecution (some .optimism) (fun _ => ⟨7, 0, false⟩) ⟨1, 2, 10, none, 3, true, some (5, 0)⟩ 21000 79000
    (fun a => if a = 1 then some ⟨1000000, 1, true⟩ else none) () = some r := ⟨_, rfl⟩

/-- and what the enabled twin does pay (mainnet handle): the coinbase is loaded, touched and credited
`coinbasePrice * used` (wrapping product, saturating sum) on top of what it had after reimbursement -/
theorem enabled_credit_mainnet (db : Db) (e : FeeEnv) (used : Nat) (st : JState) :
    ∃ st', rewardStage (some .mainnet) db e used st = some st' ∧
      st' e.coinbase = some { loaded db st e.coinbase with
        touched := true,
        bal := U256.saturatingAdd (loaded db st e.coinbase).bal (U256.wmul e.coinbasePrice used) } :=
  ⟨_, rfl, creditSat_self db st e.coinbase _⟩

/-- the two halves together, as the property states it: an EVM configured without rewards
(`mainnet_with_spec(s,false)` / `optimism_with_spec(s,false)`), after any reconfiguration sequence of the
alphabet, runs every transaction's tail without paying: each non-caller account is as execution left it,
and everything else equals what the rewards-enabled twin `k` produces, whenever the twin succeeds. -/
theorem C22_reconfigured_never_pays {σ : Type} (s : Spec) (optimism : Bool) (ops : List Op)
    (hops : ∀ op ∈ ops, Admissible Neutral op)
    (db : Db) (e : FeeEnv) (used back : Nat) (st : JState) (x : σ) :
    let h := run (if optimism then optimismWithSpec s false else mainnetWithSpec s false) ops
    ∃ s0, postExecution h.reward db e used back st x = some (s0, x) ∧
      (∀ a, a ≠ e.caller → s0 a = st a) ∧
      ∀ (k : RewardKind) (s1 : JState) (x1 : σ),
        postExecution (some k) db e used back st x = some (s1, x1) →
        x1 = x ∧ ∀ a, a ∉ feeRecipients e (some k) → s1 a = s0 a := by
  intro h
  have hflag : h.reward.isSome = false := reward_flag_preserved s optimism false ops hops
  have hnone : h.reward = none := by
    cases hr : h.reward with
    | none => rfl
    | some k => rw [hr] at hflag; cases hflag
  rw [hnone]
  obtain ⟨s0, h1, h2⟩ := disabled_no_credit db e used back st x
  refine ⟨s0, h1, h2, ?_⟩
  intro k s1 x1 hk
  obtain ⟨s0', h3, h4⟩ := other_effects_equal k db e used back st x s1 x1 hk
  rw [h1] at h3
  simp only [Option.some.injEq, Prod.mk.injEq] at h3
  obtain ⟨hs, hx⟩ := h3
  subst hs
  exact ⟨hx.symm, h4⟩

/-! ### the whole-transaction model used by the correspondence stream -/

/-- on a handler with rewards disabled the modelled transaction returns exactly what execution and
reimbursement produced -/
theorem transact_disabled (h : Handler) (db : Db) (tx : Tx) (h0 : h.reward = none)
    (res : TxResult) (used : Nat) (st : JState)
    (hb : beforeReward h.spec h.optHandles db tx = .ok (res, used, st)) :
    transact h db tx = (res, used, st) := by
  unfold transact; rw [hb, h0]; rfl

/-- the twin (same cfg and handles, rewards enabled) returns the same result, the same gas and the same
state of every account that is not one of its fee recipients; a rejected transaction is rejected by
both. The driver component `hcfg` (`Driver/HandlerCfg.lean`) prints this comparison as `same=1` (`sameOther`). -/
theorem transact_twin (h t : Handler) (db : Db) (tx : Tx) (h0 : h.reward = none)
    (hs : t.spec = h.spec) (ho : t.optHandles = h.optHandles) :
    (∀ e, beforeReward h.spec h.optHandles db tx = .error e →
        transact h db tx = (.err e, 0, fun _ => none) ∧ transact t db tx = (.err e, 0, fun _ => none)) ∧
    (∀ res used st st', beforeReward h.spec h.optHandles db tx = .ok (res, used, st) →
        rewardStage t.reward db (tx.feeEnv t) used st = some st' →
        transact h db tx = (res, used, st) ∧ transact t db tx = (res, used, st') ∧
        ∀ a, a ∉ feeRecipients (tx.feeEnv t) t.reward → st' a = st a) := by
  refine ⟨?_, ?_⟩
  · intro e he
    refine ⟨by unfold transact; rw [he], by unfold transact; rw [hs, ho, he]⟩
  · intro res used st st' hb hr
    refine ⟨transact_disabled h db tx h0 res used st hb, ?_, ?_⟩
    · unfold transact; rw [hs, ho, hb]; simp only; rw [hr]
    · exact fun a ha => rewardStage_other _ db _ used st st' hr a ha

/-! A London transfer (basefee 20, tip 10) on a disabled, reconfigured handler passes validation and leaves the
coinbase absent, while the enabled twin pays it `tip * 21000`. -/
def exampleDb : Db := fun a => if a = CALLER then ⟨1000000000, 0, false⟩ else ⟨7, 0, false⟩
def exampleTx : Tx := ⟨.xfer, 100000, 30, none, 20, 1, 21000, none⟩
example : (transact (run (mainnetWithSpec .CANCUN false) [.modifySpecId .LONDON]) exampleDb exampleTx).1 = .ok := by rfl
example : (transact (run (mainnetWithSpec .CANCUN false) [.modifySpecId .LONDON]) exampleDb exampleTx).2.2 COINBASE = none := by
  rfl
example : (transact (run (mainnetWithSpec .CANCUN true) [.modifySpecId .LONDON]) exampleDb exampleTx).2.2 COINBASE
    = some ⟨7 + 10 * 21000, 0, true⟩ := by rfl

end Revm.Props.C22
