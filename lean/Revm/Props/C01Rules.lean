import Revm.Proofs.EvmStep2Mem
import Revm.Proofs.EvmStep2State
import Revm.Proofs.EvmStep2Outcome
import Revm.Proofs.EvmStep2Table
/-! C01 for the instructions beyond `Props/C01.lean`: memory, copy, frame-ending, KECCAK256 / LOG, the state-touching host
instructions, the CALL / CREATE family and the re-entry of a child's result. The property's theorems are
`step_agrees_all_modelled` (every opcode byte) and `rows_disjoint`; the `step_*_agrees` before them say it family by family:
for ANY machine state that is well-formed (`WFM`) and whose next opcode is X, `Interp.step` is exactly the rule of
`Spec/EvmRules2*.lean` — a function of the popped words, the frame's memory as a byte list (`memOf`, zero-extended on demand
by `touch`), the gas formulas of `Spec/GasCalc.lean` (unbounded `Nat`, per hardfork) and, for host instructions, the answer.

`WFM s` (`Proofs/EvmStep2.lean`) adds to `WF s` of C01: the representation invariant of the shared memory (C11), a frame
checkpoint `≤ 2^62`, byte strings `≤ isize::MAX`, a refund counter within `±2^62`, and the budget `gas left + C_mem(active
words) < 2^59`, below which the saturating 64-bit cost functions of the code are the formulas over unbounded numbers (C14's
`*_counterexample` theorems live above it). `2^59` and `2^62` are chosen bounds, not revm's. -/
namespace Revm.Props.C01Rules
open Revm Revm.Model Revm.Model.Interp
open Revm.Spec.EvmRules Revm.Spec.EvmRules2
open Revm.Proofs.EvmStep2 (WFM)

/-! ## memory -/

/-- MLOAD: `G_verylow` + `C_mem` expansion to `off + 32`; the word read big-endian from the zero-extended memory;
`InvalidOperandOOG` for an offset `≥ 2^64`, `MemoryOOG` exactly when the expansion exceeds the gas left -/
theorem step_mload_agrees (s : IState) (hcode : s.code[s.pc]? = some 0x51) (hwf : WFM s) :
    step s = .pure (mloadRule s) := Proofs.EvmStep2.step_mload s hcode hwf

/-- a state satisfying the hypotheses: `PUSH1 0 MLOAD` at the MLOAD -/
example : ∃ s : IState, WFM s ∧ s.code[s.pc]? = some 0x51 :=
  ⟨{ IState.init [0x60, 0, 0x51] [] 100000 false 17 0 0 0 {} with pc := 2, stack := [0] },
   ⟨⟨by decide, by decide, by decide⟩, Proofs.Memory.new_wf, by decide, by decide, by decide, by decide, by decide, by decide⟩,
   by decide⟩

/-- MSTORE: the 32 big-endian bytes of the value -/
theorem step_mstore_agrees (s : IState) (hcode : s.code[s.pc]? = some 0x52) (hwf : WFM s) :
    step s = .pure (mstoreRule s) := Proofs.EvmStep2.step_mstore s hcode hwf

/-- MSTORE8: the least significant byte -/
theorem step_mstore8_agrees (s : IState) (hcode : s.code[s.pc]? = some 0x53) (hwf : WFM s) :
    step s = .pure (mstore8Rule s) := Proofs.EvmStep2.step_mstore8 s hcode hwf

/-- MSIZE: the length of the frame's memory (`32 · μ_i`) -/
theorem step_msize_agrees (s : IState) (hcode : s.code[s.pc]? = some 0x59) (hwf : WFM s) :
    step s = .pure (msizeRule s) := by
  rw [Proofs.EvmStep.step_pushVal s 0x59 .base GasCalc.SpecId.FRONTIER (fun s => Memory.len s.mem) hcode rfl hwf.toWF]
  have hl : Memory.len s.mem = (memOf s).length := Proofs.Memory.len_eq hwf.mem
  unfold msizeRule pushValRule
  simp only [Tier.cost]
  have e : Memory.len (charge (adv s) GasCalc.BASE).mem = (memOf (charge (adv s) GasCalc.BASE)).length := hl
  rw [e]
  rfl

/-- MCOPY (EIP-5656): `G_verylow + G_copy · ⌈len / 32⌉` + expansion to `max(dst, src) + len`; memmove -/
theorem step_mcopy_agrees (s : IState) (hcode : s.code[s.pc]? = some 0x5e) (hwf : WFM s) :
    step s = .pure (mcopyRule s) := Proofs.EvmStep2.step_mcopy s hcode hwf

/-- what an example looks at in a continuing state (`viewHalt`, `viewHost`, `viewCall`: in a stopped frame, a host question,
an emitted call) -/
def view : Done → Option (Nat × Nat × List Nat × List Nat)
  | .next s => some (s.pc, s.gas.remaining, s.stack, memOf s)
  | _ => none

/-- the rules are not vacuous: MSTORE of `0x2a` at offset 0 into empty memory costs `3 + C_mem(1) = 6` and leaves 32
bytes whose last is `0x2a` -/
example : view (mstoreRule { IState.init [0x52] [] 100 false 17 0 0 0 {} with stack := [0x2a, 0] }) =
    some (1, 94, [], List.replicate 31 0 ++ [0x2a]) := by decide +kernel

/-! ## copies into memory (CALLDATASIZE / CODESIZE / RETURNDATASIZE are rows of `Props.C01.step_env_agrees`) -/

/-- CALLDATALOAD: the 32 input bytes at the offset, zero-padded behind the end of the input, as a big-endian word -/
theorem step_calldataload_agrees (s : IState) (hcode : s.code[s.pc]? = some 0x35) (hwf : WFM s) :
    step s = .pure (calldataloadRule s) := Proofs.EvmStep2.step_calldataload s hcode hwf

/-- CALLDATACOPY: `G_verylow + G_copy · ⌈len / 32⌉` + expansion; zero padding behind the end of the input -/
theorem step_calldatacopy_agrees (s : IState) (hcode : s.code[s.pc]? = some 0x37) (hwf : WFM s) :
    step s = .pure (calldatacopyRule s) := Proofs.EvmStep2.step_calldatacopy s hcode hwf

/-- CODECOPY in legacy code (in an EOF frame its `assume!(!is_eof)` is violated: a fault of the model): the contract's
own bytes (`code.take origLen`: without the analysis padding) -/
theorem step_codecopy_agrees (s : IState) (hcode : s.code[s.pc]? = some 0x39) (hwf : WFM s)
    (hleg : s.isEof = false) : step s = .pure (codecopyRule s) := Proofs.EvmStep2.step_codecopy s hcode hwf hleg

/-- RETURNDATACOPY (EIP-211): `OutOfOffset` exactly when `off + len` (unbounded sum) exceeds the buffer -/
theorem step_returndatacopy_agrees (s : IState) (hcode : s.code[s.pc]? = some 0x3e) (hwf : WFM s) :
    step s = .pure (returndatacopyRule s) := Proofs.EvmStep2.step_returndatacopy s hcode hwf

/-- CALLDATACOPY of 4 bytes from offset 1 of a 3-byte input: two data bytes, two zeros, memory grown to one word -/
example : view (calldatacopyRule { IState.init [0x37] [7, 8, 9] 100 false 17 0 0 0 {} with stack := [4, 1, 0] }) =
    some (1, 91, [], [8, 9, 0, 0] ++ List.replicate 28 0) := by decide +kernel

/-! ## the frame ends -/

theorem step_stop_agrees (s : IState) (hcode : s.code[s.pc]? = some 0x00) : step s = .pure (stopRule s) :=
  Proofs.EvmStep2.step_stop s hcode

theorem step_invalid_agrees (s : IState) (hcode : s.code[s.pc]? = some 0xfe) : step s = .pure (invalidRule s) :=
  Proofs.EvmStep2.step_invalid s hcode

/-- RETURN: output `μ[off .. off + len)` after expansion; the final state keeps the unspent gas -/
theorem step_return_agrees (s : IState) (hcode : s.code[s.pc]? = some 0xf3) (hwf : WFM s) :
    step s = .pure (retRule s) := Proofs.EvmStep2.step_return s hcode hwf

/-- REVERT (EIP-140): `NotActivated` before Byzantium, else RETURN's rule with result `Revert` -/
theorem step_revert_agrees (s : IState) (hcode : s.code[s.pc]? = some 0xfd) (hwf : WFM s) :
    step s = .pure (revertRule s) := Proofs.EvmStep2.step_revert s hcode hwf

def viewHalt : Done → Option (IResult × List Nat × Nat)
  | .halt r out s => some (r, out, s.gas.remaining)
  | _ => none

/-- RETURN of 2 bytes at offset 31 of a one-word memory: grows to two words (3 gas), output = last byte and a zero -/
example : viewHalt (retRule { IState.init [0xf3] [] 100 false 17 0 0 0 {} with
      stack := [2, 31], mem := { buffer := List.replicate 31 0 ++ [5], checkpoints := [], lastCheckpoint := 0 } }) =
    some (.Return, [5, 0], 97) := by decide +kernel

/-! ## KECCAK256 and LOG0 … LOG4: the question asked and the continuation -/

/-- KECCAK256: `30 + 6 · ⌈len / 32⌉` + expansion; the hash function is asked about exactly `μ[off .. off + len)` and its
answer replaces the two operands; the empty string is not asked about -/
theorem step_keccak_agrees (s : IState) (hcode : s.code[s.pc]? = some 0x20) (hwf : WFM s) :
    step s = keccakRule s := Proofs.EvmStep2.step_keccak s hcode hwf

/-- LOG0 … LOG4: static context first; `375 + 8 · len + 375 · n` + expansion; the host receives the executing account's
address, the `n` topics (first popped first) and `μ[off .. off + len)` -/
theorem step_log_agrees (s : IState) (n : Fin 5) (hcode : s.code[s.pc]? = some (0xa0 + n.val)) (hwf : WFM s) :
    step s = logRule n.val s := Proofs.EvmStep2.step_log s n hcode hwf

def viewHost : Outcome → Option HostOp
  | .host op _ => some op
  | _ => none

/-- LOG1 of one byte with topic 7 by account 0xcc: the host sees `log 0xcc [7] [5]` -/
example : viewHost (logRule 1 { IState.init [0xa1] [] 5000 false 17 0xcc 0 0 {} with
      stack := [7, 1, 31], mem := { buffer := List.replicate 31 0 ++ [5], checkpoints := [], lastCheckpoint := 0 } }) =
    some (.log 0xcc [7] [5]) := by decide +kernel

/-- … and nothing in a static context -/
example : logRule 1 { IState.init [0xa1] [] 5000 true 17 0xcc 0 0 {} with stack := [7, 1, 31] } =
    .halt .StateChangeDuringStaticCall [] (adv { IState.init [0xa1] [] 5000 true 17 0xcc 0 0 {} with stack := [7, 1, 31] }) :=
  rfl

/-! ## state-touching host instructions: the gas is the `Spec/GasCalc.lean` formula of the host's answer

`f : Fork` is the named hardfork of the state (`s.spec = f.id`, the `SpecId` discriminant). What the journal-backed host
answers (cold flags, original / present / new values) is the abstract state's content by `Props.C01.host_*_agrees`. -/

open Revm.Spec.GasCalc (Fork)

/-- BALANCE: 20 / 400 (EIP-150) / 700 (EIP-1884) / cold 2600, warm 100 (EIP-2929) of the answer's cold flag -/
theorem step_balance_agrees (f : Fork) (s : IState) (hcode : s.code[s.pc]? = some 0x31) (hwf : WFM s)
    (hf : s.spec = f.id) : step s = balanceRule f s := Proofs.EvmStep2.step_balance f s hcode hwf hf

/-- a state satisfying the hypotheses (London): `PUSH1 0 BALANCE` at the BALANCE -/
example : ∃ s : IState, WFM s ∧ s.code[s.pc]? = some 0x31 ∧ s.spec = Fork.london.id :=
  ⟨{ IState.init [0x60, 0, 0x31] [] 100000 false 12 0 0 0 {} with pc := 2, stack := [0] },
   ⟨⟨by decide, by decide, by decide⟩, Proofs.Memory.new_wf, by decide, by decide, by decide, by decide, by decide,
    by decide⟩, by decide, rfl⟩

/-- SELFBALANCE (Istanbul) -/
theorem step_selfbalance_agrees (s : IState) (hcode : s.code[s.pc]? = some 0x47) (hwf : WFM s) :
    step s = selfbalanceRule s := Proofs.EvmStep2.step_selfbalance s hcode hwf

/-- EXTCODESIZE: `Spec.GasCalc.accountAccess f 20 cold` -/
theorem step_extcodesize_agrees (f : Fork) (s : IState) (hcode : s.code[s.pc]? = some 0x3b) (hwf : WFM s)
    (hf : s.spec = f.id) : step s = extcodesizeRule f s := Proofs.EvmStep2.step_extcodesize f s hcode hwf hf

/-- EXTCODEHASH (Constantinople): 400 / 700 / cold 2600, warm 100 -/
theorem step_extcodehash_agrees (f : Fork) (s : IState) (hcode : s.code[s.pc]? = some 0x3f) (hwf : WFM s)
    (hf : s.spec = f.id) : step s = extcodehashRule f s := Proofs.EvmStep2.step_extcodehash f s hcode hwf hf

/-- EXTCODECOPY: `Spec.GasCalc.extcodecopyCost f len cold` + expansion, zero-padded code bytes — for every answer
whose code is a byte slice (`≤ isize::MAX`) -/
theorem step_extcodecopy_agrees (f : Fork) (s : IState) (hcode : s.code[s.pc]? = some 0x3c) (hwf : WFM s)
    (hf : s.spec = f.id) :
    AgreeOn (fun r => r.bytes.length ≤ Memory.ISIZE_MAX) (step s) (extcodecopyRule f s) :=
  Proofs.EvmStep2.step_extcodecopy f s hcode hwf hf

/-- BLOCKHASH: 20 gas; the number saturated to 64 bits is what the host is asked for -/
theorem step_blockhash_agrees (s : IState) (hcode : s.code[s.pc]? = some 0x40) (hwf : WFM s) :
    step s = blockhashRule s := Proofs.EvmStep2.step_blockhash s hcode hwf

/-- SSTORE: `Spec.GasCalc.sstoreCost` / `sstoreRefund` of the (original, present, new) pattern and cold flag the host
answers, the EIP-2200 sentry, static-context failure first -/
theorem step_sstore_agrees (f : Fork) (s : IState) (hcode : s.code[s.pc]? = some 0x55) (hwf : WFM s)
    (hf : s.spec = f.id) : step s = sstoreRule f s := Proofs.EvmStep2.step_sstore f s hcode hwf hf

/-- TSTORE (Cancun): 100 gas -/
theorem step_tstore_agrees (s : IState) (hcode : s.code[s.pc]? = some 0x5d) (hwf : WFM s) :
    step s = tstoreRule s := Proofs.EvmStep2.step_tstore s hcode hwf

/-- SELFDESTRUCT: `Spec.GasCalc.selfdestructCost` of the answer, the pre-London 24000 refund, result `SelfDestruct` -/
theorem step_selfdestruct_agrees (f : Fork) (s : IState) (hcode : s.code[s.pc]? = some 0xff) (hwf : WFM s)
    (hf : s.spec = f.id) : step s = selfdestructRule f s := Proofs.EvmStep2.step_selfdestruct f s hcode hwf hf

def afterAnswer (r : HostResp) : Outcome → Option Done
  | .host _ k => some (k r)
  | _ => none

/-- SSTORE under London of a cold clean slot 1 → 0 (pattern X X 0): 2900 + 2100 gas, refund 4800 -/
example : ((afterAnswer { original := 1, present := 1, new := 0, isCold := true }
      (sstoreRule .london { IState.init [0x55] [] 10000 false 12 0xcc 0 0 {} with stack := [0, 5] })).bind
        fun d => match d with | .next s' => some (s'.gas.remaining, s'.gas.refunded) | _ => none) =
    some (5000, 4800) := by decide +kernel

/-- BLOBHASH (EIP-4844) -/
theorem step_blobhash_agrees (s : IState) (hcode : s.code[s.pc]? = some 0x49) (hwf : WFM s) :
    step s = .pure (blobhashRule s) := Proofs.EvmStep2.step_blobhash s hcode hwf

/-! ## CALL, CALLCODE, DELEGATECALL, STATICCALL, CREATE, CREATE2 and the re-entry of the child's result
(`Spec/EvmRules2Call.lean`)

Stack effect, expansion for the in- and out-range (`callMem`), the question `loadAccountDelegated to`, then from the
answer: `Spec.GasCalc.callCost` (cold / warm, EIP-7702 delegate, `G_callvalue`, `G_newaccount` per EIP-161), the gas
forwarded (`forwardedGas`: all but one 64th from EIP-150, capped by the request), the 2300 stipend with value, and every
field of the emitted `CallInputs` / `CreateInputs`. -/

theorem step_call_agrees (f : Fork) (s : IState) (hcode : s.code[s.pc]? = some 0xf1) (hwf : WFM s)
    (hf : s.spec = f.id) : step s = callRule f s := Proofs.EvmStep2.step_call f s hcode hwf hf

theorem step_callcode_agrees (f : Fork) (s : IState) (hcode : s.code[s.pc]? = some 0xf2) (hwf : WFM s)
    (hf : s.spec = f.id) : step s = callcodeRule f s := Proofs.EvmStep2.step_callcode f s hcode hwf hf

/-- DELEGATECALL (EIP-7, Homestead) -/
theorem step_delegatecall_agrees (f : Fork) (s : IState) (hcode : s.code[s.pc]? = some 0xf4) (hwf : WFM s)
    (hf : s.spec = f.id) : step s = delegatecallRule f s := Proofs.EvmStep2.step_delegatecall f s hcode hwf hf

/-- STATICCALL (EIP-214, Byzantium) -/
theorem step_staticcall_agrees (f : Fork) (s : IState) (hcode : s.code[s.pc]? = some 0xfa) (hwf : WFM s)
    (hf : s.spec = f.id) : step s = staticcallRule f s := Proofs.EvmStep2.step_staticcall f s hcode hwf hf

/-- CREATE: static context, EIP-3860 limit and word cost, expansion, `G_create`, all but one 64th to the child -/
theorem step_create_agrees (f : Fork) (s : IState) (hcode : s.code[s.pc]? = some 0xf0) (hwf : WFM s)
    (hf : s.spec = f.id) : step s = .pure (createRule f false s) := Proofs.EvmStep2.step_create f s hcode hwf hf

/-- CREATE2 (EIP-1014; the instruction table gates it on Petersburg — Constantinople is executed as Petersburg):
`G_create + 6 · ⌈len / 32⌉`, the salt popped last -/
theorem step_create2_agrees (f : Fork) (s : IState) (hcode : s.code[s.pc]? = some 0xf5) (hwf : WFM s)
    (hf : s.spec = f.id) : step s = .pure (createRule f true s) := Proofs.EvmStep2.step_create2 f s hcode hwf hf

/-- re-entry after a call: return-data buffer := output; `min(window, |output|)` bytes written at `retStart` for a normal
end and for a revert; unused gas given back for those two, the refund counter added for a normal end only (`settle`,
unbounded arithmetic); status word pushed. Hypotheses that hold at re-entry: the out-range was made addressable by the
CALL, the child returns at most what it was given (+ stipend), its refund counter is bounded, the CALL popped its operands -/
theorem insert_call_outcome_agrees (retStart retEnd : Nat) (o : ChildResult) (s : IState) (hwf : WFM s)
    (hwin : retStart < retEnd → retEnd ≤ (memOf s).length)
    (hgas : o.gasRemaining + s.gas.remaining < U64)
    (href : -(2^62 : Int) ≤ o.gasRefunded ∧ o.gasRefunded < 2^62)
    (hdepth : s.stack.length < 1024) :
    (insertCallOutcome retStart retEnd o s).toDone = insertCallOutcomeRule retStart retEnd o s :=
  Proofs.EvmStep2.insertCallOutcome_agrees retStart retEnd o s hwf hwin hgas href hdepth

/-- re-entry after a create: the created address (or 0) pushed; the return-data buffer holds the output only of a
reverted creation -/
theorem insert_create_outcome_agrees (o : ChildResult) (s : IState) (hwf : WFM s)
    (hgas : o.gasRemaining + s.gas.remaining < U64)
    (href : -(2^62 : Int) ≤ o.gasRefunded ∧ o.gasRefunded < 2^62)
    (hdepth : s.stack.length < 1024) :
    (insertCreateOutcome o s).toDone = insertCreateOutcomeRule o s :=
  Proofs.EvmStep2.insertCreateOutcome_agrees o s hwf hgas href hdepth

/-- the hypotheses are satisfiable: a frame with 1000 gas left and one word of memory re-entered by a child that
returned 3 bytes, 500 unused gas and a refund of 4800 into the window [0, 2) -/
example : ∃ (s : IState) (o : ChildResult), WFM s ∧ ((0 : Nat) < 2 → 2 ≤ (memOf s).length) ∧
    o.gasRemaining + s.gas.remaining < U64 ∧ (-(2^62 : Int) ≤ o.gasRefunded ∧ o.gasRefunded < 2^62) ∧
    s.stack.length < 1024 :=
  ⟨{ IState.init [0xf1, 0x00] [] 1000 false 17 0 0 0 {} with
       pc := 1, mem := { buffer := List.replicate 32 0, checkpoints := [], lastCheckpoint := 0 } },
   { result := .Return, output := [1, 2, 3], gasRemaining := 500, gasRefunded := 4800 },
   ⟨⟨by decide, by decide, by decide⟩, ⟨trivial, rfl, by decide⟩, by decide, by decide, by decide, by decide, by decide,
    by decide⟩, by decide, by decide, by decide, by decide⟩

def viewCall : Done → Option (Nat × Nat × List Nat × Nat × Nat)
  | .action (.call i) s => some (s.gas.remaining, i.gasLimit, i.input, i.retStart, i.retEnd)
  | _ => none

/-- CALL under Cancun with value 1 to a warm existing account, requesting all gas, 100000 left: access 100 + value 9000,
63/64 of the remaining 90900 = 89480 forwarded, the child gets 89480 + 2300 -/
example : ((afterAnswer { isCold := false, isEmpty := false }
      (callRule .cancun { IState.init [0xf1] [] 100000 false 17 0xcc 0 0 {} with
        stack := [0, 0, 0, 0, 1, 0xdd, 2^64] })).bind viewCall) =
    some (1420, 91780, [], 2^64 - 1, 2^64 - 1) := by decide +kernel

/-! ## every opcode byte

`ruleTable` (`Spec/EvmRules2Table.lean`) lists the opcode bytes of legacy code row by row: the rows of `Props.C01`
(`pureRows`), and the rows of this file with the EOF-only bytes, which end a legacy frame (`newRows`). -/

open Revm.Proofs.EvmStep2 (OkAnswer)

/-- no opcode byte has two rows: a byte is covered by at most one rule family -/
theorem rows_disjoint : ruleTable.Pairwise (fun a b => a.hi < b.lo ∨ b.hi < a.lo) :=
  (Proofs.EvmStep2.pairwise_of_rowsApart ruleTable (by decide +kernel)).2

/-- the bytes without a row — exactly the bytes that name no instruction up to Prague
(0x0c-0x0f, 0x1e-0x1f, 0x21-0x2f, 0x4b-0x4f, 0xa5-0xcf, 0xd4-0xdf, 0xe9-0xeb, 0xed, 0xef, 0xf6, 0xfc) -/
theorem unassigned_bytes :
    (List.range 256).filter (fun op => (lookup op).isNone) =
      List.range' 0x0c 4 ++ List.range' 0x1e 2 ++ List.range' 0x21 15 ++ List.range' 0x4b 5 ++ List.range' 0xa5 43 ++
      List.range' 0xd4 12 ++ [0xe9, 0xea, 0xeb, 0xed, 0xef, 0xf6, 0xfc] := Proofs.EvmStep2.unassigned_list

/-- for EVERY opcode byte, on every well-formed legacy state of every named fork,
`Interp.step` agrees with the rule of the byte's (unique) row, and with `OpcodeNotFound` for a byte without a row. No
legacy opcode remains without a rule. Agreement (`AgreeOn`) is equality of the outcome — for a host instruction the same
question and the same continuation — where only EXTCODECOPY's continuation is compared on answers whose code is a byte
slice (`≤ isize::MAX` bytes). -/
theorem step_agrees_all_modelled (f : Fork) (s : IState) (op : Nat) (hop : op < 256)
    (hcode : s.code[s.pc]? = some op) (hwf : WFM s) (hf : s.spec = f.id) (hl : Legacy s) :
    AgreeOn OkAnswer (step s) (ruleOf f op s) := by
  unfold ruleOf
  cases hlk : lookup op with
  | none =>
    exact Proofs.EvmStep2.agree_of_eq
      (Proofs.EvmStep2.step_unknown s op hcode (Proofs.EvmStep2.unassigned_decode op hop (by rw [hlk]; rfl)))
  | some e =>
    have hlk' : ruleTable.find? (fun r => r.covers op) = some e := hlk
    have hcov := List.find?_some hlk'
    unfold Row.covers at hcov
    simp only [Bool.and_eq_true, decide_eq_true_eq] at hcov
    rcases List.mem_append.mp (List.mem_of_find?_eq_some hlk') with hm | hm
    · exact Proofs.EvmStep2.pureRow_agrees e hm op hcov.1 hcov.2 f s hcode hwf hl
    · exact Proofs.EvmStep2.newRow_agrees e hm op hcov.1 hcov.2 f s hcode hwf hf hl

/-- the hypotheses are satisfiable for every opcode byte: a one-instruction Cancun frame -/
example (op : Nat) (_hop : op < 256) : ∃ s : IState, s.code[s.pc]? = some op ∧ s.spec = Fork.cancun.id ∧ Legacy s :=
  ⟨IState.init [op] [] 100000 false 17 0 0 0 {}, by simp [IState.init, Jump.pad], rfl, rfl, rfl⟩

end Revm.Props.C01Rules
