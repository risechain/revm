import Revm.Proofs.InspectorHooks
/-! C29 — inspector hooks are balanced and nested.

"During any transaction, each call, create and EOF-create notification is followed by exactly one matching
end notification carrying the same inputs, in last-in-first-out order, including calls short-circuited by
the inspector or rejected before a frame exists. Each executed instruction is bracketed by exactly one
step and one step-end notification, and each emitted log is reported once."

`Model.InspectorHooks.runTx b first turns` is the handler register of
`crates/revm/src/inspector/handler_register.rs` (three input stacks, the `call`/`create`/`eofcreate`
wrappers with the short-circuit path, the `insert_*_outcome` and `last_frame_return` wrappers, the
instruction wrappers) over the frame loop of `evm.rs`, driven by an ARBITRARY script: what the frames
execute, which frames they request with which inputs, whether the inspector answers itself, whether the
frame-creation handler answers `Frame`, an immediate `Result` or `Err`, what frames return, and where a
database error aborts the loop. Every theorem
below is for ALL scripts of any length and ALL contents `b` of the three stacks at the start of the
transaction (they outlive a transaction: `Rc<RefCell<Vec>>` captured by the handler).

Reading of "during any transaction": a transaction that returns a result (`Status.finished`). A
transaction that is aborted by an `EVMError` (failing `Database`, fatal precompile error) makes no further
callbacks, so its open notifications stay open: its word is a prefix of a balanced word
(`aborted_word_is_prefix`) and the inputs of the open notifications stay on the stacks
(`abort_leaves_inputs`). They are never popped by a later transaction on the same `Evm`
(`leftovers_do_not_matter`, `later_transactions_balanced`): no wrong `*_end` pairing results, only memory
that is not released until the handler is rebuilt.

Assumptions (listed as trusted in `/verif/props/C29_C30.py`): the previous handlers answer with a frame / result of their own kind
(true of `mainnet::call/create/eofcreate`, which use `FrameOrResult::new_*_frame/new_*_result` of the same
kind, and of the optimism handlers); `i` stands for the whole inputs object. -/
namespace Revm.Props.C29
open Revm.Model.InspectorHooks Revm.Spec.InspectorHooks Revm.Proofs.InspectorHooks

/-- the one-stack scanner used by the driver and the harness decides well-bracketedness -/
theorem checker_decides_balanced (w : List Ev) : check w = true ↔ Balanced w := check_iff w

/-- `.pop().unwrap()` of the three input stacks and `call_stack.pop().expect(..)` never panic -/
theorem hooks_never_panic (b : Stacks) (first : Spawn) (turns : List Turn) :
    (runTx b first turns).1 ≠ .panicked := by
  obtain ⟨hr, hs⟩ := runTx_spec b first turns
  rw [hr.status]; exact hs.noPanic

/-- stronger: the whole transaction is ONE bracket — the notification of the transaction's own call /
create / EOF-create comes first, its `*_end` (same kind, same inputs) comes last, and everything in
between is balanced -/
theorem transaction_is_one_bracket (b : Stacks) (first : Spawn) (turns : List Turn)
    (h : (runTx b first turns).1 = .finished) :
    ∃ u o, (runTx b first turns).2.word = Ev.opn first.k first.i :: (u ++ [Ev.cls first.k first.i o]) ∧
      Balanced u := by
  obtain ⟨hr, hs⟩ := runTx_spec b first turns
  rw [hr.word]; exact hs.bracket (hr.status ▸ h)

/-- The callbacks of every transaction that returns form a well-bracketed word: every
`call`/`create`/`eofcreate` is closed by exactly one `*_end` of the same kind with the same inputs, last
opened first closed — short-circuited and immediately answered requests included -/
theorem hooks_balanced (b : Stacks) (first : Spawn) (turns : List Turn)
    (h : (runTx b first turns).1 = .finished) : Balanced (runTx b first turns).2.word := by
  obtain ⟨u, o, hw, hu⟩ := transaction_is_one_bracket b first turns h
  rw [hw]
  exact .bracket _ _ o u [] hu .nil

/-- "exactly one": per kind, a transaction that returns makes as many `*_end` callbacks as opening ones -/
theorem as_many_ends_as_opens (b : Stacks) (first : Spawn) (turns : List Turn) (k : Kind)
    (h : (runTx b first turns).1 = .finished) :
    (runTx b first turns).2.word.countP (isOpn k) = (runTx b first turns).2.word.countP (isCls k) :=
  balanced_counts (hooks_balanced b first turns h) k

theorem hooks_check (b : Stacks) (first : Spawn) (turns : List Turn)
    (h : (runTx b first turns).1 = .finished) : check (runTx b first turns).2.word = true :=
  (check_iff _).2 (hooks_balanced b first turns h)

/-- in a balanced word the `*_end` that closes a notification (the first one after a balanced stretch)
has the kind and the inputs of that notification -/
theorem end_carries_same_inputs {k k' : Kind} {i i' o : Nat} {u v : List Ev} (hu : Balanced u)
    (h : Balanced (Ev.opn k i :: (u ++ Ev.cls k' i' o :: v))) : k = k' ∧ i = i' := by
  have h1 := scan_of_balanced h []
  have h2 : scan [(k, i)] (u ++ Ev.cls k' i' o :: v) = some [] := by simpa [scan] using h1
  rw [scan_append, scan_of_balanced hu] at h2
  by_cases hk : k = k' ∧ i = i'
  · exact hk
  · simp [scan, hk] at h2

theorem stacks_restored (b : Stacks) (first : Spawn) (turns : List Turn)
    (h : (runTx b first turns).1 = .finished) : (runTx b first turns).2.stk = b := by
  obtain ⟨hr, hs⟩ := runTx_spec b first turns
  rw [hr.stk, hs.fin_iff.1 (hr.status ▸ h)]; rfl

/-- whatever happens (abort by an `EVMError`, script ends early): no `*_end` so far was mismatched — the
word extends to a balanced one by closing the open notifications `opened` innermost first — and the
stacks hold exactly the inputs of those open notifications on top of what was there before -/
theorem aborted_word_is_prefix (b : Stacks) (first : Spawn) (turns : List Turn) :
    ∃ opened : List (Kind × Nat),
      Balanced ((runTx b first turns).2.word ++ closers opened) ∧
      (runTx b first turns).2.stk = stacksOf opened b ∧
      ((runTx b first turns).1 = .finished → opened = []) := by
  obtain ⟨hr, hs⟩ := runTx_spec b first turns
  refine ⟨(aRunTx first turns).2.opened, ?_, hr.stk, fun h => hs.fin_iff.1 (hr.status ▸ h)⟩
  rw [hr.word]; exact prefix_of_scan hs.scanned

/-- leftovers on the stacks (from a transaction aborted earlier on the same `Evm`) change neither the
callbacks nor the status of a transaction: they are never popped -/
theorem leftovers_do_not_matter (b : Stacks) (first : Spawn) (turns : List Turn) :
    (runTx b first turns).1 = (runTx {} first turns).1 ∧
    (runTx b first turns).2.word = (runTx {} first turns).2.word := by
  have h1 := runTx_rel b first turns
  have h2 := runTx_rel {} first turns
  exact ⟨by rw [h1.status, h2.status], by rw [h1.word, h2.word]⟩

/-- any sequence of transactions on one `Evm`, aborted ones included anywhere: every transaction that
returns has a balanced word -/
theorem later_transactions_balanced : ∀ (txs : List (Spawn × List Turn)) (b : Stacks),
    ∀ r ∈ runTxs b txs, r.1 = .finished → Balanced r.2 := by
  intro txs
  induction txs with
  | nil => intro b r hr; simp [runTxs] at hr
  | cons tx txs ih =>
    intro b r hr hfin
    obtain ⟨f, ts⟩ := tx
    simp only [runTxs, List.mem_cons] at hr
    rcases hr with rfl | hr
    · exact hooks_balanced b f ts hfin
    · exact ih _ r hr hfin

/-- an aborted transaction does leave inputs behind (not released until the handler is rebuilt): a call
frame whose execution hits a database error -/
theorem abort_leaves_inputs :
    runTx {} ⟨.call, 7, none, .frame⟩ [⟨[.plain], none, .fatal⟩] =
      (.aborted, { frames := [.call], stk := { call := [7] },
                   word := [.opn .call 7, .initInterp, .step, .stepEnd] }) := by decide

/-- each executed instruction is bracketed by `step · step_end` with nothing in between, and no `step` or
`step_end` occurs otherwise — for inspectors whose `step` leaves the interpreter running (observing
inspectors): the two callbacks only occur as adjacent pairs -/
theorem step_bracketed (b : Stacks) (first : Spawn) (turns : List Turn) (hobs : ∀ t ∈ turns, t.halt = none) :
    stepsPaired (runTx b first turns).2.word = true := by
  obtain ⟨hr, hs⟩ := runTx_spec b first turns
  rw [hr.word]; exact hs.stepsPaired_eq fun t ht => hobs t (List.mem_of_mem_take ht)

/-- in general (the inspector's `step` may stop the interpreter: that instruction is skipped and gets NO
`step_end`): the `step`/`step_end` callbacks of the transaction are, in order, one `step · step_end` per
executed instruction and one lone `step` per instruction skipped that way -/
theorem step_callbacks_exact (b : Stacks) (first : Spawn) (turns : List Turn) :
    stepsOf (runTx b first turns).2.word =
      (turns.take (usedTx b first turns)).flatMap fun t =>
        t.ins.flatMap (fun _ => [Ev.step, Ev.stepEnd]) ++ t.halt.toList.map (fun _ => Ev.step) := by
  rw [stepsOf, filterMap_runTx stepProj stepProj_free]
  congr 1; funext t; exact steps_turnEvents t

/-- each emitted log is reported once: the `log` callbacks of the transaction are, in order, exactly the
logs appended by the LOG instructions that were dispatched in the loop iterations that ran -/
theorem log_reported_once (b : Stacks) (first : Spawn) (turns : List Turn) :
    logsOf (runTx b first turns).2.word =
      (turns.take (usedTx b first turns)).flatMap fun t => (turnInsns t).filterMap insnLog := by
  rw [logsOf, filterMap_runTx logProj logProj_free]
  congr 1; funext t; exact logs_turnEvents t

/-- a LOG that appended exactly one log reports exactly that log, right after its `step_end` -/
theorem log_grew_by_one (before : List Nat) (l : Nat) :
    insnEvents (.logOp before.length (before ++ [l])) = [.step, .stepEnd, .log l] := by
  simp [insnEvents, postEvents]

/-- a LOG that failed (static call, out of gas, stack underflow: nothing appended) reports nothing -/
theorem log_failed (logs : List Nat) :
    insnEvents (.logOp logs.length logs) = [.step, .stepEnd] := by
  simp [insnEvents, postEvents]

/-! ### non-vacuity: concrete scripts -/

/-- a call frame that executes, makes a sub-call answered at once (precompile / depth limit), a CREATE the
inspector short-circuits, an EOF create that gets a frame and returns, logs once, and returns -/
def sampleTurns : List Turn :=
  [ ⟨[.plain, .plain], none, .spawn ⟨.call, 11, none, .result 5⟩ false⟩,
    ⟨[.logOp 0 [42]], none, .spawn ⟨.create, 12, some 6, .frame⟩ false⟩,
    ⟨[.plain], none, .spawn ⟨.eofcreate, 13, none, .frame⟩ false⟩,
    ⟨[.logOp 1 [42]], some .plain, .ret (some 7) false⟩,
    ⟨[.plain], none, .ret (some 8) false⟩ ]

example : (runTx {} ⟨.call, 10, none, .frame⟩ sampleTurns).1 = .finished := by decide
example : usedTx {} ⟨.call, 10, none, .frame⟩ sampleTurns = 5 := by decide
example : logsOf (runTx {} ⟨.call, 10, none, .frame⟩ sampleTurns).2.word = [42] := by decide
example : (runTx { call := [1, 2], create := [3] } ⟨.call, 10, none, .frame⟩ sampleTurns).1 = .finished := by decide
/-- the hypothesis of `step_bracketed`, on the first three turns (the fourth has a halting `step`) -/
example : ∀ t ∈ sampleTurns.take 3, t.halt = none := by decide
/-- the hypothesis of `end_carries_same_inputs` -/
example : Balanced [Ev.opn .call 1, .step, .stepEnd, .cls .call 1 0] :=
  .bracket .call 1 0 [.step, .stepEnd] [] (.neutral _ _ rfl (.neutral _ _ rfl .nil)) .nil
/-- a transaction aborted mid-frame followed by one that returns, on the same stacks -/
example : (runTxs {} [(⟨.call, 7, none, .frame⟩, [⟨[.plain], none, .fatal⟩]),
                       (⟨.call, 10, none, .frame⟩, sampleTurns)]).map (·.1) = [.aborted, .finished] := by decide

end Revm.Props.C29
