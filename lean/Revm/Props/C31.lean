import Revm.Proofs.EvmLifecycle
/-! C31 — executing a sequence of transactions on one EVM instance (including transactions that fail
validation, revert or halt, and calls to preverify) gives the same results and committed state as
executing each transaction on a freshly built EVM over the same database; no transient storage,
warm-access status, logs, loaded precompiles or errors leak from one transaction into the next.

The theorems are about `Model.EvmLifecycle`: the control flow of `Evm::{transact, transact_commit,
transact_preverified, preverify_transaction}` with every `?` exit and every call of `take_error`,
`set_spec_id`, `set_precompiles`, `finalize`, `end`, `clear` explicit, while what each handler stage
does to the database, the journal, the error slot and the L1 block info is an ARBITRARY function
(`Handler`): so every program, database and stage body is covered, for every fuel of the interpreter
loop (`none` = the loop does not return within the fuel; then it does not on either side).

Two fields of the context are not reset by the code: the journal's `spec` (kept by
`JournaledState::clear`; re-set by `load_accounts`) and `EvmContext::precompiles` (overwritten by
`set_precompiles` before any use). `…_not_reset_counterexample` record that; the headline theorems show
that neither can influence a result, the first under the one hypothesis `HSpecBlind`: the two stages
that can run before `load_accounts` re-sets the field — the validation stage `tx_against_state` and
(since /repo 25ebe790 passes validation errors through it) `post_execution.end` on an error — do not
read `journaled_state.spec`. In the code the first only calls `load_code`, which never does; the
mainnet `end` is the identity and the optimism `end` reads only `env` and the database.
`spec_blindness_needed_counterexample` shows the hypothesis cannot be dropped. -/
namespace Revm.Props.C31
open Revm.Model.Journal Revm.Model.EvmLifecycle Revm.Proofs.EvmLifecycle

variable {Db Env Err Pre L1 G LS Act FR ER : Type}

/-- After ANY entry point, on ANY exit path (validation error, error inside pre-execution, inside the
loop, in post-execution, success, revert, halt), for all stage behaviours: the environment is the one
given, the journal is `JournaledState::new(spec', ∅)`, the error slot is `Ok(())`, there is no L1 block
info, and the precompile field is the old one or the handler's set. -/
theorem cleared_after (h : Handler Db Env Err Pre L1 G LS Act FR ER) (commit : Db → EvmState → Db)
    (e : EntryPoint) (fuel : Nat) (c c' : Ctx Db Env Err Pre L1) (r : CallResult Err ER)
    (hc : call h commit e fuel c = some (r, c')) :
    c'.env = c.env ∧ c'.js = JState.new c'.js.spec noPreloaded ∧ c'.error = none ∧ c'.l1 = none ∧
    (c'.precompiles = c.precompiles ∨ c'.precompiles = h.loadPrecompiles) := by
  have := call_cleared h commit e fuel hc
  exact ⟨this.1, this.2.1.1, this.2.1.2.1, this.2.1.2.2, this.2.2⟩

/-- the same, field by field: no account state, no transient storage, no logs, depth 0, one empty
journal level, no warm (preloaded) address -/
theorem cleared_after_fields (h : Handler Db Env Err Pre L1 G LS Act FR ER) (commit : Db → EvmState → Db)
    (e : EntryPoint) (fuel : Nat) (c c' : Ctx Db Env Err Pre L1) (r : CallResult Err ER)
    (hc : call h commit e fuel c = some (r, c')) :
    (∀ a, c'.js.state a = none) ∧ (∀ a k, c'.js.transient a k = none) ∧ c'.js.logs = [] ∧ c'.js.depth = 0 ∧
    c'.js.journal = [[]] ∧ (∀ a, c'.js.preloaded a = false) ∧ c'.error = none := by
  have hj := (cleared_after h commit e fuel c c' r hc).2.1
  have he := (cleared_after h commit e fuel c c' r hc).2.2.1
  refine ⟨?_, ?_, ?_, ?_, ?_, ?_, he⟩ <;> (try intro a) <;> (try intro k) <;> rw [hj] <;> rfl

/-- The result of an entry point and the database it leaves are a function of (database, environment,
handler) alone: two contexts that look freshly built (whatever their precompile field and journal
spec) give the same result and database — or the loop returns on neither. -/
theorem result_depends_only_on (h : Handler Db Env Err Pre L1 G LS Act FR ER) (commit : Db → EvmState → Db)
    (hb : HSpecBlind h) (e : EntryPoint) (fuel : Nat) (c1 c2 : Ctx Db Env Err Pre L1)
    (h1 : Clean c1) (h2 : Clean c2) (hdb : c1.db = c2.db) (henv : c1.env = c2.env) :
    (call h commit e fuel c1).map (fun p => (p.1, p.2.db)) = (call h commit e fuel c2).map (fun p => (p.1, p.2.db)) := by
  rw [call_of_clean h commit hb e fuel h1, call_of_clean h commit hb e fuel h2, hdb, henv]

/-- in particular: a context left behind by any earlier call behaves like a freshly built `Evm` -/
theorem reused_eq_fresh (h h0 : Handler Db Env Err Pre L1 G LS Act FR ER) (commit : Db → EvmState → Db)
    (hb : HSpecBlind h) (e e0 : EntryPoint) (fuel fuel0 : Nat) (c0 c : Ctx Db Env Err Pre L1)
    (r0 : CallResult Err ER) (hprev : call h0 commit e0 fuel0 c0 = some (r0, c)) (env : Env) (pre0 : Pre) :
    (call h commit e fuel { c with env := env }).map (fun p => (p.1, p.2.db)) =
    (call h commit e fuel (Ctx.build c.db env h.spec pre0)).map (fun p => (p.1, p.2.db)) := by
  have hcl := (call_cleared h0 commit e0 fuel0 hprev).2.1
  exact result_depends_only_on h commit hb e fuel _ _ ⟨hcl.1, hcl.2.1, hcl.2.2⟩ (clean_build _ _ _ _) rfl rfl

/-- C31: any history of entry-point calls (any environments, any handler reconfiguration between the
calls, through `modify_spec_id` or through the builder, any fuel) on ONE instance gives the same list
of results and the same final database as running every call on a freshly built instance over the
database left by the previous one. -/
theorem sequence_on_one_instance_eq_fresh_instances (commit : Db → EvmState → Db) (pre0 : Pre)
    (ops : List (Op Db Env Err Pre L1 G LS Act FR ER)) (c : Ctx Db Env Err Pre L1) (hc : Clean c)
    (hb : ∀ op ∈ ops, HSpecBlind op.h) :
    (runOne commit ops c).map (fun p => (p.1, p.2.db)) = runFresh commit pre0 ops c.db :=
  sequence_eq commit pre0 ops c hc hb

/-- the history started on a freshly built instance -/
theorem sequence_from_build (commit : Db → EvmState → Db) (pre0 : Pre)
    (ops : List (Op Db Env Err Pre L1 G LS Act FR ER)) (db : Db) (env : Env) (spec : Nat)
    (hb : ∀ op ∈ ops, HSpecBlind op.h) :
    (runOne commit ops (Ctx.build db env spec pre0)).map (fun p => (p.1, p.2.db)) = runFresh commit pre0 ops db :=
  sequence_eq commit pre0 ops _ (clean_build db env spec pre0) hb

/-- `SpecBlind` holds of the mainnet body of `tx_against_state` as modelled on the journal model of
C06 (`load_code(caller)?`, then the pure `Env::validate_tx_against_state` on the loaded account), for
every database view, database-error behaviour and environment check -/
theorem mainnet_tx_against_state_spec_blind (caller : Env → Addr) (view : Db → Revm.Model.Journal.Db)
    (dbErr : Db → Addr → Option Err) (check : Env → Acct → Except Err Unit × Acct) (panicErr : Err) :
    SpecBlind (mainnetTxAgainstState (L1 := L1) caller view dbErr check panicErr) :=
  mainnetTxAgainstState_specBlind caller view dbErr check panicErr

/-- hence, with the mainnet validation body and the mainnet `end` (the identity) and EVERY other stage
arbitrary, no hypothesis is left -/
theorem sequence_with_mainnet_validation (commit : Db → EvmState → Db) (pre0 : Pre)
    (ops : List (Op Db Env Err Pre L1 G LS Act FR ER)) (db : Db) (env : Env) (spec : Nat)
    (hm : ∀ op ∈ ops, (∃ caller view dbErr check panicErr,
      op.h.txAgainstState = mainnetTxAgainstState caller view dbErr check panicErr) ∧
      op.h.endHook = fun out _ w => (out, w)) :
    (runOne commit ops (Ctx.build db env spec pre0)).map (fun p => (p.1, p.2.db)) = runFresh commit pre0 ops db := by
  apply sequence_from_build
  intro op hop
  obtain ⟨⟨caller, view, dbErr, check, pe, h⟩, hend⟩ := hm op hop
  refine ⟨?_, ?_⟩
  · rw [h]; exact mainnetTxAgainstState_specBlind caller view dbErr check pe
  · intro e env w s; rw [hend]

/-- `finalize` (called by `output`) resets transient storage, journal and depth and takes state and
logs, but KEEPS the warm preloaded addresses; `clear` (called last on every path) drops them -/
theorem finalize_keeps_preloaded_clear_drops (j : JState) :
    (jfinalize j).1.preloaded = j.preloaded ∧ (jfinalize j).1.spec = j.spec ∧
    (∀ a k, (jfinalize j).1.transient a k = none) ∧ (jfinalize j).1.logs = [] ∧
    (jfinalize j).1.depth = 0 ∧ (jfinalize j).1.journal = [[]] ∧ (∀ a, (jfinalize j).1.state a = none) ∧
    (∀ a, (jclear (jfinalize j).1).preloaded a = false) ∧ (jclear j).spec = j.spec :=
  ⟨rfl, rfl, fun _ _ => rfl, rfl, rfl, rfl, fun _ => rfl, fun _ => rfl, rfl⟩

/-! ### non-vacuity: the hypotheses hold of a concrete, non-trivial handler -/

theorem script_spec_blind (spec : Nat) : SpecBlind (Script.handler spec).txAgainstState := by
  intro env w s
  simp only [Script.handler, Script.failIf, Script.loadAcct, Work.setSpec, setSpecId, setAcct]
  by_cases h1 : env.stage = "state" ∧ env.kind = "db"
  · simp only [h1, and_self, if_true]
  · simp only [h1, if_false]
    cases hst : w.js.state env.caller <;> by_cases h2 : env.stage = "state" <;> simp only [h2, if_true, if_false]

/-- the scripted handler satisfies the hypothesis of the headline theorems (its `end` is the identity) -/
theorem script_hspec_blind (spec : Nat) : HSpecBlind (Script.handler spec) :=
  ⟨script_spec_blind spec, fun _ _ _ _ => rfl⟩

def envOk : Script.SEnv := { coinbase := 0xb1, caller := 0xc1, target := 0xd1, stage := "ok", kind := "success" }
def envExec : Script.SEnv := { envOk with stage := "exec", kind := "db" }
def envState : Script.SEnv := { envOk with stage := "state", kind := "tx" }

/-- a history with a successful commit, a database error inside the loop, a validation failure, a
`preverify` and a `transact_preverified`, with a spec change through `modify_spec_id` -/
def sampleOps : List (Op Nat Script.SEnv String (List Addr) Empty Nat Nat Nat Nat String) :=
  [ { h := Script.handler 17, rebuilt := false, env := envOk, entry := .transactCommit, fuel := 5 },
    { h := Script.handler 17, rebuilt := false, env := envExec, entry := .transact, fuel := 5 },
    { h := Script.handler 7, rebuilt := false, env := envState, entry := .transact, fuel := 5 },
    { h := Script.handler 7, rebuilt := true, env := envOk, entry := .preverify, fuel := 0 },
    { h := Script.handler 18, rebuilt := false, env := envOk, entry := .transactPreverified, fuel := 5 } ]

example : ∀ op ∈ sampleOps, HSpecBlind op.h := by
  intro op hop
  simp only [sampleOps, List.mem_cons, List.mem_nil_iff, or_false] at hop
  rcases hop with h | h | h | h | h <;> subst h <;> exact script_hspec_blind _

example : Clean (Ctx.build 0 envOk 17 [] : Ctx Nat Script.SEnv String (List Addr) Empty) := clean_build _ _ _ _

/-- the sample history does return (fuel suffices), commits once, and the scripted stages do dirty the
context on the way: the statement of the sequence theorem is not about `none = none` -/
theorem sample_history_runs :
    (runFresh Script.commitDb [] sampleOps 0).map (fun p => (p.1.length, p.2)) = some (5, 1) := by
  decide

/-- a handler with the mainnet validation body (over an empty database view) and scripted other stages -/
def mainnetLike : Handler Nat Script.SEnv String (List Addr) Empty Nat Nat Nat Nat String :=
  { Script.handler 17 with
    txAgainstState := mainnetTxAgainstState (fun e => e.caller)
      (fun _ => { basic := fun _ => none, storage := fun _ _ => 0, delegate := fun _ => none })
      (fun _ _ => none) (fun _ acc => (.ok (), acc)) "panic" }

example : ∀ op ∈ [({ h := mainnetLike, rebuilt := false, env := envOk, entry := .transactCommit, fuel := 5 } :
      Op Nat Script.SEnv String (List Addr) Empty Nat Nat Nat Nat String)],
    (∃ caller view dbErr check panicErr,
      op.h.txAgainstState = mainnetTxAgainstState caller view dbErr check panicErr) ∧
    op.h.endHook = fun out _ w => (out, w) := by
  intro op hop
  simp only [List.mem_cons, List.mem_nil_iff, or_false] at hop
  subst hop
  exact ⟨⟨fun e => e.caller, fun _ => { basic := fun _ => none, storage := fun _ _ => 0, delegate := fun _ => none },
    fun _ _ => none, fun _ acc => (.ok (), acc), "panic", rfl⟩, rfl⟩

def isErr : CallResult String String → Bool
  | .tx (.error _) | .commit (.error _) | .pre (.error _) => true
  | _ => false

theorem sample_history_outcomes :
    (runFresh Script.commitDb [] sampleOps 0).map (fun p => p.1.map isErr) = some [false, true, true, false, false] := by
  decide

/-! ### fields that the code does not reset -/

/-- `EvmContext::precompiles` survives the call: after a Prague transaction the field still holds the
17 Prague precompiles (a freshly built context holds none) — never read before `set_precompiles`
overwrites it (`result_depends_only_on`). -/
theorem precompiles_not_reset_counterexample :
    (call (Script.handler 18) Script.commitDb .transact 5
        (Ctx.build 0 envOk 18 [] : Ctx Nat Script.SEnv String (List Addr) Empty)).map (fun p => p.2.precompiles)
      = some [1, 2, 3, 4, 5, 6, 7, 8, 9, 10, 11, 12, 13, 14, 15, 16, 17] := by
  decide

/-- `journaled_state.spec` is not reset to the handler's spec: an `Evm` built for CONSTANTINOPLE (7)
holds 7; after one transaction it holds PETERSBURG (8, what `spec_to_generic!` runs), and after
`modify_spec_id(CANCUN)` followed by a call that ends in validation it still holds 8 -/
theorem journal_spec_not_reset_counterexample :
    (Ctx.build 0 envOk 7 [] : Ctx Nat Script.SEnv String (List Addr) Empty).js.spec = 7 ∧
    (runOne Script.commitDb
        [ { h := Script.handler 7, rebuilt := false, env := envOk, entry := .transact, fuel := 5 } ]
        (Ctx.build 0 envOk 7 [] : Ctx Nat Script.SEnv String (List Addr) Empty)).map (fun p => p.2.js.spec) = some 8 ∧
    (runOne Script.commitDb
        [ { h := Script.handler 7, rebuilt := false, env := envOk, entry := .transact, fuel := 5 },
          { h := Script.handler 17, rebuilt := false, env := envState, entry := .preverify, fuel := 0 } ]
        (Ctx.build 0 envOk 7 [] : Ctx Nat Script.SEnv String (List Addr) Empty)).map (fun p => p.2.js.spec) = some 8 := by
  decide

/-- a validation stage that branches on the journal's spec (the real one does not) -/
def specReader : Handler Nat Script.SEnv String (List Addr) Empty Nat Nat Nat Nat String :=
  { Script.handler 7 with
    txAgainstState := fun _ w => if w.js.spec = 8 then (.error "journal spec is 8", w) else (.ok (), w) }

/-- without `SpecBlind` the sequence theorem is false: for a handler whose validation reads the
journal's spec, the second transaction on a reused CONSTANTINOPLE instance is rejected while on fresh
instances both run -/
theorem spec_blindness_needed_counterexample :
    let ops : List (Op Nat Script.SEnv String (List Addr) Empty Nat Nat Nat Nat String) :=
      [ { h := specReader, rebuilt := false, env := envOk, entry := .transact, fuel := 5 },
        { h := specReader, rebuilt := false, env := envOk, entry := .transact, fuel := 5 } ]
    (runOne Script.commitDb ops (Ctx.build 0 envOk 7 [])).map (fun p => p.1.map isErr) = some [false, true] ∧
    (runFresh Script.commitDb [] ops 0).map (fun p => p.1.map isErr) = some [false, false] := by
  decide

end Revm.Props.C31
