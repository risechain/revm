import Revm.Proofs.TxGas
/-! C09 — gas used and fees of an executed transaction.

`Model.TxGas` follows `Evm::transact_preverified_inner` and the mainnet handler stages around the first
frame. The FIRST FRAME'S RESULT (`fr : FrameRes`: its `InstructionResult` and its `Gas`) is an arbitrary
input; the only thing assumed about it is what the frame machine guarantees, `remaining ≤ gas_limit −
initial_gas` (the frame's meter was created with that limit; `remaining ≤ limit` is the C13 invariant).
NOTHING is assumed about the frame's refund counter in the bound theorems (any `i64`, even any integer).

Readings (DESIGN §8):
* "intrinsic gas ≤ gas used" is the bound on gas SPENT before refund (`spent_bounds`), and from Prague
  the floor on `gas_used` (`floor_le_used`); `gas_used` itself is net of refunds.
* "refund is zero on revert or halt", "a halted transaction uses its whole gas limit": TRUE of the
  frame's own refund counter, but the EIP-7702 authorization refund (12500 per existing authority) is
  recorded by `post_execution::refund` on every outcome, as EIP-7702 demands. The literal clauses are
  proved under the hypothesis "no 7702 refund" (`…_partial`), refuted without it (`…_counterexample`,
  a real transaction replayed by the check); `refund_on_revert_or_halt`, `halt_used_exact` say what holds.
* negative `i64` refund totals: the cap theorems hold for them as well; what the `as u64` cast does is
  characterised separately (`refund_negative_cast`). -/
namespace Revm.Props.C09
open Revm Revm.Model.Gas Revm.Model.TxGas
open Revm.Model.GasCalc (enabled)
open Revm.Model.GasCalc.SpecId (LONDON CANCUN PRAGUE)
open Revm.Proofs.TxGas (quot quot_eq remAfter Settled)

/-- what validation and the frame machine guarantee about the inputs of the pipeline -/
structure Admissible (e : Env) (initialGas floorGas : Nat) (fr : FrameRes) : Prop where
  /-- `tx.gas_limit` is a `u64` -/
  gasLimit_u64 : e.gasLimit < U64
  /-- `validate_initial_tx_gas`: `CallGasCostMoreThanGasLimit` otherwise -/
  initial_le : initialGas ≤ e.gasLimit
  /-- `validate_initial_tx_gas`: `GasFloorMoreThanGasLimit` from Prague; the floor is 0 before -/
  floor_le : floorGas ≤ e.gasLimit
  /-- THE FRAME MACHINE: the first frame got `gas_limit − initial_gas` and cannot give back more -/
  frame_remaining : fr.gas.remaining ≤ e.gasLimit - initialGas

/-- the meter after `last_frame_return` and `refund`: "gas spent" and "refund" of the property,
before the EIP-7623 floor may replace them -/
def afterRefund (e : Env) (k : Nat) (fr : FrameRes) : Gas :=
  refund e (lastFrameReturn e fr) (eip7702Refund k)

/-- the EIP-4844 fee `deduct_caller_inner` CHARGES, at the block's blob price (`Proofs.TxValidate.blobFee` is the
validated maximum) -/
def blobFee (e : Env) : Nat := if enabled e.spec CANCUN = true then (calcDataFee e).getD 0 else 0

instance (e : Env) (i fl : Nat) (fr : FrameRes) : Decidable (Admissible e i fl fr) :=
  if h : e.gasLimit < U64 ∧ i ≤ e.gasLimit ∧ fl ≤ e.gasLimit ∧ fr.gas.remaining ≤ e.gasLimit - i
  then isTrue ⟨h.1, h.2.1, h.2.2.1, h.2.2.2⟩
  else isFalse (fun a => h ⟨a.gasLimit_u64, a.initial_le, a.floor_le, a.frame_remaining⟩)

theorem Admissible.rem_le {e : Env} {i fl : Nat} {fr : FrameRes} (h : Admissible e i fl fr) :
    fr.gas.remaining ≤ e.gasLimit := by
  have := h.frame_remaining; omega

private theorem Admissible.settled {e : Env} {i fl : Nat} {fr : FrameRes} (h : Admissible e i fl fr) (k : Nat) :
    Settled e (afterRefund e k fr) ∧ (afterRefund e k fr).remaining = remAfter fr :=
  Proofs.TxGas.settled_refund (eip7702Refund k) h.gasLimit_u64 h.rem_le

private theorem Admissible.settledFinal {e : Env} {i fl : Nat} {fr : FrameRes} (h : Admissible e i fl fr) (k : Nat) :
    Settled e (finalGas e fl k fr) :=
  Proofs.TxGas.settled_final k h.gasLimit_u64 h.rem_le

/-- a plain London call: 100000 gas, intrinsic 21000, the frame hands 30000 back and recorded a refund -/
def sampleEnv : Env :=
  { spec := 12, gasLimit := 100000, gasPrice := 50, priorityFee := some 2, basefee := 7, blobPrice := none,
    nBlobs := 0, maxFeePerBlobGas := none, value := 3 }
def sampleFrame : FrameRes := { ir := .Stop, gas := { limit := 79000, remaining := 30000, refunded := 19200 } }
def sampleShape : TxShape := { isCreate := false, dataLen := 0, accessList := [], authLen := none }

example : Admissible sampleEnv 21000 0 sampleFrame := ⟨by decide, by decide, by decide, by decide⟩
example : (pipeline sampleEnv 0 0 sampleFrame).map (fun o => (o.gasUsed, o.gasRefunded, o.deducted, o.reimbursed, o.reward)) =
    some (56000, 14000, 900000, 396000, 112000) := by decide
example : validate sampleEnv sampleShape 21000 0 6000000 = none := by decide

/-! ## bounds -/

/-- intrinsic gas ≤ gas spent ≤ gas limit, for EVERY first-frame result (any class, any refund
counter, any EIP-7702 refund) -/
theorem spent_bounds (e : Env) (i fl k : Nat) (fr : FrameRes) (h : Admissible e i fl fr) :
    i ≤ spent (afterRefund e k fr) ∧ spent (afterRefund e k fr) ≤ e.gasLimit := by
  obtain ⟨sr, hrem⟩ := h.settled k
  have hle := Proofs.TxGas.remAfter_le fr
  have h1 := h.frame_remaining
  have h2 := h.initial_le
  rw [sr.spent_eq, hrem]; omega

/-- what the EIP-7623 block does: nothing when `spent − refunded ≥ floor`; otherwise spent is
replaced by the floor and the refund by 0 -/
theorem spent_final (e : Env) (i fl k : Nat) (fr : FrameRes) (h : Admissible e i fl fr) :
    (spent (afterRefund e k fr) - gasRefunded (afterRefund e k fr) < fl →
      spent (finalGas e fl k fr) = fl ∧ gasRefunded (finalGas e fl k fr) = 0) ∧
    (¬ spent (afterRefund e k fr) - gasRefunded (afterRefund e k fr) < fl →
      finalGas e fl k fr = afterRefund e k fr) := by
  have hfl := h.floor_le
  have sa := (h.settled k).1
  have sf : Settled e (Proofs.Gas.floor (afterRefund e k fr) fl) := h.settledFinal k
  have hu : Proofs.Gas.used (afterRefund e k fr) =
      e.gasLimit - (afterRefund e k fr).remaining - (afterRefund e k fr).refunded.toNat := sa.used
  have hfin : finalGas e fl k fr = Proofs.Gas.floor (afterRefund e k fr) fl := rfl
  rw [sa.toClosed.floor_eq, hu] at sf
  rw [sa.spent_eq, sa.refunded, hfin, sa.toClosed.floor_eq, hu]
  constructor
  · intro hc
    rw [if_pos hc] at sf ⊢
    rw [sf.spent_eq, sf.refunded]
    show e.gasLimit - ((afterRefund e k fr).limit - fl) = fl ∧ (0 : Int).toNat = 0
    rw [sa.limit]; exact ⟨Nat.sub_sub_self hfl, Int.toNat_zero⟩
  · intro hc
    rw [if_neg hc]

theorem used_le_limit (e : Env) (i fl k : Nat) (fr : FrameRes) (h : Admissible e i fl fr) :
    gasUsed (finalGas e fl k fr) ≤ e.gasLimit := by
  have := (h.settledFinal k).total
  omega

/-- `gas_used = max (spent − refunded) floor` (EIP-7623), spent / refunded as after `refund` -/
theorem used_eq_max (e : Env) (i fl k : Nat) (fr : FrameRes) (h : Admissible e i fl fr) :
    gasUsed (finalGas e fl k fr) =
      max (spent (afterRefund e k fr) - gasRefunded (afterRefund e k fr)) fl := by
  obtain ⟨sr, hrem⟩ := h.settled k
  rw [Proofs.TxGas.gasUsed_final k h.gasLimit_u64 h.rem_le h.floor_le, sr.spent_eq, sr.refunded, hrem]
  rfl

/-- from Prague (whenever a floor is passed): the calldata floor ≤ gas used -/
theorem floor_le_used (e : Env) (i fl k : Nat) (fr : FrameRes) (h : Admissible e i fl fr) :
    fl ≤ gasUsed (finalGas e fl k fr) := by
  rw [used_eq_max e i fl k fr h]; exact Nat.le_max_right _ _

/-- the refund never exceeds gas spent / 5 (London onwards) or / 2 (before): for EVERY frame result,
including arbitrary (negative, huge) refund counters -/
theorem refund_cap (e : Env) (i fl k : Nat) (fr : FrameRes) (h : Admissible e i fl fr) :
    gasRefunded (finalGas e fl k fr) ≤
      spent (finalGas e fl k fr) / (if enabled e.spec LONDON = true then 5 else 2) ∧
    gasRefunded (afterRefund e k fr) ≤
      spent (afterRefund e k fr) / (if enabled e.spec LONDON = true then 5 else 2) := by
  have h1 := (h.settledFinal k).cap
  have h2 := (h.settled k).1.cap
  rw [quot_eq] at h1 h2
  exact ⟨h1, h2⟩

/-- the reported numbers add up: `gas_used + gas_refunded = spent` and nothing is lost or invented
between the three destinations of the gas limit -/
theorem used_plus_refunded (e : Env) (i fl k : Nat) (fr : FrameRes) (h : Admissible e i fl fr) :
    gasUsed (finalGas e fl k fr) + gasRefunded (finalGas e fl k fr) = spent (finalGas e fl k fr) ∧
    gasUsed (finalGas e fl k fr) + gasRefunded (finalGas e fl k fr) + (finalGas e fl k fr).remaining = e.gasLimit := by
  have s := h.settledFinal k
  have htot := s.total
  have := s.rem_le
  refine ⟨?_, htot⟩
  rw [s.spent_eq]; omega

example : Admissible sampleEnv 21000 0 sampleFrame ∧ spent (afterRefund sampleEnv 0 sampleFrame) = 70000 ∧
    gasUsed (finalGas sampleEnv 0 0 sampleFrame) = 56000 ∧ gasRefunded (finalGas sampleEnv 0 0 sampleFrame) = 14000 := by decide

/-- WITHOUT the frame-machine hypothesis the lower bound is lost: a frame that hands back one gas more
than it was given makes the transaction spend less than its intrinsic gas.
Request line: `txgas pipe c 186a0 32 2 7 - 0 - 3 5b8d80 5 c 0 0 - - 0 1 Stop 13499 0`. -/
theorem frame_hypothesis_counterexample :
    let fr : FrameRes := { ir := .Stop, gas := { limit := 79000, remaining := 79001, refunded := 0 } }
    ¬ Admissible sampleEnv 21000 0 fr ∧ spent (afterRefund sampleEnv 0 fr) = 20999 := by decide

/-! ## refund on revert / halt, halted transactions -/

/-- the reports `Revert` and `Halt` never come from an ok-class result -/
theorem revert_or_halt_not_ok (ir : IR) (h : ir.report = .revert ∨ ir.report = .halt) : ir.gasClass ≠ .ok := by
  cases ir <;> simp [IR.report, IR.gasClass] at h ⊢

/-- a `Halt` comes from the `_ => {}` arm of `last_frame_return`, except for the two revert-class
results that are reported as halts (`CallTooDeep`, `OutOfFunds`: "not gonna happen for first call") -/
theorem halt_class (ir : IR) (h : ir.report = .halt) :
    ir.gasClass = .other ∨ ir = .CallTooDeep ∨ ir = .OutOfFunds := by
  cases ir <;> simp [IR.report, IR.gasClass] at h ⊢

/-- FULL STRENGTH: on every revert / halt the frame's own refund counter is dropped and the refund is
exactly the EIP-7702 authorization refund, capped: `min (12500·k) (spent / q)` -/
theorem refund_on_revert_or_halt (e : Env) (i fl k : Nat) (fr : FrameRes) (h : Admissible e i fl fr)
    (hrep : fr.ir.report = .revert ∨ fr.ir.report = .halt) (hk : 12500 * k < 9223372036854775808) :
    gasRefunded (afterRefund e k fr) =
      min (12500 * k) (spent (afterRefund e k fr) / (if enabled e.spec LONDON = true then 5 else 2)) := by
  obtain ⟨sr, hrem⟩ := h.settled k
  have hr : (afterRefund e k fr).refunded = _ :=
    Proofs.TxGas.refund_not_ok h.gasLimit_u64 h.rem_le (revert_or_halt_not_ok fr.ir hrep) hk
  rw [sr.refunded, sr.spent_eq, hrem, hr, Int.toNat_natCast, ← quot_eq]

/-- the literal clause "the refund is zero on revert or halt", under the hypothesis that there is no
EIP-7702 refund (`k = 0` refunded authorities) -/
theorem refund_zero_on_revert_or_halt_partial (e : Env) (i fl : Nat) (fr : FrameRes) (h : Admissible e i fl fr)
    (hrep : fr.ir.report = .revert ∨ fr.ir.report = .halt) :
    gasRefunded (afterRefund e 0 fr) = 0 ∧ gasRefunded (finalGas e fl 0 fr) = 0 := by
  have h0 := refund_on_revert_or_halt e i fl 0 fr h hrep (by omega)
  have h0' : gasRefunded (afterRefund e 0 fr) = 0 := by rw [h0]; simp
  have hsf := spent_final e i fl 0 fr h
  refine ⟨h0', ?_⟩
  by_cases hc : spent (afterRefund e 0 fr) - gasRefunded (afterRefund e 0 fr) < fl
  · exact (hsf.1 hc).2
  · rw [hsf.2 hc]; exact h0'

/-- the literal clause, without the hypothesis -/
def FullStatementRefundZero : Prop :=
  ∀ (e : Env) (i fl k : Nat) (fr : FrameRes), Admissible e i fl fr →
    (fr.ir.report = .revert ∨ fr.ir.report = .halt) → gasRefunded (finalGas e fl k fr) = 0

/-- FULL STRENGTH: a halted transaction (result in the `_` arm) uses
`max (gas_limit − min (12500·k) (gas_limit / q)) floor` -/
theorem halt_used_exact (e : Env) (i fl k : Nat) (fr : FrameRes) (h : Admissible e i fl fr)
    (hcls : fr.ir.gasClass = .other) (hk : 12500 * k < 9223372036854775808) :
    gasUsed (finalGas e fl k fr) =
      max (e.gasLimit - min (12500 * k) (e.gasLimit / (if enabled e.spec LONDON = true then 5 else 2))) fl := by
  have hL := h.gasLimit_u64
  have hr := Proofs.TxGas.refund_not_ok hL h.rem_le (by rw [hcls]; decide) hk
  have hrem : remAfter fr = 0 := by unfold Proofs.TxGas.remAfter; rw [hcls]
  rw [Proofs.TxGas.gasUsed_final k hL h.rem_le h.floor_le, hr, Int.toNat_natCast, hrem, Nat.sub_zero,
    quot_eq]

/-- "a halted transaction uses its whole gas limit", under the hypotheses that there is no EIP-7702
refund and that the halt is not one of the two revert-class results `CallTooDeep` / `OutOfFunds`
(which a first frame cannot return: depth 0, and the validated balance covers the value) -/
theorem halt_uses_all_partial (e : Env) (i fl : Nat) (fr : FrameRes) (h : Admissible e i fl fr)
    (hrep : fr.ir.report = .halt) (hir : fr.ir ≠ .CallTooDeep ∧ fr.ir ≠ .OutOfFunds) :
    gasUsed (finalGas e fl 0 fr) = e.gasLimit := by
  have hcls : fr.ir.gasClass = .other := by
    rcases halt_class fr.ir hrep with h1 | h1 | h1
    · exact h1
    · exact absurd h1 hir.1
    · exact absurd h1 hir.2
  have := halt_used_exact e i fl 0 fr h hcls (by omega)
  have hfl := h.floor_le
  rw [this]; simp; omega

/-- the literal clause, without the hypotheses -/
def FullStatementHaltUsesAll : Prop :=
  ∀ (e : Env) (i fl k : Nat) (fr : FrameRes), Admissible e i fl fr → fr.ir.report = .halt →
    gasUsed (finalGas e fl k fr) = e.gasLimit

/-- Prague, one authorization of an existing account (intrinsic 21000 + 25000), 100000 gas, the target
executes INVALID -/
def witnessEnv : Env :=
  { spec := 18, gasLimit := 100000, gasPrice := 10, priorityFee := none, basefee := 7, blobPrice := some 1,
    nBlobs := 0, maxFeePerBlobGas := none, value := 0 }
def witnessFrame : FrameRes := { ir := .InvalidFEOpcode, gas := { limit := 54000, remaining := 54000, refunded := 0 } }

/-- the literal clauses FAIL for an EIP-7702 transaction with a refunded authority: the transaction
halts, yet 12500 gas are refunded and only 87500 of the 100000 gas are used. This is the behaviour
EIP-7702 specifies (the authorization refund is not tied to the outcome of the call).
Request line (a real transaction, replayed by the check; corpus/C09/C09-counterexample-witnesses.case, line 1):
`txgas tx 12 186a0 a - 7 1 0 - 0 ffffffffffffffffffff 0 invalid 0 t - - 1,0 1 InvalidFEOpcode d2f0 0 1`
reply `halt used=155cc …`. -/
theorem halt_uses_all_counterexample :
    Admissible witnessEnv 46000 21000 witnessFrame ∧ witnessFrame.ir.report = .halt ∧
    gasUsed (finalGas witnessEnv 21000 1 witnessFrame) = 87500 ∧
    gasRefunded (finalGas witnessEnv 21000 1 witnessFrame) = 12500 ∧
    ¬ FullStatementHaltUsesAll ∧ ¬ FullStatementRefundZero := by
  have hA : Admissible witnessEnv 46000 21000 witnessFrame := ⟨by decide, by decide, by decide, by decide⟩
  have hu : gasUsed (finalGas witnessEnv 21000 1 witnessFrame) = 87500 := by decide
  have hr : gasRefunded (finalGas witnessEnv 21000 1 witnessFrame) = 12500 := by decide
  refine ⟨hA, rfl, hu, hr, ?_, ?_⟩
  · intro hall
    have := hall witnessEnv 46000 21000 1 witnessFrame hA rfl
    rw [hu] at this; exact absurd this (by decide)
  · intro hall
    have := hall witnessEnv 46000 21000 1 witnessFrame hA (Or.inr rfl)
    rw [hr] at this; exact absurd this (by decide)

/-- the same for a revert: spent 100000 − 53994 = 46006, refund 9201 = min 12500 (46006 / 5).
Request line: `txgas tx 12 186a0 a - 7 1 0 - 0 ffffffffffffffffffff 0 revert 0 t - - 1,0 1 Revert d2ea 0 1`,
reply `revert used=8fc5 …` (36805 = 46006 − 9201). -/
theorem refund_zero_counterexample :
    let fr : FrameRes := { ir := .Revert, gas := { limit := 54000, remaining := 53994, refunded := 0 } }
    Admissible witnessEnv 46000 21000 fr ∧ fr.ir.report = .revert ∧
    gasRefunded (finalGas witnessEnv 21000 1 fr) = 9201 ∧ gasUsed (finalGas witnessEnv 21000 1 fr) = 36805 := by
  decide

/-- a revert-class result reported as a halt gives the remaining gas back (only reachable when the
first frame itself returns `OutOfFunds` / `CallTooDeep`, which validation and depth 0 exclude).
Request line: `txgas pipe c 186a0 32 2 7 - 0 - 3 5b8d80 5 c 0 0 - - 0 1 OutOfFunds 7530 0`. -/
theorem halt_revert_class_counterexample :
    let fr : FrameRes := { ir := .OutOfFunds, gas := { limit := 79000, remaining := 30000, refunded := 0 } }
    Admissible sampleEnv 21000 0 fr ∧ fr.ir.report = .halt ∧ gasUsed (finalGas sampleEnv 0 0 fr) = 70000 := by
  decide

example : Admissible sampleEnv 21000 0 { sampleFrame with ir := .OutOfGas } ∧
    (IR.OutOfGas).report = .halt ∧ IR.OutOfGas ≠ .CallTooDeep ∧ IR.OutOfGas ≠ .OutOfFunds ∧
    gasUsed (finalGas sampleEnv 0 0 { sampleFrame with ir := .OutOfGas }) = 100000 := by decide

/-! ## the refund value on success -/

/-- success with a non-negative recorded total (frame counter + 7702 refund): the refund is that total
capped at `spent / q` -/
theorem refund_exact (e : Env) (i fl k : Nat) (fr : FrameRes) (h : Admissible e i fl fr)
    (hc : fr.ir.gasClass = .ok) (hk : 12500 * k < 9223372036854775808)
    (h0 : 0 ≤ fr.gas.refunded) (h1 : fr.gas.refunded + ((12500 * k : Nat) : Int) ≤ I64MAX) :
    gasRefunded (afterRefund e k fr) =
      min (fr.gas.refunded.toNat + 12500 * k)
        (spent (afterRefund e k fr) / (if enabled e.spec LONDON = true then 5 else 2)) := by
  obtain ⟨sr, hrem⟩ := h.settled k
  have hr : (afterRefund e k fr).refunded = _ :=
    Proofs.TxGas.refund_ok h.gasLimit_u64 h.rem_le hc hk (by unfold I64MIN; omega) h1
  have hrem' : remAfter fr = fr.gas.remaining := by unfold Proofs.TxGas.remAfter; rw [hc]
  rw [if_pos (by omega)] at hr
  rw [sr.refunded, sr.spent_eq, hrem, hr, hrem', ← quot_eq]
  exact Proofs.TxGas.toNat_min_cap _ _ h0

set_option linter.unusedVariables false in
/-- a NEGATIVE recorded total (excluded by EIP-2200 accounting) is cast `as u64` to a huge number and
loses the `min`: the refund is the FULL cap `spent / q` — still within the cap of `refund_cap` -/
theorem refund_negative_cast (e : Env) (i fl k : Nat) (fr : FrameRes) (h : Admissible e i fl fr)
    (hc : fr.ir.gasClass = .ok) (hk : 12500 * k < 9223372036854775808)
    (h0 : I64MIN ≤ fr.gas.refunded) (h1 : fr.gas.refunded ≤ I64MAX)
    (hneg : fr.gas.refunded + ((12500 * k : Nat) : Int) < 0) :
    gasRefunded (afterRefund e k fr) =
      spent (afterRefund e k fr) / (if enabled e.spec LONDON = true then 5 else 2) := by
  obtain ⟨sr, hrem⟩ := h.settled k
  have hr : (afterRefund e k fr).refunded = _ :=
    Proofs.TxGas.refund_ok h.gasLimit_u64 h.rem_le hc hk h0 (by unfold I64MAX; omega)
  have hrem' : remAfter fr = fr.gas.remaining := by unfold Proofs.TxGas.remAfter; rw [hc]
  rw [if_neg (by omega)] at hr
  rw [sr.refunded, sr.spent_eq, hrem, hr, hrem', ← quot_eq]
  exact Int.toNat_natCast _

example : Admissible sampleEnv 21000 0 sampleFrame ∧ sampleFrame.ir.gasClass = .ok ∧
    gasRefunded (afterRefund sampleEnv 0 sampleFrame) = 14000 ∧
    gasRefunded (afterRefund sampleEnv 0 { sampleFrame with gas := { sampleFrame.gas with refunded := 4800 } }) = 4800 ∧
    gasRefunded (afterRefund sampleEnv 0 { sampleFrame with gas := { sampleFrame.gas with refunded := -1 } }) = 14000 := by
  decide

/-! ## payments -/

/-- validation (`validate_env`, `validate_tx_against_state` of the model) implies the arithmetic
facts the payment theorems need -/
theorem validated_facts (e : Env) (t : TxShape) (bal : Nat)
    (hv : validateEnv e t = none) (hs : validateAgainstState e bal = none) :
    e.gasLimit * e.gasPrice < W ∧
    e.gasLimit * e.gasPrice + e.value + blobFee e ≤ bal ∧
    (enabled e.spec LONDON = true → e.basefee ≤ effectiveGasPrice e) ∧
    (enabled e.spec CANCUN = true → ∃ f, calcDataFee e = some f) := by
  obtain ⟨c, hc, hle⟩ := Proofs.TxGas.validateAgainstState_none hs
  obtain ⟨hmul, hceq, hcW⟩ := Proofs.TxGas.balanceCheck_some hc
  have hb := (Proofs.TxGas.validateEnv_none e t hv).2.1
  refine ⟨hmul, ?_, hb, ?_⟩
  · unfold blobFee
    by_cases hcan : enabled e.spec CANCUN = true
    · obtain ⟨f, hf, hfle⟩ := Proofs.TxGas.dataFee_covered hv hcan
      rw [if_pos hcan] at hceq ⊢
      rw [hf]; simp only [Option.getD_some]; omega
    · rw [if_neg hcan] at hceq ⊢; omega
  · intro hcan
    obtain ⟨f, hf, _⟩ := Proofs.TxGas.dataFee_covered hv hcan
    exact ⟨f, hf⟩

/-- THE SENDER PAYS exactly `effective gas price · gas used + blob fee`: for a validated transaction
`deduct_caller` takes `gas_limit · eff + blob_fee` without saturation and without clamping the
balance, `reimburse_caller` returns `eff · (remaining + refunded)` without 256-bit wrap, and the
difference is the fee; the sender's balance after both stages is `balance − fee` -/
theorem sender_pays (e : Env) (i fl k : Nat) (fr : FrameRes) (h : Admissible e i fl fr)
    (t : TxShape) (bal : Nat) (hbal : bal < W)
    (hv : validateEnv e t = none) (hs : validateAgainstState e bal = none)
    (o : Out) (hp : pipeline e fl k fr = some o) :
    o.deducted = e.gasLimit * effectiveGasPrice e + blobFee e ∧
    o.deducted ≤ bal ∧
    o.reimbursed = effectiveGasPrice e * (o.gas.remaining + o.gasRefunded) ∧
    o.deducted = o.reimbursed + (effectiveGasPrice e * o.gasUsed + blobFee e) ∧
    o.deducted - o.reimbursed = effectiveGasPrice e * o.gasUsed + blobFee e ∧
    ∀ cb rw, (balances o bal cb false rw).1 = bal - (effectiveGasPrice e * o.gasUsed + blobFee e) := by
  obtain ⟨hmul, hcover, _, hfee⟩ := validated_facts e t bal hv hs
  obtain ⟨hd, hg, hu, hrf, hre, _⟩ := Proofs.TxGas.pipeline_some hp
  have s : Settled e o.gas := hg ▸ h.settledFinal k
  obtain ⟨hpr, _, hsplit⟩ := Proofs.TxGas.payments_exact s hmul
  rw [← hu, ← hrf] at hsplit
  rw [← hre, ← hrf] at hpr
  have hle : e.gasLimit * effectiveGasPrice e ≤ e.gasLimit * e.gasPrice :=
    Nat.mul_le_mul_left _ (Proofs.TxGas.eff_le_gasPrice e)
  have hded : o.deducted = e.gasLimit * effectiveGasPrice e + blobFee e :=
    Proofs.TxGas.deduct_exact hd hmul (fun hcan f hf => by
      have : blobFee e = f := by unfold blobFee; rw [if_pos hcan, hf]; rfl
      omega)
  have hcov : o.deducted ≤ bal := by
    rw [hded]
    exact Nat.le_trans (Nat.add_le_add_right (Nat.le_trans hle (Nat.le_add_right _ _)) _) hcover
  have hsum : o.deducted = o.reimbursed + (effectiveGasPrice e * o.gasUsed + blobFee e) := by
    rw [hded, hpr, Nat.mul_comm e.gasLimit, hsplit, Nat.add_comm (effectiveGasPrice e * o.gasUsed), Nat.add_assoc]
  obtain ⟨hdiff, hbalance, _⟩ := Proofs.TxGas.charge_reimburse hbal hcov hsum
  exact ⟨hded, hcov, hpr, hsum, hdiff, fun _ _ => hbalance⟩

/-- AN ENABLED BENEFICIARY RECEIVES exactly `(effective price − base fee) · gas used` from London and
`effective price · gas used` before, without 256-bit wrap; its balance grows by exactly that unless it
would exceed 2^256 − 1 (then `saturating_add` clamps); a disabled reward handle leaves it unchanged -/
theorem beneficiary_gets (e : Env) (i fl k : Nat) (fr : FrameRes) (h : Admissible e i fl fr)
    (hmul : e.gasLimit * e.gasPrice < W) (o : Out) (hp : pipeline e fl k fr = some o) :
    o.reward =
      (if enabled e.spec LONDON = true then effectiveGasPrice e - e.basefee else effectiveGasPrice e) * o.gasUsed ∧
    (∀ bal cb, cb + o.reward < W → (balances o bal cb false true).2 = cb + o.reward) ∧
    (∀ bal cb, W ≤ cb + o.reward → (balances o bal cb false true).2 = W - 1) ∧
    (∀ bal cb, (balances o bal cb false false).2 = cb) := by
  obtain ⟨_, hg, hu, _, _, hrw⟩ := Proofs.TxGas.pipeline_some hp
  have s : Settled e o.gas := hg ▸ h.settledFinal k
  obtain ⟨_, hrew, _⟩ := Proofs.TxGas.payments_exact s hmul
  refine ⟨?_, ?_, ?_, ?_⟩
  · rw [hrw, hrew, hu, Proofs.TxGas.coinbasePrice_eq]
  · intro bal cb hlt
    show U256.saturatingAdd cb o.reward = _
    unfold U256.saturatingAdd; rw [if_pos hlt]
  · intro bal cb hge
    show U256.saturatingAdd cb o.reward = _
    unfold U256.saturatingAdd; rw [if_neg (by omega)]
  · intro bal cb; rfl

/-- the beneficiary is the sender itself: its balance ends at `balance − fee + reward`, again without
saturation -/
theorem sender_is_beneficiary (e : Env) (i fl k : Nat) (fr : FrameRes) (h : Admissible e i fl fr)
    (t : TxShape) (bal : Nat) (hbal : bal < W)
    (hv : validateEnv e t = none) (hs : validateAgainstState e bal = none)
    (o : Out) (hp : pipeline e fl k fr = some o) :
    o.reward ≤ effectiveGasPrice e * o.gasUsed ∧
    ∀ cb, (balances o bal cb true true).1 = bal - (effectiveGasPrice e * o.gasUsed + blobFee e) + o.reward ∧
      (balances o bal cb true true).2 = (balances o bal cb true true).1 := by
  obtain ⟨hmul, _, _, _⟩ := validated_facts e t bal hv hs
  obtain ⟨_, hle, _, hsum, _, hb⟩ := sender_pays e i fl k fr h t bal hbal hv hs o hp
  have hrw := (beneficiary_gets e i fl k fr h hmul o hp).1
  have hcp : (if enabled e.spec LONDON = true then effectiveGasPrice e - e.basefee else effectiveGasPrice e)
      ≤ effectiveGasPrice e := by split <;> omega
  have hr : o.reward ≤ effectiveGasPrice e * o.gasUsed := by
    rw [hrw]; exact Nat.mul_le_mul hcp (Nat.le_refl _)
  refine ⟨hr, fun cb => ⟨?_, rfl⟩⟩
  have hs2 : (balances o bal cb false true).1 = U256.saturatingAdd (deductCaller bal o.deducted) o.reimbursed := rfl
  show U256.saturatingAdd (U256.saturatingAdd (deductCaller bal o.deducted) o.reimbursed) o.reward = _
  rw [← hs2, hb cb true]
  exact (Proofs.TxGas.charge_reimburse hbal hle hsum).2.2 _ (Nat.le_trans hr (Nat.le_add_right _ _))

/-- London onwards, validated: what the sender pays is what the beneficiary gets plus the burnt base
fee plus the blob fee -/
theorem fee_split (e : Env) (i fl k : Nat) (fr : FrameRes) (h : Admissible e i fl fr)
    (t : TxShape) (bal : Nat) (hbal : bal < W)
    (hv : validateEnv e t = none) (hs : validateAgainstState e bal = none)
    (hl : enabled e.spec LONDON = true) (o : Out) (hp : pipeline e fl k fr = some o) :
    o.deducted - o.reimbursed = o.reward + e.basefee * o.gasUsed + blobFee e := by
  obtain ⟨hmul, _, hbf, _⟩ := validated_facts e t bal hv hs
  have hsp := (sender_pays e i fl k fr h t bal hbal hv hs o hp).2.2.2.2.1
  have hbg := (beneficiary_gets e i fl k fr h hmul o hp).1
  rw [if_pos hl] at hbg
  have hle := hbf hl
  have : effectiveGasPrice e * o.gasUsed =
      (effectiveGasPrice e - e.basefee) * o.gasUsed + e.basefee * o.gasUsed := by
    rw [← Nat.add_mul]; congr 1; omega
  rw [hsp, hbg, this]

example : Admissible sampleEnv 21000 0 sampleFrame ∧ validateEnv sampleEnv sampleShape = none ∧
    validateAgainstState sampleEnv 6000000 = none ∧ effectiveGasPrice sampleEnv = 9 ∧
    (pipeline sampleEnv 0 0 sampleFrame).map (fun o => (o.deducted - o.reimbursed, o.reward, balances o 6000000 5 false true)) =
      some (504000, 112000, (5496000, 112005)) := by decide

/-- exactly when the 256-bit wrapping multiplication of `reimburse_caller` is harmless -/
theorem reimburse_exact_iff (e : Env) (g : Gas) :
    reimburseAmount e g = effectiveGasPrice e * U64ops.wadd g.remaining (i64AsU64 g.refunded) ↔
      effectiveGasPrice e * U64ops.wadd g.remaining (i64AsU64 g.refunded) < W := by
  have hW := W_val
  unfold reimburseAmount U256.wmul
  exact Nat.mod_eq_iff_lt (by omega)

/-- where it bites (only without validation, e.g. balance check disabled): price 2^255, 4 gas all
handed back: `effective_gas_price * 4` wraps to 0 and the sender is reimbursed nothing, after
`deduct_caller` charged the saturated 2^256 − 1 -/
theorem reimburse_wrap_counterexample :
    let e : Env := { sampleEnv with gasLimit := 4, gasPrice := 2^255, priorityFee := none }
    ¬ (e.gasLimit * e.gasPrice < W) ∧ reimburseAmount e { limit := 4, remaining := 4, refunded := 0 } = 0 ∧
    deductAmount e = some (W - 1) := by
  decide

/-! ## from the validated transaction to the hypotheses -/

/-- a transaction that passes the model's validation with the initial gas computed by
`calculate_initial_tx_gas` (Model.GasCalc, C14), and a first frame that respects its gas limit,
satisfy `Admissible` -/
theorem validated_admissible (e : Env) (t : TxShape) (input : List Nat) (i fl bal : Nat) (fr : FrameRes)
    (hL : e.gasLimit < U64)
    (hcalc : Revm.Model.GasCalc.calculateInitialTxGas e.spec input t.isCreate t.accessList (t.authLen.getD 0) = some (i, fl))
    (hv : validate e t i fl bal = none)
    (hframe : fr.gas.remaining ≤ frameGasLimit e i) :
    Admissible e i fl fr ∧ frameGasLimit e i = e.gasLimit - i := by
  obtain ⟨_, h2, _⟩ := Proofs.TxGas.validate_none hv
  obtain ⟨hi, hf⟩ := Proofs.TxGas.validateInitialGas_none h2
  have hfg : frameGasLimit e i = e.gasLimit - i := Proofs.Gas.wsub_of_le _ _ hL hi
  refine ⟨⟨hL, hi, ?_, by rw [← hfg]; exact hframe⟩, hfg⟩
  by_cases hp : enabled e.spec PRAGUE = true
  · exact hf hp
  · have : fl = 0 := Proofs.TxGas.floor_pre_prague hcalc (by simpa using hp)
    omega

example : Revm.Model.GasCalc.calculateInitialTxGas 12 [] false [] 0 = some (21000, 0) ∧
    validate sampleEnv sampleShape 21000 0 6000000 = none ∧
    sampleFrame.gas.remaining ≤ frameGasLimit sampleEnv 21000 := by decide

end Revm.Props.C09
