import Revm.Proofs.Arith
import Revm.Proofs.ArithExpCost
/-! C03 — arithmetic, comparison, bitwise and shift opcodes compute exact 256-bit results.
The longer proofs are in `Revm.Proofs.Arith`. `Model` follows the Rust code
(`arithmetic.rs`, `i256.rs`, `bitwise.rs`, `gas::exp_cost`), `Spec` is unbounded integer arithmetic
reduced mod 2^256 (two's complement for the signed opcodes, 0 on a zero divisor / modulus).
Operand order is stack order (first argument = top of stack). Static gas (3 / 5 / 8) and the number
of consumed stack items are compared with the real interpreter by the correspondence stream; the
only gas *formula* of this group, `exp_cost`, is proved here (`expCost_eq`). -/
namespace Revm.Props.C03
open Revm Revm.U256

/-! ## value theorems: `Model.op = Spec.op` for all 256-bit operands -/

theorem add_eq (a b : Nat) : Model.Arith.add a b = Spec.Arith.add a b := rfl
theorem mul_eq (a b : Nat) : Model.Arith.mul a b = Spec.Arith.mul a b := rfl
theorem sub_eq (a b : Nat) (ha : a < W) (hb : b < W) : Model.Arith.sub a b = Spec.Arith.sub a b :=
  Proofs.Arith.sub_eq a b ha hb
theorem div_eq (a b : Nat) : Model.Arith.div a b = Spec.Arith.div a b := Proofs.Arith.div_eq a b
theorem mod_eq (a b : Nat) : Model.Arith.rem a b = Spec.Arith.mod a b := Proofs.Arith.mod_eq a b
/-- SDIV = truncated division of the two's-complement readings (MIN / -1 wraps to MIN) -/
theorem sdiv_eq (a b : Nat) (ha : a < W) (hb : b < W) : Model.Arith.sdiv a b = Spec.Arith.sdiv a b :=
  Proofs.Arith.sdiv_eq a b ha hb
/-- SMOD = `Int.tmod` (sign of the dividend) of the two's-complement readings -/
theorem smod_eq (a b : Nat) (ha : a < W) (hb : b < W) : Model.Arith.smod a b = Spec.Arith.smod a b :=
  Proofs.Arith.smod_eq a b ha hb
theorem addmod_eq (a b n : Nat) : Model.Arith.addmod a b n = Spec.Arith.addmod a b n := rfl
theorem mulmod_eq (a b n : Nat) : Model.Arith.mulmod a b n = Spec.Arith.mulmod a b n := rfl
/-- EXP: ruint's square-and-multiply loop with wrapping products = `a^b mod 2^256` -/
theorem exp_eq (a b : Nat) (hb : b < W) : Model.Arith.exp a b = Spec.Arith.exp a b :=
  Proofs.Arith.exp_eq a b hb
/-- SIGNEXTEND: the mask construction = signed reading of the low `8(k+1)` bits -/
theorem signextend_eq (k x : Nat) (hx : x < W) :
    Model.Arith.signextend k x = Spec.Arith.signextend k x := Proofs.Arith.signextend_eq k x hx
theorem lt_eq (a b : Nat) : Model.Arith.lt a b = Spec.Arith.lt a b := rfl
theorem gt_eq (a b : Nat) : Model.Arith.gt a b = Spec.Arith.gt a b := rfl
/-- SLT: `i256_cmp` (sign classes, then unsigned compare) = `<` on the two's-complement readings -/
theorem slt_eq (a b : Nat) (ha : a < W) (hb : b < W) : Model.Arith.slt a b = Spec.Arith.slt a b :=
  Proofs.Arith.slt_eq a b ha hb
theorem sgt_eq (a b : Nat) (ha : a < W) (hb : b < W) : Model.Arith.sgt a b = Spec.Arith.sgt a b :=
  Proofs.Arith.sgt_eq a b ha hb
theorem eq_eq (a b : Nat) : Model.Arith.eq a b = Spec.Arith.eq a b := rfl
theorem iszero_eq (a : Nat) : Model.Arith.iszero a = Spec.Arith.iszero a := rfl
theorem and_eq (a b : Nat) : Model.Arith.bitand a b = Spec.Arith.and a b := rfl
theorem or_eq (a b : Nat) : Model.Arith.bitor a b = Spec.Arith.or a b := rfl
theorem xor_eq (a b : Nat) : Model.Arith.bitxor a b = Spec.Arith.xor a b := rfl
theorem not_eq (a : Nat) : Model.Arith.bitnot a = Spec.Arith.not a := rfl
/-- what `Spec.not` (= `2^256 - 1 - a`) means bitwise: exactly the low 256 bits are flipped -/
theorem not_testBit (a : Nat) (ha : a < W) (i : Nat) :
    (Model.Arith.bitnot a).testBit i = (decide (i < 256) && !a.testBit i) := by
  unfold Model.Arith.bitnot U256.not
  have : W - 1 - a = 2^256 - (a + 1) := by unfold W; omega
  rw [this]; exact Nat.testBit_two_pow_sub_succ ha i
/-- … and arithmetically: `-a - 1` in two's complement -/
theorem not_int (a : Nat) (ha : a < W) : Model.Arith.bitnot a = ofInt (-(toInt a) - 1) := by
  unfold Model.Arith.bitnot U256.not ofInt toInt
  rw [W_val] at *
  split <;> omega
/-- BYTE with any 256-bit index (saturated to `usize` in the code) -/
theorem byte_eq (i x : Nat) : Model.Arith.byte i x = Spec.Arith.byte i x := Proofs.Arith.byte_eq i x
/-- SHL with any shift amount, including ≥ 256 and ≥ 2^64 -/
theorem shl_eq (s x : Nat) : Model.Arith.shl s x = Spec.Arith.shl s x := Proofs.Arith.shl_eq s x
theorem shr_eq (s x : Nat) (hx : x < W) : Model.Arith.shr s x = Spec.Arith.shr s x :=
  Proofs.Arith.shr_eq s x hx
/-- SAR: sign-filling shift = floor division of the signed reading by `2^s`, any shift amount -/
theorem sar_eq (s x : Nat) (hx : x < W) : Model.Arith.sar s x = Spec.Arith.sar s x :=
  Proofs.Arith.sar_eq s x hx

/-! ## gas of EXP -/

/-- `log2floor` (scan of the four 64-bit limbs with `leading_zeros`) is the position of the top bit -/
theorem log2floor_eq (v : Nat) (hv : v < W) :
    Model.Arith.log2floor v = if v = 0 then 0 else v.log2 := Proofs.Arith.log2floor_eq v hv
/-- `exp_cost` never fails for a 256-bit exponent and equals `10 + (10|50) * byteLen(exponent)` -/
theorem expCost_eq (sd : Bool) (p : Nat) (hp : p < W) :
    Model.Arith.expCost sd p = some (Spec.Arith.expCost sd p) := Proofs.Arith.expCost_eq sd p hp

/-! ## every pushed value is again a 256-bit word -/

theorem add_lt (a b : Nat) : Model.Arith.add a b < W := Nat.mod_lt _ Proofs.Arith.W_pos
theorem mul_lt (a b : Nat) : Model.Arith.mul a b < W := Nat.mod_lt _ Proofs.Arith.W_pos
theorem sub_lt (a b : Nat) : Model.Arith.sub a b < W := Nat.mod_lt _ Proofs.Arith.W_pos
theorem div_lt (a b : Nat) (ha : a < W) : Model.Arith.div a b < W := by
  rw [Proofs.Arith.div_eq]; unfold Spec.Arith.div; split
  · exact Proofs.Arith.W_pos
  · exact Nat.lt_of_le_of_lt (Nat.div_le_self _ _) ha
theorem mod_lt (a b : Nat) (hb : b < W) : Model.Arith.rem a b < W := by
  rw [Proofs.Arith.mod_eq]; unfold Spec.Arith.mod; split
  · exact Proofs.Arith.W_pos
  · exact Nat.lt_trans (Nat.mod_lt _ (by omega)) hb
theorem sdiv_lt (a b : Nat) (ha : a < W) (hb : b < W) : Model.Arith.sdiv a b < W := by
  rw [Proofs.Arith.sdiv_eq a b ha hb]; unfold Spec.Arith.sdiv; split
  · exact Proofs.Arith.W_pos
  · exact Proofs.Arith.ofInt_lt _
theorem smod_lt (a b : Nat) (ha : a < W) (hb : b < W) : Model.Arith.smod a b < W := by
  rw [Proofs.Arith.smod_eq a b ha hb]; unfold Spec.Arith.smod; split
  · exact Proofs.Arith.W_pos
  · exact Proofs.Arith.ofInt_lt _
theorem addmod_lt (a b n : Nat) (hn : n < W) : Model.Arith.addmod a b n < W := by
  unfold Model.Arith.addmod; split
  · exact Proofs.Arith.W_pos
  · exact Nat.lt_trans (Nat.mod_lt _ (by omega)) hn
theorem mulmod_lt (a b n : Nat) (hn : n < W) : Model.Arith.mulmod a b n < W := by
  unfold Model.Arith.mulmod; split
  · exact Proofs.Arith.W_pos
  · exact Nat.lt_trans (Nat.mod_lt _ (by omega)) hn
theorem exp_lt (a b : Nat) (hb : b < W) : Model.Arith.exp a b < W := by
  rw [Proofs.Arith.exp_eq a b hb]; exact Nat.mod_lt _ Proofs.Arith.W_pos
theorem signextend_lt (k x : Nat) (hx : x < W) : Model.Arith.signextend k x < W := by
  rw [Proofs.Arith.signextend_eq k x hx]; unfold Spec.Arith.signextend
  by_cases hk : k < 31
  · simp only [hk, if_true]
    split
    · exact Proofs.Arith.ofInt_lt _
    · exact Nat.lt_of_le_of_lt (Nat.mod_le _ _) hx
  · simp only [hk, if_false]; exact hx
theorem lt_lt (a b : Nat) : Model.Arith.lt a b < W := Proofs.Arith.b2w_lt _
theorem gt_lt (a b : Nat) : Model.Arith.gt a b < W := Proofs.Arith.b2w_lt _
theorem slt_lt (a b : Nat) : Model.Arith.slt a b < W := Proofs.Arith.b2w_lt _
theorem sgt_lt (a b : Nat) : Model.Arith.sgt a b < W := Proofs.Arith.b2w_lt _
theorem eq_lt (a b : Nat) : Model.Arith.eq a b < W := Proofs.Arith.b2w_lt _
theorem iszero_lt (a : Nat) : Model.Arith.iszero a < W := Proofs.Arith.b2w_lt _
theorem and_lt (a b : Nat) (ha : a < W) : Model.Arith.bitand a b < W :=
  Nat.lt_of_le_of_lt Nat.and_le_left ha
theorem or_lt (a b : Nat) (ha : a < W) (hb : b < W) : Model.Arith.bitor a b < W :=
  Nat.or_lt_two_pow (n := 256) ha hb
theorem xor_lt (a b : Nat) (ha : a < W) (hb : b < W) : Model.Arith.bitxor a b < W :=
  Nat.xor_lt_two_pow (n := 256) ha hb
theorem not_lt (a : Nat) : Model.Arith.bitnot a < W := Proofs.Arith.not_lt a
theorem byte_lt (i x : Nat) : Model.Arith.byte i x < W := by
  have hW := W_val
  unfold Model.Arith.byte; simp only []; split
  · exact Nat.lt_trans (Nat.mod_lt _ (by omega)) (by omega)
  · omega
theorem shl_lt (s x : Nat) : Model.Arith.shl s x < W := by
  rw [Proofs.Arith.shl_eq]; exact Nat.mod_lt _ Proofs.Arith.W_pos
theorem shr_lt (s x : Nat) (hx : x < W) : Model.Arith.shr s x < W := by
  rw [Proofs.Arith.shr_eq s x hx]; exact Nat.lt_of_le_of_lt (Nat.div_le_self _ _) hx
theorem sar_lt (s x : Nat) (hx : x < W) : Model.Arith.sar s x < W := by
  rw [Proofs.Arith.sar_eq s x hx]; exact Proofs.Arith.ofInt_lt _

/-! ## the hypotheses are satisfiable, and the functions are not trivial: boundary evaluations -/

/-- `-1` as a word -/
abbrev M1 : Nat := W - 1
/-- the most negative word -/
abbrev MIN : Nat := 2^255

example : M1 < W ∧ MIN < W ∧ (0 : Nat) < W ∧ (300 : Nat) < W := by
  unfold M1 MIN; rw [W_val]; omega
example : Model.Arith.sub 0 1 = M1 := by decide +kernel
example : Model.Arith.sdiv MIN M1 = MIN := by decide +kernel
example : Model.Arith.sdiv (W - 7) 2 = W - 3 := by decide +kernel
example : Model.Arith.smod (W - 7) 2 = M1 := by decide +kernel
example : Model.Arith.smod 7 (W - 2) = 1 := by decide +kernel
example : Model.Arith.exp 3 5 = 243 := by decide +kernel
example : Model.Arith.exp 2 256 = 0 := by decide +kernel
example : Model.Arith.exp 2 255 = MIN := by decide +kernel
example : Model.Arith.signextend 0 0x80 = W - 128 := by decide +kernel
example : Model.Arith.signextend 0 0x17f = 0x7f := by decide +kernel
example : Model.Arith.signextend 31 M1 = M1 := by decide +kernel
example : Model.Arith.slt M1 0 = 1 ∧ Model.Arith.lt M1 0 = 0 := by decide +kernel
example : Model.Arith.sgt 0 MIN = 1 ∧ Model.Arith.gt 0 MIN = 0 := by decide +kernel
example : Model.Arith.byte 31 0x1234 = 0x34 ∧ Model.Arith.byte 32 0x1234 = 0 := by decide +kernel
example : Model.Arith.shl 255 1 = MIN ∧ Model.Arith.shl 256 1 = 0 := by decide +kernel
example : Model.Arith.shr 255 MIN = 1 ∧ Model.Arith.shr 256 M1 = 0 := by decide +kernel
example : Model.Arith.sar 1 MIN = 2^255 + 2^254 := by decide +kernel
example : Model.Arith.sar 255 MIN = M1 ∧ Model.Arith.sar 256 MIN = M1 ∧ Model.Arith.sar M1 MIN = M1 := by
  decide +kernel
example : Model.Arith.sar 256 (MIN - 1) = 0 := by decide +kernel
example : Model.Arith.expCost true 0 = some 10 ∧ Model.Arith.expCost true 255 = some 60 ∧
    Model.Arith.expCost true 256 = some 110 ∧ Model.Arith.expCost false M1 = some 330 ∧
    Model.Arith.expCost true M1 = some 1610 := by decide +kernel

end Revm.Props.C03
