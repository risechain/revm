import Revm.Proofs.SelfdestructNotify
import Revm.Proofs.InspectorHooks
/-! C30 — self-destruct notifications.

"Every SELFDESTRUCT that completes is reported to the inspector exactly once, naming the executing
contract, the beneficiary popped from the stack, and the balance that left the contract; no self-destruct
notification is emitted for any other event."

`Model.SelfdestructNotify.wrapped` is the SELFDESTRUCT entry of the inspector's instruction table as
repaired by /repo commit 93c09012: remember the length of the innermost journal level, run the
(step-wrapped) instruction `instructions::host::selfdestruct` over `Model.Journal.selfdestruct`, and only
if `instruction_result == SelfDestruct` report the newest `AccountDestroyed` / `BalanceTransfer` among the
entries appended since, or `(contract, contract, 0)` when there is none. All theorems are for ALL
databases, journal states (any accounts, any earlier entries on any level), stacks, gas values and forks.

"Completes" = the instruction ends with `InstructionResult::SelfDestruct` (not: static call, empty
stack, failing database, out of gas — the latter AFTER the balance moved; the frame then reverts).
"The balance that left the contract" = its balance before minus its balance after in the journal:
the whole balance, except after Cancun for a contract not created in this transaction that names itself
(nothing moves, reported value 0). "Exactly once": `wrapped` yields at most one callback per dispatched
SELFDESTRUCT by construction and `selfdestruct_notified_once` shows it yields one; that no other opcode or
event produces the callback is `selfdestruct_callbacks_exact` (over the hooks machine of C29).

Assumptions: the executing contract is in the journal (`s.state contract = some _`; revm loads it before
any of its code runs); the inspector's own `step`/`step_end` leave `interp.instruction_result` alone for
the positive statement (an inspector that writes `SelfDestruct` there itself would cause a callback;
`no_spurious_notification` and `notified_iff_result` hold for every inspector). The former wrapper logic
is kept as `wrappedOld`; the `_regression` theorems exhibit histories on which it reports wrongly. -/
namespace Revm.Props.C30
open Revm Revm.Model.Journal Revm.Model.SelfdestructNotify Revm.Proofs.SelfdestructNotify
open Revm.Model.InspectorHooks Revm.Spec.InspectorHooks

/-- a completed SELFDESTRUCT is reported, with the executing contract, the address popped from the stack
and the balance that left the contract -/
theorem selfdestruct_notified_once (db : Db) (dbFails : Bool) (it it' : Interp) (s s' : JState)
    (n : Option (Addr × Addr × Nat)) (acc : Acct)
    (hc : it.result = .continue_)
    (hrun : wrapped db dbFails {} it s = some (it', s', n))
    (hloaded : s.state it.contract = some acc)
    (hdone : it'.result = .selfDestruct) :
    ∃ top rest, it.stack = top :: rest ∧
      n = some (it.contract, top % ADDR, movedValue acc s.spec it.contract (top % ADDR)) := by
  obtain ⟨top, rest, hst, hn, _⟩ := wrapped_completed hc hrun hloaded hdone
  exact ⟨top, rest, hst, hn⟩

/-- the reported value is the balance that left the contract: balance before = balance after + value -/
theorem value_is_balance_that_left (db : Db) (dbFails : Bool) (it it' : Interp) (s s' : JState)
    (a t v : Nat) (acc : Acct)
    (hc : it.result = .continue_)
    (hrun : wrapped db dbFails {} it s = some (it', s', some (a, t, v)))
    (hloaded : s.state it.contract = some acc) :
    a = it.contract ∧ balanceOf s it.contract = balanceOf s' it.contract + v := by
  by_cases hdone : it'.result = .selfDestruct
  · obtain ⟨top, rest, _, hn, hbal⟩ := wrapped_completed hc hrun hloaded hdone
    simp only [Option.some.injEq, Prod.mk.injEq] at hn
    obtain ⟨rfl, rfl, rfl⟩ := hn
    refine ⟨rfl, ?_⟩
    simp only [balanceOf, hloaded] at hbal ⊢
    omega
  · have hn := (wrapped_observing_inv hc hrun).2
    rw [noteOf, if_neg hdone] at hn; cases hn

/-- whatever the inspector does: a callback is made iff the instruction ended with `SelfDestruct` -/
theorem notified_iff_result (db : Db) (dbFails : Bool) (ia : InspAct) (it it' : Interp) (s s' : JState)
    (n : Option (Addr × Addr × Nat)) (hrun : wrapped db dbFails ia it s = some (it', s', n)) :
    n.isSome = true ↔ it'.result = .selfDestruct := by
  rw [(wrapped_some hrun).2, noteOf]
  split <;> simp [*]

/-- no notification for a SELFDESTRUCT that does not complete — for every inspector -/
theorem no_spurious_notification (db : Db) (dbFails : Bool) (ia : InspAct) (it it' : Interp) (s s' : JState)
    (n : Option (Addr × Addr × Nat)) (hrun : wrapped db dbFails ia it s = some (it', s', n))
    (hfail : it'.result ≠ .selfDestruct) : n = none := by
  have := notified_iff_result db dbFails ia it it' s s' n hrun
  cases n with
  | none => rfl
  | some x => exact absurd (this.1 rfl) hfail

/-- static call: `StateChangeDuringStaticCall`, nothing changed, nothing reported — whatever entries
(e.g. the `BalanceTransfer` of a value-bearing call) the journal holds -/
theorem static_not_notified (db : Db) (dbFails : Bool) (it : Interp) (s : JState)
    (hc : it.result = .continue_) (hs : it.isStatic = true) :
    wrapped db dbFails {} it s = some ({ it with result := .stateChangeDuringStaticCall }, s, none) := by
  rw [wrapped_eq, stepWrapped_observing hc]; simp [selfdestructInsn, hs, noteOf]

/-- empty stack: `StackUnderflow`, nothing changed, nothing reported -/
theorem underflow_not_notified (db : Db) (dbFails : Bool) (it : Interp) (s : JState)
    (hc : it.result = .continue_) (hs : it.isStatic = false) (hst : it.stack = []) :
    wrapped db dbFails {} it s = some ({ it with result := .stackUnderflow }, s, none) := by
  rw [wrapped_eq, stepWrapped_observing hc]; simp [selfdestructInsn, hs, hst, noteOf]

/-- failing database while loading the target: `FatalExternalError`, nothing changed, nothing reported -/
theorem db_failure_not_notified (db : Db) (it : Interp) (s : JState) (top : Nat) (rest : List Nat)
    (hc : it.result = .continue_) (hs : it.isStatic = false) (hst : it.stack = top :: rest)
    (hnl : s.state (top % ADDR) = none) :
    wrapped db true {} it s = some ({ it with stack := rest, result := .fatalExternalError }, s, none) := by
  rw [wrapped_eq, stepWrapped_observing hc]; simp [selfdestructInsn, hs, hst, hnl, noteOf]

/-- out of gas AFTER the state change: not reported (the frame's revert undoes the change) -/
theorem out_of_gas_not_notified (db : Db) (dbFails : Bool) (ia : InspAct) (it it' : Interp) (s s' : JState)
    (n : Option (Addr × Addr × Nat)) (hrun : wrapped db dbFails ia it s = some (it', s', n))
    (hoog : it'.result = .outOfGas) : n = none :=
  no_spurious_notification db dbFails ia it it' s s' n hrun (by rw [hoog]; decide)

/-- over the whole transaction (hooks machine of C29, all scripts): the `selfdestruct` callbacks are, in
order, exactly the reports of the dispatched SELFDESTRUCT instructions — no other opcode, log, call,
create or frame event produces one -/
theorem selfdestruct_callbacks_exact (b : Stacks) (first : Spawn) (turns : List Turn) :
    sdsOf (runTx b first turns).2.word =
      (turns.take (usedTx b first turns)).flatMap fun t => (turnInsns t).filterMap insnSd := by
  have := Revm.Proofs.InspectorHooks.filterMap_runTx sdProj Revm.Proofs.InspectorHooks.sdProj_free b first turns
  simp only [sdsOf, this]
  congr 1; funext t; exact Revm.Proofs.InspectorHooks.sds_turnEvents t

/-- a dispatched SELFDESTRUCT makes its callback once, after `step_end`; other opcodes make none -/
theorem sd_insn_events (a t v : Nat) :
    insnEvents (.sdOp (some (a, t, v))) = [.step, .stepEnd, .selfdestruct a t v] ∧
    insnEvents (.sdOp none) = [.step, .stepEnd] ∧
    sdsOf (insnEvents .plain) = [] ∧ (∀ p l, sdsOf (insnEvents (.logOp p l)) = []) := by
  refine ⟨rfl, rfl, rfl, ?_⟩
  intro p l
  have := Revm.Proofs.InspectorHooks.sds_postEvents (.logOp p l)
  show List.filterMap sdProj ([Ev.step, Ev.stepEnd] ++ postEvents (.logOp p l)) = []
  rw [List.filterMap_append, this]; rfl

/-! ### concrete states: `wrappedOld` reports wrongly, `wrapped` completes -/

def acct (bal : Nat) (created : Bool := false) : Acct :=
  { info := { balance := bal, nonce := 1, codeHash := 1, code := some 1 }, storage := fun _ => none, created := created }

def noDb : Db := { basic := fun _ => none, storage := fun _ _ => 0, delegate := fun _ => none }

/-- contract 2 (balance 9) was just called by 1 with value 5: the innermost level holds that transfer -/
def sCalled (spec : Nat) (created : Bool := false) : JState :=
  { state := fun x => if x = 2 then some (acct 9 created) else if x = 1 then some (acct 0) else if x = 3 then some (acct 4) else none,
    transient := fun _ _ => none, logs := [], depth := 1,
    journal := [[.balanceTransfer 1 2 5], []], spec := spec, preloaded := fun _ => false }

def itAt (stack : List Nat) (gas : Nat := 100000) (static : Bool := false) : Interp :=
  { isStatic := static, stack := stack, gas := gas, contract := 2 }

/-- projection used to compare runs on states that contain functions -/
def view (r : Option (Interp × JState × Option (Addr × Addr × Nat))) : Option (IRes × Nat × Nat × Option (Addr × Addr × Nat)) :=
  r.map fun x => (x.1.result, balanceOf x.2.1 2, balanceOf x.2.1 3, x.2.2)

/-- REGRESSION (old wrapper, DESIGN §9 #5): SELFDESTRUCT failing with stack underflow right after a
value-bearing call was reported as `(caller, contract, value)`; the repaired wrapper reports nothing -/
theorem old_wrapper_failed_selfdestruct_regression :
    view (wrappedOld noDb false {} (itAt []) (sCalled 12)) = some (.stackUnderflow, 9, 4, some (1, 2, 5)) ∧
    view (wrapped noDb false {} (itAt []) (sCalled 12)) = some (.stackUnderflow, 9, 4, none) := by
  constructor <;> rfl

/-- REGRESSION: the same in a static call -/
theorem old_wrapper_static_regression :
    view (wrappedOld noDb false {} (itAt [3] 100000 true) (sCalled 12)) = some (.stateChangeDuringStaticCall, 9, 4, some (1, 2, 5)) ∧
    view (wrapped noDb false {} (itAt [3] 100000 true) (sCalled 12)) = some (.stateChangeDuringStaticCall, 9, 4, none) := by
  constructor <;> rfl

/-- REGRESSION: out of gas after the balance moved was reported by the old wrapper (with the entry of the
instruction that is about to be reverted); the repaired one reports nothing -/
theorem old_wrapper_out_of_gas_regression :
    view (wrappedOld noDb false {} (itAt [3] 4999) (sCalled 12)) = some (.outOfGas, 0, 13, some (2, 3, 9)) ∧
    view (wrapped noDb false {} (itAt [3] 4999) (sCalled 12)) = some (.outOfGas, 0, 13, none) := by
  constructor <;> rfl

/-- REGRESSION: after Cancun a pre-existing contract naming itself makes no entry; the old wrapper
reported the stale transfer of the call, the repaired one `(contract, contract, 0)` -/
theorem old_wrapper_self_target_regression :
    view (wrappedOld noDb false {} (itAt [2]) (sCalled 17)) = some (.selfDestruct, 9, 4, some (1, 2, 5)) ∧
    view (wrapped noDb false {} (itAt [2]) (sCalled 17)) = some (.selfDestruct, 9, 4, some (2, 2, 0)) := by
  constructor <;> rfl

/-- non-vacuity of `selfdestruct_notified_once` / `value_is_balance_that_left`: completed runs in all four
cases (pre-Cancun other / self, Cancun pre-existing other, Cancun created-in-transaction self) -/
example : view (wrapped noDb false {} (itAt [3]) (sCalled 12)) = some (.selfDestruct, 0, 13, some (2, 3, 9)) := rfl
example : view (wrapped noDb false {} (itAt [2]) (sCalled 12)) = some (.selfDestruct, 0, 4, some (2, 2, 9)) := rfl
example : view (wrapped noDb false {} (itAt [3]) (sCalled 17)) = some (.selfDestruct, 0, 13, some (2, 3, 9)) := rfl
example : view (wrapped noDb false {} (itAt [2]) (sCalled 17 true)) = some (.selfDestruct, 0, 4, some (2, 2, 9)) := rfl
example : (sCalled 17).state (itAt [2]).contract = some (acct 9) := rfl
/-- the popped word is truncated to an address -/
example : view (wrapped noDb false {} (itAt [2 ^ 160 + 3]) (sCalled 12)) = some (.selfDestruct, 0, 13, some (2, 3, 9)) := rfl
/-- a failing database on an unloaded target -/
example : view (wrapped noDb true {} (itAt [7]) (sCalled 12)) = some (.fatalExternalError, 9, 4, none) := rfl

end Revm.Props.C30
