import Revm.Gen.Tables
import Revm.Spec.Activation
import Revm.Proofs.TableRow
/-! C05 — each opcode and precompile exists exactly from its activating hardfork.
`Revm.Gen.*` is regenerated on every run by *executing* the compiled implementation for all 256
opcode bytes × every SpecId (interpreter level and through `Evm::transact`) and for every
address 0..=0x20 (+ a few) × every SpecId; the theorems below are re-checked by the kernel
(`decide +kernel`, whole table) against the hand-written EIP activation tables of
`Spec.Activation`. The quantifier of C05 is finite, and it is enumerated completely. -/
namespace Revm.Props.C05
open Revm Revm.Spec.Activation

/-- "behaves as an undefined instruction": 1 NotActivated, 2 OpcodeNotFound, 3 EOFOpcodeDisabledInLegacy,
5 ReturnContractInNotInitEOF (RETURNCONTRACT outside EOF init code; reported as OpcodeNotFound by the
transaction result) -/
def isGate (c : Nat) : Bool := c = 1 ∨ c = 2 ∨ c = 3 ∨ c = 5

def opRowOk (spec : Nat) (codes : List Nat) : Bool :=
  codes.zipIdx.all fun (c, op) => isGate c == undefinedIn spec op

def txRowOk (spec : Nat) (codes : List (Nat × Nat)) : Bool :=
  codes.zipIdx.all fun ((c, allGas), op) =>
    -- halted by a gate (NotActivated / OpcodeNotFound) exactly when undefined, and then all gas is used
    (isGate c == undefinedIn spec op) && (!isGate c || allGas == 1)

/-- the dump is complete: every SpecId, 256 opcodes each -/
theorem tables_complete :
    Gen.opStatus.map (·.1) = Gen.specIds ∧ Gen.txStatus.map (·.1) = Gen.specIds ∧
    Gen.precompiles.map (·.1) = Gen.specIds ∧
    Gen.opStatus.all (fun r => r.2.length == 256) = true ∧
    Gen.txStatus.all (fun r => r.2.length == 256) = true ∧
    Gen.specIds = [0,1,2,3,4,5,6,7,8,9,10,11,12,13,14,15,16,17,18,19,255] := by
  decide +kernel

/-- interpreter level: for every SpecId and every opcode byte, the single instruction ends in
NotActivated / OpcodeNotFound / EOFOpcodeDisabledInLegacy / ReturnContractInNotInitEOF iff the EIP tables say it is undefined -/
theorem undefined_iff_table : Gen.opStatus.all (fun r => opRowOk r.1 r.2) = true := by
  decide +kernel

/-- `99`, the default of `getD`, is never taken (`op < 256`, the length of a row) and is no gate code -/
theorem undefined_iff (spec : Nat) (codes : List Nat) (h : (spec, codes) ∈ Gen.opStatus)
    (op : Nat) (hop : op < 256) : isGate (codes.getD op 99) = undefinedIn spec op := by
  have hlen : codes.length = 256 := by simpa using List.all_eq_true.mp tables_complete.2.2.2.1 _ h
  simpa using Proofs.zipIdx_all_getD (List.all_eq_true.mp undefined_iff_table _ h) (hlen ▸ hop) 99

/-- transaction level (handler, frame machine, result conversion): halted by the gate iff
undefined, and such a halt consumes the whole gas limit -/
theorem undefined_halts_all_gas_table : Gen.txStatus.all (fun r => txRowOk r.1 r.2) = true := by
  decide +kernel

theorem undefined_halts_all_gas (spec : Nat) (codes : List (Nat × Nat)) (h : (spec, codes) ∈ Gen.txStatus)
    (op : Nat) (hop : op < 256) :
    isGate (codes.getD op (99, 0)).1 = undefinedIn spec op ∧
    (isGate (codes.getD op (99, 0)).1 = true → (codes.getD op (99, 0)).2 = 1) := by
  have hlen : codes.length = 256 := by simpa using List.all_eq_true.mp tables_complete.2.2.2.2.1 _ h
  have h2 := Proofs.zipIdx_all_getD (List.all_eq_true.mp undefined_halts_all_gas_table _ h) (hlen ▸ hop) (99, 0)
  simp only [Bool.and_eq_true, beq_iff_eq, Bool.or_eq_true, Bool.not_eq_true'] at h2
  refine ⟨h2.1, fun hg => ?_⟩
  rcases h2.2 with h3 | h3
  · rw [hg] at h3; cases h3
  · exact h3

/-- the gate results are error-class results (so the frame machine spends all gas) -/
theorem gate_results_are_errors :
    (Gen.iresult.filter (fun r => r.1 = "NotActivated" ∨ r.1 = "OpcodeNotFound" ∨ r.1 = "EOFOpcodeDisabledInLegacy"
        ∨ r.1 = "ReturnContractInNotInitEOF")).map (fun r => (r.1, r.2.2.2)) =
    [("OpcodeNotFound", true), ("NotActivated", true), ("ReturnContractInNotInitEOF", true),
     ("EOFOpcodeDisabledInLegacy", true)] := by
  decide +kernel

def preRowOk (spec : Nat) (rows : List (Nat × Bool × Bool × Bool)) : Bool :=
  rows.all fun (addr, direct, viaHandler, behavesEmpty) =>
    direct == isPrecompileIn spec addr && viaHandler == isPrecompileIn spec addr &&
    behavesEmpty == !isPrecompileIn spec addr

/-- every address 0..=0x20, 0xff, 0x100, 0x101, 0xdead × every SpecId: member of the precompile
set (directly and as loaded by the handler) iff introduced, and a call transaction to it behaves
exactly like a call to an empty account iff it is not (yet) a precompile -/
theorem precompile_iff_table : Gen.precompiles.all (fun r => preRowOk r.1 r.2) = true := by
  decide +kernel

theorem precompile_addresses_covered :
    Gen.precompiles.all (fun r => r.2.map (·.1) == (List.range 33 ++ [0xff, 0x100, 0x101, 0xdead])) = true := by
  decide +kernel

theorem precompile_iff (spec : Nat) (rows : List (Nat × Bool × Bool × Bool)) (h : (spec, rows) ∈ Gen.precompiles)
    (addr : Nat) (d v e : Bool) (hr : (addr, d, v, e) ∈ rows) :
    d = isPrecompileIn spec addr ∧ v = isPrecompileIn spec addr ∧ e = !isPrecompileIn spec addr := by
  have h1 := List.all_eq_true.mp precompile_iff_table _ h
  have h2 := List.all_eq_true.mp h1 _ hr
  simpa [Bool.and_eq_true, and_assoc] using h2

/-- `SpecId::enabled(a, b)` is the numeric order, for every pair -/
theorem enabled_is_order : Gen.enabledTable.all (fun (a, b, e) => e == decide (a ≥ b)) = true := by
  decide +kernel

/-- the specification tables are not vacuous: SHL is undefined in Byzantium and defined in
Constantinople; blake2f is a precompile from Istanbul -/
example : undefinedIn 6 0x1b = true ∧ undefinedIn 7 0x1b = false ∧
    isPrecompileIn 8 9 = false ∧ isPrecompileIn 9 9 = true := by decide

end Revm.Props.C05
