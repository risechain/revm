import Revm.Proofs.Bytecode
/-! C27 — stored bytecode keeps its original bytes and hash.

`Model.Bytecode` follows `bytecode.rs`, `bytecode/legacy.rs`, `eip7702/bytecode.rs` and
`analysis.rs::to_analysed`. Every theorem holds for an **arbitrary** EOF decoder `dec` (the codec is
property C26; of `Eof::decode` only `Ok(Self { header, body, raw })` is used) and an **arbitrary**
`keccak` (keccak256 is trusted; the correspondence stream compares `hash_slow()` with alloy's
keccak256 of the input bytes). Bytes are `List Nat`; addresses are lists of length 20. -/
namespace Revm.Props.C27
open Revm.Model.Bytecode Revm.Proofs.Bytecode

variable {ε : Type}

/-! ## constructors report exactly the bytes they were built from -/

/-- `new_raw_checked(bs) = Ok(bc)` ⇒ `bc.original_bytes() = bs` — legacy, EF00 and EF01 prefixes -/
theorem original_bytes_eq (dec : List Nat → Except EofErr ε) (bs : List Nat) (bc : Bytecode ε)
    (h : Bytecode.newRawChecked dec bs = .ok bc) : bc.originalBytes = .ok bs :=
  newRawChecked_original dec bs bc h

example : Bytecode.newRawChecked (fun _ => (.ok () : Except EofErr Unit)) [0xef, 0x00, 0x01, 0x07]
    = .ok (.eof ⟨(), [0xef, 0x00, 0x01, 0x07]⟩) := rfl
example : ∃ bc, Bytecode.newRawChecked (fun _ => (.error "MissingInput" : Except EofErr Unit)) [0x60, 0x00, 0x5b]
    = .ok bc := ⟨_, rfl⟩

/-- `new_raw(bs)` returns the same value as `new_raw_checked` and panics exactly when that is an error -/
theorem new_raw_eq (dec : List Nat → Except EofErr ε) (bs : List Nat) :
    Bytecode.newRaw dec bs =
      (match Bytecode.newRawChecked dec bs with | .ok b => .ok b | .error _ => .panic) := rfl

theorem original_bytes_eq_new_raw (dec : List Nat → Except EofErr ε) (bs : List Nat) (bc : Bytecode ε)
    (h : Bytecode.newRaw dec bs = .ok bc) : bc.originalBytes = .ok bs := by
  unfold Bytecode.newRaw at h
  cases hc : Bytecode.newRawChecked dec bs with
  | error e => simp [hc] at h
  | ok b => simp only [hc, Res.ok.injEq] at h; subst h; exact newRawChecked_original dec bs b hc

example : ∃ bc, Bytecode.newRaw (fun _ => (.ok () : Except EofErr Unit)) [0x00] = .ok bc := ⟨_, rfl⟩

/-- `new_legacy(bs).original_bytes() = bs` whatever the prefix -/
theorem original_bytes_eq_legacy (bs : List Nat) :
    (Bytecode.newLegacy bs : Bytecode ε).originalBytes = .ok bs := rfl

/-- which variant `new_raw_checked` builds, and every error it can return: the first two bytes
`ef00` select the EOF decoder, `ef01` the EIP-7702 decoder, anything else (also fewer than two bytes)
is raw legacy code and never fails -/
theorem classification (dec : List Nat → Except EofErr ε) (bs : List Nat) :
    Bytecode.newRawChecked dec bs =
      if bs.take 2 = [0xef, 0x00] then
        (match dec bs with
         | .ok p => .ok (.eof ⟨p, bs⟩)
         | .error e => .error (.eof e))
      else if bs.take 2 = [0xef, 0x01] then
        (match Eip7702Bytecode.newRaw bs with
         | .ok e => .ok (.eip7702 e)
         | .error e => .error (.eip7702 e))
      else .ok (.legacyRaw bs) :=
  newRawChecked_kind dec bs

/-! ## length, emptiness, hash -/

/-- `len()` is the number of bytes given, `is_empty()` says whether there were none -/
theorem len_eq (dec : List Nat → Except EofErr ε) (bs : List Nat) (bc : Bytecode ε)
    (h : Bytecode.newRawChecked dec bs = .ok bc) :
    bc.len = .ok bs.length ∧ bc.isEmpty = .ok (bs.length == 0) :=
  len_of_original bc bs (newRawChecked_original dec bs bc h)

/-- `hash_slow()` is keccak256 of the bytes given, or `KECCAK_EMPTY` when there were none -/
theorem hash_eq (keccak : List Nat → Nat) (dec : List Nat → Except EofErr ε) (bs : List Nat) (bc : Bytecode ε)
    (h : Bytecode.newRawChecked dec bs = .ok bc) :
    bc.hashSlow keccak = .ok (if bs = [] then KECCAK_EMPTY else keccak bs) :=
  hash_of_original keccak bc bs (newRawChecked_original dec bs bc h)

example : Bytecode.newRawChecked (fun _ => (.ok () : Except EofErr Unit)) [] = .ok (.legacyRaw []) := rfl

/-- the same for any bytecode value whose `original_bytes()` is `bs` (e.g. after analysis) -/
theorem len_hash_of_original (keccak : List Nat → Nat) (bc : Bytecode ε) (bs : List Nat)
    (h : bc.originalBytes = .ok bs) :
    bc.len = .ok bs.length ∧ bc.isEmpty = .ok (bs.length == 0) ∧
    bc.hashSlow keccak = .ok (if bs = [] then KECCAK_EMPTY else keccak bs) :=
  ⟨(len_of_original bc bs h).1, (len_of_original bc bs h).2, hash_of_original keccak bc bs h⟩

example : (Bytecode.newLegacy [1, 2] : Bytecode Unit).originalBytes = .ok [1, 2] := rfl

/-- `Bytecode::new()` (default): no original bytes, length 0, empty-code hash, one STOP byte to run -/
theorem default_bytecode (keccak : List Nat → Nat) :
    (Bytecode.new : Bytecode ε).originalBytes = .ok [] ∧ (Bytecode.new : Bytecode ε).len = .ok 0 ∧
    (Bytecode.new : Bytecode ε).hashSlow keccak = .ok KECCAK_EMPTY ∧
    (Bytecode.new : Bytecode ε).bytes = .ok [0] :=
  ⟨rfl, rfl, rfl, rfl⟩

/-! ## jump analysis never changes the original bytes -/

/-- for **every** bytecode value (raw, already analysed, EOF, 7702): `to_analysed` leaves
`original_bytes()`, `len()`, `is_empty()` and `hash_slow()` unchanged -/
theorem analysis_preserves_original (keccak : List Nat → Nat) (bc : Bytecode ε) :
    (toAnalysed bc).originalBytes = bc.originalBytes ∧ (toAnalysed bc).len = bc.len ∧
    (toAnalysed bc).isEmpty = bc.isEmpty ∧ (toAnalysed bc).hashSlow keccak = bc.hashSlow keccak := by
  have h := toAnalysed_original bc
  simp only [Bytecode.len, Bytecode.isEmpty, Bytecode.hashSlow, h, and_self]

/-- analysing raw legacy code: the executed bytes are the original bytes followed by exactly 33 zero
bytes, `original_bytes()` strips them again, the jump table has one bit per padded byte, and the
result is execution-ready -/
theorem analysis_padding (bs : List Nat) :
    (toAnalysed (Bytecode.newLegacy bs : Bytecode ε)).bytes = .ok (bs ++ List.replicate 33 0) ∧
    (toAnalysed (Bytecode.newLegacy bs : Bytecode ε)).originalBytes = .ok bs ∧
    ((toAnalysed (Bytecode.newLegacy bs : Bytecode ε)).legacyJumpTable.map List.length) = some (bs.length + 33) ∧
    (toAnalysed (Bytecode.newLegacy bs : Bytecode ε)).isExecutionReady = true := by
  refine ⟨rfl, toAnalysed_original _, ?_, rfl⟩
  simp [toAnalysed, Bytecode.newLegacy, Bytecode.legacyJumpTable, analyze_length]

theorem analysis_idempotent (bc : Bytecode ε) : toAnalysed (toAnalysed bc) = toAnalysed bc :=
  toAnalysed_idem bc

/-- a hand-built `LegacyAnalyzedBytecode::new(bytes, original_len, _)` (public constructor, not built
from code bytes) reports the first `original_len` bytes, and its accessors panic iff `original_len`
exceeds the stored length -/
theorem analyzed_accessor_panics_iff (a : LegacyAnalyzed) :
    (a.originalBytes = .panic ↔ a.bytecode.length < a.originalLen) ∧
    (a.originalLen ≤ a.bytecode.length → a.originalBytes = .ok (a.bytecode.take a.originalLen)) := by
  unfold LegacyAnalyzed.originalBytes
  by_cases h : a.originalLen ≤ a.bytecode.length
  · simp [h]
  · simp [h]; omega

/-! ## EIP-7702 delegation designator -/

/-- for every 20-byte address: `new(a)` is the 23 bytes `ef 01 00 ‖ a`, decodes back to the same
value, and reports `a` -/
theorem eip7702_roundtrip (a : List Nat) (ha : a.length = 20) :
    (Eip7702Bytecode.new a).raw.length = 23 ∧
    (Eip7702Bytecode.new a).raw = 0xef :: 0x01 :: 0x00 :: a ∧
    Eip7702Bytecode.newRaw (Eip7702Bytecode.new a).raw = .ok (Eip7702Bytecode.new a) ∧
    (Eip7702Bytecode.new a).address = a :=
  ⟨new_raw_len a ha, new_raw_bytes a, newRaw_new a ha, rfl⟩

example : (List.replicate 20 0xaa).length = 20 := rfl

/-- every designator that decodes re-encodes to the same 23 bytes: `new(decode(raw).address) = decode(raw)`
and its raw bytes are `raw` -/
theorem eip7702_decode_reencode (raw : List Nat) (e : Eip7702Bytecode)
    (h : Eip7702Bytecode.newRaw raw = .ok e) :
    raw.length = 23 ∧ e.raw = raw ∧ e.address.length = 20 ∧ e.version = 0 ∧
    Eip7702Bytecode.new e.address = e ∧ (Eip7702Bytecode.new e.address).raw = raw := by
  obtain ⟨h1, h2, h3, h4, _⟩ := newRaw_ok raw e h
  have h5 := new_of_newRaw raw e h
  exact ⟨h1, h2, h4, h3, h5, by rw [h5]; exact h2⟩

example : Eip7702Bytecode.newRaw (0xef :: 0x01 :: 0x00 :: List.replicate 20 0x11)
    = .ok ⟨List.replicate 20 0x11, 0, 0xef :: 0x01 :: 0x00 :: List.replicate 20 0x11⟩ := rfl

/-- the three errors of `Eip7702Bytecode::new_raw`, exactly and in the order of the code -/
theorem eip7702_errors (raw : List Nat) :
    (Eip7702Bytecode.newRaw raw = .error .InvalidLength ↔ raw.length ≠ 23) ∧
    (Eip7702Bytecode.newRaw raw = .error .InvalidMagic ↔ raw.length = 23 ∧ raw.take 2 ≠ [0xef, 0x01]) ∧
    (Eip7702Bytecode.newRaw raw = .error .UnsupportedVersion ↔
      raw.length = 23 ∧ raw.take 2 = [0xef, 0x01] ∧ raw[2]? ≠ some 0) :=
  ⟨newRaw_err_length raw, newRaw_err_magic raw, newRaw_err_version raw⟩

/-- through `Bytecode`: the designator of a 20-byte address is classified as EIP-7702 and is the
value `new_eip7702(a)`; its original bytes are the 23 bytes -/
theorem eip7702_via_bytecode (dec : List Nat → Except EofErr ε) (a : List Nat) (ha : a.length = 20) :
    Bytecode.newRawChecked dec (Eip7702Bytecode.new a).raw = .ok (Bytecode.newEip7702 a) ∧
    (Bytecode.newEip7702 a : Bytecode ε).originalBytes = .ok (0xef :: 0x01 :: 0x00 :: a) := by
  refine ⟨?_, by rw [← new_raw_bytes]; rfl⟩
  rw [newRawChecked_kind, newRaw_new a ha, new_raw_bytes]
  simp [Bytecode.newEip7702]

end Revm.Props.C27
