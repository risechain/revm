import Revm.Proofs.GasCalc
import Revm.Proofs.GasCalcTx
/-! C14 — dynamic gas cost formulas equal the specification for all arguments.

`Model.GasCalc.f` follows `gas/calc.rs` (u64 checked / saturating / wrapping arithmetic, the
hardfork as `SpecId as u8`); `Spec.GasCalc.f` is the EIP / Yellow Paper formula over unbounded `Nat`
per named fork. For an `Option<u64>` function the property reads
`Model.f args = some v ↔ Spec.f args = v ∧ v < 2^64` (failure exactly when the true value does not
fit); for a `u64` function plain equality.

Two places where the *code* does not satisfy that reading (the model stays faithful, see the
`_counterexample` theorems): (1) `num_words` saturates at `len > 2^64 − 32` and is one word short,
which every per-word cost inherits; (2) `calculate_initial_tx_gas` / `calc_tx_floor_cost` use
wrapping `+`/`*` and cannot report failure. A third one, `memory_gas` squaring with `saturating_mul`
and undercharging from 2^32 words on, was repaired in /repo (`fix: memory_gas undercharged …`); the
model follows the repaired code and `memory_gas_full` now holds without a bound. `memory_gas` returns
`u64`, so "reports failure" is saturation to `u64::MAX` (`resize_memory_counterexample` records the
one consequence: a caller holding exactly `u64::MAX` gas). Theorems on the characterised domain are named `_partial`, the full
statement is the `def FullStatement_…` next to them. -/
namespace Revm.Props.C14
open Revm Revm.Model.GasCalc
open Revm.Spec.GasCalc (Fork Pattern ceil32 memCost memExpansion)

/-! ## words -/

def FullStatement_num_words : Prop := ∀ len, len < U64 → numWords len = ceil32 len

theorem num_words_partial (len : Nat) (h : len + 31 < U64) : numWords len = ceil32 len :=
  Proofs.GasCalc.numWords_eq len h
example : (4096 : Nat) + 31 < U64 := by rw [U64_val]; decide

/-- on each of the last 31 lengths the code returns 2^59 − 1 words where 2^59 are needed -/
theorem num_words_saturated (len : Nat) (h1 : U64 ≤ len + 31) (h2 : len < U64) :
    numWords len = 2^59 - 1 ∧ ceil32 len = 2^59 := Proofs.GasCalc.numWords_short len h1 h2
example : U64 ≤ (U64 - 1) + 31 ∧ U64 - 1 < U64 := by rw [U64_val]; decide

theorem num_words_counterexample : ¬ FullStatement_num_words := by
  intro h
  have h1 := h (U64 - 1) (by rw [U64_val]; decide)
  have h2 := Proofs.GasCalc.numWords_short (U64 - 1) (by rw [U64_val]; decide) (by rw [U64_val]; decide)
  omega

def FullStatement_cost_per_word : Prop := ∀ len m v, len < U64 → m < U64 →
  (costPerWord len m = some v ↔ Spec.GasCalc.wordCost len m = v ∧ v < U64)

theorem cost_per_word_partial (len m v : Nat) (h : len + 31 < U64) :
    costPerWord len m = some v ↔ Spec.GasCalc.wordCost len m = v ∧ v < U64 := by
  unfold costPerWord Spec.GasCalc.wordCost
  rw [Proofs.GasCalc.numWords_eq len h]; exact Proofs.GasCalc.checkedMul_iff _ _ _

theorem cost_per_word_counterexample : ¬ FullStatement_cost_per_word := by
  intro h
  have := (h (U64 - 1) 1 (2^59 - 1) (by rw [U64_val]; decide) (by rw [U64_val]; decide)).1 (by rw [U64_val]; decide)
  revert this; rw [U64_val]; decide

/-! ## copy, hash, create, log, exp -/

def FullStatement_verylowcopy_cost : Prop := ∀ len v, len < U64 →
  (verylowcopyCost len = some v ↔ Spec.GasCalc.copyCost len = v ∧ v < U64)
theorem verylowcopy_cost_partial (len v : Nat) (h : len + 31 < U64) :
    verylowcopyCost len = some v ↔ Spec.GasCalc.copyCost len = v ∧ v < U64 := by
  unfold verylowcopyCost costPerWord Spec.GasCalc.copyCost
  rw [Proofs.GasCalc.numWords_eq len h]; exact Proofs.GasCalc.mulAdd_iff _ _ _ _
theorem verylowcopy_cost_counterexample : ¬ FullStatement_verylowcopy_cost := by
  intro h
  have := (h (U64 - 1) (3 + 3 * (2^59 - 1)) (by rw [U64_val]; decide)).1 (by rw [U64_val]; decide)
  revert this; rw [U64_val]; decide

def FullStatement_keccak256_cost : Prop := ∀ len v, len < U64 →
  (keccak256Cost len = some v ↔ Spec.GasCalc.keccak256Cost len = v ∧ v < U64)
theorem keccak256_cost_partial (len v : Nat) (h : len + 31 < U64) :
    keccak256Cost len = some v ↔ Spec.GasCalc.keccak256Cost len = v ∧ v < U64 := by
  unfold keccak256Cost costPerWord Spec.GasCalc.keccak256Cost
  rw [Proofs.GasCalc.numWords_eq len h]; exact Proofs.GasCalc.mulAdd_iff _ _ _ _
theorem keccak256_cost_counterexample : ¬ FullStatement_keccak256_cost := by
  intro h
  have := (h (U64 - 1) (30 + 6 * (2^59 - 1)) (by rw [U64_val]; decide)).1 (by rw [U64_val]; decide)
  revert this; rw [U64_val]; decide

def FullStatement_create2_cost : Prop := ∀ len v, len < U64 →
  (create2Cost len = some v ↔ Spec.GasCalc.create2Cost len = v ∧ v < U64)
theorem create2_cost_partial (len v : Nat) (h : len + 31 < U64) :
    create2Cost len = some v ↔ Spec.GasCalc.create2Cost len = v ∧ v < U64 := by
  unfold create2Cost costPerWord Spec.GasCalc.create2Cost
  rw [Proofs.GasCalc.numWords_eq len h]; exact Proofs.GasCalc.mulAdd_iff _ _ _ _
theorem create2_cost_counterexample : ¬ FullStatement_create2_cost := by
  intro h
  have := (h (U64 - 1) (32000 + 6 * (2^59 - 1)) (by rw [U64_val]; decide)).1 (by rw [U64_val]; decide)
  revert this; rw [U64_val]; decide

def FullStatement_extcodecopy_cost : Prop := ∀ (f : Fork) len c v, len < U64 →
  (extcodecopyCost f.id len c = some v ↔ Spec.GasCalc.extcodecopyCost f len c = v ∧ v < U64)
theorem extcodecopy_cost_partial (f : Fork) (len : Nat) (c : Bool) (v : Nat) (h : len + 31 < U64) :
    extcodecopyCost f.id len c = some v ↔ Spec.GasCalc.extcodecopyCost f len c = v ∧ v < U64 := by
  unfold extcodecopyCost costPerWord Spec.GasCalc.extcodecopyCost
  simp only []
  rw [Proofs.GasCalc.numWords_eq len h, Proofs.GasCalc.extBase_eq]; exact Proofs.GasCalc.mulAdd_iff _ _ _ _
theorem extcodecopy_cost_counterexample : ¬ FullStatement_extcodecopy_cost := by
  intro h
  have := (h .cancun (U64 - 1) true (2600 + 3 * (2^59 - 1)) (by rw [U64_val]; decide)).1 (by rw [U64_val]; decide)
  revert this; rw [U64_val]; decide

def FullStatement_initcode_cost : Prop := ∀ len, len < U64 →
  initcodeCost len = some (Spec.GasCalc.initcodeCost len)
theorem initcode_cost_partial (len : Nat) (h : len + 31 < U64) :
    initcodeCost len = some (Spec.GasCalc.initcodeCost len) := Proofs.GasCalc.initcodeCost_eq len h
/-- `panic!("initcode cost overflow")` is unreachable for every u64 length -/
theorem initcode_cost_never_panics (len : Nat) (h : len < U64) : ∃ v, initcodeCost len = some v := by
  have hU := U64_val
  unfold initcodeCost costPerWord U64ops.checkedMul numWords U64ops.saturatingAdd INITCODE_WORD_COST
  by_cases h1 : len + 31 < U64
  · simp only [h1, if_true]
    have : 2 * ((len + 31) / 32) < U64 := by omega
    simp only [this, if_true]; exact ⟨_, rfl⟩
  · simp only [h1, if_false]
    have : 2 * ((U64 - 1) / 32) < U64 := by omega
    simp only [this, if_true]; exact ⟨_, rfl⟩
theorem initcode_cost_counterexample : ¬ FullStatement_initcode_cost := by
  intro h
  have := h (U64 - 1) (by rw [U64_val]; decide)
  revert this; rw [U64_val]; decide

/-- LOG0..LOG4 (any topic count that fits a `u8`, any u64 length): no excluded region -/
theorem log_cost_iff (n len v : Nat) :
    logCost n len = some v ↔ Spec.GasCalc.logCost n len = v ∧ v < U64 :=
  Proofs.GasCalc.logCost_iff n len v

/-- EXP: for every 256-bit exponent and fork the cost is the EIP-160 formula and always fits -/
theorem exp_cost_eq (f : Fork) (p : Nat) (hp : p < W) :
    expCost f.id p = some (Spec.GasCalc.expCost f p) := Proofs.GasCalc.expCost_eq f p hp
example : (2^255 : Nat) < W := by rw [W_val]; decide

/-! ## hardfork gates -/

/-- `spec_id.is_enabled_in(X)` agrees with the Spec's activation table of the EIP gated on `X` -/
theorem gates_eq (f : Fork) :
    enabled f.id SpecId.HOMESTEAD = f.hasEIP2 ∧ enabled f.id SpecId.TANGERINE = f.hasEIP150 ∧
    enabled f.id SpecId.SPURIOUS_DRAGON = f.hasEIP160 ∧ enabled f.id SpecId.ISTANBUL = f.hasEIP2200 ∧
    enabled f.id SpecId.BERLIN = f.hasEIP2929 ∧ enabled f.id SpecId.LONDON = f.hasEIP3529 ∧
    enabled f.id SpecId.SHANGHAI = f.hasEIP3860 ∧ enabled f.id SpecId.PRAGUE = f.hasEIP7623 :=
  Proofs.GasCalc.gates_eq f

/-! ## SLOAD / SSTORE / SELFDESTRUCT / CALL: complete case split over forks × flags × value patterns -/

theorem sload_cost_eq (f : Fork) (cold : Bool) : sloadCost f.id cold = Spec.GasCalc.sloadCost f cold :=
  Proofs.GasCalc.sloadCost_eq f cold

/-- the patterns partition the (original, current, new) triples: `pat.holds` restricts nothing in the SSTORE theorems -/
theorem pattern_exhaustive (o c n : Nat) : ∃ pat : Pattern, pat.holds o c n :=
  ⟨_, Proofs.GasCalc.classify_holds o c n⟩
theorem pattern_unique (p q : Pattern) (o c n : Nat) (hp : p.holds o c n) (hq : q.holds o c n) : p = q :=
  (Proofs.GasCalc.holds_unique p o c n hp).symm.trans (Proofs.GasCalc.holds_unique q o c n hq)

/-- SSTORE gas equals the EIP-2200 / 2929 table (legacy rule before Istanbul) for every fork,
value pattern, gas left and cold flag, including the "gasleft ≤ 2300" failure -/
theorem sstore_cost_eq (f : Fork) (pat : Pattern) (o p n gas : Nat) (cold : Bool) (h : pat.holds o p n) :
    sstoreCost f.id o p n gas cold = Spec.GasCalc.sstoreCost f pat gas cold :=
  Proofs.GasCalc.sstoreCost_eq f pat o p n gas cold h
example : Pattern.pX0X.holds 7 0 7 := by simp [Pattern.holds]

/-- SSTORE refund equals the EIP-2200 / 3529 table (legacy rule before Istanbul) -/
theorem sstore_refund_eq (f : Fork) (pat : Pattern) (o p n : Nat) (h : pat.holds o p n) :
    sstoreRefund f.id o p n = Spec.GasCalc.sstoreRefund f pat :=
  Proofs.GasCalc.sstoreRefund_eq f pat o p n h

theorem selfdestruct_cost_eq (f : Fork) (hadValue targetExists cold : Bool) :
    selfdestructCost f.id hadValue targetExists cold
      = Spec.GasCalc.selfdestructCost f hadValue targetExists cold :=
  Proofs.GasCalc.selfdestructCost_eq f hadValue targetExists cold

theorem call_cost_eq (f : Fork) (transfersValue cold : Bool) (delegateCold : Option Bool) (isEmpty : Bool) :
    callCost f.id transfersValue cold delegateCold isEmpty
      = Spec.GasCalc.callCost f transfersValue cold delegateCold isEmpty :=
  Proofs.GasCalc.callCost_eq f transfersValue cold delegateCold isEmpty

theorem warm_cold_cost_eq (cold : Bool) : warmColdCost cold = if cold then 2600 else 100 := by cases cold <;> rfl

/-- `warm_cold_cost_with_delegation` is the Berlin access cost of the target plus that of the delegate -/
theorem warm_cold_cost_with_delegation_eq (cold : Bool) (d : Option Bool) :
    warmColdCostWithDelegation cold d = Spec.GasCalc.callCost .berlin false cold d false := by
  cases cold <;> cases d with
  | none => rfl
  | some d => cases d <;> rfl

/-- the test vectors of EIP-2200 (two SSTOREs to one slot: gas used minus 4 PUSHes, refund) hold of the Spec tables -/
example : (Spec.GasCalc.sstoreCost .istanbul (Spec.GasCalc.classify 0 0 0) 10000 false,
           Spec.GasCalc.sstoreCost .istanbul (Spec.GasCalc.classify 0 0 0) 10000 false) = (some 800, some 800) := by decide
example : Spec.GasCalc.sstoreRefund .istanbul (Spec.GasCalc.classify 0 0 1) +
          Spec.GasCalc.sstoreRefund .istanbul (Spec.GasCalc.classify 0 1 0) = 19200 := by decide
example : Spec.GasCalc.sstoreRefund .istanbul (Spec.GasCalc.classify 1 1 0) +
          Spec.GasCalc.sstoreRefund .istanbul (Spec.GasCalc.classify 1 0 1) = 4200 := by decide
example : Spec.GasCalc.sstoreRefund .istanbul (Spec.GasCalc.classify 1 1 2) +
          Spec.GasCalc.sstoreRefund .istanbul (Spec.GasCalc.classify 1 2 0) = 15000 := by decide
example : Spec.GasCalc.sstoreCost .istanbul (Spec.GasCalc.classify 1 1 2) 10000 false = some 5000 ∧
          Spec.GasCalc.sstoreCost .istanbul (Spec.GasCalc.classify 1 2 1) 10000 false = some 800 ∧
          Spec.GasCalc.sstoreRefund .istanbul (Spec.GasCalc.classify 1 2 1) = 4200 := by decide
example : Spec.GasCalc.sstoreCost .istanbul (Spec.GasCalc.classify 0 0 1) 10000 false = some 20000 ∧
          Spec.GasCalc.sstoreCost .london (Spec.GasCalc.classify 1 1 0) 10000 true = some 5000 ∧
          Spec.GasCalc.sstoreRefund .london (Spec.GasCalc.classify 1 1 0) = 4800 := by decide

/-! ## memory -/

def FullStatement_memory_gas : Prop := ∀ w, w < U64 →
  (memCost w < U64 → memoryGas w = memCost w) ∧ (U64 ≤ memCost w → memoryGas w = U64 - 1)

/-- `memory_gas` (after the repair `fix: memory_gas undercharged …`: 128-bit intermediate) is the
Yellow Paper C_mem whenever that fits in 64 bits and `u64::MAX` otherwise, for every word count -/
theorem memory_gas_full : FullStatement_memory_gas :=
  fun w _ => ⟨Proofs.GasCalc.memoryGas_exact w, Proofs.GasCalc.memoryGas_sat w⟩

theorem memory_gas_eq_min (w : Nat) : memoryGas w = min (memCost w) (U64 - 1) :=
  Proofs.GasCalc.memoryGas_full w

/-- below 2^32 words (128 GiB) C_mem always fits -/
theorem memory_gas_below_2_32 (w : Nat) (h : w < 2^32) : memoryGas w = memCost w :=
  Proofs.GasCalc.memoryGas_eq w h
example : (724 : Nat) < 2^32 := by decide

/-- regression of the repaired defect: 2^33 words cost 144115213845659648 (the code used to say
36028822788767743), and 2^37 words (true cost above 2^64) saturate -/
theorem memory_gas_regression :
    memoryGas (2^33) = 144115213845659648 ∧ memoryGas (2^37) = 18446744073709551615 := by decide

def FullStatement_resize_memory : Prop := ∀ cur rem new, cur ≤ new → new < U64 → rem < U64 →
  resizeMemory cur rem new =
    if memExpansion cur new ≤ rem then (true, rem - memExpansion cur new, 32 * ceil32 new)
    else (false, rem, cur)

/-- `resize_memory` (expansion to a size whose C_mem fits in 64 bits, i.e. up to about 2^36.5 words):
charges exactly the expansion cost, fails (`MemoryOOG`) exactly when it exceeds the gas left, new
length is the word-aligned size -/
theorem resize_memory_partial (cur rem new : Nat) (hcn : cur ≤ new) (hnew : new + 31 < U64)
    (hfit : memCost (ceil32 new) < U64) :
    resizeMemory cur rem new =
      if memExpansion cur new ≤ rem then (true, rem - memExpansion cur new, 32 * ceil32 new)
      else (false, rem, cur) := Proofs.GasCalc.resizeMemory_eq cur rem new hcn hnew hfit
example : (64 : Nat) ≤ 2^38 ∧ 2^38 + 31 < U64 ∧ memCost (ceil32 (2^38)) < U64 := by
  rw [U64_val]; decide

/-- what remains outside: `memory_gas` cannot report failure, it saturates to `u64::MAX`; with
exactly `u64::MAX` gas left an expansion whose true cost needs more than 64 bits is accepted -/
theorem resize_memory_counterexample : ¬ FullStatement_resize_memory := by
  intro h
  have := h 0 (U64 - 1) (2^42) (by decide) (by rw [U64_val]; decide) (by rw [U64_val]; decide)
  revert this; rw [U64_val]; decide

/-- the `resize_memory!` macro under the same bound -/
theorem resize_macro_partial (cur rem off len : Nat) (h : off + len + 31 < U64)
    (hfit : memCost (ceil32 (off + len)) < U64) :
    resizeMemoryMacro cur rem off len =
      if off + len ≤ cur then some (rem, cur)
      else if memExpansion cur (off + len) ≤ rem then
        some (rem - memExpansion cur (off + len), 32 * ceil32 (off + len))
      else none := by
  have hU := U64_val
  unfold resizeMemoryMacro U64ops.saturatingAdd
  have h1 : off + len < U64 := by omega
  simp only [h1, if_true]
  by_cases hc : off + len ≤ cur
  · have : ¬ (off + len > cur) := by omega
    simp only [this, hc, if_true, if_false]
  · have hgt : off + len > cur := by omega
    simp only [hgt, hc, if_true, if_false]
    rw [Proofs.GasCalc.resizeMemory_eq cur rem (off + len) (by omega) h hfit]
    by_cases he : memExpansion cur (off + len) ≤ rem
    · simp only [he, if_true]
    · simp only [he, if_false]; simp
example : (100 : Nat) + 200 + 31 < U64 ∧ memCost (ceil32 (100 + 200)) < U64 := by rw [U64_val]; decide

/-! ## transaction intrinsic gas and floor -/


def FullStatement_tokens : Prop := ∀ (input : List Nat) (ist : Bool), input.length < U64 →
  getTokensInCalldata input ist
    = Spec.GasCalc.zeroBytes input + (if ist then 4 else 17) * Spec.GasCalc.nonZeroBytes input

/-- `get_tokens_in_calldata`: zero bytes + 4 (before EIP-2028: 17) per non-zero byte, whenever that
fits in 64 bits even with the larger multiplier (calldata below 2^59 bytes). The full statement is
not refuted here: a witness needs more than 2^59 bytes of calldata. -/
theorem tokens_partial (input : List Nat) (ist : Bool)
    (h : Spec.GasCalc.zeroBytes input + 17 * Spec.GasCalc.nonZeroBytes input < U64) :
    getTokensInCalldata input ist
      = Spec.GasCalc.zeroBytes input + (if ist then 4 else 17) * Spec.GasCalc.nonZeroBytes input :=
  Proofs.GasCalc.getTokensInCalldata_eq input ist (by cases ist <;> simp only [Bool.false_eq_true, if_true, if_false] <;> omega)
example : Spec.GasCalc.zeroBytes [0, 5, 0, 7] + 17 * Spec.GasCalc.nonZeroBytes [0, 5, 0, 7] < U64 := by
  rw [U64_val]; decide

def FullStatement_floor_cost : Prop := ∀ t, t < U64 → calcTxFloorCost t = 21000 + 10 * t

/-- `calc_tx_floor_cost` (EIP-7623) whenever 21000 + 10·tokens fits in 64 bits -/
theorem floor_cost_partial (t : Nat) (h : 21000 + 10 * t < U64) : calcTxFloorCost t = 21000 + 10 * t :=
  Proofs.GasCalc.calcTxFloorCost_eq t h
example : 21000 + 10 * 1000000 < U64 := by rw [U64_val]; decide

theorem floor_cost_counterexample : ¬ FullStatement_floor_cost := by
  intro h
  have := h (2^63) (by rw [U64_val]; decide)
  revert this; decide

/-- the property's reading for a function that cannot fail would be: equal when the true values fit,
and some failure (here: the panic outcome `none`) when they do not -/
def FullStatement_initial_tx_gas : Prop :=
  ∀ (f : Fork) (input : List Nat) (cr : Bool) (acl : List Nat) (auth : Nat), auth < U64 →
    let ig := Spec.GasCalc.intrinsicGas f input cr acl auth
    let fg := Spec.GasCalc.floorGas f input
    (ig < U64 ∧ fg < U64 → calculateInitialTxGas f.id input cr acl auth = some (ig, fg)) ∧
    (¬ (ig < U64 ∧ fg < U64) → calculateInitialTxGas f.id input cr acl auth = none)

/-- whenever the true intrinsic gas and floor fit in 64 bits, `calculate_initial_tx_gas` returns
exactly them (every fork, calldata, access list, authorization count); no wrap, no panic -/
theorem initial_tx_gas_partial (f : Fork) (input : List Nat) (cr : Bool) (acl : List Nat) (auth : Nat)
    (h1 : Spec.GasCalc.intrinsicGas f input cr acl auth < U64) (h2 : Spec.GasCalc.floorGas f input < U64) :
    calculateInitialTxGas f.id input cr acl auth
      = some (Spec.GasCalc.intrinsicGas f input cr acl auth, Spec.GasCalc.floorGas f input) :=
  Proofs.GasCalc.calculateInitialTxGas_eq f input cr acl auth h1 h2
example : Spec.GasCalc.intrinsicGas .prague [0, 1, 2] true [2, 0] 3 < U64 ∧
    Spec.GasCalc.floorGas .prague [0, 1, 2] < U64 := by rw [U64_val]; decide

/-- witness: 737869762948383 authorizations (true cost ≥ 2^64) wrap to an intrinsic gas of 44384 -/
theorem initial_tx_gas_counterexample : ¬ FullStatement_initial_tx_gas := by
  intro h
  have := (h .prague [] false [] 737869762948383 (by rw [U64_val]; decide)).2 (by rw [U64_val]; decide)
  revert this; decide

/-- `validate_initial_tx_gas`: when the true values fit, the transaction is rejected exactly when
the gas limit is below the intrinsic gas (first) or below the EIP-7623 floor -/
theorem validate_initial_tx_gas_partial (f : Fork) (input : List Nat) (cr : Bool) (acl : List Nat)
    (nauth lim : Nat) (h1 : Spec.GasCalc.intrinsicGas f input cr acl nauth < U64)
    (h2 : Spec.GasCalc.floorGas f input < U64) :
    validateInitialTxGas f.id input cr acl nauth lim =
      if Spec.GasCalc.intrinsicGas f input cr acl nauth > lim then .callGasCostMoreThanGasLimit
      else if Spec.GasCalc.floorGas f input > lim then .gasFloorMoreThanGasLimit
      else .ok (Spec.GasCalc.intrinsicGas f input cr acl nauth) (Spec.GasCalc.floorGas f input) :=
  Proofs.GasCalc.validateInitialTxGas_eq f input cr acl nauth lim h1 h2

end Revm.Props.C14
