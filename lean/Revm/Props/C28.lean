import Revm.Proofs.InspectorWrapTop
import Revm.Proofs.InspectorWrapEx
import Revm.Gen.Tables
/-! C28 — observing inspectors do not change execution.

"For every transaction, running it with an inspector that only observes (the no-op inspector, the gas
inspector, the EIP-3155 tracer) produces the same result, gas, logs and state changes as running it
without an inspector."

`Model.InspectorWrap` models `inspector_handle_register` as a transformer `wrap ops obs` of an ARBITRARY
frame machine `m` (instruction table and frame handlers are arbitrary functions), together with the
driver that runs either machine (`Interpreter::step` / `run`, `execute_frame`, `run_the_loop`, first frame,
`last_frame_return`).  If the inspector is `Observing` (its callbacks return the interpreter, context and
inputs unchanged, return `None`, and return outcomes related by `rel` to what they received) and the
machine's outcome consumers `Respects` that relation, then for every first input, context, fuel and initial
content of the wrapper's input stacks the wrapped run returns exactly what the plain run returns: the same
`FrameResult` (class, output, gas), context (journal, logs, state) and error — and never an additional
panic (the input stacks are never popped empty).  What follows (`refund`, `reimburse_caller`,
`reward_beneficiary`, `output`) is not wrapped by the register and receives equal arguments.

* `NoOpInspector` is `Observing` with `rel = ORel.eq`, which every machine respects.
* `GasInspector` and `TracerEip3155` are NOT observing up to equality: `call_end` / `create_end` call
  `gas.spend_all()` on an error-class outcome (`gas_inspector_modifies_outcome`).  They are observing up to
  `ORel.errGas` (gas of ERROR-class outcomes is arbitrary), and the consumers of the code
  (`insert_call_outcome`, `insert_create_outcome`, `insert_eofcreate_outcome`, mainnet and Optimism
  `last_frame_return`, transcribed line by line) never read the gas of an error-class outcome
  (`…_blind`), hence `gas_inspector_invisible_because_error_gas_unread`.  With a consumer that does read it
  the modification becomes visible (`gas_inspector_visible_to_gas_reading_consumer`): for these two
  inspectors the property is a property of inspector AND handlers together.

`dropW r` is the result `r` of a wrapped run with the wrapper state (inspector state, three input stacks) forgotten;
`withObs w s'` is `w` with only the inspector's state replaced; `RSim P`: two `ok`s related by `P`, or the same error,
or two panics. -/
namespace Revm.Props.C28
open Revm Revm.Model.InspectorWrap
open Revm.Proofs.InspectorWrap (withObs dropW pushCall pushCreate pushEof)

variable {T : Ty} {S : Type}

/-! ## `InstructionResult` classes: the model's table is the compiled code's table -/

/-- `is_ok / is_revert / is_error` of every `InstructionResult` variant, as generated from the compiled
implementation (`Revm.Gen.iresult`), equal the model's classification -/
theorem ir_table_eq : irTable = Revm.Gen.iresult := rfl

theorem ir_classes_disjoint (r : IR) :
    (r.isOk = true ∧ r.isRevert = false ∧ r.isError = false) ∨
    (r.isOk = false ∧ r.isRevert = true ∧ r.isError = false) ∨
    (r.isOk = false ∧ r.isRevert = false ∧ r.isError = true) ∨
    (r = .CallOrCreate ∧ r.isOk = false ∧ r.isRevert = false ∧ r.isError = false) :=
  Proofs.InspectorWrap.ir_classes r

/-! ## The wrapped instruction -/

/-- `inspector_instruction`: on a running interpreter (`instruction_result == Continue`, the loop condition
of `Interpreter::run`) whose pointer was advanced by `step` (`1 ≤ ip`), `ip − 1 … ip + 1` nets to the
identity and the wrapped instruction executes exactly the plain instruction; only the inspector's own
state changes (the input stacks do not). -/
theorem wrapped_instruction_eq {rel : ORel} {obs : Observer T S} (h : Observing obs rel)
    (instr : IState T → T.E → IState T × T.E) (st : IState T) (e : T.E) (w : WState T S)
    (hc : st.instructionResult = .Continue) (hip : 1 ≤ st.ip) :
    ∃ s', inspectorInstruction obs (liftInstr instr) st (e, w) = ((instr st e).1, ((instr st e).2, withObs w s')) :=
  Proofs.InspectorWrap.inspectorInstruction_running h instr st (e, w) hc hip

/-- what happens otherwise: entered with `instruction_result ≠ Continue`, the wrapper returns early — the
instruction is not executed and the pointer stays decremented. (`run` never does this: see
`wrapped_run_eq`, which needs no such hypothesis.) -/
theorem wrapped_instruction_halted {rel : ORel} {obs : Observer T S} (h : Observing obs rel)
    (prev : IState T → T.E × WState T S → IState T × (T.E × WState T S)) (st : IState T) (e : T.E)
    (w : WState T S) (hc : st.instructionResult ≠ .Continue) :
    ∃ s', inspectorInstruction obs prev st (e, w) = ({ st with ip := st.ip - 1 }, (e, withObs w s')) := by
  have hs := h.step w.obs { st with ip := st.ip - 1 } e
  refine ⟨(obs.step w.obs { st with ip := st.ip - 1 } e).1, ?_⟩
  unfold inspectorInstruction
  dsimp only
  simp only [hs, ne_eq, hc, not_false_eq_true, if_true]

/-- every entry of the wrapped table (incl. the LOG0–LOG4 and SELFDESTRUCT double wrappers) -/
theorem wrapped_table_eq {rel : ORel} {obs : Observer T S} (h : Observing obs rel) (ops : EnvOps T)
    (table : Nat → IState T → T.E → IState T × T.E) (opcode : Nat) (st : IState T) (e : T.E) (w : WState T S)
    (hc : st.instructionResult = .Continue) (hip : 1 ≤ st.ip) :
    ∃ s', wrapTable ops obs table opcode st (e, w) =
      ((table opcode st e).1, ((table opcode st e).2, withObs w s')) :=
  Proofs.InspectorWrap.wrapTable_running h ops table opcode st (e, w) hc hip

/-- the `unwrap` of the last log in the LOG wrapper is safe -/
theorem log_wrapper_unwrap_safe {α : Type} (l : List α) (n : Nat) (h : l.length = n + 1) :
    l.getLast?.isSome = true := by
  cases l with
  | nil => simp at h
  | cons a t => simp [List.getLast?_cons]

/-- `Interpreter::step` (fetch, advance, dispatch) on a running interpreter: no hypothesis on `ip` -/
theorem wrapped_step_eq {rel : ORel} {obs : Observer T S} (h : Observing obs rel) (ops : EnvOps T)
    (m : Machine T T.E) (st : IState T) (e : T.E) (w : WState T S) (hc : st.instructionResult = .Continue) :
    ∃ s', (wrap ops obs m).step st (e, w) = ((m.step st e).1, ((m.step st e).2, withObs w s')) :=
  Proofs.InspectorWrap.wrap_step h ops m st (e, w) hc

/-- `Interpreter::run`, any number of instructions, any start state: same action, same interpreter, same
context; out of fuel at the same fuel -/
theorem wrapped_run_eq {rel : ORel} {obs : Observer T S} (h : Observing obs rel) (ops : EnvOps T)
    (m : Machine T T.E) (fuel : Nat) (st : IState T) (mem : T.Mem) (e : T.E) (w : WState T S) :
    ∃ s', (wrap ops obs m).run fuel st mem (e, w) =
      Proofs.InspectorWrap.liftAct w s' (m.run fuel st mem e) :=
  Proofs.InspectorWrap.wrap_run h ops m fuel st mem (e, w)

/-! ## The wrapped frame handlers -/

/-- `call` / `create` / `eofcreate`: the previous handler's answer, the inputs pushed on the stack of that kind -/
theorem wrapped_frame_handlers_eq {rel : ORel} {obs : Observer T S} (h : Observing obs rel) (ops : EnvOps T)
    (m : Machine T T.E) (e : T.E) (w : WState T S) :
    (∀ i, ∃ s', (wrap ops obs m).call (e, w) i = liftRes (withObs (pushCall w i) s') (m.call e i)) ∧
    (∀ i, ∃ s', (wrap ops obs m).create (e, w) i = liftRes (withObs (pushCreate w i) s') (m.create e i)) ∧
    (∀ i, ∃ s', (wrap ops obs m).eofcreate (e, w) i = liftRes (withObs (pushEof w i) s') (m.eofcreate e i)) :=
  ⟨fun i => Proofs.InspectorWrap.wrap_call h ops m (e, w) i,
   fun i => Proofs.InspectorWrap.wrap_create h ops m (e, w) i,
   fun i => Proofs.InspectorWrap.wrap_eofcreate h ops m (e, w) i⟩

/-- `insert_call_outcome` with a non-empty input stack: the previous handler's answer on the ORIGINAL outcome,
one input popped. (With an empty stack the wrapper panics: `wrapped_insert_empty_stack_panics`.) -/
theorem wrapped_insert_call_outcome_eq {rel : ORel} {obs : Observer T S} (h : Observing obs rel)
    (ops : EnvOps T) (m : Machine T T.E) (hr : Respects m rel) (e : T.E) (w : WState T S) (f : Frame T)
    (sh : T.Mem) (o : CallOutcome) (x : T.CallIn) (rest : List T.CallIn) (hst : w.callStack = x :: rest) :
    ∃ s', Proofs.InspectorWrap.RSim
      (fun a b => b = (a.1, a.2.1, (a.2.2, ({ w with obs := s', callStack := rest } : WState T S))))
      (m.insertCallOutcome e f sh o) ((wrap ops obs m).insertCallOutcome (e, w) f sh o) :=
  Proofs.InspectorWrap.wrap_insertCall h ops m hr (e, w) f sh o x rest hst

theorem wrapped_insert_create_outcome_eq {rel : ORel} {obs : Observer T S} (h : Observing obs rel)
    (ops : EnvOps T) (m : Machine T T.E) (hr : Respects m rel) (e : T.E) (w : WState T S) (f : Frame T)
    (o : CreateOutcome) (x : T.CreateIn) (rest : List T.CreateIn) (hst : w.createStack = x :: rest) :
    ∃ s', Proofs.InspectorWrap.RSim
      (fun a b => b = (a.1, (a.2, ({ w with obs := s', createStack := rest } : WState T S))))
      (m.insertCreateOutcome e f o) ((wrap ops obs m).insertCreateOutcome (e, w) f o) :=
  Proofs.InspectorWrap.wrap_insertCreate h ops m hr (e, w) f o x rest hst

theorem wrapped_insert_eofcreate_outcome_eq {rel : ORel} {obs : Observer T S} (h : Observing obs rel)
    (ops : EnvOps T) (m : Machine T T.E) (hr : Respects m rel) (e : T.E) (w : WState T S) (f : Frame T)
    (o : CreateOutcome) (x : T.EofIn) (rest : List T.EofIn) (hst : w.eofStack = x :: rest) :
    ∃ s', Proofs.InspectorWrap.RSim
      (fun a b => b = (a.1, (a.2, ({ w with obs := s', eofStack := rest } : WState T S))))
      (m.insertEofcreateOutcome e f o) ((wrap ops obs m).insertEofcreateOutcome (e, w) f o) :=
  Proofs.InspectorWrap.wrap_insertEofcreate h ops m hr (e, w) f o x rest hst

/-- `last_frame_return` with the first frame's inputs still on their stack -/
theorem wrapped_last_frame_return_eq {rel : ORel} {obs : Observer T S} (h : Observing obs rel)
    (ops : EnvOps T) (m : Machine T T.E) (hr : Respects m rel) (e : T.E) (w : WState T S) (r : FrameResult)
    (hlen : 1 ≤ Proofs.InspectorWrap.wlen (Proofs.InspectorWrap.kindOf r) w) :
    Proofs.InspectorWrap.RSim (fun a b => b.1 = a.1 ∧ b.2.1 = a.2)
      (m.lastFrameReturn e r) ((wrap ops obs m).lastFrameReturn (e, w) r) :=
  Proofs.InspectorWrap.wrap_lastFrameReturn h ops m hr (e, w) r hlen

/-- popping an empty input stack is a Rust panic (`.pop().unwrap()`); `inspected_eq_plain_mod` shows that no run
started through the first-frame handler gets there -/
theorem wrapped_insert_empty_stack_panics (ops : EnvOps T) (obs : Observer T S) (m : Machine T T.E)
    (e : T.E) (w : WState T S) (f : Frame T) (sh : T.Mem) (o : CallOutcome) (hst : w.callStack = []) :
    (wrap ops obs m).insertCallOutcome (e, w) f sh o = .panic := by
  show (match w.callStack with | [] => _ | _ :: _ => _) = _
  rw [hst]

/-! ## Whole runs -/

/-- The main theorem in its general form: for every frame machine `m`, every inspector that is `Observing` up to `rel`,
if `m`'s outcome consumers respect `rel`: for every fuel (number of loop iterations / instructions), every
first input, every context `e` and every wrapper state `w` (whatever is left on the input stacks by earlier
transactions), first frame + `run_the_loop` + `last_frame_return` of the wrapped machine return what the
plain machine returns. -/
theorem inspected_eq_plain_mod {rel : ORel} {obs : Observer T S} (h : Observing obs rel) (ops : EnvOps T)
    (m : Machine T T.E) (hr : Respects m rel) (fuel : Nat) (inp : FirstInput T) (e : T.E) (w : WState T S) :
    dropW ((wrap ops obs m).exec fuel inp (e, w)) = m.exec fuel inp e :=
  Proofs.InspectorWrap.exec_eq h ops m hr fuel inp (e, w)

/-- The special case `rel = ORel.eq` of `inspected_eq_plain_mod`, strictly observing inspectors (outcomes returned
unchanged): it holds for EVERY frame machine, with no condition on the handlers. -/
theorem inspected_eq_plain {obs : Observer T S} (h : Observing obs ORel.eq) (ops : EnvOps T)
    (m : Machine T T.E) (fuel : Nat) (inp : FirstInput T) (e : T.E) (w : WState T S) :
    dropW ((wrap ops obs m).exec fuel inp (e, w)) = m.exec fuel inp e :=
  Proofs.InspectorWrap.exec_eq h ops m (Proofs.InspectorWrap.respects_eq m) fuel inp (e, w)

/-! ## NoOpInspector: strictly observing, so invisible on every machine -/

/-- every callback of `NoOpInspector` is the trait's default -/
theorem noop_observing (T : Ty) : Observing (noop T) ORel.eq  where
  initializeInterp _ _ _ := rfl
  step _ _ _ := rfl
  stepEnd _ _ _ := rfl
  log _ _ _ _ := rfl
  call _ _ _ := rfl
  create _ _ _ := rfl
  eofcreate _ _ _ := rfl
  callEnd _ _ _ _ := ⟨rfl, rfl⟩
  createEnd _ _ _ _ := ⟨rfl, rfl⟩
  eofcreateEnd _ _ _ _ := ⟨rfl, rfl⟩

theorem noop_inspected_eq_plain (ops : EnvOps T) (m : Machine T T.E) (fuel : Nat) (inp : FirstInput T)
    (e : T.E) (w : WState T Unit) :
    dropW ((wrap ops (noop T) m).exec fuel inp (e, w)) = m.exec fuel inp e :=
  inspected_eq_plain (noop_observing T) ops m fuel inp e w

/-! ## GasInspector: rewrites gas that no consumer of the code reads -/

/-- `GasInspector::call_end` DOES modify the outcome: an `InvalidJump` halt with 40 gas left comes back with
0 gas left. So `GasInspector` is not observing in the strict sense. -/
theorem gas_inspector_modifies_outcome (T : Ty) (e : T.E) (i : T.CallIn) :
    ((gasInspector T).callEnd GasInsp.default e i
        { result := { result := .InvalidJump, output := [], gas := { limit := 100, remaining := 40, refunded := 0 } },
          memoryOffset := (0, 0) }).2.2
      = { result := { result := .InvalidJump, output := [], gas := { limit := 100, remaining := 0, refunded := 0 } },
          memoryOffset := (0, 0) } := rfl

theorem gas_inspector_not_strictly_observing (T : Ty) (e : T.E) (i : T.CallIn) :
    ¬ Observing (gasInspector T) ORel.eq := by
  intro h
  have := (h.callEnd GasInsp.default e i
    { result := { result := .InvalidJump, output := [], gas := { limit := 100, remaining := 40, refunded := 0 } },
      memoryOffset := (0, 0) }).2
  rw [gas_inspector_modifies_outcome] at this
  have h2 : (0 : Nat) = 40 := congrArg (fun o : CallOutcome => o.result.gas.remaining) this
  exact absurd h2 (by decide)

/-- exact characterisation of the modification: nothing but the gas of ERROR-class outcomes -/
theorem gas_inspector_observing (T : Ty) : Observing (gasInspector T) ORel.errGas  where
  initializeInterp _ _ _ := rfl
  step _ _ _ := rfl
  stepEnd _ _ _ := rfl
  log _ _ _ _ := rfl
  call _ _ _ := rfl
  create _ _ _ := rfl
  eofcreate _ _ _ := rfl
  callEnd s _ _ o := ⟨rfl, rfl, Proofs.InspectorWrap.gasEndResult_errGasEq s o.result⟩
  createEnd s _ _ o := ⟨rfl, rfl, Proofs.InspectorWrap.gasEndResult_errGasEq s o.result⟩
  eofcreateEnd _ _ _ _ := ⟨rfl, rfl, rfl, rfl, fun _ => rfl⟩

/-- the transformation itself: identity unless the result is error-class, then exactly `spend_all` -/
theorem gas_end_result_char (s : GasInsp) (r : InterpreterResult) :
    (gasEndResult s r).2 = if r.result.isError then { r with gas := { r.gas with remaining := 0 } } else r := by
  unfold gasEndResult; split <;> rfl

theorem insert_call_outcome_blind (io : InterpOps T) (st : IState T) (sh : T.Mem) (o o' : CallOutcome)
    (h : ORel.errGas.call o o') : insertCallOutcome io st sh o' = insertCallOutcome io st sh o :=
  Proofs.InspectorWrap.insertCallOutcome_blind io st sh o o' h

theorem insert_create_outcome_blind (io : InterpOps T) (st : IState T) (o o' : CreateOutcome)
    (h : ORel.errGas.create o o') : insertCreateOutcome io st o' = insertCreateOutcome io st o :=
  Proofs.InspectorWrap.insertCreateOutcome_blind io st o o' h

theorem insert_eofcreate_outcome_blind (io : InterpOps T) (st : IState T) (o o' : CreateOutcome)
    (h : ORel.errGas.create o o') : insertEofcreateOutcome io st o' = insertEofcreateOutcome io st o :=
  Proofs.InspectorWrap.insertEofcreateOutcome_blind io st o o' h

theorem last_frame_return_blind (lim : Nat) :
    (∀ o o', ORel.errGas.call o o' → lastFrameReturn lim (.call o') = lastFrameReturn lim (.call o)) ∧
    (∀ o o', ORel.errGas.create o o' → lastFrameReturn lim (.create o') = lastFrameReturn lim (.create o)) ∧
    (∀ o o', ORel.errGas.create o o' → lastFrameReturn lim (.eofcreate o') = lastFrameReturn lim (.eofcreate o)) :=
  Proofs.InspectorWrap.blind_of_setGas _ (Proofs.InspectorWrap.lastFrameReturn_setGas lim)

theorem optimism_last_frame_return_blind (lim : Nat) (dep : Bool) (sys : Option Bool) (reg : Bool) :
    (∀ o o', ORel.errGas.call o o' →
      lastFrameReturnOp lim dep sys reg (.call o') = lastFrameReturnOp lim dep sys reg (.call o)) ∧
    (∀ o o', ORel.errGas.create o o' →
      lastFrameReturnOp lim dep sys reg (.create o') = lastFrameReturnOp lim dep sys reg (.create o)) ∧
    (∀ o o', ORel.errGas.create o o' →
      lastFrameReturnOp lim dep sys reg (.eofcreate o') = lastFrameReturnOp lim dep sys reg (.eofcreate o)) :=
  Proofs.InspectorWrap.blind_of_setGas _ (Proofs.InspectorWrap.lastFrameReturnOp_setGas lim dep sys reg)

/-- a machine with the mainnet (or Optimism) outcome consumers respects `errGas` -/
theorem mainnet_respects {ops : EnvOps T} {io : InterpOps T} {m : Machine T T.E}
    (hm : MainnetConsumers ops io m) : Respects m ORel.errGas :=
  Proofs.InspectorWrap.respects_of_mainnetInserts hm.insertCall hm.insertCreate hm.insertEofcreate _ hm.last
    fun _ => Proofs.InspectorWrap.lastFrameReturn_setGas _

theorem optimism_respects {ops : EnvOps T} {io : InterpOps T} {dep : T.E → Bool} {sys : T.E → Option Bool}
    {reg : Bool} {m : Machine T T.E} (hm : OptimismConsumers ops io dep sys reg m) : Respects m ORel.errGas :=
  Proofs.InspectorWrap.respects_of_mainnetInserts hm.insertCall hm.insertCreate hm.insertEofcreate _ hm.last
    fun _ => Proofs.InspectorWrap.lastFrameReturnOp_setGas _ _ _ _

/-- `GasInspector` is invisible because error outcomes return no gas to anybody: on every machine whose four
outcome consumers are the mainnet handlers (instruction table, `call` / `create` / `eofcreate`, `*_return`
arbitrary), for every run. -/
theorem gas_inspector_invisible_because_error_gas_unread {ops : EnvOps T} {io : InterpOps T}
    {m : Machine T T.E} (hm : MainnetConsumers ops io m) (fuel : Nat) (inp : FirstInput T) (e : T.E)
    (w : WState T GasInsp) :
    dropW ((wrap ops (gasInspector T) m).exec fuel inp (e, w)) = m.exec fuel inp e :=
  inspected_eq_plain_mod (gas_inspector_observing T) ops m (mainnet_respects hm) fuel inp e w

theorem gas_inspector_invisible_optimism {ops : EnvOps T} {io : InterpOps T} {dep : T.E → Bool}
    {sys : T.E → Option Bool} {reg : Bool} {m : Machine T T.E} (hm : OptimismConsumers ops io dep sys reg m)
    (fuel : Nat) (inp : FirstInput T) (e : T.E) (w : WState T GasInsp) :
    dropW ((wrap ops (gasInspector T) m).exec fuel inp (e, w)) = m.exec fuel inp e :=
  inspected_eq_plain_mod (gas_inspector_observing T) ops m (optimism_respects hm) fuel inp e w

/-- what the model driver replays on the recorded first-frame result: `GasInspector::call_end` followed by
`last_frame_return` gives the gas record `last_frame_return` alone gives -/
theorem gas_inspector_first_frame_gas (lim : Nat) (s : GasInsp) (o : CallOutcome) :
    lastFrameReturn lim (.call { o with result := (gasEndResult s o.result).2 }) = lastFrameReturn lim (.call o) :=
  (last_frame_return_blind lim).1 o _ ⟨rfl, Proofs.InspectorWrap.gasEndResult_errGasEq s o.result⟩

/-! ## TracerEip3155: its end callbacks delegate to GasInspector -/

/-- the tracer's `call_end` / `create_end` return exactly `GasInspector`'s outcome (it delegates); its other
callbacks return nothing and touch neither interpreter nor context -/
theorem tracer_end_eq_gas_inspector (T : Ty) (ops : EnvOps T) (s : Tracer) (e : T.E) (i : T.CallIn)
    (j : T.CreateIn) (o : CallOutcome) (o' : CreateOutcome) :
    ((tracer3155 T ops).callEnd s e i o).2 = ((gasInspector T).callEnd s.gasInspector e i o).2 ∧
    ((tracer3155 T ops).createEnd s e j o').2 = ((gasInspector T).createEnd s.gasInspector e j o').2 :=
  ⟨rfl, rfl⟩

theorem tracer_observing (T : Ty) (ops : EnvOps T) : Observing (tracer3155 T ops) ORel.errGas  where
  initializeInterp _ _ _ := rfl
  step _ _ _ := rfl
  stepEnd s st e := by
    show (if s.skip then _ else _ : Tracer × IState T × T.E).2 = (st, e)
    cases s.skip <;> rfl
  log _ _ _ _ := rfl
  call _ _ _ := rfl
  create _ _ _ := rfl
  eofcreate _ _ _ := rfl
  callEnd s _ _ o := ⟨rfl, rfl, Proofs.InspectorWrap.gasEndResult_errGasEq s.gasInspector o.result⟩
  createEnd s _ _ o := ⟨rfl, rfl, Proofs.InspectorWrap.gasEndResult_errGasEq s.gasInspector o.result⟩
  eofcreateEnd _ _ _ _ := ⟨rfl, rfl, rfl, rfl, fun _ => rfl⟩

theorem tracer_invisible_because_error_gas_unread {ops : EnvOps T} {io : InterpOps T}
    {m : Machine T T.E} (hm : MainnetConsumers ops io m) (fuel : Nat) (inp : FirstInput T) (e : T.E)
    (w : WState T Tracer) :
    dropW ((wrap ops (tracer3155 T ops) m).exec fuel inp (e, w)) = m.exec fuel inp e :=
  inspected_eq_plain_mod (tracer_observing T ops) ops m (mainnet_respects hm) fuel inp e w

theorem tracer_invisible_optimism {ops : EnvOps T} {io : InterpOps T} {dep : T.E → Bool}
    {sys : T.E → Option Bool} {reg : Bool} {m : Machine T T.E} (hm : OptimismConsumers ops io dep sys reg m)
    (fuel : Nat) (inp : FirstInput T) (e : T.E) (w : WState T Tracer) :
    dropW ((wrap ops (tracer3155 T ops) m).exec fuel inp (e, w)) = m.exec fuel inp e :=
  inspected_eq_plain_mod (tracer_observing T ops) ops m (optimism_respects hm) fuel inp e w

/-! ## The property, for the three inspectors at once -/

/-- C28 on the model: on every frame machine whose four outcome consumers are the mainnet handlers
(instruction table, `call` / `create` / `eofcreate`, the `*_return` handlers and `take_error` arbitrary), for
every first input, context, fuel and leftover wrapper state, the run inspected by `NoOpInspector`, by
`GasInspector` and by `TracerEip3155` each return exactly what the run without the register returns. -/
theorem three_inspectors_invisible {ops : EnvOps T} {io : InterpOps T} {m : Machine T T.E}
    (hm : MainnetConsumers ops io m) (fuel : Nat) (inp : FirstInput T) (e : T.E) :
    (∀ w : WState T Unit, dropW ((wrap ops (noop T) m).exec fuel inp (e, w)) = m.exec fuel inp e) ∧
    (∀ w : WState T GasInsp, dropW ((wrap ops (gasInspector T) m).exec fuel inp (e, w)) = m.exec fuel inp e) ∧
    (∀ w : WState T Tracer, dropW ((wrap ops (tracer3155 T ops) m).exec fuel inp (e, w)) = m.exec fuel inp e) :=
  ⟨fun w => noop_inspected_eq_plain ops m fuel inp e w,
   fun w => gas_inspector_invisible_because_error_gas_unread hm fuel inp e w,
   fun w => tracer_invisible_because_error_gas_unread hm fuel inp e w⟩

/-! ## The condition on the handlers is necessary for GasInspector / the tracer -/

/-- Counterexample to the unconditional statement for `GasInspector`: on the machine `leaky` (first call halts
with `InvalidJump` and 40 gas left; its `last_frame_return` keeps the first frame's gas record) the plain run
reports 40 gas remaining, the run inspected by `GasInspector` reports 0. The mainnet `last_frame_return`
overwrites the record, which is why the real EVM does not show this. -/
theorem gas_inspector_visible_to_gas_reading_consumer :
    Proofs.InspectorWrap.leaky.exec 1 (.call ()) () =
      some (.ok (.call { result := Proofs.InspectorWrap.haltResult, memoryOffset := (0, 0) }, ())) ∧
    dropW ((wrap Proofs.InspectorWrap.unitOps (gasInspector Proofs.InspectorWrap.unitTy) Proofs.InspectorWrap.leaky).exec
        1 (.call ()) ((), Proofs.InspectorWrap.emptyW GasInsp.default)) =
      some (.ok (.call { result := { Proofs.InspectorWrap.haltResult with
                                      gas := { limit := 100, remaining := 0, refunded := 0 } },
                         memoryOffset := (0, 0) }, ())) :=
  ⟨rfl, rfl⟩

/-- the same transaction on the machine with the mainnet consumers: both runs report the same -/
theorem gas_inspector_invisible_on_mainnet_like :
    dropW ((wrap Proofs.InspectorWrap.unitOps (gasInspector Proofs.InspectorWrap.unitTy)
        Proofs.InspectorWrap.mainnetLike).exec 1 (.call ()) ((), Proofs.InspectorWrap.emptyW GasInsp.default)) =
      Proofs.InspectorWrap.mainnetLike.exec 1 (.call ()) () :=
  gas_inspector_invisible_because_error_gas_unread Proofs.InspectorWrap.mainnetLike_consumers 1 (.call ()) ()
    (Proofs.InspectorWrap.emptyW GasInsp.default)

/-! ## The hypotheses are satisfiable (non-vacuity) -/

section Examples
local notation "uTy" => Proofs.InspectorWrap.unitTy
local notation "uOps" => Proofs.InspectorWrap.unitOps
local notation "uIo" => Proofs.InspectorWrap.unitIo
local notation "uState" => Proofs.InspectorWrap.unitState
local notation "uMachine" => Proofs.InspectorWrap.mainnetLike
local notation "uConsumers" => Proofs.InspectorWrap.mainnetLike_consumers
local notation "uHalt" => Proofs.InspectorWrap.haltResult

example : Observing (noop uTy) ORel.eq := noop_observing uTy
example : Observing (gasInspector uTy) ORel.errGas := gas_inspector_observing uTy
example : Observing (tracer3155 uTy uOps) ORel.errGas := tracer_observing uTy uOps
example : MainnetConsumers uOps uIo uMachine := uConsumers
example : Respects uMachine ORel.errGas := mainnet_respects uConsumers
example : ({ uState with ip := 1 } : IState uTy).instructionResult = .Continue ∧
    1 ≤ ({ uState with ip := 1 } : IState uTy).ip := ⟨rfl, Nat.le_refl 1⟩
example : ({ uState with instructionResult := .Stop } : IState uTy).instructionResult ≠ .Continue := by decide
example : ({ obs := (), callStack := [()], createStack := [], eofStack := [] } : WState uTy Unit).callStack = () :: [] := rfl
-- an `errGas`-related pair of DISTINCT outcomes
example : ORel.errGas.call { result := uHalt, memoryOffset := (0, 0) }
    { result := { uHalt with gas := { limit := 100, remaining := 0, refunded := 0 } }, memoryOffset := (0, 0) } :=
  ⟨rfl, rfl, rfl, fun h => absurd h (by decide)⟩
-- runs that really execute: a create frame that runs one instruction and halts, plain and inspected by the tracer
example : Machine.exec uMachine 5 (.create ()) () =
    some (Res.ok (.create
      { result := { result := .InvalidJump, output := [], gas := { limit := 100000, remaining := 0, refunded := 0 } },
        address := none }, ())) := rfl
example : dropW ((wrap uOps (tracer3155 uTy uOps) uMachine).exec 5 (.create ()) ((), Proofs.InspectorWrap.emptyW Tracer.new)) =
    Machine.exec uMachine 5 (.create ()) () :=
  tracer_invisible_because_error_gas_unread uConsumers 5 (.create ()) () (Proofs.InspectorWrap.emptyW Tracer.new)
example : ([1, 2, 3] : List Nat).length = 2 + 1 := rfl
end Examples

end Revm.Props.C28
