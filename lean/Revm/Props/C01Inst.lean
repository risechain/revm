import Revm.Proofs.EvmInstLifeHist
import Revm.Proofs.EvmInstSdWitness
import Revm.Proofs.EvmInstSdRefine
import Revm.Proofs.EvmInstWrapTop
import Revm.Proofs.EvmInstRun
/-! C01Inst — the whole-transaction model `Revm.Model.Evm.transact` (C01) is an instance of the abstract machines about which
C28–C31 are proved (arbitrary instruction table and frame handlers / script / handler stages), so they hold of its runs.
C31: `EvmLifecycle.transact` over the handler `evmHandler` made of the concrete stages computes `Evm.transact` on the same
fuel, and the sequence theorem holds of it with no hypothesis left. C28: a completed transaction inspected by any of the three
inspectors completes, on every large enough fuel, with the same result and world. C29 / C30: the callbacks of a completed run
are one bracket, its `selfdestruct` callbacks exactly the completed SELFDESTRUCTs, each with the balance that left. -/
namespace Revm.Props.C01Inst
open Revm Revm.Model Revm.Model.Evm
open Revm.Model.Journal (JState)
open Revm.Proofs.EvmInstLife
open Revm.Proofs.EvmLifecycle (SpecBlind HSpecBlind Clean)

/-! ## C31 — context life cycle (`Proofs/EvmInstStages.lean`, `Proofs/EvmInstLife*.lean`)

`evmHandler spec` is the `EvmLifecycle.Handler` whose stages are the stages of `Evm.transact` (one `Interp.step` +
`afterStep` per loop iteration; `end` = identity) over the database `WDb` = `World` minus journal.

Where abstract and concrete model do not line up (reported, handled as stated):
* `Evm.transact` has NO `finalize` / `end` / `clear` stage: the world it returns still holds the whole journal. Compared are
  therefore: the `ExecutionResult`, `finalize`'s state with the final world's `js.state`, the context's database with the
  final world's non-journal part.
* `Evm.transact` returns the ORIGINAL world for a rejected transaction also when the rejection comes after
  `load_code(caller)`, and no world at all for a model-level failure (`Except.error`); the abstract stages keep what
  was done so far (and `clear` then drops it). Nothing observable depends on it.
* `EvmLifecycle.Handler.mkResult` cannot read the database, but the C01 model keeps the log RECORDS outside the journal
  (`World.logs`; the journal holds ids): the abstract result is `ERes` = `TxResult` with the log ids, and `resolve` looks
  them up in the final world's store.
* `Evm.loadAccounts` is `load_accounts` + `set_precompiles` in one function; equal to the abstract two steps up to
  commutation of `||` in the `preloaded` predicate (`loadAccounts_eq`).
* the abstract loop iteration is `execute_frame` (run until an action) + the frame action + `take_error()?`; the instance
  uses ONE INSTRUCTION per iteration (so fuel coincides); the concrete databases are infallible, so the error slot is
  never set. -/

/-- the stages `evmHandler` is built from compose to `Evm.execute` -/
theorem evm_execute_is_its_stages {κ : Type} (C : CpOps κ) (fuel : Nat) (e : Env) (spec initialGas floorGas : Nat)
    (w : World) :
    execute C fuel e spec initialGas floorGas w = (do
      let w ← deductCaller e spec (loadAccounts e spec w)
      let (w, refund) ← applyAuthList e spec w
      let (f, w) ← Proofs.EvmInst.firstFrame C (e.toCfg spec) e (Proofs.EvmInst.firstGasLimit e initialGas) w
      let (res, w) ← runFirst C (e.toCfg spec) fuel f w
      let gas := Proofs.EvmInst.refundGas spec floorGas refund (Proofs.EvmInst.lastFrameGas e res)
      let w ← Proofs.EvmInst.reimburse e gas w
      let w ← Proofs.EvmInst.reward e spec gas w
      let r ← Proofs.EvmInst.output e.tx.to.isNone res gas w.js.logs w.logs
      pure (r, w)) := by
  rw [Proofs.EvmInst.execute_eq]
  simp only [Proofs.EvmInst.finish_eq]

/-- The instance of C31: the abstract `Evm::transact` of `Model.EvmLifecycle` over the handler built from the concrete
stages computes `Evm.transact`, for every context with an empty error slot, environment, configured SpecId and fuel:
executed ↦ `Ok` with the same result and state, rejected ↦ `Err(rejected)`, out of fuel ↦ the loop does not return,
model failure ↦ the same failure (`TransactRel`). -/
theorem evm_transact_is_lifecycle_transact (spec fuel : Nat) (c : LCtx) (hc : c.error = none) :
    TransactRel c (Evm.transact fuel (ctxWorld c) c.env spec) (EvmLifecycle.transact (evmHandler spec) fuel c) :=
  Proofs.EvmInstLife.evm_transact_is_lifecycle_transact spec fuel c hc

/-- read from the abstract side: each of the four answers of the abstract entry point determines that of `Evm.transact` -/
theorem evm_lifecycle_result_is_transact (spec fuel : Nat) (c : LCtx) (hc : c.error = none) :
    (∀ er st c', EvmLifecycle.transact (evmHandler spec) fuel c = some (.ok (er, st), c') →
      ∃ x, Evm.transact fuel (ctxWorld c) c.env spec = .ok (.executed (resolve x.logs er), x) ∧ st = x.js.state ∧
        c'.db = WDb.of x) ∧
    (∀ c', EvmLifecycle.transact (evmHandler spec) fuel c = some (.error .rejected, c') →
      Evm.transact fuel (ctxWorld c) c.env spec = .ok (.rejected, ctxWorld c)) ∧
    (∀ er c', EvmLifecycle.transact (evmHandler spec) fuel c = some (.error (.err er), c') →
      Evm.transact fuel (ctxWorld c) c.env spec = .error er) ∧
    (EvmLifecycle.transact (evmHandler spec) fuel c = none →
      Evm.transact fuel (ctxWorld c) c.env spec = .error .outOfFuel) :=
  Proofs.EvmInstLife.evm_lifecycle_result_is_transact spec fuel c hc

/-- read from the concrete side, for an executed transaction: the abstract entry point returns `Ok` with this result
(log ids unresolved), `finalize` hands out the final journal state, and the context keeps the final database part -/
theorem evm_transact_executed (spec fuel : Nat) (c : LCtx) (hc : c.error = none) (r : TxResult) (x : World)
    (h : Evm.transact fuel (ctxWorld c) c.env spec = .ok (.executed r, x)) :
    ∃ er c', EvmLifecycle.transact (evmHandler spec) fuel c = some (.ok (er, x.js.state), c') ∧
      resolve x.logs er = r ∧ c'.db = WDb.of x :=
  Proofs.EvmInstLife.evm_transact_executed spec fuel c hc r x h

/-- the abstract loop over `evmHandler` IS `Evm.runLoop` / `Evm.runEnded`, with the same fuel -/
theorem evm_loop_is_lifecycle_loop (spec : Nat) (e : Env) (pre n : Nat) (w : LWork) (hw : w.error = none)
    (stack : List (Frame Journal.Checkpoint)) :
    LoopRel w (runLoop journalOps (e.toCfg (GasCalc.canon spec)) n stack (workWorld w))
      (EvmLifecycle.runLoop (evmHandler spec) pre e n (.run stack) w) :=
  (loop_sim spec e pre n w hw).1 stack

/-- C31's hypothesis `HSpecBlind` holds of the concrete stages: `tx_against_state` of the model (`load_code(caller)`,
then a pure check of the loaded account) never reads `journaled_state.spec`, `end` is the identity -/
theorem evm_hspec_blind (spec : Nat) : HSpecBlind (evmHandler spec) :=
  Proofs.EvmInstLife.evm_hspec_blind spec

/-- C31 `cleared_after` on the whole-EVM handler: after ANY entry point, on ANY exit path, the journal is
`JournaledState::new(spec', ∅)`, the error slot `Ok(())`, the environment the given one -/
theorem evm_cleared_after (spec : Nat) (commit : WDb → EvmLifecycle.EvmState → WDb) (ep : EvmLifecycle.EntryPoint)
    (fuel : Nat) (c c' : LCtx) (r : EvmLifecycle.CallResult LErr ERes)
    (h : EvmLifecycle.call (evmHandler spec) commit ep fuel c = some (r, c')) :
    c'.env = c.env ∧ c'.js = JState.new c'.js.spec EvmLifecycle.noPreloaded ∧ c'.error = none ∧ c'.l1 = none ∧
    (c'.precompiles = c.precompiles ∨ c'.precompiles = GasCalc.canon spec) := by
  have := Revm.Proofs.EvmLifecycle.call_cleared (evmHandler spec) commit ep fuel h
  exact ⟨this.1, this.2.1.1, this.2.1.2.1, this.2.1.2.2, this.2.2⟩

/-- in particular after an executed `Evm.transact`: the reused context holds a clean journal over the final world's
database part — nothing of the final world's journal survives -/
theorem evm_cleared_after_executed (spec fuel : Nat) (c : LCtx) (hc : c.error = none) (r : TxResult) (x : World)
    (h : Evm.transact fuel (ctxWorld c) c.env spec = .ok (.executed r, x)) :
    ∃ er c', EvmLifecycle.transact (evmHandler spec) fuel c = some (.ok (er, x.js.state), c') ∧
      resolve x.logs er = r ∧ c'.db = WDb.of x ∧ c'.env = c.env ∧
      c'.js = JState.new c'.js.spec EvmLifecycle.noPreloaded ∧ c'.error = none := by
  obtain ⟨er, c', hL, hres, hdb⟩ := evm_transact_executed spec fuel c hc r x h
  have hcall : EvmLifecycle.call (evmHandler spec) (fun d _ => d) .transact fuel c = some (.tx (.ok (er, x.js.state)), c') := by
    show (EvmLifecycle.transact (evmHandler spec) fuel c).map _ = _
    rw [hL]; rfl
  have hcl := evm_cleared_after spec (fun d _ => d) .transact fuel c c' _ hcall
  exact ⟨er, c', hL, hres, hdb, hcl.1, hcl.2.1, hcl.2.2.1⟩

/-- a freshly built `Evm` over `db` is the fresh world `Evm.transact` is specified on -/
theorem evm_fresh_transact (spec : Nat) (db : WDb) (env : Env) (pre0 fuel : Nat) :
    TransactRel (EvmLifecycle.Ctx.build db env spec pre0)
      (Evm.transact fuel (mkWorld db (JState.new spec EvmLifecycle.noPreloaded)) env spec)
      (EvmLifecycle.transact (evmHandler spec) fuel (EvmLifecycle.Ctx.build db env spec pre0)) :=
  evm_transact_is_lifecycle_transact spec fuel (EvmLifecycle.Ctx.build db env spec pre0) rfl

/-- C31 on the whole-EVM handler, no hypothesis left: any history of entry-point calls (`transact`,
`transact_commit`, `transact_preverified`, `preverify_transaction`; any environments; spec changes through
`modify_spec_id` or the builder; rejected, reverted, halted, failing transactions; any fuel) on ONE instance gives the
same results and final database as running every call on a freshly built instance over the database left by the
previous one. -/
theorem evm_sequence_on_one_instance_eq_fresh_instances (commit : WDb → EvmLifecycle.EvmState → WDb) (pre0 : Nat)
    (ops : List (EvmLifecycle.Op WDb Env LErr Nat Empty (Nat × Nat) LS Act FRes ERes)) (hops : EvmOps ops)
    (c : LCtx) (hc : Clean c) :
    (EvmLifecycle.runOne commit ops c).map (fun p => (p.1, p.2.db)) = EvmLifecycle.runFresh commit pre0 ops c.db :=
  Proofs.EvmInstLife.evm_sequence_on_one_instance_eq_fresh_instances commit pre0 ops hops c hc

/-- the same stated with `Evm.transact` alone, for histories of executed transactions: if `Evm.transact`, run on a FRESH
world (`JournaledState::new(spec, ∅)`) over the database committed so far, executes every transaction of the list
(`evmFreshSeq`), then `transact_commit` of the same list on ONE reused instance returns exactly these results and the
same final database. (`Resolved ers rs`: each result is `resolve`d against its final world's log store; unrelated to the
instruction relation `EvmInstSd.Resolved` of the SELFDESTRUCT theorems.) -/
theorem evm_history_on_one_instance (commit : WDb → EvmLifecycle.EvmState → WDb) (ts : List TxReq) (c : LCtx)
    (hc : Clean c) (rs : List (TxResult × World)) (db' : WDb) (h : evmFreshSeq commit ts c.db = some (rs, db')) :
    ∃ ers : List ERes,
      (EvmLifecycle.runOne commit (ts.map TxReq.op) c).map (fun p => (p.1, p.2.db)) =
        some (ers.map (fun er => EvmLifecycle.CallResult.commit (.ok er)), db') ∧
      Resolved ers rs := by
  obtain ⟨ers, hf, hall⟩ := evm_fresh_history commit 0 ts c.db rs db' h
  refine ⟨ers, ?_, hall⟩
  rw [evm_sequence_on_one_instance_eq_fresh_instances commit 0 _ _ c hc, hf]
  intro op hop
  simp only [List.mem_map] at hop
  obtain ⟨t, _, rfl⟩ := hop
  exact ⟨t.spec, rfl⟩

def sampleDb : WDb :=
  { addrs := [], slots := [], codes := [], logs := [],
    pre := [{ addr := 0xaa, balance := 10^18, nonce := 0, code := [], codeHash := KECCAK_EMPTY, storage := [] }],
    dbHasStorage := true, pcOracle := [] }

def sampleEnv : Env :=
  { block := { gasLimit := 30000000, basefee := 7, prevrandao := some 0, blobGasPrice := some 1 },
    tx := { caller := 0xaa, gasLimit := 21000, gasPrice := 10, to := some 0xbb, value := 5, nonce := none } }

def isExecuted : R (Outcome × World) → Bool
  | .ok (.executed _, _) => true
  | _ => false

example : Clean (EvmLifecycle.Ctx.build sampleDb sampleEnv 17 0 : LCtx) ∧
    (EvmLifecycle.Ctx.build sampleDb sampleEnv 17 0 : LCtx).error = none := ⟨⟨rfl, rfl, rfl⟩, rfl⟩

/-- the hypothesis of `evm_transact_executed` is satisfiable: a value transfer under Cancun on the fresh world -/
example : isExecuted (Evm.transact 10 (ctxWorld (EvmLifecycle.Ctx.build sampleDb sampleEnv 17 0 : LCtx)) sampleEnv 17)
    = true := by decide +kernel

/-- the hypothesis of `evm_history_on_one_instance` is satisfiable: two transfers, the second after a spec change to
Prague, the database unchanged by `commit` -/
example : (evmFreshSeq (fun d _ => d)
    [{ env := sampleEnv, spec := 17, fuel := 10 }, { env := sampleEnv, spec := 18, fuel := 10, rebuilt := true }]
    sampleDb).isSome = true := by decide +kernel

example : EvmOps ([{ env := sampleEnv, spec := 17, fuel := 10 }, { env := sampleEnv, spec := 7, fuel := 3 }].map TxReq.op) := by
  intro op hop
  simp only [List.map_cons, List.map_nil, List.mem_cons, List.mem_nil_iff, or_false] at hop
  rcases hop with rfl | rfl
  · exact ⟨17, rfl⟩
  · exact ⟨7, rfl⟩

/-! ## C28 — observing inspectors (`Proofs/EvmInstWrap*.lean`)

`evmMachine C cfg lim : InspectorWrap.Machine (evmTy κ) ECtx` is the frame machine of C28 filled with the functions of the
C01 model (the abstract interpreter state keeps the whole concrete one; `lastFrameReturn` = the mainnet handler; a Rust
panic / fatal error inside an instruction is `FatalExternalError` + the context's error slot, `takeError`).
`transactAbs` is `Evm.transact` whose execution part (first frame, `run_the_loop`, `last_frame_return`) is run by
`evmMachine journalOps cfg lim`, and `transactInspected obs wst` the same over
`wrap (evmOps lim) (obs lim) (evmMachine journalOps cfg lim)`, the very `wrap` of `Model/InspectorWrap.lean`.

Where abstract and concrete model do not line up (reported; none changes a completed run):
* a frame ended by a failed `push!` inside `insert_*_outcome` (`Next.ended`): the concrete model carries the halting
  `out`, the abstract `run` answers `Return { output: [] }`; equal because such an insertion halts with `out = []` and a
  result other than `Continue` (`insertBy_halt`);
* `free_context` is partial in the concrete model (`freeCtx` panics), total in the abstract one (`freeContextT`);
* `ChildResult` has no `gas.limit`; `CallOutcome` has no address; abstract `call` does not see the shared memory and the
  abstract `insertCreateOutcome` has no memory argument (the concrete ones do not use them: `makeCallFrame_mem`,
  `insertCreate_mem`);
* every halt sets `next_action = Return` in the instance (Rust leaves `None` for plain halts; `run` builds the same
  result); Rust panics surface as `Res.err (.panic _)`, not `Res.panic`;
* `last_frame_return` is inside `Machine.exec` but inside `finalGas` in the concrete model (`lastFrameGas`);
* `eofcreate*` fail (legacy-only concrete model);
* the abstract driver's fuel is nested (`loop n` runs `runInterp n`), the concrete one counts instructions: completed
  concrete runs are abstract runs on every LARGE ENOUGH fuel (`evm_exec_is_machine_exec`), not on equal fuel. -/

section Wrap
open Revm.Model.InspectorWrap (Machine FrameResult Observer WState ORel Observing Respects wrap)
open Revm.Proofs.EvmInstWrap (evmTy ECtx evmMachine evmOps transactInspected transactAbs execResult firstInputOf isErr)

/-- "error outcomes return no gas" on the concrete consumers: `Interp.insertCallOutcome`, `Interp.insertCreateOutcome`
and `last_frame_return` (`lastFrameGas`, hence `Evm.finalGas`) never read the remaining / refunded gas of an
error-class outcome (neither `return_ok!` nor `return_revert!`) -/
theorem evm_consumers_blind (o : Interp.ChildResult) (g : Nat) (r : Int) (h : isErr o.result = true) :
    (∀ rs re, Interp.insertCallOutcome rs re { o with gasRemaining := g, gasRefunded := r } =
      Interp.insertCallOutcome rs re o) ∧
    Interp.insertCreateOutcome { o with gasRemaining := g, gasRefunded := r } = Interp.insertCreateOutcome o ∧
    (∀ e, Proofs.EvmInst.lastFrameGas e { o with gasRemaining := g, gasRefunded := r } =
      Proofs.EvmInst.lastFrameGas e o) ∧
    (∀ e spec floorGas refund, Evm.finalGas e spec floorGas refund { o with gasRemaining := g, gasRefunded := r } =
      Evm.finalGas e spec floorGas refund o) :=
  ⟨fun rs re => Revm.Proofs.EvmInstWrap.insert_call_outcome_blind_concrete rs re o g r h,
   Revm.Proofs.EvmInstWrap.insert_create_outcome_blind_concrete o g r h,
   fun e => Revm.Proofs.EvmInstWrap.last_frame_gas_blind_concrete e o g r h,
   fun e spec fl rf => Revm.Proofs.EvmInstWrap.final_gas_blind_concrete e spec fl rf o g r h⟩

/-- hence the frame machine of the whole-EVM model `Respects` the relation up to which `GasInspector` and the tracer
are observing (C28's condition on the handlers), for every subroutine discipline -/
theorem evm_machine_respects {κ : Type} (C : CpOps κ) (cfg : Cfg) (lim : Nat) :
    Respects (evmMachine C cfg lim) ORel.errGas :=
  Revm.Proofs.EvmInstWrap.evmMachine_respects C cfg lim

/-- The instance of C28's frame machine: first frame + `run_the_loop` + `last_frame_return` of the whole-EVM model, over
ANY subroutine discipline, is `Machine.exec` of `evmMachine` — every completed concrete run is the abstract run, with the
same `FrameResult` and world, on every large enough fuel -/
theorem evm_exec_is_machine_exec {κ : Type} (C : CpOps κ) (cfg : Cfg) (e : Env) (gl : Nat) (w0 w1 : World)
    (first : FrameOrResult κ) (hfirst : Proofs.EvmInst.firstFrame C cfg e gl w0 = .ok (first, w1)) (fuel : Nat)
    (res : Interp.ChildResult) (w' : World) (hrun : runFirst C cfg fuel first w1 = .ok (res, w')) :
    ∃ N, ∀ N', N ≤ N' →
      (evmMachine C cfg e.tx.gasLimit).exec N' (firstInputOf e gl) { w := w0, err := none } =
        some (.ok (execResult e res, { w := w', err := none })) :=
  Revm.Proofs.EvmInstWrap.exec_sim C cfg e gl w0 w1 first hfirst fuel res w' hrun

/-- every completed `Evm.transact` run is a run of the transaction over the abstract frame machine -/
theorem evm_transact_is_machine_transact (fuel : Nat) (w : World) (e : Env) (spec : Nat) (o : Outcome) (w' : World)
    (h : transact fuel w e spec = .ok (o, w')) :
    ∃ N, ∀ N', N ≤ N' → transactAbs N' w e spec = some (.ok (o, w')) :=
  Revm.Proofs.EvmInstWrap.transactAbs_of_transact fuel w e spec o w' h

/-- C28 on the machine of the whole-EVM model, EVERY fuel / world / environment / spec / leftover wrapper state (also
runs that fail or run out of fuel): the transaction inspected by `NoOpInspector`, `GasInspector`, `TracerEip3155` is the
transaction on the plain machine -/
theorem evm_three_inspectors_invisible (fuel : Nat) (w : World) (e : Env) (spec : Nat) :
    (∀ wst, transactInspected (fun _ => InspectorWrap.noop (evmTy Journal.Checkpoint)) wst fuel w e spec =
      transactAbs fuel w e spec) ∧
    (∀ wst, transactInspected (fun _ => InspectorWrap.gasInspector (evmTy Journal.Checkpoint)) wst fuel w e spec =
      transactAbs fuel w e spec) ∧
    (∀ wst, transactInspected (fun lim => InspectorWrap.tracer3155 (evmTy Journal.Checkpoint) (evmOps lim)) wst fuel w e
      spec = transactAbs fuel w e spec) :=
  Revm.Proofs.EvmInstWrap.three_inspectors_invisible_evm fuel w e spec

/-- C28 for `Evm.transact`: whenever the whole-EVM model completes a transaction with `(o, w')` (result, gas, logs,
state), the same transaction with the inspector register installed — `NoOpInspector`, `GasInspector` or
`TracerEip3155`, from ANY wrapper state (inspector state, leftover input stacks) — completes with the same `(o, w')`,
on every large enough fuel -/
theorem evm_inspected_eq_plain (fuel : Nat) (w : World) (e : Env) (spec : Nat) (o : Outcome) (w' : World)
    (h : transact fuel w e spec = .ok (o, w')) :
    ∃ N, ∀ N', N ≤ N' →
      (∀ wst, transactInspected (fun _ => InspectorWrap.noop (evmTy Journal.Checkpoint)) wst N' w e spec =
        some (.ok (o, w'))) ∧
      (∀ wst, transactInspected (fun _ => InspectorWrap.gasInspector (evmTy Journal.Checkpoint)) wst N' w e spec =
        some (.ok (o, w'))) ∧
      (∀ wst, transactInspected (fun lim => InspectorWrap.tracer3155 (evmTy Journal.Checkpoint) (evmOps lim)) wst N' w e
        spec = some (.ok (o, w'))) :=
  Revm.Proofs.EvmInstWrap.evm_inspected_eq_plain fuel w e spec o w' h

/-- a transaction that runs a contract (`PUSH1 1 PUSH1 2 ADD STOP`) completes on the concrete model, and the run inspected
by the tracer from empty input stacks completes on the same fuel with the same gas -/
example : ∃ r, transact 10 Revm.Proofs.EvmInstWrap.exWorld Revm.Proofs.EvmInstWrap.exEnv 17 = .ok r :=
  Proofs.Evm.exists_of_isOk (by decide +kernel)
example : Revm.Proofs.EvmInstWrap.exCheck
    (transactInspected (fun lim => InspectorWrap.tracer3155 (evmTy Journal.Checkpoint) (evmOps lim))
      { obs := InspectorWrap.Tracer.new, callStack := [], createStack := [], eofStack := [] } 10
      Revm.Proofs.EvmInstWrap.exWorld Revm.Proofs.EvmInstWrap.exEnv 17) = true := by decide +kernel
example : isErr Interp.IResult.OutOfGas = true := by decide

end Wrap

/-! ## C29 / C30 — inspector hooks and SELFDESTRUCT notifications (`Proofs/EvmInstTrace.lean`, `EvmInstTraceRun`,
`EvmInstInsn`, `EvmInstSdRefine`, `EvmInstScript`, `EvmInstLoaded`, `EvmInstRun`)

`transactTr` is `Evm.transact` returning, beside the very same value (`evm_traced_value`), the script of its frame loop:
per executed instruction what the inspector's instruction wrappers see (LOG0..4: the journal's log ids before / after;
SELFDESTRUCT: the wrapper's own note, computed from the journal entries as `SelfdestructNotify.wrapped` does), per
`execute_frame` the frame request (answered by a frame or at once by a result) or the return. `runTx b first (scriptOf evs)`
is the handler-register machine of C29 run on that script; its frame list is the kind list of the concrete call stack.

Where abstract and concrete model do not line up (reported):
* `SelfdestructNotify.selfdestructInsn` prices the instruction with the JOURNAL's spec, the interpreter with its own
  `spec` field; it subtracts gas in `Nat`, the interpreter's meter is a `u64`; it has no refund counter; its failing
  database (`dbFails`) has no concrete counterpart. `sd_refines` is the refinement under `s.spec = w.js.spec` and
  `gas.remaining < 2^64`; the cost tables agree (`selfdestructCost_agree`) and `% 2^160` is `addrOfWord`.
* C30's assumption "the executing contract is in the journal" is NOT a consequence of `Journal.selfdestruct` succeeding
  (an unloaded contract naming itself is loaded from the database); it IS a run invariant of `Evm.transact`
  (`evm_contract_loaded`), so `evm_selfdestruct_balance_left` carries no hypothesis.
* concrete runs never produce `Next.fatal`, `insertErr`, `HandlerRes.err`, an inspector outcome or a halting `step`:
  only finished runs (and only observing inspectors) are instances. -/

section Hooks
open Revm.Model.InspectorHooks (Stacks Spawn Ev runTx)
open Revm.Spec.InspectorHooks (Balanced sdsOf logsOf stepsOf)
open Revm.Proofs.EvmInstHooks (LEv transactTr scriptOf insnsOf)
open Revm.Proofs.EvmInstSd (completedSelfdestructs appendedLogs)

theorem evm_traced_value (fuel : Nat) (w : World) (e : Env) (spec : Nat) :
    (transactTr fuel w e spec).1 = Evm.transact fuel w e spec :=
  Revm.Proofs.EvmInstHooks.transactWithTr_fst journalOps fuel w e spec

/-- The instance of C29: the action sequence of every completed `Evm.transact` run is a FINISHED behaviour of the inspector
handler-register machine, for every content `b` of the three input stacks; hence its callback word is well bracketed,
indeed ONE bracket: the transaction's own `call` / `create` (inputs number 0) first, its `*_end` with the same inputs
last, everything in between balanced (every nested request closed by one `*_end` of its kind carrying its inputs, last
opened first closed — requests answered at once included). -/
theorem evm_hooks_balanced (b : Stacks) (fuel : Nat) (w : World) (e : Env) (spec : Nat) (o : Outcome) (w' : World)
    (first : Spawn) (evs : List LEv) (h : transactTr fuel w e spec = (.ok (o, w'), some (first, evs))) :
    (runTx b first (scriptOf evs)).1 = .finished ∧
    Balanced (runTx b first (scriptOf evs)).2.word ∧
    first.i = 0 ∧
    ∃ u oo, (runTx b first (scriptOf evs)).2.word = Ev.opn first.k 0 :: (u ++ [Ev.cls first.k 0 oo]) ∧ Balanced u :=
  Revm.Proofs.EvmInstHooks.evm_hooks_balanced b fuel w e spec o w' first evs h

theorem evm_hooks_stacks_restored (b : Stacks) (fuel : Nat) (w : World) (e : Env) (spec : Nat) (o : Outcome)
    (w' : World) (first : Spawn) (evs : List LEv) (h : transactTr fuel w e spec = (.ok (o, w'), some (first, evs))) :
    (runTx b first (scriptOf evs)).2.stk = b :=
  Revm.Props.C29.stacks_restored b first _
    (Revm.Proofs.EvmInstHooks.completed_finished b
      (Revm.Proofs.EvmInstHooks.transactTr_completed fuel w e spec o w' first evs h)).1

/-- every executed instruction is bracketed by `step · step_end`, and these are all such callbacks -/
theorem evm_hooks_steps (b : Stacks) (fuel : Nat) (w : World) (e : Env) (spec : Nat) (o : Outcome)
    (w' : World) (first : Spawn) (evs : List LEv) (h : transactTr fuel w e spec = (.ok (o, w'), some (first, evs))) :
    Revm.Spec.InspectorHooks.stepsPaired (runTx b first (scriptOf evs)).2.word = true ∧
    stepsOf (runTx b first (scriptOf evs)).2.word = (insnsOf evs).flatMap (fun _ => [Ev.step, Ev.stepEnd]) := by
  have hc := Revm.Proofs.EvmInstHooks.transactTr_completed fuel w e spec o w' first evs h
  have hh := Revm.Proofs.EvmInstHooks.group_halt_none evs 1 []
  refine ⟨Revm.Props.C29.step_bracketed b first _ hh, ?_⟩
  rw [Revm.Props.C29.step_callbacks_exact, (Revm.Proofs.EvmInstHooks.completed_finished b hc).2, List.take_length,
    ← Revm.Proofs.EvmInstHooks.completed_insns hc]
  exact Revm.Proofs.EvmInstHooks.steps_of_script _ hh

/-- each emitted log is reported once: the `log` callbacks are, in order, exactly the ids of the records appended by
the LOG instructions that reached the host -/
theorem evm_hooks_logs (b : Stacks) (fuel : Nat) (w : World) (e : Env) (spec : Nat) (o : Outcome)
    (w' : World) (first : Spawn) (evs : List LEv) (h : transactTr fuel w e spec = (.ok (o, w'), some (first, evs))) :
    logsOf (runTx b first (scriptOf evs)).2.word = appendedLogs evs := by
  rw [Revm.Proofs.EvmInstHooks.evm_hooks_logs_insns b fuel w e spec o w' first evs h]
  exact Revm.Proofs.EvmInstSd.filterMap_insns_truths Revm.Spec.InspectorHooks.insnLog (·.log) evs fun x t hev =>
    (Revm.Proofs.EvmInstSd.consistent_of_ok
      (Revm.Proofs.EvmInstSd.transactTr_resolved fuel w e spec _ first evs h _ hev)).2

/-- The instance of C30: in every completed `Evm.transact` run the inspector's `selfdestruct` callbacks are, in order,
exactly one per SELFDESTRUCT instruction that completed (`Interp.selfdestructI` + `EvmHost.answer (.selfdestruct …)` ending
`.halt .SelfDestruct`), naming the executing contract, the beneficiary popped from the stack and the balance that moved
(`completedSelfdestructs`, computed from the state BEFORE the instruction, see `evm_completed_selfdestruct_is`); no
other instruction or frame event makes one. This is the whole-run statement (C30's `selfdestruct_callbacks_exact`);
`Props.C30.selfdestruct_notified_once` is about one dispatched instruction. -/
theorem evm_selfdestruct_notified_once (b : Stacks) (fuel : Nat) (w : World) (e : Env) (spec : Nat) (o : Outcome)
    (w' : World) (first : Spawn) (evs : List LEv) (h : transactTr fuel w e spec = (.ok (o, w'), some (first, evs))) :
    sdsOf (runTx b first (scriptOf evs)).2.word = completedSelfdestructs evs :=
  Revm.Proofs.EvmInstSd.evm_selfdestruct_notified_once b fuel w e spec o w' first evs h

/-- what an entry of `completedSelfdestructs` is -/
theorem evm_completed_selfdestruct_is {s : Interp.IState} {w : World} {d : Interp.Done} {x : Nat × Nat × Nat}
    (h : Revm.Proofs.EvmInstHooks.sdTruth s w d = some x) :
    ∃ out s' rest t0 acc, d = .halt .SelfDestruct out s' ∧ s.stack = rest ++ [t0] ∧
      Revm.Proofs.EvmInstHooks.contractAcct w s.target (Interp.addrOfWord t0) = some acc ∧
      x = (s.target, Interp.addrOfWord t0,
        Revm.Proofs.SelfdestructNotify.movedValue acc w.js.spec s.target (Interp.addrOfWord t0)) :=
  Revm.Proofs.EvmInstSd.sdTruth_some h

/-- a concrete SELFDESTRUCT that completes is `Journal.selfdestruct` on (contract, popped beneficiary),
and the inspector wrapper's note (newest `AccountDestroyed` / `BalanceTransfer` among the new journal entries, else
`(c, c, 0)`) is `(contract, beneficiary, balance moved)` -/
theorem evm_selfdestruct_step {he : HostEnv} {s : Interp.IState} {w w' : World} {d : Interp.Done} {out : List Nat}
    {s' : Interp.IState} (hcode : s.code[s.pc]? = some 0xff) (hr : Revm.Proofs.EvmInstSd.Resolved he s w d w')
    (hd : d = .halt .SelfDestruct out s') :
    s.isStatic = false ∧ ∃ rest t0 r acc1, s.stack = rest ++ [t0] ∧
      Journal.selfdestruct w.db w.js s.target (Interp.addrOfWord t0) = some (w'.js, r) ∧
      Revm.Proofs.EvmInstHooks.contractAcct w s.target (Interp.addrOfWord t0) = some acc1 ∧
      Revm.Proofs.EvmInstHooks.sdNote s w.js w'.js d =
        some (s.target, Interp.addrOfWord t0,
          Revm.Proofs.SelfdestructNotify.movedValue acc1 w.js.spec s.target (Interp.addrOfWord t0)) :=
  Revm.Proofs.EvmInstSd.sd_step_completed hcode hr hd

/-- no notification for a SELFDESTRUCT that does not complete (static, underflow, out of gas after the state change) -/
theorem evm_selfdestruct_no_spurious (s : Interp.IState) (js js' : Journal.JState) (d : Interp.Done)
    (h : ∀ out s', d ≠ .halt .SelfDestruct out s') : Revm.Proofs.EvmInstHooks.sdNote s js js' d = none := by
  cases d with
  | halt r out s' =>
    by_cases hr : r = .SelfDestruct
    · subst hr; exact absurd rfl (h out s')
    · simp [Revm.Proofs.EvmInstHooks.sdNote, hr]
  | next _ => rfl
  | action _ _ => rfl
  | fault _ => rfl

/-- the concrete SELFDESTRUCT refines `SelfdestructNotify.selfdestructInsn` (C30's instruction model) when the
interpreter's spec is the journal's and the meter is a `u64` -/
theorem evm_selfdestruct_refines {he : HostEnv} {s : Interp.IState} {w w' : World} {d : Interp.Done}
    (hcode : s.code[s.pc]? = some 0xff) (hr : Revm.Proofs.EvmInstSd.Resolved he s w d w')
    (hspec : s.spec = w.js.spec) (hgas : s.gas.remaining < U64) :
    ∃ r out s', d = .halt r out s' ∧
      SelfdestructNotify.selfdestructInsn w.db false (Revm.Proofs.EvmInstSd.absI s) w.js =
        some (Revm.Proofs.EvmInstSd.absI s' (Revm.Proofs.EvmInstSd.iresOf r), w'.js) :=
  Revm.Proofs.EvmInstSd.sd_refines hcode hr hspec hgas

/-- per instruction: with the executing contract in the journal (which `evm_contract_loaded` provides along every run),
the notified value is exactly what left the contract's journal balance; `evm_selfdestruct_balance_left` is the statement
for a run, without the hypothesis -/
theorem evm_selfdestruct_balance_left_step {he : HostEnv} {s : Interp.IState} {w w' : World} {d : Interp.Done}
    {acc : Journal.Acct} {x : Nat × Nat × Nat} (hcode : s.code[s.pc]? = some 0xff)
    (hr : Revm.Proofs.EvmInstSd.Resolved he s w d w') (hloaded : w.js.state s.target = some acc)
    (hx : Revm.Proofs.EvmInstHooks.sdTruth s w d = some x) :
    x.1 = s.target ∧
    x.2.2 = Revm.Proofs.SelfdestructNotify.movedValue acc w.js.spec s.target x.2.1 ∧
    SelfdestructNotify.balanceOf w.js s.target = SelfdestructNotify.balanceOf w'.js s.target + x.2.2 :=
  Revm.Proofs.EvmInstSd.evm_selfdestruct_balance_left_partial hcode hr hloaded hx

/-- The run invariant that discharges C30's assumption: in every `Evm.transact` run, completed or not, every instruction
executes in a frame whose target account is in the journal's state map when the instruction starts. A frame's target is
loaded when the frame is made or is the running frame's own address (DELEGATECALL), no instruction or outcome insertion
changes a frame's `target` (`DoneAll.target`), and no journal operation, revert included, removes an account from the
state map (`KLe`): `Proofs/EvmInstLoaded.lean`. -/
theorem evm_contract_loaded (fuel : Nat) (w : World) (e : Env) (spec : Nat) (r : R (Outcome × World))
    (first : Spawn) (evs : List LEv) (h : transactTr fuel w e spec = (r, some (first, evs))) :
    ∀ ev ∈ evs, Revm.Proofs.EvmInstSd.EvLoaded { blockNumber := e.block.number } ev :=
  Revm.Proofs.EvmInstLoaded.contract_loaded fuel w e spec r first evs h

/-- the open frames' targets stay in the journal along `Evm.iterate` (the loop invariant itself) -/
theorem evm_iterate_keeps_targets_loaded {cfg : Cfg} {stack : List (Frame Journal.Checkpoint)} {w : World} {nx}
    (h : iterate journalOps cfg stack w = .ok nx) (hi : Revm.Proofs.EvmInstLoaded.Inv stack w) :
    Revm.Proofs.EvmInstLoaded.InvN nx :=
  Revm.Proofs.EvmInstLoaded.iterate_inv h hi

/-- C30 on `Evm.transact`, "the balance that left the contract", no hypothesis: every entry `(c, t, v)` of the completed
SELFDESTRUCTs of a traced run (= the inspector's notifications, `evm_selfdestruct_notified_once`) belongs to an
instruction at opcode `0xFF` resolved in a frame at `c` whose account `acc` was in the journal; `v` is what `acc` loses
and the journal balance of `c` before the instruction is its balance after it plus `v` -/
theorem evm_selfdestruct_balance_left (fuel : Nat) (w : World) (e : Env) (spec : Nat) (r : R (Outcome × World))
    (first : Spawn) (evs : List LEv) (h : transactTr fuel w e spec = (r, some (first, evs)))
    (x : Revm.Model.InspectorHooks.Insn) (g : Revm.Proofs.EvmInstHooks.Truth) (hev : LEv.insn x g ∈ evs)
    (y : Nat × Nat × Nat) (hy : g.sd = some y) :
    ∃ s w0 d w1 acc, Revm.Proofs.EvmInstSd.Resolved { blockNumber := e.block.number } s w0 d w1 ∧
      s.code[s.pc]? = some 0xff ∧ w0.js.state s.target = some acc ∧ y.1 = s.target ∧
      y.2.2 = Revm.Proofs.SelfdestructNotify.movedValue acc w0.js.spec s.target y.2.1 ∧
      SelfdestructNotify.balanceOf w0.js s.target = SelfdestructNotify.balanceOf w1.js s.target + y.2.2 :=
  Revm.Proofs.EvmInstLoaded.evm_selfdestruct_balance_left fuel w e spec r first evs h x g hev y hy

/-- a kernel-evaluated run (a call to `0xbb`, which CALLs `0xcc`, which runs LOG0 and SELFDESTRUCTs to the
fresh account `0xdd`, 7 wei move) satisfies the hypothesis of the theorems above; its word has one `log 0` and one
`selfdestruct 0xcc 0xdd 7` -/
example : ∃ o w' first evs,
    transactTr 100 Revm.Proofs.EvmInstSd.witnessWorld Revm.Proofs.EvmInstSd.witnessEnv 17 =
      (.ok (o, w'), some (first, evs)) ∧
    completedSelfdestructs evs = [(0xcc, 0xdd, 7)] ∧ appendedLogs evs = [0] :=
  Revm.Proofs.EvmInstSd.witness_hypothesis

end Hooks

end Revm.Props.C01Inst
