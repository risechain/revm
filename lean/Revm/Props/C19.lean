import Revm.Proofs.Prestate
/-! C19 — executing on a preloaded bundle equals executing on the merged state: `State` over `D` with
`with_bundle_prestate(B)` (`load_cache_account` takes vacant accounts from the bundle, `code_by_hash` consults its
contracts) against `State` over `merged D B`, `D` with the bundle's plain-state changeset applied; both compared with
C15's reference state from it. Trusted: `BundleWf` of a bundle over `D` (C16's invariant; the correspondence driver
checks every generated bundle). Not modelled: the "resulting bundle changes" (compared in-harness, `post` lines); the
statements cover every read, hence (the EVM being a function of its reads) every result. Assumed: C15's exclusions
(`CodelessNoStorage` of both databases, `Excl`) and `InMemoryStorageZero`; outside it, C15's defect (A), DESIGN §9 #11:
an `InMemoryChange` bundle account reads unlisted slots as 0 (`prestate_equiv_counterexample`, confirmed on revm). -/
namespace Revm.Props.C19
open Revm Revm.Model.StateDb Revm.Spec.StateDb Revm.Spec.Prestate

def replies (r : Except String (State × List Reply)) : Option (List Reply) :=
  match r with
  | .ok p => some p.2
  | .error _ => none

/-- the property at full strength for reads: the State with the preloaded bundle and the State over the merged
database give the same replies (and neither panics) -/
def PrestateEquivStatement : Prop :=
  ∀ (D : Db) (B : Addr → Option BundleAccount) (BC : Nat → Option Code) (known sc bu : Bool)
    (ops : List Op), BundleWf D B BC known → DbWf D → DbWf (merged D B BC known) →
    Reach (merged D B BC known).code sc (St.init (merged D B BC known)) ops →
    replies ((State.build D sc bu (some (B, BC))).run ops) =
      replies ((State.build (merged D B BC known) sc bu none).run ops) ∧
    replies ((State.build D sc bu (some (B, BC))).run ops) ≠ none

/-- reads of the State with the preloaded bundle = reads of the plain reference over the merged
database (outside the excluded regions) -/
theorem prestate_reads_ref_partial (D : Db) (B : Addr → Option BundleAccount) (BC : Nat → Option Code)
    (known sc bu : Bool) (ops : List Op) (hw : BundleWf D B BC known) (hz : InMemoryStorageZero D B)
    (hD : DbWf D) (hE : CodelessNoStorage D)
    (hD' : DbWf (merged D B BC known)) (hE' : CodelessNoStorage (merged D B BC known))
    (hx : Excl sc ops) (hr : Reach (merged D B BC known).code sc (St.init (merged D B BC known)) ops) :
    ∃ s', (State.build D sc bu (some (B, BC))).run ops =
      .ok (s', (run (merged D B BC known).code sc (St.init (merged D B BC known)) ops).2) :=
  (Proofs.StateDb.run_ok hD hE ops _ _ (Proofs.StateDb.inv_init_pre sc bu B BC hD' hE'
    (Proofs.Prestate.bundle_rel hw hz) (Proofs.Prestate.merged_code hw)) hr hx).imp fun _ h => h.1

/-- C19: State(D, prestate B) and State(D ⊕ changeset B) answer every read identically and never
panic (outside the excluded regions) -/
theorem prestate_equiv_partial (D : Db) (B : Addr → Option BundleAccount) (BC : Nat → Option Code)
    (known sc bu : Bool) (ops : List Op) (hw : BundleWf D B BC known) (hz : InMemoryStorageZero D B)
    (hD : DbWf D) (hE : CodelessNoStorage D)
    (hD' : DbWf (merged D B BC known)) (hE' : CodelessNoStorage (merged D B BC known))
    (hx : Excl sc ops) (hr : Reach (merged D B BC known).code sc (St.init (merged D B BC known)) ops) :
    replies ((State.build D sc bu (some (B, BC))).run ops) =
      replies ((State.build (merged D B BC known) sc bu none).run ops) ∧
    replies ((State.build D sc bu (some (B, BC))).run ops) ≠ none := by
  obtain ⟨s1, h1⟩ := prestate_reads_ref_partial D B BC known sc bu ops hw hz hD hE hD' hE' hx hr
  obtain ⟨s2, h2⟩ := Proofs.StateDb.state_reads_ref sc bu ops hD' hE' hx hr
  rw [h1, h2]
  exact ⟨rfl, by simp [replies]⟩

/-- `From<BundleAccount> for CacheAccount` keeps the status, the info and the present values -/
theorem toCache_shape (b : BundleAccount) :
    b.toCache.status = b.status ∧ b.toCache.accountInfo = b.info := by
  unfold BundleAccount.toCache CacheAccount.accountInfo
  cases b.info <;> simp

/-! ## witness of the excluded region -/
def KE : Nat := KECCAK_EMPTY
def a1 : Addr := 0xa1
/-- the database of C15's witness (A): an empty account with slot 1 = 9 -/
def dbA : Db :=
  { basic := fun a => if a = a1 then some ⟨0, 0, KE, none⟩ else none,
    storage := fun a k => if a = a1 ∧ k = 1 then 9 else 0,
    code := fun _ => [] }
/-- the bundle the real code produces when 5 wei arrive at that account -/
def bundleA : Addr → Option BundleAccount := fun a =>
  if a = a1 then some { info := some ⟨5, 0, KE, none⟩, originalInfo := some ⟨0, 0, KE, some []⟩,
                        storage := fun _ => none, status := .InMemoryChange } else none
def noCodes : Nat → Option Code := fun _ => none
def opsA : List Op := [.basic a1, .storage a1 1]

theorem witness_left : replies ((State.build dbA true false (some (bundleA, noCodes))).run opsA) =
    some [.info (some ⟨5, 0, KE, []⟩), .word 0] := by decide
theorem witness_right : replies ((State.build (merged dbA bundleA noCodes true) true false none).run opsA) =
    some [.info (some ⟨5, 0, KE, []⟩), .word 9] := by decide

theorem wf_KE (b n : Nat) (c : Option Code) (hc : c = none ∨ c = some []) : WfInfo ⟨b, n, KE, c⟩ :=
  ⟨by show KE ≠ 0; decide, fun _ => hc⟩

private theorem mergedA_basic : (merged dbA bundleA noCodes true).basic a1 = some ⟨5, 0, KE, none⟩ := rfl

theorem bundleA_wf : BundleWf dbA bundleA noCodes true := by
  refine ⟨?_, fun h c hc => by cases hc⟩
  intro a b hb
  simp only [bundleA] at hb
  split at hb
  · rename_i ha
    cases hb
    subst ha
    refine ⟨fun _ h => by simp [infoOptEq, infoEq] at h, wf_KE 5 0 none (Or.inl rfl), Or.inl rfl,
      (fun h => by cases h), ?_, fun _ k => trivial⟩
    intro j hj
    cases mergedA_basic.symm.trans hj
    rfl
  · cases hb

theorem dbA_wf : DbWf dbA := by
  intro a i h
  simp only [dbA] at h
  split at h
  · cases h; exact wf_KE 0 0 none (Or.inl rfl)
  · cases h

theorem mergedA_wf : DbWf (merged dbA bundleA noCodes true) := by
  intro a i h
  by_cases ha : a = a1
  · subst ha
    cases mergedA_basic.symm.trans h
    exact wf_KE 5 0 none (Or.inl rfl)
  · simp [merged, bundleA, dbA, ha] at h

/-- the full statement is false of the code as it is (bundle of C15's witness (A)) -/
theorem prestate_equiv_counterexample : ¬ PrestateEquivStatement := by
  intro h
  have := (h dbA bundleA noCodes true true false opsA bundleA_wf dbA_wf mergedA_wf
    ⟨trivial, rfl, trivial⟩).1
  rw [witness_left, witness_right] at this
  exact absurd this (by decide)

/-! ## an instance: a bundle with `InMemoryStorageZero` and a history both sides answer alike (the
other hypotheses are not shown of it) -/
/-- database: a contract-like account with slot 1 = 9; bundle: its balance changed and slot 2 written -/
def dbC : Db :=
  { basic := fun a => if a = a1 then some ⟨7, 1, KE, none⟩ else none,
    storage := fun a k => if a = a1 ∧ k = 1 then 9 else 0,
    code := fun _ => [] }
def bundleC : Addr → Option BundleAccount := fun a =>
  if a = a1 then some { info := some ⟨5, 2, KE, none⟩, originalInfo := some ⟨7, 1, KE, none⟩,
                        storage := fun k => if k = 2 then some (0, 4) else none, status := .Changed } else none
def opsC : List Op := [.basic a1, .storage a1 1, .storage a1 2]

example : replies ((State.build dbC true false (some (bundleC, noCodes))).run opsC) =
    some [.info (some ⟨5, 2, KE, []⟩), .word 9, .word 4] ∧
  replies ((State.build (merged dbC bundleC noCodes true) true false none).run opsC) =
    some [.info (some ⟨5, 2, KE, []⟩), .word 9, .word 4] := by
  constructor <;> decide

example : InMemoryStorageZero dbC bundleC := by
  intro a b hb hs
  simp only [bundleC] at hb
  split at hb
  · cases hb; cases hs
  · cases hb

end Revm.Props.C19
