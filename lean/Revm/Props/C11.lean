import Revm.Proofs.Memory
import Revm.Proofs.MemoryOutcome
/-! C11 — each call frame sees its own zero-initialised memory.

`Model.Memory` is `SharedMemory` as coded (one buffer, checkpoints, `last_checkpoint`; release-profile
usize arithmetic), `Spec.Memory` a stack of independent byte lists, `abs` cuts the buffer at the
checkpoints. `WF` is the representation invariant of the struct (checkpoints ordered and in bounds,
`last_checkpoint` = top checkpoint, `Vec` length ≤ isize::MAX); it holds in every state reachable
through the public API inside the stated domain (`reachable_wf`).

Domain of the theorems (explicit hypotheses, never silently assumed):
* `UsizeArgs`: numeric arguments are usize values;
* `NoWrap` / `Admissible`: `last_checkpoint + new_size < 2^64` in `resize`. Outside it the release
  build wraps and `resize_wrap_counterexample` shows the property FAILS there (the debug build panics);
* `expansion_charge`: the macro's guard `new_size > len` and fewer than 2^32 words (where the
  quadratic formula certainly fits in 64 bits; `memory_gas_full` gives the clamped formula for every
  word count after the repair of `memory_gas`); without the guard the u64 subtraction wraps
  (`resize_memory_unguarded_shrinks_counterexample`). -/
namespace Revm.Props.C11
open Revm Revm.Model.Memory Revm.Proofs.Memory
open Revm.Spec.Memory (Frames)

/-! ### the frame stack -/

theorem abs_new : abs Model.Memory.new = [[]] := rfl

/-- `frames_abs`: a child context starts with empty memory, all existing frames stay as they are -/
theorem frames_abs (m : SharedMemory) : abs (newContext m) = [] :: abs m := abs_newContext m

/-- a new frame has length 0 and no bytes -/
theorem child_starts_empty (m : SharedMemory) (h : WF m) :
    ctx (newContext m) = [] ∧ len (newContext m) = 0 := by
  have hw := newContext_wf h
  have hc : ctx (newContext m) = [] := by unfold ctx newContext; simp
  exact ⟨hc, by rw [len_eq hw, hc]; rfl⟩

/-- `free_context` pops exactly the running frame (and is a no-op without a checkpoint); it never
violates the `set_len` contract in a well-formed state -/
theorem free_context_pops (m : SharedMemory) (h : WF m) :
    ∃ m', freeContext m = .ok m' ∧ WF m' ∧
      abs m' = (if m.checkpoints = [] then abs m else (abs m).tail) := freeContext_eq h

/-- every call of the public API is the corresponding step of the frame-stack Spec (which by
construction touches the head frame only), and preserves the invariant -/
theorem step_refines (op : Op) (m m' : SharedMemory) (h : WF m) (hu : UsizeArgs op) (hn : NoWrap op m)
    (hr : apply op m = .ok m') : WF m' ∧ specStep (toSpec op) (abs m) = some (abs m') :=
  Proofs.Memory.step_refines h hu hn hr

theorem run_refines (ops : List Op) (m m' : SharedMemory) (h : WF m) (ha : Admissible ops m)
    (hr : run ops m = .ok m') :
    WF m' ∧ Spec.Memory.run (specOps ops) (abs m) = some (abs m') :=
  Proofs.Memory.run_refines ops m m' h ha hr

/-- the invariant holds in every state reachable from `SharedMemory::new()` -/
theorem reachable_wf (ops : List Op) (m : SharedMemory) (ha : Admissible ops Model.Memory.new)
    (hr : run ops Model.Memory.new = .ok m) : WF m :=
  (Proofs.Memory.run_refines ops _ m new_wf ha hr).1

/-- `lower_frames_unchanged`: for ALL call sequences (writes, resizes, copies, nested contexts) that
do not free a context they did not open, every frame below the starting one is byte-for-byte
unchanged -/
theorem lower_frames_unchanged (ops : List Op) (m m' : SharedMemory) (h : WF m)
    (ha : Admissible ops m) (hs : Spec.Memory.StaysAbove 0 (specOps ops)) (hr : run ops m = .ok m') :
    ∃ hd', abs m' = hd' ++ (abs m).tail
      ∧ hd'.length = Spec.Memory.depthAfter 0 (specOps ops) + 1 :=
  Proofs.Memory.lower_frames_unchanged ops m m' h ha hs hr

/-- a whole child frame (new_context, anything the child and its own children do, free_context)
gives back the frame stack it found: the parent's memory and size are unchanged -/
theorem child_frame_isolated (ops : List Op) (m m1 m2 : SharedMemory) (h : WF m)
    (ha : Admissible ops (newContext m)) (hs : Spec.Memory.StaysAbove 0 (specOps ops))
    (hd : Spec.Memory.depthAfter 0 (specOps ops) = 0)
    (hr : run ops (newContext m) = .ok m1) (hf : freeContext m1 = .ok m2) :
    WF m2 ∧ abs m2 = abs m ∧ ctx m2 = ctx m ∧ len m2 = len m := by
  obtain ⟨hw, ha2⟩ := Proofs.Memory.child_frame_isolated ops m m1 m2 h ha hs hd hr hf
  obtain ⟨r1, h1⟩ := abs_head h
  obtain ⟨r2, h2⟩ := abs_head hw
  have hc : ctx m2 = ctx m := by rw [h1, h2] at ha2; injection ha2
  exact ⟨hw, ha2, hc, by rw [len_eq hw, len_eq h, hc]⟩

set_option linter.unusedVariables false in
/-- `insert_call_outcome_window` (memory part of `Interpreter::insert_call_outcome`): after the child
returned, the parent's memory changes only inside `[out_offset, out_offset + min(out_len, ret.len))`,
where it holds the return data; its size and all lower frames are unchanged -/
theorem insert_call_outcome_window (m m' : SharedMemory) (outOffset outLen : Nat) (ret : List Nat)
    (h : WF m) (ho : outOffset < U64) (hl : ret.length < U64)
    (hne : min outLen ret.length ≠ 0)
    (hr : insertCallOutcomeMem m outOffset outLen ret = .ok m') :
    let t := min outLen ret.length
    (ctx m').length = (ctx m).length
    ∧ (∀ i, i < outOffset ∨ outOffset + t ≤ i → (ctx m')[i]? = (ctx m)[i]?)
    ∧ (∀ i, i < t → (ctx m')[outOffset + i]? = ret[i]?)
    ∧ abs m' = ctx m' :: (abs m).tail := by
  intro t
  unfold insertCallOutcomeMem at hr
  have hlen : (ret.take (min outLen ret.length)).length = t := by
    rw [List.length_take]; omega
  obtain ⟨_, w2, w3, w4, w5⟩ := Proofs.MemoryOutcome.set_window h ho (by rw [hlen]; omega) hr
  rw [hlen] at w3 w4
  exact ⟨w2, w3, fun i hi => by rw [w4 i hi, List.getElem?_take, if_pos (by omega)], w5⟩

/-- `parent_size_unchanged`, also when nothing is returned (`set` with an empty slice does nothing) -/
theorem insert_call_outcome_empty (m : SharedMemory) (outOffset outLen : Nat) (ret : List Nat)
    (hz : min outLen ret.length = 0) : insertCallOutcomeMem m outOffset outLen ret = .ok m := by
  unfold insertCallOutcomeMem; rw [hz]; exact set_empty m outOffset

/-! ### resize -/

/-- `resize_zero_fills`: `resize` is cut / extend-with-zeros on the running context only -/
theorem resize_zero_fills (m m' : SharedMemory) (n : Nat) (h : WF m)
    (hn : m.lastCheckpoint + n < U64) (hr : resize m n = .ok m') :
    (ctx m').length = n
    ∧ (∀ i, i < n → i < (ctx m).length → (ctx m')[i]? = (ctx m)[i]?)
    ∧ (∀ i, i < n → (ctx m).length ≤ i → (ctx m')[i]? = some 0)
    ∧ abs m' = ctx m' :: (abs m).tail := by
  obtain ⟨he, _⟩ := resize_head h hn hr
  have hc : ctx m' = Spec.Memory.resizeF n (ctx m) := by rw [he]; exact replaceCtx_ctx h _
  refine ⟨by rw [hc]; exact resizeF_length _ _, ?_, ?_, ?_⟩
  · intro i h1 h2; rw [hc]; exact resizeF_old _ _ i h1 h2
  · intro i h1 h2; rw [hc]; exact resizeF_new_zero _ _ i h1 h2
  · rw [he]; exact replaceCtx_frame h _

/-- `resize_memory_words`, `only_grows`, `expansion_charge`: under the guard of the `resize_memory!`
macro (`new_size > len`) and below 2^32 words, `resize_memory` charges exactly
`C_mem(⌈new_size/32⌉) − C_mem(⌈len/32⌉)` (Yellow-Paper formula `3w + ⌊w²/512⌋`); if the gas suffices
the context keeps its bytes and is extended with zeros to `32·⌈new_size/32⌉ ≥ new_size > len` bytes,
otherwise nothing changes -/
theorem expansion_charge (m : SharedMemory) (rem newSize : Nat) (h : WF m)
    (hguard : len m < newSize) (hw : Spec.Memory.words newSize < 2^32)
    (hx : m.lastCheckpoint + 32 * Spec.Memory.words newSize ≤ ISIZE_MAX) :
    let w := Spec.Memory.words newSize
    let charge := Spec.Memory.memGas w - Spec.Memory.memGas (Spec.Memory.words (len m))
    (charge ≤ rem →
      ∃ m', resizeMemory m rem newSize = .ok (true, m', rem - charge)
        ∧ WF m'
        ∧ ctx m' = ctx m ++ List.replicate (32 * w - len m) 0
        ∧ len m' = 32 * w ∧ len m' % 32 = 0 ∧ newSize ≤ len m' ∧ len m < len m'
        ∧ abs m' = ctx m' :: (abs m).tail)
    ∧ (rem < charge → resizeMemory m rem newSize = .ok (false, m, rem)) := by
  intro w charge
  have hl := len_eq h
  have hg : (ctx m).length ≤ newSize := by rw [← hl]; omega
  have hnew : memoryGas (numWords newSize) = Spec.Memory.memGas w := memoryGas_words hw
  have hcur : currentExpansionCost m = Spec.Memory.memGas (Spec.Memory.words (len m)) :=
    memoryGas_words (Nat.lt_of_le_of_lt (words_mono (Nat.le_of_lt hguard)) hw)
  have hge : len m ≤ 32 * w := by
    show len m ≤ 32 * ((newSize + 31) / 32); omega
  constructor
  · intro hc
    have hsp := resizeMemory_grow (rem := rem) h hg (by rw [hnew, hcur]; exact hc)
      (by rw [hnew]; exact memGas_lt w hw) hx
    rw [hnew, hcur, ← hl] at hsp
    have hlen' : m.lastCheckpoint + (ctx m ++ List.replicate (32 * w - len m) 0).length ≤ ISIZE_MAX := by
      rw [List.length_append, List.length_replicate, ← hl, Nat.add_sub_cancel' hge]; exact hx
    have hw' := replaceCtx_wf h _ hlen'
    have hctx := replaceCtx_ctx h (ctx m ++ List.replicate (32 * w - len m) 0)
    have hlm' : len (replaceCtx m (ctx m ++ List.replicate (32 * w - len m) 0)) = 32 * w := by
      rw [len_eq hw', hctx, List.length_append, List.length_replicate, ← hl, Nat.add_sub_cancel' hge]
    have hcov : newSize ≤ 32 * w := by
      show newSize ≤ 32 * ((newSize + 31) / 32); omega
    refine ⟨_, hsp, hw', hctx, hlm', ?_, ?_, ?_, ?_⟩
    · rw [hlm']; omega
    · rw [hlm']; exact hcov
    · rw [hlm']; omega
    · exact replaceCtx_frame h _
  · intro hc
    exact resizeMemory_oog h hg (by rw [hnew, hcur]; exact hc)

/-- `only_grows`, as the instructions see it (`resize_memory!` macro: guard + `resize_memory`): the
running context never gets shorter, gas never increases, lower frames are untouched -/
theorem macro_only_grows (m : SharedMemory) (rem offset len_ : Nat) (h : WF m)
    (hw : Spec.Memory.words (U64ops.saturatingAdd offset len_) < 2^32)
    (hx : m.lastCheckpoint + 32 * Spec.Memory.words (U64ops.saturatingAdd offset len_) ≤ ISIZE_MAX) :
    ∃ s m' rem', resizeMemoryMacro m rem offset len_ = .ok (s, m', rem')
      ∧ len m ≤ len m' ∧ rem' ≤ rem ∧ (abs m').tail = (abs m).tail := by
  unfold resizeMemoryMacro
  simp only []
  by_cases hg : U64ops.saturatingAdd offset len_ > len m
  · rw [if_pos hg]
    obtain ⟨h1, h2⟩ := expansion_charge m rem _ h hg hw hx
    by_cases hc : Spec.Memory.memGas (Spec.Memory.words (U64ops.saturatingAdd offset len_))
        - Spec.Memory.memGas (Spec.Memory.words (len m)) ≤ rem
    · obtain ⟨m', hm', _, _, _, _, _, hlt, habs⟩ := h1 hc
      exact ⟨true, m', _, hm', Nat.le_of_lt hlt, Nat.sub_le _ _, by rw [habs]; rfl⟩
    · exact ⟨false, m, rem, h2 (Nat.lt_of_not_le hc), Nat.le_refl _, Nat.le_refl _, rfl⟩
  · rw [if_neg hg]
    exact ⟨true, m, rem, rfl, Nat.le_refl _, Nat.le_refl _, rfl⟩

/-- the pure functions: `num_words` is ⌈n/32⌉ (for n ≤ 2^64 − 32) and `memory_gas` the quadratic
formula (for fewer than 2^32 words) -/
theorem num_words_eq (n : Nat) (h : n + 31 < U64) : numWords n = Spec.Memory.words n := numWords_eq n h
theorem memory_gas_eq (w : Nat) (h : w < 2^32) : memoryGas w = Spec.Memory.memGas w := memoryGas_eq w h

/-! ### set_data, slice, copy -/

set_option linter.unusedVariables false in
/-- `set_data` as coded (two branches, two `slice_mut`s) = one write of `len` bytes: `data[dOff..]`
cut to `len`, then zeros; only the running context changes -/
theorem set_data_semantics (m m' : SharedMemory) (moff dOff len_ : Nat) (data : List Nat) (h : WF m)
    (h1 : moff < U64) (h2 : dOff < U64) (h3 : len_ < U64) (h4 : data.length < U64)
    (hr : setData m moff dOff len_ data = .ok m') :
    moff + len_ ≤ (ctx m).length
    ∧ ctx m' = writeAt (ctx m) moff (Spec.Memory.paddedSlice data dOff len_)
    ∧ (∀ i, i < len_ → (ctx m')[moff + i]? = some ((data[dOff + i]?).getD 0))
    ∧ abs m' = ctx m' :: (abs m).tail := by
  obtain ⟨f', hf, hm⟩ := setData_head h h1 h2 h3 hr
  have hpl := paddedSlice_length data dOff len_
  unfold Spec.Memory.setDataF Spec.Memory.writeF at hf
  rw [hpl] at hf
  by_cases hc : moff + len_ ≤ (ctx m).length
  · rw [if_pos hc] at hf; injection hf with hf
    have hctx : ctx m' = writeAt (ctx m) moff (Spec.Memory.paddedSlice data dOff len_) := by
      rw [hm, replaceCtx_ctx h, ← hf]; unfold writeAt; rw [hpl]
    refine ⟨hc, hctx, ?_, ?_⟩
    · intro i hi
      rw [hctx, writeAt_getElem_inside _ _ _ i (by rw [hpl]; exact hc) (by rw [hpl]; exact hi)]
      exact paddedSlice_getElem data dOff len_ i hi
    · rw [hm]; exact replaceCtx_frame h _
  · rw [if_neg hc] at hf; cases hf

/-- out-of-range `slice` is never answered with a default value: it is `ub`
(`debug_unreachable!`: panic with debug assertions, undefined behaviour without) -/
theorem slice_ok_iff (m : SharedMemory) (h : WF m) (off size : Nat) (ho : off < U64) (hs : size < U64) :
    (∃ bs, slice m off size = .ok bs) ↔ off + size ≤ (ctx m).length := by
  rw [slice_eq h ho hs]
  constructor
  · intro ⟨bs, hb⟩
    split at hb
    · assumption
    · cases hb
  · intro hin; rw [if_pos hin]; exact ⟨_, rfl⟩

theorem slice_value (m : SharedMemory) (h : WF m) (off size : Nat) (hin : off + size ≤ (ctx m).length) :
    slice m off size = .ok (((ctx m).drop off).take size) := Proofs.Memory.slice_value h off size hin

/-- `copy` panics (a real panic, before anything moves) exactly when a range leaves the context -/
theorem copy_ok_iff (m : SharedMemory) (h : WF m) (dst src len_ : Nat) (hs : src < U64) (hl : len_ < U64) :
    (∃ m', copy m dst src len_ = .ok m') ↔ src + len_ ≤ (ctx m).length ∧ dst + len_ ≤ (ctx m).length := by
  rw [copy_eq h hs hl]
  constructor
  · intro ⟨m', hm'⟩
    split at hm'
    · assumption
    · cases hm'
  · intro hin; rw [if_pos hin]; exact ⟨_, rfl⟩

/-! ### where the code leaves the property (witnesses replayed by the harness, see harness/src/c11.rs) -/

def witnessParent : SharedMemory := ⟨List.replicate 32 255, [0], 0⟩
def witnessChildOps : List Op := [.resize (2^64 - 32), .resize 64]

/-- FINDING (release profile). `resize` computes `last_checkpoint + new_size` with a wrapping usize
add: a child frame resizing to 2^64−32 cuts the shared buffer to length 0 — below its own
checkpoint —, its next growth zero-fills the parent's region, and after `free_context` the parent
reads 32 zero bytes where it had stored 0xff…ff. All arguments are usize values and the child
frees nothing it did not open: only `NoWrap` fails. (Reaching this through `resize_memory` needs
≈1.84·10^19 gas: `memory_gas` saturates to u64::MAX there, so only a frame holding all of u64::MAX gas gets that far.) -/
theorem resize_wrap_counterexample :
    WF witnessParent
    ∧ (∀ op ∈ witnessChildOps, UsizeArgs op)
    ∧ Spec.Memory.StaysAbove 0 (specOps witnessChildOps)
    ∧ Spec.Memory.depthAfter 0 (specOps witnessChildOps) = 0
    ∧ ∃ m1 m2, run witnessChildOps (newContext witnessParent) = .ok m1 ∧ freeContext m1 = .ok m2
        ∧ ctx witnessParent = List.replicate 32 255 ∧ ctx m2 = List.replicate 32 0
        ∧ abs m2 ≠ abs witnessParent := by
  refine ⟨⟨⟨Nat.zero_le _, trivial⟩, rfl, by decide⟩, ?_, ?_, ?_, ?_⟩
  · intro op hop
    simp only [witnessChildOps, List.mem_cons, List.mem_nil_iff, or_false] at hop
    rcases hop with rfl | rfl <;> simp only [UsizeArgs] <;> rw [U64_val] <;> decide
  · simp [specOps, witnessChildOps, toSpec, Spec.Memory.StaysAbove]
  · simp [specOps, witnessChildOps, toSpec, Spec.Memory.depthAfter]
  · refine ⟨⟨List.replicate 96 0, [32, 0], 32⟩, ⟨List.replicate 32 0, [0], 0⟩, ?_, ?_, ?_, ?_, ?_⟩
    · decide +kernel
    · decide +kernel
    · decide +kernel
    · decide +kernel
    · decide +kernel

/-- API-level caveat (release profile). Without the macro's guard `new_size > len`, `resize_memory`
called with a smaller size and a full gas counter accepts the wrapped charge 2^64−6 and SHRINKS the
memory from 64 to 0 bytes, leaving 5 gas (the debug build panics on the subtraction). No instruction
reaches this: every instruction goes through the guarded macro. -/
theorem resize_memory_unguarded_shrinks_counterexample :
    resizeMemory ⟨List.replicate 64 0, [0], 0⟩ (2^64 - 1) 0 = .ok (true, ⟨[], [0], 0⟩, 5) := by
  decide +kernel

/-- `memory_gas` (after the repair `fix: memory_gas undercharged …`) is the quadratic formula for
every word count, clamped to `u64::MAX` where it needs more than 64 bits -/
theorem memory_gas_full (w : Nat) : memoryGas w = min (Spec.Memory.memGas w) (U64 - 1) :=
  memoryGas_full w

/-- regression of the repaired defect (the code used to return one less / far less from 2^32 words on) -/
theorem memory_gas_regression :
    memoryGas (2^32) = Spec.Memory.memGas (2^32) ∧ memoryGas (2^33) = Spec.Memory.memGas (2^33)
    ∧ memoryGas (2^37) = 2^64 - 1 := by
  decide +kernel

/-- `num_words` is one word short for the last 31 lengths -/
theorem num_words_saturates_counterexample :
    numWords (2^64 - 1) + 1 = Spec.Memory.words (2^64 - 1) := by decide +kernel

/-! ### non-vacuity: the hypotheses above are satisfiable by non-trivial states -/

def exState : SharedMemory := ⟨[1, 2, 3, 4, 5, 6, 7, 8], [4, 0], 4⟩
def exOps : List Op :=
  [.set 0 [9, 9], .newContext, .resize 3, .setData 0 1 3 [7, 8], .copy 0 1 2, .freeContext, .slice 2 2]

example : WF exState := ⟨⟨by decide, by decide, trivial⟩, rfl, by decide⟩
example : abs exState = [[5, 6, 7, 8], [1, 2, 3, 4], []] := by decide
example : run exOps exState = .ok ⟨[1, 2, 3, 4, 9, 9, 7, 8], [4, 0], 4⟩ := by decide +kernel
example : Spec.Memory.StaysAbove 0 (specOps exOps) := by
  simp [specOps, exOps, toSpec, Spec.Memory.StaysAbove, List.filterMap]
example : UsizeArgs (.setData 0 1 3 [7, 8]) ∧ NoWrap (.resize 3) exState := by
  refine ⟨⟨?_, ?_, ?_, ?_⟩, ?_⟩
  all_goals (show _ < U64; rw [U64_val]; decide)
example : resizeMemory exState 100 5 = .ok (true, ⟨[1, 2, 3, 4, 5, 6, 7, 8] ++ List.replicate 28 0, [4, 0], 4⟩, 100) := by
  decide +kernel
example : len exState < 5 ∧ Spec.Memory.words 5 < 2^32 ∧ exState.lastCheckpoint + 32 * Spec.Memory.words 5 ≤ ISIZE_MAX := by
  decide +kernel
example : Spec.Memory.words (U64ops.saturatingAdd 3 2) < 2^32 := by decide +kernel
example : insertCallOutcomeMem exState 1 2 [7, 7, 7] = .ok ⟨[1, 2, 3, 4, 5, 7, 7, 8], [4, 0], 4⟩ := by decide +kernel
example : setData exState 1 1 3 [7, 8] = .ok ⟨[1, 2, 3, 4, 5, 8, 0, 0], [4, 0], 4⟩ := by decide +kernel
example : slice exState 3 2 = .ub ∧ copy exState 3 0 2 = .panic := by decide +kernel

/-! ### re-entry of a child's result, on the integrated interpreter model

`Model.Interp.insertCallOutcome` models the whole `Interpreter::insert_call_outcome`; the frame machine of C01/C25 runs
it, and the `mem ico` lines of the C11 stream execute it against the REAL function on memories with non-zero bytes in and
around the window. -/

open Revm.Model.Interp in
/-- `insert_call_outcome_window` on `Interp.insertCallOutcome`: for every parent state and every child outcome whose
written part of the window is addressable (the CALL made the whole window addressable), either the result is
`FatalExternalError` (the `panic!`; nothing was written), or the function ends - normally or with `StackOverflow`
from the `push!` of the status word - in a state whose memory has the SAME size, is byte-for-byte what it was outside
`[out_offset, out_offset + min(out_len, returned.len()))`, holds the returned bytes there (nothing at all is written
for an error-class result), and all frames below are untouched. Bytes of the window beyond the returned length are
therefore NOT cleared. -/
theorem interp_insert_call_outcome_window (retStart retEnd : Nat) (o : ChildResult) (s : IState)
    (h : WF s.mem) (ho : retStart < U64) (hl : o.output.length < U64)
    (hwin : min (retEnd - retStart) o.output.length ≠ 0 →
      retStart + min (retEnd - retStart) o.output.length ≤ (ctx s.mem).length) :
    (o.result = .FatalExternalError ∧ insertCallOutcome retStart retEnd o s = .fault .panic)
    ∨ ∃ s', (insertCallOutcome retStart retEnd o s = .ok () s'
              ∨ insertCallOutcome retStart retEnd o s = .halt .StackOverflow [] s')
        ∧ WF s'.mem
        ∧ (ctx s'.mem).length = (ctx s.mem).length
        ∧ (∀ i, i < retStart ∨ retStart + min (retEnd - retStart) o.output.length ≤ i →
              (ctx s'.mem)[i]? = (ctx s.mem)[i]?)
        ∧ ((o.result.isOk = true ∨ o.result.isRevert = true) →
              ∀ i, i < min (retEnd - retStart) o.output.length → (ctx s'.mem)[retStart + i]? = o.output[i]?)
        ∧ (o.result.isOk = false → o.result.isRevert = false → s'.mem = s.mem)
        ∧ abs s'.mem = ctx s'.mem :: (abs s.mem).tail := by
  have hlen : (o.output.take (min (retEnd - retStart) o.output.length)).length
      = min (retEnd - retStart) o.output.length := by
    rw [List.length_take]; omega
  rcases Proofs.MemoryOutcome.insertCallOutcome_mem retStart retEnd o s with hf | ⟨_, hnok, hnrev, s', hL, hm⟩ | ⟨hcls, hw⟩
  · exact Or.inl hf
  · obtain ⟨r, hr⟩ := abs_head h
    refine Or.inr ⟨s', hL, by rw [hm]; exact h, by rw [hm], fun i _ => by rw [hm], ?_, fun _ _ => hm, by rw [hm, hr]; rfl⟩
    intro hc; rcases hc with hc | hc
    · rw [hnok] at hc; cases hc
    · rw [hnrev] at hc; cases hc
  · obtain ⟨m', hset⟩ := Proofs.MemoryOutcome.set_total h retStart
      (o.output.take (min (retEnd - retStart) o.output.length))
      (by intro hne; rw [hlen]; apply hwin; intro hz; apply hne
          exact List.eq_nil_of_length_eq_zero (by rw [hlen]; exact hz))
    rw [hset] at hw
    obtain ⟨s', hL, hm⟩ := hw
    obtain ⟨w1, w2, w3, w4, w5⟩ := Proofs.MemoryOutcome.set_window h ho (by rw [hlen]; omega) hset
    rw [hlen] at w3 w4
    refine Or.inr ⟨s', hL, by rw [hm]; exact w1, by rw [hm]; exact w2, by rw [hm]; exact w3, ?_, ?_, by rw [hm]; exact w5⟩
    · intro _ i hi
      rw [hm, w4 i hi, List.getElem?_take, if_pos hi]
    · intro h1 h2
      rcases hcls with hc | hc
      · rw [h1] at hc; cases hc
      · rw [h2] at hc; cases hc

open Revm.Model.Interp in
/-- `parent_size_unchanged` and the bytes behind a short return: when the child returns FEWER bytes than the window
is long (none included), the rest of the window keeps the parent's bytes -/
theorem interp_insert_call_outcome_short_return (retStart retEnd : Nat) (o : ChildResult) (s s' : IState)
    (h : WF s.mem) (ho : retStart < U64) (hl : o.output.length < U64)
    (hwin : retStart < retEnd → retEnd ≤ (ctx s.mem).length)
    (hr : insertCallOutcome retStart retEnd o s = .ok () s'
          ∨ insertCallOutcome retStart retEnd o s = .halt .StackOverflow [] s') :
    (ctx s'.mem).length = (ctx s.mem).length
    ∧ ∀ i, retStart + o.output.length ≤ i → (ctx s'.mem)[i]? = (ctx s.mem)[i]? := by
  have hw : min (retEnd - retStart) o.output.length ≠ 0 →
      retStart + min (retEnd - retStart) o.output.length ≤ (ctx s.mem).length := by
    intro hne
    have := hwin (by omega)
    omega
  rcases interp_insert_call_outcome_window retStart retEnd o s h ho hl hw with ⟨_, hp⟩ | ⟨s'', hL, _, h2, h3, _⟩
  · rw [hp] at hr; rcases hr with hr | hr <;> cases hr
  · have hs : s'' = s' := by
      rcases hL with hL | hL <;> rcases hr with hr | hr <;> rw [hL] at hr <;> injection hr
    subst hs
    exact ⟨h2, fun i hi => h3 i (Or.inr (by omega))⟩

open Revm.Model.Interp in
/-- `insert_create_outcome` and `insert_eofcreate_outcome` (which are not even handed the shared memory) leave the
parent's memory object exactly as it is, whatever the child returned -/
theorem interp_insert_create_outcome_memory (o : ChildResult) (s : IState) :
    (insertCreateOutcome o s = .fault .panic
      ∨ ∃ s', (insertCreateOutcome o s = .ok () s' ∨ insertCreateOutcome o s = .halt .StackOverflow [] s')
          ∧ s'.mem = s.mem)
    ∧ (insertEofCreateOutcome o s = .fault .panic
      ∨ ∃ s', (insertEofCreateOutcome o s = .ok () s' ∨ insertEofCreateOutcome o s = .halt .StackOverflow [] s')
          ∧ s'.mem = s.mem) := by
  refine ⟨?_, Proofs.MemoryOutcome.insertEofCreateOutcome_mem o s⟩
  rcases Proofs.MemoryOutcome.insertCreateOutcome_mem o s with ⟨_, hp⟩ | hx
  · exact Or.inl hp
  · exact Or.inr hx

/-- the parent of the examples: two frames, the running one `[5, 6, 7, 8]` -/
def exParent : Model.Interp.IState :=
  { Model.Interp.IState.init [0] [] 1000 false 17 0 0 0 {} exState with gas := ⟨1000, 400, 0⟩ }

example : WF exParent.mem ∧ (1 : Nat) < U64 ∧ ([9] : List Nat).length < U64
    ∧ (min (4 - 1) ([9] : List Nat).length ≠ 0 → 1 + min (4 - 1) ([9] : List Nat).length ≤ (ctx exParent.mem).length) := by
  refine ⟨⟨⟨by decide, by decide, trivial⟩, rfl, by decide⟩, ?_, ?_, by decide⟩
  all_goals (rw [U64_val]; decide)
/-- window `[1, 4)`, one byte returned: only byte 1 changes, bytes 2 and 3 of the window keep `7, 8` -/
example : ∃ s', Model.Interp.insertCallOutcome 1 4 ⟨.Return, [9], 100, 5, none⟩ exParent = .ok () s'
    ∧ s'.mem = ⟨[1, 2, 3, 4, 5, 9, 7, 8], [4, 0], 4⟩ ∧ s'.stack = [1] ∧ s'.gas = ⟨1000, 500, 5⟩ :=
  ⟨_, rfl, by decide +kernel, by decide +kernel, by decide +kernel⟩
/-- a reverting child that returns nothing: memory untouched, `0` pushed -/
example : ∃ s', Model.Interp.insertCallOutcome 0 4 ⟨.Revert, [], 100, 5, none⟩ exParent = .ok () s'
    ∧ s'.mem = exState ∧ s'.stack = [0] ∧ s'.gas = ⟨1000, 500, 0⟩ :=
  ⟨_, rfl, by decide +kernel, by decide +kernel, by decide +kernel⟩

end Revm.Props.C11
