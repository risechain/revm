import Revm.Proofs.OpFeesTx
import Revm.Proofs.OpFeesL1
import Revm.Proofs.OpFeesGas
/-! # C33 — Optimism fee distribution

"With the Optimism handler, for every non-deposit transaction the sender's total debit equals the value it
transferred plus what the beneficiary, base-fee vault, L1-fee vault and operator-fee vault receive plus
nothing else, with the L1 cost computed from the enveloped transaction; every deposit transaction mints
exactly its mint amount and, even when it fails, persists the mint and the nonce increment."

Statements are about `Model.OpFees` (the code-shaped model of `optimism/{handler_register,l1block,fast_lz}.rs`
composed as in `Evm::transact`), which the correspondence streams `opfee` / `optx` / `ophist` (several
transactions on one `Evm`) tie to the compiled code.

Four families: conservation for regular transactions (with the gas the fees are computed from), the operator
fee, the L1 cost (from the envelope; the fork's formula; fresh for every transaction), deposits. The only terms of
the conservation identity beside the four credits and the value are the ones the code really has: the blob fee
of `deduct_caller_inner` (burnt, as on L1) and a `mint` field on a NON-deposit transaction, which `deduct_caller`
credits (`non_deposit_mint_counterexample`). For deposits the code departs from the sentence for a non-zero gas
price (outside the protocol) and in known finding F2 (Bedrock create deposit that cannot pay its value: nonce
not bumped): `_counterexample` theorems. -/
namespace Revm.Props.C33
open Revm Revm.U256 Revm.Model.Gas Revm.Model.OpFees Revm.Proofs.OpFees

/-! ## regular transactions -/

/-- **Conservation.** A non-deposit transaction that passes the three validation handlers, run with ANY
first frame `exec` that does not touch the four fee accounts and does not pay the sender, for ANY frame
result (class, gas left ≤ limit, refund counter of any sign), any prices and L1 parameters, any fork from
London on (all Optimism forks): the outcome is `done`, the coinbase / base fee vault / L1 fee vault /
operator fee vault receive exactly `(egp − basefee)·used`, `basefee·used`, `l1`, `operator(used)`, where `l1`
is the cost of the enveloped transaction under the fetched L1 parameters, and

  sender's debit (net of a `mint` field)
      = value moved by the frame + the four credits + blob fee (0 without blobs).

No-saturation hypotheses: the five balances involved add up to less than 2^256 (`hsup`; every debit-side
saturation is excluded by validation itself). -/
theorem op_fee_conservation (tx : Tx) (s : Slots) (pre : St) (exec : St → St) (fr : Frame) (oi : Option L1Info)
    (hdep : tx.isDeposit = false) (hlon : enabled tx.spec LONDON = true)
    (hve : validateEnv tx = none) (hvg : validateInitialGas tx = none)
    (hvs : validateTxAgainstState tx s pre = .ok oi)
    (hdf : dataFee' tx ≤ maxData tx)
    (hl : tx.gasLimit < U64) (hr : fr.remaining ≤ tx.gasLimit) (hd : FiveDistinct tx)
    (hq : FrameQuiet tx exec)
    (hsup : pre.bal tx.caller + tx.mint.getD 0 + pre.bal tx.coinbase + pre.bal L1_FEE_RECIPIENT
              + pre.bal BASE_FEE_RECIPIENT + pre.bal OPERATOR_FEE_RECIPIENT < W) :
    ∃ env l1 cL cU kind used refunded st',
      tx.enveloped = some env ∧
      l1 = (if zeroCostEnvelope env then 0 else l1CostFresh (tryFetch s tx.spec) env tx.spec) ∧
      operatorFeeCharge (tryFetch s tx.spec) tx.gasLimit tx.spec = some cL ∧
      operatorFeeCharge (tryFetch s tx.spec) used tx.spec = some cU ∧
      transactWith tx s pre exec fr = .done kind used refunded st' ∧
      used = usedGas (finalGas tx fr) ∧
      st'.bal tx.coinbase = pre.bal tx.coinbase + (effectiveGasPrice tx - tx.basefee) * used ∧
      st'.bal BASE_FEE_RECIPIENT = pre.bal BASE_FEE_RECIPIENT + tx.basefee * used ∧
      st'.bal L1_FEE_RECIPIENT = pre.bal L1_FEE_RECIPIENT + l1 ∧
      st'.bal OPERATOR_FEE_RECIPIENT = pre.bal OPERATOR_FEE_RECIPIENT + cU ∧
      (pre.bal tx.caller + tx.mint.getD 0 : Int) - st'.bal tx.caller =
        ((deducted tx pre l1 cL).bal tx.caller : Int) - ((exec (deducted tx pre l1 cL)).bal tx.caller : Nat)
        + (((effectiveGasPrice tx - tx.basefee) * used + tx.basefee * used + l1 + cU + dataFee' tx : Nat) : Int) := by
  have hW : pre.bal tx.caller < W := by omega
  obtain ⟨info, env, l1, cL, hoi, hv, hl1⟩ := validated_of_ok hdep hW hvs
  have hbf := basefee_le_of_validateEnv tx hdep hve
  obtain ⟨cU, kind, used, refunded, st', hcU, hrun, hused, h1, h2, h3, h4, h5⟩ :=
    conservation_core hdep hlon hv hbf hdf hl hr hd hq hsup
  have hop : ∀ g, operatorFeeCharge (tryFetch s tx.spec) g tx.spec = operatorFeeCharge info g tx.spec := by
    intro g
    have := calculateTxL1Cost_op (tryFetch s tx.spec) env tx.spec g
    rw [hl1] at this
    exact this.symm
  refine ⟨env, l1, cL, cU, kind, used, refunded, st', hv.env_eq, ?_, ?_, ?_, ?_, hused, h1, h2, h3, h4, h5⟩
  · have h6 := calculateTxL1Cost_fresh (tryFetch s tx.spec) env tx.spec (tryFetch_cache s tx.spec)
    rw [hl1] at h6; exact h6
  · rw [hop]; exact hv.charge_eq
  · rw [hop, hused]; exact hcU
  · unfold transactWith
    simp only [hve, hvg, hvs, hoi]
    exact hrun

/-- a concrete Isthmus transaction (scalar 10^6, constant 5, limit 100000, the frame used 21000 …) -/
def exTx : Tx :=
  { spec := ISTHMUS, isDeposit := false, isSystem := none, mint := none, isCreate := false,
    gasLimit := 100000, gasPrice := 10, priorityFee := some 2, value := 7, basefee := 3,
    data := [], enveloped := some [0xfa, 0xca, 0xde], txNonce := some 0, caller := 0x51, coinbase := 0xCB,
    target := 0x70, maxDataFee := 0, dataFee := 0 }
def exSlots : Slots :=
  { s1 := 1000, s5 := 0, s6 := 0, s7 := 1000, s3 := 1000 * 2 ^ 96 + 1000 * 2 ^ 64, s8 := 1000000 * 2 ^ 64 + 5 }
def exPre : St := { bal := fun a => if a = 0x51 then 10 ^ 18 else 0, nonce := 0 }
def exFr : Frame := { cls := .ok, remaining := 79000, refunded := 4800 }

def isOk : VRes → Bool
  | .ok (some _) => true
  | _ => false

/-- the hypotheses of `op_fee_conservation` are satisfiable (validation passes, the frame is a real one) -/
example : validateEnv exTx = none ∧ validateInitialGas exTx = none ∧
    isOk (validateTxAgainstState exTx exSlots exPre) = true ∧ exFr.remaining ≤ exTx.gasLimit ∧
    FiveDistinct exTx ∧ FrameQuiet exTx (fun st => execSimple exTx st exFr) := by
  refine ⟨by decide, by decide, by decide +kernel, by decide, ?_, ?_⟩
  · exact ⟨by decide, by decide, by decide, by decide, by decide, by decide, by decide⟩
  · exact execSimple_quiet exTx exFr (by decide) (by decide) (by decide) (by decide) (by decide)
      ⟨by decide, by decide, by decide, by decide, by decide, by decide, by decide⟩

/-- sum of the balances of the six accounts an `optx` line talks about -/
def sixSum (tx : Tx) (b : Nat → Nat) : Nat :=
  b tx.caller + b tx.target + b tx.coinbase + b BASE_FEE_RECIPIENT + b L1_FEE_RECIPIENT + b OPERATOR_FEE_RECIPIENT

/-- observable of an outcome used by the counterexample theorems: the six-account sum and the sender's nonce -/
def outcomeSum (tx : Tx) : Outcome → Option (Nat × Nat)
  | .done _ _ _ st => some (sixSum tx st.bal, st.nonce)
  | _ => none

/-- the statement of the property, literally, without the no-mint hypothesis — FALSE of the code, see
`non_deposit_mint_counterexample` -/
def FullStatementConservation : Prop :=
  ∀ (tx : Tx) (s : Slots) (pre : St) (fr : Frame) (kind : Kind) (used refunded : Nat) (st' : St),
    tx.isDeposit = false → Revm.Spec.OpFees.distinct tx = true →
    transact tx s pre fr = .done kind used refunded st' →
    sixSum tx pre.bal = sixSum tx st'.bal

def mintTx : Tx := { exTx with mint := some 984 }

/-- a regular transaction that carries a `mint` value is credited with it (`deduct_caller` does not look at
`source_hash` for the mint): the six balances grow by the mint, so the literal conservation sentence fails.
Witness: the generated `optx` lines with `deposit = 0` and a mint (reply `cons=0`). -/
theorem non_deposit_mint_counterexample : ¬ FullStatementConservation := by
  intro h
  have key : outcomeSum mintTx (transact mintTx exSlots exPre exFr) =
      some (sixSum mintTx exPre.bal + 984, 1) := by decide +kernel
  cases hres : transact mintTx exSlots exPre exFr with
  | done k u r st' =>
    have h1 := h mintTx exSlots exPre exFr k u r st' rfl (by decide) hres
    rw [hres] at key
    simp only [outcomeSum, Option.some.injEq, Prod.mk.injEq] at key
    omega
  | err e => rw [hres] at key; simp [outcomeSum] at key
  | panic => rw [hres] at key; simp [outcomeSum] at key

/-- **The property's sentence, literally**, for the frames the harness runs (`execSimple`: a call / create
that moves the value iff it succeeds), a transaction without a `mint` field and without blobs: what the
sender loses is exactly the value moved (`tx.value` after a successful frame, 0 otherwise) plus what coinbase,
base fee vault, L1 fee vault and operator fee vault gain — and nothing else. -/
theorem op_fee_conservation_exact (tx : Tx) (s : Slots) (pre : St) (fr : Frame) (oi : Option L1Info)
    (hdep : tx.isDeposit = false) (hlon : enabled tx.spec LONDON = true)
    (hve : validateEnv tx = none) (hvg : validateInitialGas tx = none)
    (hvs : validateTxAgainstState tx s pre = .ok oi)
    (hmint : tx.mint = none) (hblob : dataFee' tx = 0)
    (hl : tx.gasLimit < U64) (hr : fr.remaining ≤ tx.gasLimit) (hn : pre.nonce + 1 < U64) (hd : FiveDistinct tx)
    (h0 : tx.target ≠ tx.caller) (h1 : tx.coinbase ≠ tx.target) (h2 : L1_FEE_RECIPIENT ≠ tx.target)
    (h3 : BASE_FEE_RECIPIENT ≠ tx.target) (h4 : OPERATOR_FEE_RECIPIENT ≠ tx.target)
    (hsup : pre.bal tx.caller + pre.bal tx.coinbase + pre.bal L1_FEE_RECIPIENT
              + pre.bal BASE_FEE_RECIPIENT + pre.bal OPERATOR_FEE_RECIPIENT < W)
    (htgt : pre.bal tx.target + tx.value < W) :
    ∃ kind used refunded st',
      transact tx s pre fr = .done kind used refunded st' ∧
      pre.bal tx.caller =
        st'.bal tx.caller + (if fr.cls = .ok then tx.value else 0)
        + (st'.bal tx.coinbase - pre.bal tx.coinbase) + (st'.bal BASE_FEE_RECIPIENT - pre.bal BASE_FEE_RECIPIENT)
        + (st'.bal L1_FEE_RECIPIENT - pre.bal L1_FEE_RECIPIENT)
        + (st'.bal OPERATOR_FEE_RECIPIENT - pre.bal OPERATOR_FEE_RECIPIENT) ∧
      pre.bal tx.coinbase ≤ st'.bal tx.coinbase ∧ pre.bal BASE_FEE_RECIPIENT ≤ st'.bal BASE_FEE_RECIPIENT ∧
      pre.bal L1_FEE_RECIPIENT ≤ st'.bal L1_FEE_RECIPIENT ∧
      pre.bal OPERATOR_FEE_RECIPIENT ≤ st'.bal OPERATOR_FEE_RECIPIENT := by
  have hW : pre.bal tx.caller < W := by omega
  obtain ⟨info, env, l1, cL, hoi, hv, hl1⟩ := validated_of_ok hdep hW hvs
  have hbf := basefee_le_of_validateEnv tx hdep hve
  have hq := execSimple_quiet tx fr h0 h1 h2 h3 h4 hd
  have hm0 : tx.mint.getD 0 = 0 := by rw [hmint]; rfl
  have hdf : dataFee' tx ≤ maxData tx := by rw [hblob]; exact Nat.zero_le _
  obtain ⟨cU, kind, used, refunded, st', hcU, hrun, hused, c1, c2, c3, c4, c5⟩ :=
    conservation_core hdep hlon hv hbf hdf hl hr hd hq
      (by rw [hm0]; omega)
  refine ⟨kind, used, refunded, st', ?_, ?_, ?_, ?_, ?_, ?_⟩
  · unfold transact transactWith
    simp only [hve, hvg, hvs, hoi]
    exact hrun
  · -- the frame moved the value iff it succeeded
    have hmv : (execSimple tx (deducted tx pre l1 cL) fr).bal tx.caller + (if fr.cls = .ok then tx.value else 0) =
        (deducted tx pre l1 cL).bal tx.caller := by
      by_cases hok : fr.cls = .ok
      · have hvle := (deducted_add hv hdf).2
        have hnon : tx.isCreate = true → (deducted tx pre l1 cL).nonce + 1 < U64 := fun hcr => by
          unfold deducted; simp only [hcr, if_true]; exact hn
        rw [if_pos hok, execSimple_ok hok hvle hnon h0 (by rw [deducted_other _ _ _ h0]; exact htgt)]
        exact Nat.sub_add_cancel hvle
      · rw [if_neg hok, execSimple_fail tx _ fr hok]; rfl
    have hnet := net_debit c5 hmv
    rw [hm0, hblob] at hnet
    rw [c1, c2, c3, c4, Nat.add_sub_cancel_left, Nat.add_sub_cancel_left, Nat.add_sub_cancel_left,
      Nat.add_sub_cancel_left]
    simpa only [Nat.add_zero, Nat.add_assoc] using hnet
  · rw [c1]; exact Nat.le_add_right _ _
  · rw [c2]; exact Nat.le_add_right _ _
  · rw [c3]; exact Nat.le_add_right _ _
  · rw [c4]; exact Nat.le_add_right _ _

example : exTx.mint = none ∧ dataFee' exTx = 0 ∧ exPre.nonce + 1 < U64 ∧ exTx.target ≠ exTx.caller ∧
    exPre.bal exTx.target + exTx.value < W := by decide

/-- **The gas that the fees are computed from.** For every transaction that passes `validate_initial_tx_gas`
and every frame result with a non-negative refund counter, `used = gas.spent() − gas.refunded()` and the
reported refund after `last_frame_return`, `refund` and the EIP-7623 step are the rules of `Spec.OpFees`:
spent = limit − gas left (the whole limit after a halt); refund = min(counter, spent/5) after a successful
frame, else 0; `(floor, 0)` when below the floor (Isthmus); a Bedrock deposit reports its limit (0 for a
successful system transaction) and never a refund. -/
theorem gas_rules (tx : Tx) (fr : Frame) (hl : tx.gasLimit < U64) (hr : fr.remaining ≤ tx.gasLimit)
    (h0 : 0 ≤ fr.refunded) (h1 : fr.refunded ≤ I64MAX) (hlon : enabled tx.spec LONDON = true)
    (hvg : validateInitialGas tx = none) :
    usedGas (finalGas tx fr) = (Revm.Spec.OpFees.txUsedRefunded tx fr).1 ∧
    i64AsU64 (finalGas tx fr).refunded = (Revm.Spec.OpFees.txUsedRefunded tx fr).2 := by
  have hfl : (initialGas tx).2 ≤ tx.gasLimit := by
    by_cases hp : enabled tx.spec PRAGUE = true
    · unfold validateInitialGas at hvg
      have hf := (Revm.Proofs.Gas.ite_some_none (Revm.Proofs.Gas.ite_some_none hvg).2).1
      rw [hp, Bool.true_and, decide_eq_true_eq] at hf
      omega
    · have : (initialGas tx).2 = 0 := by unfold initialGas; simp [hp]
      omega
  have hpr : enabled tx.spec REGOLITH = false → enabled tx.spec PRAGUE = false := by
    unfold enabled REGOLITH PRAGUE; simp; omega
  exact finalGas_spec tx fr hl hr h0 h1 hlon hfl hpr

example : exTx.gasLimit < U64 ∧ exFr.remaining ≤ exTx.gasLimit ∧ 0 ≤ exFr.refunded ∧ exFr.refunded ≤ I64MAX ∧
    validateInitialGas exTx = none ∧ Revm.Spec.OpFees.txUsedRefunded exTx exFr = (21000, 0) ∧
    Revm.Spec.OpFees.txUsedRefunded { exTx with spec := ECOTONE } exFr = (16800, 4200) := by decide

/-! ## operator fee (Isthmus) -/

/-- **Rounding.** The refund is `charge(limit) − charge(used)` with each charge rounded down separately, the
charge is monotone in the gas amount (saturation included), so what the sender finally pays,
`charge(limit) − refund`, is exactly `charge(used)` — the amount credited to the operator fee vault. -/
theorem operator_fee_rounding (info : L1Info) (g : Gas) (spec cL cU : Nat) (hg : GoodGas g)
    (h1 : operatorFeeCharge info g.limit spec = some cL)
    (h2 : operatorFeeCharge info (usedGas g) spec = some cU) :
    operatorFeeRefund info g spec = some (cL - cU) ∧ cU ≤ cL ∧ cL - (cL - cU) = cU := by
  have hle : usedGas g ≤ g.limit := by have := hg.closed.split; show Proofs.Gas.used g ≤ _; omega
  have hm := operatorFeeCharge_mono hle h2 h1
  exact ⟨operatorFeeRefund_eq h1 h2, hm, by omega⟩

example : GoodGas { limit := 100000, remaining := 79000, refunded := 0 } :=
  ⟨by decide, by decide, by decide⟩

/-- with the parameters `try_fetch` reads under Isthmus (a 32-bit scalar, a 64-bit constant) and a `u64` gas
amount nothing saturates: the charge is `⌊gas·scalar/10^6⌋ + constant` -/
theorem operator_fee_exact (s : Slots) (spec gas : Nat) (h : enabled spec ISTHMUS = true) (hg : gas < U64) :
    operatorFeeCharge (tryFetch s spec) gas spec =
      some (gas * beSlice s.s8 20 24 / 1000000 + beSlice s.s8 24 32) := by
  obtain ⟨h1, h2⟩ := tryFetch_isthmus s spec h
  unfold operatorFeeCharge
  simp only [h, Bool.not_true, Bool.false_eq_true, if_false, h1, h2]
  rw [opCharge_fetched _ _ _ (beSlice_lt _ 20 24) (beSlice_lt _ 24 32) (by rw [U64_val] at hg; omega)]

/-- before Isthmus there is no operator fee -/
theorem operator_fee_zero_before_isthmus (info : L1Info) (gas spec : Nat) (h : enabled spec ISTHMUS = false) :
    operatorFeeCharge info gas spec = some 0 := by
  unfold operatorFeeCharge; simp [h]

def regInfo : L1Info := { L1Info.default with operatorFeeScalar := some 1000000, operatorFeeConstant := some 5 }
def regGas : Gas := { limit := 100000, remaining := 79000, refunded := 0 }

/-- **Regression (repaired by commit 2dbb8f15).** Scalar 10^6, constant 5, gas limit 100000, 21000 used: the
former formula `scalar · (remaining + refunded)` refunded 79 000 000 000 although only 100 005 had been charged;
the repaired refund is `charge(100000) − charge(21000) = 79 000`, leaving the sender with a net debit of
21 005 = what the vault receives. -/
theorem operator_fee_refund_regression :
    operatorFeeCharge regInfo 100000 ISTHMUS = some 100005 ∧
    operatorFeeRefundOld regInfo regGas ISTHMUS = some 79000000000 ∧
    operatorFeeRefund regInfo regGas ISTHMUS = some 79000 ∧
    operatorFeeCharge regInfo (usedGas regGas) ISTHMUS = some 21005 := by decide

/-! ## the L1 cost comes from the enveloped transaction -/

/-- For a validated regular transaction the value that validation adds to the balance check, that
`deduct_caller` debits and that `reward_beneficiary` credits to the L1 fee vault is one and the same:
`calculate_tx_l1_cost` of `tx.optimism.enveloped_tx` under the parameters fetched from the L1Block contract,
computed with an empty cache (0 for an empty or `0x7f…` envelope) — a function of the envelope, the fork and the
six slots only (not of `tx.data`), returned unchanged by every later call on the cached value. -/
theorem l1_cost_uses_enveloped_tx (tx : Tx) (s : Slots) (pre : St) (oi : Option L1Info)
    (hdep : tx.isDeposit = false) (hW : pre.bal tx.caller < W)
    (hvs : validateTxAgainstState tx s pre = .ok oi) :
    ∃ info env, oi = some info ∧ tx.enveloped = some env ∧
      calculateTxL1Cost info env tx.spec =
        (if zeroCostEnvelope env then 0 else l1CostFresh (tryFetch s tx.spec) env tx.spec, info) := by
  obtain ⟨info, env, l1, cL, hoi, hv, hl1⟩ := validated_of_ok hdep hW hvs
  refine ⟨info, env, hoi, hv.env_eq, ?_⟩
  have h6 := calculateTxL1Cost_fresh (tryFetch s tx.spec) env tx.spec (tryFetch_cache s tx.spec)
  rw [hl1] at h6
  rw [hv.l1_eq]; simp only at h6; rw [h6]

/-- what `clear` protects against: a value whose cache is already filled answers with the cached number for
every envelope (reachable only by writing `context.evm.inner.l1_block_info` by hand) -/
theorem l1_cost_cached (info : L1Info) (c : Nat) (env : List Nat) (spec : Nat) (h : info.txL1Cost = some c) :
    calculateTxL1Cost info env spec = (c, info) := by
  unfold calculateTxL1Cost; simp [h]

set_option linter.unusedVariables false in
/-- **`calculate_tx_l1_cost` is the fork's cost formula.** With the empty cache of a freshly fetched value and
no saturating intermediate (`NoSat`: the 256-bit products of the fork's formula and, for Fjord, the 64-bit
product `fastlz·836500` fit), the model's cost equals `Spec.OpFees.l1Cost`: Bedrock/Regolith
`(calldataGas + overhead)·baseFee·scalar / 10^6` (calldata gas 4/16 per byte, + 68·16 before Regolith), Ecotone
`calldataGas·(16·baseFee·baseFeeScalar + blobBaseFee·blobScalar) / 16·10^6` (the Bedrock formula while the Ecotone
scalars are empty), Fjord `max(10^8, 836500·fastlz − 42585600)·(16·baseFee·baseFeeScalar + blobBaseFee·blobScalar) / 10^12`,
0 for an empty or `0x7f…` envelope. (The FastLZ length itself is the transcribed function, validated by the
correspondence stream only.) -/
theorem l1_cost_formula (info : L1Info) (input : List Nat) (spec : Nat) (hc : info.txL1Cost = none)
    (hecf : enabled spec FJORD = true → enabled spec ECOTONE = true) (hn : NoSat info input spec) :
    (calculateTxL1Cost info input spec).1 = Revm.Spec.OpFees.l1Cost info input spec :=
  l1Cost_eq info input spec hc hn

/-- the repository's own Fjord vector (`test_calculate_tx_l1_cost_fjord`, 6 bytes `FACADE`… here 3): cost 1700 -/
example : (calculateTxL1Cost
    { L1Info.default with l1BaseFee := 1000, l1BaseFeeScalar := 1000, l1BlobBaseFee := some 1000, l1BlobBaseFeeScalar := some 1000 }
    [0xfa, 0xca, 0xde] FJORD).1 = 1700 := by decide +kernel

/-- **The L1 cost is fresh for every transaction.** Any number of transactions on ONE `Evm`, each committed,
with any L1Block slots in the database at each of them (`optimism::clear` sets `l1_block_info = None` after every
transaction, so the next regular transaction fetches the slots again and starts with an empty `tx_l1_cost`
cache): the outcome of the last transaction `p` of ANY history `ps ++ [p]` is the single-transaction function of
`p` alone — its fields (among them its own envelope), the slots at `p`, its frame result — and of the committed
database state; no earlier envelope, earlier slot value or cached cost enters. With `l1_cost_uses_enveloped_tx`:
the cost validated, debited and credited to the L1 fee vault for transaction k is
`calculate_tx_l1_cost(envelope_k)` under `try_fetch(slots at k)`. -/
theorem l1_cost_cache_fresh_per_tx (ps : List Step) (p : Step) (st : St) :
    runHistory clearCtx st none (ps ++ [p]) =
      runHistory clearCtx st none ps ++ [transact p.tx p.slots (stateAfter st ps) p.fr] := by
  rw [runHistory_fresh, runHistory_fresh, runHistoryFresh_last]

def l1VaultOf : Outcome → Option Nat
  | .done _ _ _ st => some (st.bal L1_FEE_RECIPIENT)
  | _ => none

def regTx (env : List Nat) : Tx := { exTx with spec := ECOTONE, txNonce := none, enveloped := some env }
def regStep (env : List Nat) : Step := { tx := regTx env, slots := exSlots, fr := exFr }

/-- **Regression (`clearCtxKeep`, NOT the code: a `clear` that keeps `l1_block_info` until the next deposit).** Two
regular Ecotone transactions with envelopes of 3 and 6 non-zero bytes (costs 51 and 102) on one `Evm`: with the code's `clear`
the L1 fee vault holds 51 and then 153; with a `clear` that keeps `l1_block_info`, the cached cost 51 of the
first transaction is charged to the second as well (vault 102) although its own envelope costs 102. -/
theorem l1_cost_cache_keep_regression :
    (runHistory clearCtx exPre none [regStep [0xfa, 0xca, 0xde], regStep [1, 2, 3, 4, 5, 6]]).map l1VaultOf
      = [some 51, some 153] ∧
    (runHistory clearCtxKeep exPre none [regStep [0xfa, 0xca, 0xde], regStep [1, 2, 3, 4, 5, 6]]).map l1VaultOf
      = [some 51, some 102] := by decide +kernel

/-! ## deposits -/

/-- **A deposit with gas price 0 mints exactly its mint.** Whatever the first frame does (`exec`), the state
it starts from is the pre-state with the mint added to the sender (and the nonce bumped for a call), and the
handler adds nothing afterwards: unless the deposit halts from Regolith on (next theorem), the final state IS
the frame's result. In particular every account sum that the frame conserves grows by exactly the mint. -/
theorem deposit_mints_exactly_partial (tx : Tx) (s : Slots) (pre : St) (exec : St → St) (fr : Frame)
    (hdep : tx.isDeposit = true) (hvg : validateInitialGas tx = none)
    (hegp : effectiveGasPrice tx = 0) (hdf : dataFee' tx = 0)
    (hmint : pre.bal tx.caller + tx.mint.getD 0 < W)
    (hx : (exec (minted tx pre)).bal tx.caller < W)
    (hnf : ¬ (fr.cls = .halt ∧ enabled tx.spec REGOLITH = true)) :
    ∃ kind used refunded,
      transactWith tx s pre exec fr = .done kind used refunded (exec (minted tx pre)) ∧
      (minted tx pre).bal tx.caller = pre.bal tx.caller + tx.mint.getD 0 ∧
      (∀ x, x ≠ tx.caller → (minted tx pre).bal x = pre.bal x) := by
  rw [transactWith_deposit tx s pre exec fr hdep hvg hegp hdf hmint hx]
  obtain ⟨kind, used, refunded, hout, _, _⟩ :=
    output_not_failed tx pre (exec (minted tx pre)) fr.cls (finalGas tx fr) hnf
  exact ⟨kind, used, refunded, hout, minted_caller tx pre, minted_other tx pre⟩

/-- a Regolith deposit minting 5 that succeeds -/
def exDep : Tx :=
  { exTx with spec := REGOLITH, isDeposit := true, mint := some 5, gasPrice := 0, priorityFee := none, basefee := 0,
              enveloped := none, txNonce := none, value := 0 }
example : validateInitialGas exDep = none ∧ effectiveGasPrice exDep = 0 ∧ dataFee' exDep = 0 ∧
    exPre.bal exDep.caller + exDep.mint.getD 0 < W ∧
    (execSimple exDep (minted exDep exPre) exFr).bal exDep.caller < W := by decide +kernel

/-- **A failing deposit keeps mint and nonce.** For the frames of the harness: a deposit (gas price 0) that
fails validation (gas limit below the intrinsic gas or the EIP-7623 floor; repaired by commit 25ebe790) or whose
first frame reverts or halts ends with the sender's balance = pre-balance + mint, nonce + 1 and every other
balance untouched; a validation failure and, from Regolith on, a halt are reported as `FailedDeposit`.
Excluded (known finding F2, see `deposit_bedrock_create_nonce_counterexample`): a create that cannot pay its
value, unless it ends as a `FailedDeposit`. -/
theorem failed_deposit_persists_mint_and_nonce_partial (tx : Tx) (s : Slots) (pre : St) (fr : Frame)
    (hdep : tx.isDeposit = true)
    (hegp : effectiveGasPrice tx = 0) (hdf : dataFee' tx = 0)
    (hmint : pre.bal tx.caller + tx.mint.getD 0 < W) (hn : pre.nonce + 1 < U64)
    (hfail : validateInitialGas tx ≠ none ∨ fr.cls ≠ .ok)
    (hcreate : tx.isCreate = true →
      validateInitialGas tx ≠ none ∨ (fr.cls = .halt ∧ enabled tx.spec REGOLITH = true) ∨
      tx.value ≤ pre.bal tx.caller + tx.mint.getD 0) :
    ∃ kind used st',
      transact tx s pre fr = .done kind used 0 st' ∧
      (kind = .failedDeposit ↔ (validateInitialGas tx ≠ none ∨ (fr.cls = .halt ∧ enabled tx.spec REGOLITH = true))) ∧
      (kind = .failedDeposit → enabled tx.spec REGOLITH = true → used = tx.gasLimit) ∧
      st'.bal tx.caller = pre.bal tx.caller + tx.mint.getD 0 ∧
      st'.nonce = pre.nonce + 1 ∧
      (∀ x, x ≠ tx.caller → st'.bal x = pre.bal x) := by
  cases hvg : validateInitialGas tx with
  | some e =>
    unfold transact
    rw [transactWith_deposit_preverify tx s pre _ fr e hdep hvg]
    obtain ⟨used, st', hfd, hu, b1, b2, b3⟩ := failedDeposit_any hmint hn
    rw [hfd]
    exact ⟨_, used, st', rfl, ⟨fun _ => Or.inl (by simp), fun _ => rfl⟩, fun _ h => hu h, b1, b2, b3⟩
  | none =>
  have hfail : fr.cls ≠ .ok := hfail.resolve_left fun h => h hvg
  have hmb := minted_caller tx pre
  have hbal := execSimple_fail tx (minted tx pre) fr hfail
  have hx : (execSimple tx (minted tx pre) fr).bal tx.caller < W := by rw [hbal, hmb]; exact hmint
  unfold transact
  rw [transactWith_deposit tx s pre (fun st => execSimple tx st fr) fr hdep hvg hegp hdf hmint hx]
  by_cases hfd : fr.cls = .halt ∧ enabled tx.spec REGOLITH = true
  · -- FailedDeposit: state discarded, mint and nonce from the database values
    have hout : output tx pre (execSimple tx (minted tx pre) fr) fr.cls (finalGas tx fr) = failedDeposit tx pre := by
      unfold output; simp only [hfd.1, hdep, hfd.2, Bool.and_self, if_true]
    obtain ⟨used, st', hfd', hu, b1, b2, b3⟩ := failedDeposit_any hmint hn
    rw [hout, hfd']
    exact ⟨_, used, st', rfl, ⟨fun _ => Or.inr hfd, fun _ => rfl⟩, fun _ h => hu h, b1, b2, b3⟩
  · -- the frame's state is returned: no value moved, the nonce was bumped by `deduct_caller` or by the create
    have hnonce : (execSimple tx (minted tx pre) fr).nonce = pre.nonce + 1 := by
      rw [execSimple_nonce, hmb, minted_nonce tx pre hn]
      by_cases hc : tx.isCreate = true
      · have hv : tx.value ≤ pre.bal tx.caller + tx.mint.getD 0 :=
          ((hcreate hc).resolve_left fun h => h hvg).resolve_left hfd
        have h1 : ¬ pre.bal tx.caller + tx.mint.getD 0 < tx.value := by omega
        have h2 : ¬ pre.nonce + 1 ≥ U64 := by omega
        simp only [hc, h1, h2, not_false_eq_true, and_self, if_true]
      · simp [hc]
    obtain ⟨kind, used, refunded, hout, hk, href⟩ :=
      output_not_failed tx pre (execSimple tx (minted tx pre) fr) fr.cls (finalGas tx fr) hfd
    rw [hout, href hfail]
    refine ⟨kind, used, _, rfl, ⟨fun h => absurd h hk, fun h => absurd (h.resolve_left fun h => h rfl) hfd⟩,
      fun h => absurd h hk, ?_, hnonce, ?_⟩
    · rw [hbal, hmb]
    · intro x hx; rw [hbal, minted_other tx pre x hx]

def exFail : Frame := { cls := .halt, remaining := 0, refunded := 0 }
example : effectiveGasPrice exDep = 0 ∧ exFail.cls ≠ .ok ∧ exPre.nonce + 1 < U64 ∧ exDep.isCreate = false ∧
    validateInitialGas { exDep with gasLimit := 20000 } ≠ none := by decide

/-- the sentence about deposits, literally: every deposit ends `done`, the six accounts grow by exactly the
mint, and a deposit whose frame fails has nonce + 1 — FALSE of the code (a non-zero gas price; known finding F2) -/
def FullStatementDeposit : Prop :=
  ∀ (tx : Tx) (s : Slots) (pre : St) (fr : Frame),
    tx.isDeposit = true → Revm.Spec.OpFees.distinct tx = true →
    ∃ n, outcomeSum tx (transact tx s pre fr) = some (sixSum tx pre.bal + tx.mint.getD 0, n) ∧
      (fr.cls ≠ .ok → n = pre.nonce + 1)

/-- deposit, Regolith, gas limit 20 000 < 21 000 intrinsic gas -/
def lowGasDep : Tx := { exDep with gasLimit := 20000 }
/-- deposit with gas price 1000 on an empty account: `deduct_caller` saturates at 0, `reimburse_caller` pays
`price · gas left` back -/
def pricedDep : Tx := { exDep with gasPrice := 1000, mint := none }
/-- Bedrock create deposit of value 1 from an empty account -/
def bedrockCreateDep : Tx := { exDep with spec := BEDROCK, isCreate := true, data := [0], value := 1, mint := none, target := 0xC0DE }
def emptyPre : St := { bal := fun _ => 0, nonce := 0 }

/-- **Regression (repaired by commit 25ebe790).** A deposit whose gas limit does not cover the intrinsic gas:
`Evm::transact` used to return `CallGasCostMoreThanGasLimit` from `preverify_transaction_inner` before the `end`
handle could turn the error into a failed deposit, so neither the mint nor the nonce increment was persisted
(`transactWithOld`); now the error goes through `end`: the six balances grow by the mint (5), the nonce is 1.
Witness line: corpus/C33/optx-theorem-witnesses.case, line 3. -/
theorem deposit_intrinsic_gas_regression :
    outcomeSum lowGasDep (transact lowGasDep exSlots exPre exFr) = some (sixSum lowGasDep exPre.bal + 5, 1) ∧
    transactWithOld lowGasDep exSlots exPre (fun st => execSimple lowGasDep st exFr) exFr = .err .intrinsic := by
  refine ⟨by decide +kernel, ?_⟩
  exact transactWithOld_deposit_preverify lowGasDep exSlots exPre _ exFr .intrinsic (by decide) (by decide)

/-- **Counterexample (out of protocol)**: a deposit with a non-zero gas price (outside the OP protocol, where deposits carry
price 0) on an account that cannot pay `limit · price`: the debit saturates at 0, the reimbursement of the
unused and refunded gas (79 000 + 4 200 units) is paid in full — 83 200 000 wei appear from nothing (with a funded account the fee is burnt
instead: nobody is credited). -/
theorem deposit_gas_price_counterexample :
    outcomeSum pricedDep (transact pricedDep exSlots emptyPre exFr) = some (83200000, 1) ∧
    sixSum pricedDep emptyPre.bal + pricedDep.mint.getD 0 = 0 := by decide +kernel

/-- **Counterexample (known finding F2)**: Bedrock, a create deposit that cannot pay its value: the frame fails with
`OutOfFunds` before the nonce is bumped and Bedrock returns the halt as it is — the nonce stays 0. -/
theorem deposit_bedrock_create_nonce_counterexample :
    outcomeSum bedrockCreateDep (transact bedrockCreateDep exSlots emptyPre exFail) = some (0, 0) := by
  decide +kernel

theorem deposit_full_statement_false : ¬ FullStatementDeposit := by
  intro h
  obtain ⟨n, h1, h2⟩ := h bedrockCreateDep exSlots emptyPre exFail rfl (by decide)
  rw [deposit_bedrock_create_nonce_counterexample] at h1
  have hn := h2 (by decide)
  simp only [Option.some.injEq, Prod.mk.injEq] at h1
  have : emptyPre.nonce = 0 := rfl
  omega

end Revm.Props.C33
