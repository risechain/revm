import Revm.Proofs.BundleRevertBlock
import Revm.Proofs.BundleRevert
/-! C17 — bundle reverts record the exact values before each merged transition: block k of `to_plain_state_reverts`
takes the state after merge group k back to the state before it, and `revert(j)` leaves a bundle describing the state
after the first n - j groups. Statements in `Revm.Spec.Bundle`, over the runs of C16.
First sentence: proved in full when `Destroyed` and unlisted slots of a wiping revert read as their database value;
under the literal reading (`RevertToSlot::to_previous_value`: 0) false of the code (F1,
`revert_k_literal_counterexample`), proved where `literalOk`. Second: proved where `Spec.Bundle.revertOk`;
`BundleAccount::revert` ignores `wipe_storage`, and F2a (`revert_j_counterexample_known_yes`: the wiping revert lists
slots), F2b (`revert_j_counterexample_known_no`: it meets stale entries) falsify the rest. -/
namespace Revm.Props.C17
open Revm.Model.Bundle Revm.Spec.Bundle Revm.Proofs.Bundle

/-- the literal reading (`Destroyed` = 0): false of the code, F1 -/
def FullStatementRevertK : Prop := RevertKCorrectStatement false
/-- the reading implemented by database writers (`Destroyed` + wipe ⇒ database value) -/
def FullStatementRevertKDbReading : Prop := RevertKCorrectStatement true
/-- false of the code outside `revertOk`: F2a, F2b -/
def FullStatementRevertJ : Prop := RevertJEqualsPrefixStatement

/-- C17, first sentence, headline (database reading of `Destroyed` in wiping reverts); nothing panics -/
theorem revert_k_correct : FullStatementRevertKDbReading := by
  intro db sc p0 h hdb hwf hr
  obtain ⟨l, h1, h2⟩ := revert_k_proof true db sc p0 h hdb hwf hr
  refine ⟨l, h1, fun s r hl k blk before after hb hbe haf => ?_⟩
  simp only [toPlainStateReverts, List.getElem?_map] at hb
  cases hbk : s.bundle.reverts[k]? with
  | none => rw [hbk] at hb; cases hb
  | some b =>
    rw [hbk] at hb; injection hb with hb; subst hb
    exact h2 s r hl k b before after hbk (Or.inl rfl) hbe haf

/-- C17, first sentence, literal reading, region outside F1: for every block of the final bundle in
which no wiping revert lists a `Destroyed` slot (`literalOk`), the block applied with `Destroyed` = 0 to the
state after its group gives the state before it. Missing for `FullStatementRevertK`: nothing provable — the
statement without `literalOk` is false of the code (F1 below). -/
theorem revert_k_correct_literal_partial (db : BMap Info) (sc : Bool) (p0 : Plain) (h : List Group)
    (hdb : dbMatches db p0) (hwf : plainWF p0) (hr : reachHistory sc p0 h = true) :
    ∃ l, runHistory { db := db, sc := sc } p0 h = some l ∧
      ∀ s r, l.getLast? = some (s, r) →
        ∀ (k : Nat) b before after, s.bundle.reverts[k]? = some b → literalOk b = true →
          ((p0 :: l.map (·.2))[k]? = some before) → ((l.map (·.2))[k]? = some after) →
          PlainEq (applyRevertBlock false p0 (revertBlockToPlain b) after) before := by
  obtain ⟨l, h1, h2⟩ := revert_k_proof false db sc p0 h hdb hwf hr
  exact ⟨l, h1, fun s r hl k b before after hb hlit => h2 s r hl k b before after hb (Or.inr hlit)⟩

/-- the region hypothesis is satisfiable by a non-trivial block: F2b's history (destroy, then re-create in
the next group) has a wiping revert without `Destroyed` slots; F1's block is outside the region -/
example : (Wit.runLast { db := Wit.f2bdb, sc := true } Wit.f2bp0 Wit.f2bh).map
    (fun r => r.1.bundle.reverts.map literalOk) = some [true, true] ∧
    (Wit.runLast { db := Wit.f1db, sc := true } Wit.f1p0 Wit.f1h).map
    (fun r => r.1.bundle.reverts.map literalOk) = some [false] := by decide +kernel

/-- one block of reverts satisfying the per-address revert semantics maps `after` to `before` (the fold over
the addresses of `applyRevertBlock`), for the database reading or inside the literal region -/
theorem revert_block_maps_back (dbr : Bool) (blk : BMap ARevert) (p0 before after : Plain)
    (h : BlockSem blk p0 before after) (hd : dbr = true ∨ literalOk blk = true) :
    PlainEq (applyRevertBlock dbr p0 (revertBlockToPlain blk) after) before :=
  revert_block_correct dbr blk p0 before after h hd

/-- C17, second sentence, one step, region outside F2a / F2b: one `revert_latest` on the bundle built from
groups 1..n (pop the last block, apply each `AccountRevert` through `BundleAccount::revert`) leaves a bundle whose
changeset, with either `OriginalValuesKnown`, applied to the pre-bundle state gives the reference state after
groups 1..n-1. Missing for the full statement: nothing provable — without `revertStepOk` it is false (F2a). -/
theorem revert_latest_correct_partial (db : BMap Info) (sc : Bool) (p0 : Plain) (h : List Group) (known : Bool)
    (hdb : dbMatches db p0) (hwf : plainWF p0) (hr : reachHistory sc p0 h = true) :
    ∃ l, runHistory { db := db, sc := sc } p0 h = some l ∧
      ∀ s r, l.getLast? = some (s, r) → revertStepOk s.bundle = true →
        ∀ tgt, (p0 :: l.map (·.2))[h.length - 1]? = some tgt →
          PlainEq (applyChangeset (toPlainState (revertLatest s.bundle).1 known) p0) tgt := by
  obtain ⟨l, h1, h2⟩ := revert_j_proof db sc p0 h 1 known hdb hwf hr
  refine ⟨l, h1, fun s r hl hok tgt htgt => ?_⟩
  have h1 : revertN s.bundle 1 = (revertLatest s.bundle).1 := by
    rw [revertN_succ]; cases (revertLatest s.bundle).2 <;> rfl
  rw [← h1]
  refine h2 s r hl ?_ tgt htgt
  simp only [revertOk, hok, Bool.true_and]
  cases (revertLatest s.bundle).2 <;> rfl

/-- C17, second sentence, region outside F2a / F2b: `FullStatementRevertJ` with the extra hypothesis
`revertOk s.bundle j` (every j, also beyond the number of groups: then the target is the pre-bundle state).
Missing for the full statement: nothing provable — without `revertOk` it is false (F2a, F2b below). -/
theorem revert_j_equals_prefix_partial (db : BMap Info) (sc : Bool) (p0 : Plain) (h : List Group) (j : Nat)
    (known : Bool) (hdb : dbMatches db p0) (hwf : plainWF p0) (hr : reachHistory sc p0 h = true) :
    ∃ l, runHistory { db := db, sc := sc } p0 h = some l ∧
      ∀ s r, l.getLast? = some (s, r) → revertOk s.bundle j = true →
        ∀ tgt, (p0 :: l.map (·.2))[h.length - j]? = some tgt →
          PlainEq (applyChangeset (toPlainState (revertN s.bundle j) known) p0) tgt :=
  revert_j_proof db sc p0 h j known hdb hwf hr

/-- the same against the bundle built from only the earlier groups: running the first n - j groups gives the
prefix of the run, and the two changesets describe the same state (they are not claimed equal: the reverted bundle
keeps unchanged entries the prefix bundle never had, listed under `OriginalValuesKnown::No`) -/
theorem revert_j_equals_prefix_bundle_partial (db : BMap Info) (sc : Bool) (p0 : Plain) (h : List Group) (j : Nat)
    (known : Bool) (hdb : dbMatches db p0) (hwf : plainWF p0) (hr : reachHistory sc p0 h = true) :
    ∃ l, runHistory { db := db, sc := sc } p0 h = some l ∧
      runHistory { db := db, sc := sc } p0 (h.take (h.length - j)) = some (l.take (h.length - j)) ∧
      ∀ s r, l.getLast? = some (s, r) → revertOk s.bundle j = true →
        PlainEq (applyChangeset (toPlainState (revertN s.bundle j) known) p0)
          (applyChangeset (toPlainState (prefixBundle l (h.length - j)) known) p0) :=
  revert_j_prefix_proof db sc p0 h j known hdb hwf hr

theorem no_wipe_in_region (b : BState) (j : Nat) (h : noWipeInLast b j = true) : revertOk b j = true :=
  noWipe_revertOk j b h

/-- the region is satisfiable and wider than "no wipe": `Wit.f4h1` plus a write (no destruction) is inside for
j = 1, 2, 3; in F2b's history, extended by nothing, `revert(1)` (re-creation reverted, no wipe) is inside; a
code-only contract destroyed in the last group is reverted exactly although its revert wipes
(`noWipeInLast` false, `revertOk` true) -/
example :
    (Wit.runLast { db := Wit.f4db, sc := true } Wit.f4p0
        (Wit.f4h1 ++ [[[(2, Wit.ea 3 1 1 false false [(1, ⟨7, 0⟩)])]]])).map (fun r =>
      (revertOk r.1.bundle 1, revertOk r.1.bundle 2, revertOk r.1.bundle 3)) = some (true, true, true) ∧
    (Wit.runLast { db := Wit.f2bdb, sc := true } Wit.f2bp0 Wit.f2bh).map (fun r => revertOk r.1.bundle 1) = some true ∧
    (Wit.runLast { db := Wit.f2bdb, sc := true } Wit.f2bp0 [[[(3, Wit.ea 0 1 1 false true [])]]]).map (fun r =>
      (noWipeInLast r.1.bundle 1, revertOk r.1.bundle 1,
       (applyChangeset (toPlainState (revertN r.1.bundle 1) false) Wit.f2bp0).slot 3 1,
       (applyChangeset (toPlainState (revertN r.1.bundle 1) true) Wit.f2bp0).acct 3)) =
      some (false, true, 9, some ⟨0xb1, 1, 1, false⟩) := by decide +kernel

/-- neither half of `wipeOk` can be dropped: F2a's last block holds a wiping revert that lists a slot
(`revertOk _ 1 = false`); in F2b the wiping revert lists nothing but is applied, at the second step, to an account
holding a stale entry (`revertOk _ 1 = true`, `revertOk _ 2 = false`) — and in both the statement fails (the two
counterexample theorems below) -/
theorem region_excludes_findings :
    (Wit.runLast { db := Wit.f2adb, sc := true } Wit.f2ap0 Wit.f2ah).map (fun r => revertOk r.1.bundle 1) = some false ∧
    (Wit.runLast { db := Wit.f2bdb, sc := true } Wit.f2bp0 Wit.f2bh).map (fun r =>
      (revertOk r.1.bundle 1, revertOk r.1.bundle 2,
       r.1.bundle.reverts.map (fun blk => blk.map (fun e => (e.2.wipe, e.2.storage.isEmpty))))) =
      some (true, false, [[(true, true)], [(false, false)]]) := by
  decide +kernel

theorem revert_zero (b : BState) : revertN b 0 = b := rfl

/-- `revert(n)` pops `min n len` blocks off the revert list and leaves the earlier ones untouched -/
theorem revert_n_reverts (b : BState) (n : Nat) :
    (revertN b n).reverts = b.reverts.take (b.reverts.length - n) := by
  induction n generalizing b with
  | zero => simp [revertN]
  | succ n ih =>
    rw [revertN_succ, revertLatest_flag]
    by_cases h : b.reverts = []
    · simp [h, revertLatest_noop b h]
    · have hne : b.reverts.isEmpty = false := by simpa using h
      simp only [hne, Bool.not_false, if_true]
      rw [ih, revertLatest_reverts, List.length_dropLast, List.dropLast_eq_take, List.take_take]
      congr 1; omega

theorem revert_n_length (b : BState) (n : Nat) : (revertN b n).reverts.length = b.reverts.length - n := by
  rw [revert_n_reverts, List.length_take]; omega

/-- `revert_latest` reports whether there was a block, and removes exactly the last one -/
theorem revert_latest_spec (b : BState) :
    (revertLatest b).2 = !b.reverts.isEmpty ∧ (revertLatest b).1.reverts = b.reverts.dropLast :=
  ⟨revertLatest_flag b, revertLatest_reverts b⟩

/-- FINDING F1 (literal reading). Account 1 has slot 1 = 7; one merge group destroys and re-creates it
writing slot 1. The block's plain revert gives slot 1 the value 0 (`Destroyed`), the value before the
group was 7. With the database reading the block gives 7. The history is EVM-reachable.
Request lines: corpus/C17/F1-destroyed-slot-in-wiped-revert.bundle.case -/
theorem revert_k_literal_counterexample :
    reachHistory true Wit.f1p0 Wit.f1h = true ∧ Wit.f1p0.slot 1 1 = 7 ∧
    (Wit.runLast { db := Wit.f1db, sc := true } Wit.f1p0 Wit.f1h).map (fun r =>
      Wit.slotsBefore false r.1.bundle Wit.f1p0 (Wit.refsOf { db := Wit.f1db, sc := true } Wit.f1p0 Wit.f1h) 1 1)
      = some [0] ∧
    (Wit.runLast { db := Wit.f1db, sc := true } Wit.f1p0 Wit.f1h).map (fun r =>
      Wit.slotsBefore true r.1.bundle Wit.f1p0 (Wit.refsOf { db := Wit.f1db, sc := true } Wit.f1p0 Wit.f1h) 1 1)
      = some [7] := by
  decide +kernel

/-- FINDING F2a (`OriginalValuesKnown::Yes`). Group 1 creates a contract over balance-only account 1 with
slot 2 := 9, group 2 destroys it. After `revert(1)` the changeset (Yes) applied to the pre-state gives
slot 2 = 0; the state after group 1 has 9 (with `No` it gives 9).
Request lines: corpus/C17/F2a-revert-across-wipe-known-yes.bundle.case -/
theorem revert_j_counterexample_known_yes :
    reachHistory true Wit.f2ap0 Wit.f2ah = true ∧
    (Wit.runLast { db := Wit.f2adb, sc := true } Wit.f2ap0 Wit.f2ah).map (fun r =>
      ((applyChangeset (toPlainState (revertN r.1.bundle 1) true) Wit.f2ap0).slot 1 2,
       (applyChangeset (toPlainState (revertN r.1.bundle 1) false) Wit.f2ap0).slot 1 2,
       ((Wit.refsOf { db := Wit.f2adb, sc := true } Wit.f2ap0 Wit.f2ah).getD 0 {}).slot 1 2)) = some (0, 9, 9) := by
  decide +kernel

/-- FINDING F2b (`OriginalValuesKnown::No`). Contract 3 (slot 1 = 9) destroyed in group 1, re-created with
slot 1 := 7 in group 2. After `revert(2)` the changeset (No) writes slot 1 = 0 over the pre-state value
9 (with `Yes` the slot is omitted and stays 9).
Request lines: corpus/C17/F2b-revert-across-wipe-known-no.bundle.case -/
theorem revert_j_counterexample_known_no :
    reachHistory true Wit.f2bp0 Wit.f2bh = true ∧ Wit.f2bp0.slot 3 1 = 9 ∧
    (Wit.runLast { db := Wit.f2bdb, sc := true } Wit.f2bp0 Wit.f2bh).map (fun r =>
      ((applyChangeset (toPlainState (revertN r.1.bundle 2) false) Wit.f2bp0).slot 3 1,
       (applyChangeset (toPlainState (revertN r.1.bundle 2) true) Wit.f2bp0).slot 3 1)) = some (0, 9) := by
  decide +kernel

/-- positive instance: a history without destruction (slot written, written back) reverts exactly -/
theorem revert_j_instance :
    (Wit.runLast { db := Wit.f4db, sc := true } Wit.f4p0
        (Wit.f4h1 ++ [[[(2, Wit.ea 3 1 1 false false [(1, ⟨7, 0⟩)])]]])).map (fun r =>
      ((applyChangeset (toPlainState (revertN r.1.bundle 1) true) Wit.f4p0).slot 2 1,
       (applyChangeset (toPlainState (revertN r.1.bundle 1) false) Wit.f4p0).slot 2 1,
       (applyChangeset (toPlainState (revertN r.1.bundle 2) false) Wit.f4p0).slot 2 1,
       (revertN r.1.bundle 2).reverts.length)) = some (7, 7, 0, 0) := by
  decide +kernel

end Revm.Props.C17
