import Revm.Proofs.TxValidateIff
import Revm.Proofs.TxNoEffect
/-! C02 — a transaction is rejected with a validation error iff it breaks a validity rule of its
hardfork; a rejected transaction changes nothing.

`Model.TxValidate.validate spec cfg blk tx sender` is the code-shaped model of
`Evm::preverify_transaction_inner` (`validate_env` → `validate_initial_tx_gas` →
`validate_tx_against_state`, in the code's order, with the code's 256-bit / 64-bit arithmetic, through
`spec_to_generic!`); `Spec.TxValid.ValidTx` is the conjunction of the validity rules of the EIPs over
unbounded `Nat`, per named hardfork. `InRange` says that the `Nat` fields are values of their Rust types;
`GasFits` that the intrinsic gas and the EIP-7623 floor are below 2^64 (beyond is the C14 finding
`tx-gas-wraps`, not constructible in memory).

Accepted ⇔ valid holds outside three regions in which the CODE accepts a transaction the rules reject
(each confirmed on the real `Evm` by the correspondence stream; each a `_counterexample` theorem below):
`TypeGap` — a priority fee before London (neither rejected nor ignored: it lowers the effective gas
price), or sender code = EIP-7702 delegation designator before Prague (the EIP-3607 exception is not
fork-gated) — and `BlobFeeSaturation` (`calc_max_data_fee` uses `saturating_mul`; with nothing else to pay
and a balance of 2^256 − 1 the saturated value passes the balance check). The wrapping
`basefee + priority_fee` of `effective_gas_price` (DESIGN §9 #12) is NOT such a region: the code rejects
with `GasPriceLessThanBasefee` and the transaction is invalid anyway (its maximum cost exceeds 2^256);
only the *variant* is not the one of the first violated rule (`fee_wrap_variant_counterexample`). -/
namespace Revm.Props.C02
open Revm
open Revm.Model.TxValidate
open Revm.Spec.GasCalc (Fork)
open Revm.Spec.TxValid
open Revm.Proofs.TxValidate (InRange GasFits TypeGap BlobFeeSaturation blobFee resOf)
open Revm.Proofs.TxNoEffect (Clean ReadOnly runHistory notRejected isRejected)

/-! ## accepted ⇔ valid -/

/-- the property's first sentence at full strength -/
def FullStatement_validate_iff : Prop :=
  ∀ (f : Fork) (cfg : Cfg) (blk : Block) (tx : Tx) (snd : Sender),
    InRange blk tx snd → GasFits f tx →
    (validate f.id cfg blk tx snd = .ok ↔ ValidTx f cfg blk tx snd)

/-- completeness, full strength: a valid transaction is never rejected (all forks, all fields) -/
theorem valid_accepted (f : Fork) (cfg : Cfg) (blk : Block) (tx : Tx) (snd : Sender)
    (hr : InRange blk tx snd) (hfit : GasFits f tx) (h : ValidTx f cfg blk tx snd) :
    validate f.id cfg blk tx snd = .ok := by
  obtain ⟨h1, h2⟩ := Proofs.TxValidate.valid_no_gap hr.balance h
  exact (Proofs.TxValidate.validate_iff f cfg blk tx snd hr hfit h1 h2).2 h

/-- accepted ⇔ valid, for every fork, configuration, block, transaction and sender outside the three
departure regions (missing for the full statement: exactly `TypeGap` and `BlobFeeSaturation`, where
the code accepts an invalid transaction — see the counterexamples below) -/
theorem validate_iff_partial (f : Fork) (cfg : Cfg) (blk : Block) (tx : Tx) (snd : Sender)
    (hr : InRange blk tx snd) (hfit : GasFits f tx)
    (hgap : ¬ TypeGap f tx snd) (hsat : ¬ BlobFeeSaturation tx snd) :
    validate f.id cfg blk tx snd = .ok ↔ ValidTx f cfg blk tx snd :=
  Proofs.TxValidate.validate_iff f cfg blk tx snd hr hfit hgap hsat

/-- rejected ⇔ invalid, the same statement read on the error side: some variant is returned exactly
when a rule is broken (validation never panics) -/
theorem rejected_iff_invalid_partial (f : Fork) (cfg : Cfg) (blk : Block) (tx : Tx) (snd : Sender)
    (hr : InRange blk tx snd) (hfit : GasFits f tx)
    (hgap : ¬ TypeGap f tx snd) (hsat : ¬ BlobFeeSaturation tx snd) :
    (∃ e, validate f.id cfg blk tx snd = .err e) ↔ ¬ ValidTx f cfg blk tx snd := by
  rw [← validate_iff_partial f cfg blk tx snd hr hfit hgap hsat]
  have hp := Proofs.TxValidate.validate_ne_panic (cfg := cfg) (blk := blk) (snd := snd) hfit
  cases h : validate f.id cfg blk tx snd with
  | ok => simp
  | err e => simp
  | panic => exact absurd h hp

/-- a plain valid legacy transfer: 21000 gas at price 10 with base fee 7, nonce 3, balance 10^18 -/
def txPlain : Tx := { gasLimit := 21000, gasPrice := 10, value := 5, nonce := some 3, chainId := some 1 }
def blkPlain : Block := { gasLimit := 30000000, basefee := 7 }
def sndPlain : Sender := { balance := 1000000000000000000, nonce := 3 }

theorem inRange_plain (tx : Tx) (snd : Sender)
    (h : tx.gasPrice < W ∧ tx.value < W ∧ snd.balance < W ∧ tx.data = [] ∧
      (∀ p, tx.priorityFee = some p → p < W) ∧ (∀ m, tx.maxFeePerBlobGas = some m → m < W) ∧
      (∀ n, tx.nonce = some n → n < U64) ∧ tx.blobHashes.length ≤ 9) : InRange blkPlain tx snd := by
  obtain ⟨h1, h2, h3, h4, h5, h6, h7, h8⟩ := h
  have hW := W_val
  have hU := U64_val
  refine ⟨by unfold blkPlain; simp only; omega, h1, h5, h2, h6, h3, by rw [h4]; simp; omega, h7, by omega⟩

example : InRange blkPlain txPlain sndPlain ∧ GasFits .london txPlain ∧ ¬ TypeGap .london txPlain sndPlain ∧
    ¬ BlobFeeSaturation txPlain sndPlain ∧ ValidTx .london {} blkPlain txPlain sndPlain := by
  refine ⟨inRange_plain _ _ (by rw [W_val, U64_val]; decide), by unfold GasFits; rw [U64_val]; decide, ?_, ?_, by decide⟩
  · intro h; rcases h with ⟨h, _⟩ | ⟨h, _⟩ <;> exact nomatch h
  · intro ⟨h, _⟩; revert h; rw [W_val]; decide

/-- region 1 on a witness: Berlin, `gas_priority_fee = Some(0)` — accepted, although EIP-1559
transactions do not exist before London (real `Evm`: `ok`; and the sender then pays
`min(gas_price, basefee + 0)` per gas instead of `gas_price`) -/
theorem priority_fee_before_london_counterexample :
    validate Fork.berlin.id {} blkPlain { txPlain with priorityFee := some 0 } sndPlain = .ok ∧
    ¬ ValidTx .berlin {} blkPlain { txPlain with priorityFee := some 0 } sndPlain := by
  constructor
  · decide
  · decide

/-- region 2 on a witness: Cancun, the sender's code is a delegation designator — accepted, although
before Prague (EIP-7702) such an account is an ordinary contract and EIP-3607 rejects it -/
theorem delegated_sender_before_prague_counterexample :
    validate Fork.cancun.id {} blkPlain txPlain { sndPlain with code := .eip7702 } = .ok ∧
    ¬ ValidTx .cancun {} blkPlain txPlain { sndPlain with code := .eip7702 } := by
  constructor
  · decide
  · decide

/-- a blob transaction that offers 2^256 − 1 per blob gas for one blob, pays nothing else, from a
sender owning 2^256 − 1 wei: the true maximum cost is 2^17 · (2^256 − 1) -/
def txBlobSat : Tx :=
  { gasLimit := 21000, gasPrice := 0, value := 0, nonce := some 3, blobHashes := [1],
    maxFeePerBlobGas := some (2^256 - 1) }
def blkFree : Block := { gasLimit := 30000000, basefee := 0 }
def sndRich : Sender := { balance := 2^256 - 1, nonce := 3 }

/-- region 3 on a witness: accepted although the sender cannot pay the maximum blob fee -/
theorem blob_fee_saturation_counterexample :
    validate Fork.cancun.id {} blkFree txBlobSat sndRich = .ok ∧
    ¬ ValidTx .cancun {} blkFree txBlobSat sndRich ∧ BlobFeeSaturation txBlobSat sndRich := by
  refine ⟨by decide, by decide, ?_⟩
  unfold BlobFeeSaturation
  rw [W_val]
  decide

/-- the full statement is false of the code (witness: region 1) -/
theorem validate_iff_full_counterexample : ¬ FullStatement_validate_iff := by
  intro h
  have hr : InRange blkPlain { txPlain with priorityFee := some 0 } sndPlain :=
    inRange_plain _ _ (by rw [W_val, U64_val]; decide)
  have hf : GasFits .berlin { txPlain with priorityFee := some 0 } := by
    unfold GasFits; rw [U64_val]; decide
  have := (h .berlin {} blkPlain _ sndPlain hr hf).1 priority_fee_before_london_counterexample.1
  exact priority_fee_before_london_counterexample.2 this

/-! ## which variant -/

/-- **the reply is the variant of the first violated rule**, in the code's order of checking
(`Spec.TxValid.rules`: 2 header rules, 17 transaction rules, 2 gas rules, 6 sender rules), for every
fork, configuration, block, transaction and sender — whenever `basefee + priority_fee` (from
London) and the blob fee stay below 2^256 -/
theorem validate_eq_first_violated (f : Fork) (cfg : Cfg) (blk : Block) (tx : Tx) (snd : Sender)
    (hr : InRange blk tx snd) (hfit : GasFits f tx)
    (hwrap : hasEIP1559 f = true → ∀ p, tx.priorityFee = some p → blk.basefee + p < W)
    (hnosat : blobFee tx < W) :
    validate f.id cfg blk tx snd = resOf (firstViolated (rules f cfg blk tx snd)) :=
  Proofs.TxValidate.validate_eq_firstViolated hr hfit hwrap hnosat

/-- per rule: variant `e` is returned iff the first violated rule is one that `e` reports -/
theorem variant_iff_first_violated (f : Fork) (cfg : Cfg) (blk : Block) (tx : Tx) (snd : Sender) (e : Err)
    (hr : InRange blk tx snd) (hfit : GasFits f tx)
    (hwrap : hasEIP1559 f = true → ∀ p, tx.priorityFee = some p → blk.basefee + p < W)
    (hnosat : blobFee tx < W) :
    validate f.id cfg blk tx snd = .err e ↔ firstViolated (rules f cfg blk tx snd) = some e := by
  rw [validate_eq_first_violated f cfg blk tx snd hr hfit hwrap hnosat]
  cases firstViolated (rules f cfg blk tx snd) <;> simp [resOf]

example : (Spec.TxValid.hasEIP1559 .london = true → ∀ p, txPlain.priorityFee = some p → blkPlain.basefee + p < W) ∧
    blobFee txPlain < W := by
  refine ⟨fun _ p h => by simp [txPlain] at h, ?_⟩
  rw [W_val]; decide

/-- gas price 2^256 − 1, base fee 2^255, priority fee 2^255: the caps satisfy the EIP-1559 rules,
`basefee + priority_fee` wraps to 0 -/
def txFeeWrap : Tx :=
  { gasLimit := 21000, gasPrice := 2^256 - 1, priorityFee := some (2^255), nonce := some 3 }
def blkFeeWrap : Block := { gasLimit := 30000000, basefee := 2^255 }

/-- DESIGN §9 #12 on a witness: the code answers `GasPriceLessThanBasefee`, the first violated rule
is the balance rule (`OverflowPaymentInTransaction`) — a different variant, the same verdict -/
theorem fee_wrap_variant_counterexample :
    validate Fork.london.id {} blkFeeWrap txFeeWrap sndRich = .err .GasPriceLessThanBasefee ∧
    firstViolated (rules .london {} blkFeeWrap txFeeWrap sndRich) = some .OverflowPaymentInTransaction ∧
    ¬ ValidTx .london {} blkFeeWrap txFeeWrap sndRich := by
  refine ⟨by decide, by decide, by decide⟩

set_option linter.unusedVariables false in
/-- validation never reaches `expect("already checked")` nor the `initcode_cost` overflow panic -/
theorem validate_never_panics (f : Fork) (cfg : Cfg) (blk : Block) (tx : Tx) (snd : Sender)
    (hr : InRange blk tx snd) (hfit : GasFits f tx) : validate f.id cfg blk tx snd ≠ .panic :=
  Proofs.TxValidate.validate_ne_panic hfit

/-! ## a rejected transaction changes nothing

`Model.TxValidate.transact ops exec c env` models `Evm::transact` on the context
`c = (db, journal, error slot)`: `preverify` (the three stages; the sender is loaded through the
journal from the database, whose reads go through `&mut`), on a validation error `clear`
(`take_error`, `journaled_state.clear()`), otherwise the accepted path `exec` — an arbitrary function,
nothing is assumed about it — followed by `clear`. -/

/-- on a context with an empty journal the verdict of `transact` is the pure `validate` applied to
the sender as the database reports it (an absent account is the default account) -/
theorem preverify_is_validate {D : Type} (ops : DbOps D) (c : Ctx D) (env : Env)
    (h : c.journal.loaded = []) :
    (preverify ops c env).1 =
      validate c.journal.spec env.cfg env.blk env.tx ((ops.basic c.db env.caller).2.getD {}) :=
  Proofs.TxNoEffect.preverify_eq_validate ops c env h

/-- **rejected ⇒ nothing changed**, for ALL context states (dirty journal, pending error), all
databases and every accepted-path function: no output, the journal is the empty journal of the same
spec, the error slot is `Ok`, and the database is the old one — up to at most the single `basic` read
of the caller (a read goes through `&mut self`) -/
theorem rejected_no_effect {D O : Type} (ops : DbOps D) (exec : Ctx D → Env → O × Ctx D) (c : Ctx D)
    (env : Env) (e : Err) (o : Option O) (c' : Ctx D)
    (h : transact ops exec c env = ((.err e, o), c')) :
    o = none ∧ c'.journal = Journal.new c.journal.spec ∧ c'.error = none ∧
      (c'.db = c.db ∨ c'.db = (ops.basic c.db env.caller).1) :=
  Proofs.TxNoEffect.rejected_no_effect ops exec c env e o c' h

/-- with a database whose reads do not change it, the database afterwards is equal -/
theorem rejected_db_untouched {D O : Type} (ops : DbOps D) (hro : ReadOnly ops)
    (exec : Ctx D → Env → O × Ctx D) (c : Ctx D) (env : Env) (e : Err) (o : Option O) (c' : Ctx D)
    (h : transact ops exec c env = ((.err e, o), c')) : c'.db = c.db :=
  Proofs.TxNoEffect.rejected_db_equal ops hro exec c env e o c' h

/-- … and between transactions (clean context) the whole context is equal: as if never submitted -/
theorem rejected_context_equal {D O : Type} (ops : DbOps D) (hro : ReadOnly ops)
    (exec : Ctx D → Env → O × Ctx D) (c : Ctx D) (hc : Clean c) (env : Env) (e : Err) (o : Option O)
    (c' : Ctx D) (h : transact ops exec c env = ((.err e, o), c')) : c' = c :=
  Proofs.TxNoEffect.rejected_ctx_equal ops hro exec c hc env e o c' h

/-- a read-only database over a one-account map, for the non-vacuity examples -/
def mapOps : DbOps (Nat → Option Sender) := { basic := fun d a => (d, d a) }
example : ReadOnly mapOps := fun _ _ => rfl
example : Clean ({ db := fun _ => none, journal := Journal.new 17 } : Ctx (Nat → Option Sender)) := ⟨rfl, rfl⟩
/-- a rejected transaction exists in the model of `transact` (absent sender, no funds) -/
example : (transact mapOps (fun c (_ : Env) => ((), c))
    { db := fun _ => none, journal := Journal.new 17 }
    { cfg := {}, blk := blkPlain, tx := txPlain, caller := 7 }).1 = (.err .NonceTooHigh, none) := by decide

/-- every transaction that does not panic leaves the context clean -/
theorem transact_leaves_clean {D O : Type} (ops : DbOps D) (exec : Ctx D → Env → O × Ctx D) (c : Ctx D)
    (env : Env) (h : (transact ops exec c env).1.1 ≠ .panic) : Clean (transact ops exec c env).2 :=
  Proofs.TxNoEffect.transact_clean ops exec c env h

/-- later results are a function of (database, spec, environment) only: whatever two contexts held
in their journals and error slots, after `clear` they give the same result and the same next context -/
theorem later_results_function_of_db_env {D O : Type} (ops : DbOps D) (exec : Ctx D → Env → O × Ctx D)
    (c1 c2 : Ctx D) (hdb : c1.db = c2.db) (hsp : c1.journal.spec = c2.journal.spec) (env : Env) :
    transact ops exec (clear c1) env = transact ops exec (clear c2) env := by
  have : clear c1 = clear c2 := by
    obtain ⟨d1, j1, e1⟩ := c1
    obtain ⟨d2, j2, e2⟩ := c2
    simp only at hdb hsp
    unfold clear Journal.clear
    simp only [hdb, hsp]
  rw [this]

/-- **histories**: running a list of transactions with rejected ones interleaved gives, for the
accepted ones, exactly the results of the twin run that never saw the rejected ones, and the same
final context (database included) — for every accepted-path function and every history -/
theorem history_skip_rejected {D O : Type} (ops : DbOps D) (hro : ReadOnly ops)
    (exec : Ctx D → Env → O × Ctx D) (envs : List Env) (c : Ctx D) (hc : Clean c) :
    runHistory ops exec c (notRejected ops exec c envs)
      = (((runHistory ops exec c envs).1.filter (fun r => !isRejected r)), (runHistory ops exec c envs).2) :=
  Proofs.TxNoEffect.history_skip_rejected ops hro exec envs c hc

end Revm.Props.C02
