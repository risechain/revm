import Revm.Proofs.EvmLoop
import Revm.Proofs.TxGas
import Revm.Model.TxValidate
import Revm.Proofs.EvmLinkEnv
import Revm.Proofs.TxValidateRes
import Revm.Proofs.EvmInstStages
import Revm.Proofs.EvmHost
/-! The validation of the whole-transaction model (`Evm.validateEnv`, `Evm.validateAgainstState`, `Evm.preverify`, which
only say accept / reject) against the validation model of C02 (`Model.TxValidate`, which also says which error):
`validateEnv_link`, `validateAgainstState_link`, and `Evm.preverify` inverted (`preverify_some_inv`) and against
`TxValidate.validateCanon` (`preverify_verdict`); last, C02's validation implies the one guarding the fee arithmetic
of C09. -/
namespace Revm.Proofs.EvmLink
open Revm Revm.Model Revm.Model.Evm
open Revm.Model.GasCalc (enabled)
open Revm.Proofs.Evm (bind_ok)

/-- `CfgEnv` as C02 reads it (the blob schedule is the default one, as in `Evm.blobMaxCount`) -/
def tvCfg (e : Evm.Env) : TxValidate.Cfg :=
  { chainId := e.cfg.chainId, limitContractCodeSize := e.cfg.limitContractCodeSize }
/-- `BlockEnv` as C02 reads it -/
def tvBlock (e : Evm.Env) : TxValidate.Block :=
  { gasLimit := e.block.gasLimit, basefee := e.block.basefee, prevrandaoSet := e.block.prevrandao.isSome,
    blobGasPrice := e.block.blobGasPrice }
/-- `TxEnv` as C02 reads it: access list as key counts, blob hashes as version bytes, authorization list as length -/
def tvTx (e : Evm.Env) : TxValidate.Tx :=
  { gasLimit := e.tx.gasLimit, gasPrice := e.tx.gasPrice, priorityFee := e.tx.priorityFee, value := e.tx.value,
    data := e.tx.data, isCreate := e.tx.to.isNone, chainId := e.tx.chainId, nonce := e.tx.nonce,
    accessList := e.tx.accessList.map (fun it => it.keys.length),
    blobHashes := e.tx.blobHashes.map (fun h => h / 2 ^ 248),
    maxFeePerBlobGas := e.tx.maxFeePerBlobGas, authList := e.tx.authList.map List.length }
/-- what a `TxValidate` verdict is in the accept / reject reading of `EvmTx` -/
def resToR : TxValidate.Res → R Bool
  | .ok => .ok true
  | .err _ => .ok false
  | .panic => .error (.panic "already checked")
/-- `?`: go on with `k` after `Ok` -/
def thenR (r : TxValidate.Res) (k : R Bool) : R Bool :=
  match r with
  | .ok => k
  | .err _ => .ok false
  | .panic => .error (.panic "already checked")
theorem thenR_resToR (r k : TxValidate.Res) : thenR r (resToR k) = resToR (r.andThen k) := by cases r <;> rfl

/-- the EIP-7702 block of `Evm.validateEnv` (the same source text) -/
def vAuth (e : Evm.Env) (spec : Nat) : R Bool := do
  if !enabled spec GasCalc.SpecId.PRAGUE ∧ e.tx.authList.isSome then return false
  if let some l := e.tx.authList then
    if l.isEmpty then return false
    if e.tx.maxFeePerBlobGas.isSome ∨ !e.tx.blobHashes.isEmpty then return false
    if e.tx.to.isNone then return false
  return true

/-- the EIP-4844 blocks of `Evm.validateEnv`, then `vAuth` -/
def vBlob (e : Evm.Env) (spec : Nat) : R Bool := do
  if !enabled spec GasCalc.SpecId.CANCUN ∧ (e.tx.maxFeePerBlobGas.isSome ∨ !e.tx.blobHashes.isEmpty) then return false
  match e.tx.maxFeePerBlobGas with
  | some mx =>
    let some price := e.block.blobGasPrice | throw (.panic "already checked")
    if price > mx then return false
    if e.tx.blobHashes.isEmpty then return false
    if e.tx.to.isNone then return false
    if e.tx.blobHashes.any (fun h => h / 2^248 != VERSIONED_HASH_VERSION_KZG) then return false
    if enabled spec GasCalc.SpecId.CANCUN ∧ e.tx.blobHashes.length > blobMaxCount spec then return false
  | none =>
    if !e.tx.blobHashes.isEmpty then return false
  vAuth e spec

/-- the EIP-3860 block, then `vBlob` -/
def vInit (e : Evm.Env) (spec : Nat) : R Bool := do
  if enabled spec GasCalc.SpecId.SHANGHAI ∧ e.tx.to.isNone then
    let maxInit := match e.cfg.limitContractCodeSize with
      | some l => U64ops.saturatingMul l 2
      | none => MAX_INITCODE_SIZE
    if e.tx.data.length > maxInit then return false
  vBlob e spec

/-- the EIP-1559 block, then `vInit` -/
def vFee (e : Evm.Env) (spec : Nat) : R Bool := do
  if enabled spec GasCalc.SpecId.LONDON then
    if let some p := e.tx.priorityFee then
      if p > e.tx.gasPrice then return false
    if e.effectiveGasPrice < e.block.basefee then return false
  vInit e spec

/-- `validate_block_env`, chain id, block gas limit, access list, then `vFee` -/
def vHead (e : Evm.Env) (spec : Nat) : R Bool := do
  if enabled spec GasCalc.SpecId.MERGE ∧ e.block.prevrandao.isNone then return false
  if enabled spec GasCalc.SpecId.CANCUN ∧ e.block.blobGasPrice.isNone then return false
  if let some c := e.tx.chainId then
    if c ≠ e.cfg.chainId then return false
  if e.tx.gasLimit > e.block.gasLimit then return false
  if !enabled spec GasCalc.SpecId.BERLIN ∧ !e.tx.accessList.isEmpty then return false
  vFee e spec

/-- `Evm.validateEnv` IS the five stages in sequence (the same do-block, cut at the stage boundaries) -/
theorem validateEnv_staged (e : Evm.Env) (spec : Nat) : Evm.validateEnv e spec = vHead e spec := by
  unfold Evm.validateEnv vHead vFee vInit vBlob vAuth
  rfl

theorem blobMaxCount_eq (e : Evm.Env) (spec : Nat) : TxValidate.blobMaxCount (tvCfg e) spec = Evm.blobMaxCount spec := by
  unfold TxValidate.blobMaxCount Evm.blobMaxCount tvCfg
  simp only [List.reverse_cons, List.reverse_nil, List.nil_append, List.cons_append, List.find?]
  by_cases h1 : spec ≥ GasCalc.SpecId.PRAGUE
  · simp [h1]
  · by_cases h2 : spec ≥ GasCalc.SpecId.CANCUN <;> simp [h1, h2]

theorem vAuth_link (e : Evm.Env) (spec : Nat) : vAuth e spec = resToR (TxValidate.authChecks spec (tvTx e)) := by
  unfold vAuth TxValidate.authChecks
  cases hal : e.tx.authList with
  | none => simp [tvTx, hal, resToR, pure, Except.pure]
  | some l =>
    simp only [pure, Except.pure, tvTx, hal]
    by_cases hp : enabled spec GasCalc.SpecId.PRAGUE = true
    · by_cases hl : l = []
      · simp [hp, hl, resToR]
      · by_cases hb : e.tx.maxFeePerBlobGas.isSome = true ∨ (!e.tx.blobHashes.isEmpty) = true
        · rcases hb with hb | hb <;> simp [hp, hl, hb, resToR]
        · have hb1 : e.tx.maxFeePerBlobGas.isSome = false := by simpa using fun h => hb (Or.inl h)
          have hb2 : e.tx.blobHashes.isEmpty = true := by simpa using fun h => hb (Or.inr h)
          cases hto : e.tx.to.isNone <;> simp [hp, hl, hb1, hb2, resToR]
    · simp [hp, resToR]

theorem vBlob_link (e : Evm.Env) (spec : Nat) :
    vBlob e spec = thenR (TxValidate.blobChecks spec (tvCfg e) (tvBlock e) (tvTx e)) (vAuth e spec) := by
  unfold vBlob TxValidate.blobChecks
  rw [blobMaxCount_eq]
  have hany : (List.map (fun h => h / 2 ^ 248) e.tx.blobHashes).any (fun v => v != TxValidate.VERSIONED_HASH_VERSION_KZG)
      = e.tx.blobHashes.any (fun h => h / 2^248 != VERSIONED_HASH_VERSION_KZG) := by
    rw [List.any_map]; rfl
  cases hmx : e.tx.maxFeePerBlobGas with
  | none =>
    simp only [pure, Except.pure, tvTx, hmx]
    by_cases hc : enabled spec GasCalc.SpecId.CANCUN = true
    · cases hb : e.tx.blobHashes.isEmpty <;> simp [hc, hb, thenR]
    · cases hb : e.tx.blobHashes.isEmpty <;> simp [hc, hb, thenR]
  | some mx =>
    simp only [bind, Except.bind, pure, Except.pure, tvTx, tvBlock, hmx]
    by_cases hc : enabled spec GasCalc.SpecId.CANCUN = true
    · cases hpr : e.block.blobGasPrice with
      | none => simp [hc, thenR, throw, throwThe, MonadExceptOf.throw]
      | some price =>
        by_cases h1 : price > mx
        · simp [hc, h1, thenR]
        · cases hb : e.tx.blobHashes.isEmpty
          · cases hto : e.tx.to.isNone
            · simp only [hany]
              cases ha : e.tx.blobHashes.any (fun h => h / 2^248 != VERSIONED_HASH_VERSION_KZG)
              · by_cases hn : e.tx.blobHashes.length > blobMaxCount spec
                · simp [hc, h1, hb, hn, thenR]
                · simp [hc, h1, hb, hn, thenR]
              · simp [hc, h1, hb, thenR]
            · simp [hc, h1, hb, thenR]
          · simp [hc, h1, hb, thenR]
    · simp [hc, thenR]

theorem vInit_link (e : Evm.Env) (spec : Nat) :
    vInit e spec = thenR (TxValidate.initcodeCheck spec (tvCfg e) (tvTx e)) (vBlob e spec) := by
  unfold vInit TxValidate.initcodeCheck TxValidate.maxInitcodeSize
  by_cases h1 : enabled spec GasCalc.SpecId.SHANGHAI = true ∧ e.tx.to.isNone = true
  · cases hl : e.cfg.limitContractCodeSize with
    | none =>
      simp only [pure, Except.pure, tvTx, tvCfg, hl]
      by_cases h2 : e.tx.data.length > MAX_INITCODE_SIZE
      · have h2' : e.tx.data.length > TxValidate.MAX_INITCODE_SIZE := h2
        simp [h1.1, h1.2, h2, h2', thenR]
      · have h2' : ¬ e.tx.data.length > TxValidate.MAX_INITCODE_SIZE := h2
        simp [h1.1, h1.2, h2, h2', thenR]
    | some l =>
      simp only [pure, Except.pure, tvTx, tvCfg, hl]
      by_cases h2 : e.tx.data.length > U64ops.saturatingMul l 2
      · simp [h1.1, h1.2, h2, thenR]
      · simp [h1.1, h1.2, h2, thenR]
  · have h1' : (enabled spec GasCalc.SpecId.SHANGHAI && e.tx.to.isNone) = false := by
      cases hs : enabled spec GasCalc.SpecId.SHANGHAI <;> cases ht : e.tx.to.isNone <;> simp_all
    simp only [pure, Except.pure, tvTx, tvCfg]
    rw [if_neg h1]
    simp only [h1', Bool.false_eq_true, if_false, thenR]

theorem vFee_link (e : Evm.Env) (spec : Nat) :
    vFee e spec = thenR (TxValidate.feeChecks spec (tvBlock e) (tvTx e)) (vInit e spec) := by
  unfold vFee TxValidate.feeChecks
  have heff : TxValidate.effectiveGasPrice (tvBlock e) (tvTx e) = e.effectiveGasPrice := rfl
  rw [heff]
  by_cases hL : enabled spec GasCalc.SpecId.LONDON = true
  · cases hp : e.tx.priorityFee with
    | none =>
      simp only [pure, Except.pure, tvTx, tvBlock, hp]
      by_cases h2 : e.effectiveGasPrice < e.block.basefee <;> simp [hL, h2, thenR]
    | some p =>
      simp only [pure, Except.pure, tvTx, tvBlock, hp]
      by_cases h1 : p > e.tx.gasPrice
      · simp [hL, h1, thenR]
      · by_cases h2 : e.effectiveGasPrice < e.block.basefee <;> simp [hL, h1, h2, thenR]
  · simp [hL, thenR]

theorem ite_and_bool {α} (a b : Bool) (x y : α) :
    (if a = true ∧ b = true then x else y) = (if (a && b) = true then x else y) := by
  cases a <;> cases b <;> rfl

theorem vHead_link (e : Evm.Env) (spec : Nat) :
    vHead e spec = resToR (TxValidate.validateEnv spec (tvCfg e) (tvBlock e) (tvTx e)) := by
  have htail : vFee e spec = resToR ((TxValidate.feeChecks spec (tvBlock e) (tvTx e)).andThen <|
      (TxValidate.initcodeCheck spec (tvCfg e) (tvTx e)).andThen <|
      (TxValidate.blobChecks spec (tvCfg e) (tvBlock e) (tvTx e)).andThen <|
      TxValidate.authChecks spec (tvTx e)) := by
    rw [vFee_link, vInit_link, vBlob_link, vAuth_link, thenR_resToR, thenR_resToR, thenR_resToR]
  unfold vHead TxValidate.validateEnv TxValidate.validateBlockEnv TxValidate.validateTx TxValidate.chainIdMismatch
  rw [htail]
  generalize TxValidate.Res.andThen (TxValidate.feeChecks spec (tvBlock e) (tvTx e)) _ = tail
  simp only [pure, Except.pure, ite_and_bool, tvBlock, tvTx, tvCfg, Option.not_isSome,
    List.isEmpty_map]
  by_cases h1 : (enabled spec GasCalc.SpecId.MERGE && e.block.prevrandao.isNone) = true
  · simp only [h1, if_true, TxValidate.Res.andThen, resToR]
  · by_cases h2 : (enabled spec GasCalc.SpecId.CANCUN && e.block.blobGasPrice.isNone) = true
    · simp only [h1, h2, if_false, if_true, TxValidate.Res.andThen, resToR, Bool.false_eq_true]
    · simp only [h1, h2, if_false, TxValidate.Res.andThen, Bool.false_eq_true]
      have key : (if e.tx.gasLimit > e.block.gasLimit then (Except.ok false : R Bool)
           else if (!enabled spec GasCalc.SpecId.BERLIN && !e.tx.accessList.isEmpty) = true then Except.ok false
           else resToR tail) =
          resToR (if e.tx.gasLimit > e.block.gasLimit then .err .CallerGasLimitMoreThanBlock
            else if (!enabled spec GasCalc.SpecId.BERLIN && !e.tx.accessList.isEmpty) = true then
              .err .AccessListNotSupported
            else tail) := by
        by_cases h3 : e.tx.gasLimit > e.block.gasLimit
        · simp only [h3, if_true, resToR]
        · by_cases h4 : (!enabled spec GasCalc.SpecId.BERLIN && !e.tx.accessList.isEmpty) = true
          · simp only [h3, h4, if_false, if_true, resToR]
          · simp only [h3, h4, if_false, Bool.false_eq_true]
      cases hc : e.tx.chainId with
      | none => simp only [Bool.false_eq_true, if_false]; exact key
      | some c =>
        by_cases h5 : c = e.cfg.chainId
        · simp only [h5, ne_eq, not_true_eq_false, if_false, bne_self_eq_false, Bool.false_eq_true]
          exact key
        · have : (c != e.cfg.chainId) = true := by simpa using h5
          simp only [ne_eq, h5, not_false_eq_true, if_true, this, resToR]

/-- `Evm.validateEnv` = `TxValidate.validateEnv` (C02), as functions: accepted / rejected / the
`expect("already checked")` panic on the same inputs -/
theorem validateEnv_link (e : Evm.Env) (spec : Nat) :
    Evm.validateEnv e spec = resToR (TxValidate.validateEnv spec (tvCfg e) (tvBlock e) (tvTx e)) := by
  rw [validateEnv_staged, vHead_link]

/-- the sender's `Bytecode` kind as `validate_tx_against_state` distinguishes it -/
def codeKind (code : List Nat) : TxValidate.CodeKind :=
  if code.isEmpty then .empty else if (delegateOf code).isSome then .eip7702 else .other

/-- the loaded sender as C02 reads it -/
def senderOf (code : List Nat) (info : Journal.Info) : TxValidate.Sender :=
  { balance := info.balance, nonce := info.nonce, code := codeKind code }

def accepted : TxValidate.Res → Bool
  | .ok => true
  | _ => false

theorem maxDataFee_eq (e : Evm.Env) : e.calcMaxDataFee.getD 0 = TxValidate.maxDataFee (tvTx e) := by
  unfold Evm.Env.calcMaxDataFee TxValidate.maxDataFee
  have ht : e.totalBlobGas = TxValidate.totalBlobGas (tvTx e) := by
    unfold Evm.Env.totalBlobGas TxValidate.totalBlobGas tvTx
    simp only [List.length_map]; rfl
  cases h : e.tx.maxFeePerBlobGas with
  | none => simp [tvTx, h]
  | some m => simp [tvTx, h, ht]

theorem nest3 {β} (m : Option Nat) (a F : Nat → Option Nat) (X : Nat → β) (d : β) :
    (match m with
     | some gc => match a gc with
       | some c => match F c with
         | some c2 => X c2
         | _ => d
       | _ => d
     | _ => d) =
    (match (match m with
            | some gc => match a gc with
              | some c => F c
              | none => none
            | none => none) with
     | some c2 => X c2
     | none => d) := by
  cases m with
  | none => rfl
  | some gc =>
    dsimp only
    cases a gc with
    | none => rfl
    | some c => dsimp only; cases F c <;> rfl

theorem balanceCheck_eq (e : Evm.Env) (spec : Nat) :
    (match U256.checkedMul e.tx.gasLimit e.tx.gasPrice with
     | some gasCost =>
       match U256.checkedAdd gasCost e.tx.value with
       | some check =>
         if enabled spec GasCalc.SpecId.CANCUN = true then U256.checkedAdd check (e.calcMaxDataFee.getD 0) else some check
       | none => none
     | none => none) = TxValidate.balanceCheck spec (tvTx e) := by
  unfold TxValidate.balanceCheck
  rw [maxDataFee_eq]
  show _ = (match U256.checkedMul e.tx.gasLimit e.tx.gasPrice with
    | none => none
    | some gasCost => match U256.checkedAdd gasCost e.tx.value with
      | none => none
      | some bc => if enabled spec GasCalc.SpecId.CANCUN = true then U256.checkedAdd bc (TxValidate.maxDataFee (tvTx e)) else some bc)
  cases U256.checkedMul e.tx.gasLimit e.tx.gasPrice with
  | none => rfl
  | some gc => dsimp only; cases U256.checkedAdd gc e.tx.value <;> rfl

theorem validateAgainstState_link (e : Evm.Env) (spec : Nat) (code : List Nat) (info : Journal.Info) :
    Evm.validateAgainstState e spec code info =
      accepted (TxValidate.validateTxAgainstState spec (tvTx e) (senderOf code info)) := by
  have hbal :
      (match U256.checkedMul e.tx.gasLimit e.tx.gasPrice with
        | some gasCost =>
          match U256.checkedAdd gasCost e.tx.value with
          | some check =>
            match
              if enabled spec GasCalc.SpecId.CANCUN = true then U256.checkedAdd check (e.calcMaxDataFee.getD 0)
              else some check with
            | some check => if check > info.balance then false else true
            | x => false
          | x => false
        | x => false) =
      accepted (match TxValidate.balanceCheck spec (tvTx e) with
        | none => .err .OverflowPaymentInTransaction
        | some bc => if bc > info.balance then .err .LackOfFundForMaxFee else .ok) := by
    rw [← balanceCheck_eq]
    rw [nest3 (U256.checkedMul e.tx.gasLimit e.tx.gasPrice) (fun gc => U256.checkedAdd gc e.tx.value)
      (fun c => if enabled spec GasCalc.SpecId.CANCUN = true then U256.checkedAdd c (e.calcMaxDataFee.getD 0) else some c)
      (fun c2 => if c2 > info.balance then false else true) false]
    generalize (match U256.checkedMul e.tx.gasLimit e.tx.gasPrice with
      | some gc => match U256.checkedAdd gc e.tx.value with
        | some c => if enabled spec GasCalc.SpecId.CANCUN = true then U256.checkedAdd c (e.calcMaxDataFee.getD 0) else some c
        | none => none
      | none => none) = o
    cases o with
    | none => rfl
    | some c2 => dsimp only; split <;> rfl
  unfold Evm.validateAgainstState TxValidate.validateTxAgainstState TxValidate.nonceCheck
  simp only [Id.run, pure, senderOf, codeKind]
  by_cases hc : (!code.isEmpty) = true ∧ (delegateOf code).isNone = true
  · have h1 : code.isEmpty = false := by simpa using hc.1
    have h2 : (delegateOf code).isSome = false := by
      cases hd : delegateOf code <;> simp_all
    simp [hc.2, h1, h2, accepted]
  · have hk : ¬ ((if code.isEmpty = true then TxValidate.CodeKind.empty
        else if (delegateOf code).isSome = true then .eip7702 else .other) = .other) := by
      cases h1 : code.isEmpty
      · cases hd : delegateOf code
        · exact absurd ⟨by simp [h1], by simp [hd]⟩ hc
        · simp
      · simp
    rw [if_neg hc]
    simp only [hk, if_false]
    cases hn : e.tx.nonce with
    | none =>
      simp only [tvTx, hn, TxValidate.Res.andThen]
      exact hbal
    | some n =>
      simp only [tvTx, hn]
      by_cases h3 : n = info.nonce
      · by_cases h4 : n = U64 - 1
        · have : ¬ (info.nonce > info.nonce) := by omega
          simp [h3, accepted, TxValidate.Res.andThen]
          subst h3
          simp [h4]
        · subst h3
          have h5 : ¬ (info.nonce > info.nonce) := by omega
          have h6 : ¬ (info.nonce < info.nonce) := by omega
          simp only [ne_eq, not_true_eq_false, if_false, h4, h5, TxValidate.Res.andThen]
          exact hbal
      · by_cases h5 : n > info.nonce
        · simp [h3, h5, accepted, TxValidate.Res.andThen]
        · have h6 : n < info.nonce := by omega
          simp [h3, h5, h6, accepted, TxValidate.Res.andThen]

/-- `validation.initial_tx_gas`: the numbers `Evm.preverify` computes -/
def initialGas (e : Evm.Env) (spec : Nat) : Option (Nat × Nat) :=
  GasCalc.calculateInitialTxGas spec e.tx.data e.tx.to.isNone (e.tx.accessList.map (·.keys.length))
    (match e.tx.authList with | some l => l.length | none => 0)

theorem initialGas_eq (e : Evm.Env) (spec : Nat) :
    initialGas e spec =
      GasCalc.calculateInitialTxGas spec (tvTx e).data (tvTx e).isCreate (tvTx e).accessList ((tvTx e).authList.getD 0) := by
  unfold initialGas tvTx
  cases e.tx.authList <;> rfl

/-- `journaled_state.load_code(caller)`, the account, the bytes of its code: what `validate_tx_against_state` reads -/
def loadSender (w : World) (a : Nat) : R (World × Journal.Acct × List Nat) := do
  let (w, _) ← w.loadCode a
  let acc ← w.acct a
  let h ← ofOpt "code not cached" acc.info.code
  let code ← ofOpt "code_by_hash" (w.codeOf h)
  pure (w, acc, code)

theorem loadSender_inv {w w1 : World} {a : Nat} {acc : Journal.Acct} {code : List Nat}
    (h : loadSender w a = .ok (w1, acc, code)) :
    ∃ cold hh, w.loadCode a = .ok (w1, cold) ∧ w1.acct a = .ok acc ∧ acc.info.code = some hh ∧
      w1.codeOf hh = some code := by
  unfold loadSender at h
  obtain ⟨⟨w1', cold⟩, h1, h⟩ := bind_ok h
  obtain ⟨acc', h2, h⟩ := bind_ok h
  obtain ⟨hh, h3, h⟩ := bind_ok h
  obtain ⟨code', h4, h⟩ := bind_ok h
  simp only [pure, Except.pure, Except.ok.injEq, Prod.mk.injEq] at h
  obtain ⟨rfl, rfl, rfl⟩ := h
  refine ⟨cold, hh, h1, h2, ?_, ?_⟩
  · cases hc : acc'.info.code with
    | none => rw [hc] at h3; simp [ofOpt] at h3
    | some x => rw [hc] at h3; simp only [ofOpt, Except.ok.injEq] at h3; rw [h3]
  · cases hc : w1'.codeOf hh with
    | none => rw [hc] at h4; simp [ofOpt] at h4
    | some x => rw [hc] at h4; simp only [ofOpt, Except.ok.injEq] at h4; rw [h4]

/-- before Prague the floor returned by `calculate_initial_tx_gas` is 0 -/
theorem initialGas_floor_zero (e : Evm.Env) (spec ig fg : Nat) (h : initialGas e spec = some (ig, fg))
    (hp : enabled spec GasCalc.SpecId.PRAGUE = false) : fg = 0 := by
  unfold initialGas GasCalc.calculateInitialTxGas at h
  simp only [hp, Bool.false_eq_true, if_false] at h
  split at h
  · cases h
  · simp only [Option.some.injEq, Prod.mk.injEq] at h; exact h.2.symm

/-- `validation.tx_against_state` is `loadSender`, then `validate_tx_against_state` on what it found -/
theorem txAgainstState_eq (e : Evm.Env) (spec : Nat) (w : World) :
    EvmInst.txAgainstState e spec w =
      (loadSender w e.tx.caller >>= fun p => pure (p.1, Evm.validateAgainstState e spec p.2.2 p.2.1.info)) := by
  unfold EvmInst.txAgainstState loadSender
  refine EvmInst.bind_bind_congr fun p => ?_
  refine EvmInst.bind_bind_congr fun acc => ?_
  refine EvmInst.bind_bind_congr fun h => ?_
  refine EvmInst.bind_bind_congr fun code => ?_
  rfl

/-- an accepting `validation.initial_tx_gas`: the two numbers, both within the gas limit -/
theorem initialTxGas_some {e : Evm.Env} {spec ig fg : Nat} (h : EvmInst.initialTxGas e spec = .ok (some (ig, fg))) :
    initialGas e spec = some (ig, fg) ∧ ig ≤ e.tx.gasLimit ∧ fg ≤ e.tx.gasLimit := by
  unfold EvmInst.initialTxGas at h
  obtain ⟨⟨ig', fg'⟩, hi, h⟩ := bind_ok h
  have hi' : initialGas e spec = some (ig', fg') := Proofs.EvmHost.ofOpt_ok hi
  simp only [pure, Except.pure] at h
  split at h
  · cases h
  split at h
  · cases h
  rename_i h1 h2
  cases h
  refine ⟨hi', by omega, ?_⟩
  cases hp : enabled spec GasCalc.SpecId.PRAGUE
  · have := initialGas_floor_zero e spec _ _ hi' hp; omega
  · have : ¬ fg > e.tx.gasLimit := fun hgt => h2 ⟨hp, hgt⟩
    omega

/-- what an accepting `preverify` established: the three stages (`Proofs/EvmInstStages.lean`: `preverify_eq`) said yes,
the sender was loaded -/
theorem preverify_some_inv (w w1 : World) (e : Evm.Env) (spec ig fg : Nat)
    (h : Evm.preverify w e spec = .ok (some (w1, ig, fg))) :
    Evm.validateEnv e spec = .ok true ∧ initialGas e spec = some (ig, fg) ∧ ig ≤ e.tx.gasLimit ∧ fg ≤ e.tx.gasLimit ∧
    ∃ acc code, loadSender w e.tx.caller = .ok (w1, acc, code) ∧
      Evm.validateAgainstState e spec code acc.info = true := by
  rw [EvmInst.preverify_eq] at h
  obtain ⟨b, hv, h⟩ := bind_ok h
  cases b with
  | false => cases h
  | true =>
    obtain ⟨o, hi, h⟩ := bind_ok h
    cases o with
    | none => cases h
    | some g =>
      obtain ⟨ig', fg'⟩ := g
      rw [txAgainstState_eq] at h
      obtain ⟨⟨w', ok⟩, hs, h⟩ := bind_ok h
      obtain ⟨⟨w'', acc, code⟩, hl, hs⟩ := bind_ok hs
      cases hs
      cases hok : Evm.validateAgainstState e spec code acc.info with
      | false => rw [hok] at h; cases h
      | true =>
        rw [hok] at h; cases h
        obtain ⟨k1, k2, k3⟩ := initialTxGas_some hi
        exact ⟨hv, k1, k2, k3, acc, code, hl, hok⟩

/-- `Evm.preverify` once the sender is known to load: the three validation stages in sequence -/
theorem preverify_flat (w w1 : World) (e : Evm.Env) (spec : Nat) (acc : Journal.Acct) (code : List Nat)
    (hload : loadSender w e.tx.caller = .ok (w1, acc, code)) :
    Evm.preverify w e spec =
      (match Evm.validateEnv e spec with
       | .error err => .error err
       | .ok v =>
         if (!v) = true then .ok none else
         match initialGas e spec with
         | none => .error (.panic "initcode_cost")
         | some g =>
           if g.1 > e.tx.gasLimit then .ok none
           else if enabled spec GasCalc.SpecId.PRAGUE = true ∧ g.2 > e.tx.gasLimit then .ok none
           else if (!Evm.validateAgainstState e spec code acc.info) = true then .ok none
           else .ok (some (w1, g.1, g.2))) := by
  obtain ⟨cold, hh, h1, h2, h3, h4⟩ := loadSender_inv hload
  unfold Evm.preverify
  simp only [bind, Except.bind, pure, Except.pure]
  cases hv : Evm.validateEnv e spec with
  | error err => rfl
  | ok v =>
    dsimp only
    split
    · rfl
    · unfold initialGas
      generalize GasCalc.calculateInitialTxGas spec e.tx.data e.tx.to.isNone _ _ = ig
      cases ig with
      | none => rfl
      | some g =>
        simp only [ofOpt, h1, h2, h3, h4]

/-- `Evm.preverify` is `TxValidate.validateCanon` (C02: `validate_env`, `validate_initial_tx_gas`,
`validate_tx_against_state` in this order) on the sender loaded through the journal: the same verdict
(accepted / rejected / panic), and on acceptance the world with the sender loaded and the two gas numbers -/
theorem preverify_verdict (w w1 : World) (e : Evm.Env) (spec : Nat) (acc : Journal.Acct) (code : List Nat)
    (hload : loadSender w e.tx.caller = .ok (w1, acc, code)) :
    (TxValidate.validateCanon spec (tvCfg e) (tvBlock e) (tvTx e) (senderOf code acc.info) = .ok →
      ∃ ig fg, initialGas e spec = some (ig, fg) ∧ Evm.preverify w e spec = .ok (some (w1, ig, fg))) ∧
    (∀ x, TxValidate.validateCanon spec (tvCfg e) (tvBlock e) (tvTx e) (senderOf code acc.info) = .err x →
      Evm.preverify w e spec = .ok none) ∧
    (TxValidate.validateCanon spec (tvCfg e) (tvBlock e) (tvTx e) (senderOf code acc.info) = .panic →
      ∃ msg, Evm.preverify w e spec = .error (.panic msg)) := by
  rw [preverify_flat w w1 e spec acc code hload, validateEnv_link, validateAgainstState_link]
  unfold TxValidate.validateCanon TxValidate.validateInitialTxGas
  rw [← initialGas_eq]
  have hnp := Proofs.TxValidate.validateTxAgainstState_ne_panic spec (tvTx e) (senderOf code acc.info)
  generalize TxValidate.validateTxAgainstState spec (tvTx e) (senderOf code acc.info) = r3 at hnp
  cases hv : TxValidate.validateEnv spec (tvCfg e) (tvBlock e) (tvTx e) with
  | err x => simp [resToR, TxValidate.Res.andThen]
  | panic => simp [resToR, TxValidate.Res.andThen]
  | ok =>
    simp only [resToR, TxValidate.Res.andThen, Bool.not_true, Bool.false_eq_true, if_false]
    cases hi : initialGas e spec with
    | none => simp
    | some g =>
      obtain ⟨ig, fg⟩ := g
      have htx : (tvTx e).gasLimit = e.tx.gasLimit := rfl
      simp only [htx]
      by_cases h1 : ig > e.tx.gasLimit
      · simp [h1]
      · by_cases h2 : enabled spec GasCalc.SpecId.PRAGUE = true ∧ fg > e.tx.gasLimit
        · simp [h1, h2.1, h2.2]
        · have h2' : (enabled spec GasCalc.SpecId.PRAGUE && decide (fg > e.tx.gasLimit)) = false := by
            cases hp : enabled spec GasCalc.SpecId.PRAGUE
            · rfl
            · simp only [Bool.true_and, decide_eq_false_iff_not]; exact fun h => h2 ⟨hp, h⟩
          simp only [h1, if_false, h2, h2', Bool.false_eq_true]
          cases r3 <;> simp [accepted] at hnp ⊢

end Revm.Proofs.EvmLink

/-! ## C02's validation implies the validation that guards the fee arithmetic of C09

(`TxGas.validateEnv`, `TxGas.validateAgainstState`: a subset of the checks) -/

namespace Revm.Proofs.TxValidate
open Revm
open Revm.Model.GasCalc (enabled)
open Revm.Model.GasCalc.SpecId
open Revm.Model.TxValidate

/-- the fee-relevant fields of a validated environment, as `Model.TxGas` reads them -/
def gasEnv (s : Nat) (blk : Block) (tx : Tx) : Model.TxGas.Env :=
  { spec := s, gasLimit := tx.gasLimit, gasPrice := tx.gasPrice, priorityFee := tx.priorityFee,
    basefee := blk.basefee, blobPrice := blk.blobGasPrice, nBlobs := tx.blobHashes.length,
    maxFeePerBlobGas := tx.maxFeePerBlobGas, value := tx.value }

/-- the transaction's shape for `TxGas.validateEnv`. `dataLen := 0`: its EIP-3860 rule uses the fixed default limit,
`validate_tx` the configurable one; the rule plays no role in the fee theorems, so the shape switches it off. -/
def feeShape (tx : Tx) : Model.TxGas.TxShape :=
  { isCreate := tx.isCreate, dataLen := 0, accessList := tx.accessList, authLen := tx.authList }

/-- an accepting `validate_env` implies the fee validation of C09, when the configured blob limit is within the
default one -/
theorem txgas_validateEnv_of_ok {s : Nat} {cfg : Cfg} {blk : Block} {tx : Tx}
    (hcnt : blobMaxCount cfg s ≤ if enabled s PRAGUE then 9 else 6)
    (h : validateEnv s cfg blk tx = .ok) :
    Model.TxGas.validateEnv (gasEnv s blk tx) (feeShape tx) = none := by
  simp only [validateEnv, validateBlockEnv, validateTx, feeChecks, andThen_eq_ok, ite_err_ok_iff] at h
  obtain ⟨⟨_, h1, _⟩, _, _, h2, hfee, _, hblob, hauth⟩ := h
  rw [Proofs.TxGas.validateEnv_none_iff, Proofs.TxGas.blobChecks_none_iff, Proofs.TxGas.authChecks_none_iff]
  have hemp : ∀ l : List Nat, (!l.isEmpty) = decide (l.length ≠ 0) := by intro l; cases l <;> simp
  simp only [gasEnv, feeShape]
  unfold blobChecks at hblob; unfold authChecks at hauth
  simp only [ite_err_ok_iff, hemp] at hblob hauth
  obtain ⟨h6, hblob⟩ := hblob
  obtain ⟨h8, hauth⟩ := hauth
  refine ⟨h1, h2, ?_, ?_, by simp, h6, ⟨fun m hm => ?_, fun hm => ?_⟩, h8, fun n hn => ?_⟩
  · cases hL : enabled s LONDON
    · simp
    · rw [hL, if_pos rfl] at hfee; exact (ite_err_ok_iff.1 hfee).1
  · cases hL : enabled s LONDON
    · simp
    · rw [hL, if_pos rfl] at hfee
      exact fun h => (ite_err_ok_iff.1 (ite_err_ok_iff.1 hfee).2).1 (of_decide_eq_true h)
  · rw [hm] at hblob
    cases hp : blk.blobGasPrice with
    | none => rw [hp] at hblob; cases hblob
    | some p =>
      rw [hp] at hblob
      simp only [ite_err_ok_iff] at hblob
      obtain ⟨b1, b2, b3, _, b5, _⟩ := hblob
      refine ⟨p, rfl, b1, fun hz => b2 (by rw [List.length_eq_zero_iff.1 hz]; rfl), by simpa using b3, fun hc => b5 ?_⟩
      simp only [Bool.and_eq_true, decide_eq_true_eq] at hc ⊢
      exact ⟨hc.1, Nat.lt_of_le_of_lt hcnt (of_decide_eq_true hc.2)⟩
  · rw [hm] at hblob
    have hb := (ite_err_ok_iff.1 hblob).1
    cases hl : tx.blobHashes with
    | nil => rfl
    | cons x xs => simp [hl] at hb
  · rw [hn] at hauth
    simp only [ite_err_ok_iff] at hauth
    exact ⟨hauth.1, hauth.2.1, by simpa using hauth.2.2.1⟩

/-- an accepting `validate_tx_against_state` implies the balance validation of C09 -/
theorem txgas_validateAgainstState_of_ok {s : Nat} {blk : Block} {tx : Tx} {snd : Sender}
    (h : validateTxAgainstState s tx snd = .ok) :
    Model.TxGas.validateAgainstState (gasEnv s blk tx) snd.balance = none := by
  have hb : Model.TxGas.balanceCheck (gasEnv s blk tx) = balanceCheck s tx := by
    have hm : (Model.TxGas.calcMaxDataFee (gasEnv s blk tx)).getD 0 = maxDataFee tx := by
      unfold Model.TxGas.calcMaxDataFee maxDataFee gasEnv; cases tx.maxFeePerBlobGas <;> rfl
    unfold Model.TxGas.balanceCheck balanceCheck; rw [hm]; rfl
  simp only [validateTxAgainstState, ite_err_ok_iff, andThen_eq_ok] at h
  unfold Model.TxGas.validateAgainstState
  rw [hb]
  cases hbc : balanceCheck s tx with
  | none => rw [hbc] at h; exact nomatch h.2.2
  | some bc => rw [hbc] at h; exact if_neg (ite_err_ok_iff.1 h.2.2).1

end Revm.Proofs.TxValidate

namespace Revm.Proofs.EvmLink
open Revm Revm.Model Revm.Model.Evm
open Revm.Model.GasCalc (enabled)

/-- `Proofs.TxValidate.feeShape` above, read off the whole-EVM environment (same short name, other namespace; likewise
`gasEnv` of `EvmLinkEnv` and `Proofs.TxValidate.gasEnv`, joined by `gasEnv_tv`) -/
def feeShape (e : Evm.Env) : TxGas.TxShape := Proofs.TxValidate.feeShape (tvTx e)

theorem gasEnv_tv (e : Evm.Env) (spec : Nat) :
    gasEnv e spec = Proofs.TxValidate.gasEnv spec (tvBlock e) (tvTx e) := by
  simp [gasEnv, Proofs.TxValidate.gasEnv, tvBlock, tvTx]

theorem txgas_validateAgainstState_of_evm (e : Evm.Env) (spec : Nat) (code : List Nat) (info : Journal.Info)
    (h : Evm.validateAgainstState e spec code info = true) :
    TxGas.validateAgainstState (gasEnv e spec) info.balance = none := by
  rw [validateAgainstState_link] at h
  rw [gasEnv_tv]
  refine Proofs.TxValidate.txgas_validateAgainstState_of_ok (snd := senderOf code info) ?_
  generalize TxValidate.validateTxAgainstState spec (tvTx e) (senderOf code info) = r at h
  cases r <;> first | rfl | cases h

theorem txgas_validateEnv_of_evm (e : Evm.Env) (spec : Nat) (h : Evm.validateEnv e spec = .ok true) :
    TxGas.validateEnv (gasEnv e spec) (feeShape e) = none := by
  rw [validateEnv_link] at h
  have hv : TxValidate.validateEnv spec (tvCfg e) (tvBlock e) (tvTx e) = .ok := by
    generalize TxValidate.validateEnv spec (tvCfg e) (tvBlock e) (tvTx e) = r at h
    cases r <;> first | rfl | (simp [resToR] at h)
  have hcnt : TxValidate.blobMaxCount (tvCfg e) spec ≤ if enabled spec GasCalc.SpecId.PRAGUE then 9 else 6 := by
    rw [blobMaxCount_eq]
    unfold Evm.blobMaxCount GasCalc.enabled
    by_cases hp : spec ≥ GasCalc.SpecId.PRAGUE
    · simp [hp]
    · by_cases hc : spec ≥ GasCalc.SpecId.CANCUN <;> simp [hp, hc]
  rw [gasEnv_tv]
  exact Proofs.TxValidate.txgas_validateEnv_of_ok hcnt hv

end Revm.Proofs.EvmLink
