import Revm.Proofs.EvmSim
import Revm.Proofs.EvmFrame
/-! The generic simulation lifted to whole transactions: validation, pre-execution, the frame loop, post-execution. As
for the frame loop, the lifting is proved for results related by `RRw E` (`TxSimE`, `transactWith_rr`) and
`transactWith_sim`, for obligations on completed steps (`TxSim`), is the case where `E` is everything. -/
namespace Revm.Proofs.EvmSim
open Revm Revm.Model Revm.Model.Evm Revm.Proofs.EvmRR

variable {κ1 κ2 : Type} {C1 : CpOps κ1} {C2 : CpOps κ2}

/-- `TxSimE` with obligations on completed steps only (`TxSim.toE`) -/
structure TxSim (C1 : CpOps κ1) (C2 : CpOps κ2) (e : Evm.Env) (spec : Nat) extends FrameSim C1 C2 (e.toCfg spec) where
  R0 : World → World → Prop
  pre : ∀ w1 w2 o1, R0 w1 w2 → preverify w1 e spec = .ok o1 →
    ∃ o2, preverify w2 e spec = .ok o2 ∧
      (match o1, o2 with
       | none, none => True
       | some (w1', ig1, fg1), some (w2', ig2, fg2) => ig1 = ig2 ∧ fg1 = fg2 ∧ R0 w1' w2'
       | _, _ => False)
  load : ∀ w1 w2, R0 w1 w2 → R [] (loadAccounts e spec w1) [] (loadAccounts e spec w2)
  deduct : ∀ w1 w2 w1', R [] w1 [] w2 → deductCaller e spec w1 = .ok w1' →
    ∃ w2', deductCaller e spec w2 = .ok w2' ∧ R [] w1' [] w2'
  auth : ∀ w1 w2 w1' n, R [] w1 [] w2 → applyAuthList e spec w1 = .ok (w1', n) →
    ∃ w2', applyAuthList e spec w2 = .ok (w2', n) ∧ R [] w1' [] w2'
  fin : ∀ w1 w2 fg rf ic res r w1', R [] w1 [] w2 → finish e spec fg rf ic res w1 = .ok (r, w1') →
    ∃ w2', finish e spec fg rf ic res w2 = .ok (r, w2') ∧ R [] w1' [] w2'

variable {E : Err → Prop}

def PreRel (R0 : World → World → Prop) : Option (World × Nat × Nat) → Option (World × Nat × Nat) → Prop
  | none, none => True
  | some (w1', ig1, fg1), some (w2', ig2, fg2) => ig1 = ig2 ∧ fg1 = fg2 ∧ R0 w1' w2'
  | _, _ => False

/-- the transaction-level obligations around the frame loop: validation, pre-execution and post-execution are the same
functions on both sides (they never open a subroutine) and have to respect `R` on the empty checkpoint stack. `R0` relates
the worlds before pre-execution; it may say more than `R [] · [] ·`, since nothing has been executed yet. -/
structure TxSimE (E : Err → Prop) (C1 : CpOps κ1) (C2 : CpOps κ2) (e : Evm.Env) (spec : Nat) extends
    FrameSimE E C1 C2 (e.toCfg spec) where
  R0 : World → World → Prop
  pre : ∀ w1 w2, R0 w1 w2 → RRw E (PreRel R0) (preverify w1 e spec) (preverify w2 e spec)
  load : ∀ w1 w2, R0 w1 w2 → R [] (loadAccounts e spec w1) [] (loadAccounts e spec w2)
  deduct : ∀ w1 w2, R [] w1 [] w2 → RRw E (fun a b => R [] a [] b) (deductCaller e spec w1) (deductCaller e spec w2)
  auth : ∀ w1 w2, R [] w1 [] w2 →
    RRw E (fun p1 p2 => p1.2 = p2.2 ∧ R [] p1.1 [] p2.1) (applyAuthList e spec w1) (applyAuthList e spec w2)
  fin : ∀ w1 w2 fg rf ic res, R [] w1 [] w2 →
    RRw E (ValRel R [] []) (finish e spec fg rf ic res w1) (finish e spec fg rf ic res w2)

theorem prepare_rr {e : Evm.Env} {spec : Nat} (T : TxSimE E C1 C2 e spec) (ig : Nat) (w1 w2 : World) (hR : T.R0 w1 w2) :
    RRw E (fun x1 x2 => x1.2.2 = x2.2.2 ∧ ForRel T.R [] [] (x1.1, x1.2.1) (x2.1, x2.2.1))
      (prepare C1 e spec ig w1) (prepare C2 e spec ig w2) := by
  rw [Revm.Proofs.EvmFrame.prepare_eq, Revm.Proofs.EvmFrame.prepare_eq]
  refine RRw.bind (T.deduct _ _ (T.load w1 w2 hR)) ?_
  intro wa1 wa2 hRa
  refine RRw.bind (T.auth _ _ hRa) ?_
  rintro ⟨wb1, n1⟩ ⟨wb2, n2⟩ ⟨hn, hRb⟩
  simp only at hn hRb
  subst hn
  refine RRw.bind (makeFrame_rr T.toFrameSimE [] [] _ _ _ _ hRb) ?_
  rintro ⟨f1, wc1⟩ ⟨f2, wc2⟩ hx
  exact RRw.pure ⟨rfl, hx⟩

theorem execute_rr {e : Evm.Env} {spec : Nat} (T : TxSimE E C1 C2 e spec) (fuel ig fg : Nat) (w1 w2 : World)
    (hR : T.R0 w1 w2) :
    RRw E (ValRel T.R [] []) (execute C1 fuel e spec ig fg w1) (execute C2 fuel e spec ig fg w2) := by
  unfold execute
  refine RRw.bind (prepare_rr T ig w1 w2 hR) ?_
  rintro ⟨f1, wa1, ic1, n1⟩ ⟨f2, wa2, ic2, n2⟩ ⟨heq, hx⟩
  simp only [Prod.mk.injEq] at heq
  obtain ⟨hic, hn⟩ := heq
  subst hic; subst hn
  refine RRw.bind (runFirst_rr T.toFrameSimE fuel (f1, wa1) (f2, wa2) hx) ?_
  rintro ⟨res1, wb1⟩ ⟨res2, wb2⟩ ⟨hres, hRb⟩
  simp only at hres hRb
  subst hres
  exact T.fin _ _ _ _ _ _ hRb

/-- worlds after a transaction: related when it was executed (a rejected transaction has no effect to speak of) -/
def OutRel (Rw : World → World → Prop) : Outcome → World → World → Prop
  | .rejected, _, _ => True
  | .executed _, a, b => Rw a b

theorem transactWith_rr {e : Evm.Env} {spec : Nat} (T : TxSimE E C1 C2 e (GasCalc.canon spec)) (fuel : Nat)
    (w1 w2 : World) (hR : T.R0 w1 w2) :
    RRw E (fun p1 p2 => p1.1 = p2.1 ∧ OutRel (fun a b => T.R [] a [] b) p1.1 p1.2 p2.2)
      (transactWith C1 fuel w1 e spec) (transactWith C2 fuel w2 e spec) := by
  unfold transactWith
  refine RRw.bind (T.pre w1 w2 hR) ?_
  intro o1 o2 ho
  cases o1 with
  | none =>
    cases o2 with
    | none => exact RRw.pure ⟨rfl, trivial⟩
    | some _ => exact ho.elim
  | some p1 =>
    cases o2 with
    | none => exact ho.elim
    | some p2 =>
      obtain ⟨wa1, ig1, fg1⟩ := p1
      obtain ⟨wa2, ig2, fg2⟩ := p2
      obtain ⟨hig, hfg, hRa⟩ := ho
      subst hig; subst hfg
      simp only
      refine RRw.bind (execute_rr T fuel ig1 fg1 wa1 wa2 hRa) ?_
      rintro ⟨r1, wb1⟩ ⟨r2, wb2⟩ ⟨hr, hRb⟩
      simp only at hr hRb
      subst hr
      exact RRw.pure ⟨rfl, hRb⟩

def TxSim.toE {e : Evm.Env} {spec : Nat} (T : TxSim C1 C2 e spec) : TxSimE (fun _ => True) C1 C2 e spec where
  toFrameSimE := T.toFrameSim.toE
  R0 := T.R0
  pre := fun w1 w2 hR => RRw.ofOk fun o1 h =>
    let ⟨o2, h2, ho⟩ := T.pre w1 w2 o1 hR h
    ⟨o2, h2, by cases o1 <;> cases o2 <;> exact ho⟩
  load := T.load
  deduct := fun w1 w2 hR => RRw.ofOk fun w1' h => T.deduct w1 w2 w1' hR h
  auth := fun w1 w2 hR => RRw.ofOk fun p hp =>
    let ⟨w2', h2, hR'⟩ := T.auth w1 w2 p.1 p.2 hR hp
    ⟨(w2', p.2), h2, rfl, hR'⟩
  fin := fun w1 w2 fg rf ic res hR => ValRel.ofOk fun r w1' => T.fin w1 w2 fg rf ic res r w1' hR

/-- a completed transaction of the first machine is a completed transaction of the second with the same outcome
(rejected, or executed with the same `TxResult`) and related final worlds -/
theorem transactWith_sim {e : Evm.Env} {spec : Nat} (T : TxSim C1 C2 e (GasCalc.canon spec)) (fuel : Nat)
    (w1 w2 : World) (hR : T.R0 w1 w2) (o : Outcome) (w1' : World)
    (h : transactWith C1 fuel w1 e spec = .ok (o, w1')) :
    ∃ w2', transactWith C2 fuel w2 e spec = .ok (o, w2') ∧ OutRel (fun a b => T.R [] a [] b) o w1' w2' := by
  obtain ⟨⟨o', w2'⟩, h2, ho, hR'⟩ := (transactWith_rr T.toE fuel w1 w2 hR).ok h
  cases ho
  exact ⟨w2', h2, hR'⟩

end Revm.Proofs.EvmSim
