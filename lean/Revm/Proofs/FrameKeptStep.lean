import Revm.Model.EvmLoop
import Revm.Proofs.FrameKeptBack
import Revm.Proofs.InterpOutcome
import Revm.Proofs.InterpHandlers
/-! What one step of a frame can do (`step_all`). The pure handlers come from `InterpHandlers` (`KaP.execPure`); the
instructions that ask the host and the call / create family are walked here, with what depends on the values they
compute: what they ask (`OpOk`), the gas accounting of an action (`remaining + child's gas limit + 1 ≤ remaining before
the instruction`; the CALL stipend is covered by the value-transfer surcharge), its target when no value moves, and that
a static frame hands out static calls only (`ActStatic`). `FrameKeptViews` reads `step_all` one aspect at a time. -/
namespace Revm.Proofs.EvmLink
open Revm Revm.Model Revm.Model.Interp Revm.Proofs.Interp

variable {E : Prop}

/-- a call action without value transfer (DELEGATECALL / EXTDELEGATECALL) keeps the frame's target -/
abbrev DelegTgt (s0 : IState) (a : Action) : Prop :=
  ∀ i, a = .call i → i.valueTransfer = false → i.targetAddress = s0.target

/-- the frame after one resolved instruction: `KeptAll`, with at least one unit of gas consumed where it continues; a
halt is classified and its output bounded; an action has paid for the gas it gives the child and one more, keeps the
target when it moves no value, and is a static call when the frame is static -/
inductive DoneAll (E : Prop) (s : IState) : Done → Prop
  | next {s'} (h : KeptAll true s s') : DoneAll E s (.next s')
  | halt {r o s'} {fl : Bool} (h : KeptAll fl s s') (hr : RHalt E r) (ho : OutBnd s o s') : DoneAll E s (.halt r o s')
  | fault {f} : DoneAll E s (.fault f)
  | action {a s'} {fl : Bool} (h : KeptAll fl s s') (hg : s'.gas.remaining + a.gasLimit + 1 ≤ s.gas.remaining)
      (ht : DelegTgt s a) (hs : ActStatic s a) : DoneAll E s (.action a s')

/-- … whatever the host answers (with `E` false, whenever its answer is not an error), and what it asks is `OpOk` -/
abbrev OutcomeAll (E : Prop) (s : IState) : Outcome → Prop :=
  OutAll (OpOk s) (fun r => r.ok = true ∨ E) (DoneAll E s)

/-- what `DoneAll.action` wants of an action handed out in `s'`; `PaidTOpt`: of the EXTCALL family, where `none` lets the
frame continue -/
abbrev PaidT (s0 : IState) : Action → IState → Prop :=
  fun a s' => s'.gas.remaining + a.gasLimit + 1 ≤ s0.gas.remaining ∧ DelegTgt s0 a ∧ ActStatic s0 a
abbrev PaidTOpt (s0 : IState) : Option Action → IState → Prop := fun a s' => ∀ x, a = some x → PaidT s0 x s'

section
variable {fl : Bool} {s0 s : IState}

theorem toDone_all {e : Exec Unit} (h : KeepAll E true s0 T e) : DoneAll E s0 e.toDone := by
  cases h with
  | ok h _ => exact .next h
  | halt h hr ho => exact .halt h hr (.of ho)
  | fault => exact .fault

theorem toDoneAction_all {e : Exec Action} (h : KeepAll E fl s0 (PaidT s0) e) : DoneAll E s0 e.toDoneAction := by
  cases h with
  | ok h hq => exact .action h hq.1 hq.2.1 hq.2.2
  | halt h hr ho => exact .halt h hr (.of ho)
  | fault => exact .fault

theorem toDoneOptAction_all {e : Exec (Option Action)} (h : KeepAll E true s0 (PaidTOpt s0) e) :
    DoneAll E s0 e.toDoneOptAction := by
  cases h with
  | @ok a s' h hq =>
    cases a with
    | none => exact .next h
    | some x => exact .action h (hq x rfl).1 (hq x rfl).2.1 (hq x rfl).2.2
  | halt h hr ho => exact .halt h hr (.of ho)
  | fault => exact .fault

/-- a prologue that is `KaP` and ends in `pure (op, x)` with an `OpOk` question: what `hostCall_all` and its like want of
a prologue whose values they need not know (`host_all` with `Qb := fun _ => True`, hence the `∧ True`) -/
def KaQ (E : Prop) (s0 : IState) (b : Bool) {β : Type} (m : M (HostOp × β)) : Prop :=
  ∀ fl s, KeptAll fl s0 s → KeepAll E (b || fl) s0 (fun p _ => OpOk s0 p.1 ∧ True) (m s)

theorem KaQ.bindT {α β} {m : M α} {f : α → M (HostOp × β)} {s0 : IState} (h1 : KaP E s0 true m)
    (h2 : ∀ a, KaQ E s0 false (f a)) : KaQ E s0 true (m >>= f) :=
  fun _ _ h => ka_bind (h1.run1 h) fun a _ h' _ => h2 a true _ h'
theorem KaQ.bindF {α β} {b : Bool} {m : M α} {f : α → M (HostOp × β)} {s0 : IState} (h1 : KaP E s0 false m)
    (h2 : ∀ a, KaQ E s0 b (f a)) : KaQ E s0 b (m >>= f) :=
  fun fl _ h => ka_bind (h1.run h) fun a s' h' _ => h2 a fl s' h'
theorem KaQ.pure {β} {op : HostOp} {x : β} {s0 : IState} (h : quiet op = true) :
    KaQ E s0 false (Pure.pure (op, x)) :=
  fun _ _ hk => ka_pure hk ⟨.quiet h, trivial⟩
theorem KaQ.start {β} {pre : M (HostOp × β)} {b : Bool} {s0 : IState} (h : KaQ E s0 b pre) :
    KeepAll E b s0 (fun p _ => OpOk s0 p.1 ∧ True) (pre s0) := by
  have hk := h false s0 (.refl s0)
  rwa [Bool.or_false] at hk

/-- `hostCall`, `hostCallAction` and `hostCallOptAction` differ in the last step `fin` only. `Qb`: what the prologue
establishes of the values it hands to the epilogue -/
theorem host_all {α β} {pre : M (HostOp × β)} {post : β → HostResp → M α} (fin : Exec α → Done) {fl' : Bool}
    {Q : α → IState → Prop} (hfin : ∀ e, KeepAll E fl' s0 Q e → DoneAll E s0 (fin e)) (b : Bool) (Qb : β → Prop)
    (hpre : KeepAll E b s0 (fun p _ => OpOk s0 p.1 ∧ Qb p.2) (pre s0))
    (hpost : ∀ x (r : HostResp) s', r.ok = true ∨ E → KeptAll b s0 s' → Qb x → KeepAll E fl' s0 Q (post x r s')) :
    OutcomeAll E s0 (match pre s0 with
      | .ok (op, x) s' => .host op (fun r => fin (post x r s'))
      | .halt r o s' => .halt r o s'
      | .fault f => .fault f) := by
  generalize pre s0 = e at hpre
  cases hpre with
  | @ok p s' hk hq => obtain ⟨op, x⟩ := p; exact .host hq.1 (fun r hr => hfin _ (hpost x r s' hr hk hq.2))
  | halt hk hr ho => exact .pure (.halt hk hr (.of ho))
  | fault => exact .pure .fault

theorem hostCall_all {β} {pre : M (HostOp × β)} {post : β → HostResp → M Unit} (b : Bool)
    (hpre : KeepAll E b s0 (fun p _ => OpOk s0 p.1 ∧ True) (pre s0))
    (hpost : ∀ x (r : HostResp) s', r.ok = true ∨ E → KeptAll b s0 s' → KeepAll E true s0 T (post x r s')) :
    OutcomeAll E s0 (hostCall pre post s0) :=
  host_all Exec.toDone (fun _ => toDone_all) b (fun _ => True) hpre fun x r s' hr h _ => hpost x r s' hr h

theorem hostCallAction_all {β} {pre : M (HostOp × β)} {post : β → HostResp → M Action} (b : Bool) {fl' : Bool}
    (Qb : β → Prop) (hpre : KeepAll E b s0 (fun p _ => OpOk s0 p.1 ∧ Qb p.2) (pre s0))
    (hpost : ∀ x (r : HostResp) s', r.ok = true ∨ E → KeptAll b s0 s' → Qb x →
      KeepAll E fl' s0 (PaidT s0) (post x r s')) :
    OutcomeAll E s0 (hostCallAction pre post s0) :=
  host_all Exec.toDoneAction (fun _ => toDoneAction_all) b Qb hpre hpost

theorem hostCallOptAction_all {β} {pre : M (HostOp × β)} {post : β → HostResp → M (Option Action)} (b : Bool)
    (Qb : β → Prop) (hpre : KeepAll E b s0 (fun p _ => OpOk s0 p.1 ∧ Qb p.2) (pre s0))
    (hpost : ∀ x (r : HostResp) s', r.ok = true ∨ E → KeptAll b s0 s' → Qb x →
      KeepAll E true s0 (PaidTOpt s0) (post x r s')) :
    OutcomeAll E s0 (hostCallOptAction pre post s0) :=
  host_all Exec.toDoneOptAction (fun _ => toDoneOptAction_all) b Qb hpre hpost

/-- the answer is looked at first (`let Some(x) = host.f(..) else`). `b`: the prologue charges at least 1, `b'`: the
epilogue does; one of them has to, for the frame continues -/
theorem hostCallSome_all {β} {pre : M (HostOp × β)} {post : β → HostResp → Unit → M Unit} (b b' : Bool)
    (hb : (b' || b) = true) (hpre : KeepAll E b s0 (fun p _ => OpOk s0 p.1 ∧ True) (pre s0))
    (hpost : ∀ x r u, KaP E s0 b' (post x r u)) :
    OutcomeAll E s0 (hostCall pre (fun x r => requireSome r >>= post x r) s0) :=
  hostCall_all b hpre fun x r s' hr h => by
    have := KaO.bindF (KaO.requireSome r hr) (hpost x r) b s' h
    rwa [hb] at this

/-- CALL's and EXTCALL's check: a static frame passes it only with value 0 -/
theorem value_zero {x : IState} {value : Nat} (hx : x.isStatic = true) (hc : ¬(x.isStatic = true ∧ value ≠ 0)) :
    value = 0 := by
  apply Classical.byContradiction
  intro hv
  exact hc ⟨hx, hv⟩

theorem keccak256I_all (s : IState) : OutcomeAll E s (keccak256I s) := by
  unfold keccak256I
  have hk := (KaO.keccakPre (E := E) (O := OutBnd s)).run1 (KeptAll.refl s)
  generalize keccakPre s = e at hk
  cases hk with
  | @ok d s' hk' _ =>
    cases d with
    | none => exact .pure (toDone_all ((KaO.setTop _).run hk'))
    | some data => exact .host (.quiet rfl) (fun r _ => toDone_all ((KaO.setTop _).run hk'))
  | halt hk' hr ho => exact .pure (.halt hk' hr (.of ho))
  | fault => exact .pure .fault

theorem ite_pos {c : Prop} [Decidable c] {a b : Nat} (ha : 1 ≤ a) (hb : 1 ≤ b) : 1 ≤ if c then a else b := by
  split
  · exact ha
  · exact hb

theorem balanceI_all (s : IState) : OutcomeAll E s (balanceI s) :=
  hostCallSome_all false true rfl
    (KaQ.bindF KaO.popAddress fun _ => .pure rfl).start fun _ _ _ =>
    KaO.bindF KaO.getS fun _ => KaO.bindT (KaO.gasCharge1 _ (ite_pos (warmColdCost_pos _) (ite_pos (by decide) (ite_pos (by decide) (by decide))))) fun _ => KaO.push _

theorem selfbalanceI_all (s : IState) : OutcomeAll E s (selfbalanceI s) :=
  hostCallSome_all true false rfl (KaQ.bindF (KaO.check _) fun _ =>
    .bindT (KaO.gasCharge1 _ (by decide)) fun _ => .bindF KaO.getS fun _ => .pure rfl).start
    fun _ _ _ => KaO.push _

theorem extcodesizeI_all (s : IState) : OutcomeAll E s (extcodesizeI s) :=
  hostCallSome_all false true rfl
    (KaQ.bindF KaO.popAddress fun _ => .pure rfl).start fun _ _ _ =>
    KaO.bindF KaO.getS fun _ => KaO.bindT (KaO.gasCharge1 _ (ite_pos (warmColdCost_pos _) (ite_pos (by decide) (by decide)))) fun _ => KaO.push _

theorem extcodehashI_all (s : IState) : OutcomeAll E s (extcodehashI s) :=
  hostCallSome_all false true rfl (KaQ.bindF (KaO.check _) fun _ => .bindF KaO.popAddress fun _ => .pure rfl).start fun _ _ _ =>
    KaO.bindF KaO.getS fun _ => KaO.bindT (KaO.gasCharge1 _ (ite_pos (warmColdCost_pos _) (ite_pos (by decide) (by decide)))) fun _ => KaO.push _

theorem extcodecopyI_all (s : IState) : OutcomeAll E s (extcodecopyI s) :=
  hostCall_all false (KaQ.bindF KaO.popAddress fun _ => .bindF KaO.pop3 fun _ => .pure rfl).start
    fun _ r _ hr h => KaO.run1 (KaO.bindF (KaO.requireSome r hr) fun _ =>
      KaO.bindF (KaO.asUsizeOrFail _ _ (by decide)) fun _ => KaO.bindF KaO.getS fun _ =>
        KaO.bindT (KaO.gasOrFail1 _ (extcodecopyCost_pos _ _ _)) fun _ => KaO.ite (KaO.pure _)
          (KaO.bindF (KaO.asUsizeOrFail _ _ (by decide)) fun _ => KaO.bindF (KaO.resizeMem _ _) fun _ =>
            KaO.memSetData _ _ _ _)) h

theorem blockhashI_all (s : IState) : OutcomeAll E s (blockhashI s) :=
  hostCallSome_all true false rfl (KaQ.bindT (KaO.gasCharge1 _ (by decide)) fun _ =>
    .bindF KaO.popTop1 fun _ => .pure rfl).start fun _ _ _ => KaO.setTop _

theorem sloadI_all (s : IState) : OutcomeAll E s (sloadI s) :=
  hostCallSome_all false true rfl
    (ka_bind (KaO.popTop1.run (.refl s)) fun _ _ h1 _ => ka_bind (ka_getS h1) fun _ _ h2 hx => by
      obtain ⟨rfl, rfl⟩ := hx
      exact ka_pure h2 ⟨⟨h1.tgt, fun _ => rfl⟩, trivial⟩) fun _ _ _ =>
    KaO.bindF KaO.getS fun _ => KaO.bindT (KaO.gasCharge1 _ (sloadCost_pos _ _)) fun _ =>
      KaO.setTop _

theorem sstoreI_all (s : IState) : OutcomeAll E s (sstoreI s) :=
  hostCallSome_all false true rfl
    (ka_bind (ka_requireNonStatic (.refl s)) fun _ _ h0 hns => ka_bind (KaO.pop2.run h0) fun ⟨_, _⟩ _ h1 _ =>
      ka_bind (ka_getS h1) fun _ _ h2 hx => by
        obtain ⟨rfl, rfl⟩ := hx
        exact ka_pure h2 ⟨.own h1.tgt hns, trivial⟩) fun _ _ _ =>
    KaO.bindF KaO.getS fun _ => KaO.bindT (KaO.gasOrFail1 _ (sstoreCost_pos _ _ _ _ _ _)) fun _ =>
      KaO.refund _

theorem tstoreI_all (s : IState) : OutcomeAll E s (tstoreI s) :=
  hostCall_all true
    (ka_bind ((KaO.check _).run (.refl s)) fun _ _ h0 _ => ka_bind (ka_requireNonStatic h0) fun _ _ h1 hns =>
      ka_bind (ka_gasCharge1 h1 _ (by decide)) fun _ _ h2 _ => ka_bind (KaO.pop2.run h2) fun ⟨_, _⟩ _ h3 _ =>
        ka_bind (KaO.getS.run h3) fun _ _ h4 _ => ka_pure h4 ⟨.own trivial hns, trivial⟩)
    fun _ _ _ _ h => KaO.run (KaO.pure _) h

theorem tloadI_all (s : IState) : OutcomeAll E s (tloadI s) :=
  hostCall_all true (KaQ.bindF (KaO.check _) fun _ =>
    .bindT (KaO.gasCharge1 _ (by decide)) fun _ => .bindF KaO.popTop1 fun _ =>
      .bindF KaO.getS fun _ => .pure rfl).start
    fun _ _ _ _ h => KaO.run (KaO.setTop _) h

theorem logI_all (n : Nat) (s : IState) : OutcomeAll E s (logI n s) :=
  hostCall_all true
    (ka_bind (ka_requireNonStatic (.refl s)) fun _ _ h0 hns => ka_bind (KaO.pop2.run h0) fun ⟨_, _⟩ _ h1 _ =>
      ka_bind ((KaO.asUsizeOrFail _ _ (by decide)).run h1) fun _ _ h2 _ =>
      ka_bind ((KaO.gasOrFail1 _ (logCost_pos _ _)).run1 h2) fun _ _ h3 _ =>
      ka_bind ((KaO.ite (KaO.pure _) (KaO.bindF (KaO.asUsizeOrFail _ _ (by decide)) fun _ =>
        KaO.bindF (KaO.resizeMem _ _) fun _ => KaO.memSlice _ _)).run h3) fun _ _ h4 _ =>
      ka_bind ((KaO.popN _).run h4) fun _ _ h5 _ => ka_bind (KaO.getS.run h5) fun _ _ h6 _ =>
        ka_pure h6 ⟨.own trivial hns, trivial⟩)
    fun _ _ _ _ h => KaO.run (KaO.pure _) h

/-- SELFDESTRUCT may cost nothing (before Tangerine); it never lets the frame continue -/
theorem selfdestructI_all (s : IState) : OutcomeAll E s (selfdestructI s) :=
  hostCallSome_all false true rfl
    (ka_bind (ka_requireNonStatic (.refl s)) fun _ _ h0 hns => ka_bind (KaO.popAddress.run h0) fun _ _ h1 _ =>
      ka_bind (ka_getS h1) fun _ _ h2 hx => by
        obtain ⟨rfl, rfl⟩ := hx
        exact ka_pure h2 ⟨.own h1.tgt hns, trivial⟩) fun _ _ _ =>
    have rest : ∀ c, KaP E s true (gasCharge c >>= fun _ => haltWith .SelfDestruct) := fun _ =>
      KaO.bindF (KaO.gasCharge _) fun _ => KaO.haltWith true .SelfDestruct (by decide)
    KaO.bindF KaO.getS fun _ => KaO.ite (KaO.bindF (KaO.refund _) fun _ => rest _) (rest _)

theorem ka_calcCallGas (h : KeptAll fl s0 s) (r : HostResp) (ie ht : Bool) (l : Nat) :
    KeepAll E true s0 (fun _ s' => s'.gas.remaining + 1 ≤ s.gas.remaining ∧
        (ht = true → s'.gas.remaining + GasCalc.CALL_STIPEND + 1 ≤ s.gas.remaining))
      (calcCallGas r ie ht l s) := by
  unfold calcCallGas
  refine ka_bind (ka_getS h) (fun x s1 h1 hx => ?_)
  obtain ⟨rfl, rfl⟩ := hx
  refine ka_bind (ka_gasCharge1 h1 _ (callCost_pos _ _ _ _ _)) (fun _ s2 h2 hq => ?_)
  refine ka_bind (ka_getS h2) (fun y s3 h3 hy => ?_)
  obtain ⟨rfl, rfl⟩ := hy
  refine ka_pure h3 ⟨?_, fun hht => ?_⟩
  · have := callCost_pos s1.spec ht r.isCold r.delegCold ie
    omega
  · subst hht
    have := callCost_transfer1 s1.spec r.isCold r.delegCold ie
    omega

/-- the common tail of CALL, CALLCODE, DELEGATECALL and STATICCALL; `stip`: the child gets the stipend on top, which
the value-transfer surcharge of `calc_call_gas` has covered -/
theorem ka_callPost (h : KeptAll fl s0 s) (r : HostResp) (hok : r.ok = true ∨ E) (ie : Bool) (l : Nat) (stip : Bool)
    (mk : Nat → IState → CallInputs)
    (hmk : ∀ g x, (mk g x).gasLimit = if stip = true then U64ops.saturatingAdd g GasCalc.CALL_STIPEND else g)
    (hmt : ∀ g x, (mk g x).valueTransfer = false → (mk g x).targetAddress = x.target)
    (hms : s0.isStatic = true → ∀ g x, x.isStatic = true → StaticCall (mk g x)) :
    KeepAll E true s0 (PaidT s0) ((do
      requireSome r
      let gasLimit ← calcCallGas r ie stip l
      gasCharge gasLimit
      let s ← getS
      pure (.call (mk gasLimit s)) : M Action) s) := by
  refine ka_bind (ka_requireSome h r hok) (fun _ s1 h1 _ => ?_)
  refine ka_bind (ka_calcCallGas h1 r ie stip l) (fun gl s2 h2 hq => ?_)
  refine ka_bind (ka_gasCharge h2 gl) (fun _ s3 h3 hq3 => ?_)
  refine ka_bind (ka_getS h3) (fun y s4 h4 hy => ?_)
  obtain ⟨rfl, rfl⟩ := hy
  refine ka_pure h4 ⟨?_, fun i hi hv => ?_, fun hs => hms hs gl s4 (h4.st.trans hs)⟩
  · show s4.gas.remaining + (mk gl s4).gasLimit + 1 ≤ s0.gas.remaining
    rw [hmk]
    have := h1.rem
    cases stip with
    | true =>
      rw [if_pos rfl]
      have := hq.2 rfl
      have := U64ops.satAdd_le gl GasCalc.CALL_STIPEND
      omega
    | false =>
      rw [if_neg Bool.false_ne_true]
      have := hq.1
      omega
  · cases hi
    exact (hmt gl s4 hv).trans h4.tgt

theorem callI_all (s : IState) : OutcomeAll E s (callI s) := by
  unfold callI
  refine hostCallAction_all (fl' := true) false (fun b => s.isStatic = true → b.2.2.1 = 0) ?_ (fun x r s' hr h hq => ?_)
  · refine ka_bind (KaO.pop1.run (.refl s)) fun _ _ h1 _ => ka_bind (KaO.popAddress.run h1) fun _ _ h2 _ =>
      ka_bind (KaO.pop1.run h2) fun value _ h3 _ => ka_bind (ka_getS h3) fun x _ h4 hx => ?_
    obtain ⟨rfl, rfl⟩ := hx
    split
    · exact ka_haltWith h4 _ (by decide)
    · rename_i hc
      exact ka_bind (KaO.getMemoryInputAndOutRanges.run h4) fun ⟨_, _, _⟩ _ h5 _ =>
        ka_pure h5 ⟨.quiet rfl, fun hs => value_zero (h3.st.trans hs) hc⟩
  obtain ⟨lgl, to, value, input, rs, re⟩ := x
  exact ka_callPost h r hr _ _ (decide (value ≠ 0)) (fun gl x =>
    { input := input, retStart := rs, retEnd := re,
      gasLimit := if value ≠ 0 then U64ops.saturatingAdd gl GasCalc.CALL_STIPEND else gl, bytecodeAddress := to,
      targetAddress := to, caller := x.target, valueTransfer := true, value := value,
      scheme := .call, isStatic := x.isStatic, isEof := false })
    (fun _ _ => by simp only [decide_eq_true_eq]) (fun _ _ hv => nomatch hv)
    (fun hs _ x hx => ⟨hx, fun _ => .inl (hq hs)⟩)

theorem callcodeI_all (s : IState) : OutcomeAll E s (callcodeI s) := by
  unfold callcodeI
  refine hostCallAction_all (fl' := true) false (fun _ => True) (KaQ.bindF KaO.pop1 fun _ =>
    .bindF KaO.popAddress fun _ => .bindF KaO.pop1 fun _ =>
      .bindF KaO.getMemoryInputAndOutRanges fun _ => .pure rfl).start (fun x r s' hr h _ => ?_)
  obtain ⟨lgl, to, value, input, rs, re⟩ := x
  exact ka_callPost h r hr _ _ (decide (value ≠ 0)) (fun gl x =>
    { input := input, retStart := rs, retEnd := re,
      gasLimit := if value ≠ 0 then U64ops.saturatingAdd gl GasCalc.CALL_STIPEND else gl, bytecodeAddress := to,
      targetAddress := x.target, caller := x.target, valueTransfer := true, value := value,
      scheme := .callCode, isStatic := x.isStatic, isEof := false })
    (fun _ _ => by simp only [decide_eq_true_eq]) (fun _ _ hv => nomatch hv) (fun _ _ _ hx => ⟨hx, fun _ => .inr rfl⟩)

theorem delegatecallI_all (s : IState) : OutcomeAll E s (delegatecallI s) := by
  unfold delegatecallI
  refine hostCallAction_all (fl' := true) false (fun _ => True) (KaQ.bindF (KaO.check _) fun _ =>
    .bindF KaO.pop1 fun _ => .bindF KaO.popAddress fun _ =>
      .bindF KaO.getMemoryInputAndOutRanges fun _ => .pure rfl).start (fun x r s' hr h _ => ?_)
  obtain ⟨lgl, to, input, rs, re⟩ := x
  exact ka_callPost h r hr _ _ false (fun gl x =>
    { input := input, retStart := rs, retEnd := re, gasLimit := gl, bytecodeAddress := to,
      targetAddress := x.target, caller := x.caller, valueTransfer := false, value := x.callValue,
      scheme := .delegateCall, isStatic := x.isStatic, isEof := false })
    (fun _ _ => rfl) (fun _ _ _ => rfl) (fun _ _ _ hx => ⟨hx, fun hv => nomatch hv⟩)

theorem staticcallI_all (s : IState) : OutcomeAll E s (staticcallI s) := by
  unfold staticcallI
  refine hostCallAction_all (fl' := true) false (fun _ => True) (KaQ.bindF (KaO.check _) fun _ =>
    .bindF KaO.pop1 fun _ => .bindF KaO.popAddress fun _ =>
      .bindF KaO.getMemoryInputAndOutRanges fun _ => .pure rfl).start (fun x r s' hr h _ => ?_)
  obtain ⟨lgl, to, input, rs, re⟩ := x
  exact ka_callPost h r hr _ _ false (fun gl x =>
    { input := input, retStart := rs, retEnd := re, gasLimit := gl, bytecodeAddress := to,
      targetAddress := to, caller := x.target, valueTransfer := true, value := 0,
      scheme := .staticCall, isStatic := true, isEof := false })
    (fun _ _ => rfl) (fun _ _ hv => nomatch hv) (fun _ _ _ _ => ⟨rfl, fun _ => .inl rfl⟩)

theorem createI_all (c2 : Bool) (s : IState) : OutcomeAll E s (.pure (createI c2 s).toDoneAction) := by
  refine .pure (toDoneAction_all (fl := true) ?_)
  unfold createI
  have h := KeptAll.refl s
  refine ka_bind (ka_requireNonStatic h) (fun _ _ h hns => ?_)
  refine ka_bind ((KaO.checkWhen _ _).run h) (fun _ _ h _ => ?_)
  refine ka_bind (KaO.pop3.run h) (fun p _ h _ => ?_)
  obtain ⟨value, codeOffset, len⟩ := p
  refine ka_bind ((KaO.asUsizeOrFail _ _ (by decide)).run h) (fun len' _ h _ => ?_)
  refine ka_bind ((KaO.createCode _ _).run h) (fun code _ h _ => ?_)
  refine ka_bind ((KaO.createScheme _ _).run1 h) (fun salt s1 h1 _ => ?_)
  refine ka_bind (ka_getS h1) (fun x s2 h2 hx => ?_)
  obtain ⟨rfl, rfl⟩ := hx
  refine ka_bind (ka_gasCharge h2 _) (fun _ s3 h3 hq3 => ?_)
  refine ka_bind (ka_getS h3) (fun y s4 h4 hy => ?_)
  obtain ⟨rfl, rfl⟩ := hy
  exact ka_pure h4 ⟨Nat.le_trans (Nat.succ_le_succ hq3) (h2.strict rfl), (fun i hi => nomatch hi), hns⟩

theorem eofcreateI_all (s : IState) : OutcomeAll E s (eofcreateI s) := by
  unfold eofcreateI
  refine hostCallAction_all (fl' := true) true (fun _ => s.isStatic = false) ?_ (fun x r s' _ h hns => ?_)
  · unfold eofcreatePre
    refine ka_bind (KaO.requireEof.run (.refl s)) fun _ _ h0 _ => ka_bind (ka_requireNonStatic h0) fun _ _ h1 hns =>
      ka_bind (ka_gasCharge1 h1 _ (by decide)) fun _ _ h2 _ => ka_bind ((KaO.codeByte _).run h2) fun idx _ h3 _ =>
        ka_bind (KaO.pop4.run h3) fun ⟨_, _, _, _⟩ _ h4 _ => ka_bind (KaO.getEof.run h4) fun c _ h5 _ => ?_
    cases c.containers[idx]? with
    | none => exact .fault
    | some sub =>
      refine ka_bind ((KaO.resizeMemRange _ _).run h5) fun ⟨_, _⟩ _ h6 _ =>
        ka_bind ((KaO.ite (KaO.memSliceRange _ _) (KaO.pure _)).run h6) fun _ _ h7 _ => ?_
      split
      · exact .fault
      · exact ka_bind ((KaO.gasOrFail _).run h7) fun _ _ h8 _ => ka_bind (KaO.getS.run h8) fun _ _ h9 _ =>
          ka_pure h9 ⟨.quiet rfl, hns⟩
  obtain ⟨value, sub, input⟩ := x
  refine ka_bind (ka_getS h) (fun x s1 h1 hx => ?_)
  obtain ⟨rfl, rfl⟩ := hx
  generalize Gas.remaining63of64 s1.gas = gl
  refine ka_bind (ka_gasCharge h1 _) (fun _ s2 h2 hq2 => ?_)
  refine ka_bind (ka_advancePc_gas h2 1) (fun _ s3 h3 hg3 => ?_)
  have hfin : s3.gas.remaining + gl + 1 ≤ s.gas.remaining := by
    rw [hg3]; have := h1.strict rfl; omega
  -- stated for a variable `i`: the record of the action is large, and `gasLimit` need not be computed on it
  have hp : ∀ i : EofCreateInputs, i.gasLimit = gl → PaidT s (Action.eofCreate i) s3 := by
    intro i hi
    refine ⟨?_, (fun j hj => nomatch hj), hns⟩
    show s3.gas.remaining + i.gasLimit + 1 ≤ s.gas.remaining
    rw [hi]; exact hfin
  exact ka_pure h3 (hp _ rfl)

theorem ka_extcallGasCalc (h : KeptAll fl s0 s) (r : HostResp) (hok : r.ok = true ∨ E) (tv : Bool) :
    KeepAll E true s0 (fun g s' => s'.gas.remaining + 1 ≤ s.gas.remaining ∧
      ∀ gl, g = some gl → s'.gas.remaining + gl + 1 ≤ s.gas.remaining) (extcallGasCalc r tv s) := by
  refine ka_rebase h ?_
  have h := KeptAll.refl s
  unfold extcallGasCalc
  refine ka_bind (ka_requireSome h r hok) (fun _ s1 h1 _ => ?_)
  refine ka_bind (ka_gasCharge1 h1 _ (callCost_pos _ _ _ _ _)) (fun _ s2 h2 hq2 => ?_)
  refine ka_bind (ka_getS h2) (fun x s3 h3 hx => ?_)
  obtain ⟨rfl, rfl⟩ := hx
  have hle : s3.gas.remaining + 1 ≤ s.gas.remaining := h3.strict rfl
  by_cases hc : U64ops.saturatingSub s3.gas.remaining (max (s3.gas.remaining / 64) 5000) < GasCalc.MIN_CALLEE_GAS
  · rw [if_pos hc]
    refine ka_bind (ka_modifyS_gas h3 _ rfl rfl ⟨rfl, rfl, rfl⟩ rfl) (fun _ s4 h4 hg4 => ?_)
    exact ka_pure h4 ⟨by rw [hg4]; exact hle, fun gl hg => nomatch hg⟩
  · rw [if_neg hc]
    refine ka_bind (ka_gasCharge h3 _) (fun _ s4 h4 hq4 => ?_)
    refine ka_pure h4 ⟨h4.strict rfl, fun gl hg => ?_⟩
    cases hg
    omega

theorem ka_extPost (h : KeptAll fl s0 s) (r : HostResp) (hok : r.ok = true ∨ E) (tv : Bool)
    (mk : Nat → IState → CallInputs) (hmk : ∀ g x, (mk g x).gasLimit = g)
    (hmt : ∀ g x, (mk g x).valueTransfer = false → (mk g x).targetAddress = x.target)
    (hms : s0.isStatic = true → ∀ g x, x.isStatic = true → StaticCall (mk g x)) :
    KeepAll E true s0 (PaidTOpt s0) ((do
      let g ← extcallGasCalc r tv
      match g with
      | none => pure none
      | some gasLimit => do
        let s ← getS
        pure (some (Action.call (mk gasLimit s))) : M (Option Action)) s) := by
  refine ka_bind (ka_extcallGasCalc h r hok tv) (fun g s1 h1 hq => ?_)
  cases g with
  | none => exact ka_pure h1 (fun x hx => nomatch hx)
  | some gl =>
    dsimp only
    refine ka_bind (ka_getS h1) (fun y s2 h2 hy => ?_)
    obtain ⟨rfl, rfl⟩ := hy
    refine ka_pure h2 (fun x hx => ?_)
    cases hx
    refine ⟨?_, fun i hi hv => ?_, fun hs => hms hs gl s2 (h2.st.trans hs)⟩
    · show s2.gas.remaining + (mk gl s2).gasLimit + 1 ≤ s0.gas.remaining
      rw [hmk]
      have := hq.2 gl rfl
      have := h.rem
      omega
    · cases hi
      exact (hmt gl s2 hv).trans h2.tgt

theorem extcallI_all (s : IState) : OutcomeAll E s (extcallI s) := by
  unfold extcallI
  refine hostCallOptAction_all false (fun b => s.isStatic = true → b.2.2 = 0) ?_ (fun x r s' hr h hq => ?_)
  · refine ka_bind (KaO.requireEof.run (.refl s)) fun _ _ h0 _ =>
      ka_bind (KaO.popExtcallTarget.run h0) fun _ _ h1 _ => ka_bind (KaO.extcallInput.run h1) fun _ _ h2 _ =>
        ka_bind (KaO.pop1.run h2) fun value _ h3 _ => ka_bind (ka_getS h3) fun x _ h4 hx => ?_
    obtain ⟨rfl, rfl⟩ := hx
    split
    · exact ka_haltWith h4 _ (by decide)
    · rename_i hc
      exact ka_pure h4 ⟨.quiet rfl, fun hs => value_zero (h3.st.trans hs) hc⟩
  obtain ⟨target, input, value⟩ := x
  exact ka_extPost h r hr _ (fun gl x =>
    { input := input, retStart := 0, retEnd := 0, gasLimit := gl, bytecodeAddress := target,
      targetAddress := target, caller := x.target, valueTransfer := true, value := value,
      scheme := .extCall, isStatic := x.isStatic, isEof := true }) (fun _ _ => rfl) (fun _ _ hv => nomatch hv)
    (fun hs _ x hx => ⟨hx, fun _ => .inl (hq hs)⟩)

theorem extdelegatecallI_all (s : IState) : OutcomeAll E s (extdelegatecallI s) := by
  unfold extdelegatecallI
  refine hostCallOptAction_all false (fun _ => True) (KaQ.bindF KaO.requireEof fun _ =>
    .bindF KaO.popExtcallTarget fun _ => .bindF KaO.extcallInput fun _ => .pure rfl).start
    (fun x r s' hr h _ => ?_)
  obtain ⟨target, input⟩ := x
  exact ka_extPost h r hr _ (fun gl x =>
    { input := input, retStart := 0, retEnd := 0, gasLimit := gl, bytecodeAddress := target,
      targetAddress := x.target, caller := x.caller, valueTransfer := false, value := x.callValue,
      scheme := .extDelegateCall, isStatic := x.isStatic, isEof := true }) (fun _ _ => rfl) (fun _ _ _ => rfl)
    (fun _ _ _ hx => ⟨hx, fun hv => nomatch hv⟩)

theorem extstaticcallI_all (s : IState) : OutcomeAll E s (extstaticcallI s) := by
  unfold extstaticcallI
  refine hostCallOptAction_all false (fun _ => True) (KaQ.bindF KaO.requireEof fun _ =>
    .bindF KaO.popExtcallTarget fun _ => .bindF KaO.extcallInput fun _ => .pure rfl).start
    (fun x r s' hr h _ => ?_)
  obtain ⟨target, input⟩ := x
  exact ka_extPost h r hr _ (fun gl x =>
    { input := input, retStart := 0, retEnd := 0, gasLimit := gl, bytecodeAddress := target,
      targetAddress := target, caller := x.target, valueTransfer := true, value := 0,
      scheme := .extStaticCall, isStatic := true, isEof := true }) (fun _ _ => rfl) (fun _ _ hv => nomatch hv)
    (fun _ _ _ _ => ⟨rfl, fun _ => .inl rfl⟩)

theorem DoneAll.rebase {s0 s1 : IState} (h : KeptAll false s0 s1) (hg : s1.gas.remaining = s0.gas.remaining)
    {d : Done} (hd : DoneAll E s1 d) : DoneAll E s0 d := by
  cases hd with
  | next h' => exact .next (h.rebase h')
  | halt h' hr ho => exact .halt (h.rebase h') hr (fun h0 => ho (h.init.trans h0))
  | fault => exact .fault
  | @action a _ _ h' hg' ht hs =>
    refine .action (h.rebase h') (by omega) (fun i hi hv => (ht i hi hv).trans h.tgt) ?_
    cases a with
    | call i => exact fun h0 => hs (h.st.trans h0)
    | create i => exact hs.symm.trans h.st |>.symm
    | eofCreate i => exact hs.symm.trans h.st |>.symm

theorem execInstr_all (i : Instr) (s : IState) : OutcomeAll E s (execInstr i s) :=
  execInstr_cases i s (fun m hp => .pure (toDone_all ((KaP.execPure i m hp).run1 (KeptAll.refl s))))
    (keccak256I_all s) (balanceI_all s) (selfbalanceI_all s) (extcodesizeI_all s) (extcodehashI_all s)
    (extcodecopyI_all s) (blockhashI_all s) (sloadI_all s) (sstoreI_all s) (tloadI_all s) (tstoreI_all s)
    (fun n => logI_all n s) (selfdestructI_all s) (fun c2 => createI_all c2 s) (callI_all s) (callcodeI_all s)
    (delegatecallI_all s) (staticcallI_all s) (eofcreateI_all s) (extcallI_all s) (extdelegatecallI_all s)
    (extstaticcallI_all s) (.pure .fault)

/-- one interpreter step of any frame, in any state: `DoneAll` of whatever it ends in, `OpOk` of what it asks. `E := True`:
whatever the host answers; `E := False`: as long as its answers are not errors, and then no halt is `FatalExternalError` -/
theorem step_all (s : IState) : OutcomeAll E s (step s) :=
  step_cases s (.pure .fault) fun i =>
    (execInstr_all i { s with pc := s.pc + 1 }).imp (fun _ h => h) (fun _ h => h)
      fun _ hd => DoneAll.rebase (s1 := { s with pc := s.pc + 1 }) ((KeptAll.refl s).upd rfl rfl rfl rfl rfl rfl) rfl hd

theorem step_addr (s : IState) {op k} (h : step s = .host op k) : OpT s.target op :=
  ((step_all (E := True) s).op h).1

end

/-! ## the re-entry of a child result -/

/-- every halt of `m` carries a classifiable result -/
def HG {α} (m : M α) : Prop := ∀ s r o s', m s = .halt r o s' → RGood r

theorem hg_insertBy (kind : Evm.FrameKind) (o : ChildResult) : HG (Evm.insertBy kind o) :=
  fun s _ _ _ h => ((insertBy_all kind o s).halt_inv h).1

end Revm.Proofs.EvmLink
