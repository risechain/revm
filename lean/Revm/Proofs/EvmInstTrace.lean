import Revm.Model.Evm
import Revm.Model.InspectorHooks
import Revm.Proofs.SelfdestructNotify
/-! The frame loop `Evm.runLoop` with a trace (C29 / C30 instance; namespace `EvmInstHooks`). `runLoopTr` / `transactTr`
repeat the control skeleton of `runLoop` / `runEnded` / `transactWith` and return, beside the same value (`runLoopTr_fst`,
`transactTr_fst` in `EvmInstTraceRun`), the loop events `LEv`, computed from the sub-functions the iteration itself calls
(`Interp.step`, `answer`, `makeFrame`). `scriptOf` makes of the events the script that drives `Model.InspectorHooks.runTx`. -/
namespace Revm.Proofs.EvmInstHooks
open Revm Revm.Model Revm.Model.Evm
open Revm.Model.InspectorHooks (Insn Spawn Turn Kind)
open Revm.Proofs.SelfdestructNotify (movedValue)

/-- what is known about an instruction from the state BEFORE it, independent of any journal-entry inspection -/
structure Truth where
  /-- a SELFDESTRUCT that completed: (executing contract, beneficiary popped from the stack, balance that moved) -/
  sd : Option (Nat × Nat × Nat) := none
  /-- a LOG0..4 that reached the host: the id of the log record it appends -/
  log : Option Nat := none
deriving DecidableEq, Repr

/-- an event of the loop. `insn x g`: an executed instruction of the top frame; `x` is what the inspector's wrappers see of
it (`insnOf`), `g` the ground truth (`truthOf`), used only to state C30 / the log theorem. `next n`: an `execute_frame`
returned, with a frame request or a return. -/
inductive LEv
  | insn (x : Insn) (g : Truth)
  | next (n : InspectorHooks.Next)
deriving DecidableEq, Repr

/-- the account of the executing contract `a` as `JournaledState::selfdestruct` reads it: after the beneficiary `t`
was loaded (for a contract that is in the journal, `Same` as the account there: `contractAcct_loaded`) -/
def contractAcct (w : World) (a t : Nat) : Option Journal.Acct :=
  match Journal.loadAccount w.db w.js t with
  | some (s1, _) => s1.state a
  | none => none

/-- the SELFDESTRUCT wrapper's post-check: only when the instruction ended with `SelfDestruct`, the newest
`AccountDestroyed` / `BalanceTransfer` among the entries appended to the innermost journal level since `prev_len`,
else `(contract, contract, 0)` (`SelfdestructNotify.wrapped`) -/
def sdNote (s : Interp.IState) (js js' : Journal.JState) (d : Interp.Done) : Option (Nat × Nat × Nat) :=
  match d with
  | .halt r _ _ =>
    if r = .SelfDestruct then
      some ((SelfdestructNotify.newEntryNote (SelfdestructNotify.lastLen js) js').getD (s.target, s.target, 0))
    else none
  | _ => none

/-- LOG0..LOG4 -/
def isLogOp (op : Nat) : Prop := 0xa0 ≤ op ∧ op ≤ 0xa4
instance (op : Nat) : Decidable (isLogOp op) := by unfold isLogOp; infer_instance

/-- the instruction as the inspector's wrappers see it; `s`, `js` before, `d`, `js'` after -/
def insnOf (s : Interp.IState) (js js' : Journal.JState) (d : Interp.Done) : Insn :=
  match s.code[s.pc]? with
  | none => .plain
  | some op =>
    if isLogOp op then .logOp js.logs.length js'.logs
    else if op = 0xff then .sdOp (sdNote s js js' d)
    else .plain

/-- a SELFDESTRUCT that ended with `SelfDestruct`: contract, popped beneficiary, and what leaves the contract
according to the account BEFORE the instruction (`movedValue`: the whole balance, except after Cancun for a
contract not created in this transaction that names itself: 0) -/
def sdTruth (s : Interp.IState) (w : World) (d : Interp.Done) : Option (Nat × Nat × Nat) :=
  match d with
  | .halt r _ _ =>
    if r = .SelfDestruct then
      match s.stack.getLast? with
      | some t0 =>
        match contractAcct w s.target (Interp.addrOfWord t0) with
        | some acc => some (s.target, Interp.addrOfWord t0, movedValue acc w.js.spec s.target (Interp.addrOfWord t0))
        | none => none
      | none => none
    else none
  | _ => none

/-- a LOG that ran to completion appended the record number `w.logs.length` -/
def logTruth (w : World) (d : Interp.Done) : Option Nat :=
  match d with
  | .next _ => some w.logs.length
  | _ => none

/-- the ground truth of one instruction; equal to what the wrappers read off the journal (`insn_consistent`) -/
def truthOf (s : Interp.IState) (w : World) (d : Interp.Done) : Truth :=
  match s.code[s.pc]? with
  | none => {}
  | some op =>
    if isLogOp op then { log := logTruth w d }
    else if op = 0xff then { sd := sdTruth s w d }
    else {}

/-- which of the inspector's `call` / `create` / `eofcreate` wrappers the frame request of an action goes through -/
def kindOfAct : Interp.Action → Kind
  | .call _ => .call
  | .create _ => .create
  | .eofCreate _ => .eofcreate

def kindOfFrame : FrameKind → Kind
  | .call _ _ => .call
  | .create _ => .create

/-- `execute_frame` returned `InterpreterAction::Return`. Outcomes are opaque tokens (`Nat`) in `Model.InspectorHooks`:
the trace writes `0` for each; `insp := none`: the inspector does not answer a request itself; `insertErr := false`: an
`Err` of a handler fails the concrete run, which then has no event; `i` is filled in by `group`. -/
def retEv : LEv := .next (.ret (some 0) false)

/-- the frame request of an action, answered by the previous handler with a frame or with a result -/
def actionEvs {κ : Type} (C : CpOps κ) (cfg : Cfg) (a : Interp.Action) (mem : Memory.SharedMemory) (w : World) :
    List LEv :=
  match makeFrame C cfg w a mem with
  | .ok (.frame _, _) => [.next (.spawn ⟨kindOfAct a, 0, none, .frame⟩ false)]
  | .ok (.result _, _) => [.next (.spawn ⟨kindOfAct a, 0, none, .result 0⟩ false)]
  | .error _ => []

def doneEvs {κ : Type} (C : CpOps κ) (cfg : Cfg) (d : Interp.Done) (w : World) : List LEv :=
  match d with
  | .next _ => []
  | .action a s => actionEvs C cfg a s.mem w
  | .halt _ _ _ => [retEv]
  | .fault _ => []

/-- the events of one resolved instruction of frame `top`: world `w` before, `d` in world `w'` after -/
def stepEvs {κ : Type} (C : CpOps κ) (cfg : Cfg) (top : Frame κ) (w : World) (d : Interp.Done) (w' : World) :
    List LEv :=
  .insn (insnOf top.interp w.js w'.js d) (truthOf top.interp w d) :: doneEvs C cfg d w'

def iterEvs {κ : Type} (C : CpOps κ) (cfg : Cfg) (stack : List (Frame κ)) (w : World) : List LEv :=
  match stack with
  | [] => []
  | top :: _ =>
    match Interp.step top.interp with
    | .pure d => stepEvs C cfg top w d w
    | .host op k =>
      match answer cfg.he w op with
      | .ok (resp, w') => stepEvs C cfg top w (k resp) w'
      | .error _ => []

mutual
/-- a frame that ended without an instruction gives a `ret` after no instruction -/
def runEndedTr {κ : Type} (C : CpOps κ) (cfg : Cfg) : Nat → Frame κ → List (Frame κ) → Interp.IResult → List Nat →
    Interp.IState → World → R (Interp.ChildResult × World) × List LEv
  | 0, _, _, _, _, _, _ => (throw .outOfFuel, [])
  | fuel + 1, top, rest, r, out, s, w =>
    match frameEnd C cfg top rest r out s w with
    | .error e => (.error e, [retEv])
    | .ok (.run stack' w') =>
      let p := runLoopTr C cfg fuel stack' w'
      (p.1, retEv :: p.2)
    | .ok (.ended top' rest' r' out' s' w') =>
      let p := runEndedTr C cfg fuel top' rest' r' out' s' w'
      (p.1, retEv :: p.2)
    | .ok (.done r w') => (pure (r, w'), [retEv])

def runLoopTr {κ : Type} (C : CpOps κ) (cfg : Cfg) : Nat → List (Frame κ) → World →
    R (Interp.ChildResult × World) × List LEv
  | 0, _, _ => (throw .outOfFuel, [])
  | fuel + 1, stack, w =>
    match iterate C cfg stack w with
    | .error e => (.error e, iterEvs C cfg stack w)
    | .ok (.run stack' w') =>
      let p := runLoopTr C cfg fuel stack' w'
      (p.1, iterEvs C cfg stack w ++ p.2)
    | .ok (.ended top rest r out s w') =>
      let p := runEndedTr C cfg fuel top rest r out s w'
      (p.1, iterEvs C cfg stack w ++ p.2)
    | .ok (.done r w') => (pure (r, w'), iterEvs C cfg stack w)
end

def contTr {κ : Type} (C : CpOps κ) (cfg : Cfg) (fuel : Nat) : Next κ → R (Interp.ChildResult × World) × List LEv
  | .run st w => runLoopTr C cfg fuel st w
  | .ended t rs r o s w => runEndedTr C cfg fuel t rs r o s w
  | .done r w => (pure (r, w), [])

/-- the traced run after an iteration with events `evs` whose result is the argument -/
def thenTr {κ : Type} (C : CpOps κ) (cfg : Cfg) (fuel : Nat) (evs : List LEv) :
    R (Next κ) → R (Interp.ChildResult × World) × List LEv
  | .error e => (.error e, evs)
  | .ok nx => ((contTr C cfg fuel nx).1, evs ++ (contTr C cfg fuel nx).2)

/-- the events of one unit of fuel spent from `n` -/
def turnEvs {κ : Type} (C : CpOps κ) (cfg : Cfg) : Next κ → List LEv
  | .run st w => iterEvs C cfg st w
  | .ended _ _ _ _ _ _ => [retEv]
  | .done _ _ => []

/-- cut the events into turns and number the frame requests in the order they are made; `n` = number of the next
request, `acc` = instructions of the open turn (equations: `group_insn` … in `EvmInstScript`) -/
def group : Nat → List Insn → List LEv → List Turn
  | _, _, [] => []
  | n, acc, .insn x _ :: l => group n (acc ++ [x]) l
  | n, acc, .next (.spawn s ie) :: l => { ins := acc, next := .spawn { s with i := n } ie } :: group (n + 1) [] l
  | n, acc, .next (.ret o ie) :: l => { ins := acc, next := .ret o ie } :: group n [] l
  | n, acc, .next .fatal :: l => { ins := acc, next := .fatal } :: group n [] l

/-- the script of a transaction: its own request is number 0 -/
def scriptOf (evs : List LEv) : List Turn := group 1 [] evs

def insnsOf (evs : List LEv) : List Insn := evs.filterMap fun | .insn x _ => some x | .next _ => none
def truthsOf (evs : List LEv) : List Truth := evs.filterMap fun | .insn _ g => some g | .next _ => none

/-- the transaction's own frame request: `exec.call` / `exec.create` through the inspector's wrapper -/
def firstSpawn {κ : Type} (e : Env) (f : FrameOrResult κ) : Spawn :=
  { k := if e.tx.to.isSome then .call else .create, i := 0, insp := none,
    h := match f with
      | .frame _ => .frame
      | .result _ => .result 0 }

def runFirstTr {κ : Type} (C : CpOps κ) (cfg : Cfg) (fuel : Nat) (first : FrameOrResult κ) (w : World) :
    R (Interp.ChildResult × World) × List LEv :=
  match first with
  | .frame f => runLoopTr C cfg fuel [f] w
  | .result r => (pure (r, w), [])

/-- no trace when the transaction is rejected (or the model fails) before the first frame request is answered -/
def transactWithTr {κ : Type} (C : CpOps κ) (fuel : Nat) (w : World) (e : Env) (spec : Nat) :
    R (Outcome × World) × Option (Spawn × List LEv) :=
  match preverify w e (GasCalc.canon spec) with
  | .error err => (.error err, none)
  | .ok none => (pure (.rejected, w), none)
  | .ok (some (w', initialGas, floorGas)) =>
    match prepare C e (GasCalc.canon spec) initialGas w' with
    | .error err => (.error err, none)
    | .ok (first, w1, isCreate, eip7702Refund) =>
      let p := runFirstTr C (e.toCfg (GasCalc.canon spec)) fuel first w1
      ((do
          let (res, w2) ← p.1
          let (r, w3) ← finish e (GasCalc.canon spec) floorGas eip7702Refund isCreate res w2
          pure (.executed r, w3)),
       some (firstSpawn e first, p.2))

def transactTr (fuel : Nat) (w : World) (e : Env) (spec : Nat) : R (Outcome × World) × Option (Spawn × List LEv) :=
  transactWithTr journalOps fuel w e spec

end Revm.Proofs.EvmInstHooks

namespace Revm.Proofs.EvmInstSd
open Revm.Proofs.EvmInstHooks

/-- the completed SELFDESTRUCTs along a traced run, in order (`sdTruth` of each) -/
def completedSelfdestructs (evs : List LEv) : List (Nat × Nat × Nat) := (truthsOf evs).filterMap (·.sd)

/-- the ids of the log records appended by the LOG0..4 instructions that reached the host, in order -/
def appendedLogs (evs : List LEv) : List Nat := (truthsOf evs).filterMap (·.log)

end Revm.Proofs.EvmInstSd
