import Revm.Proofs.BundleCommit
/-! `BundleAccount::update_and_create_revert`, per address. On a (bundle account, accumulated transition) pair that the
status machine allows (`trOK`) the call is one of six kinds of step (`UStep`, `uacr_step`), told apart by the revert
they record; none is an `unreachable!` arm. `merge_step`, by the kinds of step: the recorded revert maps the (info,
slots) of now back to those of the previous merge (`RevSem`, wipe-aware), and the bundle invariant `BInvAcc` is kept.
The latter only for an account that is in the bundle (`st5`): for an absent address `oneAcct` runs the call on
`original_bundle_account` for its revert alone and inserts `present_bundle_account` (`present_binv`). -/
namespace Revm.Proofs.Bundle
open Revm.Model.Bundle Revm.Spec.Bundle


theorem filterEmpty_some_of (r : ARevert) (h : r.isEmpty = false) : filterEmpty (some r) = some r := by
  simp [filterEmpty, h]

theorem filterEmpty_eq_some (r r' : ARevert) (h : filterEmpty (some r) = some r') : r' = r := by
  unfold filterEmpty at h
  by_cases he : r.isEmpty = true
  · simp [he] at h
  · simp [he] at h; exact h.symm

/-- the `InfoRevert` that `update_and_create_revert` computes before its `match` -/
def infoRevertOf (acc : BAcct) (t : Transition) : InfoRevert :=
  if !(optSame acc.info t.info) then .revertTo (acc.info.getD Info.dflt) else .doNothing

/-- `UStep acc t acc' rev`: `update_and_create_revert` turns the bundle account `acc` under the transition `t` into
`acc'` and records `rev`. -/
inductive UStep (acc : BAcct) (t : Transition) : BAcct → Option ARevert → Prop
  /-- no destruction since the last merge that matters (`hwd`), same destroyed-family unless the address did not exist
  (`hfam`): slots updated in place, the old value of every changed slot recorded -/
  | upd (ir : InfoRevert) (X : BMap Slot)
      (hfam : t.status.wasDestroyed = acc.status.wasDestroyed ∨ acc.status = .loadedNotExisting)
      (hwd : t.wasDestroyed = false ∨ hasInfo acc.status = false)
      (hir : ir = infoRevertOf acc t ∧ hasInfo acc.status = true ∨ ir = .deleteIt ∧ hasInfo acc.status = false)
      (hX : X = extendStorage acc.storage t.storage ∨ X = t.storage ∧ st5 acc.status = false) :
      UStep acc t ⟨t.info, acc.origInfo, X, t.status⟩
        (filterEmpty (some ⟨ir, prevStorageFromUpdate t.storage, acc.status, false⟩))
  /-- a live account destroyed (`us = []`) or destroyed and re-created (`us = t.storage`): the one step that wipes -/
  | wipe (i' : Option Info) (us : BMap Slot) (hlive : live acc.status) (hd : t.status.wasDestroyed = true)
      (hwd : t.wasDestroyed = true)
      (hus : us = t.storage ∧ i' = t.info ∧ t.status = .destroyedChanged ∨
        us = [] ∧ i' = none ∧ hasInfo t.status = false) :
      UStep acc t ⟨i', acc.origInfo, us, t.status⟩
        (some ⟨infoRevertOf acc t, markDestroyed us (presentAsRevert acc.storage), acc.status, true⟩)
  /-- nothing existed at the last merge and nothing exists now -/
  | quiet (acc' : BAcct) (ha : hasInfo acc.status = false) (ht : hasInfo t.status = false)
      (h' : st5 acc.status = true → acc' = ⟨none, acc.origInfo, [], t.status⟩) : UStep acc t acc' none
  /-- the other arms, named by (bundle status, transition status): `DestroyedChanged` to `DestroyedChanged` through a
  destruction; `dadc`: `DestroyedAgain` re-created; `dcda`: `DestroyedChanged` destroyed again -/
  | redc (ha : acc.status = .destroyedChanged) (ht : t.status = .destroyedChanged) (hwd : t.wasDestroyed = true) :
      UStep acc t ⟨t.info, acc.origInfo, extendStorage [] t.storage, .destroyedChanged⟩
        (filterEmpty (some ⟨infoRevertOf acc t, markDestroyed t.storage (presentAsRevert acc.storage),
          .destroyedChanged, false⟩))
  | dadc (ha : acc.status = .destroyedAgain) (ht : t.status = .destroyedChanged) :
      UStep acc t ⟨t.info, acc.origInfo, extendStorage acc.storage t.storage, .destroyedChanged⟩
        (filterEmpty (some ⟨.deleteIt, markDestroyed t.storage (presentAsRevert []), .destroyedAgain, false⟩))
  | dcda (ha : acc.status = .destroyedChanged) (ht : t.status = .destroyedAgain) :
      UStep acc t ⟨none, acc.origInfo, [], .destroyedAgain⟩
        (filterEmpty (some ⟨.revertTo (acc.info.getD Info.dflt), presentAsRevert acc.storage, .destroyedChanged, false⟩))

theorem uacr_step (acc : BAcct) (t : Transition) (nc : Bool)
    (hok : trOK acc.status t.status nc t.wasDestroyed = true) :
    ∃ acc' rev, updateAndCreateRevert acc t = some (acc', rev) ∧ UStep acc t acc' rev := by
  have h5 := (trOK_shape hok).1
  cases hts : t.status with
  | changed =>
    rw [hts] at hok
    obtain ⟨hbs, hwd⟩ := tab_changed _ _ _ hok
    refine ⟨_, _, ?_, .upd (infoRevertOf acc t) (extendStorage acc.storage t.storage) (Or.inl ?_) (Or.inl hwd)
      (Or.inl ⟨rfl, ?_⟩) (Or.inl rfl)⟩ <;>
    rcases hbs with h | h <;> simp [updateAndCreateRevert, hts, h, infoRevertOf, Status.wasDestroyed, hasInfo]
  | inMemoryChange =>
    rw [hts] at hok
    obtain ⟨hbs, hwd⟩ := tab_imc _ _ _ hok
    rcases hbs with hbs | h | h
    · refine ⟨_, _, ?_, .upd (infoRevertOf acc t) (extendStorage acc.storage t.storage) (Or.inl ?_) (Or.inl hwd)
        (Or.inl ⟨rfl, ?_⟩) (Or.inl rfl)⟩ <;>
      rcases hbs with h | h <;> simp [updateAndCreateRevert, hts, h, infoRevertOf, Status.wasDestroyed, hasInfo]
    · refine ⟨_, _, ?_, .upd (infoRevertOf acc t) t.storage (Or.inl ?_) (Or.inl hwd) (Or.inl ⟨rfl, ?_⟩) (Or.inr ⟨rfl, ?_⟩)⟩ <;>
      simp [updateAndCreateRevert, hts, h, infoRevertOf, Status.wasDestroyed, hasInfo, st5]
    · refine ⟨_, _, ?_, .upd .deleteIt t.storage (Or.inr h) (Or.inl hwd) (Or.inr ⟨rfl, ?_⟩) (Or.inr ⟨rfl, ?_⟩)⟩ <;>
      simp [updateAndCreateRevert, hts, h, hasInfo, st5]
  | destroyed =>
    rw [hts] at hok
    obtain ⟨hbs, hwd⟩ := tab_destroyed _ _ _ hok
    rcases hbs with hbs | h
    · refine ⟨_, _, ?_, .wipe none [] hbs (by rw [hts]; rfl) hwd (Or.inr ⟨rfl, rfl, by rw [hts]; rfl⟩)⟩
      rcases hbs with h | h | h | h <;>
        simp [updateAndCreateRevert, hts, h, infoRevertOf, newSelfdestructed, filterEmpty, ARevert.isEmpty, markDestroyed]
    · exact ⟨⟨acc.info, acc.origInfo, [], acc.status⟩, none, by simp [updateAndCreateRevert, hts, h],
        .quiet _ (by rw [h]; rfl) (by rw [hts]; rfl) (fun h' => by rw [h] at h'; cases h')⟩
  | destroyedChanged =>
    rw [hts] at hok
    rcases tab_dc _ _ _ hok with ⟨hbs, hwd⟩ | hbs | h | h
    · refine ⟨_, _, ?_, .wipe t.info t.storage hbs (by rw [hts]; rfl) hwd (Or.inl ⟨rfl, rfl, hts⟩)⟩
      rcases hbs with h | h | h | h <;>
        simp [updateAndCreateRevert, hts, h, infoRevertOf, newSelfdestructedFromBundle, newSelfdestructedAgain,
          filterEmpty, ARevert.isEmpty]
    · refine ⟨_, _, ?_, .upd .deleteIt (extendStorage acc.storage t.storage) (hbs.imp (fun h => by rw [hts, h]; rfl) id)
        (Or.inr ?_) (Or.inr ⟨rfl, ?_⟩) (Or.inl rfl)⟩ <;>
      rcases hbs with h | h <;> simp [updateAndCreateRevert, hts, h, newSelfdestructedFromBundle, hasInfo]
    · cases hwd : t.wasDestroyed with
      | true =>
        exact ⟨_, _, by simp [updateAndCreateRevert, hts, h, infoRevertOf, newSelfdestructedFromBundle, hwd],
          .redc h hts hwd⟩
      | false =>
        refine ⟨_, _, ?_, .upd (infoRevertOf acc t) (extendStorage acc.storage t.storage) (Or.inl (by rw [hts, h]))
          (Or.inl hwd) (Or.inl ⟨rfl, by rw [h]; rfl⟩) (Or.inl rfl)⟩
        simp [updateAndCreateRevert, hts, h, infoRevertOf, newSelfdestructedFromBundle, hwd]
    · exact ⟨_, _, by simp [updateAndCreateRevert, hts, h, newSelfdestructedFromBundle, newSelfdestructedAgain],
        .dadc h hts⟩
  | destroyedAgain =>
    rw [hts] at hok
    rcases tab_da _ _ _ hok with ⟨hbs, hwd⟩ | hbs | h
    · refine ⟨_, _, ?_, .wipe none [] hbs (by rw [hts]; rfl) hwd (Or.inr ⟨rfl, rfl, by rw [hts]; rfl⟩)⟩
      rcases hbs with h | h | h | h <;>
        simp [updateAndCreateRevert, hts, h, infoRevertOf, newSelfdestructedFromBundle, newSelfdestructedAgain,
          markDestroyed, filterEmpty, ARevert.isEmpty]
    · exact ⟨⟨none, acc.origInfo, [], .destroyedAgain⟩, none,
        by rcases hbs with h | h | h <;> simp [updateAndCreateRevert, hts, h, newSelfdestructedFromBundle, filterEmpty],
        .quiet _ (by rcases hbs with h | h | h <;> rw [h] <;> rfl) (by rw [hts]; rfl) (fun _ => by rw [hts])⟩
    · exact ⟨_, _, by simp [updateAndCreateRevert, hts, h, newSelfdestructedFromBundle, newSelfdestructedAgain, markDestroyed],
        .dcda h hts⟩
  | loaded => rw [hts] at h5; cases h5
  | loadedNotExisting => rw [hts] at h5; cases h5
  | loadedEmptyEIP161 => rw [hts] at h5; cases h5

/-! ## what the kinds of step say about the recorded revert -/

section shape
variable {acc : BAcct} {t : Transition} {acc' : BAcct} {rev : Option ARevert}

/-- only `wipe` records a storage-wiping revert -/
theorem UStep.of_wipe (h : UStep acc t acc' rev) {r : ARevert} (hr : rev = some r) (hw : r.wipe = true) :
    live acc.status ∧ t.status.wasDestroyed = true ∧ (r.storage = [] → acc.storage = []) := by
  have no : ∀ {x : ARevert}, filterEmpty (some x) = some r → x.wipe = false → False := fun e hx => by
    rw [filterEmpty_eq_some _ _ e, hx] at hw; cases hw
  cases h with
  | upd => exact (no hr rfl).elim
  | wipe i' us hlive hd =>
    injection hr with hr
    refine ⟨hlive, hd, fun hn => ?_⟩
    rw [← hr] at hn
    simpa [presentAsRevert] using fill_nil (fun _ => RevSlot.destroyed) us (presentAsRevert acc.storage) hn
  | quiet => cases hr
  | redc => exact (no hr rfl).elim
  | dadc => exact (no hr rfl).elim
  | dcda => exact (no hr rfl).elim

/-- a step into `Changed` / `InMemoryChange` is `upd` on a non-destroyed account -/
theorem UStep.of_nd (h : UStep acc t acc' rev) (h5 : st5 t.status = true) (hnd : t.status.wasDestroyed = false) :
    acc.status.wasDestroyed = false ∧ ∃ ir X, acc' = ⟨t.info, acc.origInfo, X, t.status⟩ ∧
      rev = filterEmpty (some ⟨ir, prevStorageFromUpdate t.storage, acc.status, false⟩) ∧
      (X = extendStorage acc.storage t.storage ∨ X = t.storage ∧ st5 acc.status = false) := by
  cases h with
  | upd ir X hfam _ _ hX =>
    exact ⟨hfam.elim (fun h => by rw [← h]; exact hnd) (fun h => by rw [h]; rfl), ir, X, rfl, rfl, hX⟩
  | wipe _ _ _ hd => rw [hd] at hnd; cases hnd
  | quiet _ _ ht => rw [hasInfo_false_st5 _ ht h5] at hnd; cases hnd
  | redc _ ht => rw [ht] at hnd; cases hnd
  | dadc _ ht => rw [ht] at hnd; cases hnd
  | dcda _ ht => rw [ht] at hnd; cases hnd

/-- the destroyed family changes only with a wiping revert, or from `LoadedNotExisting` with no revert or `DeleteIt` -/
theorem UStep.fam (h : UStep acc t acc' rev) (h5 : st5 t.status = true)
    (hno : acc.status = .loadedNotExisting → ∃ r, rev = some r ∧ r.account ≠ .deleteIt)
    (hnw : ∀ r, rev = some r → r.wipe = false) : t.status.wasDestroyed = acc.status.wasDestroyed := by
  cases h with
  | upd ir X hfam _ hir =>
    refine hfam.elim id (fun hl => ?_)
    obtain ⟨r, hr, hnd⟩ := hno hl
    have hir' : ir = .deleteIt := hir.elim (fun h => by rw [hl] at h; cases h.2) (fun h => h.1)
    rw [filterEmpty_eq_some _ _ hr, hir'] at hnd
    exact absurd rfl hnd
  | wipe => exact absurd (hnw _ rfl) (by simp)
  | quiet _ ha ht =>
    cases hwa : acc.status.wasDestroyed with
    | true => exact hasInfo_false_st5 _ ht h5
    | false => obtain ⟨r, hr, _⟩ := hno (hasInfo_false_nd _ ha hwa); cases hr
  | redc ha ht => rw [ha, ht]
  | dadc ha ht => rw [ha, ht]; rfl
  | dcda ha ht => rw [ha, ht]; rfl

/-- a step into `DestroyedChanged` records a revert unless the account already is `DestroyedChanged` -/
theorem UStep.dc_some (h : UStep acc t acc' rev) (hts : t.status = .destroyedChanged)
    (hne : acc.status ≠ .destroyedChanged) : rev ≠ none := by
  have ne : ∀ {x : ARevert}, x.isEmpty = false → filterEmpty (some x) ≠ none := fun hx => by
    rw [filterEmpty_some_of _ hx]; simp
  cases h with
  | upd ir X hfam _ hir =>
    rcases hir with ⟨_, hi⟩ | ⟨hi, _⟩
    · rcases hfam with hf | hf
      · rw [hts] at hf
        have := hasInfo_of_destroyed _ hf.symm hne
        rw [hi] at this; cases this
      · rw [hf] at hi; cases hi
    · exact ne (by simp [ARevert.isEmpty, hi])
  | wipe => simp
  | quiet _ _ ht => rw [hts] at ht; cases ht
  | redc ha => exact absurd ha hne
  | dadc => exact ne (by simp [ARevert.isEmpty])
  | dcda _ ht => rw [hts] at ht; cases ht

end shape

/-! ## the bundle invariant and the reading of a recorded revert -/

/-- bundle account vs. (state when the bundle was started → state at the last merge) -/
structure BInvAcc (acc : BAcct) (ms : Status) (Pi : Option Info) (Ps : Nat → Nat) (Mi : Option Info)
    (Ms : Nat → Nat) : Prop where
  status : acc.status = ms
  info : acc.info.map wc = Mi
  orig : acc.origInfo.map wc = Pi
  stor : StorageInv acc Ps Ms
  loadedNil : st5 acc.status = false → acc.storage = []

def revInfoOK (ir : InfoRevert) (Mi Ri : Option Info) : Prop :=
  match ir with
  | .doNothing => Mi = Ri
  | .deleteIt => Mi = none
  | .revertTo i => Mi = some (wc i)

/-- the recorded revert maps the current (info, slots) back to those at the previous merge -/
def RevSem (rev : Option ARevert) (ms : Status) (Ps : Nat → Nat) (Mi : Option Info) (Ms : Nat → Nat)
    (Ri : Option Info) (Rs : Nat → Nat) : Prop :=
  match rev with
  | none => Mi = Ri ∧ ∀ k, Ms k = Rs k
  | some r => r.prevStatus = ms ∧ WF r.storage ∧ revInfoOK r.account Mi Ri ∧
      (∀ k, revSlotV true r.storage r.wipe Ps Rs k = Ms k) ∧
      (r.wipe = true → ∀ k, r.storage.get k = none → Rs k = 0)

theorem RevSem.filter {r : ARevert} {ms : Status} {Ps : Nat → Nat} {Mi : Option Info} {Ms : Nat → Nat}
    {Ri : Option Info} {Rs : Nat → Nat} (h : RevSem (some r) ms Ps Mi Ms Ri Rs) :
    RevSem (filterEmpty (some r)) ms Ps Mi Ms Ri Rs := by
  unfold filterEmpty
  by_cases he : r.isEmpty = true
  · simp only [he, if_true]
    obtain ⟨_, _, h3, h4⟩ := h
    simp only [ARevert.isEmpty, Bool.and_eq_true, List.isEmpty_iff, Bool.not_eq_true'] at he
    obtain ⟨⟨h5, h6⟩, h7⟩ := he
    refine ⟨?_, fun k => ?_⟩
    · cases hra : r.account with
      | doNothing => rw [hra] at h3; exact h3
      | deleteIt => rw [hra] at h5; cases h5
      | revertTo i => rw [hra] at h5; cases h5
    · have := h4.1 k
      rw [h6, h7] at this
      simpa [revSlotV, BMap.get] using this.symm
  · simp only [he]; exact h

/-- a non-wiping revert does not read the pre-bundle slots -/
theorem RevSem.of_nowipe {r : ARevert} {ms : Status} {Ps Ps' : Nat → Nat} {Mi : Option Info} {Ms : Nat → Nat}
    {Ri : Option Info} {Rs : Nat → Nat} (h : RevSem (some r) ms Ps Mi Ms Ri Rs) (hw : r.wipe = false) :
    RevSem (some r) ms Ps' Mi Ms Ri Rs := by
  obtain ⟨z1, z2, z3, z4, _⟩ := h
  refine ⟨z1, z2, z3, fun k => ?_, fun hh => by rw [hw] at hh; cases hh⟩
  have := z4 k
  rw [hw] at this ⊢
  rw [← this]
  unfold revSlotV
  cases r.storage.get k with
  | none => rfl
  | some v => cases v <;> rfl

theorem infoRevert_ok {acc : BAcct} {t : Transition} {Mi Ri : Option Info} (hMi : acc.info.map wc = Mi)
    (hRi : t.info.map wc = Ri) (hsome : acc.info.isSome = true) : revInfoOK (infoRevertOf acc t) Mi Ri := by
  unfold infoRevertOf
  by_cases ho : optSame acc.info t.info = true
  · simp only [ho, Bool.not_true, Bool.false_eq_true, if_false, revInfoOK]
    rw [← hMi, ← hRi]; exact optSame_wc _ _ ho
  · simp only [ho, Bool.not_false, if_true, revInfoOK]
    cases hi : acc.info with
    | none => rw [hi] at hsome; cases hsome
    | some i => rw [← hMi, hi]; rfl

theorem binv_mk {acc : BAcct} {i' : Option Info} {X : BMap Slot} {s' cs : Status} {Pi Ri : Option Info}
    {Ps Rs : Nat → Nat} (hs : s' = cs) (hst : st5 s' = true) (hi : i'.map wc = Ri)
    (ho : acc.origInfo.map wc = Pi) (hstor : SRel (!s'.wasDestroyed) X (baseOf s'.wasDestroyed Ps) Rs) :
    BInvAcc ⟨i', acc.origInfo, X, s'⟩ cs Pi Ps Ri Rs :=
  ⟨hs, hi, ho, (storageInv_iff _ _ _).mpr hstor,
    fun h => by rw [show (BAcct.mk i' acc.origInfo X s').status = s' from rfl, hst] at h; cases h⟩

section merge
variable {acc : BAcct} {t : Transition} {c : CacheAcct} {Pi : Option Info} {Ps : Nat → Nat} {Mi : Option Info}
  {Ms : Nat → Nat} {Ri : Option Info} {Rs : Nat → Nat}
  (hb : BInvAcc acc t.prevStatus Pi Ps Mi Ms) (hm : Facts t.prevStatus Mi Ms)
  (ht : TInv t c Mi Ms Rs) (hc : CInv c Ri Rs)
include hb hm ht hc

omit hb hm in
theorem merge_hti : t.info.map wc = Ri := by rw [ht.info]; exact hc.info

omit ht hc in
theorem merge_accsome : acc.info.isSome = hasInfo acc.status := by
  rw [← isSome_wc, hb.info, hb.status]; exact hm.some_iff

omit hm hc in
theorem acc_ok : trOK acc.status t.status (ncO c.info) t.wasDestroyed = true := by
  rw [hb.status]; exact ht.ok

omit ht hc in
theorem merge_M_zero (hs : hasInfo acc.status = false) : Mi = none ∧ ∀ k, Ms k = 0 := by
  rw [hb.status] at hs
  exact ⟨hm.none_of hs, hm.zero_of hs⟩

omit hb hm in
theorem merge_R_zero (hs : hasInfo t.status = false) : Ri = none ∧ ∀ k, Rs k = 0 := by
  have hci : c.info = none := hc.facts.none_of (by rw [← ht.status]; exact hs)
  exact ⟨by rw [← hc.info, hci]; rfl, hc.facts.none_zero hci⟩

/-- the `upd` step: the transition's slots are a delta over the slots at the last merge, composed onto the account's -/
theorem merge_upd {ir : InfoRevert} {X : BMap Slot}
    (hfam : t.status.wasDestroyed = acc.status.wasDestroyed ∨ acc.status = .loadedNotExisting)
    (hwd : t.wasDestroyed = false ∨ hasInfo acc.status = false)
    (hir : ir = infoRevertOf acc t ∧ hasInfo acc.status = true ∨ ir = .deleteIt ∧ hasInfo acc.status = false)
    (hX : X = extendStorage acc.storage t.storage ∨ X = t.storage ∧ st5 acc.status = false) :
    RevSem (filterEmpty (some ⟨ir, prevStorageFromUpdate t.storage, acc.status, false⟩)) t.prevStatus Ps Mi Ms Ri Rs ∧
    (st5 acc.status = true → BInvAcc ⟨t.info, acc.origInfo, X, t.status⟩ c.status Pi Ps Ri Rs) := by
  have hti := merge_hti ht hc
  have hu : SlotsRel t.storage Ms Rs := ht.stor_keep (hwd.imp id (fun h => (merge_M_zero hb hm h).2))
  refine ⟨RevSem.filter ⟨hb.status, prevStorage_WF _ hu.1, ?_, rs_prev true Ps hu, fun h => absurd h (by simp)⟩,
    fun h5 => ?_⟩
  · rcases hir with ⟨h1, h2⟩ | ⟨h1, h2⟩
    · rw [h1]; exact infoRevert_ok hb.info hti (by rw [merge_accsome hb hm, h2])
    · rw [h1]; exact (merge_M_zero hb hm h2).1
  · have hf := hfam.resolve_right (fun h => by rw [h] at h5; cases h5)
    have hX' := hX.resolve_right (fun h => by rw [h5] at h; cases h.2)
    refine binv_mk ht.status (trOK_shape ht.ok).1 hti hb.orig ?_
    rw [hf, hX']
    exact ((storageInv_iff _ _ _).mp hb.stor).extend hu

/-- the `wipe` step: the new storage is a delta over the emptied account, the revert lists every old entry -/
theorem merge_wipe {i' : Option Info} {us : BMap Slot} (hlive : live acc.status) (hd : t.status.wasDestroyed = true)
    (hwd : t.wasDestroyed = true)
    (hus : us = t.storage ∧ i' = t.info ∧ t.status = .destroyedChanged ∨ us = [] ∧ i' = none ∧ hasInfo t.status = false) :
    RevSem (some ⟨infoRevertOf acc t, markDestroyed us (presentAsRevert acc.storage), acc.status, true⟩)
      t.prevStatus Ps Mi Ms Ri Rs ∧
    BInvAcc ⟨i', acc.origInfo, us, t.status⟩ c.status Pi Ps Ri Rs := by
  have hti := merge_hti ht hc
  obtain ⟨hnd, hhi⟩ := live_status _ hlive
  have ha := (storageInv_iff _ _ _).mp hb.stor
  rw [hnd] at ha
  have hu : SlotsRel us (fun _ => 0) Rs ∧ i'.map wc = Ri := by
    rcases hus with ⟨h1, h2, _⟩ | ⟨h1, h2, h3⟩
    · rw [h1, h2]; exact ⟨ht.stor_zero (Or.inl hwd), hti⟩
    · obtain ⟨hRi, hRs⟩ := merge_R_zero ht hc h3
      rw [h1, h2, hRi]; exact ⟨⟨WF_nil, hRs⟩, rfl⟩
  exact ⟨⟨hb.status, markDestroyed_WF _ _ (presentAsRevert_WF _ ha.1),
      infoRevert_ok hb.info hti (by rw [merge_accsome hb hm, hhi]),
      rs_md_wipe ha hu.1.1, fun _ k hk => hu.1.get_none (md_none_us _ _ hu.1.1 k hk)⟩,
    binv_mk ht.status (trOK_shape ht.ok).1 hu.2 hb.orig (by rw [hd]; exact SRel.weaken hu.1)⟩

theorem merge_step : ∃ acc' rev, updateAndCreateRevert acc t = some (acc', rev) ∧ UStep acc t acc' rev ∧
    RevSem rev t.prevStatus Ps Mi Ms Ri Rs ∧ (st5 acc.status = true → BInvAcc acc' c.status Pi Ps Ri Rs) := by
  obtain ⟨acc', rev, e, hs⟩ := uacr_step acc t _ (acc_ok hb ht)
  refine ⟨acc', rev, e, hs, ?_⟩
  have hti := merge_hti ht hc
  have hsome := merge_accsome hb hm
  have h5 := (trOK_shape ht.ok).1
  have ha := (storageInv_iff _ _ _).mp hb.stor
  cases hs with
  | upd ir X hfam hwd hir hX => exact merge_upd hb hm ht hc hfam hwd hir hX
  | wipe i' us hlive hd hwd hus =>
    obtain ⟨g1, g2⟩ := merge_wipe hb hm ht hc hlive hd hwd hus
    exact ⟨g1, fun _ => g2⟩
  | quiet _ hai htn h' =>
    obtain ⟨hMi, hMs⟩ := merge_M_zero hb hm hai
    obtain ⟨hRi, hRs⟩ := merge_R_zero ht hc htn
    refine ⟨⟨by rw [hMi, hRi], fun k => by rw [hMs, hRs]⟩, fun h5a => ?_⟩
    rw [h' h5a]
    exact binv_mk ht.status h5 (by rw [hRi]; rfl) hb.orig (by rw [hasInfo_false_st5 _ htn h5]; exact SRel.nil hRs)
  | redc hbs hts hwd =>
    rw [hbs] at ha
    have hu := ht.stor_zero (Or.inl hwd)
    exact ⟨RevSem.filter ⟨by rw [← hb.status, hbs], markDestroyed_WF _ _ (presentAsRevert_WF _ ha.1),
        infoRevert_ok hb.info hti (by rw [hsome, hbs]; rfl), rs_md_nowipe true Ps ha hu, fun h => absurd h (by simp)⟩,
      fun _ => binv_mk (by rw [← ht.status, hts]) rfl hti hb.orig ((SRel.nil (fun _ => rfl)).extend hu)⟩
  | dadc hbs hts =>
    rw [hbs] at ha
    obtain ⟨hMi, hMs⟩ := merge_M_zero hb hm (by rw [hbs]; rfl)
    have hu := ht.stor_zero (Or.inr hMs)
    exact ⟨RevSem.filter ⟨by rw [← hb.status, hbs], markDestroyed_WF _ _ (presentAsRevert_WF _ WF_nil), hMi,
        rs_md_nowipe (o := false) true Ps (SRel.nil hMs) hu, fun h => absurd h (by simp)⟩,
      fun _ => binv_mk (by rw [← ht.status, hts]) rfl hti hb.orig ((ha.congr (fun _ => rfl) hMs).extend hu)⟩
  | dcda hbs hts =>
    rw [hbs] at ha
    obtain ⟨hRi, hRs⟩ := merge_R_zero ht hc (by rw [hts]; rfl)
    refine ⟨RevSem.filter ⟨by rw [← hb.status, hbs], presentAsRevert_WF _ ha.1, ?_,
        rs_md_nowipe true Ps (us := []) ha ⟨WF_nil, hRs⟩, fun h => absurd h (by simp)⟩,
      fun _ => binv_mk (by rw [← ht.status, hts]) rfl (by rw [hRi]; rfl) hb.orig (SRel.nil hRs)⟩
    have : acc.info.isSome = true := by rw [hsome, hbs]; rfl
    cases hi : acc.info with
    | none => rw [hi] at this; cases this
    | some i => simp only [revInfoOK, Option.getD]; rw [← hb.info, hi]; rfl

end merge

/-! ## addresses not yet in the bundle; one iteration of `apply_transitions_and_create_reverts` at its address -/

/-- bundle side of the per-address invariant: `none` = the address is not in the bundle. Such an address was not
destroyed and re-created since the bundle was started (`ms ≠ .destroyedChanged`; what `take_bundle` on a continuing
`State` breaks, F3); `orig_binv` needs it to know that a destroyed `M` has no storage. -/
def BInv (b? : Option BAcct) (ms : Status) (Pi : Option Info) (Ps : Nat → Nat) (Mi : Option Info)
    (Ms : Nat → Nat) : Prop :=
  match b? with
  | none => Mi = Pi ∧ Ms = Ps ∧ ms ≠ .destroyedChanged
  | some b => BInvAcc b ms Pi Ps Mi Ms ∧ st5 ms = true

/-- what one iteration of `apply_transitions_and_create_reverts` does to the bundle entry of its address -/
def oneAcct (b? : Option BAcct) (t : Transition) : Option (Option BAcct × Option ARevert) :=
  match b? with
  | some acc => (updateAndCreateRevert acc t).map fun r => (some r.1, r.2)
  | none => (updateAndCreateRevert t.originalBundleAccount t).map fun r =>
      match r.2 with
      | some rv => (some t.presentBundleAccount, some rv)
      | none => (none, none)

theorem oneAcct_some_inv {acc : BAcct} {t : Transition} {b?' : Option BAcct} {rev : Option ARevert}
    (h : oneAcct (some acc) t = some (b?', rev)) :
    ∃ acc', updateAndCreateRevert acc t = some (acc', rev) ∧ b?' = some acc' := by
  simp only [oneAcct] at h
  cases hu : updateAndCreateRevert acc t with
  | none => rw [hu] at h; cases h
  | some x =>
    rw [hu] at h
    injection h with h; injection h with h1 h2
    exact ⟨x.1, by rw [← h2], h1.symm⟩

theorem oneAcct_none {b? : Option BAcct} {t : Transition} {rev : Option ARevert}
    (h : oneAcct b? t = some (none, rev)) : b? = none := by
  cases b? with
  | none => rfl
  | some acc => obtain ⟨_, _, h⟩ := oneAcct_some_inv h; cases h

theorem applyOne_eq (b : BState) (a : Nat) (t : Transition) :
    applyOne b a t = (oneAcct (b.state.get a) t).map fun r =>
      ({ b with contracts := (match t.hasNewContract with | some h => insertContract b.contracts h | none => b.contracts),
                state := (match r.1 with | some x => b.state.set a x | none => b.state) }, r.2) := by
  unfold applyOne oneAcct
  cases hg : b.state.get a with
  | some acc =>
    simp only
    cases updateAndCreateRevert acc t with
    | none => rfl
    | some r => rfl
  | none =>
    simp only
    cases updateAndCreateRevert t.originalBundleAccount t with
    | none => rfl
    | some r =>
      obtain ⟨x, rv⟩ := r
      cases rv <;> rfl

theorem orig_binv (t : Transition) (c : CacheAcct) (Mi : Option Info) (Ms Rs : Nat → Nat)
    (hm : Facts t.prevStatus Mi Ms) (ht : TInv t c Mi Ms Rs) (hndc : t.prevStatus ≠ .destroyedChanged) :
    BInvAcc t.originalBundleAccount t.prevStatus Mi Ms Mi Ms := by
  refine ⟨rfl, ht.prev, ht.prev, (storageInv_iff _ _ _).mpr (SRel.nil fun k => ?_), fun _ => rfl⟩
  show Ms k = baseOf t.prevStatus.wasDestroyed Ms k
  cases hwd : t.prevStatus.wasDestroyed with
  | false => rfl
  | true => exact hm.zero_of (hasInfo_of_destroyed _ hwd hndc) k

/-- `present_bundle_account`, inserted for an address that was not in the bundle: its storage is a delta over the slots
at the last merge, or over the empty storage when the address was destroyed since, or before, that merge -/
theorem present_binv (t : Transition) (c : CacheAcct) (Mi : Option Info) (Ms : Nat → Nat) (Ri : Option Info)
    (Rs : Nat → Nat) (hm : Facts t.prevStatus Mi Ms) (ht : TInv t c Mi Ms Rs) (hc : CInv c Ri Rs)
    (hndc : t.prevStatus ≠ .destroyedChanged) : BInvAcc t.presentBundleAccount c.status Mi Ms Ri Rs := by
  refine ⟨ht.status, ?_, ht.prev, (storageInv_iff _ _ _).mpr ?_, fun h => ?_⟩
  · rw [show t.presentBundleAccount.info = t.info from rfl, ht.info]; exact hc.info
  · show SRel (!t.status.wasDestroyed) t.storage (baseOf t.status.wasDestroyed Ms) Rs
    have hwd := trOK_wd ht.ok
    cases hsd : t.status.wasDestroyed with
    | false =>
      rw [hsd] at hwd
      have hfl : t.wasDestroyed = false := by cases h : t.wasDestroyed <;> simp [h] at hwd ⊢
      exact SRel.weaken (ht.stor_keep (Or.inl hfl))
    | true =>
      rw [hsd] at hwd
      refine SRel.weaken (?_ : SlotsRel t.storage (fun _ => 0) Rs)
      cases hf : t.wasDestroyed with
      | true => exact ht.stor_zero (Or.inl hf)
      | false =>
        rw [hf, Bool.false_or] at hwd
        exact ht.stor_zero (Or.inr (hm.zero_of (hasInfo_of_destroyed _ hwd.symm hndc)))
  · rw [show t.presentBundleAccount.status = t.status from rfl, (trOK_shape ht.ok).1] at h; cases h

end Revm.Proofs.Bundle
