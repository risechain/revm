import Revm.Proofs.JournalPushes
import Revm.Proofs.Ether
/-! C06: `Pushes` for the operations that move balances: `transfer`, `selfdestruct` and
`create_account_checkpoint` (its own checkpoint, the two failing paths that revert it, and the endowment). -/
namespace Revm.Proofs.Journal
open Revm Revm.Model.Journal Revm.Spec.JournalAbs

def setBal (x : AState) (f : Addr → Nat) : AState := { x with balance := f }

/-- a rewrite of the observable state that commutes with clearing touched marks -/
theorem undoTs_touched_comm (sd : Bool) (F : AState → AState)
    (hF : ∀ x a, undoT sd (F x) (Entry.accountTouched a) = F (undoT sd x (Entry.accountTouched a)))
    (td : List Entry) (htd : ∀ e ∈ td, ∃ a, e = Entry.accountTouched a) (x : AState) :
    undoTs sd (F x) td = F (undoTs sd x td) := by
  induction td generalizing x with
  | nil => rfl
  | cons e es ih =>
    obtain ⟨a, rfl⟩ := htd e (by simp)
    simp only [undoTs]
    rw [hF]
    exact ih (fun e he => htd e (by simp [he])) _

theorem undoTs_touched_setBal (sd : Bool) (td : List Entry) (htd : ∀ e ∈ td, ∃ a, e = Entry.accountTouched a)
    (x : AState) (f : Addr → Nat) :
    undoTs sd (setBal x f) td = setBal (undoTs sd x td) f :=
  undoTs_touched_comm sd (fun x => setBal x f) (fun _ _ => rfl) td htd x

theorem touchedOnly_ite (c : Bool) (a : Addr) :
    ∀ e ∈ (if c then [] else [Entry.accountTouched a]), ∃ a, e = Entry.accountTouched a := by
  cases c <;> simp


theorem absT_setAcct_bal (db : Db) {s : JState} {a : Addr} {acc : Acct} (hs : s.state a = some acc) (n : Nat) :
    absT db (setAcct s a { acc with info := { acc.info with balance := n } }) =
      setBal (absT db s) (upd (absT db s).balance a n) :=
  absT_set_balance db hs n

theorem absT_balance_some (db : Db) {s : JState} {a : Addr} {acc : Acct} (hs : s.state a = some acc) :
    (absT db s).balance a = acc.info.balance :=
  (absT_at db hs).1

theorem setBal_self (x : AState) : setBal x x.balance = x := rfl
theorem setBal_setBal (x : AState) (f g : Addr → Nat) : setBal (setBal x f) g = setBal x g := rfl
@[simp] theorem setBal_balance (x : AState) (f : Addr → Nat) : (setBal x f).balance = f := rfl

/-- the unjournaled debit of `transfer`, a touch, and then either the credit plus its entry or the refund -/
theorem transfer_tail {db : Db} {s3 s5 sF : JState} {src : Addr} {fa : Acct} {v : Nat} {td es : List Entry}
    (hs3 : s3.state src = some fa)
    (p45 : Pushes db (setAcct s3 src { fa with info := { fa.info with balance := fa.info.balance - v } }) s5 td)
    (htd : ∀ e ∈ td, ∃ a, e = Entry.accountTouched a)
    (hjF : ∀ top rest, s5.journal = top :: rest → sF.journal = (es ++ top) :: rest)
    (hspec : sF.spec = s5.spec) (hpre : sF.preloaded = s5.preloaded) (hlogs : sF.logs = s5.logs)
    (hundo : undoTs (sdOf s3) (absT db sF) es = setBal (absT db s5) (absT db s3).balance)
    (hz : ∀ a, Entry.accountCreated a ∈ es → ∀ k, db.storage a k = 0)
    (hbF : BalOk (absT db s3) → BalOk (absT db sF))
    (hgF : Grows s5 sF) (hrF : ∀ e, e ∈ es → refsOk sF e)
    (hnA : ∀ b, Entry.accountWarmed b ∉ es := by simp)
    (hnS : ∀ b k, Entry.storageWarmed b k ∉ es := by simp) :
    Pushes db s3 sF (es ++ td) := by
  have g34 : Grows s3 (setAcct s3 src { fa with info := { fa.info with balance := fa.info.balance - v } }) :=
    Grows.upd hs3 rfl
  have g35 : Grows s3 s5 := Grows.trans g34 p45.grows
  refine ⟨fun t r ht => ?_, ?_, ?_, ?_, ?_, ?_, hbF, ?_, ?_, Grows.trans g35 hgF, fun e he => ?_⟩
  rotate_right
  · rcases List.mem_append.1 he with h | h
    · exact hrF e h
    · exact refsOk_mono hgF (p45.refs e h)
  · rw [hjF _ _ (p45.journal t r (by simpa using ht)), List.append_assoc]
  · rw [hspec, p45.spec]; rfl
  · rw [hpre, p45.pre]; rfl
  · rw [hlogs, p45.logs]; rfl
  · rw [undoTs_append, hundo, undoTs_touched_setBal _ _ htd]
    have := p45.undo
    rw [show sdOf (setAcct s3 src _) = sdOf s3 from rfl] at this
    rw [this, absT_setAcct_bal db hs3, setBal_setBal, setBal_self]
  · intro a ha; rcases List.mem_append.1 ha with h | h
    · exact hz a h
    · obtain ⟨b, hb⟩ := htd _ h; cases hb
  · intro b hb; rcases List.mem_append.1 hb with h | h
    · exact absurd h (hnA b)
    · obtain ⟨c, hc⟩ := htd _ h; cases hc
  · intro b k hb; rcases List.mem_append.1 hb with h | h
    · exact absurd h (hnS b k)
    · obtain ⟨c, hc⟩ := htd _ h; cases hc


theorem transfer_pushes {db : Db} {s s' : JState} {src dst : Addr} {v : Nat} {r : Option TransferErr}
    (hbal : BalOk (absT db s)) (h : transfer db s src dst v = some (s', r)) :
    (∃ es, Pushes db s s' es) ∧ Warms db s s' [.addr src, .addr dst] := by
  obtain ⟨s1, c1, s2, c2, fa0, s3, fa, hl1, hl2, hs2, ht1, h⟩ := transfer_some h
  obtain ⟨p1, hc1, _⟩ := loadAccount_pushes (db := db) hl1
  obtain ⟨p2, hc2, _⟩ := loadAccount_pushes (db := db) hl2
  have w12 : Warms db s s2 [.addr src, .addr dst] :=
    Warms.trans (Warms.of_access (k := .addr src) p1 hc1) (Warms.of_access (k := .addr dst) p2 hc2)
  have wrest : ∀ {sF : JState} {es : List Entry}, Pushes db s2 sF es → NoWarm es →
      Warms db s sF [.addr src, .addr dst] :=
    fun p hn => Warms.trans w12 (p.warms_nil hn)
  have nwBT : NoWarm [Entry.balanceTransfer src dst v] :=
    NoWarm.single (fun _ h => by cases h) (fun _ _ h => by cases h)
  obtain ⟨p3, hs3, _, _, _⟩ := touchAccount_pushes (db := db) hs2 ht1
  have p03 := Pushes.trans (Pushes.trans p1 p2) p3
  have hbal3 : BalOk (absT db s3) := p03.bal hbal
  have hb : fa.info.balance < W := by rw [← absT_balance_some db hs3]; exact hbal3 src
  by_cases hf : fa.info.balance < v
  · rw [if_pos hf] at h
    obtain ⟨rfl, rfl⟩ := h; exact ⟨⟨_, p03⟩, wrest p3 (NoWarm.touched _ _)⟩
  · rw [if_neg hf] at h
    have hv : v ≤ fa.info.balance := Nat.le_of_not_lt hf
    obtain ⟨ta0, s5, ta, hd4, ht2, h⟩ := h
    obtain ⟨p45, hs5, _, hne5, hb5⟩ := touchAccount_pushes (db := db) hd4 ht2
    have hB5 : (absT db s5).balance = upd (absT db s3).balance src (fa.info.balance - v) := by
      rw [hb5, absT_setAcct_bal db hs3]; rfl
    have hta : ta.info.balance = (upd (absT db s3).balance src (fa.info.balance - v)) dst := by
      rw [← hB5, absT_balance_some db hs5]
    have hfa : (absT db s3).balance src = fa.info.balance := absT_balance_some db hs3
    by_cases ho : ta.info.balance + v ≥ W
    · rw [if_pos ho] at h
      obtain ⟨f, hs5s, rfl, rfl⟩ := h
      have hfb : f.info.balance = fa.info.balance - v := by
        rw [← absT_balance_some db hs5s, hB5]; simp
      have ptail : Pushes db s3 (setAcct s5 src { f with info := { f.info with balance := U256.wadd f.info.balance v } }) ([] ++ _) :=
        transfer_tail (es := []) hs3 p45 (touchedOnly_ite _ _)
        (fun _ _ h => by simpa using h) rfl rfl rfl ?_ (by simp) ?_
        (hgF := Grows.upd hs5s rfl) (hrF := fun _ h => by simp at h)
      refine ⟨⟨_, Pushes.trans p03 ptail⟩, wrest (Pushes.trans p3 ptail)
        (NoWarm.append (NoWarm.append NoWarm.nil (NoWarm.touched _ _)) (NoWarm.touched _ _))⟩
      · simp only [undoTs]
        rw [absT_setAcct_bal db hs5s, hB5, hfb, wadd_sub_cancel hb hv, upd_upd_same, upd_self hfa]
      · intro _; apply BalOk.of_eq (x := absT db s3) _ hbal3
        rw [absT_setAcct_bal db hs5s, hB5, hfb, wadd_sub_cancel hb hv, upd_upd_same, upd_self hfa]; rfl
    · rw [if_neg ho] at h
      have hlt : ta.info.balance + v < W := Nat.lt_of_not_le ho
      obtain ⟨rfl, hp⟩ := h
      have p7 := pushEntry_some hp
      have e7 : absT db s' = setBal (absT db s5) (upd (absT db s5).balance dst (ta.info.balance + v)) := by
        rw [p7.absT db, absT_setAcct_bal db hs5]
      -- the debit and the credit are a move of `v` from `src` to `dst`; `Moved.undo` is the entry's undo
      obtain ⟨hok', -, hfin⟩ := (Ether.moved_transfer (f := (absT db s3).balance) (src := src) (dst := dst) (v := v)
          (by rw [hfa]; exact hv)).undo hbal3 (Nat.lt_of_le_of_lt hv hb)
          (fun hsd => by rw [hta, upd_ne _ _ (Ne.symm hsd)] at hlt; exact hlt)
      rw [hB5, hta, ← hfa] at e7
      have ptail : Pushes db s3 s' ([.balanceTransfer src dst v] ++ _) :=
        transfer_tail (es := [.balanceTransfer src dst v]) hs3 p45
        (touchedOnly_ite _ _) (fun t r hj => by simpa using p7.journal t r (by simpa using hj))
        p7.spec p7.pre p7.logs ?_ (by simp) ?_
        (hgF := Grows.congr_right p7.state (Grows.upd hs5 rfl))
        (hrF := fun e he => by
          simp at he; subst he
          refine refsOk_congr p7.state ?_
          have hsrc : ((setAcct s5 dst { ta with info := { ta.info with balance := ta.info.balance + v } }).state src).isSome := by
            by_cases e : src = dst
            · subst e; simp [setAcct_state_same]
            · rw [setAcct_state_ne _ _ e]
              exact p45.grows.acct src (by simp [setAcct_state_same])
          exact ⟨hsrc, by simp [setAcct_state_same]⟩)
      refine ⟨⟨_, Pushes.trans p03 ptail⟩, wrest (Pushes.trans p3 ptail)
        (NoWarm.append (NoWarm.append nwBT (NoWarm.touched _ _)) (NoWarm.touched _ _))⟩
      · simp only [undoTs, e7]
        exact congrArg (setBal (absT db s5)) hfin
      · intro _; rw [e7]; exact hok'



theorem upd_upd_upd_ne {α : Type} (g : Addr → α) {a t : Addr} (w u z : α) (h : ¬ a = t) :
    upd (upd (upd g t w) a u) t z = upd (upd g t z) a u := by
  funext b; unfold upd; by_cases hb : b = t
  · subst hb; have : ¬ b = a := fun e => h e.symm; simp [this]
  · simp [hb]

/-- `selfdestruct`, the part after the target is loaded, `a = target` -/
theorem selfdestruct_self {db : Db} {s sF : JState} {a : Addr} {acc : Acct} (cond : Prop) [Decidable cond]
    (hbal : BalOk (absT db s)) (hs : s.state a = some acc)
    (h : if cond then
            pushEntry (setAcct s a { acc with selfdestructed := true, info := { acc.info with balance := 0 } })
              (.accountDestroyed a a acc.selfdestructed acc.info.balance) = some sF
          else sF = s) : ∃ es, Pushes db s sF es ∧ NoWarm es := by
  have hba := absT_balance_some db hs
  have hb : acc.info.balance < W := by rw [← hba]; exact hbal a
  have hsd : (absT db s).selfdestructed a = acc.selfdestructed := by
    rw [absT_selfdestructed, absAcct_some db s hs]; rfl
  by_cases hc : cond
  · rw [if_pos hc] at h
    refine ⟨_, Pushes.of_push h rfl rfl rfl rfl ?_ (by simp) ?_ (hg := Grows.upd hs rfl)
        (hr := by simp [refsOk, setAcct_state_same]),
      NoWarm.single (fun _ h => by cases h) (fun _ _ h => by cases h)⟩
    · rw [absT_set_destroyed db hs]
      simp only [undoT, ne_eq, not_true_eq_false, if_false, upd_same, upd_upd_same, wadd_zero_left hb]
      rw [upd_self hsd, upd_self hba]
    · intro _
      rw [absT_set_destroyed db hs]
      exact Ether.upd_ok hbal a (by rw [W_val]; decide)
  · rw [if_neg hc] at h; rw [h]; exact ⟨[], Pushes.refl db s, NoWarm.nil⟩


theorem Grows.upd2 {s : JState} {a t : Addr} {acc tacc acc' tacc' : Acct} (hs : s.state a = some acc)
    (ht : s.state t = some tacc) (hat : ¬ a = t) (h1 : tacc'.storage = tacc.storage) (h2 : acc'.storage = acc.storage) :
    Grows s (Model.Journal.setAcct (Model.Journal.setAcct s t tacc') a acc') :=
  Grows.trans (Grows.upd (acc' := tacc') ht h1) (Grows.upd (acc := acc) ((setAcct_state_ne s _ hat).trans hs) h2)

/-- `selfdestruct`, `a ≠ target`: credit of the (touched) target, then the debit of `a` with its entry -/
theorem selfdestruct_other {db : Db} {s sF : JState} {a t : Addr} {acc tacc : Acct} (cond : Prop) [Decidable cond]
    (hat : ¬ a = t)
    (hbal : BalOk (absT db s)) (hs : s.state a = some acc) (hst : s.state t = some tacc)
    (h : if cond then
            pushEntry (setAcct (setAcct s t { tacc with info := { tacc.info with balance := U256.wadd tacc.info.balance acc.info.balance } })
                a { acc with selfdestructed := true, info := { acc.info with balance := 0 } })
              (.accountDestroyed a t acc.selfdestructed acc.info.balance) = some sF
          else
            pushEntry (setAcct (setAcct s t { tacc with info := { tacc.info with balance := U256.wadd tacc.info.balance acc.info.balance } })
                a { acc with info := { acc.info with balance := 0 } })
              (.balanceTransfer a t acc.info.balance) = some sF) : ∃ es, Pushes db s sF es ∧ NoWarm es := by
  have hta : ¬ t = a := fun e => hat e.symm
  have hba := absT_balance_some db hs
  have hbt := absT_balance_some db hst
  have hsd : (absT db s).selfdestructed a = acc.selfdestructed := by
    rw [absT_selfdestructed, absAcct_some db s hs]; rfl
  have hsa : (setAcct s t { tacc with info := { tacc.info with balance := U256.wadd tacc.info.balance acc.info.balance } }).state a
      = some acc := (setAcct_state_ne s _ hat).trans hs
  have hundo := Ether.sweep_undo (f := (absT db s).balance) hbal hat
  simp only [Ether.upd_eq] at hundo
  rw [hba, hbt] at hundo
  have hB : ∀ x, upd (upd (absT db s).balance t (U256.wadd tacc.info.balance acc.info.balance)) a 0 x < W :=
    Ether.upd_ok (Ether.upd_ok hbal t (wadd_lt _ _)) a (by rw [W_val]; decide)
  by_cases hc : cond
  · rw [if_pos hc] at h
    refine ⟨_, Pushes.of_push h rfl rfl rfl rfl ?_ (by simp) (fun _ => ?_)
        (hg := Grows.upd2 hs hst hat rfl rfl)
        (hr := by simp [refsOk, setAcct_state_same, setAcct_state_ne _ _ hta]),
      NoWarm.single (fun _ h => by cases h) (fun _ _ h => by cases h)⟩
    · rw [absT_set_destroyed db hsa, absT_set_balance db hst]
      simp only [undoT, ne_eq, hat, not_false_eq_true, if_true]
      rw [hundo, upd_upd_same, upd_self hsd]
    · rw [absT_set_destroyed db hsa, absT_set_balance db hst]; exact hB
  · rw [if_neg hc] at h
    refine ⟨_, Pushes.of_push h rfl rfl rfl rfl ?_ (by simp) (fun _ => ?_)
        (hg := Grows.upd2 hs hst hat rfl rfl)
        (hr := by simp [refsOk, setAcct_state_same, setAcct_state_ne _ _ hta]),
      NoWarm.single (fun _ h => by cases h) (fun _ _ h => by cases h)⟩
    · rw [absT_set_balance db hsa, absT_set_balance db hst]
      simp only [undoT]
      rw [hundo]
    · rw [absT_set_balance db hsa, absT_set_balance db hst]; exact hB


theorem selfdestruct_pushes {db : Db} {s s' : JState} {a t : Addr} {r : Bool × Bool × Bool × Bool}
    (hbal : BalOk (absT db s)) (h : selfdestruct db s a t = some (s', r)) :
    (∃ es, Pushes db s s' es) ∧ r.2.2.2 = !(absT db s).warm t ∧ Warms db s s' [.addr t] := by
  obtain ⟨s1, c1, tacc1, s2, acc, hl1, hst1, h3, hs2, h5, rfl⟩ := selfdestruct_some h
  obtain ⟨p1, hc1, _⟩ := loadAccount_pushes (db := db) hl1
  have w1 := Warms.of_access (k := .addr t) p1 hc1
  have hbal1 := p1.bal hbal
  by_cases hat : a = t
  · subst hat
    simp only [ne_eq, not_true_eq_false, if_false] at h3 h5
    subst h3
    obtain ⟨es, p2, n2⟩ := selfdestruct_self (db := db) _ hbal1 hs2 h5
    exact ⟨⟨_, Pushes.trans p1 p2⟩, hc1, Warms.trans w1 (p2.warms_nil n2)⟩
  · simp only [ne_eq, hat, not_false_eq_true, if_true] at h3 h5
    obtain ⟨acc0, s1', tacc, hs1, ht, rfl⟩ := h3
    obtain ⟨p2, hst2, _, hne2, _⟩ := touchAccount_pushes (db := db) hst1 ht
    have hs1' : s1'.state a = some acc0 := by rw [hne2 a hat]; exact hs1
    rw [setAcct_state_ne _ _ hat, hs1'] at hs2
    cases hs2
    obtain ⟨es, p3, n3⟩ := selfdestruct_other (db := db) _ hat (p2.bal hbal1) hs1' hst2 h5
    exact ⟨⟨_, Pushes.trans (Pushes.trans p1 p2) p3⟩, hc1,
      Warms.trans w1 ((Pushes.trans p2 p3).warms_nil (NoWarm.append n3 (NoWarm.touched _ _)))⟩

def setNonce (x : AState) (f : Addr → Nat) : AState := { x with nonce := f }

/-- `create_account_checkpoint` between the checkpoint and the endowment (`create_tail`): mark created (journaled),
drop the cached code, touch -/
theorem create_body1 {db : Db} {s s3 : JState} {a : Addr} {acc acc3 : Acct}
    (hs : s.state a = some acc) (hcr : acc.created = false) (hn : acc.info.nonce = 0)
    (hz : ∀ k, db.storage a k = 0) {s1 : JState}
    (hp : pushEntry (setAcct s a { acc with created := true }) (.accountCreated a) = some s1)
    (ht : touchAccount (setAcct s1 a { acc with created := true, info := { acc.info with code := none } }) a
            { acc with created := true, info := { acc.info with code := none } } = some (s3, acc3)) :
    Pushes db s s3 ((if acc.touched then [] else [.accountTouched a]) ++ [.accountCreated a]) ∧
      s3.state a = some acc3 ∧
      acc3 = { acc with created := true, info := { acc.info with code := none }, touched := true } := by
  have e1 : absT db (setAcct s a { acc with created := true }) = _ := absT_set_created db hs hz true acc.info.nonce
  have hc0 : (absT db s).created a = false := by rw [absT_created, absAcct_some db s hs]; exact hcr
  have p1 : Pushes db s s1 [.accountCreated a] := by
    refine Pushes.of_push hp rfl rfl rfl rfl ?_ (fun b hb => by cases hb; exact hz) (BalOk.of_eq (by rw [e1]))
      (hg := Grows.upd hs rfl) (hr := by simp [refsOk, setAcct_state_same])
    rw [e1]
    simp only [undoT, upd_upd_same]
    rw [upd_self hc0, upd_self (by rw [(absT_at db hs).2.1, hn])]
  have q1 := pushEntry_some hp
  have hs1 : s1.state a = some { acc with created := true } := by rw [q1.state]; simp [setAcct_state_same]
  have p2 : Pushes db s1 (setAcct s1 a { acc with created := true, info := { acc.info with code := none } }) [] :=
    Pushes.silent (absT_set_cache db hs1 none) rfl rfl rfl rfl (Grows.upd hs1 rfl)
  obtain ⟨p3, h3a, h3b, h3c, h3d⟩ := touchAccount_pushes (db := db) (setAcct_state_same _ _ _) ht
  refine ⟨?_, h3a, ?_⟩
  · have := Pushes.trans (Pushes.trans p1 p2) p3
    simpa using this
  · rw [h3b]

def bumpNonce (a : Addr) (n : Nat) (x : AState) : AState := setNonce x (upd x.nonce a n)

/-- the endowment of `create_account_checkpoint`: credit (and any nonce `n4`), debit of the caller, one entry -/
theorem create_tail {db : Db} {s3 s6 : JState} {a caller : Addr} {acc3 c : Acct} {bal : Nat} (n4 : Nat)
    (hs3 : s3.state a = some acc3) (hlt : acc3.info.balance + bal < W)
    (hc : (setAcct s3 a { acc3 with info := { acc3.info with balance := acc3.info.balance + bal, nonce := n4 } }).state caller = some c)
    (hbal : BalOk (absT db s3))
    (hp : pushEntry (setAcct (setAcct s3 a { acc3 with info := { acc3.info with balance := acc3.info.balance + bal, nonce := n4 } })
            caller { c with info := { c.info with balance := bsub c.info.balance bal } })
          (.balanceTransfer caller a bal) = some s6) :
    undoT (sdOf s3) (absT db s6) (.balanceTransfer caller a bal) = bumpNonce a n4 (absT db s3) ∧
    BalOk (absT db s6) := by
  have hba := absT_balance_some db hs3
  have hcc : upd (absT db s3).balance a (acc3.info.balance + bal) caller = c.info.balance := by
    have := absT_balance_some db hc
    rwa [absT_set_balance_nonce db hs3] at this
  have e6 : absT db s6 = { absT db s3 with
      balance := upd (upd (absT db s3).balance a ((absT db s3).balance a + bal)) caller
        (bsub (upd (absT db s3).balance a ((absT db s3).balance a + bal) caller) bal)
      nonce := upd (absT db s3).nonce a n4 } := by
    rw [(pushEntry_some hp).absT db, absT_set_balance db hc, absT_set_balance_nonce db hs3, ← hcc, hba]
  rw [← hba] at hlt
  rw [e6]
  -- the credit and the wrapping debit, then the undo of the entry: inverse to each other on words, whether or not
  -- the caller covers `bal`
  have hu : upd (upd _ caller _) a _ = (absT db s3).balance :=
    Ether.bCreateOk_undo (f := (absT db s3).balance) hbal (caller := caller) (a := a) (v := bal) hlt
  have h1 : upd (absT db s3).balance a ((absT db s3).balance a + bal) caller < W := Ether.upd_ok hbal a hlt caller
  exact ⟨congrArg (fun f : Addr → Nat =>
    ({ absT db s3 with balance := f, nonce := upd (absT db s3).nonce a n4 } : AState)) hu,
    Ether.upd_ok (Ether.upd_ok hbal a hlt) caller (bsub_lt h1)⟩


theorem checkpoint_journal (s : JState) : (checkpoint s).1.journal = [] :: s.journal := rfl
theorem checkpoint_absT (db : Db) (s : JState) : absT db (checkpoint s).1 = absT db s := rfl

/-- reverting the checkpoint that was just taken: the entries pushed since are exactly the top level -/
theorem revert_top {db : Db} {s sm sF : JState} {es : List Entry} (p : Pushes db (checkpoint s).1 sm es)
    (h : revert sm (checkpoint s).2 = some sF) : Pushes db s sF [] := by
  have hj : sm.journal = (es ++ []) :: s.journal := p.journal [] s.journal rfl
  have hab : above (checkpoint s).2.journalI sm.journal = es := by
    simp [above, hj, checkpoint]
  obtain ⟨_, r2, r3, r4, r5, r6⟩ := revert_abs db sm sF _ h (by rw [hab]; exact p.zero)
  have esd : sdOf sm = sdOf s := sdOf_eq p.spec
  have hab2 : absT db sF = absT db s := by
    rw [r2, hab, esd]; exact p.undo
  refine Pushes.silent hab2 ?_ (r3.trans p.spec) (r4.trans p.pre) ?_
    (Grows.trans (Grows.congr_left (s0 := (checkpoint s).1) rfl p.grows) (revert_grows h))
  · rw [r5, hj]; simp [checkpoint]
  · rw [r6, p.logs]; simp [checkpoint]


theorem nonce_ite (acc : Acct) (c : Prop) [Decidable c] :
    (if c then { acc with info := { acc.info with nonce := 1 } } else acc) =
      { acc with info := { acc.info with nonce := if c then 1 else acc.info.nonce } } := by
  by_cases h : c <;> simp [h]

/-- `create_account_checkpoint` under the admissibility conditions: a failed creation leaves no trace, a
successful one pushes a level whose entries undo it -/
theorem create_pushes {db : Db} {hasStorage : Addr → Bool} {s s' : JState} {caller a : Addr} {hs : Bool}
    {bal specId : Nat} {res : Except CreateErr Checkpoint}
    (hdb : DbOk db hasStorage) (hbal : BalOk (absT db s))
    (hcr : ∀ acc, s.state a = some acc → acc.created = false)
    (hhs : hs = true ∨ hasStorage a = false)
    (h : createAccountCheckpoint s caller a hs bal specId = some (s', res)) :
    match res with
    | .error _ => Pushes db s s' []
    | .ok cp => cp = (checkpoint s).2 ∧ ∃ es, Pushes db (checkpoint s).1 s' es ∧ NoWarm es := by
  obtain ⟨acc, hsa, h⟩ := create_some h
  have hsa' : s.state a = some acc := hsa
  by_cases hcol : acc.info.codeHash ≠ KECCAK_EMPTY ∨ acc.info.nonce ≠ 0 ∨ hs = true
  · rw [if_pos hcol] at h
    obtain ⟨hr, rfl⟩ := h
    exact revert_top (Pushes.refl db _) hr
  · rw [if_neg hcol] at h
    have hn : acc.info.nonce = 0 := by
      by_cases h0 : acc.info.nonce = 0
      · exact h0
      · exact absurd (Or.inr (Or.inl h0)) hcol
    have hhs' : hs = false := by
      cases hs
      · rfl
      · exact absurd (Or.inr (Or.inr rfl)) hcol
    have hz : ∀ k, db.storage a k = 0 := by
      rcases hhs with h | h
      · rw [hhs'] at h; cases h
      · exact hdb a h
    obtain ⟨s1, s3, acc3, hp, ht, h⟩ := h
    obtain ⟨p3, hs3, hacc3⟩ := create_body1 (db := db) hsa (hcr acc hsa') hn hz hp ht
    have hbal3 : BalOk (absT db s3) := p3.bal hbal
    by_cases hov : acc3.info.balance + bal ≥ W
    · rw [if_pos hov] at h
      obtain ⟨hr, rfl⟩ := h
      exact revert_top p3 hr
    · rw [if_neg hov] at h
      have hlt : acc3.info.balance + bal < W := Nat.lt_of_not_le hov
      obtain ⟨c, n4, _, hc, hp6, rfl⟩ := h
      refine ⟨rfl, ?_⟩
      obtain ⟨hu, hb6⟩ := create_tail (db := db) n4 hs3 hlt hc hbal3 hp6
      have q6 := pushEntry_some hp6
      have g36 : Grows s3 s' := by
        refine Grows.trans ?_ (Grows.congr_right q6.state (Grows.upd hc rfl))
        exact Grows.upd hs3 rfl
      refine ⟨.balanceTransfer caller a bal :: ((if acc.touched then [] else [.accountTouched a]) ++ [.accountCreated a]),
        ⟨fun t r hj => ?_, ?_, ?_, ?_, ?_, ?_, fun _ => hb6, ?_, ?_, ?_, ?_⟩,
        by cases acc.touched <;> exact ⟨fun b h => by simp at h, fun b k h => by simp at h⟩⟩
      · have := q6.journal _ _ (p3.journal t r hj)
        rw [this]; rfl
      · rw [q6.spec]; exact p3.spec
      · rw [q6.pre]; exact p3.pre
      · rw [q6.logs]; exact p3.logs
      · have esd : sdOf s3 = sdOf (checkpoint s).1 := sdOf_eq p3.spec
        simp only [undoTs]
        rw [← esd, hu, undoTs_append,
          undoTs_touched_comm _ (bumpNonce a n4) (fun x b => rfl) _ (touchedOnly_ite _ _)]
        have e0 := p3.undo
        rw [undoTs_append, ← esd] at e0
        rw [← e0]
        simp [undoTs, undoT, bumpNonce, setNonce, upd_upd_same]
      · intro b hb
        simp at hb
        exact p3.zero b (by simp [hb])
      · intro b hb
        cases hta : acc.touched <;> simp [hta] at hb
      · intro b k hb
        cases hta : acc.touched <;> simp [hta] at hb
      · exact Grows.trans p3.grows g36
      · intro e he
        rcases List.mem_cons.1 he with rfl | he
        · refine ⟨?_, g36.acct a (by simp [hs3])⟩
          rw [q6.state]; simp [setAcct_state_same]
        · exact refsOk_mono g36 (p3.refs e he)

end Revm.Proofs.Journal
