import Revm.Spec.InspectorHooks
/-! C29: the scanner `scan` decides `Balanced`; the one-stack reference machine emits words whose scan is its stack of open
notifications; the three-`Vec` handler model refines it over ANY leftover stacks (`Rel`, `runTx_spec`), so leftovers of an
aborted transaction are never popped. The word of a transaction is one bracket around the callbacks of the loop iterations
(`Mid`, `Shape`); callbacks that are no brackets are projections of the word (`BracketFree`). This `Mid` and `Rel` are not
those of the interpreter proofs (`InterpInsert`). -/
namespace Revm.Proofs.InspectorHooks
open Revm.Model.InspectorHooks Revm.Spec.InspectorHooks


theorem scan_append (u v : List Ev) : ∀ st, scan st (u ++ v) = (scan st u).bind (fun s => scan s v) := by
  induction u with
  | nil => intro st; simp [scan]
  | cons e u ih =>
    intro st
    cases e with
    | opn k i => simp [scan, ih]
    | cls k i o =>
      cases st with
      | nil => simp [scan]
      | cons p st' =>
        obtain ⟨k', i'⟩ := p
        by_cases h : k' = k ∧ i' = i
        · simp [scan, h, ih]
        · simp [scan, h]
    | _ => simp [scan, ih]

theorem scan_neutral_cons (e : Ev) (w : List Ev) (st : List (Kind × Nat)) (h : Ev.neutral e = true) :
    scan st (e :: w) = scan st w := by
  cases e <;> simp_all [scan, Ev.neutral]

theorem scan_of_balanced {w : List Ev} (h : Balanced w) : ∀ st, scan st w = some st := by
  induction h with
  | nil => intro st; rfl
  | neutral e w hn _ ih => intro st; rw [scan_neutral_cons e w st hn]; exact ih st
  | bracket k i o u v _ _ ihu ihv =>
    intro st
    show scan ((k, i) :: st) (u ++ Ev.cls k i o :: v) = some st
    rw [scan_append, ihu]
    simp [scan, ihv]

/-- `st` = the notifications still open (innermost first); the word closes them in that order and is
balanced in between and afterwards -/
inductive Closes : List (Kind × Nat) → List Ev → Prop
  | done (w : List Ev) : Balanced w → Closes [] w
  | close (k : Kind) (i o : Nat) (st : List (Kind × Nat)) (u w : List Ev) :
      Balanced u → Closes st w → Closes ((k, i) :: st) (u ++ Ev.cls k i o :: w)

theorem closes_neutral {st : List (Kind × Nat)} {w : List Ev} (e : Ev) (hn : Ev.neutral e = true)
    (h : Closes st w) : Closes st (e :: w) := by
  cases h with
  | done w hb => exact .done _ (.neutral e w hn hb)
  | close k i o st u w hb hc =>
    have : e :: (u ++ Ev.cls k i o :: w) = (e :: u) ++ Ev.cls k i o :: w := by simp
    rw [this]
    exact .close k i o st (e :: u) w (.neutral e u hn hb) hc

theorem closes_open {st : List (Kind × Nat)} {w : List Ev} {k : Kind} {i : Nat}
    (h : Closes ((k, i) :: st) w) : Closes st (Ev.opn k i :: w) := by
  cases h with
  | close _ _ o _ u w' hb hc =>
    cases hc with
    | done _ hb' => exact .done _ (.bracket k i o u w' hb hb')
    | close k2 i2 o2 st2 u2 w2 hb2 hc2 =>
      have : Ev.opn k i :: (u ++ Ev.cls k i o :: (u2 ++ Ev.cls k2 i2 o2 :: w2))
          = (Ev.opn k i :: (u ++ Ev.cls k i o :: u2)) ++ Ev.cls k2 i2 o2 :: w2 := by simp
      rw [this]
      exact .close k2 i2 o2 st2 _ w2 (.bracket k i o u u2 hb hb2) hc2

theorem closes_of_scan : ∀ (w : List Ev) (st : List (Kind × Nat)), scan st w = some [] → Closes st w := by
  intro w
  induction w with
  | nil =>
    intro st h
    simp [scan] at h
    subst h
    exact .done _ .nil
  | cons e w ih =>
    intro st h
    cases e with
    | opn k i => exact closes_open (ih _ (by simpa [scan] using h))
    | cls k i o =>
      cases st with
      | nil => simp [scan] at h
      | cons p st' =>
        obtain ⟨k', i'⟩ := p
        by_cases hk : k' = k ∧ i' = i
        · obtain ⟨rfl, rfl⟩ := hk
          have h' : scan st' w = some [] := by simpa [scan] using h
          have := Closes.close k' i' o st' [] w .nil (ih _ h')
          simpa using this
        · simp [scan, hk] at h
    | _ => exact closes_neutral _ rfl (ih _ (by simpa [scan] using h))

theorem balanced_of_scan {w : List Ev} (h : scan [] w = some []) : Balanced w := by
  have := closes_of_scan w [] h
  cases this with
  | done _ hb => exact hb

theorem check_iff (w : List Ev) : check w = true ↔ Balanced w := by
  constructor
  · intro h
    apply balanced_of_scan
    simpa [check] using h
  · intro h
    simp [check, scan_of_balanced h []]

theorem balanced_append {u v : List Ev} (hu : Balanced u) (hv : Balanced v) : Balanced (u ++ v) := by
  apply balanced_of_scan
  rw [scan_append, scan_of_balanced hu]
  simp [scan_of_balanced hv]

theorem balanced_counts {w : List Ev} (h : Balanced w) (k : Kind) :
    w.countP (isOpn k) = w.countP (isCls k) := by
  induction h with
  | nil => rfl
  | neutral e w hn _ ih =>
    cases e <;> simp_all [isOpn, isCls, Ev.neutral]
  | bracket k' i o u v _ _ ihu ihv =>
    simp only [List.countP_cons, List.countP_append, ihu, ihv, isOpn, isCls]
    by_cases hk : k' = k <;> simp [hk] <;> omega

def closers (st : List (Kind × Nat)) : List Ev := st.map fun p => Ev.cls p.1 p.2 0

theorem scan_closers : ∀ (st rest : List (Kind × Nat)), scan (st ++ rest) (closers st) = some rest := by
  intro st
  induction st with
  | nil => intro rest; simp [closers, scan]
  | cons p st ih =>
    intro rest
    obtain ⟨k, i⟩ := p
    have := ih rest
    simp [closers] at this
    simp [closers, scan, this]

/-- a word whose scan succeeds is a prefix of a balanced word: nothing is closed wrongly so far -/
theorem prefix_of_scan {w : List Ev} {st : List (Kind × Nat)} (h : scan [] w = some st) :
    Balanced (w ++ closers st) := by
  apply balanced_of_scan
  rw [scan_append, h]
  have := scan_closers st []
  simpa using this

theorem pop_push (s : Stacks) (k : Kind) (i : Nat) : (s.push k i).pop k = some (i, s) := by
  cases s; cases k <;> rfl

/-- the status after a result was delivered, `open_` being what is still open -/
def closeStatus {α : Type} (open_ : List α) (insertErr : Bool) : Status :=
  match open_ with
  | [] => .finished
  | _ :: _ => if insertErr then .aborted else .running

theorem closeStatus_map {α β : Type} (f : α → β) (l : List α) (ie : Bool) :
    closeStatus (l.map f) ie = closeStatus l ie := by cases l <;> rfl

theorem aDeliver_cons (k : Kind) (i : Nat) (rest : List (Kind × Nat)) (word : List Ev) (o : Nat) (ie : Bool) :
    aDeliver { opened := (k, i) :: rest, word := word } o ie =
      (closeStatus rest ie, { opened := rest, word := word ++ [Ev.cls k i o] }) := by
  cases rest <;> cases ie <;> rfl

theorem deliver_eq {st : St} {k : Kind} {i : Nat} {stk : Stacks} (hp : st.stk.pop k = some (i, stk)) (o : Nat)
    (ie : Bool) :
    deliver st k o ie = (closeStatus st.frames ie, { st with stk := stk, word := st.word ++ [Ev.cls k i o] }) := by
  obtain ⟨frames, stk0, word⟩ := st
  unfold deliver
  rw [hp]
  cases frames <;> cases ie <;> rfl

/-- the handler model's result and the reference machine's result describe the same run -/
structure Rel (b : Stacks) (r : Status × St) (ra : Status × ASt) : Prop where
  status : r.1 = ra.1
  word : r.2.word = ra.2.word
  stk : r.2.stk = stacksOf ra.2.opened b
  frames : r.1 = .running → r.2.frames = ra.2.opened.map Prod.fst

theorem deliver_rel (b : Stacks) (st : St) (a : ASt) (k : Kind) (i o : Nat) (ie : Bool) (rest : List (Kind × Nat))
    (hw : st.word = a.word) (ho : a.opened = (k, i) :: rest) (hstk : st.stk = stacksOf a.opened b)
    (hf : st.frames = rest.map Prod.fst) : Rel b (deliver st k o ie) (aDeliver a o ie) := by
  obtain ⟨opened, aword⟩ := a
  simp only [] at hw ho hstk
  subst ho
  have hp : st.stk.pop k = some (i, stacksOf rest b) := by rw [hstk]; exact pop_push _ k i
  rw [deliver_eq hp, aDeliver_cons, hf, closeStatus_map]
  exact ⟨rfl, by rw [hw], rfl, fun _ => rfl⟩
theorem spawn_rel (b : Stacks) (st : St) (a : ASt) (s : Spawn) (ie : Bool)
    (hw : st.word = a.word) (hstk : st.stk = stacksOf a.opened b)
    (hf : st.frames = a.opened.map Prod.fst) : Rel b (spawn st s ie) (aSpawn a s ie) := by
  obtain ⟨k, i, insp, h⟩ := s
  cases insp with
  | some o =>
    simp only [spawn, aSpawn]
    exact deliver_rel b _ _ k i o ie a.opened (by simp [hw]) rfl (by simp [stacksOf, hstk]) hf
  | none =>
    cases h with
    | err => exact ⟨by simp [spawn, aSpawn], by simp [spawn, aSpawn, hw], by simp [spawn, aSpawn, stacksOf, hstk], by simp [spawn, aSpawn]⟩
    | result o =>
      simp only [spawn, aSpawn]
      exact deliver_rel b _ _ k i o ie a.opened (by simp [hw]) rfl (by simp [stacksOf, hstk]) hf
    | frame =>
      exact ⟨by simp [spawn, aSpawn], by simp [spawn, aSpawn, hw], by simp [spawn, aSpawn, stacksOf, hstk], by simp [spawn, aSpawn, hf]⟩

theorem turn_rel (b : Stacks) (st : St) (a : ASt) (t : Turn)
    (hw : st.word = a.word) (hstk : st.stk = stacksOf a.opened b)
    (hf : st.frames = a.opened.map Prod.fst) (hne : a.opened ≠ []) : Rel b (turn st t) (aTurn a t) := by
  obtain ⟨ins, halt, next⟩ := t
  cases next with
  | fatal => exact ⟨by simp [turn, aTurn], by simp [turn, aTurn, hw], by simp [turn, aTurn, hstk], by simp [turn, aTurn]⟩
  | spawn s ie =>
    simp only [turn, aTurn]
    exact spawn_rel b _ _ s ie (by simp [hw]) hstk hf
  | ret o ie =>
    obtain ⟨frames, stk, word⟩ := st
    obtain ⟨opened, aword⟩ := a
    simp only [] at hw hstk hf hne
    cases opened with
    | nil => exact absurd rfl hne
    | cons p rest =>
      obtain ⟨k, i⟩ := p
      subst hw hstk hf
      cases o with
      | none => exact ⟨by simp [turn, aTurn], by simp [turn, aTurn], by simp [turn, aTurn], by simp [turn, aTurn]⟩
      | some o =>
        simp only [turn, aTurn, List.map_cons]
        exact deliver_rel b _ _ k i o ie rest rfl rfl rfl rfl

/-- a projection that ignores the bracket callbacks and `initialize_interp` -/
structure BracketFree {α : Type} (f : Ev → Option α) : Prop where
  opn : ∀ k i, f (Ev.opn k i) = none
  cls : ∀ k i o, f (Ev.cls k i o) = none
  init : f Ev.initInterp = none

theorem logProj_free : BracketFree logProj := ⟨fun _ _ => rfl, fun _ _ _ => rfl, rfl⟩
theorem sdProj_free : BracketFree sdProj := ⟨fun _ _ => rfl, fun _ _ _ => rfl, rfl⟩
theorem stepProj_free : BracketFree stepProj := ⟨fun _ _ => rfl, fun _ _ _ => rfl, rfl⟩

theorem postEvents_eq (x : Insn) :
    postEvents x = (insnLog x).toList.map Ev.log ++ (insnSd x).toList.map (fun n => Ev.selfdestruct n.1 n.2.1 n.2.2) := by
  cases x with
  | plain => rfl
  | logOp p a =>
    simp only [postEvents, insnLog, insnSd]
    split
    · cases a.getLast? <;> rfl
    · rfl
  | sdOp n =>
    cases n with
    | none => rfl
    | some t => rfl

theorem logs_postEvents (x : Insn) : (postEvents x).filterMap logProj = (insnLog x).toList := by
  rw [postEvents_eq]
  cases insnLog x <;> cases insnSd x <;> rfl

theorem sds_postEvents (x : Insn) : (postEvents x).filterMap sdProj = (insnSd x).toList := by
  rw [postEvents_eq]
  cases insnLog x <;> cases insnSd x <;> rfl

theorem steps_postEvents (x : Insn) : (postEvents x).filterMap stepProj = [] := by
  rw [postEvents_eq]
  cases insnLog x <;> cases insnSd x <;> rfl

theorem filterMap_turnEvents {α : Type} (f : Ev → Option α) (g : Insn → Option α) (hs : f .step = none)
    (he : f .stepEnd = none) (hp : ∀ x, (postEvents x).filterMap f = (g x).toList) (t : Turn) :
    (turnEvents t).filterMap f = (turnInsns t).filterMap g := by
  have hi : ∀ x, (insnEvents x).filterMap f = (g x).toList := fun x => by
    simp only [insnEvents, List.cons_append, List.nil_append, List.filterMap_cons, hs, he, hp]
  have hh : ∀ h : Option Insn, (haltEvents h).filterMap f = h.toList.filterMap g := by
    intro h
    cases h with
    | none => rfl
    | some x =>
      simp only [haltEvents, List.cons_append, List.nil_append, List.filterMap_cons, hs, hp, Option.toList,
        List.filterMap_nil]
      cases g x <;> rfl
  obtain ⟨ins, halt, next⟩ := t
  simp only [turnEvents, turnInsns, List.filterMap_append, hh]
  congr 1
  induction ins with
  | nil => rfl
  | cons x xs ih =>
    rw [List.flatMap_cons, List.filterMap_append, ih, hi, List.filterMap_cons]
    cases g x <;> rfl

theorem logs_turnEvents (t : Turn) : logsOf (turnEvents t) = (turnInsns t).filterMap insnLog :=
  filterMap_turnEvents logProj insnLog rfl rfl logs_postEvents t

theorem sds_turnEvents (t : Turn) : sdsOf (turnEvents t) = (turnInsns t).filterMap insnSd :=
  filterMap_turnEvents sdProj insnSd rfl rfl sds_postEvents t
theorem steps_turnEvents (t : Turn) :
    stepsOf (turnEvents t) = t.ins.flatMap (fun _ => [Ev.step, Ev.stepEnd]) ++ t.halt.toList.map (fun _ => Ev.step) := by
  obtain ⟨ins, halt, next⟩ := t
  simp only [stepsOf, turnEvents, List.filterMap_append]
  congr 1
  · induction ins with
    | nil => rfl
    | cons x xs ih =>
      simp only [List.flatMap_cons, List.filterMap_append, ih, insnEvents]
      simp [steps_postEvents x, stepProj]
  · cases halt with
    | none => rfl
    | some x => simp [haltEvents, steps_postEvents x, stepProj]

/-- the bracket callbacks of a word: `scan` looks at nothing else -/
def brProj (e : Ev) : Option Ev := if Ev.neutral e then none else some e

theorem scan_of_noBrackets : ∀ (w : List Ev) (st : List (Kind × Nat)), w.filterMap brProj = [] → scan st w = some st := by
  intro w
  induction w with
  | nil => intro st _; rfl
  | cons e w ih =>
    intro st h
    by_cases hn : Ev.neutral e = true
    · rw [scan_neutral_cons e w st hn]; exact ih st (by simpa [brProj, hn] using h)
    · simp [brProj, hn] at h

theorem scan_turnEvents (t : Turn) (st : List (Kind × Nat)) : scan st (turnEvents t) = some st := by
  apply scan_of_noBrackets
  rw [filterMap_turnEvents brProj (fun _ => none) rfl rfl (fun x => by
    rw [postEvents_eq]; cases insnLog x <;> cases insnSd x <;> rfl)]
  simp

theorem stepsPaired_append : ∀ (u v : List Ev), stepsPaired u = true → stepsPaired (u ++ v) = stepsPaired v := by
  intro u
  induction u using stepsPaired.induct with
  | case1 => intro v _; rfl
  | case2 w ih => intro v h; simp only [stepsPaired] at h; simpa [stepsPaired] using ih v h
  | case3 rest hne => intro v h; simp [stepsPaired] at h
  | case4 rest => intro v h; simp [stepsPaired] at h
  | case5 e w h1 h2 h3 ih =>
    intro v h
    cases e <;> simp_all [stepsPaired]

theorem stepsPaired_postEvents (x : Insn) : stepsPaired (postEvents x) = true := by
  rw [postEvents_eq]
  cases insnLog x <;> cases insnSd x <;> rfl

theorem stepsPaired_turnEvents (t : Turn) (h : t.halt = none) : stepsPaired (turnEvents t) = true := by
  obtain ⟨ins, halt, next⟩ := t
  simp only [] at h
  subst h
  simp only [turnEvents, haltEvents, List.append_nil]
  induction ins with
  | nil => rfl
  | cons x xs ih =>
    simp only [List.flatMap_cons, insnEvents, List.cons_append, List.nil_append, stepsPaired]
    rw [stepsPaired_append _ _ (stepsPaired_postEvents x)]
    exact ih

/-! After the transaction's own notification the word grows by one opening callback, one matching `*_end`,
`initialize_interp`, or the callbacks of one loop iteration (`Mid`). Only `runTx_spec` follows the two machines; what C29
says of the word is an induction on `Mid`. -/

/-- `Mid pre u us`: `u` is emitted after the first notification, leaves `pre` open above it (innermost first), and
holds the callbacks of the loop iterations `us` -/
inductive Mid : List (Kind × Nat) → List Ev → List Turn → Prop
  | nil : Mid [] [] []
  | opn {pre u us} (k : Kind) (i : Nat) : Mid pre u us → Mid ((k, i) :: pre) (u ++ [Ev.opn k i]) us
  | cls {pre u us} (k : Kind) (i o : Nat) : Mid ((k, i) :: pre) u us → Mid pre (u ++ [Ev.cls k i o]) us
  | init {pre u us} : Mid pre u us → Mid pre (u ++ [Ev.initInterp]) us
  | turn {pre u us} (t : Turn) : Mid pre u us → Mid pre (u ++ turnEvents t) (us ++ [t])

theorem Mid.scan_eq {pre u us} (h : Mid pre u us) (st : List (Kind × Nat)) : scan st u = some (pre ++ st) := by
  induction h with
  | nil => rfl
  | opn k i _ ih => rw [scan_append, ih]; simp [scan]
  | cls k i o _ ih => rw [scan_append, ih]; simp [scan]
  | init _ ih => rw [scan_append, ih]; simp [scan]
  | turn t _ ih => rw [scan_append, ih]; simp [scan_turnEvents]

theorem Mid.filterMap_eq {α : Type} {f : Ev → Option α} (hf : BracketFree f) {pre u us} (h : Mid pre u us) :
    u.filterMap f = us.flatMap fun t => (turnEvents t).filterMap f := by
  induction h with
  | nil => rfl
  | opn k i _ ih => simp [ih, hf.opn]
  | cls k i o _ ih => simp [ih, hf.cls]
  | init _ ih => simp [ih, hf.init]
  | turn t _ ih => simp [ih]

theorem Mid.stepsPaired_eq {pre u us} (h : Mid pre u us) (hh : ∀ t ∈ us, t.halt = none) : stepsPaired u = true := by
  induction h with
  | nil => rfl
  | opn k i _ ih => rw [stepsPaired_append _ _ (ih hh)]; rfl
  | cls k i o _ ih => rw [stepsPaired_append _ _ (ih hh)]; rfl
  | init _ ih => rw [stepsPaired_append _ _ (ih hh)]; rfl
  | turn t _ ih =>
    rw [stepsPaired_append _ _ (ih fun t' h' => hh t' (by simp [h']))]
    exact stepsPaired_turnEvents t (hh t (by simp))

/-- a result of the one-stack machine in a transaction opened by `opn k0 i0`: finished = that notification is closed
last; otherwise it is still open at the bottom -/
inductive Shape (k0 : Kind) (i0 : Nat) (us : List Turn) : Status × ASt → Prop
  | fin (u : List Ev) (o : Nat) : Mid [] u us →
      Shape k0 i0 us (.finished, ⟨[], Ev.opn k0 i0 :: (u ++ [Ev.cls k0 i0 o])⟩)
  | open_ (s : Status) (pre : List (Kind × Nat)) (u : List Ev) : s = .running ∨ s = .aborted → Mid pre u us →
      Shape k0 i0 us (s, ⟨pre ++ [(k0, i0)], Ev.opn k0 i0 :: u⟩)

theorem Shape.noPanic {k0 i0 us r} (h : Shape k0 i0 us r) : r.1 ≠ .panicked := by
  cases h with
  | fin => simp
  | open_ s _ _ hs => rcases hs with rfl | rfl <;> simp

theorem Shape.fin_iff {k0 i0 us r} (h : Shape k0 i0 us r) : r.1 = .finished ↔ r.2.opened = [] := by
  cases h with
  | fin => simp
  | open_ s _ _ hs => rcases hs with rfl | rfl <;> simp

theorem Shape.bracket {k0 i0 us r} (h : Shape k0 i0 us r) (hf : r.1 = .finished) :
    ∃ u o, r.2.word = Ev.opn k0 i0 :: (u ++ [Ev.cls k0 i0 o]) ∧ Balanced u := by
  cases h with
  | fin u o hm => exact ⟨u, o, rfl, balanced_of_scan (hm.scan_eq [])⟩
  | open_ s _ _ hs => rcases hs with rfl | rfl <;> simp at hf

theorem Shape.scanned {k0 i0 us r} (h : Shape k0 i0 us r) : scan [] r.2.word = some r.2.opened := by
  cases h with
  | fin u o hm => simp [scan, scan_append, hm.scan_eq]
  | open_ s pre u _ hm => simp [scan, hm.scan_eq]

theorem Shape.filterMap_eq {α : Type} {f : Ev → Option α} (hf : BracketFree f) {k0 i0 us r}
    (h : Shape k0 i0 us r) : r.2.word.filterMap f = us.flatMap fun t => (turnEvents t).filterMap f := by
  cases h with
  | fin u o hm => simp [hf.opn, hf.cls, hm.filterMap_eq hf]
  | open_ s pre u _ hm => simp [hf.opn, hm.filterMap_eq hf]

theorem Shape.stepsPaired_eq {k0 i0 us r} (h : Shape k0 i0 us r) (hh : ∀ t ∈ us, t.halt = none) :
    stepsPaired r.2.word = true := by
  cases h with
  | fin u o hm => show stepsPaired (u ++ _) = true; rw [stepsPaired_append _ _ (hm.stepsPaired_eq hh)]; rfl
  | open_ s pre u _ hm => exact hm.stepsPaired_eq hh

theorem aDeliver_shape {k0 i0 us pre u} (h : Mid pre u us) (o : Nat) (ie : Bool) :
    Shape k0 i0 us (aDeliver ⟨pre ++ [(k0, i0)], Ev.opn k0 i0 :: u⟩ o ie) := by
  cases pre with
  | nil => rw [List.nil_append, aDeliver_cons]; exact .fin u o h
  | cons p pre' =>
    obtain ⟨k, i⟩ := p
    rw [List.cons_append, aDeliver_cons]
    exact .open_ _ pre' (u ++ [Ev.cls k i o]) (by cases pre' <;> cases ie <;> simp [closeStatus]) (.cls k i o h)

/-- `aSpawn` after the notification is made and its inputs are pushed -/
def aAnswer (a : ASt) (s : Spawn) (ie : Bool) : Status × ASt :=
  match s.insp with
  | some o => aDeliver a o ie
  | none =>
    match s.h with
    | .err => (.aborted, a)
    | .result o => aDeliver a o ie
    | .frame => (.running, { a with word := a.word ++ [Ev.initInterp] })

theorem aAnswer_shape {k0 i0 us pre u} (h : Mid pre u us) (s : Spawn) (ie : Bool) :
    Shape k0 i0 us (aAnswer ⟨pre ++ [(k0, i0)], Ev.opn k0 i0 :: u⟩ s ie) := by
  obtain ⟨k, i, insp, hd⟩ := s
  cases insp with
  | some o => exact aDeliver_shape h o ie
  | none =>
    cases hd with
    | err => exact .open_ _ pre u (.inr rfl) h
    | result o => exact aDeliver_shape h o ie
    | frame => exact .open_ _ pre (u ++ [Ev.initInterp]) (.inl rfl) (.init h)

theorem aSpawn_shape {k0 i0 us pre u} (h : Mid pre u us) (s : Spawn) (ie : Bool) :
    Shape k0 i0 us (aSpawn ⟨pre ++ [(k0, i0)], Ev.opn k0 i0 :: u⟩ s ie) :=
  aAnswer_shape (pre := (s.k, s.i) :: pre) (.opn s.k s.i h) s ie

theorem aTurn_shape {k0 i0 us pre u} (h : Mid pre u us) (t : Turn) :
    Shape k0 i0 (us ++ [t]) (aTurn ⟨pre ++ [(k0, i0)], Ev.opn k0 i0 :: u⟩ t) := by
  have h1 := Mid.turn t h
  obtain ⟨ins, halt, next⟩ := t
  cases next with
  | fatal => exact .open_ _ pre _ (.inr rfl) h1
  | spawn s ie => exact aSpawn_shape h1 s ie
  | ret o ie =>
    cases o with
    | none => exact .open_ _ pre _ (.inr rfl) h1
    | some o => exact aDeliver_shape h1 o ie

theorem runTurns_spec (b : Stacks) {k0 i0} : ∀ (ts : List Turn) (st : St) (pre u us), Mid pre u us →
    st.word = Ev.opn k0 i0 :: u → st.stk = stacksOf (pre ++ [(k0, i0)]) b →
    st.frames = (pre ++ [(k0, i0)]).map Prod.fst →
    Rel b (runTurns st ts) (aRunTurns ⟨pre ++ [(k0, i0)], Ev.opn k0 i0 :: u⟩ ts) ∧
      Shape k0 i0 (us ++ ts.take (usedTurns st ts)) (aRunTurns ⟨pre ++ [(k0, i0)], Ev.opn k0 i0 :: u⟩ ts) := by
  intro ts
  induction ts with
  | nil =>
    intro st pre u us h hw hstk hf
    exact ⟨⟨rfl, hw, hstk, fun _ => hf⟩, by simpa using .open_ _ pre u (.inl rfl) h⟩
  | cons t ts ih =>
    intro st pre u us h hw hstk hf
    have hr := turn_rel b st ⟨pre ++ [(k0, i0)], Ev.opn k0 i0 :: u⟩ t hw hstk hf (by simp)
    have hsh := aTurn_shape (k0 := k0) (i0 := i0) h t
    simp only [runTurns, aRunTurns, usedTurns]
    cases hq : turn st t with
    | mk status st' =>
      cases hq' : aTurn ⟨pre ++ [(k0, i0)], Ev.opn k0 i0 :: u⟩ t with
      | mk status' a' =>
        rw [hq, hq'] at hr
        rw [hq'] at hsh
        obtain rfl : status = status' := hr.status
        cases status with
        | running =>
          cases hsh with
          | open_ _ pre' u' _ h' =>
            have := ih st' pre' u' _ h' hr.word hr.stk (hr.frames rfl)
            simpa using this
        | _ => exact ⟨hr, by simpa using hsh⟩

theorem runTx_spec (b : Stacks) (first : Spawn) (ts : List Turn) :
    Rel b (runTx b first ts) (aRunTx first ts) ∧
      Shape first.k first.i (ts.take (usedTx b first ts)) (aRunTx first ts) := by
  have hr := spawn_rel b { frames := [], stk := b, word := [] } { opened := [], word := [] } first false rfl rfl rfl
  have hsh : Shape first.k first.i [] (aSpawn { opened := [], word := [] } first false) :=
    aAnswer_shape (pre := []) (u := []) .nil first false
  simp only [runTx, aRunTx, usedTx]
  cases hq : spawn { frames := [], stk := b, word := [] } first false with
  | mk status st' =>
    cases hq' : aSpawn { opened := [], word := [] } first false with
    | mk status' a' =>
      rw [hq, hq'] at hr
      rw [hq'] at hsh
      obtain rfl : status = status' := hr.status
      cases status with
      | running =>
        cases hsh with
        | open_ _ pre' u' _ h' =>
          have := runTurns_spec b ts st' pre' u' [] h' hr.word hr.stk (hr.frames rfl)
          simpa using this
      | _ => exact ⟨hr, by simpa using hsh⟩

theorem runTx_rel (b : Stacks) (first : Spawn) (ts : List Turn) : Rel b (runTx b first ts) (aRunTx first ts) :=
  (runTx_spec b first ts).1

theorem filterMap_runTx {α : Type} (f : Ev → Option α) (hf : BracketFree f) (b : Stacks) (first : Spawn) (ts : List Turn) :
    (runTx b first ts).2.word.filterMap f =
      (ts.take (usedTx b first ts)).flatMap (fun t => (turnEvents t).filterMap f) := by
  obtain ⟨hr, hs⟩ := runTx_spec b first ts
  rw [hr.word]; exact hs.filterMap_eq hf

end Revm.Proofs.InspectorHooks
