import Revm.Proofs.BundleRevAcct
/-! The per-address invariant lifted to the whole `State` (cache, transition state, bundle) against the
reference plain state: preserved by `commit` (every EVM-reachable `EvmState`) and by `merge_transitions`, whose
block of reverts leads back on the reference state (`BlockSem`) and on the bundle state (`BlockRev`), both kept along a
history by `Hist`; runs of a fresh `State` (`fresh_run`), of a prefix of a history and of a history split in two. -/
namespace Revm.Proofs.Bundle
open Revm.Model.Bundle Revm.Spec.Bundle


/-- invariant of one address: `P` = pre-bundle (info, slots), `M` = reference (info, slots) at the last merge,
`R` = current reference (info, slots) -/
def AInv (dbi : Option Info) (c? : Option CacheAcct) (t? : Option Transition) (b? : Option BAcct)
    (Pi : Option Info) (Ps : Nat → Nat) (Mi : Option Info) (Ms : Nat → Nat) (Ri : Option Info) (Rs : Nat → Nat) : Prop :=
  dbi.map wc = Pi ∧ (Pi = none → ∀ k, Ps k = 0) ∧
  match c? with
  | none => t? = none ∧ b? = none ∧ Ri = Pi ∧ Rs = Ps ∧ Mi = Pi ∧ Ms = Ps
  | some c => CInv c Ri Rs ∧ ∃ ms, GInv t? c ms Mi Ms Ri Rs ∧ Facts ms Mi Ms ∧ BInv b? ms Pi Ps Mi Ms

/-- an address with a storage-wiping revert in some block is in the bundle with a destroyed-family status -/
def WipeInv (b : BState) : Prop :=
  ∀ blk, blk ∈ b.reverts → ∀ a r, (a, r) ∈ blk → r.wipe = true →
    ∃ o, b.state.get a = some o ∧ o.status.wasDestroyed = true

def WipeOnce (b : BState) : Prop :=
  (∀ blk, blk ∈ b.reverts → WF blk) ∧
  b.reverts.Pairwise (fun blk1 blk2 => ∀ a r1 r2, (a, r1) ∈ blk1 → r1.wipe = true → (a, r2) ∈ blk2 → r2.wipe = true → False)

/-- `p0` = plain state when the bundle was started, `Mp` = reference state at the last merge, `R` = now -/
structure SInv (s : SState) (p0 Mp R : Plain) : Prop where
  wfts : WF s.ts
  wfb : WF s.bundle.state
  wipe : WipeInv s.bundle
  once : WipeOnce s.bundle
  acct : ∀ a, AInv (s.db.get a) (s.cache.get a) (s.ts.get a) (s.bundle.state.get a)
    (p0.acct a) (fun k => p0.slot a k) (Mp.acct a) (fun k => Mp.slot a k) (R.acct a) (fun k => R.slot a k)

/-- the cache account `load_cache_account` makes of the database's answer -/
def loadOf (dbi : Option Info) : CacheAcct :=
  match dbi with
  | none => ⟨none, .loadedNotExisting⟩
  | some i => if i.isEmpty then ⟨some Info.dflt, .loadedEmptyEIP161⟩ else ⟨some i, .loaded⟩

theorem load_eq (s : SState) (a : Nat) :
    s.load a = match s.cache.get a with
      | some c => (s, c)
      | none => ({ s with cache := s.cache.set a (loadOf (s.db.get a)) }, loadOf (s.db.get a)) := by
  unfold SState.load loadOf
  cases s.cache.get a with
  | some c => rfl
  | none => cases s.db.get a <;> rfl

theorem load_ainv {dbi : Option Info} {t? : Option Transition} {b? : Option BAcct} {Pi : Option Info}
    {Ps : Nat → Nat} {Mi : Option Info} {Ms : Nat → Nat} {Ri : Option Info} {Rs : Nat → Nat}
    (h : AInv dbi none t? b? Pi Ps Mi Ms Ri Rs) :
    AInv dbi (some (loadOf dbi)) t? b? Pi Ps Mi Ms Ri Rs := by
  obtain ⟨h1, h2, h3, h4, h5, h6, h7, h8⟩ := h
  subst h3; subst h4; rw [h5, h6, h7, h8]
  refine ⟨h1, h2, ?_⟩
  have hc : CInv (loadOf dbi) Pi Ps := by
    cases dbi with
    | none =>
      have hP : Pi = none := by rw [← h1]; rfl
      exact ⟨by rw [hP]; rfl, ⟨rfl, fun h => (by cases h), fun _ => h2 hP⟩, fun h => (by cases h), fun h => (by cases h)⟩
    | some i =>
      by_cases he : i.isEmpty = true
      · have hl : loadOf (some i) = ⟨some Info.dflt, .loadedEmptyEIP161⟩ := by simp [loadOf, he]
        rw [hl]
        refine ⟨?_, ⟨rfl, fun h => (by cases h), fun h => (by cases h)⟩, fun _ j hj => ?_, fun h => (by cases h)⟩
        · rw [← h1]; simp only [Option.map]; rw [isEmpty_wc i he]
        · injection hj with hj; rw [← hj]; rfl
      · have hl : loadOf (some i) = ⟨some i, .loaded⟩ := by simp [loadOf, he]
        rw [hl]
        refine ⟨h1, ⟨rfl, fun h => (by cases h), fun h => (by cases h)⟩, fun h => (by cases h), fun _ j hj => ?_⟩
        injection hj with hj; rw [← hj]; simpa using he
  refine ⟨hc, (loadOf dbi).status, ⟨rfl, rfl, rfl⟩, ?_, ⟨rfl, rfl, ?_⟩⟩
  · have := hc.facts; rw [← Facts.wc_iff, hc.info] at this; exact this
  · cases dbi with
    | none => simp [loadOf]
    | some i => by_cases he : i.isEmpty = true <;> simp [loadOf, he]

def stepRes (s1 : SState) (a : Nat) (c' : CacheAcct) (tr : Option Transition) : SState :=
  { s1 with cache := s1.cache.set a c', ts := addT s1.ts a tr }

/-- one account of a committed `EvmState`: load, apply, record the transition -/
def stepAcct (s : SState) (e : Nat × EvmAcct) : Option SState :=
  match applyAccountState (s.load e.1).1.sc (s.load e.1).2 e.2 with
  | none => none
  | some r => some (stepRes (s.load e.1).1 e.1 r.1 r.2)

/-- `commit` as a sequence of per-account steps (`commit_eq`) -/
def commitSeq (s : SState) : List (Nat × EvmAcct) → Option SState
  | [] => some s
  | e :: rest => (stepAcct s e).bind (fun s' => commitSeq s' rest)

theorem load_ts (s : SState) (T : BMap Transition) (a : Nat) :
    ({ s with ts := T } : SState).load a = ({ (s.load a).1 with ts := T }, (s.load a).2) := by
  rw [load_eq, load_eq]
  cases s.cache.get a <;> rfl

theorem go_eq (rest : List (Nat × EvmAcct)) (s : SState) (trs : List (Nat × Transition)) :
    commitSeq { s with ts := addTransitions s.ts trs } rest =
      match SState.commit.go s trs rest with
      | none => none
      | some r => some { r.1 with ts := addTransitions r.1.ts r.2 } := by
  induction rest generalizing s trs with
  | nil => simp [SState.commit.go, commitSeq]
  | cons e rest ih =>
    obtain ⟨a, ea⟩ := e
    unfold SState.commit.go
    simp only [commitSeq, stepAcct, stepRes, load_ts]
    cases hap : applyAccountState (s.load a).1.sc (s.load a).2 ea with
    | none => simp
    | some r =>
      obtain ⟨c', tr⟩ := r
      simp only [Option.bind]
      have hts : (s.load a).1.ts = s.ts := by rw [load_eq]; cases s.cache.get a <;> rfl
      cases tr with
      | none =>
        have := ih { (s.load a).1 with cache := (s.load a).1.cache.set a c' } trs
        simp only [addT, hts] at this ⊢
        exact this
      | some t =>
        have := ih { (s.load a).1 with cache := (s.load a).1.cache.set a c' } (trs ++ [(a, t)])
        rw [addTransitions_snoc] at this
        simp only [hts] at this ⊢
        exact this

theorem commit_eq (s : SState) (accts : List (Nat × EvmAcct)) : s.commit accts = commitSeq s accts := by
  have := go_eq accts s []
  have h0 : ({ s with ts := addTransitions s.ts [] } : SState) = s := by cases s; rfl
  rw [h0] at this
  rw [this]
  unfold SState.commit
  cases SState.commit.go s [] accts with
  | none => rfl
  | some r => obtain ⟨s', trs⟩ := r; rfl

theorem load_props (s : SState) (p0 Mp R : Plain) (a : Nat) (h : SInv s p0 Mp R) :
    (s.load a).1.db = s.db ∧ (s.load a).1.sc = s.sc ∧ (s.load a).1.ts = s.ts ∧ (s.load a).1.bundle = s.bundle ∧
    (s.load a).1.cache.get a = some (s.load a).2 ∧ (∀ a', a' ≠ a → (s.load a).1.cache.get a' = s.cache.get a') ∧
    AInv (s.db.get a) (some (s.load a).2) (s.ts.get a) (s.bundle.state.get a)
      (p0.acct a) (fun k => p0.slot a k) (Mp.acct a) (fun k => Mp.slot a k) (R.acct a) (fun k => R.slot a k) := by
  have hA := h.acct a
  rw [load_eq]
  cases hg : s.cache.get a with
  | some c => rw [hg] at hA; exact ⟨rfl, rfl, rfl, rfl, hg, fun _ _ => rfl, hA⟩
  | none =>
    rw [hg] at hA
    refine ⟨rfl, rfl, rfl, rfl, by simp [get_set], fun a' ha' => ?_, load_ainv hA⟩
    simp only [get_set]
    have : ¬ a = a' := fun h => ha' h.symm
    simp [this]

theorem step_inv (s : SState) (p0 Mp R : Plain) (a : Nat) (ea : EvmAcct) (h : SInv s p0 Mp R)
    (hev : ea.touched = true → EvOk (R.acct a) (fun k => R.slot a k) ea) :
    ∃ s', stepAcct s (a, ea) = some s' ∧ SInv s' p0 Mp (applyCommitAcct s.sc R a ea) ∧ s'.sc = s.sc ∧ s'.bundle = s.bundle := by
  obtain ⟨hdb, hsc, hts, hbu, hca, hco, hA⟩ := load_props s p0 Mp R a h
  obtain ⟨hP1, hP2, hC, ms, hG, hF, hB⟩ := hA
  obtain ⟨c', tr, hap, hC', hG'⟩ := apply_event s.sc (s.load a).2 (s.ts.get a) ms _ _ _ _ ea hC hG hev
  have hst : stepAcct s (a, ea) = some (stepRes (s.load a).1 a c' tr) := by
    simp only [stepAcct, hsc, hap]
  refine ⟨_, hst, ⟨?_, ?_, ?_, ?_, fun a' => ?_⟩, hsc, hbu⟩
  · show WF (addT (s.load a).1.ts a tr)
    rw [hts]; exact addT_WF _ _ _ h.wfts
  · show WF (s.load a).1.bundle.state
    rw [hbu]; exact h.wfb
  · show WipeInv (s.load a).1.bundle
    rw [hbu]; exact h.wipe
  · show WipeOnce (s.load a).1.bundle
    rw [hbu]; exact h.once
  · show AInv ((s.load a).1.db.get a') (((s.load a).1.cache.set a c').get a') ((addT (s.load a).1.ts a tr).get a')
      ((s.load a).1.bundle.state.get a') _ _ _ _ _ _
    have hw : ea.touched = true → WF ea.storage := fun ht => (hev ht).wf
    have hRs : (fun k => (applyCommitAcct s.sc R a ea).slot a' k) =
        if a = a' then evSlots s.sc (fun k => R.slot a k) ea else fun k => R.slot a' k := by
      funext k; rw [applyCommitAcct_slot _ _ _ _ hw]; by_cases h : a = a' <;> simp [h]
    rw [hdb, hts, hbu, get_set, addT_get, applyCommitAcct_acct, hRs]
    by_cases haa : a = a'
    · subst haa
      simp only [if_true]
      exact ⟨hP1, hP2, hC', ms, hG', hF, hB⟩
    · simp only [haa, if_false]
      rw [hco a' (fun h => haa h.symm)]
      exact h.acct a'

theorem applyCommitAcct_other_acct (sc : Bool) (R : Plain) (a : Nat) (ea : EvmAcct) (a' : Nat) (h : a ≠ a') :
    (applyCommitAcct sc R a ea).acct a' = R.acct a' := by
  rw [applyCommitAcct_acct]; simp [h]

theorem commitSeq_inv (p0 Mp : Plain) (l : List (Nat × EvmAcct)) (s : SState) (R : Plain) (h : SInv s p0 Mp R) (hw : WF l)
    (hev : ∀ e, e ∈ l → e.2.touched = true → EvOk (R.acct e.1) (fun k => R.slot e.1 k) e.2) :
    ∃ s', commitSeq s l = some s' ∧ SInv s' p0 Mp (applyCommit s.sc R l) ∧ s'.sc = s.sc ∧ s'.bundle = s.bundle := by
  induction l generalizing s R with
  | nil => exact ⟨s, rfl, h, rfl, rfl⟩
  | cons e rest ih =>
    obtain ⟨a, ea⟩ := e
    rw [WF_cons] at hw
    obtain ⟨s1, h1, h2, h3, h3b⟩ := step_inv s p0 Mp R a ea h (hev (a, ea) List.mem_cons_self)
    have hev' : ∀ e, e ∈ rest → e.2.touched = true →
        EvOk ((applyCommitAcct s.sc R a ea).acct e.1) (fun k => (applyCommitAcct s.sc R a ea).slot e.1 k) e.2 := by
      intro e he ht
      have hne : a ≠ e.1 := fun hh => hw.1 (hh ▸ List.mem_map_of_mem (f := (·.1)) he)
      have hwa : ea.touched = true → WF ea.storage := fun ht => (hev (a, ea) List.mem_cons_self ht).wf
      have hRs : (fun k => (applyCommitAcct s.sc R a ea).slot e.1 k) = fun k => R.slot e.1 k := by
        funext k; rw [applyCommitAcct_slot _ _ _ _ hwa]; simp [hne]
      rw [applyCommitAcct_other_acct _ _ _ _ _ hne, hRs]
      exact hev e (List.mem_cons_of_mem _ he) ht
    obtain ⟨s2, h4, h5, h6, h6b⟩ := ih s1 _ h2 hw.2 hev'
    refine ⟨s2, by simp only [commitSeq, h1, Option.bind]; exact h4, ?_, by rw [h6, h3], by rw [h6b, h3b]⟩
    rw [h3] at h5
    exact h5

theorem commit_inv (sc : Bool) (p0 Mp R : Plain) (s : SState) (l : List (Nat × EvmAcct)) (h : SInv s p0 Mp R) (hsc : s.sc = sc)
    (hd : distinctKeys l = true) (hr : l.all (fun e => evmOk sc R e.1 e.2) = true) :
    ∃ s', s.commit l = some s' ∧ SInv s' p0 Mp (applyCommit sc R l) ∧ s'.sc = sc ∧ s'.bundle = s.bundle := by
  have hev : ∀ e, e ∈ l → e.2.touched = true → EvOk (R.acct e.1) (fun k => R.slot e.1 k) e.2 :=
    fun e he ht => evOk_of sc R e.1 e.2 (List.all_eq_true.mp hr e he) ht
  obtain ⟨s', h1, h2, h3, h4⟩ := commitSeq_inv p0 Mp l s R h (distinctKeys_WF l hd) hev
  rw [hsc] at h2 h3
  exact ⟨s', by rw [commit_eq]; exact h1, h2, h3, h4⟩

def newContracts (b : BState) (t : Transition) : List Nat :=
  match t.hasNewContract with | some h => insertContract b.contracts h | none => b.contracts

/-- `applyOne_eq` with the result of `oneAcct` given -/
theorem applyOne_eq' {b : BState} {a : Nat} {t : Transition} {b?' : Option BAcct} {rev : Option ARevert}
    (h : oneAcct (b.state.get a) t = some (b?', rev)) :
    applyOne b a t = some (⟨setOpt b.state a b?', newContracts b t, b.reverts⟩, rev) := by
  rw [applyOne_eq, h]; cases b?' <;> rfl

theorem go_cons {b b1 : BState} (revs : BMap ARevert) {a : Nat} {t : Transition} (rest : List (Nat × Transition))
    {rev : Option ARevert} (h : applyOne b a t = some (b1, rev)) :
    applyTransitions.go true b revs ((a, t) :: rest) = applyTransitions.go true b1 (pushOpt revs a rev) rest := by
  rw [applyTransitions.go]
  simp only [h]
  cases rev <;> rfl

/-- the loop of `merge_transitions` from a per-address rule for `oneAcct` -/
theorem go_fold (Pre : Nat → Transition → Option BAcct → Prop)
    (Post : Nat → Transition → Option BAcct → Option ARevert → Prop)
    (hstep : ∀ a t b?, Pre a t b? → ∃ b?' rev, oneAcct b? t = some (b?', rev) ∧ Post a t b?' rev)
    (l : List (Nat × Transition)) (b : BState) (revs : BMap ARevert) (hwl : WF l) (hwb : WF b.state) (hwr : WF revs)
    (hdis : ∀ a t, BMap.get l a = some t → revs.get a = none)
    (hpre : ∀ a t, BMap.get l a = some t → Pre a t (b.state.get a)) :
    ∃ b' revs', applyTransitions.go true b revs l = some (b', revs') ∧ WF b'.state ∧ b'.reverts = b.reverts ∧ WF revs' ∧
      (∀ a, BMap.get l a = none → b'.state.get a = b.state.get a ∧ revs'.get a = revs.get a) ∧
      (∀ a t, BMap.get l a = some t → Post a t (b'.state.get a) (revs'.get a)) := by
  induction l generalizing b revs with
  | nil =>
    refine ⟨b, revs, by simp [applyTransitions.go], hwb, rfl, hwr, fun _ _ => ⟨rfl, rfl⟩, fun a t h => ?_⟩
    simp [BMap.get] at h
  | cons e rest ih =>
    obtain ⟨a, t⟩ := e
    rw [WF_cons] at hwl
    have hga : BMap.get ((a, t) :: rest) a = some t := by simp [get_cons]
    have hrn : BMap.get rest a = none := get_none_of_not_mem rest a hwl.1
    obtain ⟨b?', rev, h1, h2⟩ := hstep a t _ (hpre a t hga)
    have hone := applyOne_eq' h1
    have hra := hdis a t hga
    have hne : ∀ a' t', BMap.get rest a' = some t' → a' ≠ a := by
      intro a' t' h hh; rw [hh, hrn] at h; cases h
    have hrest : ∀ a' t', BMap.get rest a' = some t' → BMap.get ((a, t) :: rest) a' = some t' := by
      intro a' t' h
      rw [get_cons]
      have : ¬ a = a' := fun hh => hne a' t' h hh.symm
      simp only [this, if_false]; exact h
    obtain ⟨b', revs', g1, g2, g3, g4, g5, g6⟩ := ih
      ⟨setOpt b.state a b?', newContracts b t, b.reverts⟩ (pushOpt revs a rev) hwl.2 (setOpt_WF _ _ hwb)
      (pushOpt_WF _ hwr hra)
      (fun a' t' h => by rw [pushOpt_get_ne _ _ (hne a' t' h)]; exact hdis a' t' (hrest a' t' h))
      (fun a' t' h => by
        show Pre a' t' ((setOpt b.state a b?').get a')
        rw [setOpt_get_ne _ _ (hne a' t' h)]; exact hpre a' t' (hrest a' t' h))
    refine ⟨b', revs', by rw [go_cons _ _ hone]; exact g1, g2, g3, g4, fun a' h => ?_, fun a' t' h => ?_⟩
    · rw [get_cons] at h
      by_cases haa : a = a'
      · simp [haa] at h
      · simp only [haa, if_false] at h
        obtain ⟨q1, q2⟩ := g5 a' h
        exact ⟨by rw [q1]; exact setOpt_get_ne _ _ (fun hh => haa hh.symm),
               by rw [q2]; exact pushOpt_get_ne _ _ (fun hh => haa hh.symm)⟩
    · rw [get_cons] at h
      by_cases haa : a = a'
      · subst haa
        simp only [if_true] at h
        injection h with h; subst h
        obtain ⟨q1, q2⟩ := g5 a hrn
        rw [q1, q2]
        show Post a t ((setOpt b.state a b?').get a) _
        rw [setOpt_get_self (fun hn => by rw [hn] at h1; exact oneAcct_none h1), pushOpt_get_self _ hra]
        exact h2
      · simp only [haa, if_false] at h
        exact g6 a' t' h

/-- one block of reverts leads from the reference state `R` back to the reference state `Mp` -/
def BlockSem (blk : BMap ARevert) (p0 Mp R : Plain) : Prop :=
  WF blk ∧ ∀ a, ∃ ms, RevSem (blk.get a) ms (fun k => p0.slot a k) (Mp.acct a) (fun k => Mp.slot a k)
    (R.acct a) (fun k => R.slot a k)

/-- the block leads back from bundle state `B1` / reference `R` to `B0` / reference `Mp`. `selfc` (not the field of
that name in `AddrPost`): an address with a revert that was neither in the bundle nor in the reference state before
the group did not exist when the bundle was started. -/
structure BlockRev (blk : BMap ARevert) (B0 B1 : BMap BAcct) (p0 Mp R : Plain) : Prop where
  wf : WF blk
  triple : ∀ a, RevTriple (blk.get a) (B0.get a) (B1.get a) (fun k => p0.slot a k)
    (Mp.acct a) (fun k => Mp.slot a k) (R.acct a) (fun k => R.slot a k)
  selfc : ∀ a r, blk.get a = some r → B0.get a = none → Mp.acct a = none → p0.acct a = none
  mono : ∀ a, (B0.get a).isSome = true → (B1.get a).isSome = true
  pres : ∀ a r, blk.get a = some r → (B1.get a).isSome = true

theorem merge_fold {s : SState} {p0 Mp R : Plain} (h : SInv s p0 Mp R)
    (Post : Nat → Transition → Option BAcct → Option ARevert → Prop)
    (hstep : ∀ a t c, s.cache.get a = some c → CInv c (R.acct a) (fun k => R.slot a k) →
      TInv t c (Mp.acct a) (fun k => Mp.slot a k) (fun k => R.slot a k) →
      Facts t.prevStatus (Mp.acct a) (fun k => Mp.slot a k) →
      BInv (s.bundle.state.get a) t.prevStatus (p0.acct a) (fun k => p0.slot a k) (Mp.acct a) (fun k => Mp.slot a k) →
      ∃ b?' rev, oneAcct (s.bundle.state.get a) t = some (b?', rev) ∧ Post a t b?' rev) :
    ∃ st' cs' blk, s.merge true = some ⟨s.db, s.sc, s.cache, [], ⟨st', cs', s.bundle.reverts ++ [blk]⟩⟩ ∧
      WF st' ∧ WF blk ∧
      (∀ a, s.ts.get a = none → st'.get a = s.bundle.state.get a ∧ blk.get a = none) ∧
      (∀ a t, s.ts.get a = some t → Post a t (st'.get a) (blk.get a)) := by
  obtain ⟨b', revs', g1, g2, g3, g4, g5, g6⟩ := go_fold
    (fun a t b? => b? = s.bundle.state.get a ∧ s.ts.get a = some t) Post
    (fun a t b? ⟨hbe, hta⟩ => by
      obtain ⟨_, _, hrest⟩ := h.acct a
      cases hc : s.cache.get a with
      | none => rw [hc, hta] at hrest; cases hrest.1
      | some c =>
        rw [hc, hta] at hrest
        obtain ⟨hC, ms, ⟨hT, hms⟩, hF, hB⟩ := hrest
        rw [hms] at hF hB
        rw [hbe]; exact hstep a t c hc hC hT hF hB)
    s.ts s.bundle [] h.wfts h.wfb WF_nil (fun _ _ _ => rfl) (fun a t ht => ⟨rfl, ht⟩)
  refine ⟨b'.state, b'.contracts, revs', ?_, g2, g4, g5, g6⟩
  simp only [SState.merge, applyTransitions, g1, Option.map, g3]

/-- an address without a pending transition: nothing is recorded, nothing has changed since the last merge -/
theorem AddrPost.idle {dbi : Option Info} {c? : Option CacheAcct} {b? : Option BAcct} {Pi : Option Info}
    {Ps : Nat → Nat} {Mi : Option Info} {Ms : Nat → Nat} {Ri : Option Info} {Rs : Nat → Nat}
    (h : AInv dbi c? none b? Pi Ps Mi Ms Ri Rs) : AddrPost c? b? .loaded Pi Ps Mi Ms Ri Rs b? none := by
  obtain ⟨_, _, hrest⟩ := h
  have hsame : Mi = Ri ∧ ∀ k, Ms k = Rs k := by
    cases c? with
    | none => obtain ⟨_, _, q3, q4, q5, q6⟩ := hrest; exact ⟨by rw [q5, q3], fun k => by rw [q6, q4]⟩
    | some c => obtain ⟨_, ms, ⟨q1, q2, _⟩, _, _⟩ := hrest; exact ⟨q1, congrFun q2⟩
  refine ⟨fun c hc => ?_, hsame, fun _ hr => (by cases hr), fun o ho hwd => ⟨o, ho, hwd⟩,
    revTriple_same _ _ hsame.1 hsame.2, fun hr => (by cases hr), id, fun hr => (by cases hr)⟩
  subst hc
  obtain ⟨_, ms, ⟨q1, q2, q3⟩, _, hB⟩ := hrest
  rw [← q1, ← q2, ← q3]; exact hB

/-- `merge_transitions` never reaches an `unreachable!` and re-establishes the invariant with the current reference
state as the last merge; every clause, those of `BlockSem` and `BlockRev` too, is read off the per-address `AddrPost` -/
theorem merge_inv {s : SState} {p0 Mp R : Plain} (h : SInv s p0 Mp R) :
    ∃ s' blk, s.merge true = some s' ∧ SInv s' p0 R R ∧ s'.ts = [] ∧ s'.sc = s.sc ∧
      s'.bundle.reverts = s.bundle.reverts ++ [blk] ∧ BlockSem blk p0 Mp R ∧
      BlockRev blk s.bundle.state s'.bundle.state p0 Mp R := by
  obtain ⟨st', cs', blk, hm, hwst, hwblk, hsame, hpost⟩ := merge_fold h
    (fun a t b?' rev => AddrPost (s.cache.get a) (s.bundle.state.get a) t.prevStatus (p0.acct a) (fun k => p0.slot a k)
      (Mp.acct a) (fun k => Mp.slot a k) (R.acct a) (fun k => R.slot a k) b?' rev)
    (fun a t c hc hC hT hF hB => by rw [hc]; exact oneAcct_post hB hF hT hC)
  have hall : ∀ a, ∃ ms, AddrPost (s.cache.get a) (s.bundle.state.get a) ms (p0.acct a) (fun k => p0.slot a k)
      (Mp.acct a) (fun k => Mp.slot a k) (R.acct a) (fun k => R.slot a k) (st'.get a) (blk.get a) := by
    intro a
    cases ht : s.ts.get a with
    | none => rw [(hsame a ht).1, (hsame a ht).2]; have := h.acct a; rw [ht] at this; exact ⟨_, AddrPost.idle this⟩
    | some t => exact ⟨_, hpost a t ht⟩
  refine ⟨_, blk, hm, ⟨WF_nil, hwst, fun b hb a r hmem hw => ?_, ⟨fun b hb => ?_, ?_⟩, fun a => ?_⟩, rfl, rfl, rfl,
    ⟨hwblk, fun a => (hall a).imp fun _ hp => hp.sem⟩,
    ⟨hwblk, fun a => (hall a).elim fun _ hp => hp.triple,
      fun a r hg hn hM => (hall a).elim fun _ hp => by rw [← hp.selfc (by rw [hg]; rfl) hn]; exact hM,
      fun a => (hall a).elim fun _ hp => hp.mono, fun a r hg => (hall a).elim fun _ hp => hp.pres (by rw [hg]; rfl)⟩⟩
  · obtain ⟨_, hp⟩ := hall a
    rcases List.mem_append.mp hb with h1 | h1
    · obtain ⟨o, ho, hwd⟩ := h.wipe b h1 a r hmem hw
      exact hp.keep o ho hwd
    · rw [List.mem_singleton.mp h1] at hmem
      exact (hp.wipe r (get_some_of_mem _ hwblk a r hmem) hw).1
  · rcases List.mem_append.mp hb with h1 | h1
    · exact h.once.1 b h1
    · rw [List.mem_singleton.mp h1]; exact hwblk
  · show List.Pairwise _ (s.bundle.reverts ++ [blk])
    rw [List.pairwise_append]
    refine ⟨h.once.2, List.pairwise_singleton _ _, fun blk1 h1 blk2 h2 a r1 r2 hm1 hw1 hm2 hw2 => ?_⟩
    rw [List.mem_singleton.mp h2] at hm2
    obtain ⟨_, hp⟩ := hall a
    obtain ⟨o, ho, hwd⟩ := h.wipe blk1 h1 a r1 hm1 hw1
    have := (hp.wipe r2 (get_some_of_mem _ hwblk a r2 hm2) hw2).2 o ho
    rw [hwd] at this; cases this
  · show AInv (s.db.get a) (s.cache.get a) (BMap.get [] a) (st'.get a) _ _ _ _ _ _
    obtain ⟨hP1, hP2, hrest⟩ := h.acct a
    refine ⟨hP1, hP2, ?_⟩
    cases hc : s.cache.get a with
    | none =>
      rw [hc] at hrest
      obtain ⟨q1, q2, q3, q4, _, _⟩ := hrest
      exact ⟨rfl, by rw [(hsame a q1).1]; exact q2, q3, q4, q3, q4⟩
    | some c =>
      rw [hc] at hrest
      obtain ⟨_, hp⟩ := hall a
      refine ⟨hrest.1, c.status, ⟨rfl, rfl, rfl⟩, ?_, hp.binv c hc⟩
      have := hrest.1.facts; rw [← Facts.wc_iff, hrest.1.info] at this; exact this

theorem runGroup_inv (sc : Bool) (p0 Mp : Plain) (g : Group) (s : SState) (R : Plain) (h : SInv s p0 Mp R)
    (hsc : s.sc = sc) (hr : reachGroup sc R g = true) :
    ∃ s' blk, runGroup s R g = some (s', groupEnd sc R g) ∧ SInv s' p0 (groupEnd sc R g) (groupEnd sc R g) ∧
      s'.ts = [] ∧ s'.sc = sc ∧ s'.bundle.reverts = s.bundle.reverts ++ [blk] ∧
      BlockSem blk p0 Mp (groupEnd sc R g) ∧ BlockRev blk s.bundle.state s'.bundle.state p0 Mp (groupEnd sc R g) := by
  induction g generalizing s R with
  | nil =>
    obtain ⟨s', blk, h1, h2, h3, h4, h5, h6, h7⟩ := merge_inv h
    exact ⟨s', blk, by simp [runGroup, h1, groupEnd], h2, h3, by rw [h4, hsc], h5, h6, h7⟩
  | cons c cs ih =>
    simp only [reachGroup, Bool.and_eq_true] at hr
    obtain ⟨⟨hd, hall⟩, hrest⟩ := hr
    obtain ⟨s1, h1, h2, h3, h4⟩ := commit_inv sc p0 Mp R s c h hsc hd hall
    obtain ⟨s', blk, g1, g2, g3, g4, g5, g6, g7⟩ := ih s1 _ h2 h3 hrest
    refine ⟨s', blk, ?_, g2, g3, g4, by rw [g5, h4], g6, by rw [← h4]; exact g7⟩
    simp only [runGroup, h1, Option.bind, hsc]
    exact g1

/-- `blks[k]` leads from `refs[k]` back to `(R :: refs)[k]`: the reference states are oldest first, so `R` here is the
state before the first block, not the current one as elsewhere in this file -/
def BlocksSem (p0 : Plain) (blks : List (BMap ARevert)) (R : Plain) (refs : List Plain) : Prop :=
  blks.length = refs.length ∧
  ∀ (k : Nat) blk before after, blks[k]? = some blk → (R :: refs)[k]? = some before → refs[k]? = some after →
    BlockSem blk p0 before after

theorem BlocksSem_append (p0 : Plain) (A B : List (BMap ARevert)) (R rl : Plain) (refsA refsB : List Plain)
    (hA : BlocksSem p0 A R refsA) (hB : BlocksSem p0 B rl refsB) (hl : (R :: refsA).getLast? = some rl) :
    BlocksSem p0 (A ++ B) R (refsA ++ refsB) := by
  induction A generalizing R refsA with
  | nil =>
    have : refsA = [] := by
      cases refsA with
      | nil => rfl
      | cons _ _ => have := hA.1; simp at this
    subst this
    simp only [List.getLast?_singleton, Option.some.injEq] at hl
    subst hl
    simpa using hB
  | cons a A' ih =>
    cases refsA with
    | nil => have := hA.1; simp at this
    | cons x X =>
      have hA' : BlocksSem p0 A' x X := by
        refine ⟨by have := hA.1; simpa using this, fun k blk before after hb hbe haf => ?_⟩
        exact hA.2 (k + 1) blk before after (by simpa using hb) (by simpa using hbe) (by simpa using haf)
      have hl' : (x :: X).getLast? = some rl := by rw [List.getLast?_cons_cons] at hl; exact hl
      have hrec := ih x X hA' hl'
      refine ⟨by simp [hA'.1, hB.1], fun k blk before after hb hbe haf => ?_⟩
      cases k with
      | zero =>
        simp only [List.cons_append, List.getElem?_cons_zero, Option.some.injEq] at hb hbe haf
        exact hA.2 0 blk before after (by simp [hb]) (by simp [hbe]) (by simp [haf])
      | succ k =>
        simp only [List.cons_append, List.getElem?_cons_succ] at hb hbe haf
        exact hrec.2 k blk before after hb (by simpa using hbe) haf

def histEnd (sc : Bool) (p : Plain) (h : List Group) : Plain := h.foldl (groupEnd sc) p

theorem reachHistory_append (sc : Bool) (p : Plain) (h1 h2 : List Group) :
    reachHistory sc p (h1 ++ h2) = (reachHistory sc p h1 && reachHistory sc (histEnd sc p h1) h2) := by
  induction h1 generalizing p with
  | nil => simp [reachHistory, histEnd]
  | cons g gs ih => simp only [List.cons_append, reachHistory, ih, histEnd, List.foldl, Bool.and_assoc]

theorem reachHistory_take (sc : Bool) (p : Plain) (h : List Group) (m : Nat) (hr : reachHistory sc p h = true) :
    reachHistory sc p (h.take m) = true := by
  have := reachHistory_append sc p (h.take m) (h.drop m)
  rw [List.take_append_drop, hr] at this
  have := this.symm
  simp only [Bool.and_eq_true] at this
  exact this.1

theorem runHistory_take (h : List Group) : ∀ (s : SState) (p : Plain) (l : List (SState × Plain)) (m : Nat),
    runHistory s p h = some l → runHistory s p (h.take m) = some (l.take m) := by
  induction h with
  | nil => intro s p l m hr; simp only [runHistory, Option.some.injEq] at hr; subst hr; simp [runHistory]
  | cons g gs ih =>
    intro s p l m hr
    cases m with
    | zero => simp [runHistory]
    | succ m =>
      simp only [runHistory] at hr
      cases hg : runGroup s p g with
      | none => rw [hg] at hr; cases hr
      | some r =>
        rw [hg] at hr
        simp only [Option.bind] at hr
        cases hl' : runHistory r.1 r.2 gs with
        | none => rw [hl'] at hr; cases hr
        | some l' =>
          rw [hl'] at hr
          simp only [Option.map, Option.some.injEq] at hr
          subst hr
          simp only [List.take_succ_cons, runHistory, hg, Option.bind, ih r.1 r.2 l' m hl', Option.map]

/-- `blk`, recorded by one merge group, leads from the frame after the group back to the frame before it; a frame is
(forward bundle state, reference state) -/
def Link (p0 : Plain) (blk : BMap ARevert) (f0 f1 : BMap BAcct × Plain) : Prop :=
  BlockSem blk p0 f0.2 f1.2 ∧ BlockRev blk f0.1 f1.1 p0 f0.2 f1.2

/-- the history of a bundle, oldest first: `fs[i]` is the frame after `i` merge groups, `revs[i]` the block recorded
by group `i + 1` — the order in which `merge_transitions` appends the blocks -/
def Hist (p0 : Plain) : List (BMap BAcct × Plain) → List (BMap ARevert) → Prop
  | [_], [] => True
  | f0 :: f1 :: fs, blk :: revs => Link p0 blk f0 f1 ∧ Hist p0 (f1 :: fs) revs
  | _, _ => False

theorem Hist.length {p0 : Plain} : ∀ {fs : List (BMap BAcct × Plain)} {revs : List (BMap ARevert)},
    Hist p0 fs revs → fs.length = revs.length + 1
  | [_], [], _ => rfl
  | _ :: f1 :: fs, _ :: revs, h => by simp [Hist.length (fs := f1 :: fs) h.2]
  | [], _, h => by cases h
  | [_], _ :: _, h => by cases h
  | _ :: _ :: _, [], h => by cases h

theorem Hist.blocksSem {p0 : Plain} : ∀ {f : BMap BAcct × Plain} {fs : List (BMap BAcct × Plain)}
    {revs : List (BMap ARevert)}, Hist p0 (f :: fs) revs → BlocksSem p0 revs f.2 (fs.map (·.2))
  | f, [], [], _ => ⟨rfl, fun k _ _ _ hb => by simp at hb⟩
  | f, [], _ :: _, h => by cases h
  | f, f1 :: fs, [], h => by cases h
  | f, f1 :: fs, blk :: revs, h => by
    have ih := Hist.blocksSem h.2
    refine ⟨by simp [ih.1], fun k b before after hb hbe haf => ?_⟩
    cases k with
    | zero =>
      simp only [List.getElem?_cons_zero, Option.some.injEq, List.map] at hb hbe haf
      subst hb; subst hbe; subst haf; exact h.1.1
    | succ k =>
      simp only [List.getElem?_cons_succ, List.map_cons] at hb hbe haf
      exact ih.2 k b before after hb (by simpa using hbe) haf

/-- the latest block and the frame before the latest (what `revert_latest` undoes) -/
theorem Hist.unsnoc {p0 : Plain} {f : BMap BAcct × Plain} {blk : BMap ARevert} :
    ∀ {fs : List (BMap BAcct × Plain)} {pre : List (BMap ARevert)}, Hist p0 (fs ++ [f]) (pre ++ [blk]) →
      ∃ fs' f0, fs = fs' ++ [f0] ∧ Link p0 blk f0 f ∧ Hist p0 fs pre
  | [], pre, h => by cases pre <;> cases h
  | [g], [], h => ⟨[], g, rfl, h.1, trivial⟩
  | [g], _ :: pre, h => by cases pre <;> cases h.2
  | g :: g' :: rest, [], h => by cases rest <;> cases h.2
  | g :: g' :: rest, b :: pre, h => by
    obtain ⟨fs', f0, e, hl, hr⟩ := Hist.unsnoc (fs := g' :: rest) h.2
    exact ⟨g :: fs', f0, by rw [e]; rfl, hl, h.1, hr⟩

def frameOf (x : SState × Plain) : BMap BAcct × Plain := (x.1.bundle.state, x.2)

theorem map_frameOf_snd (l : List (SState × Plain)) : (l.map frameOf).map (·.2) = l.map (·.2) := by
  simp [frameOf, Function.comp_def]

theorem frames_snoc {l : List (SState × Plain)} {s : SState} {r : Plain} (f0 : BMap BAcct × Plain)
    (hl : l.getLast? = some (s, r)) : ∃ fs, f0 :: l.map frameOf = fs ++ [(s.bundle.state, r)] := by
  obtain ⟨ys, hys⟩ := List.getLast?_eq_some_iff.mp hl
  exact ⟨f0 :: ys.map frameOf, by rw [hys]; simp [frameOf]⟩

/-- a run from a state in the invariant: the blocks it appends are the history of its frames -/
theorem runHistory_inv (sc : Bool) (p0 : Plain) (h : List Group) (s : SState) (R : Plain)
    (hi : SInv s p0 R R) (hsc : s.sc = sc) (hts : s.ts = []) (hr : reachHistory sc R h = true) :
    ∃ l blks, runHistory s R h = some l ∧ l.length = h.length ∧
      Hist p0 ((s.bundle.state, R) :: l.map frameOf) blks ∧
      ∀ s' r, ((s, R) :: l).getLast? = some (s', r) → SInv s' p0 r r ∧ s'.ts = [] ∧ r = histEnd sc R h ∧
        s'.bundle.reverts = s.bundle.reverts ++ blks := by
  induction h generalizing s R with
  | nil =>
    refine ⟨[], [], rfl, rfl, trivial, fun s' r hl => ?_⟩
    simp only [List.getLast?_singleton, Option.some.injEq, Prod.mk.injEq] at hl
    rw [← hl.1, ← hl.2]; exact ⟨hi, hts, rfl, by simp⟩
  | cons g gs ih =>
    simp only [reachHistory, Bool.and_eq_true] at hr
    obtain ⟨s1, blk, g1, g2, g3, g4, g5, g6, g7⟩ := runGroup_inv sc p0 R g s R hi hsc hr.1
    obtain ⟨l', blks, q1, q2, qc, q3⟩ := ih s1 _ g2 g4 g3 hr.2
    refine ⟨(s1, groupEnd sc R g) :: l', blk :: blks, by simp [runHistory, g1, q1], by simp [q2], ⟨⟨g6, g7⟩, qc⟩,
      fun s' r hl => ?_⟩
    rw [List.getLast?_cons_cons] at hl
    obtain ⟨w1, w0, w2, w3⟩ := q3 s' r hl
    exact ⟨w1, w0, by rw [w2]; rfl, by rw [w3, g5, List.append_assoc]; rfl⟩

theorem init_inv (db : BMap Info) (sc : Bool) (p0 : Plain) (hdb : dbMatches db p0) (hwf : plainWF p0) :
    SInv { db := db, sc := sc } p0 p0 p0 :=
  ⟨WF_nil, WF_nil, fun blk hb => (by cases hb), ⟨fun blk hb => (by cases hb), List.Pairwise.nil⟩,
    fun a => ⟨hdb a, hwf a, rfl, rfl, rfl, rfl, rfl, rfl⟩⟩

theorem plainWF_of_inv {s : SState} {p0 Mp R : Plain} (h : SInv s p0 Mp R) : plainWF R := by
  intro a ha k
  obtain ⟨_, hP2, hrest⟩ := h.acct a
  cases hc : s.cache.get a with
  | none =>
    rw [hc] at hrest
    obtain ⟨_, _, q3, q4, _, _⟩ := hrest
    have := hP2 (by rw [← q3]; exact ha) k
    rw [← this]; exact congrFun q4 k
  | some c =>
    rw [hc] at hrest
    obtain ⟨hC, _⟩ := hrest
    exact hC.facts.none_zero (info_of_Ri_none hC ha) k

/-- the end `(s, r)` of the run of a fresh `State`, with the history of its bundle -/
structure FreshEnd (sc : Bool) (p0 : Plain) (h : List Group) (l : List (SState × Plain)) (s : SState) (r : Plain) :
    Prop where
  inv : SInv s p0 r r
  ts : s.ts = []
  ref : r = histEnd sc p0 h
  hist : Hist p0 ((([] : BMap BAcct), p0) :: l.map frameOf) s.bundle.reverts

theorem FreshEnd.blocks {sc : Bool} {p0 : Plain} {h : List Group} {l : List (SState × Plain)} {s : SState} {r : Plain}
    (hF : FreshEnd sc p0 h l s r) : BlocksSem p0 s.bundle.reverts p0 (l.map (·.2)) := by
  have := hF.hist.blocksSem; rwa [map_frameOf_snd] at this

theorem fresh_run (db : BMap Info) (sc : Bool) (p0 : Plain) (h : List Group)
    (hdb : dbMatches db p0) (hwf : plainWF p0) (hr : reachHistory sc p0 h = true) :
    ∃ l, runHistory { db := db, sc := sc } p0 h = some l ∧ l.length = h.length ∧
      ∀ s r, l.getLast? = some (s, r) → FreshEnd sc p0 h l s r := by
  obtain ⟨l, blks, h1, hlen, hh, h3⟩ :=
    runHistory_inv sc p0 h { db := db, sc := sc } p0 (init_inv db sc p0 hdb hwf) rfl rfl hr
  refine ⟨l, h1, hlen, fun s r hl => ?_⟩
  obtain ⟨ys, hys⟩ := List.getLast?_eq_some_iff.mp hl
  obtain ⟨i1, t1, e1, rv⟩ := h3 s r (List.getLast?_eq_some_iff.mpr ⟨_ :: ys, by rw [hys]; rfl⟩)
  exact ⟨i1, t1, e1, by rw [rv.trans (List.nil_append _)]; exact hh⟩

/-- the run of `h1 ++ h2` as two fresh runs, the second over a database matching the end of the first. `l2` is bound
outside `s1 r1`: the proof picks it by cases on `dbMatches db2 r1`. -/
theorem split_run (db db2 : BMap Info) (sc : Bool) (p0 : Plain) (h1 h2 : List Group)
    (hdb : dbMatches db p0) (hwf : plainWF p0) (hr : reachHistory sc p0 (h1 ++ h2) = true) :
    ∃ l1 l2, runHistory { db := db, sc := sc } p0 h1 = some l1 ∧
      ∀ s1 r1, l1.getLast? = some (s1, r1) → dbMatches db2 r1 →
        runHistory { db := db2, sc := sc } r1 h2 = some l2 ∧ l2.length = h2.length ∧ FreshEnd sc p0 h1 l1 s1 r1 ∧
        ∀ s2 r2, l2.getLast? = some (s2, r2) → FreshEnd sc r1 h2 l2 s2 r2 := by
  rw [reachHistory_append, Bool.and_eq_true] at hr
  obtain ⟨l1, q1, _, q3⟩ := fresh_run db sc p0 h1 hdb hwf hr.1
  cases hl1 : l1.getLast? with
  | none => exact ⟨l1, [], q1, fun s1 r1 h => by rw [hl1] at h; cases h⟩
  | some x =>
    obtain ⟨s1, r1⟩ := x
    have hF1 := q3 s1 r1 hl1
    by_cases hdb2 : dbMatches db2 r1
    · obtain ⟨l2, w1, w2, w3⟩ := fresh_run db2 sc r1 h2 hdb2 (plainWF_of_inv hF1.inv) (by rw [hF1.ref]; exact hr.2)
      refine ⟨l1, l2, q1, fun s1' r1' h _ => ?_⟩
      rw [hl1] at h; injection h with h; injection h with ha hb; subst ha; subst hb
      exact ⟨w1, w2, hF1, w3⟩
    · refine ⟨l1, [], q1, fun s1' r1' h hdb' => ?_⟩
      rw [hl1] at h; injection h with h; injection h with ha hb; subst ha; subst hb
      exact absurd hdb' hdb2

end Revm.Proofs.Bundle
