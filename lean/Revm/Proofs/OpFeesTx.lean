import Revm.Proofs.OpFeesGas
/-! C33: the balance steps of the Optimism handler for a validated regular transaction, their sum
(`conservation_core`), and for deposits; then the harness's frames (`execSimple` is `FrameQuiet`) and histories of
transactions on one `Evm`. `upd_same` / `upd_other` / `upd_self` at the top are facts about any map. -/
namespace Revm.Proofs.OpFees
open Revm Revm.U256 Revm.Model.Gas Revm.Model.OpFees

/-- the blob fee terms as the code sees them (`SPEC::enabled(CANCUN)`) -/
def maxData (tx : Tx) : Nat := if enabled tx.spec CANCUN then tx.maxDataFee else 0
/-- `hdf : dataFee' tx ≤ maxData tx` is a hypothesis downstream: both are fields of `Tx`, no check compares them -/
def dataFee' (tx : Tx) : Nat := if enabled tx.spec CANCUN then tx.dataFee else 0

theorem upd_same (f : Nat → Nat) (a v : Nat) : upd f a v a = v := by simp [upd]
theorem upd_other {f : Nat → Nat} {a v x : Nat} (h : x ≠ a) : upd f a v x = f x := by simp [upd, h]

theorem upd_self (f : Nat → Nat) (a : Nat) : upd f a (f a) = f := by
  funext x; unfold upd; by_cases h : x = a <;> simp [h]

theorem egp_le (tx : Tx) : effectiveGasPrice tx ≤ tx.gasPrice := by
  unfold effectiveGasPrice
  cases tx.priorityFee with
  | none => exact Nat.le_refl _
  | some p => exact Nat.min_le_left _ _

theorem mint_step {mint : Option Nat} {b : Nat} (h : b + mint.getD 0 < W) :
    mintStep mint b = b + mint.getD 0 := by
  unfold mintStep
  cases mint with
  | none => simp
  | some m => simp at h ⊢; exact wadd_eq h

/-! ### validation of a regular transaction -/

/-- what a successful `validate_tx_against_state` of a regular transaction establishes, `balW` apart (a range
hypothesis). `l1_eq`: the L1 cost cache of `info` is filled — asking again answers `l1` and leaves `info` -/
structure Validated (tx : Tx) (pre : St) (info : L1Info) (env : List Nat) (l1 chargeL : Nat) : Prop where
  env_eq : tx.enveloped = some env
  l1_eq : calculateTxL1Cost info env tx.spec = (l1, info)
  charge_eq : operatorFeeCharge info tx.gasLimit tx.spec = some chargeL
  bal : tx.gasLimit * tx.gasPrice + tx.value + l1 + chargeL + maxData tx ≤ pre.bal tx.caller
  balW : pre.bal tx.caller < W

theorem Validated.covers {tx : Tx} {pre : St} {info : L1Info} {env : List Nat} {l1 cL : Nat}
    (hv : Validated tx pre info env l1 cL) (hdf : dataFee' tx ≤ maxData tx) :
    tx.gasLimit * effectiveGasPrice tx + dataFee' tx + l1 + cL + tx.value ≤ pre.bal tx.caller := by
  have := Nat.mul_le_mul_left tx.gasLimit (egp_le tx)
  have := hv.bal
  omega

theorem bind_checkedAdd_some {o : Option Nat} {b c : Nat} (h : o.bind (checkedAdd · b) = some c) :
    ∃ a, o = some a ∧ c = a + b := by
  cases o with
  | none => cases h
  | some a => exact ⟨a, rfl, (Revm.Proofs.Gas.checkedAdd_some h).1⟩

theorem validated_of_ok {tx : Tx} {s : Slots} {pre : St} {oi : Option L1Info}
    (hdep : tx.isDeposit = false) (hW : pre.bal tx.caller < W)
    (h : validateTxAgainstState tx s pre = .ok oi) :
    ∃ info env l1 chargeL, oi = some info ∧ Validated tx pre info env l1 chargeL ∧
      calculateTxL1Cost (tryFetch s tx.spec) env tx.spec = (l1, info) := by
  unfold validateTxAgainstState at h
  rw [hdep, if_neg Bool.false_ne_true] at h
  unfold validateWith at h
  -- down the accepting path: every other arm is an error or a panic
  split at h
  · cases h
  split at h
  · cases h
  split at h
  · cases h
  rename_i env henv
  split at h
  rename_i l1 info hc
  split at h
  · cases h
  rename_i chargeL hch
  split at h
  · cases h
  rename_i bc hsum
  split at h
  · cases h
  rename_i bc' hfin
  split at h
  · cases h
  injection h with h
  obtain ⟨x3, h3, rfl⟩ := bind_checkedAdd_some hsum
  obtain ⟨x2, h2, rfl⟩ := bind_checkedAdd_some h3
  obtain ⟨x1, h1, rfl⟩ := bind_checkedAdd_some h2
  rw [(Revm.Proofs.Gas.checkedMul_some h1).1] at hfin
  have hbc : bc' = tx.gasLimit * tx.gasPrice + tx.value + l1 + chargeL + maxData tx := by
    unfold maxData
    split at hfin
    · rename_i hcan; rw [(Revm.Proofs.Gas.checkedAdd_some hfin).1, if_pos hcan]
    · rename_i hcan; injection hfin with hfin; rw [← hfin, if_neg hcan]; rfl
  have hidem := calculateTxL1Cost_idem (tryFetch s tx.spec) env tx.spec
  rw [hc] at hidem
  exact ⟨info, env, l1, chargeL, h.symm, ⟨henv, hidem, hch, by omega, hW⟩, hc⟩

theorem basefee_le_of_validateEnv (tx : Tx) (hdep : tx.isDeposit = false) (h : validateEnv tx = none) :
    tx.basefee ≤ effectiveGasPrice tx := by
  unfold validateEnv at h
  rw [hdep, if_neg Bool.false_ne_true] at h
  exact Nat.le_of_not_lt (Revm.Proofs.Gas.ite_some_none (Revm.Proofs.Gas.ite_some_none
    (Revm.Proofs.Gas.ite_some_none h).2).2).1

/-! ### `deduct_caller` -/

theorem deductInner_eq {tx : Tx} (b nonce : Nat)
    (h : tx.gasLimit * effectiveGasPrice tx + dataFee' tx < W) :
    deductCallerInner tx b nonce =
      (b - (tx.gasLimit * effectiveGasPrice tx + dataFee' tx),
       if tx.isCreate then nonce else U64ops.saturatingAdd nonce 1) := by
  unfold deductCallerInner dataFee' at *
  have h0 : tx.gasLimit * effectiveGasPrice tx < W := by omega
  by_cases hc : enabled tx.spec CANCUN = true
  · simp only [hc, if_true] at h ⊢
    rw [satMul_eq h0, satAdd_eq h]; rfl
  · simp only [hc, Bool.false_eq_true, if_false] at h ⊢
    rw [satMul_eq h0]; rfl

/-- the state a validated regular transaction hands to its first frame -/
def deducted (tx : Tx) (pre : St) (l1 chargeL : Nat) : St :=
  { bal := upd pre.bal tx.caller
      (pre.bal tx.caller + tx.mint.getD 0 - (tx.gasLimit * effectiveGasPrice tx + dataFee' tx) - l1 - chargeL),
    nonce := if tx.isCreate then pre.nonce else U64ops.saturatingAdd pre.nonce 1 }

theorem deducted_caller (tx : Tx) (pre : St) (l1 cL : Nat) :
    (deducted tx pre l1 cL).bal tx.caller =
      pre.bal tx.caller + tx.mint.getD 0 - (tx.gasLimit * effectiveGasPrice tx + dataFee' tx) - l1 - cL := by
  unfold deducted; simp only [upd_same]

theorem deducted_other {tx : Tx} (pre : St) (l1 cL : Nat) {x : Nat} (h : x ≠ tx.caller) :
    (deducted tx pre l1 cL).bal x = pre.bal x := by
  unfold deducted; simp only [upd_other h]

theorem deducted_add {tx : Tx} {pre : St} {info : L1Info} {env : List Nat} {l1 cL : Nat}
    (hv : Validated tx pre info env l1 cL) (hdf : dataFee' tx ≤ maxData tx) :
    (deducted tx pre l1 cL).bal tx.caller + tx.gasLimit * effectiveGasPrice tx + dataFee' tx + l1 + cL =
      pre.bal tx.caller + tx.mint.getD 0 ∧
    tx.value ≤ (deducted tx pre l1 cL).bal tx.caller := by
  have := hv.covers hdf
  rw [deducted_caller]
  omega

theorem deductCaller_regular {tx : Tx} {pre : St} {info : L1Info} {env : List Nat} {l1 chargeL : Nat}
    (hdep : tx.isDeposit = false) (hv : Validated tx pre info env l1 chargeL)
    (hmint : pre.bal tx.caller + tx.mint.getD 0 < W) (hdf : dataFee' tx ≤ maxData tx) :
    deductCaller tx pre (some info) = .ok (deducted tx pre l1 chargeL) (some info) := by
  have hfit : tx.gasLimit * effectiveGasPrice tx + dataFee' tx < W := by
    have := hv.covers hdf
    have := hv.balW
    omega
  unfold deductCaller deducted
  simp only [mint_step hmint, deductInner_eq _ _ hfit, hdep, Bool.false_eq_true, if_false, hv.env_eq,
    hv.l1_eq, hv.charge_eq, satSub_eq]

/-! ### `reimburse_caller`, `reward_beneficiary`, `output` -/

theorem operatorFeeRefund_eq {info : L1Info} {g : Gas} {spec cL cU : Nat}
    (h1 : operatorFeeCharge info g.limit spec = some cL)
    (h2 : operatorFeeCharge info (usedGas g) spec = some cU) :
    operatorFeeRefund info g spec = some (cL - cU) := by
  unfold operatorFeeRefund
  by_cases hi : enabled spec ISTHMUS = true
  · simp only [hi, Bool.not_true, Bool.false_eq_true, if_false, h1, h2]; rfl
  · unfold operatorFeeCharge at h1 h2
    simp only [hi, Bool.not_false, if_true] at h1 h2 ⊢
    simp_all

/-- the credits of `reimburse_caller` and `reward_beneficiary` on top of the balances `B` left by the frame -/
def credited (tx : Tx) (B : Nat → Nat) (back refundOp used l1 cU : Nat) : Nat → Nat :=
  let egp := effectiveGasPrice tx
  let b := upd B tx.caller (B tx.caller + egp * back)
  let b := upd b tx.caller (b tx.caller + refundOp)
  let b := upd b tx.coinbase (b tx.coinbase + (egp - tx.basefee) * used)
  let b := upd b L1_FEE_RECIPIENT (b L1_FEE_RECIPIENT + l1)
  let b := upd b BASE_FEE_RECIPIENT (b BASE_FEE_RECIPIENT + tx.basefee * used)
  upd b OPERATOR_FEE_RECIPIENT (b OPERATOR_FEE_RECIPIENT + cU)

/-- caller, coinbase and the three fee vaults are five accounts: each credit of `credited` lands on its own balance -/
structure FiveDistinct (tx : Tx) : Prop where
  c_cb : tx.caller ≠ tx.coinbase
  c_l1 : tx.caller ≠ L1_FEE_RECIPIENT
  c_bv : tx.caller ≠ BASE_FEE_RECIPIENT
  c_op : tx.caller ≠ OPERATOR_FEE_RECIPIENT
  cb_l1 : tx.coinbase ≠ L1_FEE_RECIPIENT
  cb_bv : tx.coinbase ≠ BASE_FEE_RECIPIENT
  cb_op : tx.coinbase ≠ OPERATOR_FEE_RECIPIENT

theorem l1_ne_bv : L1_FEE_RECIPIENT ≠ BASE_FEE_RECIPIENT := by decide
theorem l1_ne_op : L1_FEE_RECIPIENT ≠ OPERATOR_FEE_RECIPIENT := by decide
theorem bv_ne_op : BASE_FEE_RECIPIENT ≠ OPERATOR_FEE_RECIPIENT := by decide

theorem post_regular {tx : Tx} {B : Nat → Nat} {info : L1Info} {env : List Nat} {l1 cL cU : Nat} {g : Gas}
    (hdep : tx.isDeposit = false) (hlon : enabled tx.spec LONDON = true)
    (henv : tx.enveloped = some env) (hl1 : calculateTxL1Cost info env tx.spec = (l1, info))
    (hcL : operatorFeeCharge info g.limit tx.spec = some cL)
    (hcU : operatorFeeCharge info (usedGas g) tx.spec = some cU)
    (hg : GoodGas g) (hd : FiveDistinct tx)
    (f1 : B tx.caller + effectiveGasPrice tx * (g.remaining + g.refunded.toNat) + (cL - cU) < W)
    (f2 : B tx.coinbase + (effectiveGasPrice tx - tx.basefee) * usedGas g < W)
    (f3 : B L1_FEE_RECIPIENT + l1 < W)
    (f4 : B BASE_FEE_RECIPIENT + tx.basefee * usedGas g < W)
    (f5 : B OPERATOR_FEE_RECIPIENT + cU < W) :
    ∃ bal1, reimburseCaller tx B (some info) g = some bal1 ∧
      rewardBeneficiary tx bal1 (some info) g =
        .ok (credited tx B (g.remaining + g.refunded.toNat) (cL - cU) (usedGas g) l1 cU) := by
  have e1 : effectiveGasPrice tx * (g.remaining + g.refunded.toNat) < W := by omega
  have e2 : (effectiveGasPrice tx - tx.basefee) * usedGas g < W := by omega
  have e4 : tx.basefee * usedGas g < W := by omega
  refine ⟨upd (upd B tx.caller (B tx.caller + effectiveGasPrice tx * (g.remaining + g.refunded.toNat))) tx.caller
      (B tx.caller + effectiveGasPrice tx * (g.remaining + g.refunded.toNat) + (cL - cU)), ?_, ?_⟩
  · unfold reimburseCaller
    simp only [hdep, Bool.false_eq_true, if_false, operatorFeeRefund_eq hcL hcU, hg.closed.back,
      wmul_eq e1, upd_same]
    rw [satAdd_eq (by omega), satAdd_eq (by omega)]
  · unfold rewardBeneficiary credited
    simp only [hdep, Bool.false_eq_true, if_false, hlon, if_true, henv, hl1, hcU, satSub_eq, wmul_eq e2,
      wmul_eq e4, upd_same, upd_other hd.c_cb.symm, upd_other hd.c_l1.symm,
      upd_other hd.c_bv.symm, upd_other hd.c_op.symm, upd_other hd.cb_l1.symm,
      upd_other hd.cb_bv.symm, upd_other hd.cb_op.symm, upd_other l1_ne_bv.symm,
      upd_other l1_ne_op.symm, upd_other bv_ne_op.symm]
    rw [satAdd_eq f2, wadd_eq f3, wadd_eq f4, wadd_eq f5]

theorem credited_at (tx : Tx) (B : Nat → Nat) (back r used l1 cU : Nat) (hd : FiveDistinct tx) :
    credited tx B back r used l1 cU tx.caller = B tx.caller + effectiveGasPrice tx * back + r ∧
    credited tx B back r used l1 cU tx.coinbase = B tx.coinbase + (effectiveGasPrice tx - tx.basefee) * used ∧
    credited tx B back r used l1 cU L1_FEE_RECIPIENT = B L1_FEE_RECIPIENT + l1 ∧
    credited tx B back r used l1 cU BASE_FEE_RECIPIENT = B BASE_FEE_RECIPIENT + tx.basefee * used ∧
    credited tx B back r used l1 cU OPERATOR_FEE_RECIPIENT = B OPERATOR_FEE_RECIPIENT + cU := by
  unfold credited
  simp only [upd_same, upd_other hd.c_cb, upd_other hd.c_l1, upd_other hd.c_bv,
    upd_other hd.c_op, upd_other hd.c_cb.symm, upd_other hd.cb_l1,
    upd_other hd.cb_bv, upd_other hd.cb_op, upd_other hd.c_l1.symm,
    upd_other hd.cb_l1.symm, upd_other l1_ne_bv, upd_other l1_ne_op,
    upd_other hd.c_bv.symm, upd_other hd.cb_bv.symm, upd_other l1_ne_bv.symm,
    upd_other bv_ne_op, upd_other hd.c_op.symm, upd_other hd.cb_op.symm,
    upd_other l1_ne_op.symm, upd_other bv_ne_op.symm, and_self]

theorem credited_other (tx : Tx) (B : Nat → Nat) (back r used l1 cU x : Nat)
    (h1 : x ≠ tx.caller) (h2 : x ≠ tx.coinbase) (h3 : x ≠ L1_FEE_RECIPIENT) (h4 : x ≠ BASE_FEE_RECIPIENT)
    (h5 : x ≠ OPERATOR_FEE_RECIPIENT) : credited tx B back r used l1 cU x = B x := by
  unfold credited
  simp only [upd_other h1, upd_other h2, upd_other h3, upd_other h4,
    upd_other h5]

theorem output_regular {tx : Tx} {pre st : St} {cls : Cls} {g : Gas} (hdep : tx.isDeposit = false) :
    output tx pre st cls g =
      .done (Revm.Spec.OpFees.kindOf cls) (usedGas g) (if cls = .ok then i64AsU64 g.refunded else 0) st := by
  unfold output usedGas
  cases cls <;> simp [hdep, Revm.Spec.OpFees.kindOf]

theorem runTx_regular {tx : Tx} {pre : St} {info : L1Info} {env : List Nat} {l1 cL : Nat}
    {exec : St → St} {fr : Frame}
    (hdep : tx.isDeposit = false) (hlon : enabled tx.spec LONDON = true)
    (hv : Validated tx pre info env l1 cL)
    (hmint : pre.bal tx.caller + tx.mint.getD 0 < W) (hdf : dataFee' tx ≤ maxData tx)
    (hl : tx.gasLimit < U64) (hr : fr.remaining ≤ tx.gasLimit) (hd : FiveDistinct tx)
    {st : St} (hst : exec (deducted tx pre l1 cL) = st) {g : Gas} (hg : finalGas tx fr = g)
    (cU : Nat) (hcU : operatorFeeCharge info (usedGas g) tx.spec = some cU)
    (f1 : st.bal tx.caller + effectiveGasPrice tx * (g.remaining + g.refunded.toNat) + (cL - cU) < W)
    (f2 : st.bal tx.coinbase + (effectiveGasPrice tx - tx.basefee) * usedGas g < W)
    (f3 : st.bal L1_FEE_RECIPIENT + l1 < W)
    (f4 : st.bal BASE_FEE_RECIPIENT + tx.basefee * usedGas g < W)
    (f5 : st.bal OPERATOR_FEE_RECIPIENT + cU < W) :
    runTx tx pre (some info) exec fr =
      .done (Revm.Spec.OpFees.kindOf fr.cls) (usedGas g) (if fr.cls = .ok then i64AsU64 g.refunded else 0)
        { st with bal := credited tx st.bal (g.remaining + g.refunded.toNat) (cL - cU) (usedGas g) l1 cU } := by
  subst hst hg
  obtain ⟨hg, hgl⟩ := finalGas_good hl hr
  have hcL : operatorFeeCharge info (finalGas tx fr).limit tx.spec = some cL := by rw [hgl]; exact hv.charge_eq
  obtain ⟨bal1, hre, hrw⟩ := post_regular hdep hlon hv.env_eq hv.l1_eq hcL hcU hg hd f1 f2 f3 f4 f5
  unfold runTx
  simp only [deductCaller_regular hdep hv hmint hdf, hre, hrw,
    output_regular hdep]

/-! ### conservation -/

/-- the first frame leaves the four fee accounts alone and does not pay the sender -/
structure FrameQuiet (tx : Tx) (exec : St → St) : Prop where
  cb : ∀ st, (exec st).bal tx.coinbase = st.bal tx.coinbase
  l1 : ∀ st, (exec st).bal L1_FEE_RECIPIENT = st.bal L1_FEE_RECIPIENT
  bv : ∀ st, (exec st).bal BASE_FEE_RECIPIENT = st.bal BASE_FEE_RECIPIENT
  op : ∀ st, (exec st).bal OPERATOR_FEE_RECIPIENT = st.bal OPERATOR_FEE_RECIPIENT
  sender : ∀ st, (exec st).bal tx.caller ≤ st.bal tx.caller

/-- `fee` is the gas fee charged up front: the coinbase's share `q1`, the base fee vault's `q2` and the
reimbursement `p1`; `D` is what the up-front charges left the sender, `Bc` what the frame left of it. -/
theorem flows_fit {pc m cb lb bb ob fee q1 q2 p1 df l1 cL cU D Bc : Nat}
    (hfee : fee = q1 + q2 + p1) (hD : D + fee + df + l1 + cL = pc + m) (hcU : cU ≤ cL)
    (hBc : Bc ≤ D) (hsup : pc + m + cb + lb + bb + ob < W) :
    Bc + p1 + (cL - cU) < W ∧ cb + q1 < W ∧ lb + l1 < W ∧ bb + q2 < W ∧ ob + cU < W ∧
    (pc + m : Int) - (Bc + p1 + (cL - cU) : Nat) = (D : Int) - (Bc : Nat) + ((q1 + q2 + l1 + cU + df : Nat) : Int) := by
  omega

theorem conservation_core {tx : Tx} {pre : St} {info : L1Info} {env : List Nat} {l1 cL : Nat}
    {exec : St → St} {fr : Frame}
    (hdep : tx.isDeposit = false) (hlon : enabled tx.spec LONDON = true)
    (hv : Validated tx pre info env l1 cL) (hbf : tx.basefee ≤ effectiveGasPrice tx)
    (hdf : dataFee' tx ≤ maxData tx)
    (hl : tx.gasLimit < U64) (hr : fr.remaining ≤ tx.gasLimit) (hd : FiveDistinct tx)
    (hq : FrameQuiet tx exec)
    (hsup : pre.bal tx.caller + tx.mint.getD 0 + pre.bal tx.coinbase + pre.bal L1_FEE_RECIPIENT
              + pre.bal BASE_FEE_RECIPIENT + pre.bal OPERATOR_FEE_RECIPIENT < W) :
    ∃ cU kind used refunded st',
      operatorFeeCharge info (usedGas (finalGas tx fr)) tx.spec = some cU ∧
      runTx tx pre (some info) exec fr = .done kind used refunded st' ∧
      used = usedGas (finalGas tx fr) ∧
      -- the four credits
      st'.bal tx.coinbase = pre.bal tx.coinbase + (effectiveGasPrice tx - tx.basefee) * used ∧
      st'.bal BASE_FEE_RECIPIENT = pre.bal BASE_FEE_RECIPIENT + tx.basefee * used ∧
      st'.bal L1_FEE_RECIPIENT = pre.bal L1_FEE_RECIPIENT + l1 ∧
      st'.bal OPERATOR_FEE_RECIPIENT = pre.bal OPERATOR_FEE_RECIPIENT + cU ∧
      -- the sender: debit (net of a mint) = value moved by the frame + the four credits + blob fee
      (pre.bal tx.caller + tx.mint.getD 0 : Int) - st'.bal tx.caller =
        ((deducted tx pre l1 cL).bal tx.caller : Int) - ((exec (deducted tx pre l1 cL)).bal tx.caller : Nat)
        + (((effectiveGasPrice tx - tx.basefee) * used + tx.basefee * used + l1 + cU + dataFee' tx : Nat) : Int) := by
  obtain ⟨hg, hgl⟩ := finalGas_good hl hr
  generalize hgdef : finalGas tx fr = g at hg hgl ⊢
  obtain ⟨cU, hcU⟩ := operatorFeeCharge_total info tx.gasLimit (usedGas g) tx.spec cL hv.charge_eq
  have hcUle : cU ≤ cL := operatorFeeCharge_mono (by have := hg.closed.split; show Gas.used g ≤ _; omega) hcU hv.charge_eq
  have hfee : tx.gasLimit * effectiveGasPrice tx =
      (effectiveGasPrice tx - tx.basefee) * usedGas g + tx.basefee * usedGas g +
        effectiveGasPrice tx * (g.remaining + g.refunded.toNat) := by
    rw [← Nat.add_mul, Nat.sub_add_cancel hbf, Nat.mul_comm, ← hgl]; exact hg.closed.fee_split _
  have hB : ∀ x, x ≠ tx.caller → (∀ st, (exec st).bal x = st.bal x) →
      (exec (deducted tx pre l1 cL)).bal x = pre.bal x :=
    fun x hx hqx => by rw [hqx, deducted_other _ _ _ hx]
  obtain ⟨f1, f2, f3, f4, f5, hnet⟩ :=
    flows_fit hfee (deducted_add hv hdf).1 hcUle (hq.sender (deducted tx pre l1 cL)) hsup
  have hrun := runTx_regular hdep hlon hv (by omega) hdf hl hr hd rfl hgdef cU hcU f1
    (by rw [hB _ hd.c_cb.symm hq.cb]; exact f2) (by rw [hB _ hd.c_l1.symm hq.l1]; exact f3)
    (by rw [hB _ hd.c_bv.symm hq.bv]; exact f4) (by rw [hB _ hd.c_op.symm hq.op]; exact f5)
  obtain ⟨k1, k2, k3, k4, k5⟩ := credited_at tx (exec (deducted tx pre l1 cL)).bal
    (g.remaining + g.refunded.toNat) (cL - cU) (usedGas g) l1 cU hd
  refine ⟨cU, _, _, _, _, hcU, hrun, rfl, ?_, ?_, ?_, ?_, ?_⟩
  · exact k2.trans (by rw [hB _ hd.c_cb.symm hq.cb])
  · exact k4.trans (by rw [hB _ hd.c_bv.symm hq.bv])
  · exact k3.trans (by rw [hB _ hd.c_l1.symm hq.l1])
  · exact k5.trans (by rw [hB _ hd.c_op.symm hq.op])
  · show (_ : Int) - ((credited tx (exec (deducted tx pre l1 cL)).bal (g.remaining + g.refunded.toNat) (cL - cU)
      (usedGas g) l1 cU tx.caller : Nat) : Int) = _
    rw [k1]
    exact hnet

theorem net_debit {a m b D E mv c : Nat} (h : (a + m : Int) - b = (D : Int) - (E : Nat) + (c : Nat))
    (hmv : E + mv = D) : a + m = b + mv + c := by
  omega

/-! ### deposits -/

/-- the state a deposit hands to its first frame when its gas price is 0: the mint and (for calls) the nonce
bump, nothing else -/
def minted (tx : Tx) (pre : St) : St :=
  { bal := upd pre.bal tx.caller (pre.bal tx.caller + tx.mint.getD 0),
    nonce := if tx.isCreate then pre.nonce else U64ops.saturatingAdd pre.nonce 1 }

theorem minted_caller (tx : Tx) (pre : St) :
    (minted tx pre).bal tx.caller = pre.bal tx.caller + tx.mint.getD 0 := by
  unfold minted; simp only [upd_same]

theorem minted_nonce (tx : Tx) (pre : St) (hn : pre.nonce + 1 < U64) :
    (minted tx pre).nonce = if tx.isCreate then pre.nonce else pre.nonce + 1 := by
  unfold minted U64ops.saturatingAdd; rw [if_pos hn]

theorem minted_other (tx : Tx) (pre : St) (x : Nat) (h : x ≠ tx.caller) : (minted tx pre).bal x = pre.bal x := by
  unfold minted; simp only [upd_other h]

theorem output_not_failed (tx : Tx) (pre st : St) (cls : Cls) (g : Gas)
    (hnf : ¬ (cls = .halt ∧ enabled tx.spec REGOLITH = true)) :
    ∃ kind used refunded, output tx pre st cls g = .done kind used refunded st ∧ kind ≠ .failedDeposit ∧
      (cls ≠ .ok → refunded = 0) := by
  unfold output
  cases cls with
  | ok => exact ⟨_, _, _, rfl, by decide, fun h => absurd rfl h⟩
  | revert => exact ⟨_, _, _, rfl, by decide, fun _ => rfl⟩
  | halt =>
    have hr : (tx.isDeposit && enabled tx.spec REGOLITH) = false := by
      cases h : enabled tx.spec REGOLITH with
      | false => exact Bool.and_false _
      | true => exact absurd ⟨rfl, h⟩ hnf
    simp only [hr, Bool.false_eq_true, if_false]
    exact ⟨_, _, _, rfl, by decide, fun _ => rfl⟩

theorem deductCaller_deposit (tx : Tx) (pre : St) (oi : Option L1Info)
    (hdep : tx.isDeposit = true) (hegp : effectiveGasPrice tx = 0) (hdf : dataFee' tx = 0)
    (hmint : pre.bal tx.caller + tx.mint.getD 0 < W) :
    deductCaller tx pre oi = .ok (minted tx pre) oi := by
  have hW := W_val
  have hfit : tx.gasLimit * effectiveGasPrice tx + dataFee' tx < W := by rw [hegp, hdf]; omega
  unfold deductCaller minted
  simp only [mint_step hmint, deductInner_eq _ _ hfit, hdep, if_true, hegp, hdf, Nat.mul_zero, Nat.add_zero,
    Nat.sub_zero]

theorem transactWith_deposit (tx : Tx) (s : Slots) (pre : St) (exec : St → St) (fr : Frame)
    (hdep : tx.isDeposit = true) (hvg : validateInitialGas tx = none)
    (hegp : effectiveGasPrice tx = 0) (hdf : dataFee' tx = 0)
    (hmint : pre.bal tx.caller + tx.mint.getD 0 < W)
    (hx : (exec (minted tx pre)).bal tx.caller < W) :
    transactWith tx s pre exec fr = output tx pre (exec (minted tx pre)) fr.cls (finalGas tx fr) := by
  unfold transactWith validateEnv validateTxAgainstState
  simp only [hdep, if_true, hvg]
  unfold runTx
  simp only [deductCaller_deposit tx pre none hdep hegp hdf hmint]
  unfold reimburseCaller rewardBeneficiary
  have h0 : wmul 0 (U64ops.wadd (finalGas tx fr).remaining (i64AsU64 (finalGas tx fr).refunded)) = 0 := by
    unfold wmul; simp
  simp only [hdep, if_true, hegp, h0, satAdd_eq (show (exec (minted tx pre)).bal tx.caller + 0 < W from hx),
    Nat.add_zero, upd_self]

/-- a deposit that does not pass `validate_initial_tx_gas` ends as a failed deposit (/repo commit 25ebe790) -/
theorem transactWith_deposit_preverify (tx : Tx) (s : Slots) (pre : St) (exec : St → St) (fr : Frame) (e : Err)
    (hdep : tx.isDeposit = true) (hvg : validateInitialGas tx = some e) :
    transactWith tx s pre exec fr = failedDeposit tx pre := by
  unfold transactWith validateEnv endErr
  simp only [hdep, if_true, hvg]

/-- `transactWithOld` models the code before that commit: the error is returned, nothing persisted -/
theorem transactWithOld_deposit_preverify (tx : Tx) (s : Slots) (pre : St) (exec : St → St) (fr : Frame) (e : Err)
    (hdep : tx.isDeposit = true) (hvg : validateInitialGas tx = some e) :
    transactWithOld tx s pre exec fr = .err e := by
  unfold transactWithOld validateEnv
  simp only [hdep, if_true, hvg]

theorem failedDeposit_any {tx : Tx} {pre : St}
    (hmint : pre.bal tx.caller + tx.mint.getD 0 < W) (hn : pre.nonce + 1 < U64) :
    ∃ used st', failedDeposit tx pre = .done .failedDeposit used 0 st' ∧
      (enabled tx.spec REGOLITH = true → used = tx.gasLimit) ∧
      st'.bal tx.caller = pre.bal tx.caller + tx.mint.getD 0 ∧ st'.nonce = pre.nonce + 1 ∧
      (∀ x, x ≠ tx.caller → st'.bal x = pre.bal x) := by
  unfold failedDeposit U64ops.saturatingAdd
  simp only [satAdd_eq hmint, hn, if_true]
  refine ⟨_, _, rfl, fun h => ?_, upd_same _ _ _, rfl, fun x hx => upd_other hx⟩
  simp only [h, Bool.true_or, if_true]

/-! ### the frames the harness runs -/

/-- the value transfer of a successful frame: what `execSimple` does once a create has passed its checks -/
def moveValue (tx : Tx) (fr : Frame) (st : St) : St :=
  if fr.cls = .ok ∧ tx.value ≤ st.bal tx.caller then
    let b1 := upd st.bal tx.caller (st.bal tx.caller - tx.value)
    if b1 tx.target + tx.value < W then { st with bal := upd b1 tx.target (b1 tx.target + tx.value) } else st
  else st

theorem execSimple_eq (tx : Tx) (st : St) (fr : Frame) :
    execSimple tx st fr =
      if tx.isCreate then
        if st.bal tx.caller < tx.value then st
        else if st.nonce + 1 ≥ U64 then st
        else moveValue tx fr { st with nonce := st.nonce + 1 }
      else moveValue tx fr st := rfl

theorem moveValue_nonce (tx : Tx) (fr : Frame) (st : St) : (moveValue tx fr st).nonce = st.nonce := by
  unfold moveValue
  split
  · simp only []; split <;> rfl
  · rfl

theorem moveValue_bal (tx : Tx) (fr : Frame) (st : St) :
    (moveValue tx fr st).bal = st.bal ∨
    (tx.value ≤ st.bal tx.caller ∧ fr.cls = .ok ∧
      (moveValue tx fr st).bal =
        upd (upd st.bal tx.caller (st.bal tx.caller - tx.value)) tx.target
          (upd st.bal tx.caller (st.bal tx.caller - tx.value) tx.target + tx.value)) := by
  unfold moveValue
  by_cases h : fr.cls = .ok ∧ tx.value ≤ st.bal tx.caller
  · rw [if_pos h]
    simp only []
    split
    · exact Or.inr ⟨h.2, h.1, rfl⟩
    · exact Or.inl rfl
  · rw [if_neg h]; exact Or.inl rfl

theorem moveValue_ok (tx : Tx) (fr : Frame) (st : St) (hok : fr.cls = .ok)
    (hv : tx.value ≤ st.bal tx.caller) (ht : tx.target ≠ tx.caller) (hroom : st.bal tx.target + tx.value < W) :
    (moveValue tx fr st).bal tx.caller = st.bal tx.caller - tx.value := by
  have h1 : upd st.bal tx.caller (st.bal tx.caller - tx.value) tx.target = st.bal tx.target :=
    upd_other ht
  unfold moveValue
  simp only [hok, hv, and_self, if_true, h1, hroom, upd_other ht.symm, upd_same]

theorem execSimple_cases (tx : Tx) (st : St) (fr : Frame) :
    (execSimple tx st fr).bal = st.bal ∨
    (tx.value ≤ st.bal tx.caller ∧ fr.cls = .ok ∧
      (execSimple tx st fr).bal =
        upd (upd st.bal tx.caller (st.bal tx.caller - tx.value)) tx.target
          (upd st.bal tx.caller (st.bal tx.caller - tx.value) tx.target + tx.value)) := by
  rw [execSimple_eq]
  split
  · split
    · exact Or.inl rfl
    · split
      · exact Or.inl rfl
      · exact moveValue_bal tx fr _
  · exact moveValue_bal tx fr st

theorem execSimple_fail (tx : Tx) (st : St) (fr : Frame) (h : fr.cls ≠ .ok) :
    (execSimple tx st fr).bal = st.bal := by
  rcases execSimple_cases tx st fr with h1 | ⟨_, h2, _⟩
  · exact h1
  · exact absurd h2 h

theorem execSimple_nonce (tx : Tx) (st : St) (fr : Frame) :
    (execSimple tx st fr).nonce =
      if tx.isCreate = true ∧ ¬ st.bal tx.caller < tx.value ∧ ¬ st.nonce + 1 ≥ U64 then st.nonce + 1 else st.nonce := by
  rw [execSimple_eq]
  by_cases hc : tx.isCreate = true
  · by_cases h1 : st.bal tx.caller < tx.value
    · simp only [hc, h1, if_true, not_true_eq_false, false_and, and_false, if_false]
    · by_cases h2 : st.nonce + 1 ≥ U64
      · simp only [hc, h1, h2, if_true, if_false, not_true_eq_false, and_false]
      · simp only [hc, h1, h2, if_true, if_false, not_false_eq_true, and_self, moveValue_nonce]
  · simp only [hc, Bool.false_eq_true, if_false, false_and, moveValue_nonce]

theorem execSimple_ok {tx : Tx} {st : St} {fr : Frame} (hok : fr.cls = .ok)
    (hv : tx.value ≤ st.bal tx.caller) (hn : tx.isCreate = true → st.nonce + 1 < U64) (ht : tx.target ≠ tx.caller)
    (hroom : st.bal tx.target + tx.value < W) :
    (execSimple tx st fr).bal tx.caller = st.bal tx.caller - tx.value := by
  rw [execSimple_eq]
  by_cases hc : tx.isCreate = true
  · have := hn hc
    rw [if_pos hc, if_neg (by omega), if_neg (by omega)]
    exact moveValue_ok tx fr _ hok hv ht hroom
  · rw [if_neg hc]; exact moveValue_ok tx fr st hok hv ht hroom

theorem execSimple_quiet (tx : Tx) (fr : Frame) (h0 : tx.target ≠ tx.caller)
    (h1 : tx.coinbase ≠ tx.target) (h2 : L1_FEE_RECIPIENT ≠ tx.target) (h3 : BASE_FEE_RECIPIENT ≠ tx.target)
    (h4 : OPERATOR_FEE_RECIPIENT ≠ tx.target) (hd : FiveDistinct tx) :
    FrameQuiet tx (fun st => execSimple tx st fr) := by
  refine ⟨?_, ?_, ?_, ?_, ?_⟩ <;> intro st <;> rcases execSimple_cases tx st fr with h | ⟨_, _, h⟩ <;>
    simp only [h]
  · rw [upd_other h1, upd_other hd.c_cb.symm]
  · rw [upd_other h2, upd_other hd.c_l1.symm]
  · rw [upd_other h3, upd_other hd.c_bv.symm]
  · rw [upd_other h4, upd_other hd.c_op.symm]
  · exact Nat.le_refl _
  · rw [upd_other h0.symm, upd_same]; omega

/-! ### histories on one `Evm`: `clear` makes every transaction start from an empty `l1_block_info` -/

theorem validateCtx_none (tx : Tx) (s : Slots) (st : St) :
    validateTxAgainstStateCtx tx s st none = validateTxAgainstState tx s st := by
  unfold validateTxAgainstStateCtx validateTxAgainstState; rfl

theorem transactCtx_none (tx : Tx) (s : Slots) (pre : St) (exec : St → St) (fr : Frame) :
    transactCtx clearCtx tx s pre exec fr none = (transactWith tx s pre exec fr, none) := by
  unfold transactCtx transactWith clearCtx
  rw [validateCtx_none]
  cases validateEnv tx with
  | some e => rfl
  | none =>
    cases validateInitialGas tx with
    | some e => rfl
    | none =>
      cases validateTxAgainstState tx s pre with
      | err e => rfl
      | panic => rfl
      | ok info => rfl

theorem runHistory_fresh (steps : List Step) (st : St) :
    runHistory clearCtx st none steps = runHistoryFresh st steps := by
  induction steps generalizing st with
  | nil => rfl
  | cons p ps ih =>
    unfold runHistory runHistoryFresh
    simp only [transactCtx_none, transact]
    rw [ih]

/-- the database state after a history (every outcome committed) -/
def stateAfter : St → List Step → St
  | st, [] => st
  | st, p :: ps => stateAfter (commit st (transact p.tx p.slots st p.fr)) ps

theorem runHistoryFresh_last (ps : List Step) (p : Step) (st : St) :
    runHistoryFresh st (ps ++ [p]) = runHistoryFresh st ps ++ [transact p.tx p.slots (stateAfter st ps) p.fr] := by
  induction ps generalizing st with
  | nil => rfl
  | cons q qs ih =>
    simp only [List.cons_append, runHistoryFresh, stateAfter, ih]

end Revm.Proofs.OpFees
