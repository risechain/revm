import Revm.Spec.EvmRules2
import Revm.Proofs.EvmStep
import Revm.Proofs.InterpMem
import Revm.Proofs.GasCalc
import Revm.Proofs.MemTouch
import Revm.Proofs.Jump
/-! `WFM`, the hypothesis of the `step_…` theorems about the rules of `Spec/EvmRules2*.lean`, and its gas bound; the handler
primitives beyond the stack in closed form: operands (`as_usize_or_fail!`, saturation), `resize_memory!` and the memory
accessors against the abstract memory of `Spec/EvmRules2.lean`, `gas_or_fail!` on the checked 64-bit costs, the `pre` part
of a host instruction; and `MemOK`, the part of `WFM` they need and keep. The rules are proved family by family in
`EvmStep2Mem`, `…State`, `…Call`, `…Create`, `…Outcome` (how: see `EvmStep2Run`); `EvmStep2Table` reads the families off the
opcode table. -/
namespace Revm.Proofs.EvmStep2
open Revm Revm.Model Revm.Model.Interp
open Revm.Spec.EvmRules Revm.Spec.EvmRules2
open Revm.Spec.GasCalc (ceil32 memCost)
open Revm.Proofs.EvmStep
open Revm.Proofs.Memory (ctx replaceCtx)

/-- a chosen bound on a frame's budget, not a revm fact. `2^59 = 2^64 / 32` is where `num_words` saturates: a smaller budget
cannot pay 2 gas per word there (`gasOrFail_words`), and the memory it can buy is `≤ 2^42` bytes (`len_of_cost`) -/
def GAS_BOUND : Nat := 2^59

/-- the side conditions under which `Interp.step` IS its rule: where revm's saturating / wrapping 64-bit arithmetic and
`isize`-bounded buffers meet the rules' unbounded numbers and byte lists. `budget`: gas left + memory cost paid, which never
grows inside a frame. `ck`: chosen, not revm's — `2^62` plus the `≤ 2^42` bytes the budget buys is below `isize::MAX` -/
structure WFM (s : IState) : Prop extends WF s where
  mem : Proofs.Memory.WF s.mem
  ck : s.mem.lastCheckpoint ≤ 2^62
  budget : s.gas.remaining + memCost (ceil32 (memOf s).length) < GAS_BOUND
  inputLen : s.input.length ≤ Memory.ISIZE_MAX
  returnLen : s.returnData.length ≤ Memory.ISIZE_MAX
  codeLen : s.code.length ≤ Memory.ISIZE_MAX
  /-- the refund counter is far from the ends of `i64` (one instruction moves it by at most 24000) -/
  refund : -(2^62 : Int) ≤ s.gas.refunded ∧ s.gas.refunded ≤ 2^62

theorem GAS_BOUND_val : GAS_BOUND = 576460752303423488 := by unfold GAS_BOUND; rfl

theorem memOf_eq (s : IState) : memOf s = ctx s.mem := rfl
theorem setMem_mem (s : IState) (μ : List Nat) : (setMem s μ).mem = replaceCtx s.mem μ := rfl

theorem store_length (μ : List Nat) (off : Nat) (val : List Nat) (h : off + val.length ≤ μ.length) :
    (store μ off val).length = μ.length := Proofs.Memory.writeAt_length μ off val h

theorem load_length (μ : List Nat) (off len : Nat) (h : off + len ≤ μ.length) : (load μ off len).length = len := by
  unfold load; simp only [List.length_take, List.length_drop]; omega

theorem natToBe_eq (k v : Nat) :
    Memory.natToBe k v = (List.range k).map fun i => v / 256 ^ (k - 1 - i) % 256 := by
  induction k generalizing v with
  | zero => rfl
  | succ k ih =>
    rw [Memory.natToBe, ih, List.range_succ, List.map_append]
    congr 1
    · apply List.map_congr_left
      intro i hi
      have hi' : i < k := List.mem_range.mp hi
      have e : k + 1 - 1 - i = (k - 1 - i) + 1 := by omega
      rw [e, Nat.pow_succ, Nat.mul_comm, Nat.div_div_eq_div_mul]
    · simp

theorem wordBytes_eq (v : Nat) : Memory.natToBe 32 v = wordBytes v := natToBe_eq 32 v

theorem wordBytes_length (v : Nat) : (wordBytes v).length = 32 := by simp [wordBytes]

theorem beToNat_eq (bs : List Nat) : Memory.beToNat bs = beNat bs := Proofs.Stack.beVal_eq_beNat bs

theorem asUsize_small (v : Nat) (h : v < U64) : Jump.asUsizeOrFail v = some v := by
  have hU := U64_val; have hW := W_val
  rw [Proofs.Jump.asUsizeOrFail_eq (by omega), if_pos h]

theorem asUsize_big (v : Nat) (h : U64 ≤ v) (hw : v < W) : Jump.asUsizeOrFail v = none := by
  rw [Proofs.Jump.asUsizeOrFail_eq hw, if_neg (Nat.not_lt.mpr h)]

theorem asUsizeOrFail_eq (v : Nat) (reason : IResult) (s : IState) (hv : v < W) :
    asUsizeOrFail v reason s = if U64 ≤ v then .halt reason [] s else .ok v s := by
  unfold asUsizeOrFail
  by_cases h : U64 ≤ v
  · rw [if_pos h, asUsize_big v h hv]; rfl
  · rw [if_neg h, asUsize_small v (Nat.lt_of_not_le h)]; rfl

theorem asUsizeSat_min (n : Nat) : asUsizeSat n = min n (U64 - 1) := by
  unfold asUsizeSat U256.asU64Sat
  have hU := U64_val
  split <;> omega

theorem asUsizeSat_lt (v : Nat) : asUsizeSat v < U64 := by
  have hU := U64_val
  rw [asUsizeSat_min]; omega

theorem popAddress_ok (s : IState) (l : List Nat) (a : Nat) (h : s.stack = l ++ [a]) :
    popAddress s = .ok (addrOf a) { s with stack := l } := by
  unfold popAddress
  rw [bind_ok _ _ _ _ _ (pop1_ok s l a h)]
  rfl

theorem popAddress_underflow (s : IState) (h : s.stack.length < 1) :
    popAddress s = .halt .StackUnderflow [] s := by
  unfold popAddress
  rw [bind_halt _ _ _ _ _ _ (pop1_underflow s h)]

/-- the gas and memory part of `WFM`: what `resize_memory!` and the memory accessors need and every primitive keeps; the
hypothesis of the primitive lemmas, carried through a handler inside `Inv true` -/
structure MemOK (s : IState) : Prop where
  gas : s.gas.remaining < U64
  mem : Proofs.Memory.WF s.mem
  ck : s.mem.lastCheckpoint ≤ 2^62
  budget : s.gas.remaining + memCost (ceil32 (memOf s).length) < GAS_BOUND

theorem WFM.memOK {s : IState} (h : WFM s) : MemOK s := ⟨h.gas, h.mem, h.ck, h.budget⟩

theorem MemOK.adv {s : IState} (h : MemOK s) : MemOK (adv s) := ⟨h.gas, h.mem, h.ck, h.budget⟩

theorem MemOK.charge {s : IState} (h : MemOK s) (c : Nat) : MemOK (charge s c) :=
  ⟨by show s.gas.remaining - c < U64; have := h.gas; omega, h.mem, h.ck,
   by show s.gas.remaining - c + memCost (ceil32 (memOf s).length) < GAS_BOUND; have := h.budget; omega⟩

theorem MemOK.stack {s : IState} (h : MemOK s) (st : List Nat) : MemOK { s with stack := st } :=
  ⟨h.gas, h.mem, h.ck, h.budget⟩

theorem memOf_setMem {s : IState} (h : Proofs.Memory.WF s.mem) (μ : List Nat) : memOf (setMem s μ) = μ :=
  Proofs.Memory.replaceCtx_ctx h μ

theorem MemOK.setMem {s : IState} (h : MemOK s) (μ : List Nat)
    (hb : s.gas.remaining + memCost (ceil32 μ.length) < GAS_BOUND) : MemOK (setMem s μ) := by
  have hG := GAS_BOUND_val
  have hU := U64_val
  have hl := len_of_cost (n := μ.length) (by omega)
  refine ⟨h.gas, ?_, h.ck, ?_⟩
  · have := h.ck
    exact Proofs.Memory.replaceCtx_wf h.mem μ (by unfold Memory.ISIZE_MAX; omega)
  · rw [memOf_setMem h.mem]; exact hb

theorem MemOK.touch {s : IState} (h : MemOK s) (off len : Nat)
    (hc : ¬ s.gas.remaining < touchCost (memOf s) off len) :
    MemOK (Spec.EvmRules2.setMem (Spec.EvmRules.charge s (touchCost (memOf s) off len)) (touch (memOf s) off len)) := by
  have hb := touch_budget (memOf s) off len s.gas.remaining hc
  have hbud := h.budget
  refine (h.charge _).setMem _ ?_
  show s.gas.remaining - touchCost (memOf s) off len + memCost (ceil32 (Spec.EvmRules2.touch (memOf s) off len).length)
    < GAS_BOUND
  omega

theorem MemOK.store {s : IState} (h : MemOK s) (off : Nat) (val : List Nat)
    (hin : off + val.length ≤ (memOf s).length) :
    MemOK (Spec.EvmRules2.setMem s (Spec.EvmRules2.store (memOf s) off val)) := by
  refine h.setMem _ ?_
  rw [store_length (memOf s) off val hin]
  exact h.budget

theorem resizeMem_eq (s : IState) (off len : Nat) (h : MemOK s) :
    resizeMem off len s =
      if s.gas.remaining < touchCost (memOf s) off len then .halt .MemoryOOG [] s
      else .ok () (setMem (charge s (touchCost (memOf s) off len)) (touch (memOf s) off len)) := by
  have hG := GAS_BOUND_val; have hU := U64_val
  have hb := h.budget
  unfold resizeMem
  rw [resizeMacro_exact h.mem h.ck (by rw [← memOf_eq]; omega), ← memOf_eq]
  by_cases hc : s.gas.remaining < touchCost (memOf s) off len
  · rw [if_pos hc, if_pos hc]; rfl
  · rw [if_neg hc, if_neg hc]; rfl

set_option linter.unusedVariables false in
theorem resizeMem_bind (s : IState) (off len : Nat) (f : Unit → M Unit) (h : MemOK s) (ho : off < U64) (hl : len < U64) :
    ((resizeMem off len >>= f) s).toDone = memAccess s off len (fun s' => (f () s').toDone) :=
  bind_ite Exec.toDone (resizeMem_eq s off len h) f

theorem memSlice_eq (s : IState) (off len : Nat) (h : Proofs.Memory.WF s.mem) (hin : off + len ≤ (memOf s).length) :
    memSlice off len s = .ok (load (memOf s) off len) s := by
  unfold memSlice
  rw [Proofs.Memory.slice_value h off len hin]
  rfl

theorem memGetU256_eq (s : IState) (off : Nat) (h : Proofs.Memory.WF s.mem) (hin : off + 32 ≤ (memOf s).length) :
    memGetU256 off s = .ok (beNat (load (memOf s) off 32)) s := by
  unfold memGetU256 Memory.getU256 Memory.getWord
  rw [Proofs.Memory.slice_value h off 32 hin]
  simp only [memRes, beToNat_eq]
  rfl

theorem memSet_eq (s : IState) (off : Nat) (val : List Nat) (h : Proofs.Memory.WF s.mem) (hne : val ≠ [])
    (hin : off + val.length ≤ (memOf s).length) :
    liftMemWrite (fun m => Memory.set m off val) s = .ok () (setMem s (store (memOf s) off val)) := by
  unfold liftMemWrite Memory.set
  have : val.isEmpty = false := by cases val <;> simp_all
  rw [this]
  simp only [Bool.false_eq_true, if_false]
  rw [Proofs.Memory.writeSlice_ok h hin]
  rfl

theorem memSetU256_eq (s : IState) (off v : Nat) (h : Proofs.Memory.WF s.mem) (hin : off + 32 ≤ (memOf s).length) :
    memSetU256 off v s = .ok () (setMem s (store (memOf s) off (wordBytes v))) := by
  unfold memSetU256 Memory.setU256
  rw [wordBytes_eq]
  exact memSet_eq s off (wordBytes v) h (by intro e; have := wordBytes_length v; rw [e] at this; cases this)
    (by rw [wordBytes_length]; exact hin)

theorem memSetByte_eq (s : IState) (off b : Nat) (h : Proofs.Memory.WF s.mem) (hin : off + 1 ≤ (memOf s).length) :
    memSetByte off b s = .ok () (setMem s (store (memOf s) off [b])) := by
  unfold memSetByte Memory.setByte
  exact memSet_eq s off [b] h (by simp) (by simpa using hin)

theorem memCopy_eq (s : IState) (dst src len : Nat) (h : Proofs.Memory.WF s.mem)
    (h1 : src + len ≤ (memOf s).length) (h2 : dst + len ≤ (memOf s).length) :
    memCopy dst src len s = .ok () (setMem s (store (memOf s) dst (load (memOf s) src len))) := by
  have hlt := Proofs.Memory.ctx_length_lt h
  unfold memCopy liftMemWrite
  simp only []
  rw [Proofs.Memory.copy_eq h (by rw [← memOf_eq] at hlt; omega) (by rw [← memOf_eq] at hlt; omega), if_pos ⟨h1, h2⟩]
  rfl

theorem memSetData_eq (s : IState) (moff dOff len : Nat) (data : List Nat) (h : Proofs.Memory.WF s.mem)
    (hd : data.length ≤ Memory.ISIZE_MAX) (h2 : dOff < U64) (hin : moff + len ≤ (memOf s).length) :
    memSetData moff dOff len data s =
      .ok () (setMem s (store (memOf s) moff (Spec.Memory.paddedSlice data dOff len))) := by
  have hI := Proofs.Memory.isize_lt_u64
  have hcl : (memOf s).length ≤ Memory.ISIZE_MAX := by
    have := h.2.2; rw [memOf_eq, Proofs.Memory.ctx_length]; omega
  have hin' : moff + len ≤ Proofs.Interp.clen s.mem := by
    unfold Proofs.Interp.clen; rw [← Proofs.Memory.ctx_length (m := s.mem)]; exact hin
  obtain ⟨m', hm', _⟩ := Proofs.Interp.setData_ok (m := s.mem) (moff := moff) (dOff := dOff) (len := len) (data := data)
    h hd hin'
  obtain ⟨f', hf, hm2⟩ := Proofs.Memory.setData_head h (by omega) h2 (by omega) hm'
  unfold Spec.Memory.setDataF Spec.Memory.writeF at hf
  rw [Proofs.Memory.paddedSlice_length, if_pos (by rw [← memOf_eq]; exact hin)] at hf
  injection hf with hf
  unfold memSetData liftMemWrite
  simp only []
  rw [hm', hm2, ← hf]
  unfold Spec.EvmRules2.setMem Spec.EvmRules2.store memRes
  rw [Proofs.Memory.paddedSlice_length]
  rfl

theorem lt_W_of_mem {st : List Nat} (hw : ∀ w ∈ st, w < W) {pre rest : List Nat} (h : st.reverse = pre ++ rest)
    {x : Nat} (hx : x ∈ pre) : x < W := by
  apply hw
  have : x ∈ st.reverse := by rw [h]; exact List.mem_append_left _ hx
  simpa using this

/-- `gas_or_fail!` on a checked 64-bit cost charges the true cost `c`: the checked value is `c`, or `c` and every value
the check lets through exceed the gas left -/
theorem gasOrFail_eq (s : IState) (cost : Option Nat) (c : Nat) (hg : s.gas.remaining < U64)
    (h : cost = some c ∨ (s.gas.remaining < c ∧ ∀ v, cost = some v → s.gas.remaining < v)) :
    gasOrFail cost s = if s.gas.remaining < c then .halt .OutOfGas [] s else .ok () (charge s c) := by
  rcases h with rfl | ⟨hlt, hv⟩
  · exact gasCharge_eq s c hg
  · rw [if_pos hlt]
    cases cost with
    | none => rfl
    | some v => exact gasCharge_fail s v (hv v rfl)

open Revm.Model.GasCalc in
/-- `base + m · words` as the code computes it (`cost_per_word` with the saturating `num_words`, `checked_add`) against the
formula over unbounded numbers: below the gas bound they charge the same or both exceed the gas left -/
theorem gasOrFail_words (s : IState) (base m len : Nat) (hm : 2 ≤ m) (hm8 : m ≤ 8) (hb : base < 2^40)
    (hl : len < U64) (hg : s.gas.remaining < GAS_BOUND) :
    gasOrFail (match costPerWord len m with
               | none => none
               | some c => U64ops.checkedAdd base c) s
      = if s.gas.remaining < base + m * ceil32 len then .halt .OutOfGas [] s
        else .ok () (charge s (base + m * ceil32 len)) := by
  have hU := U64_val; have hG := GAS_BOUND_val
  apply gasOrFail_eq s _ _ (by omega)
  unfold costPerWord
  by_cases h31 : len + 31 < U64
  · have hq : m * ceil32 len ≤ 8 * 2^59 := Nat.mul_le_mul hm8 (Proofs.GasCalc.ceil32_le len hl)
    rw [Proofs.GasCalc.numWords_eq len h31]
    exact .inl ((Proofs.GasCalc.mulAdd_iff base m _ _).mpr ⟨rfl, by omega⟩)
  · -- on the last 31 lengths the saturated word count is one short; either count costs more than the gas bound
    obtain ⟨hnw, hc⟩ := Proofs.GasCalc.numWords_short len (by omega) hl
    have h1 : 2 * 2^59 ≤ m * 2^59 := Nat.mul_le_mul_right _ hm
    have h2 : 2 * (2^59 - 1) ≤ m * (2^59 - 1) := Nat.mul_le_mul_right _ hm
    rw [hnw, hc]
    refine .inr ⟨by omega, fun v hv => ?_⟩
    obtain ⟨e, _⟩ := (Proofs.GasCalc.mulAdd_iff base m _ v).mp hv
    omega

theorem copyCharge_eq (s : IState) (len : Nat) (hl : len < U64) (hg : s.gas.remaining < GAS_BOUND) :
    gasOrFail (GasCalc.verylowcopyCost len) s
      = if s.gas.remaining < Spec.GasCalc.copyCost len then .halt .OutOfGas [] s
        else .ok () (charge s (Spec.GasCalc.copyCost len)) :=
  gasOrFail_words s GasCalc.VERYLOW GasCalc.COPY len (by decide) (by decide) (by decide) hl hg

theorem keccakCharge_eq (s : IState) (len : Nat) (hl : len < U64) (hg : s.gas.remaining < GAS_BOUND) :
    gasOrFail (GasCalc.keccak256Cost len) s
      = if s.gas.remaining < Spec.GasCalc.keccak256Cost len then .halt .OutOfGas [] s
        else .ok () (charge s (Spec.GasCalc.keccak256Cost len)) :=
  gasOrFail_words s GasCalc.KECCAK256 GasCalc.KECCAK256WORD len (by decide) (by decide) (by decide) hl hg

/-- `gas_or_fail!(log_cost(n, len))`: the checked 64-bit sum fails only where the true cost exceeds any `u64` budget -/
theorem logCharge_eq (s : IState) (n len : Nat) (hg : s.gas.remaining < U64) :
    gasOrFail (GasCalc.logCost n len) s
      = if s.gas.remaining < Spec.GasCalc.logCost n len then .halt .OutOfGas [] s
        else .ok () (charge s (Spec.GasCalc.logCost n len)) := by
  apply gasOrFail_eq s _ _ hg
  cases hc : GasCalc.logCost n len with
  | some v => exact .inl (congrArg some ((Proofs.GasCalc.logCost_iff n len v).mp hc).1.symm)
  | none =>
    refine .inr ⟨?_, fun v hv => nomatch hv⟩
    have hn : ¬ Spec.GasCalc.logCost n len < U64 := fun hlt => by
      have := (Proofs.GasCalc.logCost_iff n len _).mpr ⟨rfl, hlt⟩
      rw [hc] at this; cases this
    omega

theorem MemOK.bound {s : IState} (h : MemOK s) : s.gas.remaining < GAS_BOUND := by
  have := h.budget; omega

theorem bind_fault {α β} (m : M α) (f : α → M β) (s : IState) (x : Fault) (h : m s = .fault x) :
    (m >>= f) s = .fault x := by
  show M.bind m f s = _
  simp only [M.bind, h]

theorem requireNonStatic_eq (s : IState) :
    requireNonStatic s = if s.isStatic then .halt .StateChangeDuringStaticCall [] s else .ok () s := rfl

theorem requireNonStatic_ok (s : IState) (h : s.isStatic = false) : requireNonStatic s = .ok () s := by
  simp [requireNonStatic, h]

theorem requireNonStatic_fail (s : IState) (h : s.isStatic = true) :
    requireNonStatic s = .halt .StateChangeDuringStaticCall [] s := by
  simp [requireNonStatic, h]

theorem hostCall_ok {α β} (m : M α) (f : α → M (HostOp × β)) (post : β → HostResp → M Unit) (s s' : IState) (a : α)
    (h : m s = .ok a s') : hostCall (m >>= f) post s = hostCall (f a) post s' := by
  unfold hostCall; rw [bind_ok _ _ _ _ _ h]

theorem hostCall_halt {α β} (m : M α) (f : α → M (HostOp × β)) (post : β → HostResp → M Unit) (s s' : IState) (r o)
    (h : m s = .halt r o s') : hostCall (m >>= f) post s = .halt r o s' := by
  unfold hostCall; rw [bind_halt _ _ _ _ _ _ h]

theorem hostCall_pure {β} (op : HostOp) (b : β) (post : β → HostResp → M Unit) (s : IState) :
    hostCall (pure (op, b)) post s = .host op (fun r => (post b r s).toDone) := rfl

theorem hostCallAction_pure {β} (op : HostOp) (b : β) (post : β → HostResp → M Action) (s : IState) :
    hostCallAction (pure (op, b)) post s = .host op (fun r => (post b r s).toDoneAction) := rfl

theorem getS_ok (s : IState) : getS s = .ok s s := rfl

end Revm.Proofs.EvmStep2
