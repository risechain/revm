import Revm.Proofs.InterpStack
import Revm.Proofs.InterpCost
/-! C25: what a handler starts from (`Base` in any code format, `Start` in legacy code) and continues in (`Done1`,
`Next`), and the arithmetic / environment / stack / memory handlers: each keeps the invariant, never faults, and consumes
at least 1 gas wherever it continues (`Tr s0 .zero m Paid`); each proof is the term that mirrors the handler, primitive
by primitive. PUSHn, JUMP, JUMPI and the dispatch over `execPure` are in `InterpCtl`. -/
namespace Revm.Proofs.Interp
open Revm Revm.Model Revm.Model.Interp
open Revm.Proofs.Memory (WF)

/-- the handler continues, having consumed at least 1 gas, with the instruction pointer where the fetch left it -/
def Done1 (s0 s' : IState) : Prop := ∃ k st ne L, 1 ≤ k ∧ Rel k st ne L s0 s'

/-- what every handler needs of the state it starts in, whatever the code format -/
structure Base (s : IState) : Prop where
  envOk : GasCalc.enabled s.spec GasCalc.SpecId.MERGE = true → s.env.prevrandao ≠ none
  stack : s.stack.length ≤ 1024
  memWF : WF s.mem
  memCk : s.mem.lastCheckpoint ≤ 2^62
  rdLen : s.returnData.length ≤ Memory.ISIZE_MAX
  inLen : s.input.length ≤ Memory.ISIZE_MAX
  meas : measure s ≤ U64 - 1
  safe : measure s < U64 - 1 ∨ s.stack = []

/-- the running relation of a state with itself, with the whole memory as lower bound -/
theorem Base.relL {s : IState} (h : Base s) (st : Bool) (hst : st = true → measure s < U64 - 1) :
    Rel 0 st false (clen s.mem) s s :=
  { code := rfl, origLen := rfl, jt := rfl, eofc := rfl, isEof := rfl, isEofInit := rfl, spec := rfl, env := rfl,
    input := rfl, ck := rfl, cks := rfl, stack := h.stack, memWF := h.memWF, memCk := h.memCk, memL := Nat.le_refl _,
    grow := Nat.le_refl _,
    rdLen := h.rdLen, inLen := h.inLen, m0 := h.meas, meas := Nat.le_of_eq (Nat.add_zero _),
    strict := hst, safe := h.safe, nonempty := fun e => (by cases e), pc := rfl }

theorem Base.rel {s : IState} (h : Base s) : Rel 0 false false 0 s s :=
  (h.relL false (fun e => by cases e)).weaken (Nat.le_refl _) (fun e => e) (fun e => e) (Nat.zero_le _)

/-- the state right after the opcode fetch of `Interpreter::step`, legacy code -/
structure Start (s : IState) : Prop extends Base s where
  codeLen : s.code.length = s.origLen + 33
  jt : ∀ t, Jump.isValid s.jumpTable t = true → t < s.origLen
  legacy : s.isEof = false
  notInit : s.isEofInit = false
  origLe : s.origLen ≤ Memory.ISIZE_MAX
  pc : s.pc ≤ s.origLen

theorem Start.rel {s : IState} (h : Start s) : Rel 0 false false 0 s s := h.toBase.rel

/-- the instruction continues: invariant, at least 1 gas consumed, instruction pointer inside the code -/
structure Next (s0 s' : IState) : Prop where
  core : Core 1 true false 0 s0 s'
  pcOk : s'.pc < s'.code.length

theorem Done1.next {s0 s' : IState} (hs : Start s0) (h : Done1 s0 s') : Next s0 s' := by
  obtain ⟨k, st, ne, L, hk, hr⟩ := h
  refine ⟨hr.core1 hk, ?_⟩
  rw [hr.pc, hr.code, hs.codeLen]
  have := hs.pc; omega

section instr
variable {s0 s : IState}

theorem TrS.done1 {i : Idx} {m : M Unit} (h : Tr s0 i m Paid) : TrS s0 i m fun _ s' => Done1 s0 s' :=
  h.mono fun _ _ ⟨j, hk, hr⟩ => ⟨j.k, j.st, j.ne, j.L, hk, hr⟩

theorem done1_of {k : Nat} {st ne : Bool} {L : Nat} {s' : IState} (h : Rel k st ne L s0 s') (hk : 1 ≤ k) :
    Done1 s0 s' := ⟨k, st, ne, L, hk, h⟩

theorem unopI_tr (g : Nat) (f : Nat → Nat) (hg : 1 ≤ g) : Tr s0 .zero (unopI g f) Paid :=
  .seq (.gas g hg) fun _ _ => .seq .popTop1 fun a _ => .last (.setTop (f a)) fun _ _ => paid hg

theorem binopI_tr (g fk : Nat) (f : Nat → Nat → Nat) (hg : 1 ≤ g) : Tr s0 .zero (binopI g fk f) Paid :=
  .seq (.check fk) fun _ _ => .seq (.gas g hg) fun _ _ => .seq .popTop2 fun (a, b) _ =>
    .last (.setTop (f a b)) fun _ _ => paid hg

theorem teropI_tr (g : Nat) (f : Nat → Nat → Nat → Nat) (hg : 1 ≤ g) : Tr s0 .zero (teropI g f) Paid :=
  .seq (.gas g hg) fun _ _ => .seq .popTop3 fun (a, b, c) _ => .last (.setTop (f a b c)) fun _ _ => paid hg

theorem expI_tr : Tr s0 .zero expI Paid :=
  .seq .popTop2 fun (_, _) _ => .seq .getS fun _ _ =>
    .gasOrFail 1 (Nat.le_refl 1) (fun _ hc => expCost_ge hc) fun _ hc => .last (.setTop _) fun _ _ => paid hc

theorem pushValI_tr (g fk : Nat) (v : IState → Nat) (hg : 1 ≤ g) : Tr s0 .zero (pushValI g fk v) Paid :=
  .seq (.check fk) fun _ _ => .seq (.gas g hg) fun _ _ => .seq .getS fun s _ =>
    .last (.push (v s)) fun _ _ => paid hg

theorem difficultyI_tr
    (henv : GasCalc.enabled s0.spec GasCalc.SpecId.MERGE = true → s0.env.prevrandao ≠ none) :
    Tr s0 .zero difficultyI Paid :=
  .seq (.gas _ (by decide)) fun _ _ => .seq .getS fun s hs => by
    split
    · rename_i hm
      -- `prevrandao.unwrap()`: present from the Merge on
      have hne := henv (by rw [← hs.spec]; exact hm)
      rw [← hs.env] at hne
      cases hp : s.env.prevrandao with
      | none => exact absurd hp hne
      | some w => exact .last (.push w) fun _ _ => paid (by decide)
    · exact .last (.push _) fun _ _ => paid (by decide)

theorem calldataloadI_tr : Tr s0 .zero calldataloadI Paid :=
  .seq (.gas _ (by decide)) fun _ _ => .seq .popTop1 fun off _ => .seq .getS fun s _ =>
    .last (.setTop _) fun _ _ => paid (by decide)

theorem blobhashI_tr : Tr s0 .zero blobhashI Paid :=
  .seq (.check _) fun _ _ => .seq (.gas _ (by decide)) fun _ _ => .seq .popTop1 fun idx _ => .seq .getS fun s _ =>
    .last (.setTop _) fun _ _ => paid (by decide)

/-- CALLDATACOPY / CODECOPY: `data` is a Rust slice, `guard` (the `assume!` of CODECOPY) only reads -/
theorem copyToMem_tr (data : IState → List Nat)
    (hd : ∀ s', s'.input = s0.input → s'.code = s0.code → s'.origLen = s0.origLen →
      (data s').length ≤ Memory.ISIZE_MAX)
    (guard : M Unit) (hg : ∀ i, Step s0 i guard i fun _ => True) : Tr s0 .zero (copyToMem data guard) Paid :=
  .seq .pop3 fun (memOff, dataOff, len) _ => .seq (.asUsize len _) fun len' _ =>
    .gasOrFail 3 (by decide) (fun _ hc => verylowcopyCost_ge hc) fun c hc => by
      split
      · exact .pure (paid (by omega))
      · exact .seq (.asUsize memOff _) fun memOff' _ => .seq (.resizeMem memOff' len') fun _ _ =>
          .seq (hg _) fun _ _ => .seq .getS fun s hs =>
            .last (.memSetData _ (hd s hs.input hs.code hs.origLen) (Nat.le_max_right _ _)) fun _ _ => paid (by omega)

theorem Step.assumeNotEof (hleg : s0.isEof = false) (i : Idx) : Step s0 i assumeNotEof i fun _ => True :=
  .ofRead fun x hx => by
    unfold Interp.assumeNotEof
    rw [hx.isEof, hleg]
    exact sat_ok ⟨rfl, trivial⟩

theorem codesizeI_tr (hleg : s0.isEof = false) : Tr s0 .zero codesizeI Paid :=
  .seq (.gas _ (by decide)) fun _ _ => .seq (.assumeNotEof hleg _) fun _ _ => .seq .getS fun s _ =>
    .last (.push _) fun _ _ => paid (by decide)

theorem returndatacopyI_tr : Tr s0 .zero returndatacopyI Paid :=
  .seq (.check _) fun _ _ => .seq .pop3 fun (memOff, off, len) _ => .seq (.asUsize len _) fun len' _ =>
    .gasOrFail 3 (by decide) (fun _ hc => verylowcopyCost_ge hc) fun c hc => .seq .getS fun s hs => by
      split
      · exact .halt _
      · split
        · exact .pure (paid (by omega))
        · exact .seq (.asUsize memOff _) fun memOff' _ => .seq (.resizeMem memOff' len') fun _ _ =>
            .last (.memSetData _ hs.rdLen (Nat.le_max_right _ _)) fun _ _ => paid (by omega)

theorem popI_tr : Tr s0 .zero popI Paid := by
  refine .seq (.gas _ (by decide)) fun _ _ => .last (.stackCall _ .pop trivial fun d => ⟨rfl, ?_, ?_⟩) fun _ _ =>
    paid (by decide)
  all_goals
    intro e
    have e' : resVoid (Stack.pop d).2 = _ := e
    show Stack.Out.ofWord (Stack.pop d).2 = _
    cases hp : (Stack.pop d).2 <;> rw [hp] at e' <;> first | rfl | cases e'

theorem push0I_tr : Tr s0 .zero push0I Paid :=
  .seq (.check _) fun _ _ => .seq (.gas _ (by decide)) fun _ _ =>
    .last (.stackUnit _ (.push 0) trivial fun _ => rfl) fun _ _ => paid (by decide)

theorem dupI_tr (n : Nat) (hn : 0 < n) : Tr s0 .zero (dupI n) Paid :=
  .seq (.gas _ (by decide)) fun _ _ => .last (.stackUnit _ (.dup n) hn fun _ => rfl) fun _ _ => paid (by decide)

theorem swapI_tr (n : Nat) (hn : 0 < n) (hn2 : n ≤ 16) : Tr s0 .zero (swapI n) Paid :=
  .seq (.gas _ (by decide)) fun _ _ =>
    .last (.stackUnit _ (.swap n) ⟨hn, by rw [U64_val]; omega⟩ fun _ => rfl) fun _ _ => paid (by decide)

theorem mstoreI_tr : Tr s0 .zero mstoreI Paid :=
  .seq (.gas _ (by decide)) fun _ _ => .seq .pop2 fun (offset, value) _ => .seq (.asUsize offset _) fun off _ =>
    .seq (.resizeMem off 32) fun _ _ => .last (.memSetU256 value (Nat.le_max_right _ _)) fun _ _ => paid (by decide)

theorem mstore8I_tr : Tr s0 .zero mstore8I Paid :=
  .seq (.gas _ (by decide)) fun _ _ => .seq .pop2 fun (offset, value) _ => .seq (.asUsize offset _) fun off _ =>
    .seq (.resizeMem off 1) fun _ _ => .last (.memSetByte _ (Nat.le_max_right _ _)) fun _ _ => paid (by decide)

theorem mloadI_tr : Tr s0 .zero mloadI Paid :=
  .seq (.gas _ (by decide)) fun _ _ => .seq .popTop1 fun top _ => .seq (.asUsize top _) fun off _ =>
    .seq (.resizeMem off 32) fun _ _ => .seq (.memGetU256 (Nat.le_max_right _ _)) fun v _ =>
      .last (.setTop v) fun _ _ => paid (by decide)

theorem mcopyI_tr : Tr s0 .zero mcopyI Paid :=
  .seq (.check _) fun _ _ => .seq .pop3 fun (dst, src, len) _ => .seq (.asUsize len _) fun len' _ =>
    .gasOrFail 3 (by decide) (fun _ hc => verylowcopyCost_ge hc) fun c hc => by
      split
      · exact .pure (paid (by omega))
      · exact .seq (.asUsize dst _) fun dst' _ => .seq (.asUsize src _) fun src' _ =>
          .seq (.resizeMem (max dst' src') len') fun _ _ =>
            .last (.memCopy (by omega) (by omega)) fun _ _ => paid (by omega)

theorem jumpdest_tr : Tr s0 .zero (gasCharge GasCalc.JUMPDEST) Paid :=
  .last (.gas _ (by decide)) fun _ _ => paid (by decide)

/-- RETURN / REVERT never continue (any post-condition `R`) -/
theorem returnInner_tr {R : Unit → IState → Prop} (r : IResult) : TrS s0 .zero (returnInner r) R :=
  .seq .pop2 fun (offset, len) _ => .seq (.asUsize len _) fun len' _ => by
    split
    · exact .seq (.asUsize offset _) fun off _ => .seq (.resizeMem off len') fun _ _ =>
        .seq (.memSlice (Nat.le_max_right _ _)) fun out _ => .haltOut _ _
    · exact .haltOut _ _

theorem revertI_tr {R : Unit → IState → Prop} : TrS s0 .zero revertI R :=
  .seq (.check _) fun _ _ => returnInner_tr _

end instr

end Revm.Proofs.Interp
