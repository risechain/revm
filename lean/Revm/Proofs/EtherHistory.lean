import Revm.Proofs.EtherJournal
/-! C08: the operations that do not move ether, the refinement of a `step` (`step_refines`) and the invariant
over arbitrary histories. `step_inv`, `run_inv` assume funded creations and a total below 2^256; their `_local` forms
assume `StepOk` of each step instead. -/
namespace Revm.Proofs.Ether
open Revm Revm.Model.Journal Revm.Spec.JournalAbs Revm.Spec.Ether

theorem same_setAcct' {db : Db} {s : JState} {a : Addr} {acc acc' : Acct} (hs : s.state a = some acc)
    (hb : acc'.info.balance = acc.info.balance) : Same db s (setAcct s a acc') :=
  same_setAcct (hb.trans (bal_some hs).symm)

theorem loadCode_same {db : Db} {s s' : JState} {a : Addr} {c : Bool}
    (h : loadCode db s a = some (s', c)) : Same db s s' := by
  obtain ⟨s1, acc, h1, h2, rfl⟩ := Journal.loadCode_some h
  obtain ⟨e1, _⟩ := loadAccount_same (db := db) h1
  split
  · exact e1.trans (same_setAcct' h2 rfl)
  · exact e1

theorem loadAccountDelegated_same {db : Db} {s s' : JState} {a : Addr} {r : Bool × Bool × Option Bool}
    (h : loadAccountDelegated db s a = some (s', r)) : Same db s s' := by
  obtain ⟨e, c, d⟩ := r
  obtain ⟨s1, acc, h1, _, _, hm⟩ := Journal.loadAccountDelegated_some h
  have e1 := loadCode_same (db := db) h1
  cases hd : acc.info.code.bind db.delegate <;> simp only [hd] at hm
  · rw [hm.1]; exact e1
  · obtain ⟨dc, h3, _⟩ := hm; exact e1.trans (loadAccount_same h3).1

theorem initialAccountLoad_same {db : Db} {s : JState} {a : Addr} {keys : List Nat} :
    Same db s (initialAccountLoad db s a keys) := by
  rw [Proofs.Journal.ial_eq]
  apply same_setAcct
  show (Proofs.Journal.loadedAcct db s a).info.balance = _
  unfold Proofs.Journal.loadedAcct
  cases hs : s.state a with
  | some acc => simp only []; exact (bal_some hs).symm
  | none =>
    simp only []
    rw [bal_none hs]
    cases db.basic a <;> rfl

theorem touch_same {db : Db} {s s' : JState} {a : Addr} (h : touch s a = some s') : Same db s s' := by
  rcases Proofs.Journal.touch_some h with ⟨acc, _, hs, ht⟩ | ⟨_, rfl⟩
  · exact (touchAccount_same (db := db) hs ht).1
  · exact Same.refl _ _

theorem same_touch_push_set {db : Db} {s s1 s2 : JState} {a : Addr} {acc acc1 acc' : Acct} {e : Entry}
    (hs : s.state a = some acc) (ht : touchAccount s a acc = some (s1, acc1)) (hp : pushEntry s1 e = some s2)
    (he : isBal e = false) (hb : acc'.info.balance = acc1.info.balance) : Same db s (setAcct s2 a acc') := by
  obtain ⟨e1, hs1, _, _, _⟩ := touchAccount_same (db := db) hs ht
  have e2 := same_pushEntry (db := db) hp he
  refine (e1.trans e2).trans (same_setAcct ?_)
  rw [hb, e2.1, bal_some hs1]

theorem incNonce_same {db : Db} {s s' : JState} {a : Addr} {r : Option Nat}
    (h : incNonce s a = some (s', r)) : Same db s s' := by
  obtain ⟨acc, h1, h⟩ := Journal.incNonce_some h
  split at h
  · rw [h.1]; exact Same.refl _ _
  · obtain ⟨s1, acc1, s2, h2, h3, rfl, _⟩ := h
    exact same_touch_push_set h1 h2 h3 rfl rfl

theorem setCode_same {db : Db} {s s' : JState} {a : Addr} {hash : Nat}
    (h : setCode s a hash = some s') : Same db s s' := by
  obtain ⟨acc, s1, acc1, s2, h1, h2, h3, rfl⟩ := Journal.setCode_some h
  exact same_touch_push_set h1 h2 h3 rfl rfl

theorem sload_same {db : Db} {s s' : JState} {a : Addr} {k : Nat} {r : Nat × Bool}
    (h : sload db s a k = some (s', r)) : Same db s s' ∧ ∃ acc, s'.state a = some acc := by
  obtain ⟨acc, hs⟩ : ∃ acc, s.state a = some acc := by
    cases hs : s.state a with
    | none => simp [sload, hs] at h
    | some acc => exact ⟨acc, rfl⟩
  rw [Journal.sload_eq db s a k acc hs] at h
  simp only [] at h
  have e0 : ∀ sl, Same db s (setAcct s a (setSlot acc k sl)) := fun sl => same_setAcct' hs rfl
  split at h
  · obtain ⟨s1, hp, h⟩ := Option.map_eq_some_iff.1 h
    cases h
    exact ⟨(e0 _).trans (same_pushEntry hp rfl), _, by rw [(pushEntry_state hp).1]; exact setAcct_state_same _ _ _⟩
  · cases h; exact ⟨e0 _, _, setAcct_state_same _ _ _⟩

theorem sstore_same {db : Db} {s s' : JState} {a : Addr} {k v : Nat} {r : Nat × Nat × Nat × Bool}
    (h : sstore db s a k v = some (s', r)) : Same db s s' := by
  obtain ⟨o, p, n, c⟩ := r
  obtain ⟨s1, acc, sl, h1, h2, _, _, _, h⟩ := Journal.sstore_some h
  obtain ⟨e1, _⟩ := sload_same (db := db) h1
  split at h
  · rw [h]; exact e1
  · obtain ⟨s2, h4, rfl⟩ := h
    have e2 := same_pushEntry (db := db) h4 rfl
    refine (e1.trans e2).trans (same_setAcct ?_)
    show acc.info.balance = _
    rw [e2.1, bal_some h2]

theorem tstore_same {db : Db} {s s' : JState} {a : Addr} {k v : Nat}
    (h : tstore s a k v = some s') : Same db s s' := by
  have e0 : ∀ x, Same db s (setTransient s a k x) := fun x => ⟨bal_congr_state rfl, rfl⟩
  rw [Journal.tstore_eq] at h
  split at h
  · exact (e0 _).trans (same_pushEntry h rfl)
  · cases h; exact e0 _

theorem log_same {db : Db} {s : JState} {l : Nat} : Same db s (log s l) := ⟨bal_congr_state rfl, rfl⟩

theorem checkpoint_same {db : Db} {s : JState} : Same db s (checkpoint s).1 :=
  ⟨bal_congr_state rfl, by simp [checkpoint, JB]⟩

theorem commit_same {db : Db} {s : JState} : Same db s (commit s) := ⟨bal_congr_state rfl, rfl⟩


/-- the operations that can move or destroy ether -/
def isEtherOp : Op → Bool
  | .transfer .. => true
  | .selfdestruct .. => true
  | .create .. => true
  | .revert _ => true
  | _ => false

theorem non_ether_step {db : Db} {r r' : Run} {op : Op} (hop : isEtherOp op = false)
    (h : step db r op = some r') : Same db r.js r'.js := by
  cases Journal.step_called h with
  | load h1 => exact (loadAccount_same h1).1
  | loadCode h1 => exact loadCode_same h1
  | loadDelegated h1 => exact loadAccountDelegated_same h1
  | initLoad => exact initialAccountLoad_same
  | touch h1 => exact touch_same h1
  | incNonce h1 => exact incNonce_same h1
  | setCode h1 => exact setCode_same h1
  | sload h1 => exact (sload_same h1).1
  | sstore h1 => exact sstore_same h1
  | tload => exact Same.refl _ _
  | tstore h1 => exact tstore_same h1
  | log => exact log_same
  | checkpoint => exact checkpoint_same
  | commit => exact commit_same
  | _ => cases hop

theorem binv_of_same {db : Db} {L B} {s s' : JState} (h : BInv L B (absB db s)) (hs : Same db s s') :
    BInv L B (absB db s') := by rw [hs.absB]; exact h

/-- each `Op` of the journal model, seen through `absB`, is the balance machine's operation of that name -/
theorem step_refines {db : Db} {r r' : Run} {op : Op} (hok : BalOk db r.js) (h : step db r op = some r') :
    match (generalizing := false) op with
    | .transfer src dst v => absB db r'.js = (bTransfer (absB db r.js) src dst v).1
    | .selfdestruct a t =>
      ∃ prev, absB db r'.js = bSelfdestruct (absB db r.js) a t (crt r.js a) (decide (r.js.spec ≥ CANCUN)) prev
    | .create caller a _ v _ =>
      absB db r'.js = absB db r.js ∨ (bal db r.js a + v < W ∧ absB db r'.js = bCreateOk (absB db r.js) caller a v)
    | .revert _ => ∃ n, absB db r'.js = bRevert (absB db r.js) n
    | _ => absB db r'.js = absB db r.js := by
  by_cases hop : isEtherOp op = false
  · have e := (non_ether_step (db := db) hop h).absB
    cases op <;> first | exact e | cases hop
  · cases Journal.step_called h with
    | transfer h1 => exact (transfer_refines hok h1).1
    | selfdestruct h1 => exact selfdestruct_refines h1
    | created h1 => exact Or.inr ((create_refines (db := db) h1).1 rfl)
    | @notCreated _ _ _ _ _ _ er h1 => exact Or.inl ((create_refines (db := db) h1).2.1 (by cases er <;> simp [createOutcome]))
    | revert _ h1 => exact ⟨_, revert_refines h1⟩
    | _ => exact absurd rfl hop

theorem step_inv_local {db : Db} {L : List Addr} {B : Addr → Nat} {r r' : Run} {op : Op}
    (hinv : BInv L B (absB db r.js)) (hL : ∀ a ∈ opAddrs op, a ∈ L)
    (hloc : StepOk db r op) (h : step db r op = some r') : BInv L B (absB db r'.js) := by
  have e := step_refines hinv.ok h
  by_cases hop : isEtherOp op = false
  · exact binv_of_same hinv (non_ether_step hop h)
  · cases op <;> (first | exact absurd rfl hop | skip)
    case transfer src dst v =>
      rw [e]
      exact bTransfer_inv hinv v (hL src (by simp [opAddrs])) (hL dst (by simp [opAddrs]))
    case selfdestruct a t =>
      obtain ⟨prev, e⟩ := e
      rw [e]
      exact bSelfdestruct_inv hinv _ _ _ (hL a (by simp [opAddrs])) (hL t (by simp [opAddrs])) hloc
    case create caller a hs v spec =>
      rcases e with e | ⟨hlt, e⟩
      · rw [e]; exact hinv
      · rw [e]
        exact bCreateOk_inv hinv (hL caller (by simp [opAddrs])) (hL a (by simp [opAddrs])) hlt (Or.inr hloc)
    case revert i =>
      obtain ⟨n, e⟩ := e
      rw [e]; exact hinv.revert n

theorem stepOk_of_total {db : Db} {L : List Addr} {B : Addr → Nat} {r : Run} {op : Op} (hn : L.Nodup)
    (hB : sumOver L B < W) (hinv : BInv L B (absB db r.js)) (hL : ∀ a ∈ opAddrs op, a ∈ L)
    (hf : Funded db r op) : StepOk db r op := by
  cases op <;> try trivial
  case selfdestruct a t =>
    intro hat
    have ha : a ∈ L := hL a (by simp [opAddrs])
    have ht : t ∈ L := hL t (by simp [opAddrs])
    have h2 := two_le_sumOver (bal db r.js) hn ht ha (fun e => hat e.symm)
    have h3 := hinv.ledger hn
    simp only [absB] at h3
    omega

theorem step_inv {db : Db} {L : List Addr} {B : Addr → Nat} {r r' : Run} {op : Op} (hn : L.Nodup)
    (hB : sumOver L B < W) (hinv : BInv L B (absB db r.js)) (hL : ∀ a ∈ opAddrs op, a ∈ L)
    (hf : Funded db r op) (h : step db r op = some r') : BInv L B (absB db r'.js) :=
  step_inv_local hinv hL (stepOk_of_total hn hB hinv hL hf) h

theorem run_inv_local {db : Db} {L : List Addr} {B : Addr → Nat} {ops : List Op} {r r' : Run}
    (hinv : BInv L B (absB db r.js))
    (hL : ∀ op ∈ ops, ∀ a ∈ opAddrs op, a ∈ L) (hf : StepOkRun db r ops) (h : run db r ops = some r') :
    BInv L B (absB db r'.js) := by
  induction ops generalizing r with
  | nil => simp only [run] at h; cases h; exact hinv
  | cons op ops ih =>
    simp only [run] at h
    split at h
    · rename_i r1 h1
      exact ih (step_inv_local hinv (hL op List.mem_cons_self) hf.1 h1)
        (fun o ho => hL o (List.mem_cons_of_mem _ ho)) (hf.2 r1 h1) h
    · cases h

theorem run_inv {db : Db} {L : List Addr} {B : Addr → Nat} {ops : List Op} {r r' : Run} (hn : L.Nodup)
    (hB : sumOver L B < W) (hinv : BInv L B (absB db r.js))
    (hL : ∀ op ∈ ops, ∀ a ∈ opAddrs op, a ∈ L) (hf : FundedRun db r ops) (h : run db r ops = some r') :
    BInv L B (absB db r'.js) := by
  induction ops generalizing r with
  | nil => simp only [run] at h; cases h; exact hinv
  | cons op ops ih =>
    simp only [run] at h
    split at h
    · rename_i r1 h1
      exact ih (step_inv hn hB hinv (hL op List.mem_cons_self) hf.1 h1)
        (fun o ho => hL o (List.mem_cons_of_mem _ ho)) (hf.2 r1 h1) h
    · cases h

/-- a state whose journal holds no balance entry (a transaction start) satisfies the invariant with
its own balances as base (`binv_fresh'` is the machine's own form) -/
theorem binv_fresh {db : Db} {L : List Addr} {s : JState} (hok : BalOk db s) (hj : JB s = []) :
    BInv L (bal db s) (absB db s) where
  ok := hok
  ein := by simp only [absB, hj]; intro e he; cases he
  vok := by simp only [absB, hj]; intro e he; cases he
  good := by simp only [absB, hj]; trivial
  base := by simp only [absB, hj]; rfl

end Revm.Proofs.Ether
