import Revm.Proofs.EvmLinkHist
import Revm.Spec.AccessHistory
/-! The `Host` of the whole-EVM model as a history of journal operations (C06 / C10 / C34 are stated on such histories,
`Spec.JournalAbs.run`): every answer of `Evm.answer` is one `JournalAbs.step` (or none) on the world's journal, over the
same database (`answer_hist`), and the `is_cold` bits handed to the interpreter are `coldBits` of that operation, the bits
`is_cold_iff` (C34) is about (`answer_trace`). `answer_inv` is the inversion of `Evm.answer`: which `World` operation
answered. -/
namespace Revm.Proofs.EvmLink
open Revm Revm.Model Revm.Model.Evm

export Revm.Proofs.Evm (bind_ok)

theorem acct_ok {w : World} {a : Nat} {acc : Journal.Acct} (h : w.acct a = .ok acc) : w.js.state a = some acc :=
  Proofs.EvmHost.ofOpt_ok h

theorem acct_of_state {w : World} {a : Nat} {acc : Journal.Acct} (h : w.js.state a = some acc) : w.acct a = .ok acc := by
  unfold World.acct; rw [h]; rfl

theorem answer_inv {he : HostEnv} {w w1 : World} {op : Interp.HostOp} {resp : Interp.HostResp}
    (h : answer he w op = .ok (resp, w1)) : resp.ok = true ∧ (resp.bytes = [] ∨ ∃ a, op = .code a) ∧
    match op with
    | .keccak _ | .blockHash _ | .tload _ _ | .create2Address _ _ _ => w1 = w
    | .log _ _ _ => w1.js = Journal.log w.js w.logs.length ∧ JOnly w w1 []
    | .balance a => w.loadAccount a = .ok (w1, resp.isCold)
    | .code a => w.loadCode a = .ok (w1, resp.isCold) ∧ ∃ hh, w1.codeOf hh = some resp.bytes
    | .codeHash a => w.loadCode a = .ok (w1, resp.isCold)
    | .loadAccountDelegated a => w.loadAccountDelegated a = .ok (w1, resp.isEmpty, resp.isCold, resp.delegCold)
    | .sload a k => (∃ v, Journal.sload w.db w.js a k = some (w1.js, v, resp.isCold)) ∧ JOnly w w1 []
    | .sstore a k v => (∃ o p n, Journal.sstore w.db w.js a k v = some (w1.js, o, p, n, resp.isCold)) ∧ JOnly w w1 []
    | .tstore a k v => Journal.tstore w.js a k v = some w1.js ∧ JOnly w w1 []
    | .selfdestruct a t =>
      Journal.selfdestruct w.db w.js a t =
        some (w1.js, resp.hadValue, resp.targetExists, resp.previouslyDestroyed, resp.isCold) ∧ JOnly w w1 [t] := by
  cases op <;> simp only [answer] at h
  case keccak d => cases h; exact ⟨rfl, .inl rfl, rfl⟩
  case blockHash n => cases h; exact ⟨rfl, .inl rfl, rfl⟩
  case tload a k => cases h; exact ⟨rfl, .inl rfl, rfl⟩
  case create2Address d sl c => cases h; exact ⟨rfl, .inl rfl, rfl⟩
  case log a t d => cases h; exact ⟨rfl, .inl rfl, rfl, rfl, rfl, rfl, fun _ hx => hx, fun _ hx => nomatch hx⟩
  case balance a =>
    obtain ⟨⟨w2, c⟩, h1, h⟩ := bind_ok h
    obtain ⟨acc, _, h⟩ := bind_ok h
    cases h; exact ⟨rfl, .inl rfl, h1⟩
  case code a =>
    obtain ⟨⟨w2, c⟩, h1, h⟩ := bind_ok h
    obtain ⟨acc, _, h⟩ := bind_ok h
    obtain ⟨hh, _, h⟩ := bind_ok h
    obtain ⟨bytes, hb, h⟩ := bind_ok h
    cases h; exact ⟨rfl, .inr ⟨a, rfl⟩, h1, hh, Proofs.EvmHost.ofOpt_ok hb⟩
  case codeHash a =>
    obtain ⟨⟨w2, c⟩, h1, h⟩ := bind_ok h
    obtain ⟨acc, _, h⟩ := bind_ok h
    split at h <;> (cases h; exact ⟨rfl, .inl rfl, h1⟩)
  case sload a k =>
    obtain ⟨⟨js, v, c⟩, h1, h⟩ := bind_ok h
    cases h
    exact ⟨rfl, .inl rfl, ⟨v, by rw [Proofs.EvmHost.noteSlot_js]; exact Proofs.EvmHost.ofOpt_ok h1⟩, (JOnly.js w js).noteSlot a k⟩
  case sstore a k v =>
    obtain ⟨⟨js, o, p, n, c⟩, h1, h⟩ := bind_ok h
    cases h
    exact ⟨rfl, .inl rfl, ⟨o, p, n, by rw [Proofs.EvmHost.noteSlot_js]; exact Proofs.EvmHost.ofOpt_ok h1⟩,
      (JOnly.js w js).noteSlot a k⟩
  case tstore a k v =>
    obtain ⟨js, h1, h⟩ := bind_ok h
    cases h; exact ⟨rfl, .inl rfl, Proofs.EvmHost.ofOpt_ok h1, JOnly.js w js⟩
  case selfdestruct a t =>
    obtain ⟨⟨js, hv, te, pd, c⟩, h1, h⟩ := bind_ok h
    cases h
    exact ⟨rfl, .inl rfl, by rw [Proofs.EvmHost.noteAddr_js]; exact Proofs.EvmHost.ofOpt_ok h1, (JOnly.js w js).noteAddr t⟩
  case loadAccountDelegated a =>
    obtain ⟨⟨w2, ie, c, dc⟩, h1, h⟩ := bind_ok h
    cases h; exact ⟨rfl, .inl rfl, h1⟩

open Revm.Spec.JournalAbs (Op)

/-- the journal operations behind a `Host` question (`impl Host for Context`); the log id is the world's next id -/
def hostOps (w : World) : Interp.HostOp → List Op
  | .keccak _ => []
  | .balance a => [.load a]
  | .code a => [.loadCode a]
  | .codeHash a => [.loadCode a]
  | .blockHash _ => []
  | .sload a k => [.sload a k]
  | .sstore a k v => [.sstore a k v]
  | .tload a k => [.tload a k]
  | .tstore a k v => [.tstore a k v]
  | .log _ _ _ => [.log w.logs.length]
  | .selfdestruct a t => [.selfdestruct a t]
  | .loadAccountDelegated a => [.loadDelegated a]
  | .create2Address _ _ _ => []

/-- the `is_cold` bits in a `Host` answer -/
def respBits : Interp.HostOp → Interp.HostResp → List Bool
  | .balance _, r | .code _, r | .codeHash _, r | .sload _ _, r | .sstore _ _ _, r | .selfdestruct _ _, r => [r.isCold]
  | .loadAccountDelegated _, r => r.isCold :: r.delegCold.toList
  | _, _ => []

theorem answer_hist {he : HostEnv} {w w1 : World} {op : Interp.HostOp} {resp : Interp.HostResp}
    (h : answer he w op = .ok (resp, w1)) (cps : List Journal.Checkpoint) : Hist w cps (hostOps w op) w1 cps := by
  obtain ⟨_, _, hi⟩ := answer_inv h
  cases op with
  | keccak _ | blockHash _ | create2Address _ _ _ => rw [hi]; exact .nil _ _
  | tload a k =>
    rw [hi]
    exact (WStep.mk (op := .tload a k) rfl (JOnly.js w _) (NGrow.refl _) (KLe.refl _) nofun trivial).hist
  | balance a => exact ((w_loadAccount_wstep hi).2 cps).hist
  | code a => exact ((w_loadCode_wstep hi.1).2 cps).hist
  | codeHash a => exact ((w_loadCode_wstep hi).2 cps).hist
  | loadAccountDelegated a => exact ((w_loadAccountDelegated_wstep hi).2 cps).hist
  | sload a k =>
    obtain ⟨⟨v, t1⟩, n⟩ := hi
    exact (WStep.of_op (op := .sload a k) (by simp only [Spec.JournalAbs.step, t1, Option.map_some]) n (lvl_sload t1).dom
      nofun trivial).hist
  | sstore a k v =>
    obtain ⟨⟨o, p, nw, t1⟩, n⟩ := hi
    exact (WStep.of_op (op := .sstore a k v) (by simp only [Spec.JournalAbs.step, t1, Option.map_some]) n (lvl_sstore t1).dom
      nofun trivial).hist
  | tstore a k v =>
    obtain ⟨t1, n⟩ := hi
    exact (WStep.of_op (op := .tstore a k v) (by simp only [Spec.JournalAbs.step, t1, Option.map_some]) n (lvl_tstore t1).dom
      nofun trivial).hist
  | log a t d =>
    obtain ⟨t1, n⟩ := hi
    exact (WStep.of_op (op := .log w.logs.length) (by simp only [Spec.JournalAbs.step, t1]) n
      (by rw [t1]; exact .of_state_eq rfl) nofun trivial).hist
  | selfdestruct a t =>
    obtain ⟨t1, n⟩ := hi
    obtain ⟨d, pa⟩ := lvl_selfdestruct t1
    refine (WStep.of_op (op := .selfdestruct a t) (by simp only [Spec.JournalAbs.step, t1, Option.map_some]) n d.dom
      (fun x hx => ?_) trivial).hist
    simp only [opLoads, Spec.Ether.opAddrs, List.mem_cons, List.not_mem_nil, or_false] at hx
    rcases hx with rfl | rfl
    · exact pa
    · exact d.dom.present (List.mem_singleton.mpr rfl)

open Revm.Spec.JournalAbs Revm.Spec.AccessHistory in
/-- `answer_hist` as a `JournalAbs.run`, and for the operations that expose `is_cold` (C34 `exposes`) the bits in the
answer are `coldBits` of the operation: the bit of each loading operation is the one its journal function returned -/
theorem answer_trace {he : HostEnv} {w w1 : World} {op : Interp.HostOp} {resp : Interp.HostResp}
    (h : answer he w op = .ok (resp, w1)) (cps : List Journal.Checkpoint) :
    run w.db { js := w.js, cps := cps } (hostOps w op) = some { js := w1.js, cps := cps } ∧ w1.db = w.db ∧
    (∀ o, o ∈ hostOps w op → exposes o = true → coldBits w.db w.js o = some (respBits op resp)) := by
  refine ⟨(answer_hist h cps).run, (answer_hist h cps).only.db, fun o ho hx => ?_⟩
  obtain ⟨_, _, hi⟩ := answer_inv h
  cases op with
  | keccak _ | blockHash _ | create2Address _ _ _ => exact nomatch ho
  | tload a k | log a t d | tstore a k v => rw [List.mem_singleton.mp ho] at hx; cases hx
  | balance a =>
    rw [List.mem_singleton.mp ho]; simp only [coldBits, (w_loadAccount_wstep hi).1, Option.map_some, respBits]
  | code a => rw [List.mem_singleton.mp ho]; simp only [coldBits, (w_loadCode_wstep hi.1).1, Option.map_some, respBits]
  | codeHash a => rw [List.mem_singleton.mp ho]; simp only [coldBits, (w_loadCode_wstep hi).1, Option.map_some, respBits]
  | loadAccountDelegated a =>
    rw [List.mem_singleton.mp ho]
    simp only [coldBits, (w_loadAccountDelegated_wstep hi).1, Option.map_some, respBits]
  | sload a k =>
    obtain ⟨⟨v, t1⟩, _⟩ := hi
    rw [List.mem_singleton.mp ho]; simp only [coldBits, t1, Option.map_some, respBits]
  | sstore a k v =>
    obtain ⟨⟨o', p, nw, t1⟩, _⟩ := hi
    rw [List.mem_singleton.mp ho]; simp only [coldBits, t1, Option.map_some, respBits]
  | selfdestruct a t =>
    rw [List.mem_singleton.mp ho]; simp only [coldBits, hi.1, Option.map_some, respBits]

end Revm.Proofs.EvmLink
