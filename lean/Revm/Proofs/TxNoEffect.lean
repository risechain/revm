import Revm.Model.TxValidate
/-! C02, second sentence: a rejected transaction changes nothing. Theorems about the model of
`Evm::transact`'s context (`Model.TxValidate.transact`), for ALL context states, all databases and
every accepted-path function `exec`; then for lists of transactions on one context (`runHistory`). -/
namespace Revm.Proofs.TxNoEffect
open Revm Revm.Model.TxValidate
open Revm.Model.GasCalc (canon)

variable {D O : Type}

/-- the context `Evm::transact` leaves behind and expects: empty journal of its spec, error slot `Ok` -/
def Clean (c : Ctx D) : Prop := c.journal = Journal.new c.journal.spec ∧ c.error = none

/-- reads do not change the database value (a `DatabaseRef`-backed database; for a caching database
such as `CacheDB` a read fills the cache — observationally the same database, see C20) -/
def ReadOnly (ops : DbOps D) : Prop := ∀ d a, (ops.basic d a).1 = d

theorem clear_clean (c : Ctx D) : Clean (clear c) := ⟨rfl, rfl⟩

theorem clear_of_clean (c : Ctx D) (h : Clean c) : clear c = c := by
  obtain ⟨db, j, e⟩ := c
  obtain ⟨h1, h2⟩ := h
  simp only at h1 h2
  subst h2
  unfold clear Journal.clear
  simp only
  rw [← h1]

theorem loadCode_db (ops : DbOps D) (c : Ctx D) (a : Nat) :
    (loadCode ops c a).2.db = c.db ∨ (loadCode ops c a).2.db = (ops.basic c.db a).1 := by
  unfold loadCode
  split
  · exact Or.inl rfl
  · exact Or.inr rfl

theorem loadCode_spec (ops : DbOps D) (c : Ctx D) (a : Nat) :
    (loadCode ops c a).2.journal.spec = c.journal.spec := by
  unfold loadCode
  split <;> rfl

theorem preverify_db (ops : DbOps D) (c : Ctx D) (env : Env) :
    (preverify ops c env).2.db = c.db ∨ (preverify ops c env).2.db = (ops.basic c.db env.caller).1 := by
  unfold preverify
  simp only []
  split
  · split
    · exact loadCode_db ops c env.caller
    · exact Or.inl rfl
  · exact Or.inl rfl

theorem preverify_spec (ops : DbOps D) (c : Ctx D) (env : Env) :
    (preverify ops c env).2.journal.spec = c.journal.spec := by
  unfold preverify
  simp only []
  split
  · split
    · exact loadCode_spec ops c env.caller
    · rfl
  · rfl

theorem preverify_eq_validate (ops : DbOps D) (c : Ctx D) (env : Env) (h : c.journal.loaded = []) :
    (preverify ops c env).1 =
      validate c.journal.spec env.cfg env.blk env.tx ((ops.basic c.db env.caller).2.getD {}) := by
  unfold preverify validate validateCanon
  simp only []
  cases h1 : validateEnv (canon c.journal.spec) env.cfg env.blk env.tx with
  | ok =>
    simp only [Res.andThen]
    cases h2 : validateInitialTxGas (canon c.journal.spec) env.tx with
    | ok =>
      simp only []
      unfold loadCode
      rw [h]
      rfl
    | err e => rfl
    | panic => rfl
  | err e => rfl
  | panic => rfl

theorem rejected_no_effect (ops : DbOps D) (exec : Ctx D → Env → O × Ctx D) (c : Ctx D) (env : Env)
    (e : Err) (o : Option O) (c' : Ctx D)
    (h : transact ops exec c env = ((.err e, o), c')) :
    o = none ∧ c'.journal = Journal.new c.journal.spec ∧ c'.error = none ∧
      (c'.db = c.db ∨ c'.db = (ops.basic c.db env.caller).1) := by
  unfold transact at h
  have hdb := preverify_db ops c env
  have hsp := preverify_spec ops c env
  generalize preverify ops c env = r at *
  obtain ⟨res, c1⟩ := r
  cases res with
  | ok => simp only [Prod.mk.injEq, reduceCtorEq, false_and] at h
  | panic => simp only [Prod.mk.injEq, reduceCtorEq, false_and] at h
  | err e1 =>
    simp only [Prod.mk.injEq] at h
    obtain ⟨⟨_, ho⟩, hc⟩ := h
    subst hc
    refine ⟨ho.symm, ?_, rfl, hdb⟩
    show Journal.new c1.journal.spec = _
    rw [hsp]

theorem rejected_db_equal (ops : DbOps D) (hro : ReadOnly ops) (exec : Ctx D → Env → O × Ctx D)
    (c : Ctx D) (env : Env) (e : Err) (o : Option O) (c' : Ctx D)
    (h : transact ops exec c env = ((.err e, o), c')) : c'.db = c.db := by
  have := (rejected_no_effect ops exec c env e o c' h).2.2.2
  rcases this with h | h
  · exact h
  · rw [h, hro]

theorem rejected_ctx_equal (ops : DbOps D) (hro : ReadOnly ops) (exec : Ctx D → Env → O × Ctx D)
    (c : Ctx D) (hc : Clean c) (env : Env) (e : Err) (o : Option O) (c' : Ctx D)
    (h : transact ops exec c env = ((.err e, o), c')) : c' = c := by
  have h1 := rejected_no_effect ops exec c env e o c' h
  have h2 := rejected_db_equal ops hro exec c env e o c' h
  obtain ⟨db, j, er⟩ := c
  obtain ⟨db', j', er'⟩ := c'
  obtain ⟨hj, he⟩ := hc
  simp only at h1 h2 hj he ⊢
  obtain ⟨_, h1j, h1e, _⟩ := h1
  subst h2 h1e he
  rw [h1j, ← hj]

theorem transact_clean (ops : DbOps D) (exec : Ctx D → Env → O × Ctx D) (c : Ctx D) (env : Env)
    (h : (transact ops exec c env).1.1 ≠ .panic) : Clean (transact ops exec c env).2 := by
  unfold transact at h ⊢
  generalize preverify ops c env = r at *
  obtain ⟨res, c1⟩ := r
  cases res with
  | ok => exact clear_clean _
  | err e => exact clear_clean _
  | panic => exact absurd rfl h

/-- run a list of transactions on one context (a panic unwinds: the history ends there) -/
def runHistory (ops : DbOps D) (exec : Ctx D → Env → O × Ctx D) :
    Ctx D → List Env → List (Res × Option O) × Ctx D
  | c, [] => ([], c)
  | c, env :: rest =>
    let r := transact ops exec c env
    match r.1.1 with
    | .panic => ([r.1], r.2)
    | _ =>
      let rs := runHistory ops exec r.2 rest
      (r.1 :: rs.1, rs.2)

def isRejected : Res × Option O → Bool
  | (.err _, _) => true
  | _ => false

/-- the transactions of a history that were NOT rejected when it ran (the twin's input) -/
def notRejected (ops : DbOps D) (exec : Ctx D → Env → O × Ctx D) : Ctx D → List Env → List Env
  | _, [] => []
  | c, env :: rest =>
    let r := transact ops exec c env
    match r.1.1 with
    | .panic => [env]
    | .err _ => notRejected ops exec r.2 rest
    | .ok => env :: notRejected ops exec r.2 rest

theorem isRejected_eq (r : Res × Option O) :
    isRejected r = match r.1 with | .err _ => true | _ => false := by
  obtain ⟨a, b⟩ := r; cases a <;> rfl

theorem history_skip_rejected (ops : DbOps D) (hro : ReadOnly ops) (exec : Ctx D → Env → O × Ctx D)
    (envs : List Env) : ∀ (c : Ctx D), Clean c →
    runHistory ops exec c (notRejected ops exec c envs)
      = (((runHistory ops exec c envs).1.filter (fun r => !isRejected r)), (runHistory ops exec c envs).2) := by
  induction envs with
  | nil => intro c _; rfl
  | cons env rest ih =>
    intro c hc
    cases hres : (transact ops exec c env).1.1 with
    | panic =>
      have hrej : isRejected (transact ops exec c env).1 = false := by rw [isRejected_eq, hres]
      simp [runHistory, notRejected, hres, List.filter, hrej]
    | err e =>
      have hrej : isRejected (transact ops exec c env).1 = true := by rw [isRejected_eq, hres]
      -- the rejected transaction left the clean context as it was: the twin is where the history is
      have heq : (transact ops exec c env).2 = c :=
        rejected_ctx_equal ops hro exec c hc env e (transact ops exec c env).1.2 _ (by rw [← hres])
      simp only [runHistory, notRejected, hres, heq]
      rw [ih c hc]
      simp [List.filter, hrej]
    | ok =>
      have hrej : isRejected (transact ops exec c env).1 = false := by rw [isRejected_eq, hres]
      have hclean : Clean (transact ops exec c env).2 :=
        transact_clean ops exec c env (by rw [hres]; exact fun h => nomatch h)
      simp only [runHistory, notRejected, hres]
      rw [ih _ hclean]
      simp [List.filter, hrej]

end Revm.Proofs.TxNoEffect
