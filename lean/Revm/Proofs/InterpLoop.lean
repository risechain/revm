import Revm.Proofs.InterpInsert
/-! C25: the loop, for any invariant `I` of instruction boundaries that implies `Base`, depends only on the static part
of the state (`LoopInv`) and is kept by `step` (`StepInv`): `run` never faults and ends within the gas of the frame
(`run_safeP`), `I` holds in every state it passes through (`reach_invP`). Legacy code (`InterpRun.lean`) and EOF code
(`InterpEofRun.lean`) instantiate it. -/
namespace Revm.Proofs.Interp
open Revm Revm.Model Revm.Model.Interp

/-- the oracle answers like Rust values and like a frame machine -/
structure OracleOk {η : Type} (o : Oracle η) : Prop where
  host : ∀ h op, RespOk (o.host h op).1
  child : ∀ h a, ChildOk a (o.child h a).1

/-- what lets re-entry keep `I`: beyond `Base`, which `insertOutcome` re-establishes (`Mid`), it reads only what
`insertOutcome` leaves alone -/
structure LoopInv (I : IState → Prop) : Prop where
  base : ∀ s, I s → Base s
  transfer : ∀ s x, I s → SameStatic s x → Base x → I x

/-- the outcome of one resolved instruction, relative to the state `s` before it: the frame halts within the gas it
had, continues in `I` at least 1 gas poorer, or hands out an action in `I` having paid the child's gas and 1 more -/
abbrev StepOkP (I : IState → Prop) (s : IState) : Done → Prop :=
  DoneGoodP (fun s' => measure s' ≤ measure s) (fun s' => I s' ∧ measure s' + 1 ≤ measure s)
    (fun a s' => I s' ∧ measure s' + a.gasLimit + 1 ≤ measure s ∧ RetOk a (clen s'.mem))

abbrev StepGoodP (I : IState → Prop) (s : IState) : Outcome → Prop :=
  GoodP (fun s' => measure s' ≤ measure s) (fun s' => I s' ∧ measure s' + 1 ≤ measure s)
    (fun a s' => I s' ∧ measure s' + a.gasLimit + 1 ≤ measure s ∧ RetOk a (clen s'.mem))

def StepInv (I : IState → Prop) : Prop := ∀ s, I s → StepGoodP I s (step s)

/-- what `run` may return: a defined result within the gas of the frame; never a fault; "out of fuel" only when
the fuel was at most the measure -/
def RunSafe (fuel : Nat) (s : IState) : RunResult → Prop
  | .done _ _ s' => measure s' ≤ measure s
  | .fault _ => False
  | .outOfFuel => fuel ≤ measure s

theorem RunSafe.mono {n : Nat} {s s' : IState} {r : RunResult} (h : RunSafe n s' r)
    (hm : measure s' + 1 ≤ measure s) : RunSafe (n + 1) s r := by
  cases r with
  | done r o s'' => show measure s'' ≤ measure s; have : measure s'' ≤ measure s' := h; omega
  | fault f => exact h
  | outOfFuel => show n + 1 ≤ measure s; have : n ≤ measure s' := h; omega

section loop
variable {I : IState → Prop} (hI : LoopInv I)
include hI

theorem insert_inv {s : IState} {B : Nat} (a : Action) (c : ChildResult) (hi : I s)
    (hB1 : measure s + a.gasLimit ≤ B) (hB2 : B ≤ U64 - 2) (hret : RetOk a (clen s.mem)) (hc : ChildOk a c) :
    Exec.Sat (insertOutcome a c s) (fun x => measure x ≤ B) (fun _ x => I x ∧ measure x ≤ B) :=
  sat_conv (insertOutcome_sat a c (hI.base s hi) hB1 hB2 hret hc) (fun _ hx => hx)
    (fun _ x hx => ⟨hI.transfer s x hi hx.2.2 hx.1, hx.2.1⟩)

theorem continueWith_safe {η : Type} (o : Oracle η) (ho : OracleOk o) (n : Nat) (s : IState) (d : Done) (h : η)
    (hd : StepOkP I s d) (hs : measure s ≤ U64 - 1)
    (ih : ∀ (s' : IState) (h' : η), I s' → RunSafe n s' (run o n s' h').1) :
    RunSafe (n + 1) s (continueWith o (run o n) d h).1 := by
  cases hd with
  | next hn => exact (ih _ h hn.1).mono hn.2
  | @action a s' ha =>
    obtain ⟨hi, hm, hr⟩ := ha
    have hc := ho.child h a
    have hins := insert_inv hI (B := measure s - 1) a (o.child h a).1 hi (by omega) (by omega) hr hc
    show RunSafe (n + 1) s (match insertOutcome a (o.child h a).1 s' with
      | .ok _ s'' => run o n s'' (o.child h a).2
      | .halt r out s'' => (RunResult.done r out s'', (o.child h a).2)
      | .fault f => (RunResult.fault f, (o.child h a).2)).1
    cases hx : insertOutcome a (o.child h a).1 s' with
    | ok u s'' =>
      rw [hx] at hins
      have hmid := sat_ok_inv hins
      exact (ih s'' (o.child h a).2 hmid.1).mono (by have := hmid.2; omega)
    | halt r out s'' =>
      rw [hx] at hins
      have := sat_halt_inv hins
      show measure s'' ≤ measure s
      omega
    | fault f => rw [hx] at hins; exact (sat_fault_inv hins).elim
  | halt hm => exact hm

theorem run_safeP (hstep : StepInv I) {η : Type} (o : Oracle η) (ho : OracleOk o) :
    ∀ (fuel : Nat) (s : IState) (h : η), I s → RunSafe fuel s (run o fuel s h).1 := by
  intro fuel
  induction fuel with
  | zero => intro s h _; exact Nat.zero_le _
  | succ n ih =>
    intro s h hi
    have hg := hstep s hi
    show RunSafe (n + 1) s (match step s with
      | .pure d => continueWith o (run o n) d h
      | .host op k => continueWith o (run o n) (k (o.host h op).1) (o.host h op).2).1
    generalize step s = st at hg
    cases hg with
    | pure hd => exact continueWith_safe hI o ho n s _ h hd (hI.base s hi).meas ih
    | host _ hk => exact continueWith_safe hI o ho n s _ _ (hk _ (ho.host h _)) (hI.base s hi).meas ih

section
variable (hstep : StepInv I) {η : Type} (o : Oracle η) (ho : OracleOk o) {s : IState} (hi : I s) (h : η)
include hstep ho hi

theorem run_not_faultP (fuel : Nat) (f : Fault) : (run o fuel s h).1 ≠ .fault f := by
  have hs := run_safeP hI hstep o ho fuel s h hi
  intro e; rw [e] at hs; exact hs

theorem run_not_outOfFuelP {fuel : Nat} (hf : measure s < fuel) : (run o fuel s h).1 ≠ .outOfFuel := by
  have hs := run_safeP hI hstep o ho fuel s h hi
  intro e; rw [e] at hs
  exact Nat.lt_irrefl _ (Nat.lt_of_lt_of_le hf hs)

theorem run_doneP {fuel : Nat} (hf : measure s < fuel) :
    ∃ r out s', (run o fuel s h).1 = .done r out s' ∧ s'.gas.remaining ≤ measure s := by
  have hs := run_safeP hI hstep o ho fuel s h hi
  cases hr : (run o fuel s h).1 with
  | done r out s' =>
    rw [hr] at hs
    exact ⟨r, out, s', rfl, Nat.le_trans (Nat.le_add_right _ _) hs⟩
  | fault f => exact absurd hr (run_not_faultP hI hstep o ho hi h fuel f)
  | outOfFuel => exact absurd hr (run_not_outOfFuelP hI hstep o ho hi h hf)

end

end loop

theorem step_not_faultP {I : IState → Prop} (hstep : StepInv I) {s : IState} (hi : I s) (f : Fault) :
    ¬ (step s = .fault f ∨ ∃ op k r, step s = .host op k ∧ RespOk r ∧ k r = .fault f) := by
  have hg := hstep s hi
  rintro (e | ⟨op, k, r, e, hr, ek⟩)
  · rw [e] at hg
    cases hg with
    | pure hd => cases hd
  · rw [e] at hg
    cases hg with
    | host _ hk => have := hk r hr; rw [ek] at this; cases this

def resolve {η : Type} (o : Oracle η) (out : Outcome) (h : η) : Done × η :=
  match out with
  | .pure d => (d, h)
  | .host op k => (k (o.host h op).1, (o.host h op).2)

/-- the states `run` passes through between instructions -/
inductive Reach {η : Type} (o : Oracle η) (s0 : IState) (h0 : η) : IState → η → Prop
  | start : Reach o s0 h0 s0 h0
  | next {s h s' h'} : Reach o s0 h0 s h → resolve o (step s) h = (.next s', h') → Reach o s0 h0 s' h'
  | reenter {s h a s' h' s''} : Reach o s0 h0 s h → resolve o (step s) h = (.action a s', h') →
      insertOutcome a (o.child h' a).1 s' = .ok () s'' → Reach o s0 h0 s'' (o.child h' a).2

theorem OutAll.resolve {R : HostOp → Prop} {D : Done → Prop} {out : Outcome} (hg : OutAll R RespOk D out) {η : Type}
    (o : Oracle η) (ho : OracleOk o) (h : η) : D (resolve o out h).1 := by
  cases hg with
  | pure hd => exact hd
  | host _ hk => exact hk _ (ho.host h _)

theorem resolve_okP {I : IState → Prop} (hstep : StepInv I) {η : Type} (o : Oracle η) (ho : OracleOk o)
    {s : IState} (hi : I s) (h : η) : StepOkP I s (resolve o (step s) h).1 :=
  (hstep s hi).resolve o ho h

theorem reach_invP {I : IState → Prop} (hI : LoopInv I) (hstep : StepInv I) {η : Type} (o : Oracle η)
    (ho : OracleOk o) {s0 : IState} {h0 : η} (hi0 : I s0) {s : IState} {h : η} (hr : Reach o s0 h0 s h) :
    I s ∧ measure s ≤ measure s0 := by
  induction hr with
  | start => exact ⟨hi0, Nat.le_refl _⟩
  | @next s h s' h' _ hres ih =>
    have hok := resolve_okP hstep o ho ih.1 h
    rw [hres] at hok
    cases hok with
    | next hn => exact ⟨hn.1, by have := hn.2; have := ih.2; omega⟩
  | @reenter s h a s' h' s'' _ hres hins ih =>
    have hok := resolve_okP hstep o ho ih.1 h
    rw [hres] at hok
    cases hok with
    | action ha =>
      obtain ⟨hi, hm, hr⟩ := ha
      have hsat := insert_inv hI (B := measure s - 1) a (o.child h' a).1 hi (by omega)
        (by have := (hI.base s ih.1).meas; omega) hr (ho.child h' a)
      rw [hins] at hsat
      have hmid := sat_ok_inv hsat
      exact ⟨hmid.1, by have := hmid.2; have := ih.2; omega⟩

theorem reach_gasP {I : IState → Prop} (hI : LoopInv I) (hstep : StepInv I) {η : Type} (o : Oracle η)
    (ho : OracleOk o) {s0 : IState} {h0 : η} (hi0 : I s0) {s : IState} {h : η} (hr : Reach o s0 h0 s h) :
    s.gas.remaining ≤ measure s0 :=
  Nat.le_trans (Nat.le_add_right _ _) (reach_invP hI hstep o ho hi0 hr).2

end Revm.Proofs.Interp
