import Revm.Proofs.OpFees
import Revm.Proofs.GasSettled
/-! The gas of an Optimism transaction (C33). `GoodGas` is the meter of a finished transaction; the pipeline
`last_frame_return → refund → EIP-7623 floor` ends in one for every frame result, and for a non-negative
refund counter its numbers are the gas rules of `Spec.OpFees` (`finalGas_spec`). -/
namespace Revm.Proofs.OpFees
open Revm Revm.U256 Revm.Model.Gas Revm.Model.OpFees
open Revm.Proofs.Gas (Closed settle settle_closed settle_remaining settle_refunded toNat_min)

/-- `Gas.Closed`, field for field (`GoodGas.closed`, `GoodGas.of`); `usedGas` of the model is `Gas.used` -/
structure GoodGas (g : Gas) : Prop where
  lim : g.limit < U64
  ref0 : 0 ≤ g.refunded
  sum : g.refunded.toNat + g.remaining ≤ g.limit

theorem GoodGas.closed {g : Gas} (h : GoodGas g) : Closed g := ⟨h.lim, h.ref0, h.sum⟩
theorem GoodGas.of {g : Gas} (c : Closed g) : GoodGas g := ⟨c.lim, c.ref0, c.sum⟩

/-! ### the pipeline: `Gas.settle` / `Gas.floor`, but for Bedrock deposits -/

open Revm.Spec.OpFees (gasSpent gasRefund usedRefunded usedRefundedBedrockDeposit txUsedRefunded floorGas)

/-- `TxGas.remAfter` / `TxGas.kept` on the Optimism model's `Frame` -/
def remAfter (fr : Frame) : Nat :=
  match fr.cls with
  | .halt => 0
  | _ => fr.remaining

def kept (fr : Frame) : Int :=
  match fr.cls with
  | .ok => fr.refunded
  | _ => 0

theorem remAfter_le (fr : Frame) : remAfter fr ≤ fr.remaining := by
  unfold remAfter; split <;> omega

theorem gasSpent_eq (limit : Nat) (fr : Frame) : gasSpent limit fr = limit - remAfter fr := by
  unfold gasSpent remAfter; cases fr.cls <;> rfl

theorem gasRefund_eq (limit : Nat) (fr : Frame) :
    gasRefund limit fr = min (kept fr).toNat (gasSpent limit fr / 5) := by
  unfold gasRefund kept; cases fr.cls
  · rfl
  · exact (Nat.zero_min _).symm
  · exact (Nat.zero_min _).symm

/-- a Bedrock deposit skips the refund step and hands back all (a successful system transaction) or nothing -/
def bedrockGas (tx : Tx) (fr : Frame) : Gas :=
  { limit := tx.gasLimit,
    remaining := (match fr.cls with | .ok => if tx.isSystem.getD false then tx.gasLimit else 0 | _ => 0),
    refunded := 0 }

theorem refundStep_settle {tx : Tx} {fr : Frame} (hb : (tx.isDeposit && !enabled tx.spec REGOLITH) = false) :
    refundStep tx (lastFrameReturn tx fr) 0 =
      settle tx.gasLimit (remAfter fr) (kept fr) 0 (enabled tx.spec LONDON) := by
  have h0 : i64WrapAdd 0 0 = 0 := by decide
  have h1 : U64ops.wadd 0 0 = 0 := by decide
  have hb' : (!tx.isDeposit || enabled tx.spec REGOLITH) = true := by
    revert hb; cases tx.isDeposit <;> cases enabled tx.spec REGOLITH <;> decide
  unfold refundStep lastFrameReturn settle remAfter kept
  cases fr.cls <;> simp only [hb, hb', Bool.not_false, if_true, recordRefund, eraseCost, newSpent, h0, h1]

theorem refundStep_bedrock {tx : Tx} {fr : Frame} (hl : tx.gasLimit < U64)
    (hb : (tx.isDeposit && !enabled tx.spec REGOLITH) = true) :
    refundStep tx (lastFrameReturn tx fr) 0 = bedrockGas tx fr := by
  have h0 : i64WrapAdd 0 0 = 0 := by decide
  have h2 : U64ops.wadd 0 tx.gasLimit = tx.gasLimit := by rw [Revm.U64ops.wadd_of_lt 0 _ (by omega)]; omega
  have hd : tx.isDeposit = true ∧ enabled tx.spec REGOLITH = false := by
    revert hb; cases tx.isDeposit <;> cases enabled tx.spec REGOLITH <;> decide
  unfold refundStep lastFrameReturn bedrockGas
  cases fr.cls <;> simp only [hd.1, hd.2, Bool.not_true, Bool.not_false, Bool.or_false, Bool.and_self,
    Bool.false_eq_true, if_false, Bool.true_and, recordRefund, newSpent, h0]
  by_cases hs : tx.isSystem.getD false = true
  · simp only [hs, if_true, eraseCost, h2, h0]
  · simp only [hs, Bool.false_eq_true, if_false, h0]

theorem afterRefund_closed {tx : Tx} {fr : Frame} (hl : tx.gasLimit < U64) (hr : fr.remaining ≤ tx.gasLimit) :
    Closed (refundStep tx (lastFrameReturn tx fr) 0) ∧
    (refundStep tx (lastFrameReturn tx fr) 0).limit = tx.gasLimit := by
  cases hb : (tx.isDeposit && !enabled tx.spec REGOLITH)
  · rw [refundStep_settle hb]
    exact ⟨(settle_closed (kept fr) 0 _ hl (Nat.le_trans (remAfter_le fr) hr)).1, rfl⟩
  · rw [refundStep_bedrock hl hb]
    refine ⟨⟨hl, Int.le_refl 0, ?_⟩, rfl⟩
    show (0 : Int).toNat + (match fr.cls with
      | .ok => if tx.isSystem.getD false = true then tx.gasLimit else 0 | _ => 0) ≤ tx.gasLimit
    split
    · split <;> omega
    · omega

theorem finalGas_good {tx : Tx} {fr : Frame} (hl : tx.gasLimit < U64) (hr : fr.remaining ≤ tx.gasLimit) :
    GoodGas (finalGas tx fr) ∧ (finalGas tx fr).limit = tx.gasLimit := by
  obtain ⟨c, hlim⟩ := afterRefund_closed hl hr
  exact ⟨.of (c.floor _).1, (c.floor _).2.1.trans hlim⟩

theorem finalGas_spec (tx : Tx) (fr : Frame) (hl : tx.gasLimit < U64) (hr : fr.remaining ≤ tx.gasLimit)
    (h0 : 0 ≤ fr.refunded) (h1 : fr.refunded ≤ I64MAX) (hlon : enabled tx.spec LONDON = true)
    (hfl : (initialGas tx).2 ≤ tx.gasLimit)
    (hpr : enabled tx.spec REGOLITH = false → enabled tx.spec PRAGUE = false) :
    usedGas (finalGas tx fr) = (txUsedRefunded tx fr).1 ∧
    i64AsU64 (finalGas tx fr).refunded = (txUsedRefunded tx fr).2 := by
  have hfloor : (initialGas tx).2 = floorGas tx := rfl
  obtain ⟨c, hlim⟩ := afterRefund_closed hl hr
  obtain ⟨cf, _, hmax⟩ := c.floor (initialGas tx).2
  show Gas.used (Gas.floor _ _) = _ ∧ i64AsU64 (Gas.floor _ _).refunded = _
  rw [cf.refU64, hmax (hlim ▸ hfl), c.floor_eq, c.used_eq, hlim, hfloor]
  unfold txUsedRefunded
  cases hb : (tx.isDeposit && !enabled tx.spec REGOLITH)
  · -- regular transaction / Regolith deposit: London cap, floor
    have hle := Nat.le_trans (remAfter_le fr) hr
    have hk : 0 ≤ kept fr ∧ kept fr ≤ I64MAX := by
      unfold kept; split
      · exact ⟨h0, h1⟩
      · decide
    obtain ⟨m, hm⟩ := Int.eq_ofNat_of_zero_le hk.1
    have href : (settle tx.gasLimit (remAfter fr) (kept fr) 0 true).refunded.toNat = gasRefund tx.gasLimit fr := by
      rw [settle_refunded (kept fr) 0 true hl hle (by unfold I64MIN; omega) hk.2 (by unfold I64MIN; omega)
        (by omega), Int.add_zero, if_pos hk.1, gasRefund_eq, gasSpent_eq, hm, Int.toNat_natCast]
      exact toNat_min m _
    rw [refundStep_settle hb, hlon, settle_remaining _ _ _ hl hle, href, ← gasSpent_eq]
    unfold usedRefunded
    generalize gasSpent tx.gasLimit fr = s
    generalize gasRefund tx.gasLimit fr = r at href ⊢
    by_cases hlt : s - r < floorGas tx
    · simp only [hlt, if_true, Bool.false_eq_true, if_false]; exact ⟨by omega, rfl⟩
    · simp only [hlt, if_false, Bool.false_eq_true]; exact ⟨by omega, href⟩
  · -- Bedrock deposit: no refund step, no floor
    have hreg : enabled tx.spec REGOLITH = false := by
      revert hb; cases tx.isDeposit <;> cases enabled tx.spec REGOLITH <;> simp
    have hf0 : floorGas tx = 0 := by unfold floorGas; simp [hpr hreg]
    rw [refundStep_bedrock hl hb, hf0]
    unfold usedRefundedBedrockDeposit bedrockGas
    cases fr.cls <;> simp
    by_cases hs : tx.isSystem.getD false = true <;> simp [hs]

end Revm.Proofs.OpFees
