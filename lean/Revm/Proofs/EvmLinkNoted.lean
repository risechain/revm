import Revm.Proofs.EvmHost
import Revm.Proofs.JournalDom
/-! The accounts present in the journal, for ether conservation (C08). What a journal operation does to the domain of the
state map is `Dom`, the `dom` field of the operation's `lvl_*` (`Proofs/JournalDom.lean`; exported into this namespace below). Read two
ways: no operation removes an account (`KLe`, `Dom.kle`); every operation adds at most the accounts it names, which the
`World` operations note in `World.addrs`, so the accounts present are always among `World.addrs` (`Noted`, `NGrow`), the
finite list over which conservation for the whole transaction is stated. `JOnly`: what a `World` operation leaves of
the rest of the world. -/
namespace Revm.Proofs.EvmLink
open Revm Revm.Model Revm.Model.Journal

/-- the accounts present in `s` are present in `s'` -/
def KLe (s s' : JState) : Prop := ∀ x, s.state x ≠ none → s'.state x ≠ none

theorem KLe.refl (s : JState) : KLe s s := fun _ h => h
theorem KLe.trans {a b c : JState} (h1 : KLe a b) (h2 : KLe b c) : KLe a c := fun x h => h2 x (h1 x h)
theorem KLe.of_state_eq {s s' : JState} (h : s'.state = s.state) : KLe s s' := fun x hx => by rw [h]; exact hx

theorem KLe.setAcct (s : JState) (a : Addr) (acc : Acct) : KLe s (setAcct s a acc) := by
  intro x hx
  simp only [Journal.setAcct]
  split
  · exact fun h => nomatch h
  · exact hx

export Revm.Proofs.Journal (Dom Lvl present_of_some lvl_loadAccount lvl_loadCode lvl_loadAccountDelegated lvl_touch
  lvl_transfer lvl_incNonce lvl_setCode lvl_sload lvl_sstore lvl_tstore lvl_selfdestruct dom_revert
  dom_createAccountCheckpoint dom_initialAccountLoad)

theorem _root_.Revm.Proofs.Journal.Dom.kle {s s' : JState} {l : List Addr} (d : Dom s s' l) : KLe s s' :=
  fun _ h => d.mono h

/-- the account at `a` is loaded and has this `AccountInfo` -/
def HasInfo (js : Journal.JState) (a : Nat) (info : Journal.Info) : Prop :=
  ∃ acc, js.state a = some acc ∧ acc.info = info

open Revm Revm.Model Revm.Model.Evm

/-- from `w` to `w1` only the journal changed, but for the addresses `l` now noted in the address list (and slots
noted in the slot list): the database, the code store and the precompile oracle are the same -/
structure JOnly (w w1 : World) (l : List Nat) : Prop where
  pre : w1.pre = w.pre
  codes : w1.codes = w.codes
  pcOracle : w1.pcOracle = w.pcOracle
  addrs : ∀ x ∈ w.addrs, x ∈ w1.addrs
  noted : ∀ x ∈ l, x ∈ w1.addrs

theorem JOnly.js (w : World) (js : Journal.JState) : JOnly w { w with js := js } [] :=
  ⟨rfl, rfl, rfl, fun _ h => h, fun _ h => nomatch h⟩

theorem mem_noteAddr_self (w : World) (a : Nat) : a ∈ (w.noteAddr a).addrs := by
  unfold World.noteAddr
  split
  · rename_i h; exact List.contains_iff_mem.mp h
  · exact List.mem_cons_self ..

theorem mem_noteAddr_of_mem (w : World) (a : Nat) {x : Nat} (h : x ∈ w.addrs) : x ∈ (w.noteAddr a).addrs := by
  unfold World.noteAddr
  split
  · exact h
  · exact List.mem_cons_of_mem _ h

theorem noteSlot_db (w : World) (a k : Nat) : (w.noteSlot a k).db = w.db := by
  unfold World.noteSlot; split <;> rfl

theorem JOnly.noteAddr {w w1 : World} {l : List Nat} (h : JOnly w w1 l) (a : Nat) : JOnly w (w1.noteAddr a) (a :: l) := by
  have e : (w1.noteAddr a).pre = w1.pre ∧ (w1.noteAddr a).codes = w1.codes ∧
      (w1.noteAddr a).pcOracle = w1.pcOracle := by unfold World.noteAddr; split <;> exact ⟨rfl, rfl, rfl⟩
  refine ⟨e.1.trans h.pre, e.2.1.trans h.codes, e.2.2.trans h.pcOracle,
    fun x hx => mem_noteAddr_of_mem _ _ (h.addrs x hx), fun x hx => ?_⟩
  cases hx with
  | head => exact mem_noteAddr_self _ _
  | tail _ hx => exact mem_noteAddr_of_mem _ _ (h.noted x hx)

theorem JOnly.noteSlot {w w1 : World} {l : List Nat} (h : JOnly w w1 l) (a k : Nat) : JOnly w (w1.noteSlot a k) l := by
  have e : (w1.noteSlot a k).pre = w1.pre ∧ (w1.noteSlot a k).codes = w1.codes ∧
      (w1.noteSlot a k).pcOracle = w1.pcOracle ∧ (w1.noteSlot a k).addrs = w1.addrs := by
    unfold World.noteSlot; split <;> exact ⟨rfl, rfl, rfl, rfl⟩
  exact ⟨e.1.trans h.pre, e.2.1.trans h.codes, e.2.2.1.trans h.pcOracle, fun x hx => e.2.2.2 ▸ h.addrs x hx,
    fun x hx => e.2.2.2 ▸ h.noted x hx⟩

/-- the database view reads the pre-state and the code store only -/
theorem JOnly.db {w w1 : World} {l : List Nat} (h : JOnly w w1 l) : w1.db = w.db := by
  unfold World.db World.preAcct World.codeOf
  rw [h.pre, h.codes]

/-- every account present in the journal has been noted -/
def Noted (w : World) : Prop := ∀ a, w.js.state a ≠ none → a ∈ w.addrs

/-- from `w` to `w'` the address list only grows, and every account that became present was noted -/
structure NGrow (w w' : World) : Prop where
  addrs : ∀ a ∈ w.addrs, a ∈ w'.addrs
  keys : ∀ x, w'.js.state x ≠ none → w.js.state x ≠ none ∨ x ∈ w'.addrs

theorem NGrow.refl (w : World) : NGrow w w := ⟨fun _ h => h, fun _ h => Or.inl h⟩
theorem NGrow.trans {a b c : World} (h1 : NGrow a b) (h2 : NGrow b c) : NGrow a c :=
  ⟨fun x hx => h2.addrs x (h1.addrs x hx), fun x hx => by
    rcases h2.keys x hx with h | h
    · exact (h1.keys x h).imp id (h2.addrs x)
    · exact Or.inr h⟩
theorem NGrow.noted {w w' : World} (h : NGrow w w') (hn : Noted w) : Noted w' := fun a ha => by
  rcases h.keys a ha with h1 | h1
  · exact h.addrs a (hn a h1)
  · exact h1

theorem NGrow.of_dom {w w' : World} {l : List Nat} (hk : Dom w.js w'.js l) (ha : ∀ a ∈ w.addrs, a ∈ w'.addrs)
    (hl : ∀ x ∈ l, x ∈ w'.addrs) : NGrow w w' :=
  ⟨ha, fun x hx => ((hk x).1 hx).imp id (hl x)⟩

theorem NGrow.of_js {w : World} {js : Journal.JState} (hk : Dom w.js js []) : NGrow w { w with js := js } :=
  NGrow.of_dom hk (fun _ h => h) (fun _ hx => nomatch hx)

theorem noteSlot_addrs (w : World) (a k : Nat) : (w.noteSlot a k).addrs = w.addrs := by
  unfold World.noteSlot; split <;> rfl

theorem addCode_addrs (w : World) (h : Nat) (c : List Nat) : (w.addCode h c).addrs = w.addrs := by
  unfold World.addCode
  split
  · rfl
  · split <;> rfl

theorem NGrow.noteAddr {w w' : World} (h : NGrow w w') (a : Nat) : NGrow w (w'.noteAddr a) :=
  ⟨fun x hx => mem_noteAddr_of_mem _ _ (h.addrs x hx), fun x hx => by
    rw [Proofs.EvmHost.noteAddr_js] at hx
    exact (h.keys x hx).imp id (mem_noteAddr_of_mem _ _)⟩

theorem NGrow.noteSlot {w w' : World} (h : NGrow w w') (a k : Nat) : NGrow w (w'.noteSlot a k) :=
  ⟨fun x hx => by rw [noteSlot_addrs]; exact h.addrs x hx, fun x hx => by
    rw [Proofs.EvmHost.noteSlot_js] at hx
    rw [noteSlot_addrs]; exact h.keys x hx⟩

theorem NGrow.of_js_note {w : World} {js : Journal.JState} {a : Nat} (hk : Dom w.js js [a]) :
    NGrow w ({ w with js := js }.noteAddr a) :=
  NGrow.of_dom (by rw [Proofs.EvmHost.noteAddr_js]; exact hk) (fun x hx => mem_noteAddr_of_mem _ _ hx)
    (fun x hx => by rw [List.mem_singleton.mp hx]; exact mem_noteAddr_self _ _)

theorem ng_addCode (w : World) (h : Nat) (c : List Nat) : NGrow w (w.addCode h c) :=
  ⟨fun x hx => by rw [addCode_addrs]; exact hx, fun x hx => by rw [Proofs.EvmHost.addCode_js] at hx; exact Or.inl hx⟩

theorem ng_setAcct {w : World} {a : Nat} (acc : Journal.Acct) (hp : w.js.state a ≠ none) :
    NGrow w { w with js := Journal.setAcct w.js a acc } := NGrow.of_js (.setAcct_present _ hp)

end Revm.Proofs.EvmLink
