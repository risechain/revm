import Revm.Model.Gas
import Revm.Spec.Gas
/-! The gas meter (C13): when the wrapping `u64` / `i64` operations of `Model.Gas` do not wrap,
`record_cost` as the checked charge, what one operation and a sequence of operations preserve, and the
refinement of the unbounded meter of `Spec.Gas`. -/
namespace Revm.Proofs.Gas
open Revm Revm.Model.Gas
open Revm.Spec.Gas (abs)

export Revm.U64ops (wsub_of_le wadd_of_lt)

theorem wsub_of_lt (a b : Nat) (hb : b < U64) (hab : a < b) : U64ops.wsub a b = a + U64 - b := by
  have hU := U64_val
  unfold U64ops.wsub; rw [hU]; omega

theorem wsub_lt (a b : Nat) : U64ops.wsub a b < U64 := by
  have hU := U64_val
  unfold U64ops.wsub; rw [hU]; omega

theorem wmul_of_lt (a b : Nat) (h : a * b < U64) : U64ops.wmul a b = a * b := by
  unfold U64ops.wmul; exact Nat.mod_eq_of_lt h

theorem wadd_wmul (g a k : Nat) (h : g + a * k < U64) : U64ops.wadd g (U64ops.wmul a k) = g + a * k := by
  rw [wmul_of_lt _ _ (Nat.lt_of_le_of_lt (Nat.le_add_left _ _) h), wadd_of_lt _ _ h]

theorem wadd_lt (a b : Nat) : U64ops.wadd a b < U64 := by
  have hU := U64_val
  unfold U64ops.wadd; rw [hU]; omega

theorem i64AsU64_lt (x : Int) : i64AsU64 x < U64 := by
  have hU := U64_val
  unfold i64AsU64; rw [hU]; omega

theorem i64AsU64_nonneg (x : Int) (h0 : 0 ≤ x) (h1 : x ≤ I64MAX) : i64AsU64 x = x.toNat := by
  have hU := U64_val
  unfold i64AsU64 I64MAX at *; rw [hU]; omega

theorem i64AsU64_neg (x : Int) (h0 : x < 0) (h1 : I64MIN ≤ x) : i64AsU64 x = (x + (U64 : Int)).toNat := by
  have hU := U64_val
  unfold i64AsU64 I64MIN at *; rw [hU]; omega

theorem i64AsU64_neg_ge (x : Int) (h0 : x < 0) (h1 : I64MIN ≤ x) : 9223372036854775808 ≤ i64AsU64 x := by
  have hU := U64_val
  unfold i64AsU64 I64MIN at *; rw [hU]; omega

theorem u64AsI64_range (n : Nat) (h : n < U64) : I64MIN ≤ u64AsI64 n ∧ u64AsI64 n ≤ I64MAX := by
  have hU := U64_val
  unfold u64AsI64 I64MIN I64MAX; rw [hU]
  split <;> omega

theorem u64AsI64_small (n : Nat) (h : n < 9223372036854775808) : u64AsI64 n = (n : Int) := by
  unfold u64AsI64; simp [h]

theorem i64WrapAdd_range (a b : Int) : I64MIN ≤ i64WrapAdd a b ∧ i64WrapAdd a b ≤ I64MAX :=
  u64AsI64_range _ (i64AsU64_lt _)

theorem i64WrapAdd_exact (a b : Int) (h0 : I64MIN ≤ a + b) (h1 : a + b ≤ I64MAX) : i64WrapAdd a b = a + b := by
  have hU := U64_val
  unfold i64WrapAdd u64AsI64 i64AsU64 I64MIN I64MAX at *; rw [hU]
  split <;> omega

theorem recordCost_ok (g : Gas) (c : Nat) (hr : g.remaining < U64) (h : c ≤ g.remaining) :
    recordCost g c = ({ g with remaining := g.remaining - c }, true) := by
  have hn : ¬ g.remaining < c := by omega
  simp only [recordCost, overflowingSub, hn, decide_false, Bool.not_false, if_true,
    wsub_of_le g.remaining c hr h]

theorem recordCost_fail (g : Gas) (c : Nat) (h : g.remaining < c) : recordCost g c = (g, false) := by
  simp [recordCost, overflowingSub, h]

theorem recordCost_eq (g : Gas) (c : Nat) (hr : g.remaining < U64) :
    recordCost g c = if c ≤ g.remaining then ({ g with remaining := g.remaining - c }, true) else (g, false) := by
  by_cases h : c ≤ g.remaining
  · rw [if_pos h]; exact recordCost_ok g c hr h
  · rw [if_neg h]; exact recordCost_fail g c (by omega)

theorem recordCost_flag (g : Gas) (c : Nat) : (recordCost g c).2 = decide (c ≤ g.remaining) := by
  by_cases h : g.remaining < c
  · rw [recordCost_fail g c h]; simp; omega
  · simp [recordCost, overflowingSub, h]; omega

theorem spent_eq (g : Gas) (hl : g.limit < U64) (hi : MeterInv g) : spent g = g.limit - g.remaining := by
  unfold spent; exact wsub_of_le _ _ hl hi

theorem spent_lt (g : Gas) : spent g < U64 := wsub_lt _ _

theorem step_limit (g : Gas) (op : Op) : (step g op).1.limit = g.limit := by
  cases op <;> simp only [step, eraseCost, recordRefund, setFinalRefund, setRefund, setSpent, spendAll]
  · rename_i c
    by_cases h : g.remaining < c
    · rw [recordCost_fail g c h]
    · simp [recordCost, overflowingSub, h]

theorem setFinalRefund_min_lt (g : Gas) (b : Bool) :
    min (i64AsU64 g.refunded) (spent g / (if b then 5 else 2)) < 9223372036854775808 := by
  have hU := U64_val
  have hs := spent_lt g
  rw [hU] at hs
  cases b <;> simp only [if_true, if_false, Bool.false_eq_true] <;> omega

theorem step_WF (g : Gas) (op : Op) (hw : WF g) (ht : op.typed) : WF (step g op).1 := by
  have hU := U64_val
  obtain ⟨hl, hr, hf0, hf1⟩ := hw
  cases op with
  | recordCost c =>
    simp only [step, recordCost_eq g c hr]
    split
    · exact ⟨hl, by show g.remaining - c < U64; omega, hf0, hf1⟩
    · exact ⟨hl, hr, hf0, hf1⟩
  | eraseCost r => exact ⟨hl, wadd_lt _ _, hf0, hf1⟩
  | recordRefund r => exact ⟨hl, hr, i64WrapAdd_range _ _⟩
  | setFinalRefund b =>
    refine ⟨hl, hr, ?_⟩
    show I64MIN ≤ u64AsI64 _ ∧ u64AsI64 _ ≤ I64MAX
    apply u64AsI64_range
    have := setFinalRefund_min_lt g b
    rw [hU]; omega
  | setRefund r => exact ⟨hl, hr, ht⟩
  | setSpent s => exact ⟨hl, by show g.limit - s < U64; omega, hf0, hf1⟩
  | spendAll => exact ⟨hl, by show 0 < U64; omega, hf0, hf1⟩

theorem eraseCost_exact (g : Gas) (r : Nat) (hl : g.limit < U64) (hi : MeterInv g) (h : r ≤ spent g) :
    eraseCost g r = { g with remaining := g.remaining + r } ∧ MeterInv (eraseCost g r) := by
  have hU := U64_val
  rw [spent_eq g hl hi] at h
  unfold MeterInv at hi
  have e : U64ops.wadd g.remaining r = g.remaining + r := wadd_of_lt _ _ (by omega)
  unfold eraseCost MeterInv; rw [e]; exact ⟨rfl, by show g.remaining + r ≤ g.limit; omega⟩

theorem step_Inv (g : Gas) (op : Op) (hl : g.limit < U64) (hi : MeterInv g) (hf : FrameOk g op) :
    MeterInv (step g op).1 := by
  cases op with
  | recordCost c =>
    unfold MeterInv at hi
    simp only [step, recordCost_eq g c (by omega)]
    split
    · show g.remaining - c ≤ g.limit; omega
    · exact hi
  | eraseCost r => exact (eraseCost_exact g r hl hi hf).2
  | recordRefund r => exact hi
  | setFinalRefund b => exact hi
  | setRefund r => exact hi
  | setSpent s => show g.limit - s ≤ g.limit; omega
  | spendAll => show 0 ≤ g.limit; omega

theorem setFinalRefund_nonneg (g : Gas) (b : Bool) (h0 : 0 ≤ g.refunded) (h1 : g.refunded ≤ I64MAX) :
    (setFinalRefund g b).refunded = min g.refunded ((spent g / (if b then 5 else 2) : Nat) : Int) := by
  have hlt := setFinalRefund_min_lt g b
  show u64AsI64 _ = _
  rw [u64AsI64_small _ hlt, i64AsU64_nonneg _ h0 h1]
  generalize spent g / (if b then 5 else 2) = q
  omega

theorem setFinalRefund_neg (g : Gas) (b : Bool) (h0 : g.refunded < 0) (h1 : I64MIN ≤ g.refunded) :
    (setFinalRefund g b).refunded = ((spent g / (if b then 5 else 2) : Nat) : Int) := by
  have hU := U64_val
  have hlt := setFinalRefund_min_lt g b
  have hge := i64AsU64_neg_ge _ h0 h1
  have hs := spent_lt g
  show u64AsI64 _ = _
  rw [u64AsI64_small _ hlt]
  rw [hU] at hs
  cases b <;> simp only [if_true, if_false, Bool.false_eq_true] <;> omega

theorem setFinalRefund_bounds (g : Gas) (b : Bool) :
    0 ≤ (setFinalRefund g b).refunded ∧
    (setFinalRefund g b).refunded ≤ ((spent g / (if b then 5 else 2) : Nat) : Int) := by
  have hlt := setFinalRefund_min_lt g b
  show 0 ≤ u64AsI64 _ ∧ u64AsI64 _ ≤ _
  rw [u64AsI64_small _ hlt]
  generalize spent g / (if b then 5 else 2) = q
  omega

theorem spentSubRefunded_nonneg (g : Gas) (h0 : 0 ≤ g.refunded) (h1 : g.refunded ≤ I64MAX) :
    spentSubRefunded g = spent g - g.refunded.toNat := by
  unfold spentSubRefunded U64ops.saturatingSub; rw [i64AsU64_nonneg _ h0 h1]

theorem remaining63of64_eq (g : Gas) (hr : g.remaining < U64) :
    remaining63of64 g = g.remaining - g.remaining / 64 := by
  unfold remaining63of64; exact wsub_of_le _ _ hr (by omega)

theorem run_append (g : Gas) (xs ys : List Op) :
    (run g (xs ++ ys)).1 = (run (run g xs).1 ys).1 := by
  induction xs generalizing g with
  | nil => rfl
  | cons x xs ih => simp only [List.cons_append, run]; exact ih _

theorem frameOkRun_prefix (g : Gas) (xs ys : List Op) (h : FrameOkRun g (xs ++ ys)) : FrameOkRun g xs := by
  induction xs generalizing g with
  | nil => trivial
  | cons x xs ih =>
    simp only [List.cons_append, FrameOkRun] at h ⊢
    exact ⟨h.1, h.2.1, ih _ h.2.2⟩

theorem run_invariant (g : Gas) (ops : List Op) (hw : WF g) (hi : MeterInv g) (hf : FrameOkRun g ops) :
    WF (run g ops).1 ∧ MeterInv (run g ops).1 ∧ (run g ops).1.limit = g.limit := by
  induction ops generalizing g with
  | nil => exact ⟨hw, hi, rfl⟩
  | cons op ops ih =>
    obtain ⟨ht, hf1, hf2⟩ := hf
    have := ih (step g op).1 (step_WF g op hw ht) (step_Inv g op hw.1 hi hf1) hf2
    simp only [run]
    exact ⟨this.1, this.2.1, by rw [this.2.2, step_limit]⟩

/-! ### whole sequences: the gas part refines the unbounded meter under frame accounting alone
(no condition on refunds: they may wrap, the gas columns do not depend on them) -/

def GasRel (g : Gas) (m : Spec.Gas.Meter) : Prop := m.limit = g.limit ∧ m.remaining = g.remaining

theorem step_gas_refines (g : Gas) (m : Spec.Gas.Meter) (op : Op) (hR : GasRel g m) (hw : WF g)
    (hi : MeterInv g) (hf : FrameOk g op) :
    GasRel (step g op).1 (Spec.Gas.step m op).1 ∧ (step g op).2 = (Spec.Gas.step m op).2 := by
  obtain ⟨hl, hr, hf0, hf1⟩ := hw
  obtain ⟨r1, r2⟩ := hR
  cases op with
  | recordCost c =>
    simp only [step, Spec.Gas.step, Spec.Gas.charge, recordCost_eq g c hr, r2]
    split
    · exact ⟨⟨r1, rfl⟩, rfl⟩
    · exact ⟨⟨r1, r2⟩, rfl⟩
  | eraseCost r =>
    refine ⟨⟨r1, ?_⟩, rfl⟩
    simp only [step, Spec.Gas.step, Spec.Gas.giveBack]
    rw [(eraseCost_exact g r hl hi hf).1]
    show m.remaining + r = g.remaining + r; rw [r2]
  | recordRefund r => exact ⟨⟨r1, r2⟩, rfl⟩
  | setFinalRefund b => exact ⟨⟨r1, r2⟩, rfl⟩
  | setRefund r => exact ⟨⟨r1, r2⟩, rfl⟩
  | setSpent s =>
    refine ⟨⟨r1, ?_⟩, rfl⟩
    show m.limit - min s m.limit = g.limit - s
    rw [r1]; omega
  | spendAll => exact ⟨⟨r1, rfl⟩, rfl⟩

theorem run_gas_refines (g : Gas) (m : Spec.Gas.Meter) (ops : List Op) (hR : GasRel g m) (hw : WF g)
    (hi : MeterInv g) (hf : FrameOkRun g ops) :
    GasRel (run g ops).1 (Spec.Gas.run m ops).1 ∧ (run g ops).2 = (Spec.Gas.run m ops).2 := by
  induction ops generalizing g m with
  | nil => exact ⟨hR, rfl⟩
  | cons op ops ih =>
    obtain ⟨ht, hf1, hf2⟩ := hf
    obtain ⟨e1, e2⟩ := step_gas_refines g m op hR hw hi hf1
    obtain ⟨i1, i2⟩ := ih (step g op).1 (Spec.Gas.step m op).1 e1 (step_WF g op hw ht)
      (step_Inv g op hw.1 hi hf1) hf2
    simp only [run, Spec.Gas.run]
    exact ⟨i1, by rw [e2, i2]⟩

/-! ### whole sequences: all three columns under `Spec.Gas.Admissible` -/

theorem frameOk_of_admissible (g : Gas) (op : Op) (hl : g.limit < U64) (hi : MeterInv g)
    (ha : Spec.Gas.Admissible (abs g) op) : FrameOk g op := by
  cases op with
  | eraseCost r =>
    show r ≤ spent g
    rw [spent_eq g hl hi]
    have : g.remaining + r ≤ g.limit := ha
    omega
  | _ => trivial

/-- the refund column: exact when the sum stays an `i64` and the counter is non-negative when it is capped -/
theorem step_refund_refines (g : Gas) (op : Op) (hw : WF g) (hi : MeterInv g)
    (ha : Spec.Gas.Admissible (abs g) op) :
    (step g op).1.refunded = (Spec.Gas.step (abs g) op).1.refunded := by
  cases op with
  | recordCost c =>
    simp only [step, Spec.Gas.step, Spec.Gas.charge, abs, recordCost_eq g c hw.2.1]
    by_cases h : c ≤ g.remaining <;> simp only [h, if_true, if_false]
  | recordRefund r => exact i64WrapAdd_exact g.refunded r ha.1 ha.2
  | setFinalRefund b =>
    refine (setFinalRefund_nonneg g b ha hw.2.2.2).trans ?_
    rw [spent_eq g hw.1 hi]; rfl
  | _ => rfl

theorem step_refines (g : Gas) (op : Op) (hw : WF g) (hi : MeterInv g)
    (ha : Spec.Gas.Admissible (abs g) op) :
    abs (step g op).1 = (Spec.Gas.step (abs g) op).1 ∧ (step g op).2 = (Spec.Gas.step (abs g) op).2
    ∧ FrameOk g op := by
  have hf := frameOk_of_admissible g op hw.1 hi ha
  obtain ⟨⟨h1, h2⟩, h3⟩ := step_gas_refines g (abs g) op ⟨rfl, rfl⟩ hw hi hf
  refine ⟨?_, h3, hf⟩
  show ({ limit := _, remaining := _, refunded := _ } : Spec.Gas.Meter) = _
  rw [← h1, ← h2, step_refund_refines g op hw hi ha]

theorem run_refines (g : Gas) (ops : List Op) (hw : WF g) (hi : MeterInv g)
    (ha : Spec.Gas.AdmissibleRun (abs g) ops) :
    abs (run g ops).1 = (Spec.Gas.run (abs g) ops).1 ∧ (run g ops).2 = (Spec.Gas.run (abs g) ops).2
    ∧ FrameOkRun g ops := by
  induction ops generalizing g with
  | nil => exact ⟨rfl, rfl, trivial⟩
  | cons op ops ih =>
    obtain ⟨ht, ha1, ha2⟩ := ha
    obtain ⟨e1, e2, e3⟩ := step_refines g op hw hi ha1
    rw [← e1] at ha2
    obtain ⟨i1, i2, i3⟩ := ih (step g op).1 (step_WF g op hw ht) (step_Inv g op hw.1 hi e3) ha2
    simp only [run, Spec.Gas.run]
    rw [← e1, ← e2]
    exact ⟨i1, by rw [i2], ht, e3, i3⟩

theorem spec_charge_flag (m : Spec.Gas.Meter) (c : Nat) :
    (Spec.Gas.charge m c).2 = decide (c ≤ m.remaining) := by
  unfold Spec.Gas.charge; by_cases h : c ≤ m.remaining <;> simp [h]

end Revm.Proofs.Gas
