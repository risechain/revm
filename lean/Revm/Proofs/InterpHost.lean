import Revm.Proofs.InterpCtl
import Revm.Proofs.InterpOutcome
/-! C25: the three host combinators as one (`hostWith_tr`; `hostCall_tr`, `hostCallAction_tr`,
`hostCallOptAction_tr` take the two halves of an instruction as triples on the indices), and the instructions that ask
the host (for every answer) and KECCAK256 (for every hash). -/
namespace Revm.Proofs.Interp
open Revm Revm.Model Revm.Model.Interp

section host
variable {s0 : IState}

variable {N : IState → Prop} {A : Action → IState → Prop}

theorem doneWith_good {γ} {okc : γ → IState → Done} {Q : γ → IState → Prop} {e : Exec γ}
    (hok : ∀ c s', Q c s' → DoneGoodP (Halt s0) N A (okc c s')) (h : Exec.Sat e (Halt s0) Q) :
    DoneGoodP (Halt s0) N A (doneWith okc e) := by
  cases h with
  | ok h => exact hok _ _ h
  | halt h => exact .halt h

/-- a host instruction: `pre` up to the question, `post` from the answer (any `RespOk` answer) on -/
theorem hostWith_tr {β γ} {okc : γ → IState → Done} {R : γ → IState → Prop}
    (hok : ∀ c s', R c s' → DoneGoodP (Halt s0) N A (okc c s')) (hb : Base s0)
    {pre : M (HostOp × β)} {post : β → HostResp → M γ} (Q : β → Idx → Prop)
    (hpre : Tr s0 .zero pre fun p j => Q p.2 j)
    (hpost : ∀ b j r, Q b j → RespOk r → TrS s0 j (post b r) R) :
    GoodP (Halt s0) N A (hostWith okc pre post s0) := by
  have hpre := hpre s0 hb.rel
  unfold hostWith
  cases hp : pre s0 with
  | ok p s' =>
    obtain ⟨op, b⟩ := p
    rw [hp] at hpre
    obtain ⟨j, hq, hr⟩ := sat_ok_inv hpre
    exact .host trivial (fun r hresp => doneWith_good hok (hpost b j r hq hresp s' hr))
  | halt r o s' => rw [hp] at hpre; exact .pure (.halt (sat_halt_inv hpre))
  | fault f => rw [hp] at hpre; exact (sat_fault_inv hpre).elim

theorem hostCall_tr {β} (hb : Base s0) (hN : ∀ s', Done1 s0 s' → N s') {pre : M (HostOp × β)}
    {post : β → HostResp → M Unit} (Q : β → Idx → Prop) (hpre : Tr s0 .zero pre fun p j => Q p.2 j)
    (hpost : ∀ b j r, Q b j → RespOk r → Tr s0 j (post b r) Paid) :
    GoodP (Halt s0) N A (hostCall pre post s0) := by
  rw [hostCall_eq]
  exact hostWith_tr (fun _ s' h => .next (hN s' h)) hb Q hpre fun b j r hq hr => (hpost b j r hq hr).done1

theorem hostCallAction_tr {β} {QA : Action → IState → Prop} (hb : Base s0) (hA : ∀ a s', QA a s' → A a s')
    {pre : M (HostOp × β)} {post : β → HostResp → M Action} (Q : β → Idx → Prop)
    (hpre : Tr s0 .zero pre fun p j => Q p.2 j) (hpost : ∀ b j r, Q b j → RespOk r → TrS s0 j (post b r) QA) :
    GoodP (Halt s0) N A (hostCallAction pre post s0) := by
  rw [hostCallAction_eq]
  exact hostWith_tr (fun a s' h => .action (hA a s' h)) hb Q hpre hpost

theorem hostCallOptAction_tr {β} {QA : Action → IState → Prop} (hb : Base s0) (hN : ∀ s', Done1 s0 s' → N s')
    (hA : ∀ a s', QA a s' → A a s') {pre : M (HostOp × β)} {post : β → HostResp → M (Option Action)}
    (Q : β → Idx → Prop) (hpre : Tr s0 .zero pre fun p j => Q p.2 j)
    (hpost : ∀ b j r, Q b j → RespOk r → TrS s0 j (post b r) fun oa s'' => match oa with
      | some a => QA a s''
      | none => Done1 s0 s'') :
    GoodP (Halt s0) N A (hostCallOptAction pre post s0) := by
  rw [hostCallOptAction_eq]
  refine hostWith_tr (fun oa s' h => ?_) hb Q hpre hpost
  cases oa with
  | some a => exact .action (hA a s' h)
  | none => exact .next (hN s' h)

/-- `gas!(c); push!(v)` after the host answered -/
theorem chargePush_tr {k : Nat} {st ne : Bool} {L : Nat} (c v : Nat) (hc : 1 ≤ c) :
    Tr s0 ⟨k, st, ne, L⟩ (do gasCharge c; push v : M Unit) Paid :=
  .seq (.gas c hc) fun _ _ => .last (.push v) fun _ _ => paid hc

theorem balanceI_good (hb : Base s0) (hN : ∀ s', Done1 s0 s' → N s') : GoodP (Halt s0) N A (balanceI s0) :=
  hostCall_tr hb hN (fun _ j => j = ⟨0, true, false, 0⟩) (.seq .popAddress fun a _ => .pure rfl)
    fun _ _ r e _ => e ▸ .seq (.requireSome r) fun _ _ => .seq .getS fun s _ =>
      chargePush_tr _ _ (Nat.le_trans (by decide : 1 ≤ 20) (balanceGas_ge s.spec r.isCold))

theorem selfbalanceI_good (hb : Base s0) (hN : ∀ s', Done1 s0 s' → N s') :
    GoodP (Halt s0) N A (selfbalanceI s0) :=
  hostCall_tr hb hN (fun _ j => j = ⟨0 + GasCalc.LOW, true, false, 0⟩)
    (.seq (.check _) fun _ _ => .seq (.gas _ (by decide)) fun _ _ => .seq .getS fun s _ => .pure rfl)
    fun _ _ r e _ => e ▸ .seq (.requireSome r) fun _ _ => .last (.push _) fun _ _ => paid (by decide)

theorem extcodesizeI_good (hb : Base s0) (hN : ∀ s', Done1 s0 s' → N s') :
    GoodP (Halt s0) N A (extcodesizeI s0) :=
  hostCall_tr hb hN (fun _ j => j = ⟨0, true, false, 0⟩) (.seq .popAddress fun a _ => .pure rfl)
    fun _ _ r e _ => e ▸ .seq (.requireSome r) fun _ _ => .seq .getS fun s _ =>
      chargePush_tr _ _ (Nat.le_trans (by decide : 1 ≤ 20) (extcodesizeGas_ge s.spec r.isCold))

theorem extcodehashI_good (hb : Base s0) (hN : ∀ s', Done1 s0 s' → N s') :
    GoodP (Halt s0) N A (extcodehashI s0) :=
  hostCall_tr hb hN (fun _ j => j = ⟨0, true, false, 0⟩)
    (.seq (.check _) fun _ _ => .seq .popAddress fun a _ => .pure rfl)
    fun _ _ r e _ => e ▸ .seq (.requireSome r) fun _ _ => .seq .getS fun s _ =>
      chargePush_tr _ _ (Nat.le_trans (by decide : 1 ≤ 20) (extcodehashGas_ge s.spec r.isCold))

theorem extcodecopyI_good (hb : Base s0) (hN : ∀ s', Done1 s0 s' → N s') :
    GoodP (Halt s0) N A (extcodecopyI s0) :=
  hostCall_tr hb hN (fun _ j => j = ⟨0, true, false, 0⟩)
    (.seq .popAddress fun a _ => .seq .pop3 fun args _ => .pure rfl)
    fun (memOff, codeOff, lenW) _ r e hr => e ▸ .seq (.requireSome r) fun _ _ => .seq (.asUsize lenW _) fun len _ =>
      .seq .getS fun s _ => .gasOrFail 20 (by decide) (fun _ hc => extcodecopyCost_ge hc) fun c hc => by
        split
        · exact .pure (paid (by omega))
        · exact .seq (.asUsize memOff _) fun memOff' _ => .seq (.resizeMem memOff' len) fun _ _ =>
            .last (.memSetData _ hr (Nat.le_max_right _ _)) fun _ _ => paid (by omega)

theorem blockhashI_good (hb : Base s0) (hN : ∀ s', Done1 s0 s' → N s') :
    GoodP (Halt s0) N A (blockhashI s0) :=
  hostCall_tr hb hN (fun _ j => j = ⟨0 + GasCalc.BLOCKHASH, true, true, 0⟩)
    (.seq (.gas _ (by decide)) fun _ _ => .seq .popTop1 fun n _ => .pure rfl)
    fun _ _ r e _ => e ▸ .seq (.requireSome r) fun _ _ => .last (.setTop _) fun _ _ => paid (by decide)

theorem sloadI_good (hb : Base s0) (hN : ∀ s', Done1 s0 s' → N s') : GoodP (Halt s0) N A (sloadI s0) :=
  hostCall_tr hb hN (fun _ j => j = ⟨0, true, true, 0⟩)
    (.seq .popTop1 fun idx _ => .seq .getS fun s _ => .pure rfl)
    fun _ _ r e _ => e ▸ .seq (.requireSome r) fun _ _ => .seq .getS fun s _ =>
      have hc := Nat.le_trans (by decide : 1 ≤ 50) (sloadCost_ge s.spec r.isCold)
      .seq (.gas _ hc) fun _ _ => .last (.setTop _) fun _ _ => paid hc

theorem sstoreI_good (hb : Base s0) (hN : ∀ s', Done1 s0 s' → N s') : GoodP (Halt s0) N A (sstoreI s0) :=
  hostCall_tr hb hN (fun _ j => j = ⟨0, true, false, 0⟩)
    (.seq .requireNonStatic fun _ _ => .seq .pop2 fun (idx, v) _ => .seq .getS fun s _ => .pure rfl)
    fun _ _ r e _ => e ▸ .seq (.requireSome r) fun _ _ => .seq .getS fun s _ =>
      .gasOrFail 100 (by decide) (fun _ hc => sstoreCost_ge hc) fun c hc =>
        .last (.refund _) fun _ _ => paid (by omega)

theorem tstoreI_good (hb : Base s0) (hN : ∀ s', Done1 s0 s' → N s') : GoodP (Halt s0) N A (tstoreI s0) :=
  hostCall_tr hb hN (fun _ j => 1 ≤ j.k)
    (.seq (.check _) fun _ _ => .seq .requireNonStatic fun _ _ => .seq (.gas _ (by decide)) fun _ _ =>
      .seq .pop2 fun (idx, v) _ => .seq .getS fun s _ => .pure (paid (by decide)))
    fun _ _ _ hk _ => .pure hk

theorem tloadI_good (hb : Base s0) (hN : ∀ s', Done1 s0 s' → N s') : GoodP (Halt s0) N A (tloadI s0) :=
  hostCall_tr hb hN (fun _ j => j = ⟨0 + GasCalc.WARM_STORAGE_READ_COST, true, true, 0⟩)
    (.seq (.check _) fun _ _ => .seq (.gas _ (by decide)) fun _ _ => .seq .popTop1 fun idx _ =>
      .seq .getS fun s _ => .pure rfl)
    fun _ _ r e _ => e ▸ .last (.setTop _) fun _ _ => paid (by decide)

theorem logI_good (hb : Base s0) (hN : ∀ s', Done1 s0 s' → N s') (n : Nat) :
    GoodP (Halt s0) N A (logI n s0) :=
  hostCall_tr hb hN (fun _ j => 1 ≤ j.k)
    (.seq .requireNonStatic fun _ _ => .seq .pop2 fun (offset, len) _ => .seq (.asUsize len _) fun len' _ =>
      .gasOrFail 375 (by decide) (fun _ hc => logCost_ge hc) fun c hc =>
        .bind (Q := fun _ j => ∃ L, j = ⟨0 + c, true, false, L⟩) (by
            split
            · exact .pure ⟨_, rfl⟩
            · exact .seq (.asUsize offset _) fun off _ => .seq (.resizeMem off len') fun _ _ =>
                .last (.memSlice (Nat.le_max_right _ _)) fun _ _ => ⟨_, rfl⟩)
          fun data _ ⟨L, e⟩ => e ▸ .seq (.popN n) fun topics _ => .seq .getS fun s _ => .pure (paid (by omega)))
    fun _ _ _ hk _ => .pure hk

theorem selfdestructI_good (hb : Base s0) (hN : ∀ s', Done1 s0 s' → N s') :
    GoodP (Halt s0) N A (selfdestructI s0) :=
  hostCall_tr hb hN (fun _ j => j = ⟨0, true, false, 0⟩)
    (.seq .requireNonStatic fun _ _ => .seq .popAddress fun t _ => .seq .getS fun s _ => .pure rfl)
    fun _ _ r e _ => e ▸ .seq (.requireSome r) fun _ _ => .seq .getS fun s _ => by
      dsimp only []
      split
      · exact .seq (.refund _) fun _ _ => .seq (.gas0 _) fun _ _ => .halt _
      · exact .seq (.gas0 _) fun _ _ => .halt _

theorem keccakPre_tr :
    Tr s0 .zero keccakPre fun _ j => ∃ k L, j = ⟨k, true, true, L⟩ ∧ 1 ≤ k :=
  .seq .popTop2 fun (offset, len) _ => .seq (.asUsize len _) fun len' _ =>
    .gasOrFail 30 (by decide) (fun _ hc => keccak256Cost_ge hc) fun c hc => by
      split
      · exact .pure ⟨_, _, rfl, paid (by omega)⟩
      · exact .seq (.asUsize offset _) fun src _ => .seq (.resizeMem src len') fun _ _ =>
          .seq (.memSlice (Nat.le_max_right _ _)) fun data _ => .pure ⟨_, _, rfl, paid (by omega)⟩

theorem keccak256I_good (hb : Base s0) (hN : ∀ s', Done1 s0 s' → N s') :
    GoodP (Halt s0) N A (keccak256I s0) := by
  unfold keccak256I
  have hpre := keccakPre_tr s0 hb.rel
  cases hp : keccakPre s0 with
  | ok d s' =>
    rw [hp] at hpre
    obtain ⟨_, ⟨k, L, rfl, hk⟩, hr⟩ := sat_ok_inv hpre
    have htop : ∀ v, DoneGoodP (Halt s0) N A (setTop v s').toDone := fun v =>
      toDoneP hN ((TrS.last (Q := Paid) (.setTop v) fun _ _ => hk).done1 s' hr)
    cases d with
    | none => exact .pure (htop _)
    | some data => exact .host trivial (fun r _ => htop _)
  | halt r o s' => rw [hp] at hpre; exact .pure (.halt (sat_halt_inv hpre))
  | fault f => rw [hp] at hpre; exact (sat_fault_inv hpre).elim

end host

end Revm.Proofs.Interp
