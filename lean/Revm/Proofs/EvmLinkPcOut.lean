import Revm.Proofs.EvmLinkInterpFrame
import Revm.Proofs.PrecompileModexp
/-! `PcOut` holds (`pcOut`): the executable precompiles (SHA-256, RIPEMD-160, identity, MODEXP, BN254 add / mul,
BLAKE2F) return at most `isize::MAX` bytes on an input of at most `isize::MAX` bytes: 32, 32, the input, `mod_len`
(which the allocation check of `right_pad_vec` bounds), 64, 64, 64. -/
namespace Revm.Proofs.EvmLink
open Revm Revm.Model Revm.Model.Evm Revm.Model.Precompile Revm.Model.PrecompileHash Revm.Proofs.Precompile

local notation "ISZ" => Memory.ISIZE_MAX

theorem isz_val : ISZ = 2^63 - 1 := rfl

theorem small_le_isz {n : Nat} (h : n ≤ 64) : n ≤ ISZ := by
  rw [isz_val]; omega

theorem encodeG1_length (p : G1) : (encodeG1 p).length = 64 := by
  cases p with
  | none => simp [encodeG1]
  | some xy =>
    obtain ⟨x, y⟩ := xy
    simp only [encodeG1, List.length_append, Proofs.Precompile.toBE_length]

/-- a success returns at most `n` bytes -/
abbrev Short (n : Nat) : Nat → Bytes → Prop := fun _ out => out.length ≤ n

theorem sha256_out (input : Bytes) (gas : Nat) : Ok (Short ISZ) (sha256Run input gas) := by
  unfold sha256Run
  exact .ite (fun _ => .err) fun _ => .ok (small_le_isz (by rw [sha256_length]; omega))

theorem ripemd160_out (input : Bytes) (gas : Nat) : Ok (Short ISZ) (ripemd160Run input gas) := by
  unfold ripemd160Run
  exact .ite (fun _ => .err) fun _ =>
    .ok (small_le_isz (by rw [List.length_append, List.length_replicate, ripemd160_length]; omega))

theorem identity_out (input : Bytes) (gas : Nat) (hin : input.length ≤ ISZ) : Ok (Short ISZ) (identityRun input gas) := by
  unfold identityRun
  exact .ite (fun _ => .err) fun _ => .ok hin

theorem g1_short (p : G1) : Short ISZ 0 (encodeG1 p) := small_le_isz (Nat.le_of_eq (encodeG1_length p))

theorem bnAdd_out (c : Nat) (input : Bytes) (gas : Nat) : Ok (Short ISZ) (bnAddRun c input gas) := by
  unfold bnAddRun
  refine .ite (fun _ => .err) fun _ => ?_
  dsimp only
  split
  · exact .err
  · split
    · exact .err
    · exact .ok (g1_short _)

theorem bnMul_out (c : Nat) (input : Bytes) (gas : Nat) : Ok (Short ISZ) (bnMulRun c input gas) := by
  unfold bnMulRun
  refine .ite (fun _ => .err) fun _ => ?_
  dsimp only
  split
  · exact .err
  · exact .ok (g1_short _)

theorem some_of_ite {c : Prop} [Decidable c] {x r : Res} (h : (if c then none else some x) = some r) : x = r := by
  split at h
  · cases h
  · exact Option.some.inj h

theorem pcOut : PcOut := by
  intro fork a input gasLimit gasUsed out ho h hin
  unfold Precompile.call at h
  simp only [] at h
  split at h
  all_goals try exact absurd ho (by decide)
  · exact sha256_out _ _ _ _ (Option.some.inj h)
  · exact ripemd160_out _ _ _ _ (Option.some.inj h)
  · exact identity_out _ _ hin _ _ (Option.some.inj h)
  · have hI : isizeMax = ISZ := rfl
    rcases modexpRun_ok_length _ _ _ _ _ (some_of_ite h) with h | h <;> omega
  · exact bnAdd_out _ _ _ _ _ (some_of_ite h)
  · exact bnMul_out _ _ _ _ _ (some_of_ite h)
  · exact small_le_isz (Nat.le_of_eq (blake2_ok _ _ _ _ (some_of_ite h)).2.2)
  · cases h

end Revm.Proofs.EvmLink
