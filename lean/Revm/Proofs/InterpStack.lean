import Revm.Proofs.Interp
import Revm.Proofs.Stack
/-! C25: the stack primitives (`pop!`, `pop_top!`, `push!`, the `Stack` methods) and the memory primitives
(`resize_memory!`, the `SharedMemory` accessors) of the handler monad, each as the `Step` it takes on the indices of
`Rel` (`Interp.lean`): `pop!` and `pop_top!` know `measure < u64::MAX` afterwards, `pop_top!` leaves the reference that
`set_top` needs, `push!` and `resize_memory!` need that bound, `resize_memory!` raises the memory surely there, every
access needs it. -/
namespace Revm.Proofs.Interp
open Revm Revm.Model Revm.Model.Interp

/-! ## `Model.Stack` facts in the form needed here -/

theorem popNUnsafe_ok (k : Nat) (d : List Nat) (hk : k ≤ d.length) :
    ∃ d' vs, Stack.popNUnsafe k d = (d', .ok vs) ∧ d'.length = d.length - k ∧ vs.length = k := by
  have h := Proofs.Stack.popNUnsafe_rev k d.reverse (by simpa using hk)
  rw [List.reverse_reverse] at h
  refine ⟨_, _, h, ?_, ?_⟩
  · simp
  · simp; omega

theorem popMacro_ok (k : Nat) (d : List Nat) (hk : k ≤ d.length) :
    ∃ d' vs, Stack.popMacro d k = (d', .ok vs) ∧ d'.length = d.length - k ∧ vs.length = k := by
  unfold Stack.popMacro
  rw [if_neg (by omega)]
  exact popNUnsafe_ok k d hk

theorem popMacro_underflow (k : Nat) (d : List Nat) (hk : d.length < k) :
    Stack.popMacro d k = (d, .err .StackUnderflow) := by
  unfold Stack.popMacro; rw [if_pos hk]

theorem peek0_ok (d : List Nat) (h : 0 < d.length) : ∃ t, Stack.peek d 0 = (d, .ok t) := by
  unfold Stack.peek
  rw [if_pos h]
  have : d.length - 0 - 1 < d.length := by omega
  rw [List.getElem?_eq_getElem this]
  exact ⟨_, rfl⟩

theorem set0_ok (d : List Nat) (v : Nat) (h : 0 < d.length) :
    ∃ d', Stack.set d 0 v = (d', .ok ()) ∧ d'.length = d.length := by
  unfold Stack.set
  rw [if_pos h]
  simp only []
  rw [if_pos (by omega)]
  exact ⟨_, rfl, by simp⟩

section prims
variable {k : Nat} {st ne : Bool} {L : Nat} {s0 s : IState}

theorem Rel.setStack (h : Rel k st ne L s0 s) (d : List Nat) {st' ne' : Bool} (hd : d.length ≤ 1024)
    (hst : st' = true → measure s < U64 - 1) (hsafe : measure s < U64 - 1 ∨ d = [])
    (hne : ne' = true → d ≠ []) :
    Rel k st' ne' L s0 { s with stack := d } :=
  { h with stack := hd, strict := hst, safe := hsafe, nonempty := hne }

theorem Rel.withStack (h : Rel k st ne L s0 s) (d : List Nat) {ne' : Bool} (hd : d.length ≤ 1024)
    (hsafe : measure s < U64 - 1 ∨ d = []) (hne : ne' = true → d ≠ []) :
    Rel k st ne' L s0 { s with stack := d } :=
  h.setStack d hd h.strict hsafe hne

/-- a frame whose stack is not empty has consumed gas: `measure < u64::MAX` -/
theorem Rel.strictOfStack (h : Rel k st ne L s0 s) (hne : s.stack ≠ []) : measure s < U64 - 1 :=
  h.safe.resolve_right hne

/-- a method whose model is literally one case of `Model.Stack.step` meets the hypothesis of `Step.stackCall` -/
theorem stackUnit_hf (f : List Nat → List Nat × Stack.Res Unit) (op : Stack.Op)
    (hf : ∀ d, Stack.step d op = ((f d).1, Stack.Out.ofUnit (f d).2)) :
    ∀ d, (Stack.step d op).1 = (f d).1 ∧ ((f d).2 = .panic → (Stack.step d op).2 = .panic)
      ∧ ((f d).2 = .ub → (Stack.step d op).2 = .ub) := by
  intro d
  rw [hf d]
  exact ⟨rfl, fun e => by show Stack.Out.ofUnit _ = _; rw [e]; rfl,
    fun e => by show Stack.Out.ofUnit _ = _; rw [e]; rfl⟩

end prims

namespace Step
variable {s0 : IState} {k : Nat} {st ne : Bool} {L : Nat}

theorem popN (j : Nat) :
    Step s0 ⟨k, st, ne, L⟩ (Interp.popN j) ⟨k, st || decide (1 ≤ j), false, L⟩ fun vs => vs.length = j :=
  .ofRel fun s h => by
    replace h : Rel k st ne L s0 s := h
    unfold Interp.popN
    by_cases hj : j ≤ s.stack.length
    · obtain ⟨d', vs, he, hl, hv⟩ := popMacro_ok j s.stack hj
      rw [he]
      have hstk := h.stack
      refine sat_ok ⟨h.setStack d' (by rw [hl]; omega) ?_ ?_ (fun e => by cases e), hv⟩
      · intro e
        by_cases hj1 : 1 ≤ j
        · exact h.strictOfStack (fun h1 => by rw [h1] at hj; exact absurd hj (by simp; omega))
        · exact h.strict (by simpa [hj1] using e)
      · rcases h.safe with h1 | h1
        · exact .inl h1
        · exact .inr (List.eq_nil_of_length_eq_zero (by rw [hl, h1]; exact Nat.zero_sub j))
    · rw [popMacro_underflow j s.stack (by omega)]
      exact sat_halt h.toCore.toHalt

/-- a `pop!` of at least one word: the stack was not empty, so `measure < u64::MAX` -/
theorem popPos (j : Nat) (hj : 1 ≤ j) :
    Step s0 ⟨k, st, ne, L⟩ (Interp.popN j) ⟨k, true, false, L⟩ fun vs => vs.length = j := by
  have h := popN (s0 := s0) (k := k) (st := st) (ne := ne) (L := L) j
  rwa [show (st || decide (1 ≤ j)) = true by simp [hj]] at h

theorem pop1 : Step s0 ⟨k, st, ne, L⟩ Interp.pop1 ⟨k, true, false, L⟩ fun _ => True :=
  .seq (popPos 1 (by decide)) fun vs hl => match vs, hl with
    | [a], _ => .pure ⟨rfl, trivial⟩
theorem pop2 : Step s0 ⟨k, st, ne, L⟩ Interp.pop2 ⟨k, true, false, L⟩ fun _ => True :=
  .seq (popPos 2 (by decide)) fun vs hl => match vs, hl with
    | [a, b], _ => .pure ⟨rfl, trivial⟩
theorem pop3 : Step s0 ⟨k, st, ne, L⟩ Interp.pop3 ⟨k, true, false, L⟩ fun _ => True :=
  .seq (popPos 3 (by decide)) fun vs hl => match vs, hl with
    | [a, b, c], _ => .pure ⟨rfl, trivial⟩
theorem pop4 : Step s0 ⟨k, st, ne, L⟩ Interp.pop4 ⟨k, true, false, L⟩ fun _ => True :=
  .seq (popPos 4 (by decide)) fun vs hl => match vs, hl with
    | [a, b, c, d], _ => .pure ⟨rfl, trivial⟩
theorem popAddress : Step s0 ⟨k, st, ne, L⟩ Interp.popAddress ⟨k, true, false, L⟩ fun _ => True :=
  .seq pop1 fun _ _ => .pure ⟨rfl, trivial⟩

/-- `pop_top!`: the reference to the new top is live -/
theorem popTop (j : Nat) (hj : 1 ≤ j) :
    Step s0 ⟨k, st, ne, L⟩ (Interp.popTop j) ⟨k, true, true, L⟩ fun p => p.1.length = j - 1 :=
  .ofRel fun s h => by
    replace h : Rel k st ne L s0 s := h
    unfold Interp.popTop
    by_cases hlen : s.stack.length < j
    · rw [if_pos hlen]; exact sat_halt h.toCore.toHalt
    · rw [if_neg hlen]
      obtain ⟨d', vs, he, hl, hv⟩ := popNUnsafe_ok (j - 1) s.stack (by omega)
      rw [he]
      simp only []
      have hd0 : 0 < d'.length := by rw [hl]; omega
      obtain ⟨t, ht⟩ := peek0_ok d' hd0
      rw [ht]
      have hstrict := h.strictOfStack (fun h1 => by rw [h1] at hlen; exact hlen hj)
      have hstk := h.stack
      exact sat_ok ⟨h.setStack d' (by rw [hl]; omega) (fun _ => hstrict) (.inl hstrict)
        (fun _ hnil => by rw [hnil] at hd0; exact Nat.lt_irrefl 0 hd0), hv⟩

theorem popTop1 : Step s0 ⟨k, st, ne, L⟩ Interp.popTop1 ⟨k, true, true, L⟩ fun _ => True :=
  .seq (popTop 1 (Nat.le_refl _)) fun (_, _) _ => .pure ⟨rfl, trivial⟩
theorem popTop2 : Step s0 ⟨k, st, ne, L⟩ Interp.popTop2 ⟨k, true, true, L⟩ fun _ => True :=
  .seq (popTop 2 (by decide)) fun (vs, _) hl => match vs, hl with
    | [a], _ => .pure ⟨rfl, trivial⟩
theorem popTop3 : Step s0 ⟨k, st, ne, L⟩ Interp.popTop3 ⟨k, true, true, L⟩ fun _ => True :=
  .seq (popTop 3 (by decide)) fun (vs, _) hl => match vs, hl with
    | [a, b], _ => .pure ⟨rfl, trivial⟩

theorem setTop (v : Nat) : Step s0 ⟨k, st, true, L⟩ (Interp.setTop v) ⟨k, st, true, L⟩ fun _ => True :=
  .ofRel fun s h => by
    unfold Interp.setTop
    have hne := h.nonempty rfl
    have hpos : 0 < s.stack.length := List.length_pos_iff.mpr hne
    obtain ⟨d', he, hl⟩ := set0_ok s.stack v hpos
    rw [he]
    exact sat_ok ⟨h.setStack d' (by rw [hl]; exact h.stack) h.strict (.inl (h.strictOfStack hne))
      (fun _ hnil => by rw [hnil] at hl; rw [← hl] at hpos; exact Nat.lt_irrefl 0 hpos), trivial⟩

theorem push (v : Nat) : Step s0 ⟨k, true, ne, L⟩ (Interp.push v) ⟨k, true, false, L⟩ fun _ => True :=
  .ofRel fun s h => by
    unfold Interp.push Stack.push
    by_cases hfull : s.stack.length = Stack.STACK_LIMIT
    · rw [if_pos hfull]; exact sat_halt h.toCore.toHalt
    · rw [if_neg hfull]
      have hstk := h.stack
      exact sat_ok ⟨h.setStack _ (by rw [List.length_append]; unfold Stack.STACK_LIMIT at hfull; exact Nat.succ_le_of_lt (Nat.lt_of_le_of_ne hstk hfull))
        h.strict (.inl (h.strict rfl)) (fun e => by cases e), trivial⟩

/-- a `Stack` method through `if let Err(r) = stack.f(..) { result = r }`: any function that is one of the
operations of `Model.Stack.step` (their no-panic / length theorems are C12's) -/
theorem stackCall (f : List Nat → List Nat × Stack.Res Unit) (op : Stack.Op) (hp : op.pre)
    (hf : ∀ d, (Stack.step d op).1 = (f d).1 ∧ ((f d).2 = .panic → (Stack.step d op).2 = .panic)
      ∧ ((f d).2 = .ub → (Stack.step d op).2 = .ub)) :
    Step s0 ⟨k, true, ne, L⟩ (Interp.stackCall f) ⟨k, true, false, L⟩ fun _ => True :=
  .ofRel fun s h => by
    have hstk := h.stack
    have hlen := Proofs.Stack.step_len_le s.stack op (by simpa [Stack.STACK_LIMIT] using hstk) hp
    have hnp := Proofs.Stack.step_no_panic_ub s.stack op (by simpa [Stack.STACK_LIMIT] using hstk) hp
    obtain ⟨h1, h2, h3⟩ := hf s.stack
    rw [h1] at hlen
    unfold Interp.stackCall
    cases hfs : f s.stack with
    | mk d r =>
      rw [hfs] at hlen h2 h3
      cases r with
      | ok u => exact sat_ok ⟨h.setStack d hlen h.strict (.inl (h.strict rfl)) (fun e => by cases e), trivial⟩
      | err e => exact sat_halt h.toCore.toHalt
      | panic => exact absurd (h2 rfl) hnp.1
      | ub => exact absurd (h3 rfl) hnp.2

theorem stackUnit (f : List Nat → List Nat × Stack.Res Unit) (op : Stack.Op) (hp : op.pre)
    (hf : ∀ d, Stack.step d op = ((f d).1, Stack.Out.ofUnit (f d).2)) :
    Step s0 ⟨k, true, ne, L⟩ (Interp.stackCall f) ⟨k, true, false, L⟩ fun _ => True :=
  stackCall f op hp (stackUnit_hf f op hf)

/-- `resize_memory!(off, len)`: the context covers `off + len` from here on -/
theorem resizeMem (off len : Nat) :
    Step s0 ⟨k, true, ne, L⟩ (Interp.resizeMem off len) ⟨k, true, ne, max L (off + len)⟩ fun _ => True :=
  .ofRel fun s h => by
    replace h : Rel k true ne L s0 s := h
    have hstrict := h.strict rfl
    have hspec := resizeMacro_spec (rem := s.gas.remaining) (off := off) (len_ := len) h.memWF h.memCk
      (by unfold measure mcost at hstrict; exact hstrict)
    unfold Interp.resizeMem
    rcases hspec with hfail | ⟨m', rem', he, hwf, hck, hcks, hcov, hgrow, hmeas⟩
    · rw [hfail]; exact sat_halt h.toCore.toHalt
    · rw [he]
      refine sat_ok ⟨?_, trivial⟩
      show Rel k true ne (max L (off + len)) s0
        { s with mem := m', gas := { s.gas with remaining := rem' } }
      have hmeq : measure { s with mem := m', gas := { s.gas with remaining := rem' } } = measure s := by
        unfold measure mcost; exact hmeas
      have hL := h.memL
      exact
        { h with
          ck := by show m'.lastCheckpoint = _; rw [hck]; exact h.ck
          cks := by show m'.checkpoints = _; rw [hcks]; exact h.cks
          memWF := hwf
          memCk := by show m'.lastCheckpoint ≤ _; rw [hck]; exact h.memCk
          memL := by show max L (off + len) ≤ clen m'; omega
          grow := by show clen s0.mem ≤ clen m'; have := h.grow; omega
          meas := by rw [hmeq]; exact h.meas
          strict := fun _ => by rw [hmeq]; exact hstrict
          safe := Or.inl (by rw [hmeq]; exact hstrict) }

theorem memWrite {f : Memory.SharedMemory → Memory.Res Memory.SharedMemory}
    (hf : ∀ s, RelI s0 ⟨k, st, ne, L⟩ s → ∃ m', f s.mem = .ok m' ∧ Shape s.mem m') :
    Step s0 ⟨k, st, ne, L⟩ (liftMemWrite f) ⟨k, st, ne, L⟩ fun _ => True :=
  .ofRel fun s h => by
    replace h : Rel k st ne L s0 s := h
    obtain ⟨m', he, hs⟩ := hf s h
    unfold liftMemWrite
    rw [he]
    refine sat_ok ⟨?_, trivial⟩
    show Rel k st ne L s0 { s with mem := m' }
    have hmeq : measure { s with mem := m' } = measure s := by
      unfold measure mcost; rw [cost_shape hs]
    exact
      { h with
        ck := by show m'.lastCheckpoint = _; rw [hs.1]; exact h.ck
        cks := by show m'.checkpoints = _; rw [hs.2.1]; exact h.cks
        memWF := WF_shape h.memWF hs
        memCk := by show m'.lastCheckpoint ≤ _; rw [hs.1]; exact h.memCk
        memL := by show L ≤ clen m'; rw [clen_shape hs]; exact h.memL
        grow := by show clen s0.mem ≤ clen m'; rw [clen_shape hs]; exact h.grow
        meas := by rw [hmeq]; exact h.meas
        strict := fun e => by rw [hmeq]; exact h.strict e
        safe := by rw [hmeq]; exact h.safe }

theorem memSetU256 {off : Nat} (v : Nat) (hin : off + 32 ≤ L) :
    Step s0 ⟨k, st, ne, L⟩ (Interp.memSetU256 off v) ⟨k, st, ne, L⟩ fun _ => True :=
  memWrite fun _ hs => setU256_ok hs.memWF (Nat.le_trans hin hs.memL)

theorem memSetByte {off : Nat} (b : Nat) (hin : off + 1 ≤ L) :
    Step s0 ⟨k, st, ne, L⟩ (Interp.memSetByte off b) ⟨k, st, ne, L⟩ fun _ => True :=
  memWrite fun _ hs => setByte_ok hs.memWF (Nat.le_trans hin hs.memL)

theorem memSetData {moff len : Nat} (dOff : Nat) {data : List Nat} (hd : data.length ≤ Memory.ISIZE_MAX)
    (hin : moff + len ≤ L) :
    Step s0 ⟨k, st, ne, L⟩ (Interp.memSetData moff dOff len data) ⟨k, st, ne, L⟩ fun _ => True :=
  memWrite fun _ hs => setData_ok hs.memWF hd (Nat.le_trans hin hs.memL)

theorem memCopy {dst src len : Nat} (h1 : src + len ≤ L) (h2 : dst + len ≤ L) :
    Step s0 ⟨k, st, ne, L⟩ (Interp.memCopy dst src len) ⟨k, st, ne, L⟩ fun _ => True :=
  memWrite fun _ hs => copy_ok hs.memWF (Nat.le_trans h1 hs.memL) (Nat.le_trans h2 hs.memL)

/-- `shared_memory.set(offset, value)` as used by `insert_call_outcome` -/
theorem memSet {off : Nat} {val : List Nat} (hin : val = [] ∨ off + val.length ≤ L) :
    Step s0 ⟨k, st, ne, L⟩ (liftMemWrite fun m => Memory.set m off val) ⟨k, st, ne, L⟩ fun _ => True :=
  memWrite fun _ hs => set_ok hs.memWF (hin.elim Or.inl fun h1 => Or.inr (Nat.le_trans h1 hs.memL))

theorem memSlice {off len : Nat} (hin : off + len ≤ L) :
    Step s0 ⟨k, st, ne, L⟩ (Interp.memSlice off len) ⟨k, st, ne, L⟩ fun bs => bs.length = len :=
  .ofRead fun s hs => by
    obtain ⟨bs, hb, hl⟩ := slice_ok (size := len) hs.memWF (Nat.le_trans hin hs.memL)
    unfold Interp.memSlice; rw [hb]; exact sat_ok ⟨rfl, hl⟩

theorem memSliceRange {a b : Nat} (h1 : a ≤ b) (h2 : b ≤ L) :
    Step s0 ⟨k, st, ne, L⟩ (Interp.memSliceRange a b) ⟨k, st, ne, L⟩ fun bs => bs.length = b - a :=
  .ofRead fun s hs => by
    obtain ⟨bs, hb, hl⟩ := sliceRange_ok hs.memWF h1 (Nat.le_trans h2 hs.memL)
    unfold Interp.memSliceRange; rw [hb]; exact sat_ok ⟨rfl, hl⟩

theorem memGetU256 {off : Nat} (hin : off + 32 ≤ L) :
    Step s0 ⟨k, st, ne, L⟩ (Interp.memGetU256 off) ⟨k, st, ne, L⟩ fun _ => True :=
  .ofRead fun s hs => by
    obtain ⟨v, hv⟩ := getU256_ok hs.memWF (Nat.le_trans hin hs.memL)
    unfold Interp.memGetU256; rw [hv]; exact sat_ok ⟨rfl, trivial⟩

end Step

end Revm.Proofs.Interp
