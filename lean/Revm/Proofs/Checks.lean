import Revm.Util.Word
/-! What the handlers' validations are inverted with: a check of the code is `if … then some err else …`, the
`balance_check` of `validate_tx_against_state` a ladder of `checked_mul` / `checked_add`; and the monotonicity of
`saturating_mul`. On plain numbers: `Model.TxGas`, `Model.TxValidate` and `Model.OpFees` transcribe the same Rust.
(The namespace is `Revm.Proofs.Gas`.) -/
namespace Revm.Proofs.Gas
open Revm

theorem ite_some_none_iff {α : Type} {c : Prop} [Decidable c] {a : α} {x : Option α} :
    (if c then some a else x) = none ↔ ¬ c ∧ x = none := by
  by_cases hc : c <;> simp [hc]

theorem ite_some_none {α : Type} {c : Prop} [Decidable c] {a : α} {x : Option α}
    (h : (if c then some a else x) = none) : ¬ c ∧ x = none := ite_some_none_iff.1 h

theorem ite_some_some {α : Type} {c : Prop} [Decidable c] {a b : α}
    (h : (if c then some a else none) = some b) : c ∧ b = a := by
  by_cases hc : c <;> simp [hc] at h; exact ⟨hc, h.symm⟩

theorem checkedMul_some {a b c : Nat} (h : U256.checkedMul a b = some c) : c = a * b ∧ c < W := by
  unfold U256.checkedMul at h
  split at h
  · injection h with h; subst h; exact ⟨rfl, ‹_›⟩
  · cases h

theorem checkedAdd_some {a b c : Nat} (h : U256.checkedAdd a b = some c) : c = a + b ∧ c < W := by
  unfold U256.checkedAdd at h
  split at h
  · injection h with h; subst h; exact ⟨rfl, ‹_›⟩
  · cases h

/-- `balance_check`: `l.checked_mul(p)?.checked_add(v)?` and, under `c` (Cancun), `.checked_add(m)?`. The checked
operations succeed together or not at all: the result is the plain sum when that is a `U256`. -/
theorem checkedCost_val (l p v m : Nat) (c : Bool) :
    (match U256.checkedMul l p with
     | none => none
     | some x =>
       match U256.checkedAdd x v with
       | none => none
       | some y => if c then U256.checkedAdd y m else some y) =
      if l * p + v + (if c then m else 0) < W then some (l * p + v + (if c then m else 0)) else none := by
  unfold U256.checkedMul U256.checkedAdd
  generalize l * p = a
  by_cases h1 : a < W
  · by_cases h2 : a + v < W
    · cases c <;> simp only [h1, h2, if_true, Bool.false_eq_true, if_false, Nat.add_zero]
    · simp only [h1, h2, if_true, if_false]; rw [if_neg (by omega)]
  · simp only [h1, if_false]; rw [if_neg (by omega)]

theorem satMul_mono (a b c : Nat) (h : a ≤ b) : U256.saturatingMul a c ≤ U256.saturatingMul b c := by
  have hm : a * c ≤ b * c := Nat.mul_le_mul_right c h
  unfold U256.saturatingMul
  by_cases hb : b * c < W
  · rw [if_pos hb, if_pos (by omega)]; exact hm
  · rw [if_neg hb]
    split <;> omega

end Revm.Proofs.Gas
