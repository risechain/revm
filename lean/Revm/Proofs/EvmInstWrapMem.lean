import Revm.Proofs.EvmFrame
import Revm.Proofs.EvmInstWrapMachine
import Revm.Proofs.MemoryOutcome
import Revm.Proofs.FrameKeptBack
/-! What the handlers of `evmMachine` are not given, the concrete functions do not use; needed by the C28 simulation
(`EvmInstWrapSimRel`, `EvmInstWrapSimExec`) only.

* The abstract `call` / `create` do not see the shared memory: `make_call_frame` / `make_create_frame` use the one they are
  given only to put `new_context` of it into the new interpreter (`Interpreter::new` does not read it), so on another
  memory they answer the same with that field replaced (`makeCallFrame_mem`, `makeCreateFrame_mem`; in the form the
  simulation uses: `makeCallFrame_ok`, `makeCreateFrame_ok`, which live in namespace `EvmInstWrap` and are not the lemmas of
  these names in `EvmLinkFrameStages`).
* The abstract `insertCreateOutcome` has no memory argument: `Interp.insertCreateOutcome` neither reads nor writes the memory
  (`insertCreate_mem`). A `CallOutcome` has no address: `Interp.insertCallOutcome` does not read it (`insertCall_congr`).
* The abstract `run` answers a frame that an insertion stopped with an empty output and tests `instruction_result` against
  `Continue`: an outcome insertion halts only through a failed `push!`, with empty output and a result other than `Continue`
  (`insertBy_halt`). -/
namespace Revm.Proofs.EvmInstWrap
open Revm Revm.Model Revm.Model.Evm
open Revm.Proofs.EvmFrame (callTail callPrecompile makeCallFrameS makeCallFrame_staged createTail makeCreateFrameS
  makeCreateFrame_staged)

variable {κ : Type}

/-! ## frame creation -/

/-- the answer with kind `k` and memory `m` put into its frame: all that another shared memory changes -/
def frFix (k : FrameKind) (m : Memory.SharedMemory) : FrameOrResult κ → FrameOrResult κ
  | .frame f => .frame { f with kind := k, interp := { f.interp with mem := m } }
  | .result r => .result r

/-- `frFix` with kind `Create` at the address the new interpreter runs at -/
def frFixCreate (m : Memory.SharedMemory) : FrameOrResult κ → FrameOrResult κ
  | .frame f => frFix (.create f.interp.target) m (.frame f)
  | .result r => .result r

def fixP (g : FrameOrResult κ → FrameOrResult κ) (p : FrameOrResult κ × World) : FrameOrResult κ × World :=
  (g p.1, p.2)

theorem frFix_frFix (k : FrameKind) (m m' : Memory.SharedMemory) (fr : FrameOrResult κ) :
    frFix k m' (frFix k m fr) = frFix k m' fr := by
  cases fr <;> rfl

theorem frFix_frame_eq {k : FrameKind} {m : Memory.SharedMemory} {nf : Frame κ}
    (h : frFix k m (.frame nf) = .frame nf) : nf.kind = k ∧ nf.interp.mem = m := by
  simp only [frFix, FrameOrResult.frame.injEq] at h
  exact ⟨(congrArg Frame.kind h).symm, (congrArg (fun f : Frame κ => f.interp.mem) h).symm⟩

theorem bind_map_congr {α β γ : Type} {x : R α} {f : α → R β} {f' : α → R γ} {g : β → γ}
    (h : ∀ a, f' a = (f a).map g) : (x >>= f') = (x >>= f).map g := by
  cases x with
  | error e => rfl
  | ok a => exact h a

theorem callTail_mem (C : CpOps κ) (cfg : Cfg) (w : World) (cp : κ) (i : Interp.CallInputs)
    (mem mem' : Memory.SharedMemory) :
    callTail C cfg w cp i mem' = (callTail C cfg w cp i mem).map (fixP (frFix (.call i.retStart i.retEnd) (Memory.newContext mem'))) := by
  unfold callTail
  refine bind_map_congr fun p => ?_
  refine bind_map_congr fun acc => ?_
  refine bind_map_congr fun h => ?_
  refine bind_map_congr fun bytecode => ?_
  split
  · rfl
  · exact bind_map_congr fun q => rfl

theorem callPrecompile_mem (C : CpOps κ) (cfg : Cfg) (w : World) (cp : κ) (i : Interp.CallInputs)
    (mem mem' : Memory.SharedMemory) :
    callPrecompile C cfg w cp i mem' =
      (callPrecompile C cfg w cp i mem).map (fixP (frFix (.call i.retStart i.retEnd) (Memory.newContext mem'))) := by
  unfold callPrecompile
  refine bind_map_congr fun pc => ?_
  split
  · split
    · split
      · rfl
      · exact bind_map_congr fun w1 => rfl
    · exact bind_map_congr fun w1 => rfl
    · rfl
  · exact callTail_mem C cfg w cp i mem mem'

theorem makeCallFrame_mem (C : CpOps κ) (cfg : Cfg) (w : World) (i : Interp.CallInputs)
    (mem mem' : Memory.SharedMemory) :
    makeCallFrame C cfg w i mem' = (makeCallFrame C cfg w i mem).map (fixP (frFix (.call i.retStart i.retEnd) (Memory.newContext mem'))) := by
  rw [makeCallFrame_staged, makeCallFrame_staged]
  unfold makeCallFrameS
  split
  · rfl
  · refine bind_map_congr fun p => ?_
    refine bind_map_congr fun q => ?_
    obtain ⟨w2, failed⟩ := q
    cases failed with
    | some r => exact bind_map_congr fun w3 => rfl
    | none => exact callPrecompile_mem C cfg w2 _ i mem mem'

theorem createTail_mem (C : CpOps κ) (cfg : Cfg) (w : World) (i : Interp.CreateInputs)
    (mem mem' : Memory.SharedMemory) (created : Nat) :
    createTail C cfg w i mem' created =
      (createTail C cfg w i mem created).map (fixP (frFixCreate (Memory.newContext mem'))) := by
  unfold createTail
  split
  · rfl
  · refine bind_map_congr fun p => ?_
    refine bind_map_congr fun q => ?_
    obtain ⟨w2, r⟩ := q
    cases r with
    | error ce => cases ce <;> rfl
    | ok cp => rfl

theorem makeCreateFrame_mem (C : CpOps κ) (cfg : Cfg) (w : World) (i : Interp.CreateInputs)
    (mem mem' : Memory.SharedMemory) :
    makeCreateFrame C cfg w i mem' =
      (makeCreateFrame C cfg w i mem).map (fixP (frFixCreate (Memory.newContext mem'))) := by
  rw [makeCreateFrame_staged, makeCreateFrame_staged]
  unfold makeCreateFrameS
  split
  · rfl
  · refine bind_map_congr fun p => ?_
    refine bind_map_congr fun cacc => ?_
    split
    · rfl
    · refine bind_map_congr fun q => ?_
      obtain ⟨js, nonce⟩ := q
      cases nonce with
      | none => rfl
      | some newNonce => exact createTail_mem C cfg _ i mem mem' _

/-- a completed `make_call_frame` on `mem`: the same on `SharedMemory::new()`, and the shape of a new frame -/
theorem makeCallFrame_ok {C : CpOps κ} {cfg : Cfg} {w w' : World} {i : Interp.CallInputs} {mem : Memory.SharedMemory}
    {fr : FrameOrResult κ} (h : makeCallFrame C cfg w i mem = .ok (fr, w')) :
    makeCallFrame C cfg w i Memory.new = .ok (frFix (.call i.retStart i.retEnd) (Memory.newContext Memory.new) fr, w') ∧
      frFix (.call i.retStart i.retEnd) (Memory.newContext mem) fr = fr := by
  have h1 := makeCallFrame_mem C cfg w i mem Memory.new
  have h2 := makeCallFrame_mem C cfg w i mem mem
  rw [h] at h1 h2
  exact ⟨h1, (congrArg Prod.fst (Except.ok.inj h2)).symm⟩

theorem makeCreateFrame_ok {C : CpOps κ} {cfg : Cfg} {w w' : World} {i : Interp.CreateInputs}
    {mem : Memory.SharedMemory} {fr : FrameOrResult κ} (h : makeCreateFrame C cfg w i mem = .ok (fr, w')) :
    makeCreateFrame C cfg w i Memory.new = .ok (frFixCreate (Memory.newContext Memory.new) fr, w') ∧
      frFixCreate (Memory.newContext mem) fr = fr := by
  have h1 := makeCreateFrame_mem C cfg w i mem Memory.new
  have h2 := makeCreateFrame_mem C cfg w i mem mem
  rw [h] at h1 h2
  exact ⟨h1, (congrArg Prod.fst (Except.ok.inj h2)).symm⟩

open Revm.Model.Interp (M Exec IState IResult)

/-! ## outcome insertion -/

/-- a computation of the handler monad whose every halt satisfies `P result output` -/
inductive HaltP (P : IResult → List Nat → Prop) {α : Type} : Exec α → Prop
  | ok (a : α) (s : IState) : HaltP P (.ok a s)
  | halt {r : IResult} {o : List Nat} (h : P r o) (s : IState) : HaltP P (.halt r o s)
  | fault (f : Interp.Fault) : HaltP P (.fault f)

variable {P : IResult → List Nat → Prop} {α β : Type}

theorem haltP_pure (a : α) (s : IState) : HaltP P ((pure a : M α) s) := .ok a s
theorem haltP_haltWith (r : IResult) (s : IState) (h : P r []) : HaltP P ((Interp.haltWith r : M α) s) := .halt h s

/-- an outcome insertion halts only through a failed `push!`: empty output, a result `SuccessOrHalt` classifies, in
particular not `Continue` -/
theorem insertBy_halt {kind : FrameKind} {o : Interp.ChildResult} {s0 s : IState} {r : IResult} {out : List Nat}
    (h : insertBy kind o s0 = .halt r out s) : out = [] ∧ r ≠ .Continue :=
  have hh := (EvmLink.insertBy_all kind o s0).halt_inv h
  ⟨hh.2, hh.1.1⟩

/-- the same result on the memory `X`: how `insertCreate_mem` says that `insert_create_outcome` ignores the memory -/
def withMem (X : Memory.SharedMemory) : Exec Unit → Exec Unit
  | .ok u s => .ok u { s with mem := X }
  | .halt r o s => .halt r o { s with mem := X }
  | .fault f => .fault f

theorem withMem_ok {X : Memory.SharedMemory} {x : Exec Unit} {u : Unit} {s : IState} (h : withMem X x = .ok u s) :
    ∃ s', x = .ok u s' ∧ s = { s' with mem := X } := by
  cases x with
  | ok u' s' => cases h; exact ⟨s', rfl, rfl⟩
  | halt r o s' => cases h
  | fault f => cases h

theorem withMem_halt {X : Memory.SharedMemory} {x : Exec Unit} {r : IResult} {o : List Nat} {s : IState}
    (h : withMem X x = .halt r o s) : ∃ s', x = .halt r o s' ∧ s = { s' with mem := X } := by
  cases x with
  | ok u' s' => cases h
  | halt r' o' s' => cases h; exact ⟨s', rfl, rfl⟩
  | fault f => cases h

theorem insertCreate_mem (o : Interp.ChildResult) (s0 : IState) (X : Memory.SharedMemory) :
    Interp.insertCreateOutcome o { s0 with mem := X } = withMem X (Interp.insertCreateOutcome o s0) := by
  rw [Proofs.MemoryOutcome.insertCreateOutcome_eq, Proofs.MemoryOutcome.insertCreateOutcome_eq]
  split
  · rfl
  · rw [Proofs.MemoryOutcome.pushThen_eq, Proofs.MemoryOutcome.pushThen_eq]
    by_cases hl : s0.stack.length = Stack.STACK_LIMIT
    · rw [if_pos hl, if_pos hl]; rfl
    · rw [if_neg hl, if_neg hl]; rfl

/-- `insert_call_outcome` does not read the address of the outcome -/
theorem insertCall_congr (rs re : Nat) {o o' : Interp.ChildResult} (h1 : o'.result = o.result)
    (h2 : o'.output = o.output) (h3 : o'.gasRemaining = o.gasRemaining) (h4 : o'.gasRefunded = o.gasRefunded) :
    Interp.insertCallOutcome rs re o' = Interp.insertCallOutcome rs re o := by
  obtain ⟨r, out, g, rf, a⟩ := o
  obtain ⟨r', out', g', rf', a'⟩ := o'
  simp only at h1 h2 h3 h4
  subst h1; subst h2; subst h3; subst h4
  rfl

theorem insertCall_childOf (rs re l : Nat) (res : Interp.ChildResult) (a : Option Nat) :
    Interp.insertCallOutcome rs re (childOf (resOfChild l res) a) = Interp.insertCallOutcome rs re res :=
  insertCall_congr rs re (ofIR_toIR _) rfl rfl rfl

end Revm.Proofs.EvmInstWrap
