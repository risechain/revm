import Revm.Proofs.EofValidate
/-! The access tracker across `validate_eof_code`, as two preorders that its three operations respect
(`Tracker.Steps`): entries of `tracker.subcontainers` once set and `this_container_code_type` never change (`Sticky`),
and it only pushes, whatever it newly marks as accessed included (`Ext`). `Sticky` also holds across the `pop` of
`validate_eof_codes`, `Ext` does not. -/
namespace Revm.Proofs.EofValidate
open Revm.Model.Eof Revm.Model.EofValidate Revm.Spec.Eof Revm.Proofs.Eof


structure Sticky (a b : Tracker) : Prop where
  subs : ∀ (k : Nat) (ct : CodeType), a.subs[k]? = some (some ct) → b.subs[k]? = some (some ct)
  thisType : ∀ (ct : CodeType), a.thisType = some ct → b.thisType = some ct

theorem Sticky.refl (a : Tracker) : Sticky a a := ⟨fun _ _ h => h, fun _ h => h⟩

theorem Sticky.trans {a b c : Tracker} (h1 : Sticky a b) (h2 : Sticky b c) : Sticky a c :=
  ⟨fun k ct h => h2.subs k ct (h1.subs k ct h), fun ct h => h2.thisType ct (h1.thisType ct h)⟩

theorem accessCode_sticky {tr tr' : Tracker} {k : Nat} (h : tr.accessCode k = .ok tr') : Sticky tr tr' := by
  unfold Tracker.accessCode at h
  split at h
  · cases h
  rename_i was _
  simp only [R.ok.injEq] at h
  subst h
  cases was <;> exact ⟨fun _ _ h => h, fun _ h => h⟩

theorem setSub_sticky {tr tr' : Tracker} {k : Nat} {t : CodeType}
    (h : tr.setSubcontainerType k t = .ok tr') :
    Sticky tr tr' ∧ tr'.subs[k]? = some (some t) := by
  unfold Tracker.setSubcontainerType at h
  split at h
  · cases h
  · rename_i hnone
    simp only [R.ok.injEq] at h; subst h
    have hk : k < tr.subs.size := lt_of_getElem? hnone
    refine ⟨⟨fun j ct hj => ?_, fun _ h => h⟩, ?_⟩
    · show (tr.subs.setIfInBounds k (some t))[j]? = _
      rw [Array.getElem?_setIfInBounds]
      by_cases hkj : k = j
      · subst hkj; rw [hnone] at hj; cases hj
      · rw [if_neg hkj]; exact hj
    · show (tr.subs.setIfInBounds k (some t))[k]? = _
      rw [Array.getElem?_setIfInBounds, if_pos rfl, if_pos hk]
  · rename_i ct hsome
    split at h
    · cases h
    · rename_i hct
      simp only [R.ok.injEq] at h; subst h
      have : ct = t := by
        cases hdec : decide (ct = t) with
        | true => exact of_decide_eq_true hdec
        | false => exact absurd (of_decide_eq_false hdec) hct
      subst this
      exact ⟨Sticky.refl _, hsome⟩

theorem requireType_sticky {tr tr' : Tracker} {t : CodeType}
    (h : tr.requireType t = .ok tr') : Sticky tr tr' := by
  unfold Tracker.requireType at h
  split at h
  · rename_i hn
    simp only [R.ok.injEq] at h; subst h
    exact ⟨fun _ _ h => h, fun ct hct => by rw [hn] at hct; cases hct⟩
  · split at h
    · cases h
    · simp only [R.ok.injEq] at h; subst h; exact Sticky.refl _

theorem Sticky.of_steps {a b : Tracker} (h : Tracker.Steps a b) : Sticky a b := by
  induction h with
  | refl => exact Sticky.refl _
  | access h _ ih => exact (accessCode_sticky h).trans ih
  | setSub h _ ih => exact (setSub_sticky h).1.trans ih
  | require h _ ih => exact (requireType_sticky h).trans ih

structure Ext (a b : Tracker) : Prop where
  stack : ∀ k, k ∈ a.stack → k ∈ b.stack
  codes : ∀ k, b.codes[k]? = some true → a.codes[k]? = some true ∨ k ∈ b.stack
  size : b.codes.size = a.codes.size
  subs : b.subs.size = a.subs.size

theorem Ext.refl (a : Tracker) : Ext a a := ⟨fun _ h => h, fun _ h => Or.inl h, rfl, rfl⟩

theorem Ext.trans {a b c : Tracker} (h1 : Ext a b) (h2 : Ext b c) : Ext a c :=
  ⟨fun k h => h2.stack k (h1.stack k h),
   fun k h => by
     rcases h2.codes k h with h | h
     · rcases h1.codes k h with h | h
       · exact Or.inl h
       · exact Or.inr (h2.stack k h)
     · exact Or.inr h,
   by rw [h2.size, h1.size], by rw [h2.subs, h1.subs]⟩

theorem accessCode_ext {tr tr' : Tracker} {k : Nat} (h : tr.accessCode k = .ok tr') : Ext tr tr' := by
  unfold Tracker.accessCode at h
  split at h
  · cases h
  rename_i was hwas
  simp only [R.ok.injEq] at h
  subst h
  cases was
  · refine ⟨fun j hj => ?_, fun j hj => ?_, ?_, rfl⟩
    · simp only [Bool.not_false, if_true]; exact List.mem_cons_of_mem _ hj
    · simp only [Bool.not_false, if_true] at hj ⊢
      rw [Array.getElem?_setIfInBounds] at hj
      by_cases hkj : k = j
      · subst hkj; exact Or.inr (List.mem_cons_self ..)
      · rw [if_neg hkj] at hj; exact Or.inl hj
    · simp only [Bool.not_false, if_true, Array.size_setIfInBounds]
  · refine ⟨fun j hj => ?_, fun j hj => ?_, ?_, rfl⟩
    · simpa using hj
    · simp only [Bool.not_true, Bool.false_eq_true, if_false] at hj ⊢
      rw [Array.getElem?_setIfInBounds] at hj
      by_cases hkj : k = j
      · subst hkj; exact Or.inl hwas
      · rw [if_neg hkj] at hj; exact Or.inl hj
    · simp only [Bool.not_true, Bool.false_eq_true, if_false, Array.size_setIfInBounds]

theorem setSub_ext {tr tr' : Tracker} {k : Nat} {t : CodeType}
    (h : tr.setSubcontainerType k t = .ok tr') : Ext tr tr' := by
  unfold Tracker.setSubcontainerType at h
  split at h
  · cases h
  · simp only [R.ok.injEq] at h; subst h
    exact ⟨fun _ h => h, fun _ h => Or.inl h, rfl, by simp only [Array.size_setIfInBounds]⟩
  · split at h
    · cases h
    · simp only [R.ok.injEq] at h; subst h; exact Ext.refl _

theorem requireType_ext {tr tr' : Tracker} {t : CodeType}
    (h : tr.requireType t = .ok tr') : Ext tr tr' := by
  unfold Tracker.requireType at h
  split at h
  · simp only [R.ok.injEq] at h; subst h; exact ⟨fun _ h => h, fun _ h => Or.inl h, rfl, rfl⟩
  · split at h
    · cases h
    · simp only [R.ok.injEq] at h; subst h; exact Ext.refl _

theorem Ext.of_steps {a b : Tracker} (h : Tracker.Steps a b) : Ext a b := by
  induction h with
  | refl => exact Ext.refl _
  | access h _ ih => exact (accessCode_ext h).trans ih
  | setSub h _ ih => exact (setSub_ext h).trans ih
  | require h _ ih => exact (requireType_ext h).trans ih

end Revm.Proofs.EofValidate
