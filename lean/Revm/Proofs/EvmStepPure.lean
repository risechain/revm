import Revm.Proofs.EvmStep2Run
/-! `Interp.step` is the rule of `Spec/EvmRules.lean` (the `step_…_agrees` theorems of `Props/C01.lean`) for the word operations
by shape, the `check!; gas!; push!` reads, POP, PUSH0, PUSHn, DUPn, SWAPn, JUMP, JUMPI, JUMPDEST and the two host reads SLOAD,
TLOAD: each by running its handler with the `…_run` lemmas of `EvmStep2Run` (hence the import), under `WF` alone. -/
namespace Revm.Proofs.EvmStep
open Revm Revm.Model Revm.Model.Interp
open Revm.Model.GasCalc (enabled)
open Revm.Spec.EvmRules
open Revm.Proofs.EvmStep2

/-- a word operation agrees with its rule for any function `f'` that agrees with the handler's `f` on words: the rules of
`Spec/EvmRules.lean` are stated with the `Spec.Arith` meaning -/
theorem step_binop (s : IState) (op : Nat) (g : Tier) (fork : Nat) (f : Nat → Nat → Nat) {f' : Nat → Nat → Nat}
    (hcode : s.code[s.pc]? = some op) (hdec : decode op = .binop g fork f) (hwf : WF s)
    (hf : ∀ a b, a < W → b < W → f a b = f' a b) : step s = .pure (binopRule g.cost fork f' s) :=
  step_pure hcode (by rw [hdec]; rfl) <| by
    unfold binopI binopRule
    exact check_run <| gas_run hwf.inv fun h1 => popTop2_run h1 fun a b rest _ ha hb _ => by
      dsimp only; rw [setTop_cons _ _ b rest rfl, hf a b ha hb]; rfl

theorem step_unop (s : IState) (op : Nat) (g : Tier) (f : Nat → Nat) {f' : Nat → Nat} (hcode : s.code[s.pc]? = some op)
    (hdec : decode op = .unop g f) (hwf : WF s) (hf : ∀ a, f a = f' a) : step s = .pure (unopRule g.cost f' s) :=
  step_pure hcode (by rw [hdec]; rfl) (unop_run g.cost f' _ s hwf.inv fun a => by rw [← hf a])

theorem step_terop (s : IState) (op : Nat) (g : Tier) (f : Nat → Nat → Nat → Nat) {f' : Nat → Nat → Nat → Nat}
    (hcode : s.code[s.pc]? = some op) (hdec : decode op = .terop g f) (hwf : WF s)
    (hf : ∀ a b c, f a b c = f' a b c) : step s = .pure (teropRule g.cost f' s) :=
  step_pure hcode (by rw [hdec]; rfl) <| by
    unfold teropI teropRule
    exact gas_run hwf.inv fun h1 => popTop3_run h1 fun a b c rest _ _ _ _ _ => by
      dsimp only; rw [setTop_cons _ _ c rest rfl, hf a b c]; rfl

theorem step_pushVal (s : IState) (op : Nat) (g : Tier) (fork : Nat) (v : IState → Nat)
    (hcode : s.code[s.pc]? = some op) (hdec : decode op = .pushVal g fork v) (hwf : WF s) :
    step s = .pure (pushValRule g.cost fork v s) :=
  step_pure hcode (by rw [hdec]; rfl) <| by
    unfold pushValI pushValRule
    exact check_run <| gas_run hwf.inv fun _ => getS_run <| push_toDone _ _

theorem step_difficulty (s : IState) (hcode : s.code[s.pc]? = some 0x44) (hwf : WF s) :
    step s = .pure (difficultyRule s) :=
  step_pure hcode rfl <| by
    unfold difficultyI difficultyRule
    refine gas_run hwf.inv fun _ => getS_run ?_
    show ((if enabled s.spec GasCalc.SpecId.MERGE = true then
        (match s.env.prevrandao with
         | some w => push w
         | none => faultWith .panic) else push s.env.difficulty : M Unit) (charge (adv s) GasCalc.BASE)).toDone = _
    cases enabled s.spec GasCalc.SpecId.MERGE
    · exact push_toDone _ _
    · rw [if_pos rfl, if_pos rfl]
      cases s.env.prevrandao with
      | none => rfl
      | some w => exact push_toDone _ _

theorem step_pop (s : IState) (hcode : s.code[s.pc]? = some 0x50) (hwf : WF s) : step s = .pure (popRule s) :=
  step_pure hcode rfl <| by
    unfold popI popRule
    refine gas_run hwf.inv fun _ => ?_
    rw [stackCall_eq, charge_stack, adv_stack]
    rcases hrev : s.stack.reverse with _ | ⟨a, rest⟩
    · have : s.stack = [] := List.reverse_eq_nil_iff.mp hrev
      simp [this, Stack.pop, Exec.toDone, stackErr, resVoid]
    · have hs : s.stack = rest.reverse ++ [a] := stack_of_reverse (pre := [a]) hrev
      simp [hs, Stack.pop, Exec.toDone, resVoid]

theorem step_jumpdest (s : IState) (hcode : s.code[s.pc]? = some 0x5b) (hwf : WF s) :
    step s = .pure (jumpdestRule s) :=
  step_pure hcode rfl <| by
    unfold jumpdestRule
    rw [gasCharge_eq (adv s) _ hwf.gas, apply_ite Exec.toDone]
    rfl

theorem step_dup (s : IState) (op : Nat) (n : Fin 16) (hcode : s.code[s.pc]? = some op)
    (hdec : decode op = .dup n) (hwf : WF s) : step s = .pure (dupRule (n.val + 1) s) :=
  step_pure hcode (by rw [hdec]; rfl) <| by
    unfold dupI dupRule
    refine gas_run hwf.inv fun _ => ?_
    rw [stackCall_eq, charge_stack, adv_stack, Proofs.Stack.dup_eq _ _ (by omega : 0 < n.val + 1)]
    cases s.stack.reverse[n.val + 1 - 1]? with
    | none => rfl
    | some v =>
      by_cases hl : s.stack.length < 1024
      · simp only [hl, if_true]; rfl
      · simp only [hl, if_false]; rfl

theorem step_swap (s : IState) (op : Nat) (n : Fin 16) (hcode : s.code[s.pc]? = some op)
    (hdec : decode op = .swap n) (hwf : WF s) : step s = .pure (swapRule (n.val + 1) s) :=
  step_pure hcode (by rw [hdec]; rfl) <| by
    have hlt : n.val + 1 < U64 := by
      have := n.isLt; rw [U64_val]; omega
    unfold swapI swapRule
    refine gas_run hwf.inv fun _ => ?_
    rw [stackCall_eq, charge_stack, adv_stack]
    show (match Stack.exchange s.stack 0 (n.val + 1) with
      | (d, .ok _) => Exec.ok () { charge (adv s) GasCalc.VERYLOW with stack := d }
      | (_, .err e) => .halt (stackErr e) [] (charge (adv s) GasCalc.VERYLOW)
      | (_, _) => .fault .oobStack).toDone = _
    rw [Proofs.Stack.exchange_eq _ 0 _ (by omega : 0 < n.val + 1) (by omega), Nat.zero_add]
    cases s.stack.reverse[0]? with
    | none => rfl
    | some a =>
      cases s.stack.reverse[n.val + 1]? with
      | none => rfl
      | some b => rfl

theorem step_push0 (s : IState) (hcode : s.code[s.pc]? = some 0x5f) (hwf : WF s) : step s = .pure (push0Rule s) :=
  step_pure hcode rfl <| by
    unfold push0I push0Rule
    exact check_run <| gas_run hwf.inv fun _ => push_toDone 0 _

theorem codeSlice_run {β γ : Type} {E : Exec β → γ} {s : IState} {d : γ} {n : Nat} {f : List Nat → M β}
    (hk : s.pc + n ≤ s.code.length → E (f ((s.code.drop s.pc).take n) s) = d) :
    E ((codeSlice n >>= f) s) = if s.pc + n ≤ s.code.length then d else E (.fault .oobCode) := by
  show E (M.bind (codeSlice n) f s) = _
  unfold M.bind codeSlice
  by_cases h : s.pc + n ≤ s.code.length
  · rw [if_pos h, if_pos h]; exact hk h
  · rw [if_neg h, if_neg h]

theorem step_push (s : IState) (op : Nat) (n : Fin 32) (hcode : s.code[s.pc]? = some op)
    (hdec : decode op = .push n) (hwf : WF s) : step s = .pure (pushRule (n.val + 1) s) :=
  step_pure hcode (by rw [hdec]; rfl) <| by
    unfold pushI pushRule
    refine gas_run hwf.inv fun _ => codeSlice_run fun hc => ?_
    have hc : s.pc + 1 + (n.val + 1) ≤ s.code.length := hc
    have hlen : ((s.code.drop (s.pc + 1)).take (n.val + 1)).length = n.val + 1 := by
      rw [List.length_take, List.length_drop]; omega
    have hne : (s.code.drop (s.pc + 1)).take (n.val + 1) ≠ [] := by
      intro h; rw [h] at hlen; cases hlen
    show (M.bind (stackCall fun d => Stack.pushSlice d ((s.code.drop (s.pc + 1)).take (n.val + 1)))
      (fun _ => advancePc (n.val + 1)) (charge (adv s) GasCalc.VERYLOW)).toDone = _
    unfold M.bind
    rw [stackCall_eq, charge_stack, adv_stack,
      pushSlice_word _ _ hwf.depth hne (by have := n.isLt; omega)]
    unfold Stack.push Stack.STACK_LIMIT
    by_cases hl : s.stack.length = 1024
    · rw [if_pos hl, if_pos hl]; rfl
    · rw [if_neg hl, if_neg hl]; rfl

theorem jumpInner_eq (s2 : IState) (t : Nat) : (jumpInner t s2).toDone = jumpTo s2 t := by
  unfold jumpInner jumpTo asUsizeOrFail
  cases hx : Jump.asUsizeOrFail t with
  | none => exact halt_run (E := Exec.toDone) rfl
  | some x =>
    refine ok_run (E := Exec.toDone) (a := x) rfl (getS_run ?_)
    by_cases hv : Jump.isValid s2.jumpTable x
    · simp [hv, modifyS, Exec.toDone]
    · simp [hv, haltWith, Exec.toDone]

theorem step_jump (s : IState) (hcode : s.code[s.pc]? = some 0x56) (hwf : WF s) : step s = .pure (jumpRule s) :=
  step_pure hcode rfl <| by
    unfold jumpI jumpRule
    exact gas_run hwf.inv fun h1 => pop1_run h1 fun t rest _ _ _ => jumpInner_eq _ t

theorem step_jumpi (s : IState) (hcode : s.code[s.pc]? = some 0x57) (hwf : WF s) : step s = .pure (jumpiRule s) :=
  step_pure hcode rfl <| by
    unfold jumpiI jumpiRule
    exact gas_run hwf.inv fun h1 => pop2_run h1 fun t c rest _ _ _ _ =>
      ite_run (fun _ => jumpInner_eq _ t) fun _ => rfl

theorem step_sload (s : IState) (hcode : s.code[s.pc]? = some 0x54) (hwf : WF s) : step s = sloadRule s := by
  rw [step_eq s _ hcode]
  unfold sloadRule
  show hostRun _ (_ : Exec _) = _
  exact popTop1_run hwf.inv fun key rest hrev _ => getS_run <| host_run fun r => by
    unfold sloadAfter
    exact requireSome_run <| getS_run <| gas_run hwf.inv fun _ => by
      rw [setTop_cons _ (charge (adv s) _) key rest (List.reverse_eq_iff.mp hrev)]; rfl

theorem step_tload (s : IState) (hcode : s.code[s.pc]? = some 0x5c) (hwf : WF s) : step s = tloadRule s := by
  rw [step_eq s _ hcode]
  unfold tloadRule
  show hostRun _ (_ : Exec _) = _
  exact check_run <| gas_run hwf.inv fun h1 => popTop1_run h1 fun key rest hrev _ => getS_run <| host_run fun r => by
    rw [setTop_cons _ (charge (adv s) GasCalc.WARM_STORAGE_READ_COST) key rest (List.reverse_eq_iff.mp hrev)]; rfl

end Revm.Proofs.EvmStep
