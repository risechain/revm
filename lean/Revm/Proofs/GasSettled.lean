import Revm.Proofs.Gas
/-! The settlement of a transaction's gas on plain numbers: `settle` is `last_frame_return` then `refund`, `floor` the
EIP-7623 block; the result is `Closed`, and on a closed meter no wrapping `u64` read of the handlers wraps. Mainnet's
final gas is `floor (settle …)` by an equation (`TxGas.finalGas_eq`). On the Optimism side `refundStep_settle`
(`OpFeesGas`) gives `settle` except for Bedrock deposits, and `floorStep` meets `floor` only by unfolding. -/
namespace Revm.Proofs.Gas
open Revm Revm.Model.Gas

theorem capped_sum {L rem q : Nat} {r : Int} (hc : r ≤ (((L - rem) / q : Nat) : Int)) (hr : rem ≤ L) :
    r.toNat + rem ≤ L := by
  have hd : (L - rem) / q ≤ L - rem := Nat.div_le_self _ _
  generalize (L - rem) / q = d at hc hd
  omega

/-- the `Gas` of a finished transaction, as `reimburse_caller` / `reward_beneficiary` / `output` read it: the capped
refund plus the gas left is within the `u64` limit, so `spent()`, `refunded() as u64` and their difference are exact -/
structure Closed (g : Gas) : Prop where
  lim : g.limit < U64
  ref0 : 0 ≤ g.refunded
  sum : g.refunded.toNat + g.remaining ≤ g.limit

/-- `gas.spent() - gas.refunded() as u64` as every handler computes it -/
def used (g : Gas) : Nat := U64ops.wsub (spent g) (i64AsU64 g.refunded)

namespace Closed
variable {g : Gas} (c : Closed g)
include c

theorem refU64 : i64AsU64 g.refunded = g.refunded.toNat := by
  have := c.lim; have := c.sum
  unfold i64AsU64
  rw [Int.emod_eq_of_lt c.ref0 (by omega)]

theorem spent_eq : spent g = g.limit - g.remaining := by
  have := c.sum
  exact wsub_of_le _ _ c.lim (by omega)

theorem used_eq : used g = g.limit - g.remaining - g.refunded.toNat := by
  have := c.lim; have := c.sum
  unfold used
  rw [c.spent_eq, c.refU64]
  exact wsub_of_le _ _ (by omega) (by omega)

theorem back : U64ops.wadd g.remaining (i64AsU64 g.refunded) = g.remaining + g.refunded.toNat := by
  have := c.lim; have := c.sum
  rw [c.refU64]; exact wadd_of_lt _ _ (by omega)

theorem ssr : spentSubRefunded g = g.limit - g.remaining - g.refunded.toNat := by
  unfold spentSubRefunded U64ops.saturatingSub
  rw [c.spent_eq, c.refU64]

theorem split : g.limit = used g + (g.remaining + g.refunded.toNat) := by
  have := c.sum
  rw [c.used_eq]; omega

theorem fee_split (p : Nat) : p * g.limit = p * used g + p * (g.remaining + g.refunded.toNat) := by
  rw [← Nat.mul_add, ← c.split]

end Closed

theorem toNat_min (m d : Nat) : (min (m : Int) (d : Int)).toNat = min m d := by
  rw [Int.min_def, Nat.min_def]; simp only [Int.ofNat_le]; split <;> exact Int.toNat_natCast _

/-- `last_frame_return` (gas `rem` handed back, counter `kept` recorded) and `refund` (a further `extra`, then
the cap) on a spent meter of limit `L` -/
def settle (L rem : Nat) (kept extra : Int) (london : Bool) : Gas :=
  setFinalRefund (recordRefund (recordRefund (eraseCost (newSpent L) rem) kept) extra) london

/-- the EIP-7623 block of `transact_preverified_inner` -/
def floor (g : Gas) (fl : Nat) : Gas :=
  if spentSubRefunded g < fl then setRefund (setSpent g fl) 0 else g

section
variable {L rem : Nat} (kept extra : Int) (london : Bool) (hL : L < U64) (hr : rem ≤ L)
include hL hr

theorem settle_remaining : (settle L rem kept extra london).remaining = rem := by
  show U64ops.wadd 0 rem = rem
  rw [wadd_of_lt 0 _ (by omega)]; omega

theorem settle_spent : spent (recordRefund (recordRefund (eraseCost (newSpent L) rem) kept) extra) = L - rem := by
  show U64ops.wsub L (U64ops.wadd 0 rem) = _
  rw [wadd_of_lt 0 _ (by omega), Nat.zero_add]; exact wsub_of_le _ _ hL hr

/-- whatever the counters (any integers): the capped refund is non-negative and at most `spent / q` -/
theorem settle_closed :
    Closed (settle L rem kept extra london) ∧
    (settle L rem kept extra london).refunded ≤ (((L - rem) / (if london then 5 else 2) : Nat) : Int) := by
  have hb := setFinalRefund_bounds (recordRefund (recordRefund (eraseCost (newSpent L) rem) kept) extra) london
  rw [settle_spent kept extra hL hr] at hb
  have hrem := settle_remaining kept extra london hL hr
  refine ⟨⟨hL, hb.1, ?_⟩, hb.2⟩
  rw [hrem]; exact capped_sum hb.2 hr

/-- the capped refund when no `i64` addition wraps; a NEGATIVE total is cast `as u64` to a huge number and
loses the `min`: the refund is then the full cap -/
theorem settle_refunded (k0 : I64MIN ≤ kept) (k1 : kept ≤ I64MAX) (h0 : I64MIN ≤ kept + extra)
    (h1 : kept + extra ≤ I64MAX) :
    (settle L rem kept extra london).refunded =
      if 0 ≤ kept + extra then min (kept + extra) (((L - rem) / (if london then 5 else 2) : Nat) : Int)
      else (((L - rem) / (if london then 5 else 2) : Nat) : Int) := by
  have hrr : (recordRefund (recordRefund (eraseCost (newSpent L) rem) kept) extra).refunded = kept + extra := by
    show i64WrapAdd (i64WrapAdd 0 kept) extra = _
    rw [i64WrapAdd_exact 0 kept (by omega) (by omega), Int.zero_add, i64WrapAdd_exact _ _ h0 h1]
  have hs := settle_spent kept extra hL hr
  unfold settle
  split
  · rw [setFinalRefund_nonneg _ _ (by rw [hrr]; assumption) (by rw [hrr]; exact h1), hrr, hs]
  · rw [setFinalRefund_neg _ _ (by rw [hrr]; omega) (by rw [hrr]; omega), hs]

end

theorem Closed.floor_eq {g : Gas} (c : Closed g) (fl : Nat) :
    floor g fl = if used g < fl then { limit := g.limit, remaining := g.limit - fl, refunded := 0 } else g := by
  unfold floor; rw [c.ssr, c.used_eq]; rfl

theorem Closed.floor {g : Gas} (c : Closed g) (fl : Nat) :
    Closed (floor g fl) ∧ (floor g fl).limit = g.limit ∧ (fl ≤ g.limit → used (floor g fl) = max (used g) fl) := by
  rw [c.floor_eq]
  by_cases h : used g < fl
  · have cf : Closed { limit := g.limit, remaining := g.limit - fl, refunded := 0 } :=
      ⟨c.lim, Int.le_refl 0, by show (0 : Int).toNat + (g.limit - fl) ≤ g.limit; omega⟩
    rw [if_pos h]
    refine ⟨cf, rfl, fun hfl => ?_⟩
    rw [cf.used_eq]
    show g.limit - (g.limit - fl) - (0 : Int).toNat = _
    rw [Int.toNat_zero, Nat.sub_zero, Nat.sub_sub_self hfl, Nat.max_eq_right (Nat.le_of_lt h)]
  · rw [if_neg h]
    exact ⟨c, rfl, fun _ => (Nat.max_eq_left (Nat.le_of_not_lt h)).symm⟩

end Revm.Proofs.Gas
