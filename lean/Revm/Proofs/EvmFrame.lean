import Revm.Model.Evm
import Revm.Proofs.EvmLoop
/-! `make_call_frame`, `make_create_frame` and `create_return` of the frame machine (`Model/EvmFrame.lean`) cut into the
stages proofs follow: each is the model function itself (`_staged` by `rfl`, `createReturn_eq`), for every subroutine
discipline `C : CpOps κ`. Then `prepare` as `makeFrame` of the transaction's own frame request (`firstAction`,
`prepare_eq`, `prepare_ok`), and the access-list loop of `load_accounts` under a name (`loadAccessList`). Namespaces:
`callTail` is declared in `Revm.Proofs.EvmLink` and exported into `Revm.Proofs.EvmFrame`, `loadAccessList` is in
`Revm.Proofs.EvmInstLife`. -/
namespace Revm.Proofs.EvmLink
open Revm Revm.Model Revm.Model.Evm

/-- `make_call_frame` from `load_code` on -/
def callTail {κ : Type} (C : CpOps κ) (cfg : Cfg) (w : World) (cp : κ) (i : Interp.CallInputs)
    (mem : Memory.SharedMemory) : R (FrameOrResult κ × World) := do
  let (w, _) ← w.loadCode i.bytecodeAddress
  let acc ← w.acct i.bytecodeAddress
  let h ← ofOpt "code not cached" acc.info.code
  let bytecode ← ofOpt "code_by_hash" (w.codeOf h)
  if bytecode.isEmpty then
    return (.result (earlyResult .Stop i.gasLimit), C.commit w)
  let (w, bytecode) ← (match delegateOf bytecode with
    | some d => do
      let (w, _) ← w.loadCode d
      let dacc ← w.acct d
      let dh ← ofOpt "code not cached" dacc.info.code
      let dcode ← ofOpt "code_by_hash" (w.codeOf dh)
      pure (w, dcode)
    | none => pure (w, bytecode) : R (World × List Nat))
  let interp := Interp.IState.init bytecode i.input i.gasLimit i.isStatic cfg.spec i.targetAddress i.caller i.value
    cfg.env (Memory.newContext mem)
  pure (.frame { kind := .call i.retStart i.retEnd, checkpoint := cp, interp := interp }, w)

end Revm.Proofs.EvmLink

namespace Revm.Proofs.EvmFrame
open Revm Revm.Model Revm.Model.Evm
open Revm.Model.GasCalc (enabled)
open Revm.Proofs.Evm (bind_ok)
export Revm.Proofs.EvmLink (callTail)

/-- the value part of `make_call_frame`, run inside the fresh checkpoint -/
def callValueStep (w : World) (i : Interp.CallInputs) : R (World × Option Interp.IResult) :=
  if i.valueTransfer then
    if i.value = 0 then do
      let (w, _) ← w.loadAccount i.targetAddress
      let w ← w.touch i.targetAddress
      pure (w, none)
    else do
      let (w, e) ← w.transfer i.caller i.targetAddress i.value
      match e with
      | none => pure (w, none)
      | some .outOfFunds => pure (w, some .OutOfFunds)
      | some .overflowPayment => pure (w, some .OverflowPayment)
  else pure (w, none)

def callPrecompile {κ : Type} (C : CpOps κ) (cfg : Cfg) (w : World) (cp : κ) (i : Interp.CallInputs)
    (mem : Memory.SharedMemory) : R (FrameOrResult κ × World) := do
  if let some res ← runPrecompile w cfg.spec i.bytecodeAddress i.input i.gasLimit then
    match res with
    | .ok gasUsed out =>
      if gasUsed ≤ i.gasLimit then
        return (.result { result := .Return, output := out, gasRemaining := i.gasLimit - gasUsed, gasRefunded := 0 },
                C.commit w)
      else
        let w ← C.revert w cp
        return (.result (earlyResult .PrecompileOOG i.gasLimit), w)
    | .err e =>
      let w ← C.revert w cp
      return (.result (earlyResult (if e = .OutOfGas then .PrecompileOOG else .PrecompileError) i.gasLimit), w)
    | .panic => throw (.panic "precompile")
  callTail C cfg w cp i mem

/-- `make_call_frame` as the composition of its stages (`makeCallFrame_staged`: equal to the model function by `rfl`) -/
def makeCallFrameS {κ : Type} (C : CpOps κ) (cfg : Cfg) (w : World) (i : Interp.CallInputs)
    (mem : Memory.SharedMemory) : R (FrameOrResult κ × World) := do
  if w.js.depth > CALL_STACK_LIMIT then return (.result (earlyResult .CallTooDeep i.gasLimit), w)
  let (w, _) ← w.loadAccountDelegated i.bytecodeAddress
  let (w, cp) := C.checkpoint w
  let (w, failed) ← callValueStep w i
  if let some r := failed then
    let w ← C.revert w cp
    return (.result (earlyResult r i.gasLimit), w)
  callPrecompile C cfg w cp i mem

theorem makeCallFrame_staged {κ : Type} (C : CpOps κ) (cfg : Cfg) (w : World) (i : Interp.CallInputs)
    (mem : Memory.SharedMemory) : makeCallFrame C cfg w i mem = makeCallFrameS C cfg w i mem := by
  unfold makeCallFrame makeCallFrameS callPrecompile callTail callValueStep
  rfl

/-- `make_create_frame` from the precompile-address check on -/
def createTail {κ : Type} (C : CpOps κ) (cfg : Cfg) (w : World) (i : Interp.CreateInputs)
    (mem : Memory.SharedMemory) (created : Nat) : R (FrameOrResult κ × World) := do
  if isPrecompile cfg.spec created then return (.result (earlyResult .CreateCollision i.gasLimit), w)
  let (w, _) ← w.loadAccount created
  let hasStorage := w.hasStorage created
  let (w, r) ← C.createCheckpoint w i.caller created hasStorage i.value cfg.spec
  match r with
  | .error .collision => pure (.result (earlyResult .CreateCollision i.gasLimit), w)
  | .error .overflowPayment => pure (.result (earlyResult .OverflowPayment i.gasLimit), w)
  | .ok cp =>
    let interp := Interp.IState.init i.initCode [] i.gasLimit false cfg.spec created i.caller i.value cfg.env
      (Memory.newContext mem)
    pure (.frame { kind := .create created, checkpoint := cp, interp := interp }, w)

/-- `make_create_frame` as the composition of its stages (`makeCreateFrame_staged`) -/
def makeCreateFrameS {κ : Type} (C : CpOps κ) (cfg : Cfg) (w : World) (i : Interp.CreateInputs)
    (mem : Memory.SharedMemory) : R (FrameOrResult κ × World) := do
  if w.js.depth > CALL_STACK_LIMIT then return (.result (earlyResult .CallTooDeep i.gasLimit), w)
  let (w, _) ← w.loadAccount i.caller
  let cacc ← w.acct i.caller
  if cacc.info.balance < i.value then return (.result (earlyResult .OutOfFunds i.gasLimit), w)
  let (js, newNonce?) ← ofOpt "inc_nonce" (Journal.incNonce w.js i.caller)
  let w := { w with js := js }
  let some newNonce := newNonce? | return (.result (earlyResult .Return i.gasLimit), w)
  createTail C cfg w i mem (match i.salt with
    | none => Keccak.createAddress i.caller (newNonce - 1)
    | some salt => Keccak.create2Address i.caller salt (Keccak.keccak256w i.initCode))

theorem makeCreateFrame_staged {κ : Type} (C : CpOps κ) (cfg : Cfg) (w : World) (i : Interp.CreateInputs)
    (mem : Memory.SharedMemory) : makeCreateFrame C cfg w i mem = makeCreateFrameS C cfg w i mem := by
  unfold makeCreateFrame makeCreateFrameS createTail
  rfl

/-- what `create_return` decides from the child's result alone: the answer of the frame, and the code to deposit
with its hash (`none`: the checkpoint is reverted) -/
def createVerdict (cfg : Cfg) (a : Nat) (r : Interp.ChildResult) : Interp.ChildResult × Option (Nat × List Nat) :=
  let r := { r with address := some a }
  let gasForCode := U64ops.wmul r.output.length CODEDEPOSIT
  if !r.result.isOk then (r, none)
  else if enabled cfg.spec GasCalc.SpecId.LONDON ∧ r.output.head? = some 0xEF then
    ({ r with result := .CreateContractStartingWithEF }, none)
  else if enabled cfg.spec GasCalc.SpecId.SPURIOUS_DRAGON ∧ r.output.length > cfg.maxCodeSize then
    ({ r with result := .CreateContractSizeLimit }, none)
  else if gasForCode ≤ r.gasRemaining then
    ({ r with gasRemaining := r.gasRemaining - gasForCode, result := .Return },
      some (if r.output.isEmpty then KECCAK_EMPTY else Keccak.keccak256w r.output, r.output))
  else if enabled cfg.spec GasCalc.SpecId.HOMESTEAD then ({ r with result := .OutOfGas }, none)
  else ({ r with output := [], result := .Return }, some (KECCAK_EMPTY, []))

theorem createReturn_eq {κ : Type} (C : CpOps κ) (cfg : Cfg) (w : World) (cp : κ) (a : Nat) (r : Interp.ChildResult) :
    createReturn C cfg w cp a r =
      match createVerdict cfg a r with
      | (r', none) => (do
        let w ← C.revert w cp
        pure (r', w))
      | (r', some (hash, code)) => (do
        let w ← C.setCode (C.commit w) a hash
        pure (r', w.addCode hash code)) := by
  unfold createReturn createVerdict
  -- deciding the deposit first leaves plain `if`s on both sides
  by_cases hg : U64ops.wmul r.output.length CODEDEPOSIT ≤ r.gasRemaining
  · simp only [hg, if_true, Bool.false_eq_true, false_and, if_false]
    split
    · rfl
    split
    · rfl
    split
    · rfl
    rfl
  · simp only [hg, if_false, true_and, if_true]
    split
    · rfl
    split
    · rfl
    split
    · rfl
    split
    · rfl
    rfl

theorem createVerdict_gas (cfg : Cfg) (a : Nat) (r : Interp.ChildResult) :
    (createVerdict cfg a r).1.gasRemaining ≤ r.gasRemaining := by
  unfold createVerdict
  dsimp only
  split
  · exact Nat.le_refl _
  split
  · exact Nat.le_refl _
  split
  · exact Nat.le_refl _
  split
  · exact Nat.sub_le _ _
  split <;> exact Nat.le_refl _

theorem createVerdict_output (cfg : Cfg) (a : Nat) (r : Interp.ChildResult) :
    (createVerdict cfg a r).1.output.length ≤ r.output.length ∧
      ∀ hash code, (createVerdict cfg a r).2 = some (hash, code) → code.length ≤ r.output.length := by
  unfold createVerdict
  dsimp only
  split
  · exact ⟨Nat.le_refl _, fun _ _ hv => nomatch hv⟩
  split
  · exact ⟨Nat.le_refl _, fun _ _ hv => nomatch hv⟩
  split
  · exact ⟨Nat.le_refl _, fun _ _ hv => nomatch hv⟩
  split
  · exact ⟨Nat.le_refl _, fun _ _ hv => by cases hv; exact Nat.le_refl _⟩
  split
  · exact ⟨Nat.le_refl _, fun _ _ hv => nomatch hv⟩
  · exact ⟨Nat.zero_le _, fun _ _ hv => by cases hv; exact Nat.zero_le _⟩

/-- What `transact_preverified_inner` hands to `exec.call` / `exec.create`, written as the `InterpreterAction` of a caller
that does not exist: the first frame of a transaction is `makeFrame` of this action on `SharedMemory::new()` (`prepare_ok`),
so what holds of a frame made for an action holds of the first frame. `gasLimit` is `tx.gas_limit - initial_gas`. -/
def firstAction (e : Env) (gasLimit : Nat) : Interp.Action :=
  match e.tx.to with
  | some to => .call
      { input := e.tx.data, retStart := 0, retEnd := 0, gasLimit := gasLimit, bytecodeAddress := to,
        targetAddress := to, caller := e.tx.caller, valueTransfer := true, value := e.tx.value, scheme := .call,
        isStatic := false, isEof := false }
  | none => .create
      { caller := e.tx.caller, salt := none, value := e.tx.value, initCode := e.tx.data, gasLimit := gasLimit }

/-- the transaction's own call always transfers its value (`CallValue::Transfer`) -/
theorem firstAction_transfer {e : Env} {gasLimit : Nat} {i : Interp.CallInputs}
    (h : firstAction e gasLimit = .call i) : i.valueTransfer = true := by
  unfold firstAction at h
  cases hto : e.tx.to with
  | some to => rw [hto] at h; cases h; rfl
  | none => rw [hto] at h; cases h

/-- `prepare` is `deduct_caller` after `load_accounts`, the EIP-7702 list, then one frame request -/
theorem prepare_eq {κ : Type} (C : CpOps κ) (e : Env) (spec initialGas : Nat) (w : World) :
    prepare C e spec initialGas w = (do
      let w ← deductCaller e spec (loadAccounts e spec w)
      let (w, refund) ← applyAuthList e spec w
      let (f, w) ← makeFrame C (e.toCfg spec) w (firstAction e (U64ops.wsub e.tx.gasLimit initialGas)) Memory.new
      pure (f, w, e.tx.to.isNone, refund)) := by
  unfold prepare makeFrame firstAction
  refine bind_congr fun w1 => ?_
  refine bind_congr fun p => ?_
  cases e.tx.to <;> rfl

theorem prepare_ok {κ : Type} {C : CpOps κ} {e : Env} {spec initialGas : Nat} {w w' : World}
    {first : FrameOrResult κ} {isCreate : Bool} {refund : Nat}
    (h : prepare C e spec initialGas w = .ok (first, w', isCreate, refund)) :
    ∃ w1 w2, deductCaller e spec (loadAccounts e spec w) = .ok w1 ∧ applyAuthList e spec w1 = .ok (w2, refund) ∧
      makeFrame C (e.toCfg spec) w2 (firstAction e (U64ops.wsub e.tx.gasLimit initialGas)) Memory.new = .ok (first, w') ∧
      isCreate = e.tx.to.isNone := by
  rw [prepare_eq] at h
  obtain ⟨w1, h1, h⟩ := bind_ok h
  obtain ⟨⟨w2, r⟩, h2, h⟩ := bind_ok h
  obtain ⟨⟨f, w3⟩, h3, h⟩ := bind_ok h
  simp only [pure, Except.pure, Except.ok.injEq, Prod.mk.injEq] at h
  obtain ⟨rfl, rfl, rfl, rfl⟩ := h
  exact ⟨w1, w2, h1, h2, h3, rfl⟩

end Revm.Proofs.EvmFrame

namespace Revm.Proofs.EvmInstLife
open Revm Revm.Model Revm.Model.Evm

/-- the access-list part of `load_accounts` -/
def loadAccessList (e : Env) (w : World) : World :=
  e.tx.accessList.foldl (fun w it =>
    let w := { w with js := Journal.initialAccountLoad w.db w.js it.addr it.keys }.noteAddr it.addr
    it.keys.foldl (fun w k => w.noteSlot it.addr k) w) w

end Revm.Proofs.EvmInstLife
