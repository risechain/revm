import Revm.Model.GasCalc
import Revm.Spec.GasCalc
import Revm.Proofs.ArithExpCost
/-! `Model.GasCalc` against `Spec.GasCalc`: the checked per-word costs, the hardfork gates
(`enabled f.id X` is the Spec's activation table of the EIP gated on `X`), the finite tables (SLOAD, CALL,
SELFDESTRUCT; SSTORE through the six comparisons a value pattern decides), and memory expansion. -/
namespace Revm.Proofs.GasCalc
open Revm Revm.U64ops Revm.Model.GasCalc Revm.Model.GasCalc.SpecId
open Revm.Spec.GasCalc (Fork ceil32 memCost memExpansion Pattern)
open Revm.Spec.GasCalc.Fork

theorem some_if_iff {c : Prop} [Decidable c] (x v : Nat) :
    (if c then some x else none) = some v ↔ x = v ∧ c := by
  by_cases h : c <;> simp [h]

theorem checkedMul_iff (a b v : Nat) : checkedMul a b = some v ↔ a * b = v ∧ v < U64 := by
  unfold checkedMul; rw [some_if_iff]
  exact ⟨fun ⟨e, h⟩ => ⟨e, e ▸ h⟩, fun ⟨e, h⟩ => ⟨e, e ▸ h⟩⟩

theorem checkedAdd_iff (a b v : Nat) : checkedAdd a b = some v ↔ a + b = v ∧ v < U64 := by
  unfold checkedAdd; rw [some_if_iff]
  exact ⟨fun ⟨e, h⟩ => ⟨e, e ▸ h⟩, fun ⟨e, h⟩ => ⟨e, e ▸ h⟩⟩

theorem numWords_eq (len : Nat) (h : len + 31 < U64) : numWords len = ceil32 len := by
  unfold numWords saturatingAdd ceil32; simp only [h, if_true]

/-- on the last 31 lengths `saturating_add` clamps and the result is one word short -/
theorem numWords_short (len : Nat) (h1 : U64 ≤ len + 31) (h2 : len < U64) :
    numWords len = 2^59 - 1 ∧ ceil32 len = 2^59 := by
  have hU := U64_val
  unfold numWords saturatingAdd ceil32
  have : ¬ (len + 31 < U64) := by omega
  simp only [this, if_false]
  omega

theorem ceil32_le (len : Nat) (h : len < U64) : ceil32 len ≤ 2^59 := by
  have hU := U64_val
  unfold ceil32; omega

/-- `base.checked_add(tri!(multiple.checked_mul(words)))` -/
theorem mulAdd_iff (base m w v : Nat) :
    (match checkedMul m w with
      | none => none
      | some c => checkedAdd base c) = some v ↔ base + m * w = v ∧ v < U64 := by
  have hU := U64_val
  unfold checkedMul
  by_cases h : m * w < U64
  · simp only [h, if_true]; exact checkedAdd_iff _ _ _
  · simp only [h, if_false, reduceCtorEq, false_iff]
    generalize m * w = q at h
    omega

theorem initcodeCost_eq (len : Nat) (h : len + 31 < U64) :
    initcodeCost len = some (Spec.GasCalc.initcodeCost len) := by
  have hU := U64_val
  unfold initcodeCost costPerWord checkedMul INITCODE_WORD_COST Spec.GasCalc.initcodeCost
  rw [numWords_eq len h]
  have : 2 * ceil32 len < U64 := by unfold ceil32; omega
  simp only [this, if_true]

theorem logCost_iff (n len v : Nat) :
    logCost n len = some v ↔ Spec.GasCalc.logCost n len = v ∧ v < U64 := by
  have hU := U64_val
  unfold logCost checkedMul checkedAdd Spec.GasCalc.logCost LOGDATA LOG LOGTOPIC
  by_cases h1 : 8 * len < U64
  · simp only [h1, if_true]
    by_cases h2 : 375 + 8 * len < U64
    · simp only [h2, if_true]
      by_cases h3 : 375 + 8 * len + 375 * n < U64
      · simp only [h3, if_true, Option.some.injEq]; omega
      · simp only [h3, if_false, reduceCtorEq, false_iff]; omega
    · simp only [h2, if_false, reduceCtorEq, false_iff]; omega
  · simp only [h1, if_false, reduceCtorEq, false_iff]; omega

theorem gates_eq (f : Fork) :
    enabled f.id HOMESTEAD = hasEIP2 f ∧ enabled f.id TANGERINE = hasEIP150 f ∧
    enabled f.id SPURIOUS_DRAGON = hasEIP160 f ∧ enabled f.id ISTANBUL = hasEIP2200 f ∧
    enabled f.id BERLIN = hasEIP2929 f ∧ enabled f.id LONDON = hasEIP3529 f ∧
    enabled f.id SHANGHAI = hasEIP3860 f ∧ enabled f.id PRAGUE = hasEIP7623 f := by
  cases f <;> decide

theorem en_homestead (f : Fork) : enabled f.id HOMESTEAD = hasEIP2 f := (gates_eq f).1
theorem en_tangerine (f : Fork) : enabled f.id TANGERINE = hasEIP150 f := (gates_eq f).2.1
theorem en_spurious (f : Fork) : enabled f.id SPURIOUS_DRAGON = hasEIP160 f := (gates_eq f).2.2.1
theorem en_istanbul (f : Fork) : enabled f.id ISTANBUL = hasEIP2200 f := (gates_eq f).2.2.2.1
theorem en_berlin (f : Fork) : enabled f.id BERLIN = hasEIP2929 f := (gates_eq f).2.2.2.2.1
theorem en_london (f : Fork) : enabled f.id LONDON = hasEIP3529 f := (gates_eq f).2.2.2.2.2.1
theorem en_shanghai (f : Fork) : enabled f.id SHANGHAI = hasEIP3860 f := (gates_eq f).2.2.2.2.2.2.1
theorem en_prague (f : Fork) : enabled f.id PRAGUE = hasEIP7623 f := (gates_eq f).2.2.2.2.2.2.2

theorem gates_monotone (f : Fork) :
    (hasEIP7623 f → hasEIP3860 f) ∧ (hasEIP3860 f → hasEIP3529 f) ∧ (hasEIP3529 f → hasEIP2929 f) ∧
    (hasEIP2929 f → hasEIP2200 f) ∧ (hasEIP2200 f → hasEIP160 f) ∧ (hasEIP160 f → hasEIP150 f) ∧
    (hasEIP150 f → hasEIP2 f) := by cases f <;> decide

theorem sloadCost_eq (f : Fork) (c : Bool) : sloadCost f.id c = Spec.GasCalc.sloadCost f c := by
  cases f <;> cases c <;> rfl

theorem selfdestructCost_eq (f : Fork) (hv te c : Bool) :
    selfdestructCost f.id hv te c = Spec.GasCalc.selfdestructCost f hv te c := by
  have hm := gates_monotone f
  have hst := hm.2.2.2.2.2.1
  have hbs : hasEIP2929 f = true → hasEIP160 f = true := fun h => hm.2.2.2.2.1 (hm.2.2.2.1 h)
  unfold selfdestructCost Spec.GasCalc.selfdestructCost
  rw [en_spurious, en_tangerine, en_berlin]
  generalize hasEIP160 f = s at *
  generalize hasEIP150 f = t at *
  generalize hasEIP2929 f = b at *
  cases s <;> cases t <;> cases b <;> simp at hst hbs <;> cases hv <;> cases te <;> cases c <;> rfl

theorem callCost_eq (f : Fork) (tv c : Bool) (d : Option Bool) (e : Bool) :
    callCost f.id tv c d e = Spec.GasCalc.callCost f tv c d e := by
  unfold callCost Spec.GasCalc.callCost Spec.GasCalc.accountAccess
  rw [en_berlin, en_tangerine, en_spurious]
  generalize hasEIP2929 f = b
  generalize hasEIP150 f = t
  generalize hasEIP160 f = s
  cases d with
  | none => cases b <;> cases t <;> cases s <;> cases tv <;> cases c <;> cases e <;> rfl
  | some d => cases b <;> cases t <;> cases s <;> cases tv <;> cases c <;> cases e <;> cases d <;> rfl

theorem extBase_eq (f : Fork) (c : Bool) :
    (if enabled f.id BERLIN then warmColdCost c else if enabled f.id TANGERINE then 700 else 20)
      = Spec.GasCalc.accountAccess f 20 c := by
  cases f <;> cases c <;> rfl

theorem expCost_eq (f : Fork) (p : Nat) (hp : p < W) :
    expCost f.id p = some (Spec.GasCalc.expCost f p) := by
  unfold expCost Spec.GasCalc.expCost
  rw [en_spurious]
  exact Proofs.Arith.expCost_eq (hasEIP160 f) p hp


theorem classify_holds (o c n : Nat) : (Spec.GasCalc.classify o c n).holds o c n := by
  unfold Spec.GasCalc.classify
  -- once the three zero tests are decided, `classify` is at most two nested `if`s
  by_cases ho : o = 0 <;> by_cases hc : c = 0 <;> by_cases hn : n = 0 <;>
    simp only [ho, hc, hn, if_true, if_false] <;> repeat' split
  all_goals simp_all [Pattern.holds]

theorem holds_unique (pat : Pattern) (o c n : Nat) (h : pat.holds o c n) :
    Spec.GasCalc.classify o c n = pat := by
  cases pat <;> simp only [Pattern.holds] at h <;> unfold Spec.GasCalc.classify <;> simp_all <;> omega

/-- truth values of the six comparisons the code makes, per pattern -/
def patBits : Pattern → Bool × Bool × Bool × Bool × Bool × Bool
  --        n = p   o = p   n = 0   o = 0   p = 0   o = n
  | .p000 => (true,  true,  true,  true,  true,  true)
  | .pXXX => (true,  true,  false, false, false, true)
  | .p00X => (false, true,  false, true,  true,  false)
  | .pXX0 => (false, true,  true,  false, false, false)
  | .pXXY => (false, true,  false, false, false, false)
  | .p0X0 => (false, false, true,  true,  false, true)
  | .pX0X => (false, false, false, false, true,  true)
  | .pXYX => (false, false, false, false, false, true)
  | .pX00 => (true,  false, true,  false, true,  false)
  | .p0XX => (true,  false, false, true,  false, false)
  | .pXYY => (true,  false, false, false, false, false)
  | .p0XY => (false, false, false, true,  false, false)
  | .pX0Y => (false, false, false, false, true,  false)
  | .pXY0 => (false, false, true,  false, false, false)
  | .pXYZ => (false, false, false, false, false, false)

theorem facts (pat : Pattern) (o p n : Nat) (h : pat.holds o p n) :
    ((n = p) = ((patBits pat).1 = true)) ∧ ((o = p) = ((patBits pat).2.1 = true)) ∧ ((n = 0) = ((patBits pat).2.2.1 = true)) ∧
    ((o = 0) = ((patBits pat).2.2.2.1 = true)) ∧ ((p = 0) = ((patBits pat).2.2.2.2.1 = true)) ∧
    ((o = n) = ((patBits pat).2.2.2.2.2 = true)) := by
  -- per pattern, each comparison or its negation follows from the pattern's equalities and disequalities by
  -- substitution (`pXXY`: `p = o` and `n ≠ o` give `n ≠ p`); `grind` chases these
  cases pat <;> simp only [Pattern.holds] at h <;>
    simp only [patBits, eq_iff_iff, Bool.false_eq_true, iff_true, iff_false] <;> grind

theorem sstoreCost_eq (f : Fork) (pat : Pattern) (o p n gas : Nat) (cold : Bool) (h : pat.holds o p n) :
    sstoreCost f.id o p n gas cold = Spec.GasCalc.sstoreCost f pat gas cold := by
  -- the slot values enter only through the six comparisons, the fork only through three gates of which
  -- monotonicity leaves four combinations: what remains is a finite table
  obtain ⟨h1, h2, h3, h4, h5, _⟩ := facts pat o p n h
  have hm := gates_monotone f
  unfold sstoreCost Spec.GasCalc.sstoreCost Spec.GasCalc.netParams istanbulSstoreCost frontierSstoreCost
    CALL_STIPEND
  rw [en_istanbul, en_berlin]
  simp only [h1, h2, h3, h4, h5, ne_eq]
  generalize hasEIP2200 f = i at *
  generalize hasEIP2929 f = b at *
  generalize hasEIP3529 f = l at *
  have hbi := hm.2.2.2.1
  have hlb := hm.2.2.1
  clear hm h1 h2 h3 h4 h5 h
  by_cases hg : gas ≤ 2300 <;> simp only [hg] <;>
    cases i <;> cases b <;> cases l <;> simp at hbi hlb <;> cases cold <;> cases pat <;> decide

theorem sstoreRefund_eq (f : Fork) (pat : Pattern) (o p n : Nat) (h : pat.holds o p n) :
    sstoreRefund f.id o p n = Spec.GasCalc.sstoreRefund f pat := by
  obtain ⟨h1, h2, h3, h4, h5, h6⟩ := facts pat o p n h
  have hm := gates_monotone f
  unfold sstoreRefund Spec.GasCalc.sstoreRefund Spec.GasCalc.netParams
  rw [sloadCost_eq]
  unfold Spec.GasCalc.sloadCost
  rw [en_istanbul, en_berlin, en_london]
  simp only [h1, h2, h3, h4, h5, h6, ne_eq]
  generalize hasEIP2200 f = i at *
  generalize hasEIP2929 f = b at *
  generalize hasEIP3529 f = l at *
  generalize hasEIP150 f = t at *
  have hbi := hm.2.2.2.1
  have hlb := hm.2.2.1
  clear hm h1 h2 h3 h4 h5 h6 h
  cases i <;> cases b <;> cases l <;> simp at hbi hlb <;> cases t <;> cases pat <;> decide


theorem sq_lt (w : Nat) (h : w < 2^32) : w * w < 2^64 := by
  have := Nat.mul_lt_mul'' h h
  simpa using this

theorem sq_ge (w : Nat) (h : 2^32 ≤ w) : 2^64 ≤ w * w := by
  have := Nat.mul_le_mul h h
  simpa using this

theorem memoryGas_full (w : Nat) : memoryGas w = min (memCost w) (U64 - 1) := by
  unfold memoryGas MEMORY memCost
  generalize w * w / 512 = q
  simp only []
  split <;> omega

theorem memoryGas_exact (w : Nat) (h : memCost w < U64) : memoryGas w = memCost w := by
  rw [memoryGas_full]; omega

theorem memoryGas_sat (w : Nat) (h : U64 ≤ memCost w) : memoryGas w = U64 - 1 := by
  rw [memoryGas_full]; omega

theorem memoryGas_eq (w : Nat) (h : w < 2^32) : memoryGas w = memCost w := by
  have hU := U64_val
  have hq := sq_lt w h
  apply memoryGas_exact
  unfold memCost
  generalize w * w = q at hq ⊢
  omega

theorem memCost_lt (w : Nat) (h : w < 2^32) : memCost w < 2^56 := by
  have hq := sq_lt w h
  unfold memCost
  generalize w * w = q at hq ⊢
  omega

theorem memCost_mono (a b : Nat) (h : a ≤ b) : memCost a ≤ memCost b := by
  unfold memCost
  have h1 : a * a ≤ b * b := Nat.mul_le_mul h h
  have h2 : a * a / 512 ≤ b * b / 512 := Nat.div_le_div_right h1
  omega

theorem ceil32_mono (a b : Nat) (h : a ≤ b) : ceil32 a ≤ ceil32 b := by
  unfold ceil32; omega

theorem resizeMemory_eq (cur rem new : Nat) (hcn : cur ≤ new) (hnew : new + 31 < U64)
    (hfit : memCost (ceil32 new) < U64) :
    resizeMemory cur rem new =
      if memExpansion cur new ≤ rem then (true, rem - memExpansion cur new, 32 * ceil32 new)
      else (false, rem, cur) := by
  have hU := U64_val
  have hw0 : ceil32 cur ≤ ceil32 new := ceil32_mono _ _ hcn
  have hm := memCost_mono _ _ hw0
  unfold resizeMemory memoryGasForLen recordCost memExpansion
  rw [numWords_eq new (by omega), numWords_eq cur (by omega)]
  simp only []
  rw [memoryGas_exact _ hfit, memoryGas_exact _ (by omega)]
  rw [U64ops.wsub_of_le _ _ hfit hm]
  by_cases hc : memCost (ceil32 new) - memCost (ceil32 cur) ≤ rem
  · simp only [hc, if_true]; rw [Nat.mul_comm]
  · simp only [hc, if_false]; simp

/-- the initcode cost never overflows: `num_words` saturates at `u64::MAX / 32` -/
theorem initcodeCost_some (len : Nat) : ∃ c, initcodeCost len = some c := by
  unfold initcodeCost costPerWord U64ops.checkedMul numWords INITCODE_WORD_COST
  have hU := U64_val
  have h1 : U64ops.saturatingAdd len 31 ≤ U64 - 1 := by unfold U64ops.saturatingAdd; split <;> omega
  generalize U64ops.saturatingAdd len 31 = x at h1
  rw [if_pos (by omega)]
  exact ⟨_, rfl⟩

/-- `calculate_initial_tx_gas` never reaches the `initcode_cost` overflow panic -/
theorem initialTxGas_ne_none (spec : Nat) (input : List Nat) (ic : Bool) (al : List Nat) (n : Nat) :
    calculateInitialTxGas spec input ic al n ≠ none := by
  unfold calculateInitialTxGas
  obtain ⟨c, hc⟩ := initcodeCost_some input.length
  simp only [hc]
  split
  · rename_i heq
    split at heq <;> cases heq
  · split <;> exact fun h => nomatch h

end Revm.Proofs.GasCalc
