import Revm.Model.Memory
import Revm.Spec.Memory
import Revm.Proofs.GasCalc
/-! Proofs for C11: the shared buffer with checkpoints refines a stack of independent frames (`abs`, under `WF`). Every
state-changing call is an equation on the running context (`writeSlice_eq`, `copy_eq`, `setData_eq`, `resize_eq`,
`slice_eq`) in terms of `replaceCtx`, `free_context` one on the frame stack (`freeContext_eq`); `step_refines` /
`run_refines` and the isolation of lower frames follow from these. Then `resize_memory` and its gas (`resizeMemory_grow`,
`resizeMemory_oog`, `resizeMacro_eq`). -/
namespace Revm.Proofs.Memory
open Revm Revm.Model.Memory
open Revm.Spec.Memory (Frame Frames)

/-- cut `buf` at the checkpoints (head = innermost): the frames, innermost first -/
def segs (buf : List Nat) : List Nat → Frames
  | [] => [buf]
  | c :: cs => buf.drop c :: segs (buf.take c) cs

/-- the frame stack a `SharedMemory` stands for (head = running context) -/
def abs (m : SharedMemory) : Frames := segs m.buffer m.checkpoints

/-- checkpoints are in bounds and ordered -/
def WFc : Nat → List Nat → Prop
  | _, [] => True
  | n, c :: cs => c ≤ n ∧ WFc c cs

def top : List Nat → Nat
  | [] => 0
  | c :: _ => c

/-- the representation invariant stated in the struct's doc comments -/
def WF (m : SharedMemory) : Prop :=
  WFc m.buffer.length m.checkpoints ∧ m.lastCheckpoint = top m.checkpoints
    ∧ m.buffer.length ≤ ISIZE_MAX   -- a `Vec` never holds more than `isize::MAX` bytes

def ctx (m : SharedMemory) : List Nat := m.buffer.drop m.lastCheckpoint

theorem WFc_mono {n n' : Nat} {cs : List Nat} (h : WFc n cs) (hn : n ≤ n') : WFc n' cs := by
  cases cs with
  | nil => trivial
  | cons c cs => exact ⟨Nat.le_trans h.1 hn, h.2⟩

theorem WF_le {m : SharedMemory} (h : WF m) : m.lastCheckpoint ≤ m.buffer.length := by
  obtain ⟨h1, h2, _⟩ := h
  rw [h2]
  cases hc : m.checkpoints with
  | nil => exact Nat.zero_le _
  | cons c cs => rw [hc] at h1; exact h1.1

theorem abs_head {m : SharedMemory} (h : WF m) : ∃ rest, abs m = ctx m :: rest := by
  obtain ⟨_, h2, _⟩ := h
  unfold abs ctx
  rw [h2]
  cases m.checkpoints with
  | nil => exact ⟨[], rfl⟩
  | cons c cs => exact ⟨_, rfl⟩

def replaceCtx (m : SharedMemory) (x : List Nat) : SharedMemory :=
  { m with buffer := m.buffer.take m.lastCheckpoint ++ x }

theorem buffer_split (m : SharedMemory) :
    m.buffer = m.buffer.take m.lastCheckpoint ++ ctx m :=
  (List.take_append_drop _ _).symm

theorem lower_length {m : SharedMemory} (h : WF m) :
    (m.buffer.take m.lastCheckpoint).length = m.lastCheckpoint := by
  rw [List.length_take]; exact Nat.min_eq_left (WF_le h)

theorem ctx_length {m : SharedMemory} : (ctx m).length = m.buffer.length - m.lastCheckpoint :=
  List.length_drop

theorem replaceCtx_length {m : SharedMemory} (h : WF m) (x : List Nat) :
    (replaceCtx m x).buffer.length = m.lastCheckpoint + x.length := by
  show (m.buffer.take m.lastCheckpoint ++ x).length = _
  rw [List.length_append, lower_length h]

theorem replaceCtx_wf {m : SharedMemory} (h : WF m) (x : List Nat)
    (hx : m.lastCheckpoint + x.length ≤ ISIZE_MAX) : WF (replaceCtx m x) := by
  have hck : WFc m.lastCheckpoint m.checkpoints := by
    have h1 := h.1
    rw [h.2.1]
    cases hc : m.checkpoints with
    | nil => trivial
    | cons c cs => rw [hc] at h1; exact ⟨Nat.le_refl c, h1.2⟩
  refine ⟨?_, h.2.1, by rw [replaceCtx_length h]; exact hx⟩
  rw [replaceCtx_length h]
  exact WFc_mono hck (Nat.le_add_right _ _)

theorem replaceCtx_abs {m : SharedMemory} (h : WF m) (x : List Nat) :
    abs (replaceCtx m x) = x :: (abs m).tail := by
  have hl := lower_length h
  have h2 := h.2.1
  unfold abs replaceCtx
  cases hc : m.checkpoints with
  | nil =>
    rw [hc] at h2
    rw [h2]; rfl
  | cons c cs =>
    rw [hc] at h2
    change m.lastCheckpoint = c at h2
    rw [h2] at hl
    simp only [segs, h2, List.tail_cons]
    rw [List.drop_left' hl, List.take_left' hl]

theorem replaceCtx_ctx {m : SharedMemory} (h : WF m) (x : List Nat) : ctx (replaceCtx m x) = x :=
  List.drop_left' (lower_length h)

theorem replaceCtx_frame {m : SharedMemory} (h : WF m) (x : List Nat) :
    abs (replaceCtx m x) = ctx (replaceCtx m x) :: (abs m).tail := by
  rw [replaceCtx_abs h, replaceCtx_ctx h]

theorem replaceCtx_replaceCtx {m : SharedMemory} (h : WF m) (y x : List Nat) :
    replaceCtx (replaceCtx m y) x = replaceCtx m x := by
  unfold replaceCtx
  simp only []
  rw [List.take_left' (lower_length h)]

/-! ## absolute writes/reads in `pre ++ c` at `pre.length + off` are relative ones in `c` -/

theorem writeAt_shift (pre c : List Nat) (off : Nat) (val : List Nat) :
    writeAt (pre ++ c) (pre.length + off) val = pre ++ writeAt c off val := by
  unfold writeAt
  rw [List.take_length_add_append, Nat.add_assoc, List.drop_length_add_append]
  simp only [List.append_assoc]

theorem readAt_shift (pre c : List Nat) (off n : Nat) :
    readAt (pre ++ c) (pre.length + off) n = readAt c off n := by
  unfold readAt
  rw [List.drop_length_add_append]

theorem writeAt_buffer {m : SharedMemory} (h : WF m) (off : Nat) (val : List Nat) :
    writeAt m.buffer (m.lastCheckpoint + off) val
      = m.buffer.take m.lastCheckpoint ++ writeAt (ctx m) off val := by
  have := writeAt_shift (m.buffer.take m.lastCheckpoint) (ctx m) off val
  rw [lower_length h, ← buffer_split] at this
  exact this

theorem readAt_buffer {m : SharedMemory} (h : WF m) (off n : Nat) :
    readAt m.buffer (m.lastCheckpoint + off) n = readAt (ctx m) off n := by
  have := readAt_shift (m.buffer.take m.lastCheckpoint) (ctx m) off n
  rw [lower_length h, ← buffer_split] at this
  exact this

theorem writeAt_length (c : List Nat) (off : Nat) (val : List Nat) (h : off + val.length ≤ c.length) :
    (writeAt c off val).length = c.length := by
  unfold writeAt
  rw [List.length_append, List.length_append, List.length_take, List.length_drop]
  omega

theorem readAt_length (c : List Nat) (off n : Nat) (h : off + n ≤ c.length) :
    (readAt c off n).length = n := by
  unfold readAt
  rw [List.length_take, List.length_drop]
  omega

theorem writeAt_writeAt (c : List Nat) (o : Nat) (a b : List Nat) (h : o + a.length ≤ c.length) :
    writeAt (writeAt c o a) (o + a.length) b = writeAt c o (a ++ b) := by
  have hl : (List.take o c ++ a).length = o + a.length := by
    rw [List.length_append, List.length_take, Nat.min_eq_left (by omega)]
  have hw : writeAt c o a = (List.take o c ++ a) ++ List.drop (o + a.length) c := rfl
  rw [hw, ← hl, ← Nat.add_zero (List.take o c ++ a).length, writeAt_shift, hl]
  unfold writeAt
  simp only [List.take_zero, List.nil_append, Nat.zero_add, List.drop_drop, List.length_append,
    List.append_assoc, Nat.add_assoc]

/-! ## every state-changing call rewrites the running context only -/

theorem mod_wrap (a b u : Nat) (ha : a < u) (hb : b < u) (h : ¬ a + b < u) :
    (a + b) % u = a + b - u := by
  rw [Nat.mod_eq_sub_mod (by omega), Nat.mod_eq_of_lt (by omega)]

theorem isize_lt_u64 : ISIZE_MAX < U64 := by unfold ISIZE_MAX; rw [U64_val]; decide

theorem ctx_length_lt {m : SharedMemory} (h : WF m) : (ctx m).length < U64 := by
  have := h.2.2
  have := isize_lt_u64
  rw [ctx_length]; omega

/-- `resize` without usize wrap = `resizeF` on the running context; beyond `isize::MAX` the `Vec` capacity panic -/
theorem resize_eq {m : SharedMemory} {n : Nat} (h : WF m) (hn : m.lastCheckpoint + n < U64) :
    resize m n = if m.lastCheckpoint + n ≤ ISIZE_MAX then .ok (replaceCtx m (Spec.Memory.resizeF n (ctx m)))
      else .panic := by
  have hle := WF_le h
  have h3 := h.2.2
  have hcl := @ctx_length m
  unfold resize replaceCtx Spec.Memory.resizeF
  rw [Nat.mod_eq_of_lt hn]
  dsimp only
  by_cases h1 : m.lastCheckpoint + n ≤ m.buffer.length
  · have e := List.take_length_add_append (l₁ := m.buffer.take m.lastCheckpoint) (l₂ := ctx m) (i := n)
    rw [lower_length h, ← buffer_split] at e
    rw [if_pos h1, if_pos (by omega), e, Nat.sub_eq_zero_of_le (by omega), List.replicate_zero, List.append_nil]
  · rw [if_neg h1]
    by_cases h2 : m.lastCheckpoint + n > ISIZE_MAX
    · rw [if_pos h2, if_neg (by omega)]
    · rw [if_neg h2, if_pos (by omega), List.take_of_length_le (l := ctx m) (i := n) (by omega),
        show n - (ctx m).length = m.lastCheckpoint + n - m.buffer.length by omega, ← List.append_assoc, ← buffer_split]

theorem resize_head {m m' : SharedMemory} {n : Nat} (h : WF m) (hn : m.lastCheckpoint + n < U64)
    (hr : resize m n = .ok m') :
    m' = replaceCtx m (Spec.Memory.resizeF n (ctx m)) ∧ m.lastCheckpoint + n ≤ ISIZE_MAX := by
  rw [resize_eq h hn] at hr
  split at hr
  · injection hr with hr; exact ⟨hr.symm, ‹_›⟩
  · cases hr

/-- `slice_mut(offset, val.len()).copy_from_slice(val)`; `ub` is the `debug_unreachable!` of `slice_mut`
(a wrapped end lies below the offset) -/
theorem writeSlice_eq {m : SharedMemory} {off : Nat} {val : List Nat} (h : WF m)
    (ho : off < U64) (hv : val.length < U64) :
    writeSlice m off val =
      if off + val.length ≤ (ctx m).length then .ok (replaceCtx m (writeAt (ctx m) off val)) else .ub := by
  have hcl := @ctx_length m
  have hlt := ctx_length_lt h
  unfold writeSlice
  simp only []
  rw [if_pos (WF_le h), ← hcl]
  by_cases hin : off + val.length ≤ (ctx m).length
  · rw [if_pos hin, Nat.mod_eq_of_lt (by omega), if_pos ⟨Nat.le_add_right _ _, hin⟩,
      writeAt_buffer h]
    rfl
  · rw [if_neg hin, if_neg]
    intro hc
    by_cases hw : off + val.length < U64
    · rw [Nat.mod_eq_of_lt hw] at hc; exact hin hc.2
    · rw [mod_wrap _ _ _ ho hv hw] at hc; omega

theorem writeSlice_ok {m : SharedMemory} {off : Nat} {val : List Nat} (h : WF m)
    (hin : off + val.length ≤ (ctx m).length) :
    writeSlice m off val = .ok (replaceCtx m (writeAt (ctx m) off val)) := by
  have := ctx_length_lt h
  rw [writeSlice_eq h (by omega) (by omega), if_pos hin]

/-- `n` is the length of the first value as `set_data` computes it -/
theorem writeSlice_append {m : SharedMemory} {off n : Nat} {a b : List Nat} (h : WF m)
    (ho : off < U64) (hn : a.length = n) (hab : (a ++ b).length < U64) :
    (match writeSlice m off a with
      | .ok m1 => writeSlice m1 ((off + n) % U64) b
      | .panic => .panic
      | .ub => .ub) = writeSlice m off (a ++ b) := by
  have hlt := ctx_length_lt h
  rw [List.length_append] at hab
  subst hn
  rw [writeSlice_eq h ho (by omega), writeSlice_eq h ho (by rw [List.length_append]; exact hab),
    List.length_append, ← Nat.add_assoc]
  by_cases h1 : off + a.length ≤ (ctx m).length
  · have hwl := writeAt_length _ _ _ h1
    have hw1 : WF (replaceCtx m (writeAt (ctx m) off a)) :=
      replaceCtx_wf h _ (by rw [hwl, ctx_length]; have := WF_le h; have := h.2.2; omega)
    rw [if_pos h1]
    simp only []
    rw [Nat.mod_eq_of_lt (by omega), writeSlice_eq hw1 (by omega) (by omega), replaceCtx_ctx h, hwl,
      replaceCtx_replaceCtx h, writeAt_writeAt _ _ _ _ h1]
  · rw [if_neg h1, if_neg (by omega)]

theorem set_empty (m : SharedMemory) (off : Nat) : Model.Memory.set m off [] = .ok m := rfl

theorem set_nonempty (m : SharedMemory) (off : Nat) {val : List Nat} (hne : val ≠ []) :
    Model.Memory.set m off val = writeSlice m off val := by
  unfold Model.Memory.set
  rw [if_neg]
  rw [List.isEmpty_iff]; exact hne

theorem writeF_eq (off : Nat) (val f : List Nat) :
    Spec.Memory.writeF off val f = if off + val.length ≤ f.length then some (writeAt f off val) else none :=
  rfl

/-- `set` = `writeF` on the running context (an empty value is accepted at any offset) -/
theorem set_head {m m' : SharedMemory} {off : Nat} {val : List Nat} (h : WF m)
    (ho : off < U64) (hv : val.length < U64) (hne : val ≠ []) (hr : Model.Memory.set m off val = .ok m') :
    off + val.length ≤ (ctx m).length ∧ m' = replaceCtx m (writeAt (ctx m) off val) := by
  rw [set_nonempty m off hne, writeSlice_eq h ho hv] at hr
  split at hr
  · rename_i hin; injection hr with hr; exact ⟨hin, hr.symm⟩
  · cases hr

/-- `copy` = memmove inside the running context; the bounds checks of `copy_within` fail (panic) exactly
when the source or the destination range leaves it -/
theorem copy_eq {m : SharedMemory} {dst src len : Nat} (h : WF m) (hs : src < U64) (hl : len < U64) :
    copy m dst src len =
      if src + len ≤ (ctx m).length ∧ dst + len ≤ (ctx m).length then
        .ok (replaceCtx m (writeAt (ctx m) dst (readAt (ctx m) src len)))
      else .panic := by
  have hcl := @ctx_length m
  have hlt := ctx_length_lt h
  unfold copy
  simp only []
  rw [if_pos (WF_le h), ← hcl]
  by_cases hw : src + len < U64
  · rw [Nat.mod_eq_of_lt hw, if_neg (by omega), Nat.add_sub_cancel_left]
    by_cases h1 : src + len ≤ (ctx m).length
    · rw [if_neg (by omega)]
      by_cases h2 : dst + len ≤ (ctx m).length
      · rw [if_neg (by omega), if_pos ⟨h1, h2⟩, readAt_buffer h, writeAt_buffer h]
        rfl
      · rw [if_pos (by omega), if_neg (fun hc => h2 hc.2)]
    · rw [if_pos (by omega), if_neg (fun hc => h1 hc.1)]
  · rw [mod_wrap _ _ _ hs hl hw, if_pos (by omega), if_neg (by omega)]

theorem copyF_eq (dst src len : Nat) (f : List Nat) :
    Spec.Memory.copyF dst src len f =
      if src + len ≤ f.length ∧ dst + len ≤ f.length then some (writeAt f dst (readAt f src len))
      else none := by
  unfold Spec.Memory.copyF
  by_cases h1 : src + len ≤ f.length
  · have hr : ((f.drop src).take len).length = len := readAt_length f src len h1
    rw [if_pos h1, writeF_eq, hr]
    by_cases h2 : dst + len ≤ f.length
    · rw [if_pos h2, if_pos ⟨h1, h2⟩]; rfl
    · rw [if_neg h2, if_neg (fun hc => h2 hc.2)]
  · rw [if_neg h1, if_neg (fun hc => h1 hc.1)]

theorem paddedSlice_length (data : List Nat) (dOff len : Nat) :
    (Spec.Memory.paddedSlice data dOff len).length = len := by
  unfold Spec.Memory.paddedSlice
  simp only [List.length_append, List.length_replicate, List.length_take]
  omega

theorem paddedSlice_split (data : List Nat) (dOff len : Nat) :
    Spec.Memory.paddedSlice data dOff len
      = readAt data dOff (min (dOff + len) data.length - dOff)
        ++ List.replicate (len - (min (dOff + len) data.length - dOff)) 0 := by
  have e : min (dOff + len) data.length - dOff = min len (data.drop dOff).length := by
    rw [List.length_drop, ← Nat.sub_min_sub_right, Nat.add_sub_cancel_left]
  unfold Spec.Memory.paddedSlice readAt
  simp only []
  rw [e, ← List.take_eq_take_min, List.length_take]

/-- `set_data` as coded (two branches, two writes) = one write of the zero-padded data slice, provided
`data_offset + len` does not wrap around usize where the data branch computes it -/
theorem setData_eq {m : SharedMemory} {moff dOff len : Nat} {data : List Nat} (h : WF m)
    (h1 : moff < U64) (h3 : len < U64) (hnw : dOff < data.length → dOff + len < U64) :
    setData m moff dOff len data = writeSlice m moff (Spec.Memory.paddedSlice data dOff len) := by
  unfold setData
  by_cases hb : dOff ≥ data.length
  · rw [if_pos hb]
    unfold Spec.Memory.paddedSlice
    simp only []
    rw [List.drop_of_length_le hb, List.take_nil, List.length_nil, List.nil_append, Nat.sub_zero]
  · rw [if_neg hb]
    simp only []
    rw [Nat.mod_eq_of_lt (hnw (by omega)), if_neg (by omega), paddedSlice_split]
    exact writeSlice_append h h1 (readAt_length _ _ _ (by omega))
      (by rw [← paddedSlice_split, paddedSlice_length]; exact h3)

theorem setData_head {m m' : SharedMemory} {moff dOff len : Nat} {data : List Nat} (h : WF m)
    (h1 : moff < U64) (h2 : dOff < U64) (h3 : len < U64)
    (hr : setData m moff dOff len data = .ok m') :
    ∃ f', Spec.Memory.setDataF moff dOff len data (ctx m) = some f' ∧ m' = replaceCtx m f' := by
  have hnw : dOff < data.length → dOff + len < U64 := by
    intro hb
    refine Decidable.byContradiction fun hw => ?_
    -- a wrapped `data_end` lies below `data_offset`: `debug_unreachable!`
    unfold setData at hr
    rw [if_neg (by omega), if_pos (by rw [mod_wrap _ _ _ h2 h3 hw]; omega)] at hr
    cases hr
  have hpl := paddedSlice_length data dOff len
  rw [setData_eq h h1 h3 hnw, writeSlice_eq h h1 (by rw [hpl]; exact h3)] at hr
  unfold Spec.Memory.setDataF
  rw [writeF_eq]
  split at hr
  · rename_i hin; injection hr with hr; exact ⟨_, if_pos hin, hr.symm⟩
  · cases hr

theorem new_wf : WF Model.Memory.new := by
  refine ⟨trivial, rfl, ?_⟩; simp [Model.Memory.new]

theorem newContext_wf {m : SharedMemory} (h : WF m) : WF (newContext m) := by
  obtain ⟨h1, h2, h3⟩ := h
  exact ⟨⟨Nat.le_refl _, h1⟩, rfl, h3⟩

theorem abs_newContext (m : SharedMemory) : abs (newContext m) = [] :: abs m := by
  unfold abs newContext; simp [segs]

theorem segs_ne_nil (b : List Nat) (cs : List Nat) : ∃ g rest, segs b cs = g :: rest := by
  cases cs with
  | nil => exact ⟨b, [], rfl⟩
  | cons c cs => exact ⟨_, _, rfl⟩

/-- in a well-formed state `free_context` never hits the `set_len` contract -/
theorem freeContext_eq {m : SharedMemory} (h : WF m) :
    ∃ m', freeContext m = .ok m' ∧ WF m' ∧ abs m' = if m.checkpoints = [] then abs m else (abs m).tail := by
  obtain ⟨h1, h2, h3⟩ := h
  unfold freeContext abs
  cases hc : m.checkpoints with
  | nil => exact ⟨m, rfl, ⟨h1, h2, h3⟩, by rw [hc]; rfl⟩
  | cons c cs =>
    rw [hc] at h1
    have hl : (List.take c m.buffer).length = c := by rw [List.length_take]; exact Nat.min_eq_left h1.1
    dsimp only
    rw [if_pos h1.1]
    refine ⟨_, rfl, ⟨?_, ?_, ?_⟩, by rw [if_neg (List.cons_ne_nil _ _)]; rfl⟩
    · show WFc (List.take c m.buffer).length cs
      rw [hl]; exact h1.2
    · cases cs <;> rfl
    · show (List.take c m.buffer).length ≤ ISIZE_MAX
      rw [hl]; exact Nat.le_trans h1.1 h3

theorem freeContext_ok {m : SharedMemory} (h : WF m) : ∃ m', freeContext m = .ok m' :=
  let ⟨m', hm', _⟩ := freeContext_eq h; ⟨m', hm'⟩

theorem freeContext_step {m m' : SharedMemory} (h : WF m) (hr : freeContext m = .ok m') :
    WF m' ∧ Spec.Memory.step .pop (abs m) = some (abs m') := by
  obtain ⟨m1, h1, hw, ha⟩ := freeContext_eq h
  rw [hr] at h1
  injection h1 with h1
  subst h1
  refine ⟨hw, ?_⟩
  rw [ha]
  unfold abs
  cases m.checkpoints with
  | nil => rfl
  | cons c cs =>
    obtain ⟨g, rest, hg⟩ := segs_ne_nil (List.take c m.buffer) cs
    rw [if_neg (List.cons_ne_nil _ _)]
    simp only [segs, hg]
    rfl

def toSpec : Op → Option Spec.Memory.Op
  | .newContext => some .push
  | .freeContext => some .pop
  | .resize n => some (.resize n)
  | .set o v => if v = [] then none else some (.write o v)
  | .setByte o b => some (.write o [b])
  | .setWord o v => if v = [] then none else some (.write o v)
  | .setU256 o v => some (.write o (natToBe 32 v))
  | .setData a b c d => some (.writeData a b c d)
  | .copy d s l => some (.copy d s l)
  | _ => none

def specStep : Option Spec.Memory.Op → Frames → Option Frames
  | none, fs => some fs
  | some o, fs => Spec.Memory.step o fs

def UsizeArgs : Op → Prop
  | .resize n => n < U64
  | .set o v => o < U64 ∧ v.length < U64
  | .setByte o _ => o < U64
  | .setWord o v => o < U64 ∧ v.length < U64
  | .setU256 o _ => o < U64
  | .setData a b c d => a < U64 ∧ b < U64 ∧ c < U64 ∧ d.length < U64
  | .copy d s l => d < U64 ∧ s < U64 ∧ l < U64
  | .slice o s => o < U64 ∧ s < U64
  | .sliceRange a b => a < U64 ∧ b < U64
  | .getByte o => o < U64
  | .getWord o => o < U64
  | .getU256 o => o < U64
  | _ => True

/-- `last_checkpoint + new_size` does not wrap around `usize` (release profile; the debug profile
panics instead). Only `resize` can wrap silently; see `resize_wrap_counterexample`. -/
def NoWrap : Op → SharedMemory → Prop
  | .resize n, m => m.lastCheckpoint + n < U64
  | _, _ => True

theorem natToBe_length (k v : Nat) : (natToBe k v).length = k := by
  induction k generalizing v with
  | zero => rfl
  | succ k ih => simp [natToBe, ih]

theorem writeF_length {off : Nat} {val f f' : List Nat} (h : Spec.Memory.writeF off val f = some f') :
    f'.length = f.length := by
  unfold Spec.Memory.writeF at h
  by_cases hc : off + val.length ≤ f.length
  · rw [if_pos hc] at h; injection h with h; rw [← h]
    simp [List.length_append, List.length_take, List.length_drop]; omega
  · rw [if_neg hc] at h; cases h

theorem head_step {m : SharedMemory} (h : WF m) {g : Frame → Option Frame} {f' : Frame}
    (hg : g (ctx m) = some f') (hx : m.lastCheckpoint + f'.length ≤ ISIZE_MAX) :
    WF (replaceCtx m f') ∧ Spec.Memory.onHead g (abs m) = some (abs (replaceCtx m f')) := by
  refine ⟨replaceCtx_wf h _ hx, ?_⟩
  rw [replaceCtx_abs h]
  obtain ⟨rest, hr⟩ := abs_head h
  rw [hr]; simp [Spec.Memory.onHead, hg]

theorem same_len_ok {m : SharedMemory} (h : WF m) {f' : Frame} (hl : f'.length = (ctx m).length) :
    m.lastCheckpoint + f'.length ≤ ISIZE_MAX := by
  have hle := WF_le h
  have h3 := h.2.2
  rw [hl, ctx_length]; omega

theorem readOnly_ok {α} {m m' : SharedMemory} {r : Res α} (h : readOnly m r = .ok m') : m' = m := by
  cases r <;> simp [readOnly] at h
  exact h.symm

theorem set_step {m m' : SharedMemory} {off : Nat} {val : List Nat} (h : WF m)
    (ho : off < U64) (hv : val.length < U64) (hr : Model.Memory.set m off val = .ok m') :
    WF m' ∧ specStep (if val = [] then none else some (.write off val)) (abs m) = some (abs m') := by
  by_cases hne : val = []
  · subst hne
    injection hr with hr
    subst hr
    exact ⟨h, rfl⟩
  · obtain ⟨hin, hm⟩ := set_head h ho hv hne hr
    rw [hm, if_neg hne]
    exact head_step h (by rw [writeF_eq, if_pos hin]) (same_len_ok h (writeAt_length _ _ _ hin))

theorem readOnly_step {α} {m m' : SharedMemory} {r : Res α} (h : WF m) (hr : readOnly m r = .ok m') :
    WF m' ∧ specStep none (abs m) = some (abs m') := by
  rw [readOnly_ok hr]; exact ⟨h, rfl⟩

theorem step_refines {op : Op} {m m' : SharedMemory} (h : WF m) (hu : UsizeArgs op) (hn : NoWrap op m)
    (hr : apply op m = .ok m') : WF m' ∧ specStep (toSpec op) (abs m) = some (abs m') := by
  cases op with
  | newContext =>
    simp only [apply] at hr; injection hr with hr; subst hr
    exact ⟨newContext_wf h, by simp [toSpec, specStep, Spec.Memory.step, abs_newContext]⟩
  | freeContext => exact freeContext_step h hr
  | resize n =>
    simp only [apply] at hr
    obtain ⟨hm, hx⟩ := resize_head h hn hr
    rw [hm]
    have hl : (Spec.Memory.resizeF n (ctx m)).length = n := by
      unfold Spec.Memory.resizeF; simp [List.length_append, List.length_take]; omega
    exact head_step (g := fun f => some (Spec.Memory.resizeF n f)) h rfl (by rw [hl]; exact hx)
  | set o v => exact set_step h hu.1 hu.2 hr
  | setByte o b => exact set_step (val := [b]) h hu (by rw [List.length_singleton, U64_val]; decide) hr
  | setWord o v => exact set_step h hu.1 hu.2 hr
  | setU256 o v =>
    have hl := natToBe_length 32 v
    have := set_step (val := natToBe 32 v) h hu (by rw [hl, U64_val]; decide) hr
    rwa [if_neg (fun hc => by rw [hc] at hl; cases hl)] at this
  | setData a b c d =>
    simp only [apply] at hr
    obtain ⟨f', hf, hm⟩ := setData_head h hu.1 hu.2.1 hu.2.2.1 hr
    rw [hm]
    exact head_step h hf (same_len_ok h (writeF_length hf))
  | copy d s l =>
    simp only [apply] at hr
    rw [copy_eq h hu.2.1 hu.2.2] at hr
    split at hr
    · rename_i hin
      injection hr with hr
      rw [← hr]
      exact head_step h (by rw [copyF_eq, if_pos hin])
        (same_len_ok h (writeAt_length _ _ _ (by rw [readAt_length _ _ _ hin.1]; exact hin.2)))
    · cases hr
  | slice o s => exact readOnly_step h hr
  | sliceRange a b => exact readOnly_step h hr
  | getByte o => exact readOnly_step h hr
  | getWord o => exact readOnly_step h hr
  | getU256 o => exact readOnly_step h hr
  | contextMemory => exact readOnly_step h hr

/-- C11's hypothesis on a sequence of `SharedMemory` calls, checked along the run: every argument is a `usize` and no
`resize` wraps. It has nothing to do with the other `Admissible`s of the development (gas, handler, transaction). -/
def Admissible : List Op → SharedMemory → Prop
  | [], _ => True
  | op :: ops, m => UsizeArgs op ∧ NoWrap op m ∧ ∀ m', apply op m = .ok m' → Admissible ops m'

def specOps (ops : List Op) : List Spec.Memory.Op := ops.filterMap toSpec

theorem run_refines : ∀ (ops : List Op) (m m' : SharedMemory), WF m → Admissible ops m →
    run ops m = .ok m' → WF m' ∧ Spec.Memory.run (specOps ops) (abs m) = some (abs m')
  | [], m, m', h, _, hr => by
    simp only [run] at hr; injection hr with hr; subst hr
    exact ⟨h, rfl⟩
  | op :: ops, m, m', h, ha, hr => by
    obtain ⟨hu, hn, hrest⟩ := ha
    simp only [run] at hr
    cases hop : apply op m with
    | panic => rw [hop] at hr; cases hr
    | ub => rw [hop] at hr; cases hr
    | ok m1 =>
      rw [hop] at hr; simp only [] at hr
      obtain ⟨hw1, hs1⟩ := step_refines h hu hn hop
      obtain ⟨hw', hs'⟩ := run_refines ops m1 m' hw1 (hrest m1 hop) hr
      refine ⟨hw', ?_⟩
      unfold specOps
      cases hts : toSpec op with
      | none =>
        rw [hts] at hs1; simp only [specStep] at hs1; injection hs1 with hs1
        simp only [List.filterMap_cons, hts]
        rw [hs1]; exact hs'
      | some o =>
        rw [hts] at hs1; simp only [specStep] at hs1
        simp only [List.filterMap_cons, hts, Spec.Memory.run, hs1, Option.bind_some]
        exact hs'

theorem onHead_append {g : Frame → Option Frame} {f : Frame} {tl rest fs1 : Frames}
    (h : Spec.Memory.onHead g ((f :: tl) ++ rest) = some fs1) : ∃ f1, fs1 = (f1 :: tl) ++ rest := by
  simp only [List.cons_append, Spec.Memory.onHead] at h
  cases hg : g f with
  | none => rw [hg] at h; cases h
  | some f1 => rw [hg] at h; injection h with h; exact ⟨f1, h.symm⟩

/-- Spec level: a sequence that never closes a frame it did not open leaves all frames below its
starting frame untouched, whatever it does above them -/
theorem spec_lower_unchanged : ∀ (sops : List Spec.Memory.Op) (d : Nat) (hd rest fs' : Frames),
    hd.length = d + 1 → Spec.Memory.StaysAbove d sops → Spec.Memory.run sops (hd ++ rest) = some fs' →
    ∃ hd', fs' = hd' ++ rest ∧ hd'.length = Spec.Memory.depthAfter d sops + 1
  | [], d, hd, rest, fs', hl, _, hr => by
    simp only [Spec.Memory.run] at hr; injection hr with hr
    exact ⟨hd, hr.symm, by simp [Spec.Memory.depthAfter, hl]⟩
  | op :: sops, d, hd, rest, fs', hl, hs, hr => by
    cases hd with
    | nil => simp at hl
    | cons f tl =>
      simp only [List.length_cons] at hl
      simp only [Spec.Memory.run] at hr
      cases hst : Spec.Memory.step op ((f :: tl) ++ rest) with
      | none => rw [hst] at hr; simp at hr
      | some fs1 =>
        rw [hst] at hr; simp only [Option.bind_some] at hr
        -- every step maps `hd ++ rest` to `hd1 ++ rest`
        have key : ∃ hd1 d1, fs1 = hd1 ++ rest ∧ hd1.length = d1 + 1 ∧ Spec.Memory.StaysAbove d1 sops
            ∧ Spec.Memory.depthAfter d (op :: sops) = Spec.Memory.depthAfter d1 sops := by
          cases op with
          | push =>
            simp only [Spec.Memory.step] at hst; injection hst with hst
            exact ⟨[] :: f :: tl, d + 1, by rw [← hst]; rfl, by simp; omega, hs, rfl⟩
          | pop =>
            simp only [Spec.Memory.StaysAbove] at hs
            cases tl with
            | nil => simp at hl; omega
            | cons g tl2 =>
              simp only [List.cons_append, Spec.Memory.step] at hst; injection hst with hst
              exact ⟨g :: tl2, d - 1, by rw [← hst]; rfl, by simp at hl ⊢; omega, hs.2, rfl⟩
          | _ =>
            -- the other operations act on the head frame
            simp only [Spec.Memory.step] at hst
            obtain ⟨f1, he⟩ := onHead_append hst
            exact ⟨f1 :: tl, d, he, by simp; omega, hs, rfl⟩
        obtain ⟨hd1, d1, he, hl1, hs1, hdep⟩ := key
        rw [he] at hr
        obtain ⟨hd', h1, h2⟩ := spec_lower_unchanged sops d1 hd1 rest fs' hl1 hs1 hr
        exact ⟨hd', h1, by rw [hdep]; exact h2⟩

theorem lower_frames_unchanged (ops : List Op) (m m' : SharedMemory) (h : WF m)
    (ha : Admissible ops m) (hs : Spec.Memory.StaysAbove 0 (specOps ops)) (hr : run ops m = .ok m') :
    ∃ hd', abs m' = hd' ++ (abs m).tail
      ∧ hd'.length = Spec.Memory.depthAfter 0 (specOps ops) + 1 := by
  obtain ⟨_, hrun⟩ := run_refines ops m m' h ha hr
  obtain ⟨rest, hab⟩ := abs_head h
  rw [hab] at hrun ⊢
  exact spec_lower_unchanged (specOps ops) 0 [ctx m] rest (abs m') rfl hs hrun

theorem child_frame_isolated (ops : List Op) (m m1 m2 : SharedMemory) (h : WF m)
    (ha : Admissible ops (newContext m)) (hs : Spec.Memory.StaysAbove 0 (specOps ops))
    (hd : Spec.Memory.depthAfter 0 (specOps ops) = 0)
    (hr : run ops (newContext m) = .ok m1) (hf : freeContext m1 = .ok m2) :
    WF m2 ∧ abs m2 = abs m := by
  have hw0 := newContext_wf h
  obtain ⟨hw1, _⟩ := run_refines ops _ m1 hw0 ha hr
  obtain ⟨hd', h1, h2⟩ := lower_frames_unchanged ops _ m1 hw0 ha hs hr
  rw [abs_newContext] at h1
  simp only [List.tail_cons] at h1
  rw [hd] at h2
  obtain ⟨hw2, hpop⟩ := freeContext_step hw1 hf
  refine ⟨hw2, ?_⟩
  match hd', h2 with
  | [f], _ =>
    obtain ⟨rest, hab⟩ := abs_head h
    rw [h1, hab] at hpop
    simp only [List.cons_append, List.nil_append, Spec.Memory.step] at hpop
    injection hpop with hpop
    rw [hab]; exact hpop.symm

theorem len_eq {m : SharedMemory} (h : WF m) : len m = (ctx m).length := by
  have hle := WF_le h
  have h3 := h.2.2
  have hI := isize_lt_u64
  rw [ctx_length]
  exact U64ops.wsub_of_le _ _ (by omega) hle

/-! `Model.Memory.numWords` / `memoryGas` and `Spec.Memory.words` / `memGas` are `Model.GasCalc.numWords` / `memoryGas` and
`Spec.GasCalc.ceil32` / `memCost` written a second time (equal by unfolding): what C14 proves of those holds of these. -/

theorem numWords_eq (n : Nat) (h : n + 31 < U64) : numWords n = Spec.Memory.words n := GasCalc.numWords_eq n h

theorem sq_lt (w : Nat) (h : w < 2^32) : w * w < U64 := by rw [U64_val]; exact GasCalc.sq_lt w h

theorem memoryGas_full (w : Nat) : memoryGas w = min (Spec.Memory.memGas w) (U64 - 1) := GasCalc.memoryGas_full w

theorem memoryGas_eq (w : Nat) (h : w < 2^32) : memoryGas w = Spec.Memory.memGas w := GasCalc.memoryGas_eq w h

theorem memGas_mono {a b : Nat} (h : a ≤ b) : Spec.Memory.memGas a ≤ Spec.Memory.memGas b := GasCalc.memCost_mono a b h

theorem memGas_lt (w : Nat) (h : w < 2^32) : Spec.Memory.memGas w < U64 - 1 := by
  have hs := sq_lt w h
  unfold Spec.Memory.memGas
  have hU := U64_val
  generalize w * w = q at *
  omega

theorem words_mono {a b : Nat} (h : a ≤ b) : Spec.Memory.words a ≤ Spec.Memory.words b := GasCalc.ceil32_mono a b h

theorem numWords_mono {a b : Nat} (h : a ≤ b) : numWords a ≤ numWords b := by
  unfold numWords
  apply Nat.div_le_div_right
  unfold U64ops.saturatingAdd
  split <;> split <;> omega

theorem memoryGas_mono {a b : Nat} (h : a ≤ b) : memoryGas a ≤ memoryGas b := by
  rw [memoryGas_full, memoryGas_full]
  have := memGas_mono h
  omega

theorem memoryGas_le (w : Nat) : memoryGas w ≤ U64 - 1 := by
  rw [memoryGas_full]; omega

theorem memoryGas_small {w : Nat} (h : memoryGas w < U64 - 1) :
    w < 2^37 ∧ memoryGas w = Spec.Memory.memGas w := by
  rw [memoryGas_full] at h
  have hU := U64_val
  have hg : Spec.Memory.memGas w < U64 - 1 := by omega
  refine ⟨?_, by rw [memoryGas_full]; omega⟩
  unfold Spec.Memory.memGas at hg
  refine Decidable.byContradiction fun hw => ?_
  have h1 : 2^37 * 2^37 ≤ w * w := Nat.mul_le_mul (by omega) (by omega)
  have h2 : 2^37 * 2^37 / 512 ≤ w * w / 512 := Nat.div_le_div_right h1
  have h3 : (2:Nat)^37 * 2^37 / 512 = 36893488147419103232 := by decide
  omega

theorem numWords_small {n : Nat} (h : numWords n < 2^37) : n + 31 < U64 := by
  unfold numWords U64ops.saturatingAdd at h
  have hU := U64_val
  split at h
  · assumption
  · omega

theorem numWords_mul32 {w : Nat} (h : w < 2^37) : numWords (32 * w) = w := by
  have hU := U64_val
  unfold numWords U64ops.saturatingAdd
  rw [if_pos (by omega)]; omega

theorem satAdd_eq {a b : Nat} (h : U64ops.saturatingAdd a b < U64 - 1) : U64ops.saturatingAdd a b = a + b := by
  unfold U64ops.saturatingAdd at h ⊢
  split
  · rfl
  · rename_i hh; rw [if_neg hh] at h; omega

theorem words_small {n : Nat} (hw : Spec.Memory.words n < 2^32) : n + 31 < U64 := by
  unfold Spec.Memory.words at hw
  have hU := U64_val
  omega

theorem memoryGas_words {n : Nat} (hw : Spec.Memory.words n < 2^32) :
    memoryGas (numWords n) = Spec.Memory.memGas (Spec.Memory.words n) := by
  rw [numWords_eq _ (words_small hw), memoryGas_eq _ hw]

/-! `resize_memory` under the guard of the `resize_memory!` macro (`new_size > len`; `≥` is enough): the charge
`memory_gas(new words) − current cost` does not wrap. -/

theorem currentCost_le {m : SharedMemory} {newSize : Nat} (h : WF m) (hg : (ctx m).length ≤ newSize) :
    currentExpansionCost m ≤ memoryGas (numWords newSize) := by
  unfold currentExpansionCost
  rw [len_eq h]
  exact memoryGas_mono (numWords_mono hg)

theorem expansion_wsub {m : SharedMemory} {newSize : Nat} (h : WF m) (hg : (ctx m).length ≤ newSize) :
    U64ops.wsub (memoryGas (numWords newSize)) (currentExpansionCost m)
      = memoryGas (numWords newSize) - currentExpansionCost m := by
  have := memoryGas_le (numWords newSize)
  have hU := U64_val
  exact U64ops.wsub_of_le _ _ (by omega) (currentCost_le h hg)

theorem resizeMemory_oog {m : SharedMemory} {rem newSize : Nat} (h : WF m)
    (hg : (ctx m).length ≤ newSize)
    (hc : rem < memoryGas (numWords newSize) - currentExpansionCost m) :
    resizeMemory m rem newSize = .ok (false, m, rem) := by
  unfold resizeMemory
  simp only []
  rw [expansion_wsub h hg, if_neg (Nat.not_le.mpr hc)]

theorem resizeMemory_grow {m : SharedMemory} {rem newSize : Nat} (h : WF m)
    (hg : (ctx m).length ≤ newSize)
    (hc : memoryGas (numWords newSize) - currentExpansionCost m ≤ rem)
    (hlt : memoryGas (numWords newSize) < U64 - 1)
    (hx : m.lastCheckpoint + 32 * Spec.Memory.words newSize ≤ ISIZE_MAX) :
    resizeMemory m rem newSize =
      .ok (true,
           replaceCtx m (ctx m ++ List.replicate (32 * Spec.Memory.words newSize - (ctx m).length) 0),
           rem - (memoryGas (numWords newSize) - currentExpansionCost m)) := by
  have hw := (memoryGas_small hlt).1
  have hnw := numWords_eq _ (numWords_small hw)
  have hU := U64_val
  have hmul : U64ops.wmul (numWords newSize) 32 = 32 * Spec.Memory.words newSize := by
    unfold U64ops.wmul
    rw [Nat.mod_eq_of_lt (by omega), hnw, Nat.mul_comm]
  have hge : (ctx m).length ≤ 32 * Spec.Memory.words newSize := by
    unfold Spec.Memory.words; omega
  have hI := isize_lt_u64
  unfold resizeMemory
  simp only []
  rw [expansion_wsub h hg, if_pos hc, hmul, resize_eq h (by omega), if_pos hx]
  unfold Spec.Memory.resizeF
  rw [List.take_of_length_le hge]

theorem resizeMemory_inv {m m' : SharedMemory} {rem n r' : Nat} {b : Bool}
    (h : resizeMemory m rem n = .ok (b, m', r')) :
    r' ≤ rem ∧ (m' = m ∨ resize m (U64ops.wmul (numWords n) 32) = .ok m') := by
  unfold resizeMemory at h
  dsimp only at h
  split at h
  · cases hr : resize m (U64ops.wmul (numWords n) 32) with
    | ok m2 => rw [hr] at h; cases h; exact ⟨Nat.sub_le _ _, .inr rfl⟩
    | panic => rw [hr] at h; cases h
    | ub => rw [hr] at h; cases h
  · cases h; exact ⟨Nat.le_refl _, .inl rfl⟩

theorem resizeMemoryMacro_inv {m m' : SharedMemory} {rem o l r' : Nat} {b : Bool}
    (h : resizeMemoryMacro m rem o l = .ok (b, m', r')) : r' ≤ rem ∧ (m' = m ∨ ∃ k, resize m k = .ok m') := by
  unfold resizeMemoryMacro at h
  dsimp only at h
  split at h
  · exact (resizeMemory_inv h).imp_right (Or.imp_right fun hk => ⟨_, hk⟩)
  · cases h; exact ⟨Nat.le_refl _, .inl rfl⟩

theorem numWords_satAdd_le (a b : Nat) : numWords (U64ops.saturatingAdd a b) ≤ Spec.Memory.words (a + b) :=
  Nat.div_le_div_right
    (Nat.le_trans (U64ops.satAdd_le _ 31) (Nat.add_le_add_right (U64ops.satAdd_le a b) 31))

/-- `resize_memory!(interp, off, len)` in closed form, while `remaining + C_mem(current) < u64::MAX`: then a charge that
fits into `remaining` cannot have been clamped, so nothing saturates and the `Vec` capacity panic is out of reach. -/
theorem resizeMacro_eq {m : SharedMemory} {rem off len_ : Nat} (h : WF m) (hck : m.lastCheckpoint ≤ 2^62)
    (hm : rem + currentExpansionCost m < U64 - 1) :
    resizeMemoryMacro m rem off len_ =
      if off + len_ ≤ (ctx m).length then .ok (true, m, rem)
      else if rem < Spec.Memory.memGas (Spec.Memory.words (off + len_)) - currentExpansionCost m then .ok (false, m, rem)
      else .ok (true,
        replaceCtx m (ctx m ++ List.replicate (32 * Spec.Memory.words (off + len_) - (ctx m).length) 0),
        rem - (Spec.Memory.memGas (Spec.Memory.words (off + len_)) - currentExpansionCost m)) := by
  have hU := U64_val
  have hcl := ctx_length_lt h
  have hI := h.2.2
  have hle := WF_le h
  unfold resizeMemoryMacro
  simp only []
  rw [len_eq h]
  by_cases hg : U64ops.saturatingAdd off len_ > (ctx m).length
  · have hgn : (ctx m).length < off + len_ := Nat.lt_of_lt_of_le hg (U64ops.satAdd_le off len_)
    have hcc := currentCost_le h (Nat.le_of_lt hg)
    rw [if_pos hg, if_neg (Nat.not_le.mpr hgn)]
    by_cases hc : memoryGas (numWords (U64ops.saturatingAdd off len_)) - currentExpansionCost m ≤ rem
    · have hlt : memoryGas (numWords (U64ops.saturatingAdd off len_)) < U64 - 1 := by omega
      obtain ⟨hw37, hexact⟩ := memoryGas_small hlt
      have hns := numWords_small hw37
      have hsum := satAdd_eq (a := off) (b := len_) (by omega)
      rw [hsum] at hc hlt hw37 hexact hns ⊢
      have hnw := numWords_eq _ hns
      have hcost := hexact.trans (congrArg Spec.Memory.memGas hnw)
      rw [hnw] at hw37
      have hx : m.lastCheckpoint + 32 * Spec.Memory.words (off + len_) ≤ ISIZE_MAX := by unfold ISIZE_MAX; omega
      rw [resizeMemory_grow h (Nat.le_of_lt hgn) hc hlt hx, hcost]
      rw [hcost] at hc
      rw [if_neg (Nat.not_lt.mpr hc)]
    · have h1 : memoryGas (numWords (U64ops.saturatingAdd off len_))
          ≤ Spec.Memory.memGas (Spec.Memory.words (off + len_)) := by
        rw [memoryGas_full]
        exact Nat.le_trans (Nat.min_le_left _ _) (memGas_mono (numWords_satAdd_le off len_))
      rw [resizeMemory_oog h (Nat.le_of_lt hg) (Nat.not_le.mp hc), if_pos (by omega)]
  · have hsum : off + len_ ≤ (ctx m).length := by
      unfold U64ops.saturatingAdd at hg
      unfold ISIZE_MAX at hI
      rw [ctx_length] at hg ⊢
      split at hg <;> omega
    rw [if_neg hg, if_pos hsum]

theorem writeAt_getElem_outside (c : List Nat) (off : Nat) (val : List Nat) (i : Nat)
    (hin : off + val.length ≤ c.length) (hi : i < off ∨ off + val.length ≤ i) :
    (writeAt c off val)[i]? = c[i]? := by
  unfold writeAt
  rw [List.append_assoc, List.getElem?_append]
  have hl : (List.take off c).length = off := by simp [List.length_take]; omega
  rw [hl]
  cases hi with
  | inl h => rw [if_pos h, List.getElem?_take, if_pos h]
  | inr h =>
    rw [if_neg (by omega), List.getElem?_append, if_neg (by omega), List.getElem?_drop]
    congr 1; omega

theorem writeAt_getElem_inside (c : List Nat) (off : Nat) (val : List Nat) (i : Nat)
    (hin : off + val.length ≤ c.length) (hi : i < val.length) :
    (writeAt c off val)[off + i]? = val[i]? := by
  unfold writeAt
  rw [List.append_assoc, List.getElem?_append]
  have hl : (List.take off c).length = off := by simp [List.length_take]; omega
  rw [hl, if_neg (by omega), List.getElem?_append]
  have : off + i - off = i := by omega
  rw [this, if_pos hi]

theorem resizeF_length (n : Nat) (f : Frame) : (Spec.Memory.resizeF n f).length = n := by
  unfold Spec.Memory.resizeF; simp [List.length_append, List.length_take]; omega

theorem resizeF_old (n : Nat) (f : Frame) (i : Nat) (hi : i < n) (hf : i < f.length) :
    (Spec.Memory.resizeF n f)[i]? = f[i]? := by
  unfold Spec.Memory.resizeF
  rw [List.getElem?_append, List.length_take, if_pos (by omega), List.getElem?_take, if_pos hi]

theorem resizeF_new_zero (n : Nat) (f : Frame) (i : Nat) (hi : i < n) (hf : f.length ≤ i) :
    (Spec.Memory.resizeF n f)[i]? = some 0 := by
  unfold Spec.Memory.resizeF
  rw [List.getElem?_append, List.length_take, if_neg (by omega), List.getElem?_replicate,
    if_pos (by omega)]

theorem paddedSlice_getElem (data : List Nat) (dOff len i : Nat) (hi : i < len) :
    (Spec.Memory.paddedSlice data dOff len)[i]? = some ((data[dOff + i]?).getD 0) := by
  unfold Spec.Memory.paddedSlice
  simp only []
  rw [List.getElem?_append]
  by_cases h : dOff + i < data.length
  · have hl : i < (List.take len (List.drop dOff data)).length := by
      simp [List.length_take, List.length_drop]; omega
    rw [if_pos hl, List.getElem?_take, if_pos hi, List.getElem?_drop]
    rw [List.getElem?_eq_getElem h]; rfl
  · have hl : ¬ i < (List.take len (List.drop dOff data)).length := by
      simp [List.length_take, List.length_drop]; omega
    rw [if_neg hl, List.getElem?_replicate]
    have hlen : (List.take len (List.drop dOff data)).length ≤ i := by omega
    have hl2 : (List.take len (List.drop dOff data)).length ≤ len := by simp [List.length_take]; omega
    rw [if_pos (by omega), List.getElem?_eq_none (by omega)]; rfl

/-- `slice`: the bytes of a range inside the running context, the `debug_unreachable!` of `slice_range`
otherwise (never a default value) -/
theorem slice_eq {m : SharedMemory} (h : WF m) {off size : Nat} (ho : off < U64) (hs : size < U64) :
    slice m off size = if off + size ≤ (ctx m).length then .ok (readAt (ctx m) off size) else .ub := by
  have hcl := @ctx_length m
  have hlt := ctx_length_lt h
  unfold slice sliceRange
  rw [if_pos (WF_le h), ← hcl]
  by_cases hin : off + size ≤ (ctx m).length
  · rw [if_pos hin, Nat.mod_eq_of_lt (by omega), if_pos ⟨Nat.le_add_right _ _, hin⟩, readAt_buffer h,
      Nat.add_sub_cancel_left]
  · rw [if_neg hin, if_neg]
    intro hc
    by_cases hw : off + size < U64
    · rw [Nat.mod_eq_of_lt hw] at hc; exact hin hc.2
    · rw [mod_wrap _ _ _ ho hs hw] at hc; omega

theorem slice_value {m : SharedMemory} (h : WF m) (off size : Nat) (hin : off + size ≤ (ctx m).length) :
    slice m off size = .ok (((ctx m).drop off).take size) := by
  have := ctx_length_lt h
  rw [slice_eq h (by omega) (by omega), if_pos hin]
  rfl

theorem set_ctx {m m' : SharedMemory} {off : Nat} {val : List Nat} (h : WF m)
    (ho : off < U64) (hv : val.length < U64) (hne : val ≠ [])
    (hr : Model.Memory.set m off val = .ok m') :
    off + val.length ≤ (ctx m).length ∧ ctx m' = writeAt (ctx m) off val
      ∧ abs m' = ctx m' :: (abs m).tail ∧ WF m' := by
  obtain ⟨h1, h2⟩ := set_head h ho hv hne hr
  rw [h2, replaceCtx_abs h, replaceCtx_ctx h]
  exact ⟨h1, rfl, rfl, replaceCtx_wf h _ (same_len_ok h (writeAt_length _ _ _ h1))⟩

end Revm.Proofs.Memory
