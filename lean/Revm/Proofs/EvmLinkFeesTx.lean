import Revm.Proofs.EvmLinkGasLoop
import Revm.Props.C09
/-! The fees of C09 on a completed executed `Evm.transact`. The first frame's result is an admissible input of C09's
pipeline (`Exec.admissible`: validation, and the gas invariant of the loop); `finish_caller`, `finish_beneficiary`,
`finish_same` say what the two credits of `finish` leave; hence C09's payment theorems on the result of the transaction:
`transact_fees`, `transact_payments` (sender ≠ beneficiary), `transact_sender_is_beneficiary` (`reward_beneficiary`
loads the very account `reimburse_caller` has just written). -/
namespace Revm.Proofs.EvmLink
open Revm Revm.Model Revm.Model.Evm
open Revm.Model.GasCalc (enabled)

/-- the effective gas price / the EIP-4844 fee of the transaction, as C09 computes them -/
abbrev effPrice (e : Evm.Env) (spec : Nat) : Nat := TxGas.effectiveGasPrice (gasEnv e (GasCalc.canon spec))
abbrev blobFeeOf (e : Evm.Env) (spec : Nat) : Nat := Props.C09.blobFee (gasEnv e (GasCalc.canon spec))
/-- what the beneficiary earns per gas: `effective price − base fee` from London, the effective price before -/
abbrev tipPrice (e : Evm.Env) (spec : Nat) : Nat :=
  if enabled (GasCalc.canon spec) GasCalc.SpecId.LONDON = true then effPrice e spec - e.block.basefee else effPrice e spec

/-- the `deduct_caller` inside `prepare` finds the balance validation loaded (`load_accounts` in between leaves it) and
leaves `TxGas.deductCaller info.balance d` -/
theorem deduct_on_validated {e : Evm.Env} {spec : Nat} {w1 wd : World} {info : Journal.Info}
    (hinfo : HasInfo w1.js e.tx.caller info)
    (hd : deductCaller e spec (loadAccounts e spec w1) = .ok wd) :
    ∃ d acc', TxGas.deductAmount (gasEnv e spec) = some d ∧ wd.js.state e.tx.caller = some acc' ∧
      acc'.info.balance = TxGas.deductCaller info.balance d := by
  obtain ⟨acc, d, h3, l⟩ := deductCaller_isLeg hd
  exact ⟨d, _, h3, l.state, by rw [debited_balance, l.found (loadAccounts_info hinfo)]⟩

theorem pipeline_of_deduct (g : TxGas.Env) (fl k : Nat) (fr : TxGas.FrameRes) (d : Nat)
    (h : TxGas.deductAmount g = some d) :
    ∃ o, TxGas.pipeline g fl k fr = some o ∧ o.deducted = d ∧
      o.gasUsed = TxGas.gasUsed (TxGas.finalGas g fl k fr) ∧
      o.reimbursed = TxGas.reimburseAmount g (TxGas.finalGas g fl k fr) ∧
      o.reward = TxGas.rewardAmount g (TxGas.finalGas g fl k fr) := by
  unfold TxGas.pipeline
  rw [h]
  exact ⟨_, rfl, rfl, rfl, rfl, rfl⟩

/-- the first frame's result is an admissible input of C09's pipeline: validation, and the gas invariant of the loop -/
theorem Exec.admissible {fuel : Nat} {w : World} {e : Evm.Env} {spec : Nat} (x : Exec fuel w e spec)
    (hL : e.tx.gasLimit < U64) :
    Props.C09.Admissible (gasEnv e (GasCalc.canon spec)) x.ig x.fg (txFrame e x.ig x.res) :=
  ⟨hL, x.ig_le, x.fg_le, frameAccounting fuel w e spec _ _ _ _ _ x.ffr⟩

/-- the caller's account after `finish`, when the caller is not the beneficiary: the account as the execution left
it plus `TxGas.reimburseAmount` (`saturating_add`) -/
theorem finish_caller (e : Evm.Env) (spec floorGas r7 : Nat) (isCreate : Bool) (res : Interp.ChildResult)
    (w w' : World) (r : TxResult) (h : Evm.finish e spec floorGas r7 isCreate res w = .ok (r, w'))
    (hne : e.tx.caller ≠ e.block.coinbase) :
    ∃ (w1 : World) (c1 : Bool) (cacc acc' : Journal.Acct),
      w.loadAccount e.tx.caller = .ok (w1, c1) ∧ w1.acct e.tx.caller = .ok cacc ∧
      w'.js.state e.tx.caller = some acc' ∧
      acc'.info.balance = U256.saturatingAdd cacc.info.balance
        (TxGas.reimburseAmount (gasEnv e spec) (Evm.finalGas e spec floorGas r7 res)) := by
  obtain ⟨cacc, w2, bacc, cls, l1, l2, _⟩ := finish_stages h
  have hs := (l2.other hne).trans l1.state
  obtain ⟨w1, c1, h1, h2, _⟩ := l1
  exact ⟨w1, c1, cacc, _, h1, acct_of_state h2, hs, rfl⟩

/-- the beneficiary's final balance is `bacc`'s plus `TxGas.rewardAmount` (`saturating_add`). The statement leaves
`w3` and `bacc` untied: that `bacc` is what `load_account(coinbase)` finds after the reimbursement is in
`finish_stages` only -/
theorem finish_beneficiary (e : Evm.Env) (spec floorGas r7 : Nat) (isCreate : Bool) (res : Interp.ChildResult)
    (w w' : World) (r : TxResult) (h : Evm.finish e spec floorGas r7 isCreate res w = .ok (r, w')) :
    ∃ (w3 : World) (bacc acc' : Journal.Acct),
      w3.acct e.block.coinbase = .ok bacc ∧
      w'.js.state e.block.coinbase = some acc' ∧
      acc'.info.balance = U256.saturatingAdd bacc.info.balance
        (TxGas.rewardAmount (gasEnv e spec) (Evm.finalGas e spec floorGas r7 res)) := by
  obtain ⟨cacc, w2, bacc, cls, l1, l2, _⟩ := finish_stages h
  have hs := l2.state
  obtain ⟨w3, c3, h3, h4, _⟩ := l2
  exact ⟨w3, bacc, _, acct_of_state h4, hs, rfl⟩

/-- sender = beneficiary: the reward leg finds the account the reimbursement leg wrote -/
theorem finish_same (e : Evm.Env) (spec floorGas r7 : Nat) (isCreate : Bool) (res : Interp.ChildResult)
    (w w' : World) (r : TxResult) (h : Evm.finish e spec floorGas r7 isCreate res w = .ok (r, w'))
    (heq : e.tx.caller = e.block.coinbase) :
    ∃ (w1 : World) (c1 : Bool) (cacc acc' : Journal.Acct),
      w.loadAccount e.tx.caller = .ok (w1, c1) ∧ w1.acct e.tx.caller = .ok cacc ∧
      w'.js.state e.tx.caller = some acc' ∧
      acc'.info.balance = U256.saturatingAdd (U256.saturatingAdd cacc.info.balance
        (TxGas.reimburseAmount (gasEnv e spec) (Evm.finalGas e spec floorGas r7 res)))
        (TxGas.rewardAmount (gasEnv e spec) (Evm.finalGas e spec floorGas r7 res)) := by
  obtain ⟨cacc, w2, bacc, cls, l1, l2, _⟩ := finish_stages h
  have hb : bacc.info = _ := l2.found ⟨_, heq ▸ l1.state, rfl⟩
  obtain ⟨w1, c1, h1, h2, _⟩ := l1
  exact ⟨w1, c1, cacc, _, h1, acct_of_state h2, heq ▸ l2.state,
    by show U256.saturatingAdd _ _ = _; rw [hb]; rfl⟩

/-- what every payment theorem starts from: the sender as validation loaded it (`accV`), the first frame's result,
the `finish` that ran on it; and, for a 256-bit balance: `deduct_caller` took `gas limit · price + blob fee` from the
validated balance, which covers it and is the reimbursement plus the fee for the gas used; the reward is the tip -/
theorem transact_fees (fuel : Nat) (w w' : World) (e : Evm.Env) (spec : Nat) (r : TxResult)
    (h : Evm.transact fuel w e spec = .ok (.executed r, w'))
    (hL : e.tx.gasLimit < U64) :
    ∃ (w1 : World) (accV : Journal.Acct) (code : List Nat) (ig fg k : Nat) (res : Interp.ChildResult) (w3 : World)
      (isCreate : Bool),
      loadSender w e.tx.caller = .ok (w1, accV, code) ∧
      FirstFrameResult fuel w e spec ig fg k res w3 ∧
      Evm.finish e (GasCalc.canon spec) fg (U64ops.wmul k (Evm.PER_EMPTY_ACCOUNT_COST - Evm.PER_AUTH_BASE_COST))
        isCreate res w3 = .ok (r, w') ∧
      (accV.info.balance < W → ∃ wd accD,
        deductCaller e (GasCalc.canon spec) (loadAccounts e (GasCalc.canon spec) w1) = .ok wd ∧
        wd.js.state e.tx.caller = some accD ∧
        accD.info.balance = accV.info.balance - (e.tx.gasLimit * effPrice e spec + blobFeeOf e spec) ∧
        e.tx.gasLimit * effPrice e spec + blobFeeOf e spec ≤ accV.info.balance ∧
        e.tx.gasLimit * effPrice e spec + blobFeeOf e spec =
          TxGas.reimburseAmount (gasEnv e (GasCalc.canon spec)) (Evm.finalGas e (GasCalc.canon spec) fg
            (U64ops.wmul k (Evm.PER_EMPTY_ACCOUNT_COST - Evm.PER_AUTH_BASE_COST)) res)
          + (effPrice e spec * r.gasUsed + blobFeeOf e spec) ∧
        TxGas.rewardAmount (gasEnv e (GasCalc.canon spec)) (Evm.finalGas e (GasCalc.canon spec) fg
            (U64ops.wmul k (Evm.PER_EMPTY_ACCOUNT_COST - Evm.PER_AUTH_BASE_COST)) res) = tipPrice e spec * r.gasUsed ∧
        tipPrice e spec * r.gasUsed ≤ effPrice e spec * r.gasUsed) := by
  obtain ⟨x, rfl, rfl⟩ := transact_exec h
  refine ⟨x.w1, x.accV, x.code, x.ig, x.fg, x.k, x.res, x.w3, _, x.sender, x.ffr, x.fin, fun hW => ?_⟩
  have hv := x.feeValid
  have hs := x.funded
  have ha := x.admissible hL
  obtain ⟨d, accD, hda, hsD, hbD⟩ := deduct_on_validated x.senderInfo x.deduct
  obtain ⟨o, hpipe, o1, o2, o3, o4⟩ :=
    pipeline_of_deduct (gasEnv e (GasCalc.canon spec)) x.fg x.k (txFrame e x.ig x.res) d hda
  obtain ⟨s1, s2, _, s4, _, _⟩ := Props.C09.sender_pays _ _ _ _ _ ha (feeShape e) _ hW hv hs o hpipe
  obtain ⟨hrle, _⟩ := Props.C09.sender_is_beneficiary _ _ _ _ _ ha (feeShape e) _ hW hv hs o hpipe
  obtain ⟨hmul, _, _, _⟩ := Props.C09.validated_facts _ (feeShape e) _ hv hs
  obtain ⟨b1, _, _, _⟩ := Props.C09.beneficiary_gets _ _ _ _ _ ha hmul o hpipe
  have hu := x.out.2.2.1
  rw [finalGas_eq_txgas e (GasCalc.canon spec) x.fg x.k x.res (U64ops.wsub e.tx.gasLimit x.ig)]
  rw [← o2] at hu
  have hgl : (gasEnv e (GasCalc.canon spec)).gasLimit = e.tx.gasLimit := rfl
  rw [hgl, o1] at s1
  rw [o1] at s2 s4
  have e1 : d = e.tx.gasLimit * effPrice e spec + blobFeeOf e spec := s1
  have hrw : o.reward = tipPrice e spec * x.r.gasUsed := by rw [b1, hu]; rfl
  exact ⟨x.wd, accD, x.deduct, hsD, by rw [hbD, ← e1]; rfl, by rw [← e1]; exact s2, by rw [← e1, ← o3, hu]; exact s4,
    by rw [← o4]; exact hrw, by rw [← hrw, hu]; exact hrle⟩

/-- C09's `sender_pays` and `beneficiary_gets` on a completed executed `Evm.transact`; in the reward conjunct `wy` and
`accB` are tied to nothing, as in `finish_beneficiary` -/
theorem transact_payments (fuel : Nat) (w w' : World) (e : Evm.Env) (spec : Nat) (r : TxResult)
    (h : Evm.transact fuel w e spec = .ok (.executed r, w'))
    (hL : e.tx.gasLimit < U64) :
    ∃ (w1 : World) (accV : Journal.Acct) (code : List Nat) (ig fg k : Nat) (res : Interp.ChildResult) (w3 : World),
      loadSender w e.tx.caller = .ok (w1, accV, code) ∧
      FirstFrameResult fuel w e spec ig fg k res w3 ∧
      (accV.info.balance < W →
        -- the debit
        e.tx.gasLimit * effPrice e spec + blobFeeOf e spec ≤ accV.info.balance ∧
        effPrice e spec * r.gasUsed + blobFeeOf e spec ≤ e.tx.gasLimit * effPrice e spec + blobFeeOf e spec ∧
        (∃ wd accD, deductCaller e (GasCalc.canon spec) (loadAccounts e (GasCalc.canon spec) w1) = .ok wd ∧
          wd.js.state e.tx.caller = some accD ∧
          accD.info.balance = accV.info.balance - (e.tx.gasLimit * effPrice e spec + blobFeeOf e spec)) ∧
        -- the reimbursement
        (e.tx.caller ≠ e.block.coinbase → ∃ (wx : World) (c : Bool) (accX accF : Journal.Acct),
          w3.loadAccount e.tx.caller = .ok (wx, c) ∧ wx.acct e.tx.caller = .ok accX ∧
          w'.js.state e.tx.caller = some accF ∧
          accF.info.balance = U256.saturatingAdd accX.info.balance
            (e.tx.gasLimit * effPrice e spec + blobFeeOf e spec - (effPrice e spec * r.gasUsed + blobFeeOf e spec))) ∧
        -- the reward
        (∃ (wy : World) (accB accG : Journal.Acct), wy.acct e.block.coinbase = .ok accB ∧
          w'.js.state e.block.coinbase = some accG ∧
          accG.info.balance = U256.saturatingAdd accB.info.balance (tipPrice e spec * r.gasUsed))) := by
  obtain ⟨w1, accV, code, ig, fg, k, res, w3, isCreate, hl, hff, hfin, hfees⟩ := transact_fees fuel w w' e spec r h hL
  refine ⟨w1, accV, code, ig, fg, k, res, w3, hl, hff, fun hW => ?_⟩
  obtain ⟨wd, accD, hd, hsD, hbD, hle, hsum, hrew, _⟩ := hfees hW
  refine ⟨hle, by omega, ⟨wd, accD, hd, hsD, hbD⟩, fun hne => ?_, ?_⟩
  · obtain ⟨wx, c, accX, accF, x1, x2, x3, x4⟩ := finish_caller e _ fg _ isCreate res w3 w' r hfin hne
    refine ⟨wx, c, accX, accF, x1, x2, x3, ?_⟩
    rw [x4]
    congr 1
    omega
  · obtain ⟨wy, accB, accG, y1, y2, y3⟩ := finish_beneficiary e _ fg _ isCreate res w3 w' r hfin
    exact ⟨wy, accB, accG, y1, y2, by rw [y3, hrew]⟩

/-- C09 `sender_is_beneficiary` on a completed executed `Evm.transact` -/
theorem transact_sender_is_beneficiary (fuel : Nat) (w w' : World) (e : Evm.Env) (spec : Nat) (r : TxResult)
    (h : Evm.transact fuel w e spec = .ok (.executed r, w')) (hL : e.tx.gasLimit < U64)
    (heq : e.tx.caller = e.block.coinbase) :
    ∃ (w1 : World) (accV : Journal.Acct) (code : List Nat) (ig fg k : Nat) (res : Interp.ChildResult) (w3 : World),
      loadSender w e.tx.caller = .ok (w1, accV, code) ∧
      FirstFrameResult fuel w e spec ig fg k res w3 ∧
      (accV.info.balance < W →
        tipPrice e spec * r.gasUsed ≤ effPrice e spec * r.gasUsed ∧
        ∃ (wx : World) (c : Bool) (accX accF : Journal.Acct),
          w3.loadAccount e.tx.caller = .ok (wx, c) ∧ wx.acct e.tx.caller = .ok accX ∧
          w'.js.state e.tx.caller = some accF ∧
          accF.info.balance = U256.saturatingAdd (U256.saturatingAdd accX.info.balance
            (e.tx.gasLimit * effPrice e spec + blobFeeOf e spec - (effPrice e spec * r.gasUsed + blobFeeOf e spec)))
            (tipPrice e spec * r.gasUsed)) := by
  obtain ⟨w1, accV, code, ig, fg, k, res, w3, isCreate, hl, hff, hfin, hfees⟩ := transact_fees fuel w w' e spec r h hL
  refine ⟨w1, accV, code, ig, fg, k, res, w3, hl, hff, fun hW => ?_⟩
  obtain ⟨_, _, _, _, _, _, hsum, hrew, hle⟩ := hfees hW
  refine ⟨hle, ?_⟩
  obtain ⟨wx, c, accX, accF, x1, x2, x3, x4⟩ := finish_same e _ fg _ isCreate res w3 w' r hfin heq
  refine ⟨wx, c, accX, accF, x1, x2, x3, ?_⟩
  rw [x4, hrew]
  congr 2
  omega

end Revm.Proofs.EvmLink
