import Revm.Proofs.EvmStep2Run
/-! The instructions that work on the frame's memory and on no account: MLOAD, MSTORE, MSTORE8, MCOPY; CALLDATACOPY,
CODECOPY, RETURNDATACOPY (with CALLDATALOAD and BLOBHASH, the other reads of the environment at a popped index); those that
end a legacy frame (STOP, RETURN, REVERT, INVALID, unknown opcodes and the EOF-only opcode bytes); KECCAK256 (asks for a
hash) and LOG0 … LOG4 (hands over a log). For each, `Interp.step` is the rule of `Spec/EvmRules2.lean`. The instructions
that read or change accounts and storage through the host are in `EvmStep2State`. -/
namespace Revm.Proofs.EvmStep2
open Revm Revm.Model Revm.Model.Interp
open Revm.Spec.EvmRules Revm.Spec.EvmRules2
open Revm.Proofs.EvmStep

theorem step_mload (s : IState) (hcode : s.code[s.pc]? = some 0x51) (hwf : WFM s) :
    step s = .pure (mloadRule s) :=
  step_pure hcode rfl <| by
    unfold mloadI mloadRule needGas memAccess
    exact gas_run hwf.inv fun h1 => popTop1_run h1 fun off rest hrev hoff => usize_run hoff fun ho =>
      resize_run h1 fun h2 hcov => ok_run (memGetU256_eq _ off h2.wf hcov) <| by
        rw [setTop_cons _ (setMem (charge (charge (adv s) GasCalc.VERYLOW) _) _) off rest (List.reverse_eq_iff.mp hrev)]
        rfl

/-- the common part of MSTORE / MSTORE8: `gas!; pop!(offset, value); as_usize_or_fail!; resize_memory!(offset, n)` and a
write `wr` of the `n` bytes `bytes value` at `offset` -/
theorem store_run (s : IState) (hwf : WFM s) (n : Nat) (wr : Nat → Nat → M Unit)
    (bytes : Nat → List Nat)
    (hwr : ∀ (s' : IState) (off v : Nat), Proofs.Memory.WF s'.mem → off + n ≤ (memOf s').length →
      wr off v s' = .ok () (setMem s' (store (memOf s') off (bytes v)))) :
    ((do gasCharge GasCalc.VERYLOW
         let (offset, value) ← pop2
         let offset ← asUsizeOrFail offset
         resizeMem offset n
         wr offset value : M Unit) (adv s)).toDone =
      needGas (adv s) GasCalc.VERYLOW fun s1 =>
        match s.stack.reverse with
        | off :: v :: rest =>
          let s2 := { s1 with stack := rest.reverse }
          if U64 ≤ off then .halt .InvalidOperandOOG [] s2
          else memAccess s2 off n fun s3 => .next (setMem s3 (store (memOf s3) off (bytes v)))
        | _ => .halt .StackUnderflow [] s1 := by
  unfold needGas memAccess
  exact gas_run hwf.inv fun h1 => pop2_run h1 fun off v rest _ hoff _ h2 => usize_run hoff fun ho =>
    resize_run h2 fun h3 hcov => congrArg Exec.toDone (hwr _ off v h3.wf hcov)

theorem step_mstore (s : IState) (hcode : s.code[s.pc]? = some 0x52) (hwf : WFM s) :
    step s = .pure (mstoreRule s) :=
  step_pure hcode rfl (store_run s hwf 32 memSetU256 wordBytes fun s' off v => memSetU256_eq s' off v)

theorem step_mstore8 (s : IState) (hcode : s.code[s.pc]? = some 0x53) (hwf : WFM s) :
    step s = .pure (mstore8Rule s) :=
  step_pure hcode rfl (store_run s hwf 1 (fun off v => memSetByte off (v % 256)) (fun v => [v % 256])
    fun s' off v => memSetByte_eq s' off (v % 256))

theorem step_mcopy (s : IState) (hcode : s.code[s.pc]? = some 0x5e) (hwf : WFM s) :
    step s = .pure (mcopyRule s) :=
  step_pure hcode rfl <| by
    unfold mcopyI mcopyRule needGas memAccess
    refine check_run <| pop3_run hwf.inv fun dst src len rest _ hdst hsrc hlen h1 => usize_run hlen fun hl =>
      gasOrFail_run h1 (copyCharge_eq _ len hl h1.bound) fun h2 => ite_run (fun _ => rfl) fun hz => ?_
    rw [ite_or]
    exact usize_run hdst fun hd => usize_run hsrc fun hs => resize_run h2 fun h3 hcov =>
      congrArg Exec.toDone (memCopy_eq _ dst src len h3.wf (by omega) (by omega))

/-- `as_usize_saturated!` on the data offset reads the same bytes as the unbounded offset: both lie behind the end of any
Rust slice once they differ -/
theorem paddedSlice_sat (data : List Nat) (d len : Nat) (hd : data.length ≤ Memory.ISIZE_MAX) :
    Spec.Memory.paddedSlice data (asUsizeSat d) len = Spec.Memory.paddedSlice data d len := by
  have hI := Proofs.Memory.isize_lt_u64
  unfold asUsizeSat U256.asU64Sat
  by_cases h : d < U64
  · rw [if_pos h]
  · rw [if_neg h]
    unfold Spec.Memory.paddedSlice
    rw [List.drop_of_length_le (by omega), List.drop_of_length_le (by omega)]

theorem copyToMem_run (data : IState → List Nat) (guard : M Unit) (s : IState) (hwf : WFM s)
    (hd : (data s).length ≤ Memory.ISIZE_MAX)
    (hinv : ∀ a b : IState, a.input = b.input → a.code = b.code → a.origLen = b.origLen → data a = data b)
    (hguard : ∀ s' : IState, s'.isEof = s.isEof → guard s' = .ok () s') :
    (copyToMem data guard (adv s)).toDone = copyRule (data s) s := by
  unfold copyToMem copyRule needGas memAccess
  exact pop3_run hwf.inv fun memOff dataOff len rest _ hmo _ hlen h1 => usize_run hlen fun hl =>
    gasOrFail_run h1 (copyCharge_eq _ len hl h1.bound) fun h2 => ite_run (fun _ => rfl) fun _ =>
      usize_run hmo fun hm => resize_run h2 fun h3 hcov => ok_run (hguard _ rfl) <| getS_run <| by
        rw [hinv _ s ?_ ?_ ?_, memSetData_eq _ memOff (asUsizeSat dataOff) len (data s) h3.wf hd (asUsizeSat_lt _) hcov,
          paddedSlice_sat _ _ _ hd]
        all_goals rfl

theorem step_calldatacopy (s : IState) (hcode : s.code[s.pc]? = some 0x37) (hwf : WFM s) :
    step s = .pure (calldatacopyRule s) :=
  step_pure hcode rfl
    (copyToMem_run (fun s => s.input) (pure ()) s hwf hwf.inputLen (fun _ _ h _ _ => h) fun _ _ => rfl)

theorem step_codecopy (s : IState) (hcode : s.code[s.pc]? = some 0x39) (hwf : WFM s) (hleg : s.isEof = false) :
    step s = .pure (codecopyRule s) :=
  step_pure hcode rfl
    (copyToMem_run (fun s => s.code.take s.origLen) assumeNotEof s hwf
      (by have := hwf.codeLen; rw [List.length_take]; omega) (fun a b _ h1 h2 => by simp only [h1, h2])
      fun s' he => by simp [assumeNotEof, he.trans hleg])

/-- the bounds check of RETURNDATACOPY on saturated 64-bit values is the check on the unbounded sum -/
theorem oob_iff (rdLen off len : Nat) (h : rdLen ≤ Memory.ISIZE_MAX) :
    U64ops.saturatingAdd (asUsizeSat off) len > rdLen ↔ rdLen < off + len := by
  have hI : Memory.ISIZE_MAX = 9223372036854775807 := by unfold Memory.ISIZE_MAX; rfl
  have hU := U64_val
  unfold U64ops.saturatingAdd asUsizeSat U256.asU64Sat
  rw [hU]; rw [hI] at h
  constructor
  · intro hh; split at hh <;> split at hh <;> omega
  · intro hh; split <;> split <;> omega

theorem step_returndatacopy (s : IState) (hcode : s.code[s.pc]? = some 0x3e) (hwf : WFM s) :
    step s = .pure (returndatacopyRule s) :=
  step_pure hcode rfl <| by
    have hd := hwf.returnLen
    unfold returndatacopyI returndatacopyRule needGas memAccess
    exact check_run <| pop3_run hwf.inv fun memOff off len rest _ hmo _ hlen h1 => usize_run hlen fun hl =>
      gasOrFail_run h1 (copyCharge_eq _ len hl h1.bound) fun h2 => getS_run <|
        ite_iff_run (and_congr_left fun _ => oob_iff _ off len hd) (fun _ => rfl) fun _ => ite_run (fun _ => rfl) fun _ =>
          usize_run hmo fun hm => resize_run h2 fun h3 hcov => by
            rw [← paddedSlice_sat _ off len hd]
            exact congrArg Exec.toDone
              (memSetData_eq _ memOff (asUsizeSat off) len s.returnData h3.wf hd (asUsizeSat_lt _) hcov)

theorem beNat_zeros (n : Nat) : beNat (List.replicate n 0) = 0 := by
  induction n with
  | zero => rfl
  | succ n ih => simp [List.replicate_succ, Spec.Stack.beNat, ih]

theorem cdl_word (input : List Nat) (off : Nat) (h : input.length ≤ Memory.ISIZE_MAX) :
    (if asUsizeSat off < input.length then
       wordOfBytesPadded ((input.drop (asUsizeSat off)).take (min 32 (input.length - asUsizeSat off)))
     else 0) = beNat (Spec.Memory.paddedSlice input off 32) := by
  rw [← paddedSlice_sat input off 32 h]
  generalize asUsizeSat off = o
  unfold Spec.Memory.paddedSlice
  simp only []
  by_cases ho : o < input.length
  · rw [if_pos ho]
    have e : (input.drop o).take (min 32 (input.length - o)) = (input.drop o).take 32 := by
      rw [List.take_eq_take_min (l := input.drop o) (i := 32), List.length_drop]
    rw [e]
    unfold wordOfBytesPadded
    exact beToNat_eq _
  · rw [if_neg ho, List.drop_of_length_le (by omega)]
    simp only [List.take_nil, List.length_nil, List.nil_append]
    exact (beNat_zeros _).symm

theorem step_calldataload (s : IState) (hcode : s.code[s.pc]? = some 0x35) (hwf : WFM s) :
    step s = .pure (calldataloadRule s) :=
  step_pure hcode rfl <| unop_run _ _ _ s hwf.inv fun a => by
    show setTop (if asUsizeSat a < s.input.length then
        wordOfBytesPadded ((s.input.drop (asUsizeSat a)).take (min 32 (s.input.length - asUsizeSat a)))
      else 0) _ = _
    rw [cdl_word s.input a hwf.inputLen]

theorem step_blobhash (s : IState) (hcode : s.code[s.pc]? = some 0x49) (hwf : WFM s) :
    step s = .pure (blobhashRule s) :=
  step_pure hcode rfl <| by
    unfold blobhashI blobhashRule
    exact check_run <| unop_run _ _ _ s hwf.inv fun a => by
      show setTop (match s.env.blobHashes[asUsizeSat a]? with | some h => h | none => 0) _ = _
      rw [asUsizeSat_min]
      cases s.env.blobHashes[min a (U64 - 1)]? <;> rfl

theorem step_stop (s : IState) (hcode : s.code[s.pc]? = some 0x00) : step s = .pure (stopRule s) :=
  step_eq s _ hcode

theorem step_invalid (s : IState) (hcode : s.code[s.pc]? = some 0xfe) : step s = .pure (invalidRule s) :=
  step_eq s _ hcode

theorem step_unknown (s : IState) (op : Nat) (hcode : s.code[s.pc]? = some op) (hdec : decode op = .unknown) :
    step s = .pure (unknownRule s) := by
  rw [step_eq s op hcode, hdec]
  rfl

theorem return_run (r : IResult) (s : IState) (hwf : WFM s) : (returnInner r (adv s)).toDone = returnRule r s := by
  unfold returnInner returnRule memAccess
  exact pop2_run hwf.inv fun off len rest _ hoff hlen h1 => usize_run hlen fun hl =>
    ite_not_run (fun _ => usize_run hoff fun ho => resize_run h1 fun h2 hcov => slice_run h2 hcov rfl)
      fun _ => rfl

theorem step_return (s : IState) (hcode : s.code[s.pc]? = some 0xf3) (hwf : WFM s) : step s = .pure (retRule s) :=
  step_pure hcode rfl (return_run .Return s hwf)

theorem step_revert (s : IState) (hcode : s.code[s.pc]? = some 0xfd) (hwf : WFM s) :
    step s = .pure (revertRule s) :=
  step_pure hcode rfl <| by
    unfold revertI revertRule
    exact check_run (return_run .Revert s hwf)

def isEofOnly : Instr → Bool
  | .eofcreate | .extcall | .extdelegatecall | .extstaticcall | .rjump | .rjumpi | .rjumpv | .callf | .retf | .jumpf | .dupn | .swapn | .exchange
  | .dataload | .dataloadn | .datasize | .datacopy | .returndataload => true
  | _ => false

theorem step_eofOnly (s : IState) (op : Nat) (hcode : s.code[s.pc]? = some op) (hdec : isEofOnly (decode op) = true)
    (hl : Legacy s) : step s = .pure (eofOnlyRule s) := by
  rw [step_eq s op hcode]
  show execInstr (decode op) (adv s) = .pure (.halt .EOFOpcodeDisabledInLegacy [] (adv s))
  -- each of the 18 handlers begins with `require_eof!`: once `isEof` is literally `false` it stops there by computation
  generalize hs1 : adv s = s1
  have h1 : s1.isEof = false := by rw [← hs1]; exact hl.1
  generalize decode op = i at hdec
  cases s1
  simp only at h1
  subst h1
  cases i <;> first | exact Bool.noConfusion hdec | rfl

theorem step_returnContract (s : IState) (hcode : s.code[s.pc]? = some 0xee) (hl : Legacy s) :
    step s = .pure (returnContractRule s) :=
  step_pure hcode rfl <| by
    have hr : requireInitEof (adv s) = .halt .ReturnContractInNotInitEOF [] (adv s) := by
      simp [requireInitEof, show (adv s).isEofInit = false from hl.2]
    unfold returnContractI
    exact halt_run hr

def keccakRun : Exec (Option (List Nat)) → Outcome
  | .ok none s' => .pure (setTop KECCAK_EMPTY s').toDone
  | .ok (some data) s' => .host (.keccak data) (fun r => (setTop r.word s').toDone)
  | .halt r o s' => .halt r o s'
  | .fault f => .fault f

theorem step_keccak (s : IState) (hcode : s.code[s.pc]? = some 0x20) (hwf : WFM s) : step s = keccakRule s := by
  rw [step_eq s _ hcode]
  unfold keccakRule needGasO memAccessO
  show keccakRun (keccakPre (adv s)) = _
  unfold keccakPre
  exact popTop2_run hwf.inv fun off len rest _ hoff hlen h1 => usize_run hlen fun hl =>
    gasOrFail_run h1 (keccakCharge_eq _ len hl h1.bound) fun h2 => ite_run
      (fun _ => congrArg Outcome.pure (by rw [setTop_cons _ (charge _ _) len rest rfl]; rfl))
      fun _ => usize_run hoff fun ho => resize_run h2 fun h3 hcov => slice_run h3 hcov (by
        show Outcome.host (.keccak _) _ = _
        refine congrArg _ (funext fun r => ?_)
        rw [setTop_cons _ (setMem (charge (charge { adv s with stack := (len :: rest).reverse } _) _) _) len rest rfl]
        rfl)

/-- the tail of `log::<N>` after gas and memory: `pop!` of the topics and the host call -/
theorem logTail_eq (n : Nat) (s : IState) (rest data : List Nat) (hst : s.stack = rest.reverse) :
    hostCall (popN n >>= fun topics => getS >>= fun s' =>
              (pure (HostOp.log s'.target topics data, ()) : M (HostOp × Unit)))
      (fun (_ : Unit) (_ : HostResp) => (pure () : M Unit)) s = logEmit n s rest data := by
  unfold logEmit
  by_cases hn : rest.length < n
  · rw [if_pos hn, hostCall_halt _ _ _ _ _ _ _ (popN_underflow s n (by rw [hst]; simpa using hn))]
  · rw [if_neg hn]
    have hsplit : s.stack = (rest.drop n).reverse ++ (rest.take n).reverse := by
      rw [hst, ← List.reverse_append, List.take_append_drop]
    have hlen : (rest.take n).length = n := by rw [List.length_take]; omega
    have hp := popN_ok s (rest.drop n).reverse (rest.take n) hsplit
    rw [hlen] at hp
    rw [hostCall_ok _ _ _ _ _ _ hp, hostCall_ok _ _ _ _ _ _ (getS_ok _)]
    rfl

theorem step_log (s : IState) (n : Fin 5) (hcode : s.code[s.pc]? = some (0xa0 + n.val)) (hwf : WFM s) :
    step s = logRule n.val s := by
  rw [step_eq s _ hcode, decode_log n]
  unfold logRule needGasO memAccessO
  show hostRun _ (_ : Exec _) = _
  exact nonStatic_run <| pop2_run hwf.inv fun off len rest _ hoff hlen h1 => usize_run hlen fun hl =>
    gasOrFail_run h1 (logCharge_eq _ n.val len h1.gas) fun h2 => ite_bind_run
      (fun _ => logTail_eq n.val _ rest [] rfl)
      fun _ => assoc_run <| usize_run hoff fun ho => assoc_run <| resize_run h2 fun h3 hcov =>
        slice_run h3 hcov (logTail_eq n.val _ rest _ rfl)

end Revm.Proofs.EvmStep2
