import Revm.Model.EofValidate
import Revm.Model.InterpWf
import Revm.Proofs.TableRow
/-! C25 ↔ C26, the opcode tables: the table of C25's interpreter model (`decode`) against the table of C26's validator
model (`opInfo`), entry by entry. -/
namespace Revm.Proofs.Interp
open Revm Revm.Model Revm.Model.Interp

/-- tags of the instructions whose immediates refer to the container -/
def eofTag : Instr → Nat
  | .callf => 1 | .jumpf => 2 | .eofcreate => 3 | .returnContract => 4 | .rjump => 5 | .rjumpi => 6 | .rjumpv => 7
  | .codesize => 8 | .codecopy => 9 | .retf => 10 | _ => 0

def byteTag (op : Nat) : Nat :=
  if op = 0xe3 then 1 else if op = 0xe5 then 2 else if op = 0xec then 3 else if op = 0xee then 4
  else if op = 0xe0 then 5 else if op = 0xe1 then 6 else if op = 0xe2 then 7
  else if op = 0x38 then 8 else if op = 0x39 then 9 else if op = 0xe4 then 10 else 0

/-- `instrLenOf` without the RJUMPV table -/
def staticLen : Instr → Nat
  | .push n => n.val + 2
  | .rjump | .rjumpi | .callf | .jumpf | .dataloadn => 3
  | .rjumpv => 2
  | .dupn | .swapn | .exchange | .eofcreate | .returnContract => 2
  | _ => 1

def immOf (op : Nat) : Nat :=
  match EofValidate.opInfo op with
  | some inf => inf.imm
  | none => 0

def termOf (op : Nat) : Bool :=
  match EofValidate.opInfo op with
  | some inf => inf.terminating
  | none => false

def notEofOf (op : Nat) : Bool :=
  match EofValidate.opInfo op with
  | some inf => inf.notEof
  | none => true

def entryAgrees : Option EofValidate.OpInfo × Nat → Bool
  | (inf, op) =>
    let imm := (inf.map (·.imm)).getD 0
    let term := (inf.map (·.terminating)).getD false
    let notEof := (inf.map (·.notEof)).getD true
    eofTag (decode op) == byteTag op && staticLen (decode op) == 1 + imm &&
    ((byteTag op != 8 && byteTag op != 9) || notEof) &&
    (byteTag op != 7 || inf.isSome) &&
    (!term || notEof || terminating (decode op))

/-- one `all` over `opTable` as a list decides the 256 entries; `opInfo op` per `op` is an array read for the kernel to
unfold each time -/
theorem opTable_agrees :
    (EofValidate.opTable.size == 256 && EofValidate.opTable.toList.zipIdx.all entryAgrees) = true := by
  decide +kernel

/-- `opInfo` is itself checked against `OPCODE_INFO_JUMPTABLE` of the compiled code (`Props.C26.opTable_matches_code`).
Same immediate sizes, the container-related opcodes are the same bytes, CODESIZE / CODECOPY are disabled in EOF, what
the validator calls terminating (and allows in EOF) the interpreter model calls terminating. -/
theorem opcode_tables_agree : (List.range 256).all (fun op =>
    eofTag (decode op) == byteTag op && staticLen (decode op) == 1 + immOf op &&
    ((byteTag op != 8 && byteTag op != 9) || notEofOf op) &&
    (byteTag op != 7 || (EofValidate.opInfo op).isSome) &&
    (!(termOf op) || notEofOf op || terminating (decode op))) = true := by
  obtain ⟨hsize, hall⟩ := Bool.and_eq_true_iff.mp opTable_agrees
  refine List.all_eq_true.mpr fun op hop => ?_
  have hi : op < EofValidate.opTable.toList.length := by
    rw [Array.length_toList, beq_iff_eq.mp hsize]; exact List.mem_range.mp hop
  have h := zipIdx_all_getD hall hi none
  have e : EofValidate.opInfo op = EofValidate.opTable.toList.getD op none := by
    rw [EofValidate.opInfo, List.getD_eq_getElem?_getD, ← Array.getElem?_toList, List.getElem?_eq_getElem hi]; rfl
  unfold immOf termOf notEofOf
  rw [e]
  generalize EofValidate.opTable.toList.getD op none = inf at h ⊢
  cases inf <;> exact h

end Revm.Proofs.Interp
