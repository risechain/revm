import Revm.Model.Arith
import Revm.Spec.Arith
/-! The gas of EXP: the limb scan `log2floor` is `Nat.log2` (`log2floor_eq`), hence `exp_cost` is the Spec's formula on the
byte length of the exponent, with no overflow (`expCost_eq`). The one gas formula among the arithmetic opcodes; the
formulas of `GasCalc` start from it. -/
namespace Revm.Proofs.Arith
open Revm Revm.U256 Revm.Model.Arith

theorem log2_split (v k : Nat) (h : v / 2^k ≠ 0) : v.log2 = k + (v / 2^k).log2 := by
  have hv : v ≠ 0 := by
    intro h0; subst h0; simp at h
  have hd : 0 < 2^k := Nat.two_pow_pos _
  rw [Nat.log2_eq_iff hv]
  have h1 := Nat.log2_self_le h
  have h2 := Nat.lt_log2_self (n := v / 2^k)
  generalize (v / 2^k).log2 = e at h1 h2
  constructor
  · rw [Nat.pow_add]
    have := (Nat.le_div_iff_mul_le hd).1 h1
    rw [Nat.mul_comm]; exact this
  · have := (Nat.div_lt_iff_lt_mul hd).1 h2
    have e2 : 2^(k + e + 1) = 2^(e+1) * 2^k := by rw [← Nat.pow_add]; congr 1; omega
    rw [e2]; exact this

theorem log2floorFrom_eq (n : Nat) : ∀ v, v < 2^(64 * n) →
    log2floorFrom v n (64 * n) = if v = 0 then 0 else v.log2 := by
  induction n with
  | zero => intro v hv; have : v = 0 := by simpa using hv
            subst this; simp [log2floorFrom]
  | succ n ih =>
    intro v hv
    unfold log2floorFrom
    have hd : 0 < 2^(64*n) := Nat.two_pow_pos _
    have hq : v / 2^(64*n) < 2^64 := by
      rw [Nat.div_lt_iff_lt_mul hd, ← Nat.pow_add]
      have : 64 + 64 * n = 64 * (n+1) := by omega
      rw [this]; exact hv
    have hl : limb v n = v / 2^(64*n) := by unfold limb; exact Nat.mod_eq_of_lt hq
    rw [hl]
    by_cases h0 : v / 2^(64*n) = 0
    · have hv' : v < 2^(64*n) := (Nat.div_eq_zero_iff.mp h0).resolve_left (Nat.ne_of_gt hd)
      simp only [h0, if_true]
      have : 64 * (n+1) - 64 = 64 * n := by omega
      rw [this]; exact ih v hv'
    · have hv0 : v ≠ 0 := by intro h; subst h; simp at h0
      simp only [h0, hv0, if_false]
      have hsp := log2_split v (64*n) h0
      have hlog : (v / 2^(64*n)).log2 < 64 := (Nat.log2_lt h0).2 hq
      unfold lz64
      simp only [h0, if_false]
      generalize (v / 2^(64*n)).log2 = e at *
      have : 64 * (n+1) - (63 - e) = 64 * n + e + 1 := by omega
      rw [this]
      have : ¬ (64 * n + e + 1 = 0) := by omega
      simp only [this, if_false]; omega

theorem log2floor_eq (v : Nat) (hv : v < W) : log2floor v = if v = 0 then 0 else v.log2 :=
  log2floorFrom_eq 4 v hv

theorem expCost_eq (sd : Bool) (p : Nat) (hp : p < W) :
    Model.Arith.expCost sd p = some (Spec.Arith.expCost sd p) := by
  have hW := W_val
  have hU := U64_val
  unfold Model.Arith.expCost Spec.Arith.expCost Spec.Arith.byteLen
  by_cases h0 : p = 0
  · simp [h0]
  · simp only [h0, if_false]
    rw [log2floor_eq p hp]; simp only [h0, if_false]
    have hlog : p.log2 < 256 := (Nat.log2_lt h0).2 hp
    generalize p.log2 = e at hlog
    unfold checkedMul checkedAdd
    cases sd
    · have h1 : 10 * (e / 8 + 1) < W := by omega
      have h2 : 10 + 10 * (e / 8 + 1) < W := by omega
      have h3 : 10 + 10 * (e / 8 + 1) < U64 := by omega
      simp [h1, h2, h3]
    · have h1 : 50 * (e / 8 + 1) < W := by omega
      have h2 : 10 + 50 * (e / 8 + 1) < W := by omega
      have h3 : 10 + 50 * (e / 8 + 1) < U64 := by omega
      simp [h1, h2, h3]

end Revm.Proofs.Arith
