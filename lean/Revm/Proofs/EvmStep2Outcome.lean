import Revm.Proofs.EvmStep2Run
import Revm.Spec.EvmRules2Call
import Revm.Proofs.MemoryOutcome
/-! Re-entry of a child's result: `Interpreter::insert_call_outcome` / `insert_create_outcome` are the rules
`insertCallOutcomeRule` / `insertCreateOutcomeRule` of `Spec/EvmRules2Call.lean`. -/
namespace Revm.Proofs.EvmStep2
open Revm Revm.Model Revm.Model.Interp
open Revm.Spec.EvmRules Revm.Spec.EvmRules2
open Revm.Proofs.EvmStep
open Revm.Proofs.MemoryOutcome (gasBack)

theorem outcome_push_ok (v : Nat) (s : IState) (h : s.stack.length < 1024) :
    push v s = .ok () { s with stack := s.stack ++ [v] } := by
  have hne : ¬ s.stack.length = Stack.STACK_LIMIT := by unfold Stack.STACK_LIMIT; omega
  unfold push Stack.push
  rw [if_neg hne]

/-- the meter the code leaves (`erase_cost`, `record_refund`) is `settle` of the unbounded meter, while nothing wraps -/
theorem gasBack_settle (o : ChildResult) (g : Gas.Gas) (hx : o.gasRemaining + g.remaining < U64)
    (h0 : -(2^62 : Int) ≤ g.refunded ∧ g.refunded ≤ 2^62) (h1 : -(2^62 : Int) ≤ o.gasRefunded ∧ o.gasRefunded < 2^62) :
    Spec.Gas.abs (gasBack o g) = settle (Spec.Gas.abs g) o := by
  have ha : U64ops.wadd g.remaining o.gasRemaining = g.remaining + o.gasRemaining :=
    Proofs.Gas.wadd_of_lt _ _ (by omega)
  have hb : Gas.i64WrapAdd g.refunded o.gasRefunded = g.refunded + o.gasRefunded :=
    Proofs.Gas.i64WrapAdd_exact _ _ (by unfold Gas.I64MIN; omega) (by unfold Gas.I64MAX; omega)
  unfold gasBack settle Gas.recordRefund Gas.eraseCost Spec.Gas.refund Spec.Gas.giveBack Spec.Gas.abs
  split
  · simp only []; rw [ha, hb]
  · split
    · simp only []; rw [ha]
    · rfl

theorem outcome_write (s1 : IState) (retStart retEnd : Nat) (out : List Nat) (hm : Proofs.Memory.WF s1.mem)
    (hwin : retStart < retEnd → retEnd ≤ (memOf s1).length) :
    liftMemWrite (fun m => Memory.set m retStart (out.take (min (retEnd - retStart) out.length))) s1
      = .ok () (if min (retEnd - retStart) out.length ≠ 0
                then setMem s1 (store (memOf s1) retStart (out.take (min (retEnd - retStart) out.length))) else s1) := by
  by_cases hn : min (retEnd - retStart) out.length = 0
  · rw [if_neg (fun hne => hne hn), hn]
    rfl
  · rw [if_pos hn]
    have hlen : (out.take (min (retEnd - retStart) out.length)).length = min (retEnd - retStart) out.length := by
      rw [List.length_take]; omega
    have hne : out.take (min (retEnd - retStart) out.length) ≠ [] := by
      intro e; rw [e] at hlen; exact hn hlen.symm
    have hw := hwin (by omega)
    exact memSet_eq s1 retStart _ hm hne (by rw [hlen]; omega)

/-- the write into the return window and the status word, common to a child that returned and one that reverted -/
theorem outcome_tail (s1 : IState) (retStart retEnd : Nat) (out : List Nat) (v : Nat)
    (hm : Proofs.Memory.WF s1.mem) (hwin : retStart < retEnd → retEnd ≤ (memOf s1).length)
    (hd : s1.stack.length < 1024) :
    ((liftMemWrite (fun m => Memory.set m retStart (out.take (min (retEnd - retStart) out.length))) >>= fun _ =>
        push v) s1).toDone =
      .next { (if min (retEnd - retStart) out.length ≠ 0
               then setMem s1 (store (memOf s1) retStart (out.take (min (retEnd - retStart) out.length))) else s1)
              with stack := s1.stack ++ [v] } := by
  refine ok_run (outcome_write s1 retStart retEnd out hm hwin) ?_
  by_cases hn : min (retEnd - retStart) out.length = 0
  · rw [if_neg (fun hne => hne hn), outcome_push_ok _ _ hd]
    rfl
  · rw [if_pos hn, outcome_push_ok _ _ (by exact hd)]
    rfl

/-- `Interpreter::insert_call_outcome` is `insertCallOutcomeRule`. The hypotheses beyond `WFM` hold when the frame machine
re-enters a frame after its call: the CALL made the out-range addressable (`callMem`) and memory does not shrink while the
child runs behind its own checkpoint (`hwin`); the child hands back at most the gas limit the CALL took out of this meter,
plus the 2300 stipend (`hgas`); its refund counter obeys `WFM.refund` (`href`); the CALL popped at least 6 words (`hdepth`) -/
theorem insertCallOutcome_agrees (retStart retEnd : Nat) (o : ChildResult) (s : IState) (hwf : WFM s)
    (hwin : retStart < retEnd → retEnd ≤ (memOf s).length)
    (hgas : o.gasRemaining + s.gas.remaining < U64)
    (href : -(2^62 : Int) ≤ o.gasRefunded ∧ o.gasRefunded < 2^62)
    (hdepth : s.stack.length < 1024) :
    (insertCallOutcome retStart retEnd o s).toDone = insertCallOutcomeRule retStart retEnd o s := by
  have hm : ({ s with returnData := o.output, gas := gasBack o s.gas } : IState)
      = setMeter { s with returnData := o.output } (settle (Spec.Gas.abs s.gas) o) := by
    rw [← gasBack_settle o s.gas hgas hwf.refund href]; rfl
  rw [Proofs.MemoryOutcome.insertCallOutcome_eq]
  unfold insertCallOutcomeRule
  by_cases hc : o.result.isOk = true ∨ o.result.isRevert = true
  · have hnf : o.result ≠ .FatalExternalError := by
      intro e; rw [e] at hc; exact hc.elim (nomatch ·) (nomatch ·)
    rw [if_pos hc, if_neg hnf,
      outcome_tail { s with returnData := o.output, gas := gasBack o s.gas } retStart retEnd o.output _ hwf.mem hwin hdepth,
      hm]
    simp only [hc, true_and]
    split <;> rfl
  · rw [if_neg hc]
    by_cases hfat : o.result = .FatalExternalError
    · rw [if_pos hfat, if_pos hfat]; rfl
    · rw [if_neg hfat, if_neg hfat, outcome_push_ok _ _ (by exact hdepth), ← hm]
      simp only [hc, false_and, if_false]
      unfold gasBack
      rw [if_neg (fun h => hc (.inl h)), if_neg (fun h => hc (.inr h))]
      rfl

/-- `Interpreter::insert_create_outcome` is `insertCreateOutcomeRule`; `hgas`, `href`, `hdepth` as for
`insertCallOutcome_agrees` (CREATE popped 3 words; no stipend) -/
theorem insertCreateOutcome_agrees (o : ChildResult) (s : IState) (hwf : WFM s)
    (hgas : o.gasRemaining + s.gas.remaining < U64)
    (href : -(2^62 : Int) ≤ o.gasRefunded ∧ o.gasRefunded < 2^62)
    (hdepth : s.stack.length < 1024) :
    (insertCreateOutcome o s).toDone = insertCreateOutcomeRule o s := by
  have hl : ¬ s.stack.length = Stack.STACK_LIMIT := by unfold Stack.STACK_LIMIT; omega
  rw [Proofs.MemoryOutcome.insertCreateOutcome_eq]
  unfold insertCreateOutcomeRule
  by_cases hfat : o.result = .FatalExternalError
  · rw [if_pos ⟨by rw [hfat]; rfl, by rw [hfat]; rfl, hfat⟩, if_pos hfat]; rfl
  · rw [if_neg (fun h => hfat h.2.2), if_neg hfat, Proofs.MemoryOutcome.pushThen_eq, if_neg hl,
      ← gasBack_settle o s.gas hgas hwf.refund href]
    rfl

end Revm.Proofs.EvmStep2
