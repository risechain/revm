import Revm.Proofs.EvmRefineCfg
import Revm.Proofs.EvmRefineCreateOp
import Revm.Proofs.EvmRefineStrict
import Revm.Proofs.EvmRefineRevert
/-! The five operations of the subroutine discipline (`CpOps`) on the two machines, under `CfgRel`: `checkpoint_rel`,
`commit_rel`, `revert_cfg` / `revert_rr` (neither machine panics, undo = restore), `createCheckpoint_rr`, `setCode_rr`.
The journal side of the last two is the strict machine (`journalOpsStrict`, see EvmRefineStrict), which stops where
`CreateTargetFresh` / `CodeEmptyAt` fails; C06's other conditions for `create_account_checkpoint` are discharged here:
the caller is funded (a hypothesis `make_create_frame` meets), the `has_storage` answer is faithful (`hasStorage_eq`). -/
namespace Revm.Proofs.EvmRefine
open Revm Revm.Model Revm.Model.Journal Revm.Spec.JournalAbs Revm.Proofs.Journal Revm.Proofs.Frame
open Revm.Model.Evm
open Revm.Spec.Evm (Snap snapshotOps journalOpsStrict)
open Revm.Proofs.EvmRR

variable {ks1 : List Checkpoint} {ks2 : List Snap} {w1 w2 : World}

theorem checkpoint_rel (h : CfgRel ks1 w1 ks2 w2) :
    CfgRel ((World.checkpoint w1).2 :: ks1) (World.checkpoint w1).1 ((Spec.Evm.checkpoint w2).2 :: ks2)
      (Spec.Evm.checkpoint w2).1 := by
  obtain ⟨hw, hlen, ⟨cps, hch⟩, hsn⟩ := h
  refine ⟨?_, by simpa using hlen, ⟨cps ++ [(Journal.checkpoint w1.js).2], ?_⟩, ?_⟩
  · refine ⟨?_, hw.pre, hw.codes, hw.logs, hw.pc, hw.hs1, hw.hs2, hw.pres, hw.bal⟩
    show JRel (dbPre w1.pre) (Journal.checkpoint w1.js).1 { w2.js with depth := incU64 w2.js.depth }
    refine ⟨hw.rel.ent, hw.rel.tr, hw.rel.logs, ?_, hw.rel.spec, hw.rel.pre, by simp [Journal.checkpoint], hw.rel.sne,
      hw.rel.cj, hw.rel.cs⟩
    show incU64 w1.js.depth = incU64 w2.js.depth
    rw [hw.rel.depth]
  · exact hch.open_ w2.js hw.rel
  · exact ⟨rfl, rfl, rfl, fun a ha => ha, hsn⟩

theorem commit_rel {k1 : Checkpoint} {k2 : Snap} (hR : CfgRel (k1 :: ks1) w1 (k2 :: ks2) w2) :
    CfgRel ks1 (World.commit w1) ks2 (Spec.Evm.commit w2) := by
  obtain ⟨hw, hlen, ⟨cps, hch⟩, hsn⟩ := hR
  have hdb := dbOk_pre w1.pre
  have hbal := hw.dbBal
  simp only [List.map_cons, List.zip_cons_cons] at hch
  simp only [List.map_cons] at hsn
  obtain ⟨sd, ssp, spr, sdom, srest⟩ := hsn
  refine ⟨?_, by simpa using hlen, ⟨cps, hch.close_commit hdb hbal⟩, ?_⟩
  · refine ⟨?_, hw.pre, hw.codes, hw.logs, hw.pc, hw.hs1, hw.hs2, hw.pres, hw.bal⟩
    show JRel (dbPre w1.pre) (Journal.commit w1.js) { w2.js with depth := decU64 w2.js.depth }
    have gc := good_commit (hch.good hdb hbal)
    refine ⟨?_, ?_, ?_, ?_, ?_, ?_, gc.ne, hw.rel.sne, ?_, ?_⟩
    · intro a; have := hw.rel.ent a; simpa [Journal.commit] using this
    · intro a k; have := hw.rel.tr a k; simpa [Journal.commit, tload] using this
    · simpa [Journal.commit] using hw.rel.logs
    · simp only [Journal.commit]; rw [hw.rel.depth]
    · simpa [Journal.commit] using hw.rel.spec
    · simpa [Journal.commit] using hw.rel.pre
    · intro a acc hacc; exact hw.rel.cj a acc (by simpa [Journal.commit] using hacc)
    · intro a acc hacc; exact hw.rel.cs a acc hacc
  · show SnapsOk { w2.js with depth := decU64 w2.js.depth } (ks2.map (·.js))
    cases hks : ks2.map (·.js) with
    | nil => trivial
    | cons y ys =>
      rw [hks] at srest
      obtain ⟨a, b, c, d, e⟩ := srest
      refine ⟨?_, by rw [b]; exact ssp, by rw [c]; exact spr, fun z hz => sdom z (d z hz), e⟩
      show decU64 w2.js.depth = incU64 y.depth
      rw [sd, Proofs.Frame.dec_inc]; exact a

/-- a subroutine fails: C06's `revert_restores` through `Chain.close_revert`, then `revert_rel` -/
theorem revert_cfg {k1 : Checkpoint} {k2 : Snap} (hR : CfgRel (k1 :: ks1) w1 (k2 :: ks2) w2) :
    ∃ w1' w2', journalOps.revert w1 k1 = .ok w1' ∧ snapshotOps.revert w2 k2 = .ok w2' ∧ CfgRel ks1 w1' ks2 w2' := by
  obtain ⟨hw, hlen, ⟨cps, hch⟩, hsn⟩ := hR
  have hdb := dbOk_pre w1.pre
  have hbal := hw.dbBal
  simp only [List.map_cons, List.zip_cons_cons] at hch
  simp only [List.map_cons] at hsn
  obtain ⟨sd, ssp, spr, sdom, srest⟩ := hsn
  obtain ⟨j', jpre, hrev, habs, hsnap, hjne, hch'⟩ := hch.close_revert hdb hbal
  have hrw : journalOps.revert w1 k1 = .ok { w1 with js := j' } := by
    show World.revert w1 k1 = _
    unfold World.revert
    simp only [hrev, Evm.ofOpt, bind, Except.bind, pure, Except.pure]
  have hbasic : w2.db.basic = (dbPre w1.pre).basic := by rw [db_basic, hw.pre]
  have hrel := revert_rel (db := dbPre w1.pre) w2 rfl hbasic (dbCode_pre _) hw.rel hsnap habs hrev sdom hw.pres sd ssp spr hjne
  refine ⟨_, { w2 with js := { k2.js with state := Spec.Evm.restoredState w2 k2.js (Spec.Evm.restored3 w2 k2.js) } },
    hrw, rfl, ?_, by simpa using hlen, ⟨cps, hch'⟩, ?_⟩
  · refine ⟨hrel, hw.pre, hw.codes, hw.logs, hw.pc, hw.hs1, hw.hs2, ?_, hw.bal⟩
    intro a
    show w2.addrs.contains a = (Spec.Evm.restoredState w2 k2.js (Spec.Evm.restored3 w2 k2.js) a).isSome
    rw [restoredState_isSome, restoredBase_isSome_pres]
    intro b hb; rw [hw.pres b]; exact sdom b hb
  · show SnapsOk { k2.js with state := Spec.Evm.restoredState w2 k2.js (Spec.Evm.restored3 w2 k2.js) } (ks2.map (·.js))
    refine srest.fwd rfl rfl rfl ?_
    intro a ha
    show (Spec.Evm.restoredState w2 k2.js (Spec.Evm.restored3 w2 k2.js) a).isSome = true
    rw [restoredState_isSome]; exact restoredBase_some w2 k2.js a ha

theorem revert_rr {k1 : Checkpoint} {k2 : Snap} (hR : CfgRel (k1 :: ks1) w1 (k2 :: ks2) w2) :
    RR (fun a b => CfgRel ks1 a ks2 b) (journalOpsStrict.revert w1 k1) (snapshotOps.revert w2 k2) := by
  obtain ⟨wr1, wr2, hr1, hr2, hrr⟩ := revert_cfg hR
  have hr1' : journalOpsStrict.revert w1 k1 = .ok wr1 := hr1
  rw [hr1', hr2]
  exact RR.okok hrr

theorem hasStorage_eq (w : World) (hd : w.dbHasStorage = true) (a : Addr) : w.hasStorage a = hsPre w.pre a := by
  unfold World.hasStorage hsPre World.preAcct
  rw [hd]; simp only [Bool.true_and]
  cases List.find? (fun p => p.addr == a) w.pre <;> rfl

/-- both machines open the creation (the checkpoint faces the snapshot), or both refuse with the same error and nothing is
opened -/
def CpRes (ks1 : List Checkpoint) (w1' : World) (ks2 : List Snap) (w2' : World) :
    Except CreateErr Checkpoint → Except CreateErr Snap → Prop
  | .ok cp, .ok snap => CfgRel (cp :: ks1) w1' (snap :: ks2) w2'
  | .error e, .error e' => e = e' ∧ CfgRel ks1 w1' ks2 w2'
  | _, _ => False

/-- `hfund` is C06's admissibility of `.create`; `h3`: on 0x03 the internal revert keeps the touched mark -/
theorem createCheckpoint_rr (h : CfgRel ks1 w1 ks2 w2) {caller a : Addr} {v spec : Nat}
    (h3 : a ≠ PRECOMPILE3) (hfund : ∀ acc, w1.js.state caller = some acc → v ≤ acc.info.balance) :
    RR (fun p1 p2 => CpRes ks1 p1.1 ks2 p2.1 p1.2 p2.2)
      (journalOpsStrict.createCheckpoint w1 caller a (w1.hasStorage a) v spec)
      (snapshotOps.createCheckpoint w2 caller a (w2.hasStorage a) v spec) := by
  rw [hasStorage_eq w1 h.w.hs1 a, hasStorage_eq w2 h.w.hs2 a, h.w.pre]
  by_cases hnf : ¬ CreateTargetFresh w1 a (hsPre w1.pre a)
  · obtain ⟨e, he, hesc⟩ := (strict_create_iff w1 caller a _ v spec).2 hnf
    rw [he]
    exact .inl hesc
  have hf := Classical.not_not.1 hnf
  rw [(strict_create_iff w1 caller a _ v spec).1 hf]
  have hcr := hf.created
  have hcrs : ∀ y, w2.js.state a = some y → y.created = false ∨
      (y.info.codeHash ≠ Journal.KECCAK_EMPTY ∨ y.info.nonce ≠ 0 ∨ hsPre w1.pre a = true) := by
    intro y hy
    obtain ⟨x, hx, ar⟩ := h.w.rel.symm.get hy
    obtain ⟨e1, e2, e3, e4, _⟩ := ar
    rw [e4, e3, e2]; exact hcr x hx
  have hdb := dbOk_pre w1.pre
  have hbal := h.w.dbBal
  have g := h.good
  have hz : hsPre w1.pre a = false → ∀ k, (dbPre w1.pre).storage a k = 0 := fun hh => hdb a hh
  show RR _ (ofOpt "create_account_checkpoint" (Journal.createAccountCheckpoint w1.js caller a (hsPre w1.pre a) v spec) >>=
      fun p => pure ({ w1 with js := p.1 }, p.2))
    (ofOpt "create_account_checkpoint" (Journal.createAccountCheckpoint w2.js caller a (hsPre w1.pre a) v spec) >>= fun p =>
      (match p.2 with
        | .ok _ => pure ({ w2 with js := p.1 }, Except.ok (⟨w2.js⟩ : Snap))
        | .error e => pure ({ w2 with js := w2.js }, Except.error e) : R (World × Except CreateErr Snap)))
  refine RR.bind (RR.ofSim _ (create_rel h.w.rel hcr hz h3).withEq (create_rel h.w.rel.symm hcrs hz h3)) ?_
  rintro ⟨j', r0⟩ ⟨s', r'⟩ ⟨hres, hj, hs'⟩
  simp only at hres
  -- a collision leaves the journal state as it was: no history step, no admissibility condition
  by_cases hcoll : ∃ x, w1.js.state a = some x ∧
      (x.info.codeHash ≠ Journal.KECCAK_EMPTY ∨ x.info.nonce ≠ 0 ∨ hsPre w1.pre a = true)
  · obtain ⟨x, hx, hc⟩ := hcoll
    obtain ⟨hr0, hjj⟩ := create_collision hx hc hj
    subst hr0
    cases r' with
    | ok _ => exact hres.elim
    | error e' =>
      obtain ⟨he, hrel⟩ := hres
      subst he
      refine RR.pure ⟨rfl, ?_⟩
      rw [hjj] at hrel ⊢
      exact h.step (Upd.js w1 w1.js) (Upd.js w2 w2.js) hrel (Fwd.refl _ _ g) (.refl _) (fun b => rfl)
  have hcr : ∀ x, w1.js.state a = some x → x.created = false := fun x hx =>
    (hcr x hx).resolve_right (fun hc => hcoll ⟨x, hx, hc⟩)
  have hadm : ∀ base cps, admissible (dbPre w1.pre) (hsPre w1.pre) base ⟨w1.js, cps⟩
      (.create caller a (hsPre w1.pre a) v spec) = true := by
    intro base cps
    simp only [admissible, Bool.and_eq_true]
    refine ⟨⟨?_, ?_⟩, ?_⟩
    · cases hx : w1.js.state a with
      | none => rfl
      | some x => simp [hcr x hx]
    · cases hsPre w1.pre a <;> rfl
    · cases hx : w1.js.state caller with
      | none => rfl
      | some x => simpa using hfund x hx
  have hpush := create_pushes (hasStorage := hsPre w1.pre) hdb (balOk_of hbal g.bal) hcr
    (by cases hh : hsPre w1.pre a; exact .inr rfl; exact .inl rfl) hj
  have hdep := createAccountCheckpoint_depth hj
  cases r0 with
  | error e =>
    cases r' with
    | ok _ => exact hres.elim
    | error e' =>
      obtain ⟨he, hrel⟩ := hres
      subst he
      simp only at hpush hdep
      refine RR.pure ⟨rfl, ?_⟩
      have hfw : Fwd (dbPre w1.pre) (hsPre w1.pre) w1.js j' :=
        Fwd.of_pushes hbal g (.create caller a (hsPre w1.pre a) v spec) (fun cps => by simp [step, hj])
          (fun base cps => hadm base cps) hpush hdep
      exact h.step (Upd.js w1 j') (Upd.js w2 w2.js) hrel hfw (.refl _) (fun b => rfl)
  | ok cp =>
    cases r' with
    | error _ => exact hres.elim
    | ok cp' =>
      obtain ⟨hcp, hrel⟩ := hres
      have hdom := (dom_createAccountCheckpoint hs').1
      simp only at hpush hdep
      obtain ⟨_, es, pp, _⟩ := hpush
      refine RR.pure ?_
      show CfgRel (cp :: ks1) { w1 with js := j' } (⟨w2.js⟩ :: ks2) { w2 with js := s' }
      obtain ⟨hw, hlen, ⟨cps, hch⟩, hsn⟩ := h
      refine ⟨⟨hrel, hw.pre, hw.codes, hw.logs, hw.pc, hw.hs1, hw.hs2, ?_, hw.bal⟩, by simpa using hlen,
        ⟨cps ++ [cp], ?_⟩, ?_⟩
      · intro b; show w2.addrs.contains b = (s'.state b).isSome
        rw [hdom.isSome b, hw.pres b]; simp
      · exact Chain.open_create (r := ⟨w1.js, cps⟩) hch w2.js hw.rel (hadm 0 cps) hj
      · show SnapsOk s' (w2.js :: ks2.map (·.js))
        have hsdep := createAccountCheckpoint_depth hs'
        simp only at hsdep
        refine ⟨hsdep, ?_, ?_, ?_, hsn⟩
        · rw [← hrel.spec, pp.spec]; exact hw.rel.spec.symm
        · rw [← hrel.pre, pp.pre]; exact hw.rel.pre.symm
        · intro b hb; rw [hdom.isSome b, hb]; rfl

theorem createCheckpoint_rel (h : CfgRel ks1 w1 ks2 w2) {caller a : Addr} {v spec : Nat}
    (h3 : a ≠ PRECOMPILE3) (hfund : ∀ acc, w1.js.state caller = some acc → v ≤ acc.info.balance)
    {w1' : World} {r : Except CreateErr Checkpoint}
    (hl : journalOpsStrict.createCheckpoint w1 caller a (w1.hasStorage a) v spec = .ok (w1', r)) :
    ∃ w2' r', snapshotOps.createCheckpoint w2 caller a (w2.hasStorage a) v spec = .ok (w2', r') ∧
      CpRes ks1 w1' ks2 w2' r r' :=
  let ⟨p, h2, hp⟩ := (createCheckpoint_rr h (v := v) (spec := spec) h3 hfund).ok hl
  ⟨p.1, p.2, h2, hp⟩

theorem setCode_rr (h : CfgRel ks1 w1 ks2 w2) (a hash : Nat) :
    RR (fun x y => CfgRel ks1 x ks2 y) (journalOpsStrict.setCode w1 a hash) (snapshotOps.setCode w2 a hash) := by
  by_cases hadm : CodeEmptyAt w1 a
  · rw [(strict_setCode_iff w1 a hash).1 hadm]
    show RR _ (ofOpt "set_code" (Journal.setCode w1.js a hash) >>= fun js => pure { w1 with js := js })
      (ofOpt "set_code" (Journal.setCode w2.js a hash) >>= fun js => pure { w2 with js := js })
    refine RR.bind (RR.ofSim (P := fun j' s' => CfgRel ks1 { w1 with js := j' } ks2 { w2 with js := s' }) _
      ((setCode_rel h.w.rel).withEq.mono ?_) (setCode_rel (db := dbPre w1.pre) h.w.rel.symm)) (fun j' s' hrel => RR.pure hrel)
    rintro j' s' ⟨hrel, hp, hq⟩
    exact h.step (Upd.js w1 j') (Upd.js w2 s') hrel (setCode_fwd h.w.dbBal h.good hadm hp) (lvl_setCode hq).dom (fun b => rfl)
  · obtain ⟨e, he, hesc⟩ := (strict_setCode_iff w1 a hash).2 hadm
    rw [he]
    exact .inl hesc

theorem wSetCode_rel (h : CfgRel ks1 w1 ks2 w2) {a hash : Nat} {w1' : World}
    (hl : journalOpsStrict.setCode w1 a hash = .ok w1') :
    ∃ w2', snapshotOps.setCode w2 a hash = .ok w2' ∧ CfgRel ks1 w1' ks2 w2' :=
  (setCode_rr h a hash).ok hl

end Revm.Proofs.EvmRefine
