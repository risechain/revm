import Revm.Proofs.Memory
import Revm.Proofs.InterpOutcome
import Revm.Spec.EvmRules2Call
/-! Re-entry of a child's result into the waiting parent: `insert_call_outcome`, `insert_create_outcome` and
`insert_eofcreate_outcome` of the interpreter model, each as one equation on a state with no hypothesis (`insert…Outcome_eq`),
from which the statements about gas, memory, stack and the rules start. Then C11: `insert_call_outcome` (what the `mem ico`
lines of the C11 stream run) touches the parent's memory only through one `SharedMemory::set` of the returned prefix into
the return window (`insertCallOutcome_mem`); the two create re-entries do not touch it. -/
namespace Revm.Proofs.MemoryOutcome
open Revm Revm.Model Revm.Model.Interp Revm.Proofs.Memory
open Revm.Proofs.Interp (bind_ok)
open Revm.Spec.EvmRules2 (callStatus)

/-- the parent's gas meter after re-entry, as `insert_call_outcome` and `insert_create_outcome` code it -/
def gasBack (o : ChildResult) (g : Gas.Gas) : Gas.Gas :=
  if o.result.isOk then Gas.recordRefund (Gas.eraseCost g o.gasRemaining) o.gasRefunded
  else if o.result.isRevert then Gas.eraseCost g o.gasRemaining
  else g

theorem gasBack_le (o : ChildResult) (g : Gas.Gas) :
    (gasBack o g).limit = g.limit ∧ (gasBack o g).remaining ≤ g.remaining + o.gasRemaining := by
  unfold gasBack
  split
  · exact ⟨rfl, Nat.mod_le _ _⟩
  · split
    · exact ⟨rfl, Nat.mod_le _ _⟩
    · exact ⟨rfl, Nat.le_add_right _ _⟩

theorem gasBack_rem {o : ChildResult} (h : o.result.isOk = true ∨ o.result.isRevert = true) (g : Gas.Gas) :
    (gasBack o g).remaining = U64ops.wadd g.remaining o.gasRemaining := by
  unfold gasBack
  split
  · rfl
  · rw [if_pos (h.resolve_left ‹_›)]; rfl

/-- `push!` then a pure update (both create re-entries): on a full stack the update is not reached -/
theorem pushThen_eq (v : Nat) (f : IState → IState) (s : IState) :
    (push v >>= fun _ => modifyS f) s =
      if s.stack.length = Stack.STACK_LIMIT then .halt .StackOverflow [] s
      else .ok () (f { s with stack := s.stack ++ [v] }) := by
  show M.bind (push v) _ s = _
  unfold M.bind push Stack.push
  by_cases h : s.stack.length = Stack.STACK_LIMIT
  · rw [if_pos h, if_pos h]; rfl
  · rw [if_neg h, if_neg h]; rfl

/-- `FatalExternalError` is the `panic!` of `insert_call_outcome` -/
theorem insertCallOutcome_eq (rs re : Nat) (o : ChildResult) (s : IState) :
    insertCallOutcome rs re o s =
      if o.result.isOk = true ∨ o.result.isRevert = true then
        ((liftMemWrite fun m => Memory.set m rs (o.output.take (min (re - rs) o.output.length))) >>= fun _ =>
          push (callStatus s.isEof o.result)) { s with returnData := o.output, gas := gasBack o s.gas }
      else if o.result = .FatalExternalError then .fault .panic
      else push (callStatus s.isEof o.result) { s with returnData := o.output } := by
  unfold insertCallOutcome
  rw [bind_ok _ _ _ _ _ (rfl : modifyS _ s = .ok () { s with returnData := o.output }),
    bind_ok _ _ _ _ _ (rfl : getS _ = .ok { s with returnData := o.output } _)]
  unfold gasBack callStatus
  by_cases hok : o.result.isOk = true
  · simp only [hok, if_true, true_or]
    exact bind_ok _ _ _ _ _ rfl
  · by_cases hrev : o.result.isRevert = true
    · simp only [hok, hrev, if_true, if_false, or_true, Bool.false_eq_true]
      exact bind_ok _ _ _ _ _ rfl
    · simp only [hok, hrev, if_false, or_self, Bool.false_eq_true]
      split <;> rfl

theorem insertCreateOutcome_eq (o : ChildResult) (s : IState) :
    insertCreateOutcome o s =
      if o.result.isOk = false ∧ o.result.isRevert = false ∧ o.result = .FatalExternalError then .fault .panic
      else (push (if o.result.isOk then o.address.getD 0 else 0) >>= fun _ =>
              modifyS fun x => { x with gas := gasBack o x.gas })
            { s with returnData := if o.result.isRevert then o.output else [] } := by
  unfold insertCreateOutcome gasBack
  rw [bind_ok _ _ _ _ _
    (rfl : modifyS _ s = .ok () { s with returnData := if o.result.isRevert then o.output else [] })]
  by_cases hok : o.result.isOk = true
  · simp only [hok, if_true, Bool.true_eq_false, false_and, if_false]
  · rw [Bool.not_eq_true] at hok
    by_cases hrev : o.result.isRevert = true
    · simp only [hok, hrev, if_true, Bool.false_eq_true, if_false, Bool.true_eq_false, false_and, and_false]
    · rw [Bool.not_eq_true] at hrev
      simp only [hok, hrev, Bool.false_eq_true, if_false, true_and]
      split
      · rfl
      · -- a child that neither returned nor reverted: the update of the meter is the identity
        rw [pushThen_eq]
        unfold push Stack.push
        by_cases h : s.stack.length = Stack.STACK_LIMIT
        · rw [if_pos h, if_pos h]; rfl
        · rw [if_neg h, if_neg h]

/-- only `ReturnContract` counts as a normal end, and its missing address is the `expect("EOF Address")` -/
theorem insertEofCreateOutcome_eq (o : ChildResult) (s : IState) :
    insertEofCreateOutcome o s =
      if o.result = .ReturnContract then
        (match o.address with
         | none => .fault .panic
         | some a => (push a >>= fun _ => modifyS fun x =>
             { x with gas := Gas.recordRefund (Gas.eraseCost x.gas o.gasRemaining) o.gasRefunded })
             { s with returnData := if o.result = .Revert then o.output else [] })
      else if o.result.isRevert then
        (push 0 >>= fun _ => modifyS fun x => { x with gas := Gas.eraseCost x.gas o.gasRemaining })
          { s with returnData := if o.result = .Revert then o.output else [] }
      else if o.result = .FatalExternalError then .fault .panic
      else push 0 { s with returnData := if o.result = .Revert then o.output else [] } := by
  unfold insertEofCreateOutcome
  rw [bind_ok _ _ _ _ _
    (rfl : modifyS _ s = .ok () { s with returnData := if o.result = .Revert then o.output else [] })]
  split
  · cases o.address <;> rfl
  · split
    · rfl
    · split <;> rfl

/-- the re-entry completed (`instruction_result = Continue`) or the status word did not fit on the stack
(`push!` sets `StackOverflow` and returns - after the memory write); either way the state is `s'` -/
def Lands (e : Exec Unit) (s' : IState) : Prop :=
  e = .ok () s' ∨ e = .halt .StackOverflow [] s'

theorem push_lands (v : Nat) (s : IState) : ∃ s', Lands (push v s) s' ∧ s'.mem = s.mem := by
  unfold push Stack.push
  by_cases h : s.stack.length = Stack.STACK_LIMIT
  · rw [if_pos h]; exact ⟨s, Or.inr rfl, rfl⟩
  · rw [if_neg h]; exact ⟨_, Or.inl rfl, rfl⟩

theorem push_then_modify_lands (v : Nat) (f : IState → IState) (hf : ∀ x, (f x).mem = x.mem) (s : IState) :
    ∃ s', Lands ((push v >>= fun _ => modifyS f) s) s' ∧ s'.mem = s.mem := by
  rw [pushThen_eq]
  split
  · exact ⟨s, Or.inr rfl, rfl⟩
  · exact ⟨_, Or.inl rfl, by rw [hf]⟩


/-- `shared_memory.set(out_offset, value)` cannot fail on an addressable window -/
theorem set_total {m : Memory.SharedMemory} (h : WF m) (off : Nat) (val : List Nat)
    (hin : val ≠ [] → off + val.length ≤ (ctx m).length) : ∃ m', Memory.set m off val = .ok m' := by
  by_cases hv : val = []
  · rw [hv]; exact ⟨m, set_empty m off⟩
  · unfold Memory.set
    have : val.isEmpty = false := by cases val <;> simp_all
    rw [this]
    simp only [Bool.false_eq_true, if_false]
    exact ⟨_, writeSlice_ok h (hin hv)⟩

/-- `set` on any value: window write, nothing else (the empty write included) -/
theorem set_window {m m' : Memory.SharedMemory} {off : Nat} {val : List Nat} (h : WF m)
    (ho : off < U64) (hv : val.length < U64) (hr : Memory.set m off val = .ok m') :
    WF m' ∧ (ctx m').length = (ctx m).length
    ∧ (∀ i, i < off ∨ off + val.length ≤ i → (ctx m')[i]? = (ctx m)[i]?)
    ∧ (∀ i, i < val.length → (ctx m')[off + i]? = val[i]?)
    ∧ abs m' = ctx m' :: (abs m).tail := by
  by_cases hne : val = []
  · rw [hne, set_empty] at hr
    injection hr with hr
    subst hr
    obtain ⟨r, hr⟩ := abs_head h
    refine ⟨h, rfl, fun _ _ => rfl, ?_, by rw [hr]; rfl⟩
    intro i hi; rw [hne] at hi; cases hi
  · obtain ⟨h1, h2, h3, h4⟩ := set_ctx h ho hv hne hr
    refine ⟨h4, ?_, ?_, ?_, h3⟩
    · rw [h2]; exact writeAt_length _ _ _ h1
    · intro i hi; rw [h2]; exact writeAt_getElem_outside _ _ _ i h1 hi
    · intro i hi; rw [h2]; exact writeAt_getElem_inside _ _ _ i h1 hi

/-- the three cases: `FatalExternalError` (the `panic!`, nothing written), any other error-class result (memory as it
is), `return_ok!` / `return_revert!` (exactly `set(out_offset, &return_data_buffer[..min(out_len, len)])`) -/
theorem insertCallOutcome_mem (retStart retEnd : Nat) (o : ChildResult) (s : IState) :
    (o.result = .FatalExternalError ∧ insertCallOutcome retStart retEnd o s = .fault .panic)
    ∨ (o.result ≠ .FatalExternalError ∧ o.result.isOk = false ∧ o.result.isRevert = false
        ∧ ∃ s', Lands (insertCallOutcome retStart retEnd o s) s' ∧ s'.mem = s.mem)
    ∨ ((o.result.isOk = true ∨ o.result.isRevert = true)
        ∧ match Memory.set s.mem retStart (o.output.take (min (retEnd - retStart) o.output.length)) with
          | .ok m' => ∃ s', Lands (insertCallOutcome retStart retEnd o s) s' ∧ s'.mem = m'
          | .panic => insertCallOutcome retStart retEnd o s = .fault .panic
          | .ub => insertCallOutcome retStart retEnd o s = .fault .oobMemory) := by
  rw [insertCallOutcome_eq]
  by_cases hc : o.result.isOk = true ∨ o.result.isRevert = true
  · rw [if_pos hc]
    refine .inr (.inr ⟨hc, ?_⟩)
    show match Memory.set s.mem retStart _ with
      | .ok m' => ∃ s', Lands (M.bind (liftMemWrite _) _ _) s' ∧ s'.mem = m'
      | .panic => M.bind (liftMemWrite _) _ _ = .fault .panic
      | .ub => M.bind (liftMemWrite _) _ _ = .fault .oobMemory
    unfold M.bind liftMemWrite
    dsimp only
    cases Memory.set s.mem retStart (o.output.take (min (retEnd - retStart) o.output.length)) with
    | ok m' => exact push_lands _ _
    | panic => rfl
    | ub => rfl
  · rw [if_neg hc]
    by_cases hfat : o.result = .FatalExternalError
    · rw [if_pos hfat]; exact .inl ⟨hfat, rfl⟩
    · rw [if_neg hfat]
      exact .inr (.inl ⟨hfat, by simpa using fun h => hc (.inl h), by simpa using fun h => hc (.inr h), push_lands _ _⟩)

theorem insertCreateOutcome_mem (o : ChildResult) (s : IState) :
    (o.result = .FatalExternalError ∧ insertCreateOutcome o s = .fault .panic)
    ∨ ∃ s', Lands (insertCreateOutcome o s) s' ∧ s'.mem = s.mem := by
  rw [insertCreateOutcome_eq]
  split
  · exact .inl ⟨‹_ ∧ _ ∧ _›.2.2, rfl⟩
  · exact .inr (by apply push_then_modify_lands; exact fun _ => rfl)

theorem insertEofCreateOutcome_mem (o : ChildResult) (s : IState) :
    insertEofCreateOutcome o s = .fault .panic
    ∨ ∃ s', Lands (insertEofCreateOutcome o s) s' ∧ s'.mem = s.mem := by
  rw [insertEofCreateOutcome_eq]
  split
  · cases o.address with
    | none => exact .inl rfl
    | some a => exact .inr (by apply push_then_modify_lands; exact fun _ => rfl)
  · split
    · exact .inr (by apply push_then_modify_lands; exact fun _ => rfl)
    · split
      · exact .inl rfl
      · exact .inr (push_lands _ _)

end Revm.Proofs.MemoryOutcome
