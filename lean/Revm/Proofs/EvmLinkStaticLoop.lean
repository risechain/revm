import Revm.Proofs.FrameKeptViews
import Revm.Proofs.EvmLinkHost
import Revm.Proofs.EvmLinkLoop
import Revm.Proofs.StaticFrame
/-! Static mode (C10). One instruction: what a static frame asks the `Host` are operations `Model.Static.allowed` lists,
so each answer leaves the world state equal (`static_host_world_equal`, from C10's `Static.inv_run`). Along the loop: a
history of allowed operations keeps C10's invariant (`Proofs.Static.Inv`, on a world: `SW`; `Hist.sw`), and
`make_call_frame` for a static call, `call_return` and the answers to a static frame run such histories. While a static
frame `f` stays open (`StepsAbove`), every frame above it is a static call frame whose checkpoint was handed out after `f`
started (`SStack`, kept by `move_static`); hence `static_frame_state_equal_evm`, without fuel. -/
namespace Revm.Proofs.EvmLink
open Revm Revm.Model Revm.Model.Evm
open Revm.Spec.JournalAbs (run)
open Revm.Model.Static (BalOk WorldEq)
open Revm.Proofs.Static (Inv inv_benign inv_init Benign sAllowed sinv_run)
open Revm.Proofs.Evm (Move iterate_moves frameEnd_move)
open Revm.Proofs.EvmInstSd (Resolved)

theorem hostOps_allowed (w : World) (op : Interp.HostOp) (base : Nat) (h : mutating op = false) :
    Static.allowedAll base (hostOps w op) = true := by
  cases op <;> first
    | rfl
    | (simp [mutating] at h)

/-- C10 `static_frame_state_equal` on EvmHost + Interp: whatever a static frame asks the host, the journaled world state
(balances, nonces, code, storage, transient storage, logs — not warm / cold, not touch marks) after the answer equals
the one before -/
theorem static_host_world_equal (he : HostEnv) (w w1 : World) (s : Interp.IState) (op : Interp.HostOp)
    (k : Interp.HostResp → Interp.Done) (resp : Interp.HostResp)
    (hs : s.isStatic = true) (hstep : Interp.step s = .host op k) (h : answer he w op = .ok (resp, w1))
    (hbal : Static.BalOk w.db w.js) : Static.WorldEq w.db w1.js w.js := by
  have hst := step_static s hs
  rw [hstep] at hst
  cases hst with
  | host hop _ =>
    obtain ⟨hrun, _, _⟩ := answer_trace h []
    exact (Static.inv_run hbal (hostOps w op) _ { js := w1.js, cps := [] }
      (Static.inv_init w.db { js := w.js, cps := [] }) (hostOps_allowed w op 0 hop) hrun).world

/-- `make_call_frame` builds the child interpreter with `inputs.is_static` (C10 `static_inherited`, frame side) -/
theorem makeCallFrame_isStatic {κ : Type} {C : CpOps κ} {cfg : Cfg} {w w' : World} {i : Interp.CallInputs}
    {mem : Memory.SharedMemory} {f : Frame κ} (h : makeCallFrame C cfg w i mem = .ok (.frame f, w')) :
    f.interp.isStatic = i.isStatic := by
  obtain ⟨code, hf⟩ := makeCallFrame_frame h
  rw [hf]
  rfl

/-- number of open frames in a loop state -/
def nextDepth : Next Journal.Checkpoint → Nat
  | .run stack _ => stack.length
  | .ended _ rest _ _ _ _ => rest.length + 1
  | .done _ _ => 0

/-- the steps of `run_the_loop` during which more than `base` frames stay open (the frame at height `base + 1` has not
returned yet) -/
inductive StepsAbove (cfg : Cfg) (base : Nat) : Next Journal.Checkpoint → Next Journal.Checkpoint → Prop
  | refl (n) : StepsAbove cfg base n n
  | iter {stack w n m} (h : iterate journalOps cfg stack w = .ok n) (hb : base < nextDepth n)
      (t : StepsAbove cfg base n m) : StepsAbove cfg base (.run stack w) m
  | fend {top rest r out s w n m} (h : frameEnd journalOps cfg top rest r out s w = .ok n) (hb : base < nextDepth n)
      (t : StepsAbove cfg base n m) : StepsAbove cfg base (.ended top rest r out s w) m

/-- the world inside a static frame that started on `(db, s0)` with `L` journal levels; `cps` are the checkpoints
handed out since -/
structure SW (db : Journal.Db) (L : Nat) (s0 : Journal.JState) (cps : List Journal.Checkpoint) (w : World) : Prop where
  inv : Inv db 0 L s0 { js := w.js, cps := cps }
  db : w.db = db

section sw
variable {db : Journal.Db} {L : Nat} {s0 : Journal.JState} (hb0 : BalOk db s0)
include hb0

omit hb0 in
theorem SW.benign {cps : List Journal.Checkpoint} {w w' : World} (h : SW db L s0 cps w)
    (hB : Benign db w.js w'.js) (hdb : w'.db = db) : SW db L s0 cps w' :=
  ⟨inv_benign h.inv hB, hdb⟩

theorem Hist.sw {cps ops w w' cps'} (h : Hist w cps ops w' cps') (hw : SW db L s0 cps w)
    (ha : ops.all sAllowed = true) : SW db L s0 cps' w' :=
  ⟨sinv_run hb0 hw.inv ha (hw.db ▸ h.run), h.only.db.trans hw.db⟩

theorem sw_answer {cps : List Journal.Checkpoint} {he : HostEnv} {w w1 : World} {op : Interp.HostOp}
    {resp : Interp.HostResp} (h : SW db L s0 cps w) (ha : answer he w op = .ok (resp, w1))
    (hm : mutating op = false) : SW db L s0 cps w1 :=
  (answer_hist ha cps).sw hb0 h (by cases op <;> first | rfl | (simp [mutating] at hm))

/-- `make_call_frame` for a call a static frame hands out keeps the invariant of C10; a frame it opens is static, a
call frame, and holds a checkpoint handed out inside the static region -/
theorem sw_makeCallFrame {cps : List Journal.Checkpoint} {cfg : Cfg} {w w' : World} {i : Interp.CallInputs} {mem fr}
    (h : SW db L s0 cps w) (hsc : StaticCall i) (hmk : makeCallFrame journalOps cfg w i mem = .ok (fr, w')) :
    ∃ cps', SW db L s0 cps' w' ∧ (∀ c ∈ cps, c ∈ cps') ∧ ∀ f, fr = .frame f →
      f.checkpoint ∈ cps' ∧ f.interp.isStatic = true ∧ ∃ rs re, f.kind = .call rs re := by
  rcases makeCallFrame_hist hmk cps with ⟨_, rfl, rfl⟩ | ⟨_, cp, vops, tail, hh, hv, he⟩
  · exact ⟨cps, h, fun c hc => hc, fun f hf => nomatch hf⟩
  · have hval : vops.all sAllowed = true := by
      rcases hv with ⟨_, rfl⟩ | rfl | ⟨hvt, hne, rfl⟩
      · rfl
      · rfl
      · -- a static frame's value transfer is CALLCODE's, of the frame to itself
        rcases hsc.2 hvt with h0 | h0
        · exact absurd h0 hne
        · simp [sAllowed, h0]
    have htail : tail.all sAllowed = true := by cases he <;> rfl
    refine ⟨_, hh.sw hb0 h (by rw [List.all_append, List.all_append, hval, htail]; rfl),
      fun c hc => List.mem_append_left _ hc, fun f hf => ?_⟩
    subst hf
    cases he <;> exact ⟨by simp, hsc.1, _, _, rfl⟩

theorem sw_callReturn {cps : List Journal.Checkpoint} {w w' : World} {cp : Journal.Checkpoint}
    {r r' : Interp.ChildResult} (h : SW db L s0 cps w) (hcp : cp ∈ cps)
    (hr : callReturn journalOps w cp r = .ok (r', w')) : SW db L s0 cps w' := by
  obtain ⟨i, hi⟩ := List.getElem?_of_mem hcp
  obtain ⟨op, hop, hh⟩ := callReturn_hist hr hi
  exact hh.sw hb0 h (by rcases hop with rfl | rfl <;> rfl)

end sw

/-- the frames above the static frame: static call frames holding checkpoints handed out inside it -/
def AboveOk (cps : List Journal.Checkpoint) (above : List JFrame) : Prop :=
  ∀ g ∈ above, g.checkpoint ∈ cps ∧ g.interp.isStatic = true ∧ ∃ rs re, g.kind = .call rs re

/-- a stack whose part above `rest` is the static frame with its (static) descendants -/
def SStack (db : Journal.Db) (L : Nat) (s0 : Journal.JState) (rest : List JFrame) (stack : List JFrame) (w : World) :
    Prop :=
  ∃ above f cps, stack = above ++ f :: rest ∧ f.interp.isStatic = true ∧ AboveOk cps above ∧ SW db L s0 cps w

/-- `SStack` on each shape of `Next`; false once the loop is done, so it holds only while the static frame is open -/
def SNext (db : Journal.Db) (L : Nat) (s0 : Journal.JState) (rest : List JFrame) : Next Journal.Checkpoint → Prop
  | .run stack w => SStack db L s0 rest stack w
  | .ended top rest' _ _ _ w => SStack db L s0 rest (top :: rest') w
  | .done _ _ => False

theorem AboveOk.mono {cps cps' : List Journal.Checkpoint} {above : List JFrame} (h : AboveOk cps above)
    (hm : ∀ c ∈ cps, c ∈ cps') : AboveOk cps' above :=
  fun g hg => ⟨hm _ (h g hg).1, (h g hg).2⟩

theorem SStack.updTop {db L s0 rest top rest' w} (h : SStack db L s0 rest (top :: rest') w) (s : Interp.IState)
    (hs : s.isStatic = true) : SStack db L s0 rest ({ top with interp := s } :: rest') w := by
  obtain ⟨above, f, cps, e, hf, ha, hw⟩ := h
  cases above with
  | nil =>
    simp only [List.nil_append, List.cons.injEq] at e
    obtain ⟨rfl, rfl⟩ := e
    exact ⟨[], { top with interp := s }, cps, rfl, hs, ha, hw⟩
  | cons g a' =>
    simp only [List.cons_append, List.cons.injEq] at e
    obtain ⟨rfl, rfl⟩ := e
    refine ⟨{ top with interp := s } :: a', f, cps, rfl, hf, ?_, hw⟩
    intro x hx
    cases hx with
    | head => exact ⟨(ha top (List.mem_cons_self ..)).1, hs, (ha top (List.mem_cons_self ..)).2.2⟩
    | tail _ hx => exact ha x (List.mem_cons_of_mem _ hx)

theorem SStack.topStatic {db L s0 rest top rest' w} (h : SStack db L s0 rest (top :: rest') w) :
    top.interp.isStatic = true := by
  obtain ⟨above, f, cps, e, hf, ha, hw⟩ := h
  cases above with
  | nil =>
    simp only [List.nil_append, List.cons.injEq] at e
    rw [e.1]; exact hf
  | cons g a' =>
    simp only [List.cons_append, List.cons.injEq] at e
    rw [e.1]; exact (ha g (List.mem_cons_self ..)).2.1

theorem SStack.world {db L s0 rest stack w w'} (h : SStack db L s0 rest stack w)
    (hw' : ∀ cps, SW db L s0 cps w → SW db L s0 cps w') : SStack db L s0 rest stack w' := by
  obtain ⟨above, f, cps, e, hf, ha, hw⟩ := h
  exact ⟨above, f, cps, e, hf, ha, hw' cps hw⟩

theorem deliver_depth {kind : FrameKind} {o : Interp.ChildResult} {parent : JFrame} {rest : List JFrame}
    {mem : Memory.SharedMemory} {w : World} {nx} (h : deliver kind o parent rest mem w = .ok nx) :
    nextDepth nx = rest.length + 1 := by
  rcases deliver_ok h with ⟨s, _, rfl⟩ | ⟨r, out, s, _, rfl⟩ <;> rfl

theorem deliver_static {db L s0 rest} {kind : FrameKind} {o : Interp.ChildResult} {parent : JFrame}
    {rest' : List JFrame} {mem : Memory.SharedMemory} {w : World} {nx}
    (hS : SStack db L s0 rest (parent :: rest') w) (h : deliver kind o parent rest' mem w = .ok nx) :
    SNext db L s0 rest nx := by
  have hk := insertBy_kept kind o { parent.interp with mem := mem }
  rcases deliver_ok h with ⟨s, heq, rfl⟩ | ⟨r, out, s, heq, rfl⟩
  · rw [heq] at hk
    cases hk with
    | ok hs _ => exact hS.updTop s (hs.st.trans hS.topStatic)
  · exact hS

theorem StepsAbove.inv {cfg : Cfg} {base : Nat} {P : Next Journal.Checkpoint → Prop}
    (hd : ∀ n, P n → base < nextDepth n)
    (hP : ∀ {b n m}, Move journalOps cfg b n m → base < nextDepth m → P n → P m) {n m}
    (t : StepsAbove cfg base n m) (h : P n) : P m := by
  induction t with
  | refl n => exact h
  | iter hi hb _ ih =>
    refine ih ?_
    cases iterate_moves hi with
    | one h1 => exact hP h1 hb h
    | two hr h2 => exact hP h2 hb (hP (.halt hr) (hd (.run _ _) h) h)
  | fend hf hb _ ih => exact ih (hP (frameEnd_move hf) hb h)

section loop
variable {db : Journal.Db} {L : Nat} {s0 : Journal.JState} (hb0 : BalOk db s0)
include hb0

theorem resolved_static {he : HostEnv} {s : Interp.IState} {w w1 : World} {d : Interp.Done}
    (h : Resolved he s w d w1) (hs : s.isStatic = true) :
    StaticDone d ∧ ∀ cps, SW db L s0 cps w → SW db L s0 cps w1 := by
  refine ⟨h.all.static hs, fun cps hw => ?_⟩
  cases h with
  | pure => exact hw
  | host _ _ _ _ he ha => exact sw_answer hb0 hw ha (((step_all (E := True) s).op he).2 hs)

theorem move_static {rest : List JFrame} {cfg : Cfg} {b : Bool} {n m : Next Journal.Checkpoint} (h : Move journalOps cfg b n m)
    (hb : rest.length < nextDepth m) (hS : SNext db L s0 rest n) : SNext db L s0 rest m := by
  cases h with
  | next hr =>
    have hS : SStack .. := hS
    cases hr.kept with | next hk =>
    exact (hS.world (resolved_static hb0 hr hS.topStatic).2).updTop _ (hk.st.trans hS.topStatic)
  | halt hr =>
    have hS : SStack .. := hS
    exact hS.world (resolved_static hb0 hr hS.topStatic).2
  | @push top _ _ a s _ fnew _ hr hmk =>
    have hS : SStack .. := hS
    obtain ⟨hd, hw⟩ := resolved_static hb0 hr hS.topStatic
    cases hr.kept with | action hk _ =>
    cases hd with | call hsc =>
    obtain ⟨above, f, cps, e, hf, ha, hw⟩ := (hS.world hw).updTop s (hk.st.trans hS.topStatic)
    obtain ⟨cps', hw1, hmono, hfr⟩ := sw_makeCallFrame hb0 hw hsc hmk
    refine ⟨fnew :: above, f, cps', by rw [e]; rfl, hf, fun x hx => ?_, hw1⟩
    cases hx with
    | head => exact hfr fnew rfl
    | tail _ hx => exact (ha.mono hmono) x hx
  | @early top _ _ a s _ o _ _ hr hmk hdl =>
    have hS : SStack .. := hS
    obtain ⟨hd, hw⟩ := resolved_static hb0 hr hS.topStatic
    cases hr.kept with | action hk _ =>
    cases hd with | call hsc =>
    obtain ⟨above, f, cps, e, hf, ha, hw⟩ := (hS.world hw).updTop s (hk.st.trans hS.topStatic)
    obtain ⟨cps', hw1, hmono, _⟩ := sw_makeCallFrame hb0 hw hsc hmk
    exact deliver_static ⟨above, f, cps', e, hf, ha.mono hmono, hw1⟩ hdl
  | done hm hret => exact absurd hb (Nat.not_lt_zero _)
  | @ret top parent rest' _ _ _ _ _ _ _ _ hm hret hdl =>
    obtain ⟨above, f, cps, e, hf, ha, hw⟩ := hS
    cases above with
    | nil =>
      -- the static frame itself would return: then at most `rest.length` frames stay open
      simp only [List.nil_append, List.cons.injEq] at e
      obtain ⟨rfl, rfl⟩ := e
      have := deliver_depth hdl
      simp only [List.length_cons] at hb
      omega
    | cons g a' =>
      simp only [List.cons_append, List.cons.injEq] at e
      obtain ⟨rfl, e⟩ := e
      obtain ⟨hcp, _, rs, re, hkind⟩ := ha top (List.mem_cons_self ..)
      unfold frameReturn at hret
      rw [hkind] at hret
      exact deliver_static ⟨a', f, cps, e, hf, fun x hx => ha x (List.mem_cons_of_mem _ hx), sw_callReturn hb0 hw hcp hret⟩ hdl

theorem stepsAbove_static {rest : List JFrame} {cfg : Cfg} {n m : Next Journal.Checkpoint}
    (t : StepsAbove cfg rest.length n m) (hS : SNext db L s0 rest n) : SNext db L s0 rest m := by
  refine StepsAbove.inv (fun n hn => ?_) (fun h hb => move_static hb0 h hb) t hS
  cases n with
  | run st w => obtain ⟨above, f, _, rfl, _⟩ := hn; simp [nextDepth]; omega
  | ended t rs _ _ _ w => obtain ⟨above, f, _, e, _⟩ := hn; have := congrArg List.length e; simp at this; simp [nextDepth]; omega
  | done _ _ => exact hn.elim

end loop

/-- C10 `static_frame_state_equal` for whole-EVM runs: in every `.run` state `run_the_loop` passes while the static
frame `f` is still open, the world state equals the one `f` started on -/
theorem static_frame_state_equal_evm (cfg : Cfg) (f : JFrame) (rest : List JFrame) (w : World)
    (n : Next Journal.Checkpoint) (hf : f.interp.isStatic = true) (hbal : BalOk w.db w.js)
    (t : StepsAbove cfg rest.length (.run (f :: rest) w) n) :
    ∀ stack' w', n = .run stack' w' → WorldEq w.db w'.js w.js := by
  intro stack' w' hn
  have h0 : SNext w.db w.js.journal.length w.js rest (.run (f :: rest) w) :=
    ⟨[], f, [], rfl, hf, (fun g hg => nomatch hg), ⟨inv_init w.db { js := w.js, cps := [] }, rfl⟩⟩
  have h1 := stepsAbove_static hbal t h0
  rw [hn] at h1
  obtain ⟨above, f', cps, _, _, _, hw⟩ := h1
  exact hw.inv.world

end Revm.Proofs.EvmLink
