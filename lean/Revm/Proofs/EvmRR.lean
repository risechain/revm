import Revm.Model.Evm
import Revm.Spec.EvmStrict
/-! Results of the two machines, errors included: `RR P x1 x2` — when the first computation completes the second
completes with a `P`-related value; when the first stops with a model-level error the second stops with an error of
the same kind — unless the first stopped at one of the two admissibility checks of the strict discipline (`Esc`). `RR` is
a congruence for `bind`, which lifts the relation of the primitive operations through the frame machine and the handler
without case analysis on completed runs. The refinement (`EvmRefine*`) states its lemmas with `RR`, the generic simulation
(`EvmSim*`) with `RRw E`; `RR P` and `RRw Esc P` unfold to the same `match`, so each family's lemmas close the other's goals. -/
namespace Revm.Proofs.EvmRR
open Revm Revm.Model Revm.Model.Evm

/-- same kind of model-level error (panic / fatal / missing oracle answer / out of fuel) -/
def Kind : Err → Err → Prop
  | .panic _, .panic _ => True
  | .fatal _, .fatal _ => True
  | .oracleMiss _, .oracleMiss _ => True
  | .outOfFuel, .outOfFuel => True
  | _, _ => False

theorem Kind.refl (e : Err) : Kind e e := by cases e <;> trivial

/-- the stop of the strict discipline at an admissibility check -/
def Esc (e : Err) : Prop :=
  e = .panic "inadmissible: create_account_checkpoint without collision on an account created in this transaction" ∨
  e = .panic "inadmissible: set_code on an account with code"

/-- the relation of the module header; `RRw Esc` written out -/
def RR {α β : Type} (P : α → β → Prop) (x1 : R α) (x2 : R β) : Prop :=
  match x1 with
  | .ok a => ∃ b, x2 = .ok b ∧ P a b
  | .error e => Esc e ∨ ∃ e', x2 = .error e' ∧ Kind e e'

/-- `RR` with the set `E` of errors at which the first computation may stop unmatched left open; with every error in `E`
only completed runs are spoken of -/
def RRw (E : Err → Prop) {α β : Type} (P : α → β → Prop) (x1 : R α) (x2 : R β) : Prop :=
  match x1 with
  | .ok a => ∃ b, x2 = .ok b ∧ P a b
  | .error e => E e ∨ ∃ e', x2 = .error e' ∧ Kind e e'

variable {α β γ δ : Type} {E : Err → Prop}

theorem RRw.ok {P : α → β → Prop} {x1 : R α} {x2 : R β} (h : RRw E P x1 x2) {a : α} (ha : x1 = .ok a) :
    ∃ b, x2 = .ok b ∧ P a b := by subst ha; exact h

theorem RRw.ofOk {P : α → β → Prop} {x1 : R α} {x2 : R β} (h : ∀ a, x1 = .ok a → ∃ b, x2 = .ok b ∧ P a b) :
    RRw (fun _ => True) P x1 x2 := by
  cases x1 with
  | ok a => exact h a rfl
  | error e => exact .inl trivial

theorem RRw.pure {P : α → β → Prop} {a : α} {b : β} (h : P a b) : RRw E P (pure a) (pure b) := ⟨b, rfl, h⟩

theorem RRw.throw {P : α → β → Prop} {e e' : Err} (h : Kind e e') : RRw E P (throw e) (throw e') := .inr ⟨e', rfl, h⟩

theorem RRw.bind {P : α → β → Prop} {Q : γ → δ → Prop} {x1 : R α} {x2 : R β} {f : α → R γ} {g : β → R δ}
    (h : RRw E P x1 x2) (hfg : ∀ a b, P a b → RRw E Q (f a) (g b)) : RRw E Q (x1 >>= f) (x2 >>= g) := by
  cases x1 with
  | ok a =>
    obtain ⟨b, hb, hp⟩ := h
    subst hb
    exact hfg a b hp
  | error e =>
    rcases h with h | ⟨e', he', hk⟩
    · exact .inl h
    · subst he'; exact .inr ⟨e', rfl, hk⟩

theorem RRw.same (x : R α) : RRw E (fun a b => a = b) x x := by
  cases x with
  | ok a => exact ⟨a, rfl, rfl⟩
  | error e => exact .inr ⟨e, rfl, Kind.refl e⟩

theorem RR.of {P : α → β → Prop} {x1 : R α} {x2 : R β} (hf : ∀ a, x1 = .ok a → ∃ b, x2 = .ok b ∧ P a b)
    (he : ∀ e, x1 = .error e → Esc e ∨ ∃ e', x2 = .error e' ∧ Kind e e') : RR P x1 x2 := by
  cases x1 with
  | ok a => exact hf a rfl
  | error e => exact he e rfl

theorem RR.ok {P : α → β → Prop} {x1 : R α} {x2 : R β} (h : RR P x1 x2) {a : α} (ha : x1 = .ok a) :
    ∃ b, x2 = .ok b ∧ P a b := by subst ha; exact h

theorem RR.err {P : α → β → Prop} {x1 : R α} {x2 : R β} (h : RR P x1 x2) {e : Err} (ha : x1 = .error e) :
    Esc e ∨ ∃ e', x2 = .error e' ∧ Kind e e' := by subst ha; exact h

theorem RR.pure {P : α → β → Prop} {a : α} {b : β} (h : P a b) : RR P (pure a) (pure b) := ⟨b, rfl, h⟩

theorem RR.okok {P : α → β → Prop} {a : α} {b : β} (h : P a b) : RR P (.ok a) (.ok b) := ⟨b, rfl, h⟩

theorem RR.throw {P : α → β → Prop} {e e' : Err} (h : Kind e e') : RR P (throw e) (throw e') := .inr ⟨e', rfl, h⟩

theorem RR.error {P : α → β → Prop} {e e' : Err} (h : Kind e e') : RR P (.error e) (.error e') := .inr ⟨e', rfl, h⟩

theorem RR.mono {P Q : α → β → Prop} {x1 : R α} {x2 : R β} (h : RR P x1 x2) (hpq : ∀ a b, P a b → Q a b) : RR Q x1 x2 := by
  cases x1 with
  | ok a => obtain ⟨b, hb, hp⟩ := h; exact ⟨b, hb, hpq a b hp⟩
  | error e => exact h

theorem RR.bind {P : α → β → Prop} {Q : γ → δ → Prop} {x1 : R α} {x2 : R β} {f : α → R γ} {g : β → R δ}
    (h : RR P x1 x2) (hfg : ∀ a b, P a b → RR Q (f a) (g b)) : RR Q (x1 >>= f) (x2 >>= g) :=
  RRw.bind (E := Esc) h hfg

theorem RR.same (x : R α) : RR (fun a b => a = b) x x := RRw.same x

theorem RR.bindSame {Q : γ → δ → Prop} (x : R α) {f : α → R γ} {g : α → R δ} (h : ∀ a, RR Q (f a) (g a)) :
    RR Q (x >>= f) (x >>= g) :=
  RR.bind (RR.same x) (fun a b hab => by subst hab; exact h a)

theorem RR.ofOpt {P : α → β → Prop} (msg : String) {o1 : Option α} {o2 : Option β}
    (hs : ∀ a, o1 = some a → ∃ b, o2 = some b ∧ P a b) (hn : o1 = none → o2 = none) :
    RR P (ofOpt msg o1) (ofOpt msg o2) := by
  cases o1 with
  | some a => obtain ⟨b, hb, hp⟩ := hs a rfl; subst hb; exact ⟨b, rfl, hp⟩
  | none => rw [hn rfl]; exact .inr ⟨_, rfl, trivial⟩

theorem RR.withEq {P : α → β → Prop} {x1 : R α} {x2 : R β} (h : RR P x1 x2) :
    RR (fun a b => P a b ∧ x1 = .ok a ∧ x2 = .ok b) x1 x2 := by
  cases x1 with
  | ok a => obtain ⟨b, hb, hp⟩ := h; exact ⟨b, hb, hp, rfl, hb⟩
  | error e => exact h

end Revm.Proofs.EvmRR
