import Revm.Proofs.Journal
import Revm.Proofs.EvmRefineUndo
/-! The state map after a journal operation, read off the operation's inversion. What the operation does to the map's
domain (`Dom`); the operations that stay on the innermost journal level (`Lvl`: `Dom`, and depth, fork, pre-warmed set,
logs, number of levels unchanged), one `lvl_*` per such operation; `create_account_checkpoint` and `checkpoint_revert`
have a `dom_*` (no operation removes an account, undoing included: `dom_revert` reads `EvmRefine.Keeps`); and single
facts the frame-level proofs use (`loadAccount_info`, `loadCode_cached`, …). The ledger of C08 reads `Dom` as "the
address list covers the journal", the refinement C01 as "the specification's address list is exactly the domain of its
state map" (`Dom.isSome`), C07 reads `Lvl.depth`. -/
namespace Revm.Proofs.Journal
open Revm Revm.Model Revm.Model.Journal

theorem present_setAcct (s : JState) (a : Addr) (acc : Acct) : (setAcct s a acc).state a ≠ none := by
  simp only [Journal.setAcct, if_true]; exact fun h => nomatch h

theorem present_of_some {s : JState} {a : Addr} {acc : Acct} (h : s.state a = some acc) : s.state a ≠ none := by
  rw [h]; exact fun e => nomatch e

theorem setAcct_same {s : JState} {a : Addr} {acc : Acct} (h : s.state a = some acc) : setAcct s a acc = s := by
  cases s
  simp only [setAcct] at *
  congr
  funext x
  split
  · rename_i hx; subst hx; exact h.symm
  · rfl

theorem loadAccount_info {db : Db} {s s' : JState} {a : Addr} {c : Bool} (h : loadAccount db s a = some (s', c)) :
    ∀ b acc, s.state b = some acc → ∃ acc', s'.state b = some acc' ∧ acc'.info = acc.info := by
  intro b acc hb
  rw [(loadAccount_state h).1]
  by_cases e : b = a
  · subst e; rw [hb]; exact ⟨_, setAcct_state_same _ _ _, rfl⟩
  · exact ⟨acc, by rw [setAcct_state_ne _ _ e]; exact hb, rfl⟩

theorem incNonce_balance {s s' : JState} {a : Addr} {r} (h : incNonce s a = some (s', r)) {acc : Acct}
    (ha : s.state a = some acc) : ∃ acc', s'.state a = some acc' ∧ acc'.info.balance = acc.info.balance := by
  obtain ⟨acc0, ha0, h⟩ := incNonce_some h
  cases ha.symm.trans ha0
  split at h
  · rw [h.1]; exact ⟨acc, ha, rfl⟩
  · obtain ⟨s1, acc1, s2, ht, _, rfl, _⟩ := h
    exact ⟨_, setAcct_state_same _ _ _, by rw [(touchAccount_some ht).1]⟩

theorem loadCode_cached {db : Db} {s s' : JState} {a : Addr} {c : Bool} (h : loadCode db s a = some (s', c)) :
    ∃ acc hh, s'.state a = some acc ∧ acc.info.code = some hh := by
  obtain ⟨s1, x, _, hx, rfl⟩ := loadCode_some h
  -- once the cache is known the `if` of `loadCode_some` reduces
  cases hcc : x.info.code with
  | none => exact ⟨_, x.info.codeHash, setAcct_state_same _ _ _, rfl⟩
  | some hh => exact ⟨x, hh, hx, hcc⟩

/-- the accounts present in `s'` are those present in `s` and the accounts `l` the operation loads -/
def Dom (s s' : JState) (l : List Addr) : Prop := ∀ x, s'.state x ≠ none ↔ (s.state x ≠ none ∨ x ∈ l)

namespace Dom

/-- no account leaves -/
theorem mono {s s' : JState} {l : List Addr} (d : Dom s s' l) {x : Addr} (h : s.state x ≠ none) : s'.state x ≠ none :=
  (d x).2 (.inl h)
theorem present {s s' : JState} {l : List Addr} (d : Dom s s' l) {x : Addr} (h : x ∈ l) : s'.state x ≠ none :=
  (d x).2 (.inr h)

theorem refl (s : JState) : Dom s s [] := fun _ => ⟨.inl, fun h => h.elim id nofun⟩

/-- another list with the same new accounts: an account present before need not be listed -/
theorem change {s s' : JState} {l l' : List Addr} (d : Dom s s' l) (h1 : ∀ x ∈ l, s.state x ≠ none ∨ x ∈ l')
    (h2 : ∀ x ∈ l', s.state x ≠ none ∨ x ∈ l) : Dom s s' l' := fun x =>
  (d x).trans ⟨fun h => h.elim .inl (h1 x), fun h => h.elim .inl (h2 x)⟩

theorem trans {a b c : JState} {l1 l2 : List Addr} (h1 : Dom a b l1) (h2 : Dom b c l2) : Dom a c (l1 ++ l2) :=
  fun x => by rw [h2 x, h1 x, List.mem_append, or_assoc]

theorem trans0 {a b c : JState} {l : List Addr} (h1 : Dom a b l) (h2 : Dom b c []) : Dom a c l :=
  fun x => by rw [h2 x, h1 x]; simp

theorem of_state_eq {s s' : JState} (h : s'.state = s.state) : Dom s s' [] := fun x => by rw [h]; simp

theorem setAcct (s : JState) (a : Addr) (acc : Acct) : Dom s (setAcct s a acc) [a] := by
  intro x
  by_cases h : x = a
  · subst h; simp [present_setAcct]
  · simp [Journal.setAcct, h]

theorem setAcct_present {s : JState} {a : Addr} (acc : Acct) (hp : s.state a ≠ none) :
    Dom s (Journal.setAcct s a acc) [] :=
  (Dom.setAcct s a acc).change (fun _ hx => .inl (List.mem_singleton.mp hx ▸ hp)) nofun

theorem isSome {s s' : JState} {l : List Addr} (d : Dom s s' l) (x : Addr) :
    (s'.state x).isSome = ((s.state x).isSome || l.contains x) := by
  rw [Bool.eq_iff_iff, Bool.or_eq_true, Option.isSome_iff_ne_none, Option.isSome_iff_ne_none, List.contains_iff_mem]
  exact d x

theorem of_keeps {sd : Bool} {s s' : JState} (h : Proofs.EvmRefine.Keeps sd s s') : Dom s s' [] := fun x => by
  have h := h x
  cases hs : s.state x <;> cases hs' : s'.state x <;> rw [hs, hs'] at h <;> first | exact h.elim | simp

end Dom

/-- the operation stays on the innermost journal level: it loads the accounts `l` (`Dom`) and leaves the call depth,
the fork, the pre-warmed set, the logs and the number of journal levels as they were -/
structure Lvl (s s' : JState) (l : List Addr) : Prop where
  dom : Dom s s' l
  depth : s'.depth = s.depth
  spec : s'.spec = s.spec
  pre : s'.preloaded = s.preloaded
  logs : s'.logs = s.logs
  len : s'.journal.length = s.journal.length

namespace Lvl

theorem refl (s : JState) : Lvl s s [] := ⟨.refl s, rfl, rfl, rfl, rfl, rfl⟩

theorem trans {a b c : JState} {l1 l2 : List Addr} (h1 : Lvl a b l1) (h2 : Lvl b c l2) : Lvl a c (l1 ++ l2) :=
  ⟨h1.dom.trans h2.dom, h2.depth.trans h1.depth, h2.spec.trans h1.spec, h2.pre.trans h1.pre, h2.logs.trans h1.logs,
   h2.len.trans h1.len⟩

theorem trans0 {a b c : JState} {l : List Addr} (h1 : Lvl a b l) (h2 : Lvl b c []) : Lvl a c l :=
  List.append_nil l ▸ h1.trans h2

theorem setAcct (s : JState) (a : Addr) (acc : Acct) : Lvl s (setAcct s a acc) [a] :=
  ⟨.setAcct s a acc, rfl, rfl, rfl, rfl, rfl⟩

theorem setAcct_present {s : JState} {a : Addr} (acc : Acct) (hp : s.state a ≠ none) :
    Lvl s (Journal.setAcct s a acc) [] :=
  ⟨.setAcct_present acc hp, rfl, rfl, rfl, rfl, rfl⟩

theorem setTransient (s : JState) (a : Addr) (k : Nat) (v : Option Nat) : Lvl s (setTransient s a k v) [] :=
  ⟨.of_state_eq rfl, rfl, rfl, rfl, rfl, rfl⟩

theorem push {s s' : JState} {e : Entry} (h : pushEntry s e = some s') : Lvl s s' [] := by
  obtain ⟨l, rest, hj, rfl⟩ := pushEntry_eq h
  exact ⟨.of_state_eq rfl, rfl, rfl, rfl, rfl, by simp [hj]⟩

end Lvl

theorem lvl_touchAccount {s s' : JState} {a : Addr} {acc acc' : Acct} (hp : s.state a ≠ none)
    (h : touchAccount s a acc = some (s', acc')) : Lvl s s' [] := by
  obtain ⟨_, hs⟩ := touchAccount_some h
  split at hs
  · rw [hs]; exact .refl _
  · obtain ⟨s1, h1, rfl⟩ := hs
    exact (Lvl.push h1).trans0 (.setAcct_present _ ((Lvl.push h1).dom.mono hp))

theorem lvl_loadAccount {db : Db} {s s' : JState} {a : Addr} {c : Bool} (h : loadAccount db s a = some (s', c)) :
    Lvl s s' [a] := by
  obtain ⟨acc0, _, hs⟩ := loadAccount_some h
  split at hs
  · exact (Lvl.setAcct s a acc0).trans0 (.push hs)
  · rw [hs]; exact .setAcct s a acc0

theorem lvl_loadCode {db : Db} {s s' : JState} {a : Addr} {c : Bool} (h : loadCode db s a = some (s', c)) :
    Lvl s s' [a] := by
  obtain ⟨s1, acc, h1, h2, rfl⟩ := loadCode_some h
  split
  · exact (lvl_loadAccount h1).trans0 (.setAcct_present _ (present_of_some h2))
  · exact lvl_loadAccount h1

/-- `load_account_delegated`: the account, and the delegate its code names -/
theorem lvl_loadAccountDelegated {db : Db} {s s' : JState} {a : Addr} {r : Bool × Bool × Option Bool}
    (h : loadAccountDelegated db s a = some (s', r)) :
    Lvl s s' (a :: (match (s'.state a).bind (fun acc => acc.info.code.bind db.delegate) with
      | some t => [t] | none => [])) := by
  obtain ⟨e, c, d⟩ := r
  obtain ⟨s1, acc, h1, h2, _, h⟩ := loadAccountDelegated_some h
  have k1 := lvl_loadCode h1
  cases hd : Option.bind acc.info.code db.delegate with
  | none =>
    rw [hd] at h
    obtain ⟨rfl, _⟩ := h
    rw [h2]
    show Lvl s s' (a :: match acc.info.code.bind db.delegate with | some t => [t] | none => [])
    rw [hd]; exact k1
  | some t =>
    rw [hd] at h
    obtain ⟨dc, h3, _⟩ := h
    -- loading the delegate keeps the account's code, so the delegate read off the final state is `t`
    obtain ⟨acc2, hs2, hi2⟩ := loadAccount_info h3 a acc h2
    have : (s'.state a).bind (fun acc => acc.info.code.bind db.delegate) = some t := by
      rw [hs2]; show acc2.info.code.bind db.delegate = some t; rw [hi2]; exact hd
    rw [this]
    exact k1.trans (lvl_loadAccount h3)

theorem lvl_touch {s s' : JState} {a : Addr} (h : touch s a = some s') : Lvl s s' [] := by
  rcases touch_some h with ⟨acc, _, hs, h1⟩ | ⟨_, rfl⟩
  · exact lvl_touchAccount (present_of_some hs) h1
  · exact .refl _

/-- `transfer` loads both parties; every later write is to one of them -/
theorem lvl_transfer {db : Db} {s s' : JState} {src dst v : Nat} {r} (h : transfer db s src dst v = some (s', r)) :
    Lvl s s' [src, dst] := by
  obtain ⟨s1, c1, s2, c2, fa, s3, fa', h1, h2, h3, h4, h5⟩ := transfer_some h
  have d3 : Lvl s s3 [src, dst] :=
    ((lvl_loadAccount h1).trans (lvl_loadAccount h2)).trans0 (lvl_touchAccount (present_of_some h3) h4)
  have ps : s3.state src ≠ none := d3.dom.present (by simp)
  split at h5
  · obtain ⟨rfl, _⟩ := h5; exact d3
  · obtain ⟨ta, s4, ta', h6, h7, h8⟩ := h5
    have d4 : Lvl s s4 [src, dst] :=
      (d3.trans0 (.setAcct_present _ ps)).trans0 (lvl_touchAccount (present_of_some h6) h7)
    split at h8
    · obtain ⟨f, hf, _, rfl⟩ := h8
      exact d4.trans0 (.setAcct_present _ (present_of_some hf))
    · exact (d4.trans0 (.setAcct_present _ (d4.dom.present (by simp)))).trans0 (.push h8.2)

theorem lvl_incNonce {s s' : JState} {a : Addr} {r : Option Nat} (h : incNonce s a = some (s', r)) : Lvl s s' [] := by
  obtain ⟨acc, h1, h⟩ := incNonce_some h
  split at h
  · rw [h.1]; exact .refl _
  · obtain ⟨s1, acc1, s2, h2, h3, rfl, _⟩ := h
    have d2 := (lvl_touchAccount (present_of_some h1) h2).trans0 (.push h3)
    exact d2.trans0 (.setAcct_present _ (d2.dom.mono (present_of_some h1)))

theorem lvl_setCode {s s' : JState} {a : Addr} {hash : Nat} (h : setCode s a hash = some s') : Lvl s s' [] := by
  obtain ⟨acc, s1, acc1, s2, h1, h2, h3, rfl⟩ := setCode_some h
  have d2 := (lvl_touchAccount (present_of_some h1) h2).trans0 (.push h3)
  exact d2.trans0 (.setAcct_present _ (d2.dom.mono (present_of_some h1)))

theorem lvl_sload {db : Db} {s s' : JState} {a k v : Nat} {c : Bool} (h : sload db s a k = some (s', v, c)) :
    Lvl s s' [] := by
  cases hs : s.state a with
  | none => simp [sload, hs] at h
  | some acc =>
    rw [sload_eq db s a k acc hs] at h
    have d1 := Lvl.setAcct_present (s := s) (a := a)
      (setSlot acc k ⟨(slotsOf db a acc.created acc.storage k).orig,
        (slotsOf db a acc.created acc.storage k).present, false⟩) (present_of_some hs)
    dsimp only at h
    split at h
    · obtain ⟨s2, hp, he⟩ := Option.map_eq_some_iff.1 h
      cases he
      exact d1.trans0 (.push hp)
    · cases h; exact d1

theorem lvl_sstore {db : Db} {s s' : JState} {a k new o p n : Nat} {c : Bool}
    (h : sstore db s a k new = some (s', o, p, n, c)) : Lvl s s' [] := by
  obtain ⟨s1, acc, sl, h1, h2, _, _, _, h⟩ := sstore_some h
  split at h
  · rw [h]; exact lvl_sload h1
  · obtain ⟨s2, h4, rfl⟩ := h
    exact ((lvl_sload h1).trans0 (.push h4)).trans0
      (.setAcct_present _ ((Lvl.push h4).dom.mono (present_of_some h2)))

theorem lvl_tstore {s s' : JState} {a k v : Nat} (h : tstore s a k v = some s') : Lvl s s' [] := by
  rw [tstore_eq] at h
  split at h
  · exact (Lvl.setTransient s a k _).trans0 (.push h)
  · cases h; exact .setTransient s a k _

/-- `selfdestruct` loads the beneficiary; the contract itself must be there -/
theorem lvl_selfdestruct {db : Db} {s s' : JState} {a t : Nat} {r} (h : selfdestruct db s a t = some (s', r)) :
    Lvl s s' [t] ∧ s'.state a ≠ none := by
  obtain ⟨s1, c1, tacc, s2, acc, h1, h2, h3, h4, h5, _⟩ := selfdestruct_some h
  have d2 : Lvl s1 s2 [] := by
    split at h3
    · obtain ⟨acc0, s4, t1, _, h7, rfl⟩ := h3
      have p := present_of_some h2
      exact (lvl_touchAccount p h7).trans0 (.setAcct_present _ ((lvl_touchAccount p h7).dom.mono p))
    · rw [h3]; exact .refl _
  have pa : s2.state a ≠ none := present_of_some h4
  have d3 : Lvl s2 s' [] := by
    split at h5
    · exact (Lvl.setAcct_present _ pa).trans0 (.push h5)
    · split at h5
      · exact (Lvl.setAcct_present _ pa).trans0 (.push h5)
      · rw [h5]; exact .refl _
  exact ⟨((lvl_loadAccount h1).trans0 d2).trans0 d3, d3.dom.mono pa⟩

theorem dom_revert {s s' : JState} {cp : Checkpoint} (h : revert s cp = some s') : Dom s s' [] :=
  .of_keeps (Proofs.EvmRefine.revert_keeps h).1

/-- `create_account_checkpoint` adds no account: the new account was loaded before; a handed-out checkpoint means the
caller is there too -/
theorem dom_createAccountCheckpoint {s s' : JState} {caller a : Nat} {hs : Bool} {v spec : Nat} {r}
    (h : createAccountCheckpoint s caller a hs v spec = some (s', r)) :
    Dom s s' [] ∧ (∀ cp, r = .ok cp → s'.state caller ≠ none ∧ s'.state a ≠ none) := by
  obtain ⟨acc, h1, h⟩ := create_some h
  have d0 : Dom s (checkpoint s).1 [] := .of_state_eq rfl
  have p0 : (checkpoint s).1.state a ≠ none := present_of_some h1
  split at h
  · obtain ⟨h3, rfl⟩ := h
    exact ⟨d0.trans0 (dom_revert h3), fun cp hcp => nomatch hcp⟩
  · obtain ⟨s1, s2, acc2, hp1, ht, h⟩ := h
    have d1 : Dom s s1 [] := (d0.trans0 (.setAcct_present _ p0)).trans0 (Lvl.push hp1).dom
    have p1 : s1.state a ≠ none := d1.mono (by exact p0)
    have d2 : Dom s s2 [] := (d1.trans0 (.setAcct_present _ p1)).trans0 (lvl_touchAccount (present_setAcct _ _ _) ht).dom
    have p2 : s2.state a ≠ none := d2.mono (by exact p0)
    split at h
    · obtain ⟨h6, rfl⟩ := h
      exact ⟨d2.trans0 (dom_revert h6), fun cp hcp => nomatch hcp⟩
    · obtain ⟨c, n4, _, hc, hp4, _⟩ := h
      have d4 := ((d2.trans0 (.setAcct_present _ p2)).trans0 (.setAcct_present _ (present_of_some hc))).trans0
        (Lvl.push hp4).dom
      exact ⟨d4, fun cp _ => ⟨(Lvl.push hp4).dom.mono (present_setAcct _ _ _),
        (Lvl.push hp4).dom.mono ((Dom.setAcct _ _ _).mono (present_setAcct _ _ _))⟩⟩

theorem dom_initialAccountLoad (db : Db) (s : JState) (a : Addr) (ks : List Nat) :
    Dom s (initialAccountLoad db s a ks) [a] := by
  unfold initialAccountLoad; exact .setAcct _ _ _

end Revm.Proofs.Journal
