import Revm.Proofs.EvmRefineRel
import Revm.Proofs.JournalDom
/-! Congruence of the forward journal operations with respect to `JRel`: one `X_rel : OSim …` per operation, each
following the operation's text `bind` by `bind`. `X_congr`: which fields of the database an operation reads. -/
namespace Revm.Proofs.EvmRefine
open Revm Revm.Model Revm.Model.Journal Revm.Spec.JournalAbs Revm.Proofs.Journal Revm.Proofs.Frame

/-- `EntryRel` at two present accounts: how the `X_rel` proofs carry the account of either machine they hold in hand -/
abbrev ARel (db : Db) (a : Addr) (x y : Acct) : Prop := EntryRel db a (some x) (some y)

/-- `JRel.state` as an existential instead of an `OSim` -/
theorem JRel.get {db : Db} {j s : JState} (h : JRel db j s) {a : Addr} {x : Acct} (hx : j.state a = some x) :
    ∃ y, s.state a = some y ∧ ARel db a x y := by
  have := h.ent a
  rw [hx] at this
  cases hs : s.state a with
  | none => rw [hs] at this; exact this.elim
  | some y => rw [hs] at this; exact ⟨y, rfl, this⟩

theorem JRel.get_none {db : Db} {j s : JState} (h : JRel db j s) {a : Addr} (hx : j.state a = none) :
    s.state a = none := by
  have := h.ent a
  rw [hx] at this
  cases hs : s.state a with
  | none => rfl
  | some y => rw [hs] at this; exact this.elim

theorem loadAccount_rel {db : Db} {j s : JState} {a : Addr} (h : JRel db j s)
    (hdb : ∀ b i, db.basic b = some i → ∀ hh, i.code = some hh → hh = i.codeHash) :
    OSim (fun p q => p.2 = q.2 ∧ JRel db p.1 q.1) (loadAccount db j a) (loadAccount db s a) := by
  have he := h.ent a
  unfold loadAccount
  cases hja : j.state a with
  | some x =>
    cases hsa : s.state a with
    | none => rw [hja, hsa] at he; exact he.elim
    | some y =>
      rw [hja, hsa] at he
      obtain ⟨e1, e2, e3, e4, e5, e6, e7, e8, e9⟩ := he
      have hrel : JRel db (Journal.setAcct j a { x with cold := false }) (Journal.setAcct s a { y with cold := false }) :=
        h.setAcct a _ _ ⟨e1, e2, e3, e4, e5, e6, e7, rfl, e9⟩ (h.cj a x hja) (h.cs a y hsa)
      simp only
      rw [← e8]
      by_cases hc : x.cold
      · rw [if_pos hc, if_pos hc]
        exact (hrel.push _).map fun j1 s1 h1 => ⟨rfl, h1.1⟩
      · rw [if_neg hc, if_neg hc]
        exact OSim.some ⟨rfl, hrel⟩
  | none =>
    cases hsa : s.state a with
    | some y => rw [hja, hsa] at he; exact he.elim
    | none =>
      show OSim _ (if (!j.preloaded a) = true then
          (pushEntry (Journal.setAcct j a (dbAcct db a)) (.accountWarmed a)).map (·, true)
        else some (Journal.setAcct j a (dbAcct db a), false)) (if (!s.preloaded a) = true then
          (pushEntry (Journal.setAcct s a (dbAcct db a)) (.accountWarmed a)).map (·, true)
        else some (Journal.setAcct s a (dbAcct db a), false))
      have hrel : JRel db (Journal.setAcct j a (dbAcct db a)) (Journal.setAcct s a (dbAcct db a)) :=
        h.setAcct a _ _ ⟨rfl, rfl, rfl, rfl, rfl, rfl, rfl, rfl, rfl⟩ (dbAcct_code hdb a) (dbAcct_code hdb a)
      rw [← h.pre]
      by_cases hc : (!j.preloaded a) = true
      · rw [if_pos hc, if_pos hc]
        exact (hrel.push _).map fun j1 s1 h1 => ⟨rfl, h1.1⟩
      · rw [if_neg hc, if_neg hc]
        exact OSim.some ⟨rfl, hrel⟩

theorem touchAccount_rel {db : Db} {j s : JState} {a : Addr} {x y : Acct} (h : JRel db j s)
    (hx : j.state a = some x) (hy : s.state a = some y) :
    OSim (fun p q => JRel db p.1 q.1 ∧ p.1.state a = some p.2 ∧ q.1.state a = some q.2 ∧ ARel db a p.2 q.2)
      (touchAccount j a x) (touchAccount s a y) := by
  have he : ARel db a x y := by have := h.ent a; rw [hx, hy] at this; exact this
  obtain ⟨e1, e2, e3, e4, e5, e6, e7, e8, e9⟩ := he
  unfold touchAccount
  rw [← e6]
  by_cases hc : (!x.touched) = true
  · rw [if_pos hc, if_pos hc]
    refine OSim.bind (h.push _) ?_
    rintro j1 s1 ⟨r1, hs1⟩
    have ar : ARel db a { x with touched := true } { y with touched := true } := ⟨e1, e2, e3, e4, e5, rfl, e7, e8, e9⟩
    exact OSim.some ⟨r1.setAcct a _ _ ar (h.cj a x hx) (h.cs a y hy), by simp [setAcct], by simp [setAcct], ar⟩
  · rw [if_neg hc, if_neg hc]
    exact OSim.some ⟨h, hx, hy, ⟨e1, e2, e3, e4, e5, e6, e7, e8, e9⟩⟩

theorem touch_rel {db : Db} {j s : JState} {a : Addr} (h : JRel db j s) :
    OSim (JRel db) (touch j a) (touch s a) := by
  unfold touch
  cases hx : j.state a with
  | none =>
    rw [h.get_none hx]
    exact OSim.some h
  | some x =>
    obtain ⟨y, hy, _⟩ := h.get hx
    rw [hy]
    exact (touchAccount_rel h hx hy).map fun p q hpq => hpq.1

/-- `load_code`: each machine fills its own code cache, with the hash of the account -/
theorem loadCode_rel {db : Db} {j s : JState} {a : Addr} (h : JRel db j s)
    (hdb : ∀ b i, db.basic b = some i → ∀ hh, i.code = some hh → hh = i.codeHash) :
    OSim (fun p q => p.2 = q.2 ∧ JRel db p.1 q.1) (loadCode db j a) (loadCode db s a) := by
  unfold loadCode
  refine OSim.bind (loadAccount_rel h hdb) ?_
  rintro ⟨j1, c1⟩ ⟨s1, c1'⟩ ⟨hc, r1⟩
  simp only at hc r1
  subst hc
  refine OSim.bind (r1.state a) ?_
  rintro x y ⟨ar, hx, hy⟩
  have fill : ∀ z : Acct, ∀ c, ({ z.info with code := some z.info.codeHash } : Info).code = some c →
      c = ({ z.info with code := some z.info.codeHash } : Info).codeHash := fun z c hc => (Option.some.inj hc).symm
  by_cases hcx : x.info.code.isNone = true
  · rw [if_pos hcx]
    by_cases hcy : y.info.code.isNone = true
    · rw [if_pos hcy]
      exact OSim.some ⟨rfl, r1.setAcct a _ _ ar (fill x) (fill y)⟩
    · rw [if_neg hcy]
      have := r1.setAcct a { x with info := { x.info with code := some x.info.codeHash } } y ar (fill x) (r1.cs a y hy)
      rw [setAcct_same hy] at this
      exact OSim.some ⟨rfl, this⟩
  · rw [if_neg hcx]
    by_cases hcy : y.info.code.isNone = true
    · rw [if_pos hcy]
      have := r1.setAcct a x { y with info := { y.info with code := some y.info.codeHash } } ar (r1.cj a x hx) (fill y)
      rw [setAcct_same hx] at this
      exact OSim.some ⟨rfl, this⟩
    · rw [if_neg hcy]
      exact OSim.some ⟨rfl, r1⟩

theorem arel_isEmpty {db : Db} {a : Addr} {x y : Acct} (h : ARel db a x y) (spec : Nat) :
    x.stateClearAwareIsEmpty spec = y.stateClearAwareIsEmpty spec := by
  obtain ⟨e1, e2, e3, e4, e5, e6, e7, e8, e9⟩ := h
  simp only [Acct.stateClearAwareIsEmpty, Info.isEmpty, e1, e2, e3, e6, e7]

theorem loadCode_congr {db db' : Db} (hb : db'.basic = db.basic) (s : JState) (a : Addr) :
    loadCode db' s a = loadCode db s a := by
  unfold loadCode; rw [loadAccount_congr hb]

theorem sload_congr {db db' : Db} (hb : db'.storage = db.storage) (s : JState) (a k : Nat) :
    sload db' s a k = sload db s a k := by
  unfold sload; rw [hb]

theorem sstore_congr {db db' : Db} (hb : db'.storage = db.storage) (s : JState) (a k v : Nat) :
    sstore db' s a k v = sstore db s a k v := by
  unfold sstore; rw [sload_congr hb]

theorem selfdestruct_congr {db db' : Db} (hb : db'.basic = db.basic) (s : JState) (a t : Nat) :
    selfdestruct db' s a t = selfdestruct db s a t := by
  unfold selfdestruct; rw [loadAccount_congr hb]

theorem transfer_congr {db db' : Db} (hb : db'.basic = db.basic) (s : JState) (a b v : Nat) :
    transfer db' s a b v = transfer db s a b v := by
  unfold transfer; simp only [loadAccount_congr hb]

theorem loadAccountDelegated_congr {db db' : Db} (hb : db'.basic = db.basic) (hd : db'.delegate = db.delegate)
    (s : JState) (a : Addr) : loadAccountDelegated db' s a = loadAccountDelegated db s a := by
  unfold loadAccountDelegated; simp only [loadAccount_congr hb, loadCode_congr hb, hd]

/-- `load_account_delegated`, run against a database `dbw` that agrees with `db` on `basic` (the delegation lookup of
the world reads the code store, which is the same on both sides) -/
theorem loadAccountDelegated_rel {db dbw : Db} {j s : JState} {a : Addr} (hb : dbw.basic = db.basic) (h : JRel db j s)
    (hdb : ∀ b i, db.basic b = some i → ∀ hh, i.code = some hh → hh = i.codeHash) :
    OSim (fun p q => p.2 = q.2 ∧ JRel db p.1 q.1)
      (loadAccountDelegated dbw j a) (loadAccountDelegated dbw s a) := by
  unfold loadAccountDelegated
  rw [loadCode_congr hb, loadCode_congr hb]
  refine OSim.bind (loadCode_rel h hdb).withEq ?_
  rintro ⟨j1, c1⟩ ⟨s1, c1'⟩ ⟨⟨hc, r1⟩, h1, hs1⟩
  simp only at hc r1
  subst hc
  -- both code caches are filled, with the hash of the account
  obtain ⟨x, hh, hx, hcx⟩ := loadCode_cached h1
  obtain ⟨y, hh', hy, hcy⟩ := loadCode_cached hs1
  have ar : ARel db a x y := by have := r1.ent a; rw [hx, hy] at this; exact this
  have hcode : y.info.code = x.info.code := by
    rw [hcx, hcy, r1.cj a x hx hh hcx, r1.cs a y hy hh' hcy, ar.2.2.1]
  simp only [hx, hy, Option.bind_eq_bind, Option.bind_some]
  rw [hcode, ← r1.spec, ← arel_isEmpty ar j1.spec]
  cases hd : Option.bind x.info.code dbw.delegate with
  | none => exact OSim.some ⟨rfl, r1⟩
  | some d =>
    simp only
    rw [loadAccount_congr hb, loadAccount_congr hb]
    refine (loadAccount_rel r1 hdb).bind ?_
    rintro ⟨j2, c2⟩ ⟨s2, c2'⟩ ⟨hc2, r2⟩
    simp only at hc2 r2
    subst hc2
    exact OSim.some ⟨rfl, r2⟩

theorem setSlot_created (acc : Acct) (k : Nat) (sl : Slot) : (setSlot acc k sl).created = acc.created := rfl

theorem arel_setSlot {db : Db} {a : Addr} {x y : Acct} (h : ARel db a x y) (k : Nat) (sx sy : Slot)
    (h1 : sx.orig = sy.orig) (h2 : sx.present = sy.present) (h3 : sx.cold = sy.cold) :
    ARel db a (setSlot x k sx) (setSlot y k sy) := by
  obtain ⟨e1, e2, e3, e4, e5, e6, e7, e8, e9⟩ := h
  refine ⟨e1, e2, e3, e4, e5, e6, e7, e8, ?_⟩
  show slotsOf db a x.created (setSlot x k sx).storage = slotsOf db a y.created (setSlot y k sy).storage
  rw [slotsOf_setSlot, slotsOf_setSlot, h1, h2, h3, e9]

theorem sload_rel {db : Db} {j s : JState} {a : Addr} {k : Nat} (h : JRel db j s) :
    OSim (fun p q => p.2 = q.2 ∧ JRel db p.1 q.1) (sload db j a k) (sload db s a k) := by
  cases hx : j.state a with
  | none =>
    have : sload db j a k = none := by simp [sload, hx]
    rw [this]
    exact OSim.none
  | some x =>
    obtain ⟨y, hy, ar⟩ := h.get hx
    rw [sload_eq db j a k x hx, sload_eq db s a k y hy]
    have eA : slotsOf db a x.created x.storage k = slotsOf db a y.created y.storage k := congrFun ar.2.2.2.2.2.2.2.2 k
    simp only
    rw [← eA]
    have r1 := h.setAcct a _ _ (arel_setSlot ar k
      ⟨(slotsOf db a x.created x.storage k).orig, (slotsOf db a x.created x.storage k).present, false⟩
      ⟨(slotsOf db a x.created x.storage k).orig, (slotsOf db a x.created x.storage k).present, false⟩ rfl rfl rfl)
      (h.cj a x hx) (h.cs a y hy)
    by_cases hw : (!(slotsOf db a x.created x.storage k).warm) = true
    · rw [if_pos hw, if_pos hw]
      exact (r1.push _).map fun j1 s1 h1 => ⟨rfl, h1.1⟩
    · rw [if_neg hw, if_neg hw]
      exact OSim.some ⟨rfl, r1⟩

theorem sstore_rel {db : Db} {j s : JState} {a : Addr} {k new : Nat} (h : JRel db j s) :
    OSim (fun p q => p.2 = q.2 ∧ JRel db p.1 q.1) (sstore db j a k new) (sstore db s a k new) := by
  unfold sstore
  refine OSim.bind (sload_rel h).withEq ?_
  rintro ⟨j1, v, c1⟩ ⟨s1, r'⟩ ⟨⟨hv, r1⟩, hsl, hss⟩
  simp only at hv r1
  subst hv
  -- after `sload` the slot is present on both sides
  obtain ⟨_, _, _, x, slx, hx, hkx, _⟩ := sload_pushes (db := db) hsl
  obtain ⟨_, _, _, y, sly, hy, hky, _⟩ := sload_pushes (db := db) hss
  have ar : ARel db a x y := by have := r1.ent a; rw [hx, hy] at this; exact this
  have e9 := congrFun ar.2.2.2.2.2.2.2.2 k
  simp only [slotsOf, hkx, hky, AbsSlot.mk.injEq] at e9
  obtain ⟨eo, ep, ec⟩ := e9
  simp only [hx, hy, hkx, hky, Option.bind_eq_bind, Option.bind_some]
  rw [← eo]
  by_cases hv : v = new
  · rw [if_pos hv, if_pos hv]
    exact OSim.some ⟨rfl, r1⟩
  · rw [if_neg hv, if_neg hv]
    refine OSim.bind (r1.push _) ?_
    rintro j2 s2 ⟨r2, hs2⟩
    have ar' := arel_setSlot ar k { slx with present := new } ⟨slx.orig, new, sly.cold⟩ rfl rfl (by simpa using ec)
    exact OSim.some ⟨rfl, r2.setAcct a _ _ ar' (r1.cj a x hx) (r1.cs a y hy)⟩

def SameButTr (s s' : JState) : Prop :=
  s'.state = s.state ∧ s'.logs = s.logs ∧ s'.depth = s.depth ∧ s'.spec = s.spec ∧ s'.preloaded = s.preloaded ∧
  s'.journal ≠ []

theorem JRel.of_tr {db : Db} {j s j' s' : JState} (h : JRel db j s) (hj : SameButTr j j') (hs : SameButTr s s')
    (htr : ∀ a k, tload j' a k = tload s' a k) : JRel db j' s' := by
  obtain ⟨a1, a3, a4, a5, a6, a7⟩ := hj
  obtain ⟨b1, b3, b4, b5, b6, b7⟩ := hs
  refine ⟨?_, htr, ?_, ?_, ?_, ?_, a7, b7, ?_, ?_⟩
  · intro a; rw [a1, b1]; exact h.ent a
  · rw [a3, b3]; exact h.logs
  · rw [a4, b4]; exact h.depth
  · rw [a5, b5]; exact h.spec
  · rw [a6, b6]; exact h.pre
  · intro a acc hacc; rw [a1] at hacc; exact h.cj a acc hacc
  · intro a acc hacc; rw [b1] at hacc; exact h.cs a acc hacc

theorem SameButTr.push {s s1 s' : JState} {e : Entry} (hp : pushEntry s1 e = some s') (h : s1.state = s.state ∧ s1.logs = s.logs ∧ s1.depth = s.depth ∧
    s1.spec = s.spec ∧ s1.preloaded = s.preloaded) : SameButTr s s' := by
  obtain ⟨p1, p2, p3, p4, p5, p6, p7⟩ := pushEntry_some hp
  exact ⟨p1.trans h.1, p3.trans h.2.1, p4.trans h.2.2.1, p5.trans h.2.2.2.1, p6.trans h.2.2.2.2, p7⟩

theorem tstore_char {s s' : JState} {a : Addr} {k new : Nat} (hne : s.journal ≠ []) (h : tstore s a k new = some s') :
    SameButTr s s' ∧ ∀ b k', tload s' b k' = if b = a ∧ k' = k then new else tload s b k' := by
  rw [tstore_eq] at h
  have hset : ∀ b k', tload (setTransient s a k (if new = 0 then none else some new)) b k' =
      if b = a ∧ k' = k then new else tload s b k' := by
    intro b k'; rw [tload_setTransient, tstored_getD]
  split at h
  · have e := pushEntry_some h
    refine ⟨SameButTr.push h ⟨rfl, rfl, rfl, rfl, rfl⟩, fun b k' => ?_⟩
    rw [← hset b k']; simp only [tload, e.2.1]
  · cases h; exact ⟨⟨rfl, rfl, rfl, rfl, rfl, hne⟩, hset⟩

theorem tstore_rel {db : Db} {j s : JState} {a : Addr} {k new : Nat} (h : JRel db j s) :
    OSim (JRel db) (tstore j a k new) (tstore s a k new) := by
  intro j' hl
  obtain ⟨s', hs'⟩ := tstore_total a k new h.sne
  obtain ⟨c1, t1⟩ := tstore_char h.jne hl
  obtain ⟨c2, t2⟩ := tstore_char h.sne hs'
  refine ⟨s', hs', h.of_tr c1 c2 ?_⟩
  intro b k'
  rw [t1, t2, h.tr b k']

theorem log_rel {db : Db} {j s : JState} (l : Nat) (h : JRel db j s) : JRel db (Journal.log j l) (Journal.log s l) := by
  refine ⟨h.ent, h.tr, ?_, h.depth, h.spec, h.pre, h.jne, h.sne, h.cj, h.cs⟩
  simp only [Journal.log]; rw [h.logs]

theorem incNonce_rel {db : Db} {j s : JState} {a : Addr} (h : JRel db j s) :
    OSim (fun p q => p.2 = q.2 ∧ JRel db p.1 q.1) (incNonce j a) (incNonce s a) := by
  unfold incNonce
  refine OSim.bind (h.state a) ?_
  rintro x y ⟨ar, hx, hy⟩
  rw [← ar.2.1]
  by_cases hn : x.info.nonce = U64 - 1
  · rw [if_pos hn, if_pos hn]
    exact OSim.some ⟨rfl, h⟩
  · rw [if_neg hn, if_neg hn]
    refine OSim.bind (touchAccount_rel h hx hy) ?_
    rintro ⟨j1, x1⟩ ⟨s1, y1⟩ ⟨r1, hx1, hy1, ar1⟩
    simp only at r1 hx1 hy1 ar1
    refine OSim.bind (r1.push _) ?_
    rintro j2 s2 ⟨r2, _⟩
    obtain ⟨e1, e2, e3, e4, e5, e6, e7, e8, e9⟩ := ar1
    simp only
    rw [← e2]
    exact OSim.some ⟨rfl, r2.setAcct a _ _ ⟨e1, rfl, e3, e4, e5, e6, e7, e8, e9⟩ (r1.cj a x1 hx1) (r1.cs a y1 hy1)⟩

theorem setCode_rel {db : Db} {j s : JState} {a : Addr} {hash : Nat} (h : JRel db j s) :
    OSim (JRel db) (setCode j a hash) (setCode s a hash) := by
  unfold setCode
  refine OSim.bind (h.state a) ?_
  rintro x y ⟨ar, hx, hy⟩
  refine OSim.bind (touchAccount_rel h hx hy) ?_
  rintro ⟨j1, x1⟩ ⟨s1, y1⟩ ⟨r1, hx1, hy1, ar1⟩
  simp only at r1 hx1 hy1 ar1
  refine OSim.bind (r1.push _) ?_
  rintro j2 s2 ⟨r2, _⟩
  obtain ⟨e1, e2, e3, e4, e5, e6, e7, e8, e9⟩ := ar1
  exact OSim.some (r2.setAcct a _ _ ⟨e1, e2, rfl, e4, e5, e6, e7, e8, e9⟩
      (fun c hc => (Option.some.inj hc).symm) (fun c hc => (Option.some.inj hc).symm))


theorem arel_bal {db : Db} {a : Addr} {x y : Acct} (h : ARel db a x y) (b : Nat) :
    ARel db a { x with info := { x.info with balance := b } } { y with info := { y.info with balance := b } } := by
  obtain ⟨e1, e2, e3, e4, e5, e6, e7, e8, e9⟩ := h
  exact ⟨rfl, e2, e3, e4, e5, e6, e7, e8, e9⟩

theorem JRel.setBal {db : Db} {j s : JState} (h : JRel db j s) {a : Addr} {x y : Acct} (hx : j.state a = some x)
    (hy : s.state a = some y) (b : Nat) :
    JRel db (Journal.setAcct j a { x with info := { x.info with balance := b } })
      (Journal.setAcct s a { y with info := { y.info with balance := b } }) := by
  have ar : ARel db a x y := by have := h.ent a; rw [hx, hy] at this; exact this
  exact h.setAcct a _ _ (arel_bal ar b) (h.cj a x hx) (h.cs a y hy)

theorem transfer_rel {db : Db} {j s : JState} {src dst : Addr} {v : Nat} (h : JRel db j s)
    (hdb : ∀ b i, db.basic b = some i → ∀ hh, i.code = some hh → hh = i.codeHash) :
    OSim (fun p q => p.2 = q.2 ∧ JRel db p.1 q.1) (transfer db j src dst v) (transfer db s src dst v) := by
  unfold transfer
  refine OSim.bind (loadAccount_rel h hdb) ?_
  rintro ⟨j1, c1⟩ ⟨s1, c1'⟩ ⟨_, r1⟩
  refine OSim.bind (loadAccount_rel r1 hdb) ?_
  rintro ⟨j2, c2⟩ ⟨s2, c2'⟩ ⟨_, r2⟩
  simp only at r1 r2
  refine OSim.bind (r2.state src) ?_
  rintro x y ⟨_, hx, hy⟩
  refine OSim.bind (touchAccount_rel r2 hx hy) ?_
  rintro ⟨j3, x3⟩ ⟨s3, y3⟩ ⟨r3, hx3, hy3, ar3⟩
  simp only at r3 hx3 hy3 ar3 ⊢
  rw [← ar3.1]
  by_cases hf : x3.info.balance < v
  · rw [if_pos hf, if_pos hf]
    exact OSim.some ⟨rfl, r3⟩
  · rw [if_neg hf, if_neg hf]
    have r4 := r3.setBal hx3 hy3 (x3.info.balance - v)
    refine OSim.bind (r4.state dst) ?_
    rintro x5 y5 ⟨_, hx5, hy5⟩
    refine OSim.bind (touchAccount_rel r4 hx5 hy5) ?_
    rintro ⟨j6, x6⟩ ⟨s6, y6⟩ ⟨r6, hx6, hy6, ar6⟩
    simp only at r6 hx6 hy6 ar6 ⊢
    rw [← ar6.1]
    by_cases ho : x6.info.balance + v ≥ W
    · -- the credit would overflow: the debit is given back
      rw [if_pos ho, if_pos ho]
      refine OSim.bind (r6.state src) ?_
      rintro x7 y7 ⟨ar7, hx7, hy7⟩
      rw [← ar7.1]
      exact OSim.some ⟨rfl, r6.setBal hx7 hy7 (U256.wadd x7.info.balance v)⟩
    · rw [if_neg ho, if_neg ho]
      refine OSim.bind ((r6.setBal hx6 hy6 (x6.info.balance + v)).push _) ?_
      rintro j9 s9 ⟨r9, _⟩
      exact OSim.some ⟨rfl, r9⟩

theorem sdCredit_rel {db : Db} {j s : JState} {a target : Addr} (h : JRel db j s) :
    OSim (JRel db) (sdCredit j a target) (sdCredit s a target) := by
  unfold sdCredit
  by_cases hat : a ≠ target
  · rw [if_pos hat, if_pos hat]
    refine OSim.bind (h.state a) ?_
    rintro x y ⟨ar, _, _⟩
    refine OSim.bind (h.state target) ?_
    rintro xt yt ⟨_, hxt, hyt⟩
    refine OSim.bind (touchAccount_rel h hxt hyt) ?_
    rintro ⟨j1, x1⟩ ⟨s1, y1⟩ ⟨r1, hx1, hy1, ar1⟩
    simp only at r1 hx1 hy1 ar1 ⊢
    rw [← ar.1, ← ar1.1]
    exact OSim.some (r1.setBal hx1 hy1 (U256.wadd x1.info.balance x.info.balance))
  · rw [if_neg hat, if_neg hat]
    exact OSim.some h

theorem sdFinal_rel {db : Db} {j s : JState} {a target : Addr} {x y : Acct} (h : JRel db j s)
    (hx : j.state a = some x) (hy : s.state a = some y) :
    OSim (JRel db) (sdFinal j a target x) (sdFinal s a target y) := by
  have ar : ARel db a x y := by have := h.ent a; rw [hx, hy] at this; exact this
  obtain ⟨e1, e2, e3, e4, e5, e6, e7, e8, e9⟩ := ar
  unfold sdFinal
  have hcond : (x.created = true ∨ (!decide (j.spec ≥ CANCUN)) = true) ↔
      (y.created = true ∨ (!decide (s.spec ≥ CANCUN)) = true) := by rw [h.spec, e4]
  by_cases hc : x.created = true ∨ (!decide (j.spec ≥ CANCUN)) = true
  · rw [if_pos hc, if_pos (hcond.1 hc)]
    have he : Entry.accountDestroyed a target y.selfdestructed y.info.balance =
        Entry.accountDestroyed a target x.selfdestructed x.info.balance := by rw [e1, e5]
    simp only [he]
    have r3 := h.setAcct a { x with selfdestructed := true, info := { x.info with balance := 0 } }
      { y with selfdestructed := true, info := { y.info with balance := 0 } } ⟨rfl, e2, e3, e4, rfl, e6, e7, e8, e9⟩
      (h.cj a x hx) (h.cs a y hy)
    exact (r3.push _).mono fun j' s' h' => h'.1
  · rw [if_neg hc, if_neg (fun hh => hc (hcond.2 hh))]
    by_cases hat : a ≠ target
    · rw [if_pos hat, if_pos hat]
      have he : Entry.balanceTransfer a target y.info.balance = Entry.balanceTransfer a target x.info.balance := by rw [e1]
      simp only [he]
      exact ((h.setBal hx hy 0).push _).mono fun j' s' h' => h'.1
    · rw [if_neg hat, if_neg hat]
      exact OSim.some h

theorem selfdestruct_rel {db : Db} {j s : JState} {a target : Addr} (h : JRel db j s)
    (hdb : ∀ b i, db.basic b = some i → ∀ hh, i.code = some hh → hh = i.codeHash) :
    OSim (fun p q => p.2 = q.2 ∧ JRel db p.1 q.1) (selfdestruct db j a target) (selfdestruct db s a target) := by
  rw [selfdestruct_eq, selfdestruct_eq]
  refine OSim.bind (loadAccount_rel h hdb) ?_
  rintro ⟨j1, c1⟩ ⟨s1, c1'⟩ ⟨hc, r1⟩
  simp only at hc r1
  subst hc
  refine OSim.bind (r1.state target) ?_
  rintro xt yt ⟨art, _, _⟩
  refine OSim.bind (sdCredit_rel r1) ?_
  intro j2 s2 r2
  refine OSim.bind (r2.state a) ?_
  rintro x y ⟨ar, hx, hy⟩
  refine OSim.bind (sdFinal_rel r2 hx hy) ?_
  intro j3 s3 r3
  refine OSim.some ⟨?_, r3⟩
  show (_, _, _, _) = (_, _, _, _)
  rw [← ar.1, ← ar.2.2.2.2.1, ← r1.spec, ← arel_isEmpty art j1.spec]

end Revm.Proofs.EvmRefine
