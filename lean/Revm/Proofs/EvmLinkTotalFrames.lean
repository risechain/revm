import Revm.Proofs.EvmFrame
import Revm.Proofs.EvmLinkTotal
/-! Panic-freedom of the frame functions (C07 `makeCallFrame_total`, `makeCreateFrame_total`, `callReturn_total`,
`createReturn_total` on EvmFrame): under `WOk` they never hit an `unwrap`; the checkpoint of a frame they open lies
strictly inside the journal (`FOut`), closing it leaves a journal that still reaches it (`Closed`); the account a new
frame runs on is loaded. -/
namespace Revm.Proofs.EvmLink
open Revm Revm.Model Revm.Model.Evm
open Revm.Proofs.EvmFrame
open Revm.Proofs.Journal (Grows)

/-- what a `make_*_frame` guarantees about the world it leaves (C07 `FrameOut`) -/
structure FOut (w w1 : World) (fr : FrameOrResult Journal.Checkpoint) : Prop where
  ok : WOk w1
  grows : Grows w.js w1.js
  len : w.js.journal.length ≤ w1.js.journal.length
  cp : ∀ f, fr = .frame f →
    w.js.journal.length ≤ f.checkpoint.journalI ∧ f.checkpoint.journalI < w1.js.journal.length

theorem FOut.same {w w1 : World} (h : WS w w1) (r : Interp.ChildResult) : FOut w w1 (.result r) :=
  ⟨h.ok, h.grows, Nat.le_of_eq h.len.symm, fun _ hf => nomatch hf⟩

/-- same-level steps before a `make_*_frame` stage do not move its checkpoint -/
theorem FOut.after {w w1 w2 : World} {fr : FrameOrResult Journal.Checkpoint} (h : WS w w1) (fo : FOut w1 w2 fr) :
    FOut w w2 fr :=
  ⟨fo.ok, h.grows.trans fo.grows, h.len ▸ fo.len, fun f hf => h.len ▸ fo.cp f hf⟩

theorem wok_len_pos {w : World} (h : WOk w) : 1 ≤ w.js.journal.length := Proofs.Frame.journal_len_pos h.good

theorem ws_checkpoint {w : World} (h : WOk w) :
    WOk w.checkpoint.1 ∧ Grows w.js w.checkpoint.1.js ∧
      w.checkpoint.1.js.journal.length = w.js.journal.length + 1 ∧ w.checkpoint.2.journalI = w.js.journal.length :=
  ⟨⟨Proofs.Frame.good_checkpoint h.good, h.dbal⟩, Grows.of_state_eq rfl, by simp [World.checkpoint, Journal.checkpoint],
   rfl⟩

theorem ws_commit {w : World} (h : WOk w) : WS w w.commit :=
  ⟨⟨Proofs.Frame.good_commit h.good, h.dbal⟩, Grows.of_state_eq rfl, rfl⟩

theorem tot_callValueStep {w : World} (h : WOk w) (i : Interp.CallInputs) :
    Tot (callValueStep w i) (fun r => WS w r.1 ∧
      (i.valueTransfer = true → (r.1.js.state i.targetAddress).isSome)) := by
  unfold callValueStep
  split
  · rename_i hvt
    split
    · refine tot_bind (tot_loadAccount h _) (fun r hr => ?_)
      refine tot_bind (tot_touch hr.1.ok _) (fun w2 h2 => ?_)
      exact tot_pure ⟨hr.1.trans h2, fun _ => h2.grows.acct _ hr.2⟩
    · refine tot_bind (tot_transfer h _ _ _) (fun r hr => ?_)
      obtain ⟨w2, e⟩ := r
      dsimp only
      split <;> exact tot_pure ⟨hr.1, fun _ => hr.2.2⟩
  · rename_i hvt
    exact tot_pure ⟨WS.refl h, fun hv => absurd hv hvt⟩

theorem tot_runPrecompile (w : World) (spec a : Nat) (input : List Nat) (gl : Nat) :
    Tot (runPrecompile w spec a input gl) (fun _ => True) := by
  unfold runPrecompile
  split
  · exact tot_pure trivial
  · split
    · split
      · split
        · exact tot_pure trivial
        · split
          · exact tot_pure trivial
          · split
            · exact tot_pure trivial
            · exact Or.inr (Or.inr (Or.inr ⟨_, rfl⟩))
      · exact Or.inr (Or.inr (Or.inl ⟨_, rfl⟩))
    · exact tot_pure trivial

/-- the result of a `make_call_frame` stage that works inside the checkpoint `cp` -/
def CallOut (w : World) (cp : Journal.Checkpoint) (i : Interp.CallInputs)
    (r : FrameOrResult Journal.Checkpoint × World) : Prop :=
  WOk r.2 ∧ Grows w.js r.2.js ∧ cp.journalI ≤ r.2.js.journal.length ∧
    ∀ f, r.1 = .frame f → f.checkpoint = cp ∧ cp.journalI < r.2.js.journal.length ∧
      f.interp.target = i.targetAddress ∧ f.kind = .call i.retStart i.retEnd

/-- a frame `make_call_frame` hands out runs on the target, as a call, under the checkpoint it was given -/
def CallFr (cp : Journal.Checkpoint) (i : Interp.CallInputs) (fr : FrameOrResult Journal.Checkpoint) : Prop :=
  ∀ f, fr = .frame f → f.checkpoint = cp ∧ f.interp.target = i.targetAddress ∧ f.kind = .call i.retStart i.retEnd

theorem callOut_same {w w1 : World} {cp : Journal.Checkpoint} {i : Interp.CallInputs}
    {fr : FrameOrResult Journal.Checkpoint} (hlt : cp.journalI < w.js.journal.length) (h : WS w w1)
    (hf : CallFr cp i fr) : CallOut w cp i (fr, w1) :=
  ⟨h.ok, h.grows, by rw [h.len]; exact Nat.le_of_lt hlt, fun f e => ⟨(hf f e).1, by rw [h.len]; exact hlt, (hf f e).2⟩⟩

/-- what closing the checkpoint `cp` of a frame leaves: a well-formed world whose journal still reaches `cp` and has
not grown -/
structure Closed (w : World) (cp : Journal.Checkpoint) (w1 : World) : Prop where
  ok : WOk w1
  grows : Grows w.js w1.js
  reach : cp.journalI ≤ w1.js.journal.length
  short : w1.js.journal.length ≤ w.js.journal.length

theorem Closed.same {w w1 : World} {cp : Journal.Checkpoint} (hlt : cp.journalI < w.js.journal.length) (h : WS w w1) :
    Closed w cp w1 :=
  ⟨h.ok, h.grows, by rw [h.len]; exact Nat.le_of_lt hlt, Nat.le_of_eq h.len⟩

theorem tot_revertTo {w : World} (h : WOk w) {cp : Journal.Checkpoint} (h1 : 1 ≤ cp.journalI)
    (hlt : cp.journalI < w.js.journal.length) : Tot (journalOps.revert w cp) (Closed w cp) :=
  tot_mono (tot_revert h cp h1 (Nat.le_of_lt hlt)) fun w1 h1' =>
    ⟨h1'.1, h1'.2.1, Nat.le_of_eq h1'.2.2.symm, by rw [h1'.2.2]; exact Nat.le_of_lt hlt⟩

/-- giving up inside the checkpoint `cp`: revert it and answer with a result -/
theorem tot_giveUp {w : World} (h : WOk w) {cp : Journal.Checkpoint} (i : Interp.CallInputs) (h1 : 1 ≤ cp.journalI)
    (hlt : cp.journalI < w.js.journal.length) (x : Interp.ChildResult) :
    Tot (do
      let w ← journalOps.revert w cp
      pure (FrameOrResult.result x, w) : R (FrameOrResult Journal.Checkpoint × World)) (CallOut w cp i) :=
  tot_bind (tot_revertTo h h1 hlt) fun _ hc => tot_pure ⟨hc.ok, hc.grows, hc.reach, fun _ hf => nomatch hf⟩

/-- `make_call_frame` from `load_code` on only makes same-level steps -/
theorem tot_callTail {w : World} (h : WOk w) (cfg : Cfg) (cp : Journal.Checkpoint) (i : Interp.CallInputs)
    (mem : Memory.SharedMemory) :
    Tot (callTail journalOps cfg w cp i mem) (fun r => WS w r.2 ∧ CallFr cp i r.1) := by
  unfold callTail
  refine tot_bind' (tot_loadCode h _) fun ⟨w1, c⟩ hl hr => tot_bytes hl hr.2 fun acc bytecode _ => ?_
  split
  · exact tot_pure ⟨hr.1.trans (ws_commit hr.1.ok), fun f hf => nomatch hf⟩
  · refine tot_bind (P := fun p => WS w1 p.1) ?_ fun p hp => tot_pure ⟨hr.1.trans hp, fun f hf => ?_⟩
    · split
      · exact tot_bind' (tot_loadCode hr.1.ok _) fun ⟨w3, c3⟩ hl3 hr3 =>
          tot_bytes hl3 hr3.2 fun _ _ _ => tot_pure hr3.1
      · exact tot_pure (.refl hr.1.ok)
    · cases hf; exact ⟨rfl, rfl, rfl⟩

theorem tot_callPrecompile {w : World} (h : WOk w) (cfg : Cfg) (cp : Journal.Checkpoint) (i : Interp.CallInputs)
    (mem : Memory.SharedMemory) (h1 : 1 ≤ cp.journalI) (hlt : cp.journalI < w.js.journal.length) :
    Tot (callPrecompile journalOps cfg w cp i mem) (CallOut w cp i) := by
  unfold callPrecompile
  refine tot_bind (tot_runPrecompile _ _ _ _ _) (fun pc _ => ?_)
  cases pc with
  | none => exact tot_mono (tot_callTail h cfg cp i mem) fun r hr => callOut_same hlt hr.1 hr.2
  | some res =>
    cases res with
    | ok gasUsed out =>
      simp only
      split
      · exact tot_pure (callOut_same hlt (ws_commit h) fun f hf => nomatch hf)
      · exact tot_giveUp h i h1 hlt _
    | err e => exact tot_giveUp h i h1 hlt _
    | panic => exact Or.inr (Or.inl rfl)

/-- C07 `makeCallFrame_total` on EvmFrame -/
theorem tot_makeCallFrame {w : World} (h : WOk w) (cfg : Cfg) (i : Interp.CallInputs) (mem : Memory.SharedMemory) :
    Tot (makeCallFrame journalOps cfg w i mem) (fun r => FOut w r.2 r.1 ∧ ∀ f, r.1 = .frame f →
      (∃ rs re, f.kind = .call rs re) ∧ f.interp.target = i.targetAddress ∧
      ((i.valueTransfer = true ∨ (w.js.state i.targetAddress).isSome) → (r.2.js.state i.targetAddress).isSome)) := by
  rw [makeCallFrame_staged]
  unfold makeCallFrameS
  split
  · exact tot_pure ⟨.same (.refl h) _, fun f hf => nomatch hf⟩
  · refine tot_bind (tot_loadAccountDelegated h _) fun ⟨w1, x⟩ hr1 => ?_
    obtain ⟨hck, gck, lck, cpI⟩ := ws_checkpoint hr1.ok
    -- the checkpoint sits at the old journal length, one level below the journal inside it
    have hcp : w1.checkpoint.2.journalI = w.js.journal.length := cpI.trans hr1.len
    have h1 : 1 ≤ w1.checkpoint.2.journalI := hcp ▸ wok_len_pos h
    refine tot_bind (tot_callValueStep hck i) fun ⟨w2, failed⟩ hr2 => ?_
    have hlt : w1.checkpoint.2.journalI < w2.js.journal.length := by
      rw [hr2.1.len, lck, cpI]; exact Nat.lt_succ_self _
    have g02 : Grows w.js w2.js := (hr1.grows.trans gck).trans hr2.1.grows
    refine tot_mono (P := CallOut w2 w1.checkpoint.2 i) ?_ fun r ⟨k1, k2, k3, k4⟩ =>
      ⟨⟨k1, g02.trans k2, hcp ▸ k3, fun f hf => ?_⟩, fun f hf => ?_⟩
    · cases failed with
      | some r0 => exact tot_giveUp hr2.1.ok i h1 hlt _
      | none => exact tot_callPrecompile hr2.1.ok cfg _ i mem h1 hlt
    · obtain ⟨e1, e2, _⟩ := k4 f hf
      rw [e1]; exact ⟨Nat.le_of_eq hcp.symm, e2⟩
    · obtain ⟨_, _, e3, e4⟩ := k4 f hf
      exact ⟨⟨_, _, e4⟩, e3, fun hor => hor.elim (fun hv => k2.acct _ (hr2.2 hv)) fun hp => (g02.trans k2).acct _ hp⟩

theorem tot_callReturn {w : World} (h : WOk w) (cp : Journal.Checkpoint) (r : Interp.ChildResult)
    (h1 : 1 ≤ cp.journalI) (hlt : cp.journalI < w.js.journal.length) :
    Tot (callReturn journalOps w cp r) (fun p => Closed w cp p.2) := by
  unfold callReturn
  split
  · exact tot_pure (.same hlt (ws_commit h))
  · exact tot_bind (tot_revertTo h h1 hlt) fun _ hc => tot_pure hc

theorem tot_createCheckpoint {w : World} (h : WOk w) (caller a : Nat) (hs : Bool) (v spec : Nat)
    (ha : (w.js.state a).isSome) (hc : (w.js.state caller).isSome) :
    Tot (journalOps.createCheckpoint w caller a hs v spec) (fun p => WOk p.1 ∧ Grows w.js p.1.js ∧
      (match p.2 with
       | .ok cp => cp.journalI = w.js.journal.length ∧ p.1.js.journal.length = w.js.journal.length + 1
       | .error _ => p.1.js.journal.length = w.js.journal.length)) := by
  obtain ⟨s', r, h1, g', gr, hm⟩ := Proofs.Frame.createAccountCheckpoint_good h.good hs v spec ha hc
  simp only [journalOps]
  rw [h1]
  refine ⟨wok_js h g', gr, ?_⟩
  cases r with
  | ok cp => exact ⟨by rw [hm.1]; rfl, hm.2⟩
  | error e => exact hm

theorem tot_setCode {w : World} (h : WOk w) (a hash : Nat) (ha : (w.js.state a).isSome) :
    Tot (journalOps.setCode w a hash) (fun w1 => WS w w1) := by
  obtain ⟨s', h1, g', gr, hl⟩ := Proofs.Frame.setCode_good h.good hash ha
  simp only [journalOps]
  rw [h1]
  exact ws_js h g' gr hl

/-- a frame `make_create_frame` opens runs on the created address, which is loaded -/
def CreateFr (w1 : World) (fr : FrameOrResult Journal.Checkpoint) : Prop :=
  ∀ f, fr = .frame f → ∃ a, f.kind = .create a ∧ f.interp.target = a ∧ (w1.js.state a).isSome

theorem tot_createTail {w : World} (h : WOk w) (cfg : Cfg) (i : Interp.CreateInputs) (mem : Memory.SharedMemory)
    (created : Nat) (hc : (w.js.state i.caller).isSome) :
    Tot (createTail journalOps cfg w i mem created) (fun r => FOut w r.2 r.1 ∧ CreateFr r.2 r.1) := by
  unfold createTail
  split
  · exact tot_pure ⟨.same (.refl h) _, fun f hf => nomatch hf⟩
  · refine tot_bind (tot_loadAccount h created) fun ⟨w1, c1⟩ hr1 => ?_
    refine tot_bind (tot_createCheckpoint hr1.1.ok i.caller created _ i.value cfg.spec hr1.2
      (hr1.1.grows.acct _ hc)) fun ⟨w2, r⟩ ⟨k1, k2, k3⟩ => ?_
    cases r with
    | error e =>
      cases e <;> exact tot_pure ⟨.after hr1.1 ⟨k1, k2, Nat.le_of_eq k3.symm, fun f hf => nomatch hf⟩, fun f hf => nomatch hf⟩
    | ok cp =>
      refine tot_pure ⟨.after hr1.1 ⟨k1, k2, k3.2 ▸ Nat.le_succ _, ?cp⟩, ?fr⟩
      case cp => intro f hf; cases hf; exact ⟨Nat.le_of_eq k3.1.symm, by rw [k3.2]; exact Nat.lt_succ_of_le (Nat.le_of_eq k3.1)⟩
      case fr => intro f hf; cases hf; exact ⟨created, rfl, rfl, k2.acct _ hr1.2⟩

/-- C07 `makeCreateFrame_total` on EvmFrame -/
theorem tot_makeCreateFrame {w : World} (h : WOk w) (cfg : Cfg) (i : Interp.CreateInputs)
    (mem : Memory.SharedMemory) :
    Tot (makeCreateFrame journalOps cfg w i mem) (fun r => FOut w r.2 r.1 ∧ CreateFr r.2 r.1) := by
  rw [makeCreateFrame_staged]
  unfold makeCreateFrameS
  split
  · exact tot_pure ⟨.same (.refl h) _, fun f hf => nomatch hf⟩
  · refine tot_bind (tot_loadAccount h i.caller) fun ⟨w1, c1⟩ hr1 => ?_
    refine tot_bind (tot_acct hr1.2) (fun cacc _ => ?_)
    split
    · exact tot_pure ⟨.same hr1.1 _, fun f hf => nomatch hf⟩
    · obtain ⟨s', r, h2, g', gr, hl⟩ := Proofs.Frame.incNonce_good hr1.1.ok.dbal hr1.1.ok.good hr1.2
      rw [h2]
      have hs : WS w { w1 with js := s' } := hr1.1.trans (ws_js hr1.1.ok g' gr hl)
      cases r with
      | none => exact tot_pure ⟨.same hs _, fun f hf => nomatch hf⟩
      | some newNonce =>
        exact tot_mono (tot_createTail hs.ok cfg i mem _ (gr.acct _ hr1.2)) fun r hr => ⟨.after hs hr.1, hr.2⟩

theorem tot_createReturn {w : World} (h : WOk w) (cfg : Cfg) (cp : Journal.Checkpoint) (a : Nat)
    (r : Interp.ChildResult) (h1 : 1 ≤ cp.journalI) (hlt : cp.journalI < w.js.journal.length)
    (ha : (w.js.state a).isSome) : Tot (createReturn journalOps cfg w cp a r) (fun p => Closed w cp p.2) := by
  rw [createReturn_eq]
  generalize createVerdict cfg a r = v
  obtain ⟨x, _ | ⟨hash, code⟩⟩ := v
  · exact tot_bind (tot_revertTo h h1 hlt) fun _ hc => tot_pure hc
  · have hc := ws_commit h
    exact tot_bind (tot_setCode hc.ok a hash (hc.grows.acct _ ha)) fun w2 h2 =>
      tot_pure (.same hlt ((hc.trans h2).addCode hash code))

end Revm.Proofs.EvmLink
