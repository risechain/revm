import Revm.Model.Blob
import Revm.Spec.Blob
/-! C32, for the repaired `utilities.rs`: the EIP-4844 `fake_exponential` loop over unbounded integers is a
total function, the model's answer does not depend on the fuel, the model returns the EIP value clamped to
`u128`, and `calc_excess_blob_gas` is the clamped difference. -/
namespace Revm.Proofs.Blob
open Revm Revm.Model.Blob

theorem U128_eq : U128 = 2^128 := rfl
theorem W_eq : W = 2^256 := rfl

theorem spec_fuel_mono : ∀ fuel i out acc n d r k,
    Spec.Blob.fakeExpLoop fuel i out acc n d = some r →
    Spec.Blob.fakeExpLoop (fuel + k) i out acc n d = some r := by
  intro fuel
  induction fuel with
  | zero => intro i out acc n d r k h; simp [Spec.Blob.fakeExpLoop] at h
  | succ m ih =>
    intro i out acc n d r k h
    rw [show m + 1 + k = (m + k) + 1 by omega]
    unfold Spec.Blob.fakeExpLoop at h ⊢
    by_cases hacc : acc > 0
    · simp only [hacc, if_true] at h ⊢; exact ih _ _ _ _ _ _ _ h
    · simp only [hacc, if_false] at h ⊢; exact h

theorem model_fuel_mono : ∀ fuel i out acc n d r k,
    fakeExpLoop fuel i out acc n d = some r →
    fakeExpLoop (fuel + k) i out acc n d = some r := by
  intro fuel
  induction fuel with
  | zero => intro i out acc n d r k h; simp [fakeExpLoop] at h
  | succ m ih =>
    intro i out acc n d r k h
    rw [show m + 1 + k = (m + k) + 1 by omega]
    unfold fakeExpLoop at h ⊢
    by_cases hacc : acc > 0
    · simp only [hacc, if_true] at h ⊢
      cases h1 : U256.checkedAdd out acc with
      | none => simpa [h1] using h
      | some o' =>
        simp only [h1] at h ⊢
        cases h2 : U256.checkedMul acc n with
        | none => simpa [h2] using h
        | some p =>
          simp only [h2] at h ⊢
          by_cases hdn : U256.wmul d i = 0
          · simpa [hdn] using h
          · simp only [hdn, if_false] at h ⊢
            exact ih _ _ _ _ _ _ _ h
    · simp only [hacc, if_false] at h ⊢; exact h

theorem fakeExp_unique (f n d r r' : Nat) (h : Spec.Blob.FakeExp f n d r) (h' : Spec.Blob.FakeExp f n d r') :
    r = r' := by
  obtain ⟨a, ha⟩ := h; obtain ⟨b, hb⟩ := h'
  have h1 := spec_fuel_mono a _ _ _ _ _ _ b ha
  have h2 := spec_fuel_mono b _ _ _ _ _ _ a hb
  unfold Spec.Blob.fakeExpFuel at *
  rw [Nat.add_comm b a] at h2
  rw [h1] at h2; exact Option.some.inj h2

theorem model_top_fuel_mono (fuel k f n d : Nat) (r : Res Nat)
    (h : fakeExponential fuel f n d = some r) : fakeExponential (fuel + k) f n d = some r := by
  unfold fakeExponential at h ⊢
  by_cases hd : d = 0
  · simpa [hd] using h
  · simp only [hd, if_false] at h ⊢
    exact model_fuel_mono _ _ _ _ _ _ _ k h

theorem model_top_unique (a b f n d : Nat) (r r' : Res Nat)
    (h : fakeExponential a f n d = some r) (h' : fakeExponential b f n d = some r') : r = r' := by
  have h1 := model_top_fuel_mono a b f n d r h
  have h2 := model_top_fuel_mono b a f n d r' h'
  rw [Nat.add_comm b a, h1] at h2
  exact Option.some.inj h2

theorem div_lt_self_of (acc n d i : Nat) (hacc : 0 < acc) (hni : n < i) : acc * n / (d * i) < acc := by
  by_cases hd : d = 0
  · subst hd; simp; exact hacc
  · apply Nat.div_lt_of_lt_mul
    have h1 : acc * n < acc * i := Nat.mul_lt_mul_of_pos_left hni hacc
    have h2 : acc * i ≤ acc * (d * i) := Nat.mul_le_mul_left _ (Nat.le_mul_of_pos_left _ (by omega))
    calc acc * n < acc * i := h1
      _ ≤ acc * (d * i) := h2
      _ = d * i * acc := Nat.mul_comm _ _

theorem terminates_of_next (n d i out acc : Nat)
    (h : acc > 0 → ∃ fuel, (Spec.Blob.fakeExpLoop fuel (i + 1) (out + acc) (acc * n / (d * i)) n d).isSome) :
    ∃ fuel, (Spec.Blob.fakeExpLoop fuel i out acc n d).isSome := by
  by_cases hacc : acc > 0
  · obtain ⟨fuel, hf⟩ := h hacc
    exact ⟨fuel + 1, by unfold Spec.Blob.fakeExpLoop; simp only [hacc, if_true]; exact hf⟩
  · exact ⟨1, by unfold Spec.Blob.fakeExpLoop; simp [hacc]⟩

/-- past `i = n` the accumulator strictly decreases -/
theorem terminates_tail (n d : Nat) : ∀ acc i out, n < i → ∃ fuel, (Spec.Blob.fakeExpLoop fuel i out acc n d).isSome := by
  intro acc
  induction acc using Nat.strongRecOn with
  | _ acc ih =>
    intro i out hi
    exact terminates_of_next n d i out acc fun hacc =>
      ih _ (div_lt_self_of acc n d i hacc hi) (i + 1) (out + acc) (by omega)

/-- up to `i = n` the distance `n + 1 - i` decreases -/
theorem terminates_loop (n d : Nat) : ∀ k i acc out, n + 1 - i = k → ∃ fuel, (Spec.Blob.fakeExpLoop fuel i out acc n d).isSome := by
  intro k
  induction k with
  | zero => intro i acc out h; exact terminates_tail n d acc i out (by omega)
  | succ k ih =>
    intro i acc out h
    exact terminates_of_next n d i out acc fun _ => ih (i + 1) _ _ (by omega)

theorem fakeExp_total (f n d : Nat) : ∃ r, Spec.Blob.FakeExp f n d r := by
  obtain ⟨fuel, hf⟩ := terminates_loop n d (n + 1 - 1) 1 (f * d) 0 rfl
  obtain ⟨r, hr⟩ := Option.isSome_iff_exists.mp hf
  exact ⟨r, fuel, hr⟩

theorem spec_result_ge (n d : Nat) : ∀ fuel i out acc r,
    Spec.Blob.fakeExpLoop fuel i out acc n d = some r → out / d ≤ r := by
  intro fuel
  induction fuel with
  | zero => intro i out acc r h; simp [Spec.Blob.fakeExpLoop] at h
  | succ k ih =>
    intro i out acc r h
    unfold Spec.Blob.fakeExpLoop at h
    by_cases hacc : acc > 0
    · simp only [hacc, if_true] at h
      exact Nat.le_trans (Nat.div_le_div_right (Nat.le_add_right _ _)) (ih _ _ _ _ h)
    · simp only [hacc, if_false, Option.some.injEq] at h
      omega

/-- iteration counter bound used for `denominator * i`: beyond `K = 2^65` the accumulator at least
halves in every round (numerator < 2^64), and it is below 2^256, so the loop cannot pass `K + 256` -/
def K : Nat := 2^65
theorem K_val : K = 36893488147419103232 := by unfold K; rfl

theorem halving (acc n d i e : Nat) (hn : n < U64) (hd0 : 0 < d) (hi : K ≤ i)
    (hacc : acc < 2^(e+1)) : acc * n / (d * i) < 2^e := by
  apply Nat.div_lt_of_lt_mul
  have h1 : acc * n < 2^(e+1) * U64 := by
    by_cases hn0 : n = 0
    · subst hn0
      have : 0 < 2^(e+1) * U64 := Nat.mul_pos (Nat.two_pow_pos (e+1)) (by rw [U64_val]; omega)
      simpa using this
    · exact Nat.mul_lt_mul'' hacc hn
  have h2 : 2^(e+1) * U64 = 2^e * K := by
    rw [Nat.pow_succ, Nat.mul_assoc]; rfl
  have h3 : 2^e * K ≤ 2^e * i := Nat.mul_le_mul_left _ hi
  have h4 : 2^e * i ≤ 2^e * (d * i) := Nat.mul_le_mul_left _ (Nat.le_mul_of_pos_left _ hd0)
  calc acc * n < 2^(e+1) * U64 := h1
    _ = 2^e * K := h2
    _ ≤ 2^e * i := h3
    _ ≤ 2^e * (d * i) := h4
    _ = d * i * 2^e := Nat.mul_comm _ _

theorem big_quot (x d : Nat) (hd0 : 0 < d) (hd : d < U64) (hx : 2^192 ≤ x) : U128 ≤ x / d := by
  rw [Nat.le_div_iff_mul_le hd0]
  have hU := U64_val; have h8 := U128_val
  have : (2:Nat)^192 = 6277101735386680763835789423207666416102355444464034512896 := by decide
  rw [h8]; omega

/-- a running sum of at least 2^192 already forces the clamp: the EIP value is at least `sum / d ≥ 2^128` -/
theorem sat_of_big (r x d : Nat) (hd0 : 0 < d) (hd : d < U64) (hx : 2^192 ≤ x) (hge : x / d ≤ r) :
    min r U128_MAX = U128_MAX := by
  have := big_quot x d hd0 hd hx
  unfold U128_MAX; have := U128_val; omega

theorem pow192_le_W : 2^192 ≤ W := Nat.pow_le_pow_right (by decide) (by decide : 192 ≤ 256)

theorem big_of_mul_overflow (acc n : Nat) (hn : n < U64) (h : ¬ acc * n < W) : 2^192 ≤ acc := by
  apply Nat.le_of_not_lt
  intro hlt
  have : acc * n < 2^192 * U64 := by
    by_cases hn0 : n = 0
    · subst hn0; exact Nat.mul_pos (Nat.two_pow_pos _) (by rw [U64_val]; decide)
    · exact Nat.mul_lt_mul'' hlt hn
  exact h (Nat.lt_of_lt_of_le this (by rw [U64_val, W_val]; decide))

theorem counter_small (d i : Nat) (hd : d < U64) (hi : i < K + 256) : d * i < W ∧ i + 1 < W := by
  have : d * i < U64 * (K + 256) := Nat.mul_lt_mul'' hd hi
  rw [U64_val, K_val] at this; rw [K_val] at hi; rw [W_val]; omega

theorem toU128Sat_eq (q : Nat) : toU128Sat q = min q U128_MAX := by
  unfold toU128Sat U128_MAX; have := U128_val; split <;> omega

theorem loop_sat (n d : Nat) (hn : n < U64) (hd0 : 0 < d) (hd : d < U64) : ∀ fuel i out acc r,
    1 ≤ i → acc < W → (K ≤ i → acc < 2^(K + 256 - i)) →
    Spec.Blob.fakeExpLoop fuel i out acc n d = some r →
    fakeExpLoop fuel i out acc n d = some (.ok (min r U128_MAX)) := by
  intro fuel
  induction fuel with
  | zero => intro i out acc r _ _ _ h; simp [Spec.Blob.fakeExpLoop] at h
  | succ k ih =>
    intro i out acc r hi haccW hK h
    unfold Spec.Blob.fakeExpLoop at h
    unfold fakeExpLoop
    by_cases hacc : acc > 0
    · simp only [hacc, if_true] at h ⊢
      have hge := spec_result_ge n d _ _ _ _ _ h
      by_cases h1 : out + acc < W
      · simp only [U256.checkedAdd, h1, if_true]
        by_cases h2 : acc * n < W
        · simp only [U256.checkedMul, h2, if_true]
          have hib : i < K + 256 := by
            by_cases hki : K ≤ i
            · have := hK hki
              by_cases he : K + 256 - i = 0
              · rw [he] at this; simp at this; omega
              · omega
            · omega
          obtain ⟨hdi, hi1⟩ := counter_small d i hd hib
          have hdi0 : d * i ≠ 0 := Nat.mul_ne_zero (by omega) (by omega)
          have hwm : U256.wmul d i = d * i := Nat.mod_eq_of_lt hdi
          have hwa : U256.wadd i 1 = i + 1 := Nat.mod_eq_of_lt hi1
          simp only [hwm, hdi0, if_false, hwa]
          refine ih _ _ _ _ (by omega) (Nat.lt_of_le_of_lt (Nat.div_le_self _ _) h2) ?_ h
          intro hk1
          by_cases hki : K ≤ i
          · have hlt := hK hki
            rw [show K + 256 - i = (K + 256 - (i + 1)) + 1 by omega] at hlt
            exact halving acc n d i _ hn hd0 hki hlt
          · rw [show K + 256 - (i + 1) = 256 by omega, ← W_eq]
            exact Nat.lt_of_le_of_lt (Nat.div_le_self _ _) h2
        · simp only [U256.checkedMul, h2, if_false]
          have hbig := big_of_mul_overflow acc n hn h2
          rw [sat_of_big r (out + acc) d hd0 hd (by omega) hge]
      · simp only [U256.checkedAdd, h1, if_false]
        rw [sat_of_big r (out + acc) d hd0 hd (Nat.le_trans pow192_le_W (Nat.le_of_not_lt h1)) hge]
    · simp only [hacc, if_false, Option.some.injEq] at h ⊢
      simp only [Nat.ne_of_gt hd0, if_false, Option.some.injEq, Res.ok.injEq]
      rw [← h, toU128Sat_eq]

theorem fake_exp_eq_fuel (fuel f n d r : Nat) (hf : f < U64) (hn : n < U64) (hd : d < U64) (hd0 : d ≠ 0)
    (h : Spec.Blob.fakeExpFuel fuel f n d = some r) :
    fakeExponential fuel f n d = some (.ok (Spec.Blob.clamp128 r)) := by
  unfold fakeExponential
  unfold Spec.Blob.fakeExpFuel at h
  have hW := W_val; have hU := U64_val; have hKv := K_val
  have hfd : f * d < W := by
    have : f * d < U64 * U64 := Nat.mul_lt_mul'' hf hd
    rw [hU] at this; omega
  have hwm : U256.wmul f d = f * d := by unfold U256.wmul; exact Nat.mod_eq_of_lt hfd
  simp only [hd0, if_false, hwm]
  have := loop_sat n d hn (by omega) hd fuel 1 0 (f * d) r (by omega) hfd (fun hk => absurd hk (by rw [hKv]; omega)) h
  rw [this]; rfl

theorem fake_exp_eq (f n d r : Nat) (hf : f < U64) (hn : n < U64) (hd : d < U64) (hd0 : d ≠ 0)
    (hr : Spec.Blob.FakeExp f n d r) :
    ∃ fuel0, ∀ fuel, fuel0 ≤ fuel → fakeExponential fuel f n d = some (.ok (Spec.Blob.clamp128 r)) := by
  obtain ⟨fuel0, h0⟩ := hr
  refine ⟨fuel0, fun fuel hle => ?_⟩
  obtain ⟨k, rfl⟩ : ∃ k, fuel = fuel0 + k := ⟨fuel - fuel0, by omega⟩
  exact model_top_fuel_mono fuel0 k f n d _ (fake_exp_eq_fuel fuel0 f n d r hf hn hd hd0 h0)

theorem sat_loop_eq (n d : Nat) (hd0 : 0 < d) : ∀ fuel i out acc v fuel' r,
    Spec.Blob.fakeExpSatLoop fuel i out acc n d = some v →
    Spec.Blob.fakeExpLoop fuel' i out acc n d = some r → v = Spec.Blob.clamp128 r := by
  intro fuel
  induction fuel with
  | zero => intro i out acc v fuel' r h; simp [Spec.Blob.fakeExpSatLoop] at h
  | succ k ih =>
    intro i out acc v fuel' r h h'
    unfold Spec.Blob.fakeExpSatLoop at h
    have hge := spec_result_ge n d _ _ _ _ _ h'
    by_cases hbig : out ≥ 2^128 * d
    · simp only [hbig, if_true, Option.some.injEq] at h
      have : 2^128 ≤ out / d := (Nat.le_div_iff_mul_le hd0).mpr hbig
      subst h; unfold Spec.Blob.clamp128; omega
    · simp only [hbig, if_false] at h
      cases fuel' with
      | zero => simp [Spec.Blob.fakeExpLoop] at h'
      | succ m =>
        unfold Spec.Blob.fakeExpLoop at h'
        by_cases hacc : acc > 0
        · simp only [hacc, if_true] at h h'
          exact ih _ _ _ _ _ _ h h'
        · simp only [hacc, if_false, Option.some.injEq] at h h'
          subst h h'
          have : out / d < 2^128 := (Nat.div_lt_iff_lt_mul hd0).mpr (by omega)
          unfold Spec.Blob.clamp128; omega

theorem sat_eq_clamp (fuel f n d v r : Nat) (hd0 : d ≠ 0)
    (h : Spec.Blob.fakeExpSat fuel f n d = some v) (hr : Spec.Blob.FakeExp f n d r) :
    v = Spec.Blob.clamp128 r := by
  obtain ⟨fuel', h'⟩ := hr
  exact sat_loop_eq n d (by omega) fuel 1 0 (f * d) v fuel' r h h'

set_option linter.unusedVariables false in
theorem excess_eq (a b t : Nat) (ha : a < U64) (hb : b < U64) (ht : t < U64) :
    (calcExcessBlobGas a b t : Int) = Spec.Blob.excessBlobGasClamped a b t := by
  have hU := U64_val; have h8 := U128_val
  unfold calcExcessBlobGas U64_MAX Spec.Blob.excessBlobGasClamped Spec.Blob.excessBlobGas
  have hs : (a + b) % U128 = a + b := Nat.mod_eq_of_lt (by omega)
  simp only [hs]
  have h64 : ((2:Int)^64 - 1) = 18446744073709551615 := by decide
  rw [h64]
  by_cases h : a + b - t < U64
  · simp only [h, if_true]; rw [hU] at h; omega
  · simp only [h, if_false]; rw [hU] at h ⊢; omega

def CANCUN : Nat := 3338477
def PRAGUE : Nat := 5007716

theorem cancun_spec_at : Spec.Blob.fakeExpFuel 400 1 192204553 CANCUN = some 10079296854086811361005191 := by decide +kernel
theorem cancun_model_at : fakeExponential 400 1 192204553 CANCUN = some (.ok 10079296854086811361005191) := by decide +kernel
theorem prague_spec_at : Spec.Blob.fakeExpFuel 400 1 284284039 PRAGUE = some 4513890120847598646169468 := by decide +kernel
theorem prague_model_at : fakeExponential 400 1 284284039 PRAGUE = some (.ok 4513890120847598646169468) := by decide +kernel
theorem small_spec_at : Spec.Blob.fakeExpFuel 400 1 88 1 = some 165162653699637111792770913913821835905 := by decide +kernel
theorem small_model_at : fakeExponential 400 1 88 1 = some (.ok 165162653699637111792770913913821835905) := by decide +kernel
theorem max_model_at : fakeExponential 400 1 18446744073709551615 CANCUN = some (.ok 340282366920938463463374607431768211455) := by decide +kernel

end Revm.Proofs.Blob
