import Revm.Proofs.InterpEofCall
import Revm.Proofs.InterpRun
/-! C25 for EOF code: every instruction of a well-formed container keeps `InvE` (`stepE_good`), the initial state of a frame
that runs one satisfies it (`initE_inv`); the loop theorems for EOF code. -/
namespace Revm.Proofs.Interp
open Revm Revm.Model Revm.Model.Interp

section instr
variable {K : EofCtx} {s0 : IState} {c : EofCtx} {sec : List Nat} {i : Nat}

/-- ordinary instructions after which execution never continues: no `ok` result at all -/
theorem execTerm_tr (I : Instr) (m : M Unit) (hm : execPure I = some m) (ho : isOrd I = true)
    (ht : terminating I = true) {R : Unit → IState → Prop} : TrS s0 .zero m R := by
  cases I <;> first | (cases ho; done) | (cases ht; done) | cases hm
  case stop => exact .halt _
  case invalid => exact .halt _
  case unknown => exact .halt _
  case ret => exact returnInner_tr _
  case revert => exact revertI_tr

theorem ord_len (I : Instr) (ho : isOrd I = true) (sec : List Nat) (i : Nat) : instrLenOf I sec i = 1 := by
  cases I <;> first | rfl | cases ho

theorem host_len (I : Instr) (hh : isHostI I = true) (sec : List Nat) (i : Nat) :
    terminating I = false ∧ instrLenOf I sec i = 1 := by
  cases I <;> first | exact ⟨rfl, rfl⟩ | cases hh

theorem ord_pure (I : Instr) (ho : isOrd I = true) : ∃ m, execPure I = some m := by
  cases I <;> first | exact ⟨_, rfl⟩ | cases ho

theorem pureE (hs : StartE K s0 c sec i) {m : M Unit} (h : TrS s0 .zero m fun _ s' => NextE K s0 s') :
    GoodP (Halt s0) (NextE K s0) (ActE K s0) (.pure (m s0).toDone) :=
  .pure (toDoneP (fun _ hq => hq) (h s0 hs.rel))

theorem pure1 (hs : StartE K s0 c sec i) (hn : i + 1 ∈ boundaries sec) {m : M Unit} (h : Tr s0 .zero m Paid) :
    GoodP (Halt s0) (NextE K s0) (ActE K s0) (.pure (m s0).toDone) :=
  pureE hs (h.done1.mono fun _ _ hq => hs.next1 hn hq)

theorem execInstrE_good (hs : StartE K s0 c sec i) (I : Instr) (hI : decode (sec.getD i 0) = I) :
    GoodP (Halt s0) (NextE K s0) (ActE K s0) (execInstr I s0) := by
  obtain ⟨himm, hnext, hspec⟩ := instrOk_parts hI hs.instrOk
  have hb := hs.toBase
  have hE := hs.isEof
  by_cases ho : isOrd I = true
  · obtain ⟨m, hp⟩ := ord_pure I ho
    have he : execInstr I s0 = .pure (m s0).toDone := by unfold execInstr; rw [hp]
    rw [he]
    rcases hnext with ht | hn
    · exact pureE hs (execTerm_tr I m hp ho ht)
    · rw [ord_len I ho] at hn
      exact pure1 hs hn (execOrd_tr hb I m hp ho)
  have hN1 : i + 1 ∈ boundaries sec → ∀ s', Done1 s0 s' → NextE K s0 s' := fun hn _ hd => hs.next1 hn hd
  have hA1 : i + 1 ∈ boundaries sec → ∀ a s', ActRel s0 a s' → ActE K s0 a s' := fun hn _ _ hd => hs.act hn hd
  by_cases hh : isHostI I = true
  · obtain ⟨ht, hl⟩ := host_len I hh sec i
    rw [ht, hl] at hnext
    have hn := hnext.resolve_left (by decide)
    exact execHost_good hb (hN1 hn) (fun a s' h => hA1 hn a s' h.1) I hh
  · cases I
    all_goals first
      | exact absurd rfl ho
      | exact absurd rfl hh
      | simp only [terminating, Bool.false_eq_true, false_or, instrLenOf] at hnext himm
    case eofcreate =>
      have hsp : (match c.containers[sec.getD (i + 1) 0]? with
          | some sub => subcontainerOk sub
          | none => false) = true := hspec
      cases hsub : c.containers[sec.getD (i + 1) 0]? with
      | none => rw [hsub] at hsp; cases hsp
      | some sub =>
        rw [hsub] at hsp
        exact eofcreateI_good hs himm hnext hsub hsp
    case extcall => exact extcallI_good hb hE (hN1 hnext) (hA1 hnext)
    case extdelegatecall => exact extdelegatecallI_good hb hE (hN1 hnext) (hA1 hnext)
    case extstaticcall => exact extstaticcallI_good hb hE (hN1 hnext) (hA1 hnext)
    case rjump => exact pureE hs (rjumpI_tr hs himm hspec)
    case rjumpi => exact pureE hs (rjumpiI_tr hs himm hspec hnext)
    case rjumpv => exact pureE hs (rjumpvI_tr hs himm hspec hnext)
    case callf =>
      have hidx : u16At sec (i + 1) < c.types.length := of_decide_eq_true hspec
      exact pureE hs (callfI_tr hs himm hnext hidx)
    case retf => exact pureE hs (retfI_tr hs hspec)
    case jumpf =>
      have hsp : (decide (u16At sec (i + 1) < c.types.length) &&
        (!(returning (typeOf c.types (u16At sec (i + 1)))) || returning (typeOf c.types c.curIdx))) = true := hspec
      simp only [Bool.and_eq_true, decide_eq_true_eq, Bool.or_eq_true, Bool.not_eq_true'] at hsp
      refine pureE hs (jumpfI_tr hs himm hsp.1 ?_)
      intro hr
      rcases hsp.2 with h1 | h1
      · rw [hr] at h1; cases h1
      · exact h1
    case dupn => exact pureE hs (dupnI_tr hs himm hnext)
    case swapn => exact pureE hs (swapnI_tr hs himm hnext)
    case exchange => exact pureE hs (exchangeI_tr hs himm hnext)
    case dataload => exact pure1 hs hnext (dataloadI_tr hE hs.eof)
    case dataloadn => exact pureE hs (dataloadnI_tr hs himm hnext)
    case datasize => exact pure1 hs hnext (datasizeI_tr hE hs.eof)
    case datacopy => exact pure1 hs hnext (datacopyI_tr hE hs.eof hs.ok.wf.dataLen)
    case returndataload => exact pure1 hs hnext (returndataloadI_tr hE)
    case returnContract =>
      have hsp : (match c.containers[sec.getD (i + 1) 0]? with
          | some sub =>
            (match headerOf sub with
             | some hd => decide (hd.dataSizeRawI + 2 ≤ sub.length)
             | none => false)
          | none => false) = true := hspec
      cases hsub : c.containers[sec.getD (i + 1) 0]? with
      | none => rw [hsub] at hsp; cases hsp
      | some sub =>
        rw [hsub] at hsp
        simp only [] at hsp
        cases hh : headerOf sub with
        | none => rw [hh] at hsp; cases hsp
        | some hd =>
          rw [hh] at hsp
          exact pureE hs (returnContractI_tr hs himm hsub hh (of_decide_eq_true hsp))
    case codesize => cases hspec
    case codecopy => cases hspec
    case push n =>
      have e : i + (n.val + 2) = i + 1 + (n.val + 1) := by omega
      rw [e] at himm hnext
      exact pureE hs (pushI_trE hs _ himm hnext)
    case jump => exact pureE hs (jumpI_halts hs)
    case jumpi => exact pureE hs ((jumpiI_trE hs).mono fun _ _ hq => hs.next1 hnext hq)
end instr

theorem InvE.start {K : EofCtx} {s : IState} (hi : InvE K s) {c : EofCtx} {sec : List Nat} (he : s.eof = some c) (hok : CtxOk c)
    (hsec : c.sections[c.curIdx]? = some sec) (hcode : s.code = sec) (hpc : s.pc ∈ boundaries sec) :
    StartE K { s with pc := s.pc + 1 } c sec s.pc :=
  { toBase := { hi.toBase with }
    isEof := hi.isEof, jt := hi.jt, eof := he, ok := hok, hsec := hsec, code := hcode, bdry := hpc, pc := rfl,
    static := hi.static c he }

/-- one instruction of a well-formed EOF container: never a fault, `InvE` is kept, at least 1 gas is consumed when
the frame continues -/
theorem stepE_good (K : EofCtx) : StepInv (InvE K) := by
  intro s hi
  have hpc := hi.pc_lt
  obtain ⟨c, sec, he, hok, hsec, hcode, hb⟩ := hi.ctx
  rw [step_eq hpc]
  have hI : decode (sec.getD s.pc 0) = decode s.code[s.pc] := by
    congr 1
    rw [List.getD_eq_getElem?_getD, ← hcode, List.getElem?_eq_getElem hpc]; rfl
  exact (execInstrE_good (hi.start he hok hsec hcode hb) _ hI).mono (fun _ h => by have := h.meas; rw [Nat.add_zero] at this; exact this)
    (fun _ h => h) (fun _ _ h => h)

theorem initE_inv (ctx : EofCtx) (input : List Nat) (gasLimit : Nat) (isStatic : Bool)
    (spec target caller callValue : Nat) (env : Env) (mem : Memory.SharedMemory) (isInit : Bool)
    (hwf : WfCtx ctx) (hil : input.length ≤ Memory.ISIZE_MAX)
    (hgas : gasLimit < U64) (henv : EnvOk spec env) (hmem : FreshMem mem) :
    InvE ctx (IState.initEof ctx input gasLimit isStatic spec target caller callValue env mem isInit)
      ∧ measure (IState.initEof ctx input gasLimit isStatic spec target caller callValue env mem isInit)
          = gasLimit := by
  have hmeas : measure (IState.initEof ctx input gasLimit isStatic spec target caller callValue env mem isInit)
      = gasLimit := by
    show gasLimit + Memory.currentExpansionCost mem = gasLimit
    rw [mcost_fresh hmem]; rfl
  have hne := hwf.nonempty
  have hsec : ctx.sections[0]? = some (ctx.sections.headD []) := by
    cases hs : ctx.sections with
    | nil => rw [hs] at hne; cases hne
    | cons a l => rfl
  refine ⟨?_, hmeas⟩
  exact
    { envOk := henv
      stack := by show ([] : List Nat).length ≤ 1024; simp
      memWF := hmem.wf
      memCk := hmem.ck
      rdLen := by show ([] : List Nat).length ≤ _; simp
      inLen := hil
      meas := by rw [hmeas]; omega
      safe := Or.inr rfl
      isEof := rfl
      jt := rfl
      ctx := ⟨{ ctx with curIdx := 0, retStack := [] }, ctx.sections.headD [], rfl,
        { wf := hwf, cur := hne, depth := Nat.zero_le _, frames := hwf.first }, hsec, rfl,
        (hwf.secs 0 _ hsec).2.1⟩
      static := StaticEq.of_eof (K := ctx) (c := { ctx with curIdx := 0, retStack := [] }) ⟨rfl, rfl, rfl, rfl⟩ rfl }

theorem reachE_inv (K : EofCtx) {η : Type} (o : Oracle η) (ho : OracleOk o) {s0 : IState} {h0 : η}
    (hi0 : InvE K s0) {s : IState} {h : η} (hr : Reach o s0 h0 s h) : InvE K s ∧ measure s ≤ measure s0 :=
  reach_invP (invE_loop K) (stepE_good K) o ho hi0 hr

end Revm.Proofs.Interp
