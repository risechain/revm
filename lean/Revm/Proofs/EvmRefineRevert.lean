import Revm.Proofs.EvmRefineRel
import Revm.Proofs.EvmRefineUndo
/-! Undo = restore: the state `checkpoint_revert` produces from the journal and the state the snapshot specification
restores are related again. `EntryRel` is C06's observable equality of map entries (`absOf`), plus "both present or both
absent", plus the touched mark of 0x03 where C06 masks it; so the proof is a chain of observable equalities: reverted
state ≈ state at the checkpoint (C06 `AbsEq`) ≈ saved state (`JRel`) ≈ restored state (`restored_eqv`). -/
namespace Revm.Proofs.EvmRefine
open Revm Revm.Model Revm.Model.Journal Revm.Spec.JournalAbs Revm.Proofs.Journal
open Revm.Model.Evm (World)

theorem entryRel_some_iff {db : Db} {a : Addr} {p q : Option Acct} (h : EntryRel db a p q) : p.isSome = q.isSome := by
  cases p <;> cases q <;> simp_all [EntryRel]

theorem keeps_some {sd : Bool} {s s' : JState} (k : Keeps sd s s') (a : Addr) : (s'.state a).isSome = (s.state a).isSome := by
  have := k a
  cases hs : s.state a <;> cases hs' : s'.state a <;> simp_all

theorem bool_not_inj {a b : Bool} (h : (!a) = (!b)) : a = b := by cases a <;> cases b <;> simp_all

theorem pristine_eq (w : World) (a : Addr) :
    Spec.Evm.pristine w a = { dbAcct w.db a with cold := !w.js.preloaded a } := by
  unfold Spec.Evm.pristine dbAcct
  cases w.db.basic a <;> rfl

theorem restoredBase_some (w : World) (saved : JState) (a : Addr) (h : (saved.state a).isSome) :
    (Spec.Evm.restoredBase w saved a).isSome := by
  unfold Spec.Evm.restoredBase
  cases hs : saved.state a with
  | none => rw [hs] at h; simp at h
  | some x => rfl

theorem restored3_isSome (w : World) (saved : JState) :
    (Spec.Evm.restored3 w saved).isSome = (Spec.Evm.restoredBase w saved PRECOMPILE3).isSome := by
  unfold Spec.Evm.restored3
  cases w.js.state PRECOMPILE3 with
  | none => rfl
  | some cur =>
    simp only
    split
    · simp
    · rfl

theorem restoredState_isSome (w : World) (saved : JState) (a : Addr) :
    (Spec.Evm.restoredState w saved (Spec.Evm.restored3 w saved) a).isSome = (Spec.Evm.restoredBase w saved a).isSome := by
  unfold Spec.Evm.restoredState
  by_cases h : a = PRECOMPILE3
  · subst h; simp only [if_true]; exact restored3_isSome w saved
  · simp only [h, if_false]

theorem restoredBase_isSome_pres (w : World) (saved : JState)
    (hdom : ∀ a, (saved.state a).isSome → w.addrs.contains a = true) (a : Addr) :
    (Spec.Evm.restoredBase w saved a).isSome = w.addrs.contains a := by
  unfold Spec.Evm.restoredBase
  cases hs : saved.state a with
  | some x => simp only [Option.isSome_some]; exact (hdom a (by rw [hs]; rfl)).symm
  | none =>
    simp only
    by_cases hc : w.addrs.contains a = true
    · rw [if_pos hc, hc]; rfl
    · rw [if_neg hc]; simp at hc; simp [hc]

theorem eqv_refl (x : AbsAcct) : x.eqv x := ⟨rfl, rfl, rfl, rfl, rfl, rfl, rfl, rfl, fun _ => rfl⟩

theorem eqv_trans {x y z : AbsAcct} (h1 : x.eqv y) (h2 : y.eqv z) : x.eqv z := by
  obtain ⟨a1, a2, a3, a4, a5, a6, a7, a8, a9⟩ := h1
  obtain ⟨b1, b2, b3, b4, b5, b6, b7, b8, b9⟩ := h2
  exact ⟨a1.trans b1, a2.trans b2, a3.trans b3, a4.trans b4, a5.trans b5, a6.trans b6, a7.trans b7, a8.trans b8,
    fun k => (a9 k).trans (b9 k)⟩

theorem maskT_masked {sd : Bool} {a : Addr} (h : sd = true ∧ a = PRECOMPILE3) (t : Bool) : maskT sd a t = false := by
  unfold maskT; rw [if_pos h]

theorem maskT_false (sd : Bool) (a : Addr) : maskT sd a false = false := by
  unfold maskT; split <;> rfl

theorem EntryRel.eqv {db : Db} {a : Addr} {p q : Option Acct} (h : EntryRel db a p q) (sd pre : Bool) :
    (absOf db sd pre a p).eqv (absOf db sd pre a q) := by
  cases p with
  | none => cases q with
    | none => exact eqv_refl _
    | some y => exact h.elim
  | some x => cases q with
    | none => exact h.elim
    | some y =>
      obtain ⟨e1, e2, e3, e4, e5, e6, e7, e8, e9⟩ := h
      refine ⟨e1, e2, e3, e4, e5, congrArg (maskT sd a) e6, e7, congrArg (!·) e8, fun k => ?_⟩
      show absSlot db a (some x) k = absSlot db a (some y) k
      rw [absSlot_some, absSlot_some, e9]

theorem EntryRel.of_eqv {db : Db} {a : Addr} {sd pre : Bool} {p q : Option Acct} (hs : p.isSome = q.isSome)
    (h : (absOf db sd pre a p).eqv (absOf db sd pre a q))
    (ht : sd = true ∧ a = PRECOMPILE3 → ∀ x y, p = some x → q = some y → x.touched = y.touched) :
    EntryRel db a p q := by
  cases p with
  | none => cases q with
    | none => trivial
    | some y => exact absurd hs (by simp)
  | some x => cases q with
    | none => exact absurd hs (by simp)
    | some y =>
      obtain ⟨e1, e2, e3, e4, e5, e6, e7, e8, e9⟩ := h
      refine ⟨e1, e2, e3, e4, e5, ?_, e7, bool_not_inj e8, ?_⟩
      · by_cases hm : sd = true ∧ a = PRECOMPILE3
        · exact ht hm x y rfl rfl
        · have : maskT sd a x.touched = maskT sd a y.touched := e6
          unfold maskT at this
          rwa [if_neg hm, if_neg hm] at this
      · rw [← absSlot_some, ← absSlot_some]; funext k; exact e9 k

theorem pristine_eqv {db : Db} (w : World) (hbasic : w.db.basic = db.basic) (sd : Bool) (a : Addr) :
    (absOf db sd (w.js.preloaded a) a none).eqv (absOf db sd (w.js.preloaded a) a (some (Spec.Evm.pristine w a))) := by
  have hda : dbAcct w.db a = dbAcct db a := by unfold dbAcct; rw [hbasic]
  rw [pristine_eq, hda]
  have hi := dbAcct_info db a
  obtain ⟨d1, d2, d3, d4, d5⟩ := dbAcct_fields db a
  refine ⟨congrArg Info.balance hi.symm, congrArg Info.nonce hi.symm, congrArg Info.codeHash hi.symm, d1.symm, d2.symm,
    ?_, d4.symm, (Bool.not_not _).symm, fun k => ?_⟩
  · show false = maskT sd a (dbAcct db a).touched
    rw [d3, maskT_false]
  · show absSlot db a none k = absSlot db a (some { dbAcct db a with cold := !w.js.preloaded a }) k
    rw [absSlot_none, absSlot_some]
    show slotsOf db a false (fun _ => none) k = slotsOf db a (dbAcct db a).created (dbAcct db a).storage k
    rw [d1, d5]

/-- the state the specification restores is observably the saved one: entries it adds are pristine, and the touched
mark of 0x03 it keeps from the current state is masked exactly when it is kept -/
theorem restored_eqv {db : Db} (w : World) (snap : JState) (hbasic : w.db.basic = db.basic) (a : Addr) :
    (absOf db (sdOf w.js) (w.js.preloaded a) a (snap.state a)).eqv
      (absOf db (sdOf w.js) (w.js.preloaded a) a
        (Spec.Evm.restoredState w snap (Spec.Evm.restored3 w snap) a)) := by
  have base : (absOf db (sdOf w.js) (w.js.preloaded a) a (snap.state a)).eqv
      (absOf db (sdOf w.js) (w.js.preloaded a) a (Spec.Evm.restoredBase w snap a)) := by
    unfold Spec.Evm.restoredBase
    cases snap.state a with
    | some x => exact eqv_refl _
    | none =>
      simp only
      by_cases hc : w.addrs.contains a = true
      · rw [if_pos hc]; exact pristine_eqv w hbasic _ a
      · rw [if_neg hc]; exact eqv_refl _
  unfold Spec.Evm.restoredState
  by_cases h3 : a = PRECOMPILE3
  · rw [if_pos h3]
    subst h3
    unfold Spec.Evm.restored3
    cases w.js.state PRECOMPILE3 with
    | none => exact base
    | some cur =>
      simp only
      by_cases hsd : decide (w.js.spec ≥ SPURIOUS_DRAGON) = true
      · rw [if_pos hsd]
        refine eqv_trans base ?_
        cases Spec.Evm.restoredBase w snap PRECOMPILE3 with
        | none => exact eqv_refl _
        | some x =>
          refine ⟨rfl, rfl, rfl, rfl, rfl, ?_, rfl, rfl, fun _ => rfl⟩
          show maskT (sdOf w.js) PRECOMPILE3 x.touched = maskT (sdOf w.js) PRECOMPILE3 cur.touched
          have hm : sdOf w.js = true ∧ PRECOMPILE3 = PRECOMPILE3 := ⟨hsd, rfl⟩
          rw [maskT_masked hm, maskT_masked hm]
      · rw [if_neg hsd]; exact base
  · rw [if_neg h3]; exact base

theorem restored_codeOk {db : Db} (w : World) (snap : JState) (hbasic : w.db.basic = db.basic)
    (hdbcode : ∀ b i, db.basic b = some i → ∀ hh, i.code = some hh → hh = i.codeHash) (hcs : CodeOk snap) :
    CodeOk { snap with state := Spec.Evm.restoredState w snap (Spec.Evm.restored3 w snap) } := by
  have hbase : ∀ a y, Spec.Evm.restoredBase w snap a = some y → ∀ c, y.info.code = some c → c = y.info.codeHash := by
    intro a y hy c hc
    unfold Spec.Evm.restoredBase at hy
    cases hsn : snap.state a with
    | some x => rw [hsn] at hy; have hxy := Option.some.inj hy; subst hxy; exact hcs a x hsn c hc
    | none =>
      rw [hsn] at hy
      by_cases hp : w.addrs.contains a = true
      · rw [if_pos hp] at hy; cases hy
        have hda : dbAcct w.db a = dbAcct db a := by unfold dbAcct; rw [hbasic]
        rw [pristine_eq, hda] at hc ⊢
        exact dbAcct_code hdbcode a c hc
      · rw [if_neg hp] at hy; cases hy
  intro a acc hacc c hc
  change Spec.Evm.restoredState w snap (Spec.Evm.restored3 w snap) a = some acc at hacc
  unfold Spec.Evm.restoredState at hacc
  by_cases h3 : a = PRECOMPILE3
  · subst h3
    rw [if_pos rfl] at hacc
    -- the entry of 0x03 is the base entry, possibly with another touched mark
    have h3b : ∃ y, Spec.Evm.restoredBase w snap PRECOMPILE3 = some y ∧ acc.info = y.info := by
      unfold Spec.Evm.restored3 at hacc
      split at hacc
      · split at hacc
        · cases hb : Spec.Evm.restoredBase w snap PRECOMPILE3 with
          | none => rw [hb] at hacc; cases hacc
          | some y => rw [hb] at hacc; cases hacc; exact ⟨y, rfl, rfl⟩
        · exact ⟨acc, hacc, rfl⟩
      · exact ⟨acc, hacc, rfl⟩
    obtain ⟨y, hy, hi⟩ := h3b
    rw [hi] at hc ⊢
    exact hbase _ y hy c hc
  · rw [if_neg h3] at hacc
    exact hbase a acc hacc c hc

/-- **undo = restore**: the chain of the module header gives the observable part (`habs` is C06's end of it); domain, code
caches and the touched mark of 0x03 come from `revert_keeps`, which `restoredBase` / `restored3` do as well -/
theorem revert_rel {db : Db} {j j' s rpre snap : JState} {cp : Checkpoint} (w : World)
    (hw : w.js = s) (hbasic : w.db.basic = db.basic)
    (hdbcode : ∀ b i, db.basic b = some i → ∀ hh, i.code = some hh → hh = i.codeHash)
    (hcur : JRel db j s) (hsnap : JRel db rpre snap) (habs : AbsEq db j' rpre)
    (hrev : Journal.revert j cp = some j')
    (hdom : ∀ a, (snap.state a).isSome → (s.state a).isSome)
    (hpres : ∀ a, w.addrs.contains a = (s.state a).isSome)
    (hdepth : s.depth = incU64 snap.depth) (hspec : snap.spec = s.spec) (hpre : snap.preloaded = s.preloaded)
    (hjne : j'.journal ≠ []) :
    JRel db j' { snap with state := Spec.Evm.restoredState w snap (Spec.Evm.restored3 w snap) } := by
  obtain ⟨hkeep, hdep, hsp, hpr, _⟩ := revert_keeps hrev
  subst hw
  have hspec' : j'.spec = rpre.spec := by rw [hsp, hcur.spec, ← hspec, hsnap.spec]
  have hpre' : j'.preloaded = rpre.preloaded := by rw [hpr, hcur.pre, ← hpre, hsnap.pre]
  have sd1 : sdOf rpre = sdOf j' := by unfold sdOf; rw [hspec']
  have sd2 : sdOf w.js = sdOf j' := by unfold sdOf; rw [hsp, hcur.spec]
  have sd3 : sdOf j = sdOf j' := by unfold sdOf; rw [hsp]
  have pr2 : w.js.preloaded = j'.preloaded := by rw [hpr, hcur.pre]
  refine ⟨fun a => ?_, fun a k => (habs.2.1 a k).trans (hsnap.tr a k), habs.2.2.trans hsnap.logs, ?_,
    hspec'.trans hsnap.spec, hpre'.trans hsnap.pre, hjne, hsnap.sne, ?_, restored_codeOk w snap hbasic hdbcode hsnap.cs⟩
  · show EntryRel db a (j'.state a) (Spec.Evm.restoredState w snap (Spec.Evm.restored3 w snap) a)
    refine EntryRel.of_eqv (sd := sdOf j') (pre := j'.preloaded a) ?_ ?_ ?_
    · rw [keeps_some hkeep a, entryRel_some_iff (hcur.ent a), ← hpres a, restoredState_isSome, restoredBase_isSome_pres]
      intro b hb; rw [hpres b]; exact hdom b hb
    · have h1 := habs.1 a
      rw [absAcct_eq, absAcct_eq, sd1, ← hpre'] at h1
      have h2 := (hsnap.ent a).eqv (sdOf j') (j'.preloaded a)
      have h3 := restored_eqv (db := db) w snap hbasic a
      rw [sd2, pr2] at h3
      exact eqv_trans (eqv_trans h1 h2) h3
    · -- the mark of 0x03, where masked: kept by the revert, and copied from the current state by the specification
      rintro ⟨hsd, rfl⟩ x y hx hy
      have hk := hkeep PRECOMPILE3
      have he := hcur.ent PRECOMPILE3
      rw [hx] at hk
      unfold Spec.Evm.restoredState at hy
      rw [if_pos rfl] at hy
      unfold Spec.Evm.restored3 at hy
      cases hja : j.state PRECOMPILE3 with
      | none => rw [hja] at hk; exact hk.elim
      | some xj =>
        rw [hja] at hk he
        cases hs3 : w.js.state PRECOMPILE3 with
        | none => rw [hs3] at he; exact he.elim
        | some cur =>
          rw [hs3] at he hy
          have hsdw : decide (w.js.spec ≥ SPURIOUS_DRAGON) = true := by rw [← hsd, ← sd2]; rfl
          simp only [hsdw, if_true] at hy
          cases hb : Spec.Evm.restoredBase w snap PRECOMPILE3 with
          | none => rw [hb] at hy; cases hy
          | some b =>
            rw [hb] at hy; cases hy
            show x.touched = cur.touched
            rw [hk.2 (by rw [← hsd, ← sd3]; rfl) rfl]; exact he.2.2.2.2.2.1
  · show j'.depth = snap.depth
    rw [hdep, hcur.depth, hdepth, Proofs.Frame.dec_inc]
  · intro a acc hacc hh hc
    have hk := hkeep a
    rw [hacc] at hk
    cases hja : j.state a with
    | none => rw [hja] at hk; exact hk.elim
    | some xj =>
      rw [hja] at hk
      rcases hk.1 with ⟨c1, c2⟩ | c1
      · rw [c2]; exact hcur.cj a xj hja hh (by rw [← c1]; exact hc)
      · rw [c1] at hc; cases hc

end Revm.Proofs.EvmRefine
