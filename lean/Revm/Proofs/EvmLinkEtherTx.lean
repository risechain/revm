import Revm.Proofs.EvmLinkEtherLoop
import Revm.Proofs.EvmLinkFeesTx
/-! Ether conservation (C08) on `Evm.transact`. The fee legs of `EvmTx` are those of `Model.TxFeeLegs`
(`deductCaller_feeLegs`, `finish_feeLegs`: each is a `Leg`); the two transaction-level hypotheses of C08's
`tx_conserves2`, `Validated` and `GasOk`, follow from the run (`Exec.validated`, `Exec.gasOk`); between the legs the
world moves along a `WRun` (`Exec.wrun`). Together: `transact_conserves`, and `transact_conserves_addrs` over the
address list the model itself maintains (`World.addrs` covers the journal throughout, `transact_ngrow`). -/
namespace Revm.Proofs.EvmLink
open Revm Revm.Model Revm.Model.Evm
open Revm.Spec.Ether Revm.Proofs.Ether

theorem feeEnv_gasCost (e : Evm.Env) (spec : Nat) :
    TxFeeLegs.gasCost spec (feeEnv e) = TxGas.deductAmount (gasEnv e spec) := by
  unfold TxFeeLegs.gasCost TxGas.deductAmount
  rw [ite_enabled, ← calcDataFee_eq, feeEnv_dataFee]
  cases e.calcDataFee <;> rfl

theorem deductCaller_feeLegs {e : Evm.Env} {spec : Nat} {w w' : World} (h : Evm.deductCaller e spec w = .ok w') :
    TxFeeLegs.deductCaller w.db w.js spec (feeEnv e) = some w'.js ∧ w'.db = w.db := by
  obtain ⟨acc, d, hd, l⟩ := deductCaller_isLeg h
  refine ⟨l.journal (fun x => TxFeeLegs.deductCallerInner spec x (feeEnv e)) ?_, l.db⟩
  unfold TxFeeLegs.deductCallerInner debited
  rw [feeEnv_gasCost, hd]
  show some _ = some _
  cases hto : e.tx.to.isSome <;> simp only [feeEnv, hto, if_true, if_false, Bool.false_eq_true]

theorem feeEnv_coinbasePrice (e : Evm.Env) (spec : Nat) :
    TxFeeLegs.coinbaseGasPrice spec (feeEnv e) =
      (if GasCalc.enabled spec GasCalc.SpecId.LONDON then U256.saturatingSub e.effectiveGasPrice e.block.basefee
       else e.effectiveGasPrice) := by
  rw [ite_enabled]; rfl

/-- `reimburse_caller`, then `reward_beneficiary` with rewards enabled, on the numbers of the final meter -/
theorem finish_feeLegs {e : Evm.Env} {spec floorGas r7 : Nat} {isCreate : Bool} {res : Interp.ChildResult}
    {w w' : World} {r : TxResult} (h : Evm.finish e spec floorGas r7 isCreate res w = .ok (r, w')) :
    TxFeeLegs.postExecution w.db w.js spec (feeEnv e) true (Evm.finalGas e spec floorGas r7 res).remaining
      (Gas.spent (Evm.finalGas e spec floorGas r7 res)) (Gas.i64AsU64 (Evm.finalGas e spec floorGas r7 res).refunded)
      = some w'.js ∧ w'.db = w.db := by
  obtain ⟨cacc, w2, bacc, cls, l1, l2, _⟩ := finish_stages h
  refine ⟨?_, l2.db.trans l1.db⟩
  have k1 : TxFeeLegs.reimburseCaller w.db w.js (feeEnv e) (Evm.finalGas e spec floorGas r7 res).remaining
      (Gas.i64AsU64 (Evm.finalGas e spec floorGas r7 res).refunded) = some w2.js :=
    l1.journal (fun x => some _) rfl
  have k2 : TxFeeLegs.rewardBeneficiary w2.db w2.js spec (feeEnv e) (Gas.spent (Evm.finalGas e spec floorGas r7 res))
      (Gas.i64AsU64 (Evm.finalGas e spec floorGas r7 res).refunded) = some w'.js := by
    refine l2.journal (fun x => some _) ?_
    show some _ = some _
    unfold TxFeeLegs.reward credited
    rw [feeEnv_coinbasePrice]; rfl
  rw [l1.db] at k2
  simp only [TxFeeLegs.postExecution, k1, bind, Option.bind, if_true, k2]

/-- `TxFeeLegs.deductCaller` sees the database through `db.basic` only (its `load_account` reads nothing else) -/
theorem deductCaller_db {db db' : Journal.Db} (h : db'.basic = db.basic) (s : Journal.JState) (spec : Nat)
    (e : TxFeeLegs.FeeEnv) : TxFeeLegs.deductCaller db' s spec e = TxFeeLegs.deductCaller db s spec e := by
  unfold TxFeeLegs.deductCaller
  simp only [Proofs.Journal.loadAccount_congr h]

theorem sumOver_mono {f g : Nat → Nat} (h : ∀ a, f a ≤ g a) : ∀ L : List Nat, sumOver L f ≤ sumOver L g := by
  intro L
  induction L with
  | nil => exact Nat.le_refl _
  | cons a L ih => simp only [sumOver]; have := h a; omega

theorem blobFee_eq (e : Evm.Env) (spec : Nat) : Props.C09.blobFee (gasEnv e spec) = dataFee spec (feeEnv e) := by
  unfold Props.C09.blobFee dataFee
  rw [ite_enabled, ← calcDataFee_eq]; rfl

namespace Exec
variable {fuel : Nat} {w : World} {e : Evm.Env} {spec : Nat} (x : Exec fuel w e spec)
include x

/-- C08's `Validated`: an accepted transaction covers `gas_limit · effective price + data fee` with the balance
validation saw, and that is still the sender's balance when `deduct_caller` runs -/
theorem validated : e.tx.gasLimit * e.effectiveGasPrice + dataFee (GasCalc.canon spec) (feeEnv e) ≤
    bal (loadAccounts e (GasCalc.canon spec) x.w1).db (loadAccounts e (GasCalc.canon spec) x.w1).js e.tx.caller := by
  obtain ⟨accl, hsl, hil⟩ := loadAccounts_info (e := e) (spec := GasCalc.canon spec) x.senderInfo
  rw [bal_some hsl, hil]
  obtain ⟨_, hcover, _, _⟩ := Props.C09.validated_facts _ (feeShape e) x.accV.info.balance x.feeValid x.funded
  have heff := Proofs.TxGas.eff_le_gasPrice (gasEnv e (GasCalc.canon spec))
  rw [blobFee_eq] at hcover
  have hle : e.tx.gasLimit * e.effectiveGasPrice ≤ e.tx.gasLimit * e.tx.gasPrice :=
    Nat.mul_le_mul (Nat.le_refl _) heff
  have hg : (gasEnv e (GasCalc.canon spec)).gasLimit * (gasEnv e (GasCalc.canon spec)).gasPrice =
    e.tx.gasLimit * e.tx.gasPrice := rfl
  rw [hg] at hcover
  omega

/-- C08's `GasOk`, from the gas invariant of the loop (`Exec.admissible`) and C09's `settled_final` -/
theorem gasOk (hL : e.tx.gasLimit < U64) :
    GasOk (feeEnv e) (Evm.finalGas e (GasCalc.canon spec) x.fg (authRefund x.k) x.res).remaining
      (Gas.spent (Evm.finalGas e (GasCalc.canon spec) x.fg (authRefund x.k) x.res))
      (Gas.i64AsU64 (Evm.finalGas e (GasCalc.canon spec) x.fg (authRefund x.k) x.res).refunded) ∧
    x.r.gasUsed = Gas.spent (Evm.finalGas e (GasCalc.canon spec) x.fg (authRefund x.k) x.res) -
      Gas.i64AsU64 (Evm.finalGas e (GasCalc.canon spec) x.fg (authRefund x.k) x.res).refunded := by
  have ha := x.admissible hL
  have hu := x.out.2.2.1
  have st := Proofs.TxGas.settled_final (floorGas := x.fg) x.k ha.gasLimit_u64
    (Nat.le_trans ha.frame_remaining (Nat.sub_le _ _))
  rw [← finalGas_eq_txgas e (GasCalc.canon spec) x.fg x.k x.res (U64ops.wsub e.tx.gasLimit x.ig)] at st hu
  generalize Evm.finalGas e (GasCalc.canon spec) x.fg (authRefund x.k) x.res = g at st hu ⊢
  have hgl : (gasEnv e (GasCalc.canon spec)).gasLimit = e.tx.gasLimit := rfl
  have h1 := st.spent_eq
  have h2 := st.refU64
  have h3 := st.sum
  have h4 := st.limit
  have h5 := st.used
  rw [hgl] at h1 h4 h5
  refine ⟨⟨?_, ?_, hL⟩, ?_⟩
  · show Gas.spent g + g.remaining = e.tx.gasLimit
    omega
  · omega
  · rw [hu]; omega

/-- from after `deduct_caller` to the first frame's result -/
theorem wrun : WRun x.wd x.w3 :=
  ((applyAuthList_wrun x.auth).trans (makeFrame_wrun x.frame)).trans (runFirst_wrun x.run)

end Exec

/-- C08 on the whole EVM. For an executed `Evm.transact` from a journal without balance entries, with `L` duplicate-free,
covering the accounts of the final journal, and the initial balances over `L` summing below 2^256: the final balances
over `L` + the base-fee burn `burnt per gas · gas used` + the blob fee + what self-destructs naming themselves destroyed
= the initial balances over `L`. -/
theorem transact_conserves (fuel : Nat) (w w' : World) (e : Evm.Env) (spec : Nat) (r : TxResult) (L : List Nat)
    (h : Evm.transact fuel w e spec = .ok (.executed r, w'))
    (hL : e.tx.gasLimit < U64) (hn : L.Nodup) (hK : KeysIn L w')
    (hok : BalOk w.db w.js) (hj : JB w.js = []) (hSum : total L w.db w.js < W) :
    total L w'.db w'.js + burntPerGas (GasCalc.canon spec) (feeEnv e) * r.gasUsed
      + dataFee (GasCalc.canon spec) (feeEnv e) + burnt w'.js = total L w.db w.js := by
  obtain ⟨x, rfl, rfl⟩ := transact_exec h
  -- validation and `load_accounts` move nothing
  obtain ⟨cold, hh, hlc, _⟩ := loadSender_inv x.sender
  have q : Quiet w (loadAccounts e (GasCalc.canon spec) x.w1) := (quiet_loadCode hlc).trans (quiet_loadAccounts e _ x.w1)
  have hval := x.validated
  have hd := x.deduct
  generalize loadAccounts e (GasCalc.canon spec) x.w1 = wl at q hval hd
  have hbl : bal wl.db wl.js = bal w.db w.js := by rw [q.db]; exact q.same.1
  have hokl : BalOk wl.db wl.js := fun a => by rw [hbl]; exact hok a
  have hSl : total L wl.db wl.js < W := by simp only [total, hbl]; exact hSum
  obtain ⟨hded, hdbd⟩ := deductCaller_feeLegs hd
  obtain ⟨c, hcost, b1, j1⟩ := deductCaller_bal hded
  have hle : ∀ a, bal x.wd.db x.wd.js a ≤ bal wl.db wl.js a := by
    intro a
    rw [hdbd, b1]
    by_cases ha : a = (feeEnv e).caller
    · subst ha; rw [upd_same]; unfold U256.saturatingSub; omega
    · rw [upd_other _ _ ha]; exact Nat.le_refl _
  have hokd : BalOk x.wd.db x.wd.js := fun a => Nat.lt_of_le_of_lt (hle a) (hokl a)
  have hcan : GasCalc.canon spec ≥ Journal.CANCUN → (feeEnv e).blobGasPrice.isSome = true := fun hcan => by
    unfold TxFeeLegs.gasCost at hcost
    rw [if_pos hcan] at hcost
    cases hb : (feeEnv e).blobGasPrice with
    | none => simp [TxFeeLegs.calcDataFee, hb] at hcost
    | some p => rfl
  obtain ⟨hpost, hdb'⟩ := finish_feeLegs x.fin
  obtain ⟨cacc, w4, bacc, cls, l1, l2, _⟩ := finish_stages x.fin
  have hK3 : KeysIn L x.w3 := fun a ha => hK a (l2.kle a (l1.kle a ha))
  obtain ⟨hgas, hused⟩ := x.gasOk hL
  -- the execution in between keeps the ledger, whose base sum is the one `deduct_caller` left
  have p := x.wrun.pres (B := bal x.wd.db x.wd.js) hn (Nat.lt_of_le_of_lt (sumOver_mono hle L) hSl)
  have hled := (p.ei hK3 (binv_fresh hokd (j1.trans (q.same.2.trans hj)))).ledger hn
  have hfinal := tx_conserves2 hn (hK _ (l2.kle _ (present_of_some l1.state))) (hK _ (present_of_some l2.state)) hokl hSl
    ⟨hval, hcan⟩ hgas hded (by rw [← hdbd]; exact hled) hpost
  simp only [if_true, Nat.add_zero] at hfinal
  have eb : burnt x.w'.js = burnt x.w3.js := by unfold burnt; rw [l2.bal.2.2, l1.bal.2.2]
  rw [hused, eb, show total L w.db w.js = total L wl.db wl.js by simp only [total, hbl], hdb']
  exact hfinal

def dedup : List Nat → List Nat
  | [] => []
  | a :: l => if a ∈ dedup l then dedup l else a :: dedup l

theorem mem_dedup {x : Nat} : ∀ {l : List Nat}, x ∈ dedup l ↔ x ∈ l
  | [] => Iff.rfl
  | a :: l => by
    simp only [dedup]
    split
    · rename_i h
      rw [mem_dedup (l := l), List.mem_cons]
      constructor
      · exact Or.inr
      · rintro (rfl | h')
        · exact mem_dedup.mp h
        · exact h'
    · rw [List.mem_cons, List.mem_cons, mem_dedup (l := l)]

theorem nodup_dedup : ∀ (l : List Nat), (dedup l).Nodup
  | [] => List.nodup_nil
  | a :: l => by
    simp only [dedup]
    split
    · exact nodup_dedup l
    · rename_i h; exact List.nodup_cons.mpr ⟨h, nodup_dedup l⟩

/-- `World.addrs` keeps up with the journal through the whole transaction -/
theorem transact_ngrow (fuel : Nat) (w w' : World) (e : Evm.Env) (spec : Nat) (r : TxResult)
    (h : Evm.transact fuel w e spec = .ok (.executed r, w')) : NGrow w w' := by
  obtain ⟨x, rfl, rfl⟩ := transact_exec h
  obtain ⟨cold, hh, hlc, _⟩ := loadSender_inv x.sender
  obtain ⟨_, _, _, ld⟩ := deductCaller_isLeg x.deduct
  obtain ⟨_, _, _, _, l1, l2, _⟩ := finish_stages x.fin
  exact ((((((w_loadCode_wstep hlc).2 []).ng).trans (quiet_loadAccounts e _ x.w1).ng).trans ld.ng).trans x.wrun.ng).trans
    (l1.ng.trans l2.ng)

theorem transact_noted (fuel : Nat) (w w' : World) (e : Evm.Env) (spec : Nat) (r : TxResult)
    (h : Evm.transact fuel w e spec = .ok (.executed r, w')) (hN : Noted w) : Noted w' :=
  (transact_ngrow fuel w w' e spec r h).noted hN

/-- `transact_conserves` with `L` = the final world's `World.addrs` without repetitions -/
theorem transact_conserves_addrs (fuel : Nat) (w w' : World) (e : Evm.Env) (spec : Nat) (r : TxResult)
    (h : Evm.transact fuel w e spec = .ok (.executed r, w'))
    (hL : e.tx.gasLimit < U64) (hN : Noted w)
    (hok : BalOk w.db w.js) (hj : JB w.js = []) (hSum : total (dedup w'.addrs) w.db w.js < W) :
    total (dedup w'.addrs) w'.db w'.js + burntPerGas (GasCalc.canon spec) (feeEnv e) * r.gasUsed
      + dataFee (GasCalc.canon spec) (feeEnv e) + burnt w'.js = total (dedup w'.addrs) w.db w.js :=
  transact_conserves fuel w w' e spec r _ h hL (nodup_dedup _)
    (fun a ha => mem_dedup.mpr (transact_noted fuel w w' e spec r h hN a ha)) hok hj hSum

end Revm.Proofs.EvmLink
