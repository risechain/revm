import Revm.Model.Arith
import Revm.Spec.Arith
/-! The opcodes of `Model.Arith` (the Rust control flow over ruint primitives) whose equality with `Spec.Arith`
(integer arithmetic mod 2^256) needs an argument: SUB, DIV, MOD, SDIV / SMOD / SLT / SGT by sign and magnitude against
the two's-complement readings `toInt` / `ofInt`, EXP by squaring, BYTE, the shifts and SAR, SIGNEXTEND. The twelve that
hold by `rfl` are stated only in Props/C03.lean; the EXP gas is in `ArithExpCost`. -/
namespace Revm.Proofs.Arith
open Revm Revm.U256 Revm.Model.Arith

theorem W_pos : 0 < W := by rw [W_val]; omega

theorem wneg_of_pos (a : Nat) (h0 : 0 < a) (ha : a < W) : wneg a = W - a := by
  unfold wneg; exact Nat.mod_eq_of_lt (by omega)

theorem wneg_zero : wneg 0 = 0 := by simp [wneg]

theorem toInt_neg (a : Nat) (h : a ≥ 2^255) (_ha : a < W) : toInt a = -((W - a : Nat) : Int) := by
  have hW := W_val
  unfold toInt; simp [h]; omega

theorem toInt_nonneg (a : Nat) (h : a < 2^255) : toInt a = (a : Int) := by
  unfold toInt; simp; intro h'; omega

theorem ofInt_natCast (n : Nat) (h : n < W) : ofInt (n : Int) = n := by
  unfold ofInt
  have : ((n : Int) % (W : Int)) = (n : Int) := Int.emod_eq_of_lt (by omega) (by exact_mod_cast h)
  rw [this]; simp

theorem ofInt_neg_natCast (n : Nat) (_h0 : 0 < n) (h : n ≤ W) : ofInt (-(n : Int)) = W - n := by
  unfold ofInt; rw [W_val] at *; omega

theorem bit255 (v : Nat) (hv : v < W) : bit v 255 = decide (v ≥ 2^255) := by
  unfold bit
  rw [Nat.testBit_eq_decide_div_mod_eq, W_val] at *
  congr 1
  apply propext; omega

theorem sign_neg (v : Nat) (hv : v < W) (h : v ≥ 2^255) : i256Sign v = .minus := by
  unfold i256Sign; rw [bit255 v hv]; simp [h]
theorem sign_zero : i256Sign 0 = .zero := by unfold i256Sign bit; simp
theorem sign_pos (v : Nat) (hv : v < W) (h : v < 2^255) (h0 : v ≠ 0) : i256Sign v = .plus := by
  have hn : ¬ (v ≥ 2^255) := by omega
  unfold i256Sign; rw [bit255 v hv]; simp [h0, hn]

theorem signInt (a : Nat) (ha : a < W) :
    (i256Sign a).toInt = if a ≥ 2^255 then -1 else if a = 0 then 0 else 1 := by
  by_cases h : a ≥ 2^255
  · rw [sign_neg a ha h, if_pos h]; rfl
  · by_cases h0 : a = 0
    · rw [h0, sign_zero]; rfl
    · rw [sign_pos a ha (by omega) h0, if_neg h, if_neg h0]; rfl

theorem signCompl_neg (v : Nat) (hv : v < W) (h : v ≥ 2^255) : i256SignCompl v = (.minus, W - v) := by
  unfold i256SignCompl
  rw [sign_neg v hv h, ← wneg_of_pos v (by omega) hv]; rfl
theorem signCompl_zero : i256SignCompl 0 = (.zero, 0) := by
  unfold i256SignCompl; rw [sign_zero]; rfl
theorem signCompl_pos (v : Nat) (hv : v < W) (h : v < 2^255) (h0 : v ≠ 0) : i256SignCompl v = (.plus, v) := by
  unfold i256SignCompl; rw [sign_pos v hv h h0]; rfl

theorem signCompl_cases (v : Nat) (hv : v < W) (h0 : v ≠ 0) :
    (∃ m, 0 < m ∧ m < 2^255 ∧ i256SignCompl v = (.plus, m) ∧ toInt v = (m : Int)) ∨
    (∃ m, 0 < m ∧ m ≤ 2^255 ∧ i256SignCompl v = (.minus, m) ∧ toInt v = -(m : Int)) := by
  have hW := W_val
  by_cases hn : v ≥ 2^255
  · exact .inr ⟨W - v, by omega, by omega, signCompl_neg v hv hn, toInt_neg v hn hv⟩
  · exact .inl ⟨v, by omega, by omega, signCompl_pos v hv (by omega) h0, toInt_nonneg v (by omega)⟩

theorem sub_eq (a b : Nat) (ha : a < W) (hb : b < W) : Model.Arith.sub a b = Spec.Arith.sub a b := by
  unfold Model.Arith.sub Spec.Arith.sub wsub ofInt
  rw [W_val] at *
  omega

theorem div_eq (a b : Nat) : Model.Arith.div a b = Spec.Arith.div a b := by
  unfold Model.Arith.div Spec.Arith.div; by_cases h : b = 0 <;> simp [h]
theorem mod_eq (a b : Nat) : Model.Arith.rem a b = Spec.Arith.mod a b := by
  unfold Model.Arith.rem Spec.Arith.mod; by_cases h : b = 0 <;> simp [h]

theorem div_lt (x y : Nat) (hx : x ≤ 2^255) (hy : 0 < y) (h : ¬ (x = 2^255 ∧ y = 1)) : x / y < 2^255 := by
  by_cases hy1 : y = 1
  · subst hy1; simp at h; simp; omega
  · have : x / y ≤ x / 2 := Nat.div_le_div_left (by omega) (by omega)
    omega

theorem small_mag (q : Nat) (hq : q < 2^255) :
    removeSign q = q ∧ ofInt (q : Int) = q ∧ ofInt (-(q : Int)) = wneg q := by
  have hW := W_val
  refine ⟨Nat.mod_eq_of_lt hq, ofInt_natCast _ (by omega), ?_⟩
  by_cases h0 : q = 0
  · rw [h0]; simp [ofInt, wneg]
  · rw [ofInt_neg_natCast _ (by omega) (by omega), wneg_of_pos _ (by omega) (by omega)]

theorem min_case : wneg MIN_NEG = ofInt ((2^255 : Nat) : Int) ∧ wneg MIN_NEG = ofInt (-((2^255 : Nat) : Int)) := by
  unfold wneg ofInt MIN_NEG; rw [W_val]; decide

theorem sdiv_eq (a b : Nat) (ha : a < W) (hb : b < W) : Model.Arith.sdiv a b = Spec.Arith.sdiv a b := by
  unfold Model.Arith.sdiv i256Div Spec.Arith.sdiv
  by_cases hb0 : b = 0
  · subst hb0; simp [signCompl_zero]
  by_cases ha0 : a = 0
  · subst ha0
    rcases signCompl_cases b hb hb0 with ⟨mb, _, _, sb, _⟩ | ⟨mb, _, _, sb, _⟩ <;>
      simp [sb, signCompl_zero, hb0, removeSign, toInt, ofInt, MIN_NEG, wneg_zero]
  rcases signCompl_cases a ha ha0 with ⟨ma, ha1, ha2, sa, ta⟩ | ⟨ma, ha1, ha2, sa, ta⟩ <;>
    rcases signCompl_cases b hb hb0 with ⟨mb, hb1, hb2, sb, tb⟩ | ⟨mb, hb1, hb2, sb, tb⟩ <;>
    rw [sa, sb, ta, tb] <;>
    simp only [hb0, if_false, reduceCtorEq, ne_eq, not_true_eq_false, and_false, or_false, and_true,
      or_self, not_false_eq_true, or_true, if_true]
  · rw [← Int.ofNat_tdiv]
    have hmin : ¬ (ma = MIN_NEG ∧ mb = 1) := by unfold MIN_NEG; omega
    obtain ⟨h1, h2, _⟩ := small_mag _ (div_lt ma mb (Nat.le_of_lt ha2) hb1 hmin)
    rw [if_neg hmin, h1, h2]
  · rw [Int.tdiv_neg, ← Int.ofNat_tdiv]
    have hmin : ¬ (ma = MIN_NEG ∧ mb = 1) := by unfold MIN_NEG; omega
    obtain ⟨h1, _, h3⟩ := small_mag _ (div_lt ma mb (Nat.le_of_lt ha2) hb1 hmin)
    rw [if_neg hmin, h1, h3]
  · rw [Int.neg_tdiv, ← Int.ofNat_tdiv]
    by_cases hmin : ma = MIN_NEG ∧ mb = 1
    · rw [if_pos hmin, hmin.1, hmin.2, Nat.div_one]; exact min_case.2
    · obtain ⟨h1, _, h3⟩ := small_mag _ (div_lt ma mb ha2 hb1 hmin)
      rw [if_neg hmin, h1, h3]
  · rw [Int.neg_tdiv_neg, ← Int.ofNat_tdiv]
    by_cases hmin : ma = MIN_NEG ∧ mb = 1
    · rw [if_pos hmin, hmin.1, hmin.2, Nat.div_one]; exact min_case.1
    · obtain ⟨h1, h2, _⟩ := small_mag _ (div_lt ma mb ha2 hb1 hmin)
      rw [if_neg hmin, h1, h2]

theorem powLoop_eq (fuel : Nat) : ∀ (base e r : Nat), e < 2^fuel → r < W →
    powLoop fuel base e r = (r * base^e) % W := by
  induction fuel with
  | zero =>
    intro base e r he hr
    obtain rfl : e = 0 := by simpa using he
    simp [powLoop, Nat.mod_eq_of_lt hr]
  | succ n ih =>
    intro base e r he hr
    unfold powLoop
    by_cases h0 : e = 0
    · subst h0; simp [Nat.mod_eq_of_lt hr]
    -- one round: `base^e = (base * base)^(e / 2) * base^(e % 2)`, and the factor `base^(e % 2)` goes into `r`
    have hE : base ^ e = base ^ (e % 2) * (base * base) ^ (e / 2) := by
      rw [← Nat.pow_two, ← Nat.pow_mul, ← Nat.pow_add, Nat.mod_add_div]
    have hr' : (if e % 2 = 1 then wmul r base else r) < W := by
      split
      · exact Nat.mod_lt _ W_pos
      · exact hr
    rw [if_neg h0, ih _ _ _ (by rw [Nat.pow_succ] at he; omega) hr', hE]
    unfold wmul
    rw [Nat.mul_mod, Nat.pow_mod, Nat.mod_mod, ← Nat.pow_mod, ← Nat.mul_assoc]
    rcases Nat.mod_two_eq_zero_or_one e with h | h <;> simp only [h, Nat.pow_zero, Nat.pow_one, Nat.mul_one]
    · simp
    · rw [if_pos trivial, Nat.mod_mod, ← Nat.mul_mod]

theorem exp_eq (a b : Nat) (hb : b < W) : Model.Arith.exp a b = Spec.Arith.exp a b := by
  have hW := W_val
  unfold Model.Arith.exp Spec.Arith.exp
  rw [powLoop_eq 256 a b _ hb (Nat.mod_lt _ (by omega))]
  have : 1 % W = 1 := Nat.mod_eq_of_lt (by omega)
  rw [this, Nat.one_mul]

theorem smod_eq (a b : Nat) (ha : a < W) (hb : b < W) : Model.Arith.smod a b = Spec.Arith.smod a b := by
  unfold Model.Arith.smod i256Mod Spec.Arith.smod
  by_cases ha0 : a = 0
  · subst ha0
    by_cases hb0 : b = 0 <;> simp [signCompl_zero, hb0, toInt, ofInt]
  by_cases hb0 : b = 0
  · subst hb0
    rcases signCompl_cases a ha ha0 with ⟨ma, _, _, sa, _⟩ | ⟨ma, _, _, sa, _⟩ <;> simp [sa, signCompl_zero]
  rcases signCompl_cases a ha ha0 with ⟨ma, ha1, ha2, sa, ta⟩ | ⟨ma, ha1, ha2, sa, ta⟩ <;>
    rcases signCompl_cases b hb hb0 with ⟨mb, hb1, hb2, sb, tb⟩ | ⟨mb, hb1, hb2, sb, tb⟩ <;>
    rw [sa, sb, ta, tb] <;> simp only [hb0, if_false, reduceCtorEq, if_true] <;>
    obtain ⟨h1, h2, h3⟩ := small_mag (ma % mb) (Nat.lt_of_lt_of_le (Nat.mod_lt _ hb1) (by omega))
  · rw [← Int.ofNat_tmod, h1, h2]
  · rw [Int.tmod_neg, ← Int.ofNat_tmod, h1, h2]
  · rw [Int.neg_tmod, ← Int.ofNat_tmod, h1, h3]
  · rw [Int.tmod_neg, Int.neg_tmod, ← Int.ofNat_tmod, h1, h3]

theorem i256Cmp_eq (a b : Nat) (ha : a < W) (hb : b < W) :
    i256Cmp a b = if toInt a < toInt b then -1 else if toInt a > toInt b then 1 else 0 := by
  have hW := W_val
  unfold i256Cmp toInt
  simp only [signInt a ha, signInt b hb]
  by_cases h1 : a ≥ 2^255 <;> by_cases h2 : b ≥ 2^255 <;> simp only [h1, h2, if_true, if_false] <;> omega

theorem slt_eq (a b : Nat) (ha : a < W) (hb : b < W) : Model.Arith.slt a b = Spec.Arith.slt a b := by
  unfold Model.Arith.slt Spec.Arith.slt
  rw [i256Cmp_eq a b ha hb]
  by_cases h1 : toInt a < toInt b
  · simp [h1, Model.Arith.b2w, Spec.Arith.b2w]
  · by_cases h2 : toInt a > toInt b <;> simp [h1, h2, Model.Arith.b2w, Spec.Arith.b2w]

theorem sgt_eq (a b : Nat) (ha : a < W) (hb : b < W) : Model.Arith.sgt a b = Spec.Arith.sgt a b := by
  unfold Model.Arith.sgt Spec.Arith.sgt
  rw [i256Cmp_eq a b ha hb]
  by_cases h1 : toInt a < toInt b
  · have : ¬ (toInt a > toInt b) := by omega
    simp [h1, this, Model.Arith.b2w, Spec.Arith.b2w]
  · by_cases h2 : toInt a > toInt b <;> simp [h1, h2, Model.Arith.b2w, Spec.Arith.b2w]

theorem asU64Sat_small (s : Nat) (h : s < 256) : asU64Sat s = s := by
  have := U64_val; unfold asU64Sat; simp; omega
theorem asU64Sat_big (s : Nat) (h : ¬ s < 256) : ¬ asU64Sat s < 256 := by
  have := U64_val; unfold asU64Sat; split <;> omega

theorem byte_eq (i x : Nat) : Model.Arith.byte i x = Spec.Arith.byte i x := by
  unfold Model.Arith.byte Spec.Arith.byte
  by_cases h : i < 32
  · rw [asU64Sat_small i (by omega)]; simp [h, Nat.shiftRight_eq_div_pow]
  · have : ¬ asU64Sat i < 32 := by
      have := U64_val; unfold asU64Sat; split <;> omega
    simp [h, this]

theorem shl_eq (s x : Nat) : Model.Arith.shl s x = Spec.Arith.shl s x := by
  unfold Model.Arith.shl Spec.Arith.shl
  by_cases h : s < 256
  · rw [asU64Sat_small s h]; simp [h, Nat.shiftLeft_eq]
  · simp only [asU64Sat_big s h, if_false]
    have hd : W ∣ 2^s := Nat.pow_dvd_pow 2 (by omega : 256 ≤ s)
    exact (Nat.mod_eq_zero_of_dvd (Nat.dvd_mul_left_of_dvd hd x)).symm

theorem W_le_pow (s : Nat) (h : ¬ s < 256) : W ≤ 2^s :=
  Nat.pow_le_pow_right (by omega) (by omega)

theorem shr_eq (s x : Nat) (hx : x < W) : Model.Arith.shr s x = Spec.Arith.shr s x := by
  unfold Model.Arith.shr Spec.Arith.shr
  by_cases h : s < 256
  · rw [asU64Sat_small s h]; simp [h, Nat.shiftRight_eq_div_pow]
  · simp only [asU64Sat_big s h, if_false]
    exact (Nat.div_eq_of_lt (Nat.lt_of_lt_of_le hx (W_le_pow s h))).symm

theorem W_split (s : Nat) (h : s ≤ 256) : W = 2^s * 2^(256-s) := by
  have : 2^256 = 2^s * 2^(256-s) := by rw [← Nat.pow_add]; congr 1; omega
  exact this

theorem or_high_ones (x k : Nat) (hx : x < W) (hk : k ≤ 256) :
    x ||| (W - 2^k) = (W - 2^k) + x % 2^k := by
  have hfac : W - 2^k = 2^k * (2^(256-k) - 1) := by
    rw [Nat.mul_sub, Nat.mul_one, ← W_split k hk]
  have hr : x % 2^k < 2^k := Nat.mod_lt _ (Nat.two_pow_pos _)
  rw [hfac]
  apply Nat.eq_of_testBit_eq
  intro j
  rw [Nat.testBit_two_pow_mul_add _ hr, Nat.testBit_or, Nat.testBit_two_pow_mul,
    Nat.testBit_two_pow_sub_one, Nat.testBit_mod_two_pow]
  by_cases hj : j < k
  · have : ¬ j ≥ k := by omega
    simp [hj, this]
  · by_cases hj2 : j < 256
    · have h1 : j ≥ k := by omega
      have h2 : j - k < 256 - k := by omega
      simp [hj, h1, h2]
    · have hxj : x.testBit j = false := by
        apply Nat.testBit_lt_two_pow
        have : W ≤ 2^j := Nat.pow_le_pow_right (by omega) (by omega)
        omega
      have h2 : ¬ j - k < 256 - k := by omega
      simp [hj, hxj, h2]

theorem sar_neg_small (s x : Nat) (hs : s < 256) (hx : x < W) :
    (x >>> s) ||| (W - 2^(256 - s)) % W = ofInt (((x : Int) - (W : Int)) / ((2^s : Nat) : Int)) := by
  have hsplit : W = 2^(256-s) * 2^s := (W_split s (by omega)).trans (Nat.mul_comm _ _)
  have hm1 : 0 < 2^(256-s) := Nat.two_pow_pos _
  have hd : 0 < 2^s := Nat.two_pow_pos _
  have hq : x / 2^s < 2^(256-s) := by
    rw [Nat.div_lt_iff_lt_mul hd]; rw [← hsplit]; exact hx
  have hmW : 2^(256-s) ≤ W := by
    rw [hsplit]; exact Nat.le_mul_of_pos_right _ hd
  have hI : ((x : Int) - (W : Int)) / ((2^s : Nat) : Int)
      = -(((2^(256-s) - x / 2^s : Nat)) : Int) := by
    have e : ((x : Int) - (W : Int)) = (x : Int) + (-((2^(256-s) : Nat) : Int)) * ((2^s : Nat) : Int) := by
      rw [hsplit]; push_cast; rw [Int.neg_mul]; omega
    rw [e, Int.add_mul_ediv_right _ _ (by exact_mod_cast (Nat.ne_of_gt hd))]
    rw [← Int.natCast_ediv]
    rw [Int.ofNat_sub (Nat.le_of_lt hq)]; omega
  rw [hI, Nat.shiftRight_eq_div_pow]
  generalize x / 2^s = q at hq ⊢
  rw [ofInt_neg_natCast _ (by omega) (by omega), Nat.mod_eq_of_lt (by omega),
    or_high_ones q (256 - s) (by omega) (by omega), Nat.mod_eq_of_lt hq]
  omega

theorem sar_neg_big (s x : Nat) (hs : ¬ s < 256) (hx : x < W) (hn : x ≥ 2^255) :
    W - 1 = ofInt (((x : Int) - (W : Int)) / ((2^s : Nat) : Int)) := by
  have hW := W_val
  have hle := W_le_pow s hs
  have hI : ((x : Int) - (W : Int)) / ((2^s : Nat) : Int) = -1 := by
    generalize 2^s = d at hle
    have e : ((x : Int) - (W : Int)) = ((d - (W - x) : Nat) : Int) + (-1) * (d : Int) := by
      rw [Int.ofNat_sub (by omega), Int.ofNat_sub (by omega)]; omega
    rw [e, Int.add_mul_ediv_right _ _ (by omega), ← Int.natCast_ediv, Nat.div_eq_of_lt (by omega)]
    simp
  rw [hI]
  have := ofInt_neg_natCast 1 (by omega) (by omega)
  simpa using this.symm

theorem sar_eq (s x : Nat) (hx : x < W) : Model.Arith.sar s x = Spec.Arith.sar s x := by
  have hW := W_val
  unfold Model.Arith.sar Spec.Arith.sar arithShr
  rw [bit255 x hx]
  by_cases hn : x ≥ 2^255
  · rw [toInt_neg x hn hx, Int.ofNat_sub (Nat.le_of_lt hx), Int.neg_sub]
    by_cases hs : s < 256
    · rw [asU64Sat_small s hs]; simp only [hs, hn, if_true, decide_true]
      exact sar_neg_small s x hs hx
    · simp only [asU64Sat_big s hs, hn, if_false, if_true, decide_true]
      exact sar_neg_big s x hs hx hn
  · rw [toInt_nonneg x (by omega), ← Int.natCast_ediv]
    have hd : 0 < 2^s := Nat.two_pow_pos _
    have hlt : x / 2^s < W := Nat.lt_of_le_of_lt (Nat.div_le_self _ _) hx
    rw [ofInt_natCast _ hlt]
    by_cases hs : s < 256
    · rw [asU64Sat_small s hs]; simp [hs, hn, Nat.shiftRight_eq_div_pow]
    · simp only [asU64Sat_big s hs, hn, if_false, decide_false]
      have := W_le_pow s hs
      exact (Nat.div_eq_of_lt (by omega)).symm

theorem signextend_eq (k x : Nat) (hx : x < W) :
    Model.Arith.signextend k x = Spec.Arith.signextend k x := by
  unfold Model.Arith.signextend Spec.Arith.signextend
  by_cases hk : k < 31
  · simp only [hk, if_true]
    rw [show 8 * (k + 1) = (8 * k + 7) + 1 by omega, Nat.add_sub_cancel]
    generalize hbi : 8 * k + 7 = bi
    have hp : 2^bi < W := Nat.pow_lt_pow_right (by decide) (by omega)
    have hp0 : 0 < 2^bi := Nat.two_pow_pos _
    have hmask : wsub ((1 <<< bi) % W) 1 = 2^bi - 1 := by
      rw [Nat.shiftLeft_eq, Nat.one_mul, Nat.mod_eq_of_lt hp]
      unfold wsub
      generalize 2^bi = p at hp hp0 ⊢
      rw [W_val] at *; omega
    have hlo : x % 2^(bi+1) = x % 2^bi + 2^bi * (x / 2^bi % 2) := Nat.mod_pow_succ
    have hr : x % 2^bi < 2^bi := Nat.mod_lt _ hp0
    unfold bit
    rw [hmask, Nat.testBit_eq_decide_div_mod_eq, hlo]
    rcases Nat.mod_two_eq_zero_or_one (x / 2^bi) with hb | hb <;> rw [hb]
    · rw [Nat.mul_zero, Nat.add_zero, if_neg (by simp), if_neg (by omega), Nat.and_two_pow_sub_one_eq_mod]
    · rw [Nat.mul_one, if_pos (by simp), if_pos (by omega), Nat.pow_succ,
        show U256.not (2^bi - 1) = W - 2^bi by unfold U256.not; omega, or_high_ones x bi hx (by omega)]
      generalize x % 2^bi = r at hr ⊢
      generalize 2^bi = p at *
      rw [show ((r + p : Nat) : Int) - ((p * 2 : Nat) : Int) = -((p - r : Nat) : Int) by omega,
        ofInt_neg_natCast _ (by omega) (by omega)]
      omega
  · simp only [hk, if_false]

theorem ofInt_lt (i : Int) : ofInt i < W := by
  unfold ofInt; rw [W_val]; omega
theorem b2w_lt (b : Bool) : Model.Arith.b2w b < W := by
  have hW := W_val; unfold Model.Arith.b2w; split <;> omega

theorem not_lt (a : Nat) : Model.Arith.bitnot a < W := by
  have := W_pos; unfold Model.Arith.bitnot U256.not; omega
end Revm.Proofs.Arith
