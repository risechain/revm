import Revm.Model.Jump
import Revm.Spec.Jump
/-! Proofs for C04: the pointer-skipping scan of `analyze` computes exactly the JUMPDESTs at instruction boundaries
(`analyze_correct`), padding is harmless, and JUMP / JUMPI accept exactly those targets. JUMP here is `Model.Jump.jump` on
the five-field `Model.Jump.Interp`. The interpreter of Model/Interp.lean uses this model's `pad`, `analyze`, `isValid` and
`asUsizeOrFail`, but has its own `jumpI` / `jumpInner` (met in Proofs/EvmStepPure.lean, against the rule `jumpTo`), and
`Model.Bytecode` (C27) its own `Bytecode`, `toAnalysed` and `analyze`: no lemma relates either to the ones here. -/
namespace Revm.Proofs.Jump
open Revm Revm.Model.Jump Revm.Spec.Jump

theorem start_append {code : List Nat} (ext : List Nat) {t : Nat} (h : InstrStart code t) :
    InstrStart (code ++ ext) t := by
  induction h with
  | zero => exact .zero
  | step _ hop ih =>
    refine .step ih ?_
    have hlt := (List.getElem?_eq_some_iff.mp hop).1
    rw [List.getElem?_append_left hlt]; exact hop

theorem start_of_append {code ext : List Nat} {t : Nat} (h : InstrStart (code ++ ext) t)
    (ht : t ≤ code.length) : InstrStart code t := by
  induction h with
  | zero => exact .zero
  | @step i op _ hop ih =>
    have hi : i < code.length := by omega
    refine .step (ih (by omega)) ?_
    rw [List.getElem?_append_left hi] at hop; exact hop

/-- two boundaries never interleave: the next boundary after `a` is at least `a + 1 + pushLen` -/
theorem start_gap {code : List Nat} : ∀ (b a op : Nat), InstrStart code a → InstrStart code b → a < b →
    code[a]? = some op → a + 1 + pushLen op ≤ b := by
  intro b
  induction b using Nat.strongRecOn with
  | _ b ih =>
    intro a op ha hb hab hop
    cases hb with
    | zero => omega
    | @step j opj hj hopj =>
      rcases Nat.lt_trichotomy a j with h | h | h
      · have := ih j (by omega) a op ha hj h hop; omega
      · subst h; rw [hop] at hopj; cases hopj; omega
      · have := ih a hab j opj hj ha h hopj; omega

theorem start_or_pushData {code : List Nat} : ∀ t, t ≤ code.length →
    InstrStart code t ∨ InPushData code t := by
  intro t
  induction t with
  | zero => intro _; exact .inl .zero
  | succ t ih =>
    intro ht
    have htl : t < code.length := by omega
    rcases ih (by omega) with h | ⟨i, op, hi, hop, hlt, hle⟩
    · have hop : code[t]? = some code[t] := List.getElem?_eq_getElem htl
      by_cases hp : pushLen code[t] = 0
      · left; have := InstrStart.step h hop; rw [hp] at this; exact this
      · right; exact ⟨t, code[t], h, hop, by omega, by omega⟩
    · by_cases he : t + 1 ≤ i + pushLen op
      · right; exact ⟨i, op, hi, hop, by omega, he⟩
      · left
        have : t + 1 = i + 1 + pushLen op := by omega
        rw [this]; exact .step hi hop

theorem not_start_and_pushData {code : List Nat} {t : Nat} (hs : InstrStart code t)
    (hp : InPushData code t) : False := by
  obtain ⟨i, op, hi, hop, hlt, hle⟩ := hp
  have := start_gap t i op hi hs hlt hop
  omega

theorem instrStart_iff_not_inPushData {code : List Nat} {t : Nat} (ht : t ≤ code.length) :
    InstrStart code t ↔ ¬ InPushData code t := by
  constructor
  · exact fun hs hp => not_start_and_pushData hs hp
  · intro hn; rcases start_or_pushData t ht with h | h
    · exact h
    · exact absurd h hn

theorem validDest_iff_text (code : List Nat) (t : Nat) : ValidDest code t ↔ ValidDestText code t := by
  unfold ValidDest ValidDestText
  constructor
  · rintro ⟨h1, h2, h3⟩; exact ⟨h1, h2, (instrStart_iff_not_inPushData (by omega)).mp h3⟩
  · rintro ⟨h1, h2, h3⟩; exact ⟨h1, h2, (instrStart_iff_not_inPushData (by omega)).mpr h3⟩

theorem pushOffset_lt_iff {op : Nat} (h : op < 256) :
    u8WrappingSub op PUSH1 < 32 ↔ (0x60 ≤ op ∧ op ≤ 0x7f) := by
  unfold u8WrappingSub PUSH1; omega

theorem pushOffset_step {op : Nat} (h : op < 256) (hp : u8WrappingSub op PUSH1 < 32) :
    u8WrappingSub op PUSH1 + 2 = 1 + pushLen op := by
  have := (pushOffset_lt_iff h).mp hp
  unfold pushLen; rw [if_pos this]
  unfold u8WrappingSub PUSH1; omega

theorem pushLen_zero_of_not {op : Nat} (h : op < 256) (hp : ¬ u8WrappingSub op PUSH1 < 32) :
    pushLen op = 0 := by
  have : ¬ (0x60 ≤ op ∧ op ≤ 0x7f) := fun hc => hp ((pushOffset_lt_iff h).mpr hc)
  unfold pushLen; rw [if_neg this]

theorem validDest_lt_next {code : List Nat} {i op : Nat} (hs : InstrStart code i) (hop : code[i]? = some op)
    (t : Nat) :
    (t < i + 1 + pushLen op ∧ ValidDest code t) ↔ (t < i ∧ ValidDest code t) ∨ (t = i ∧ op = JUMPDEST) := by
  constructor
  · rintro ⟨_, h2⟩
    rcases Nat.lt_trichotomy t i with h | h | h
    · exact .inl ⟨h, h2⟩
    · subst h
      have := h2.2.1
      rw [hop] at this
      exact .inr ⟨rfl, Option.some.inj this⟩
    · have := start_gap t i op hs h2.2.2 h hop; omega
  · rintro (⟨h1, h2⟩ | ⟨rfl, rfl⟩)
    · exact ⟨by omega, h2⟩
    · exact ⟨by omega, (List.getElem?_eq_some_iff.mp hop).1, hop, hs⟩

theorem analyzeLoop_spec {code : List Nat} (hb : Bytes code) : ∀ (n i : Nat) (jumps : List Bool),
    code.length - i = n → InstrStart code i → jumps.length = code.length →
    (∀ t, jumps[t]? = some true ↔ (t < i ∧ ValidDest code t)) →
    (∀ t, (analyzeLoop code i jumps)[t]? = some true ↔ ValidDest code t)
      ∧ (analyzeLoop code i jumps).length = code.length := by
  intro n
  induction n using Nat.strongRecOn with
  | _ n ih =>
    intro i jumps hn hs hl hinv
    unfold analyzeLoop
    by_cases hi : i < code.length
    · rw [dif_pos hi]
      have hop : code[i]? = some code[i] := List.getElem?_eq_getElem hi
      have hlt256 : code[i] < 256 := hb _ (List.getElem_mem hi)
      have hs' := InstrStart.step hs hop
      have hnext := validDest_lt_next hs hop
      simp only []
      by_cases hj : code[i] = JUMPDEST
      · rw [if_pos hj]
        have hpl : pushLen code[i] = 0 := by rw [hj]; decide
        rw [hpl] at hs' hnext
        refine ih _ (by omega) (i + 1) _ rfl hs' (by rw [List.length_set]; exact hl) ?_
        intro t
        rw [hnext, ← hinv t, List.getElem?_set]
        by_cases hti : i = t
        · subst hti
          rw [if_pos rfl, if_pos (by omega)]
          exact ⟨fun _ => .inr ⟨rfl, hj⟩, fun _ => rfl⟩
        · rw [if_neg hti]
          exact ⟨.inl, fun h => h.resolve_right (fun hc => hti hc.1.symm)⟩
      · rw [if_neg hj]
        have hsame : ∀ t, jumps[t]? = some true ↔ (t < i + 1 + pushLen code[i] ∧ ValidDest code t) := by
          intro t
          rw [hnext, ← hinv t]
          exact ⟨.inl, fun h => h.resolve_right (fun hc => hj hc.2)⟩
        by_cases hp : u8WrappingSub code[i] PUSH1 < 32
        · rw [if_pos hp, pushOffset_step hlt256 hp, ← Nat.add_assoc]
          exact ih _ (by omega) _ _ rfl hs' hl hsame
        · rw [if_neg hp]
          rw [pushLen_zero_of_not hlt256 hp] at hs' hsame
          exact ih _ (by omega) (i + 1) _ rfl hs' hl hsame
    · rw [dif_neg hi]
      refine ⟨fun t => ?_, hl⟩
      rw [hinv t]
      exact ⟨fun h => h.2, fun h => ⟨by have := h.1; omega, h⟩⟩

theorem analyze_spec {code : List Nat} (hb : Bytes code) :
    (∀ t, (analyze code)[t]? = some true ↔ ValidDest code t) ∧ (analyze code).length = code.length := by
  unfold analyze
  refine analyzeLoop_spec hb _ 0 _ rfl .zero List.length_replicate ?_
  intro t
  constructor
  · intro h
    rw [List.getElem?_replicate] at h
    by_cases hc : t < code.length
    · rw [if_pos hc] at h; cases h
    · rw [if_neg hc] at h; cases h
  · rintro ⟨h, _⟩; omega

theorem isValid_iff (jt : List Bool) (t : Nat) : isValid jt t = true ↔ jt[t]? = some true := by
  unfold isValid
  by_cases h : t < jt.length
  · rw [dif_pos h, List.getElem?_eq_getElem h]
    constructor
    · intro e; rw [e]
    · intro e; exact Option.some.inj e
  · rw [dif_neg h, List.getElem?_eq_none (by omega)]
    constructor <;> intro e <;> cases e

theorem pad_length (code : List Nat) : (pad code).length = code.length + 33 := by
  unfold pad; rw [List.length_append, List.length_replicate]

theorem bytes_pad {code : List Nat} (hb : Bytes code) : Bytes (pad code) := by
  intro x hx
  unfold pad at hx
  rcases List.mem_append.mp hx with h | h
  · exact hb x h
  · have := (List.mem_replicate.mp h).2; omega

theorem validDest_pad (code : List Nat) (t : Nat) : ValidDest (pad code) t ↔ ValidDest code t := by
  constructor
  · rintro ⟨_, h2, h3⟩
    by_cases ht : t < code.length
    · refine ⟨ht, ?_, start_of_append h3 (by omega)⟩
      unfold pad at h2; rw [List.getElem?_append_left ht] at h2; exact h2
    · exfalso
      unfold pad at h2
      rw [List.getElem?_append_right (by omega), List.getElem?_replicate] at h2
      by_cases hc : t - code.length < 33
      · rw [if_pos hc] at h2; cases h2
      · rw [if_neg hc] at h2; cases h2
  · rintro ⟨h1, h2, h3⟩
    refine ⟨by rw [pad_length]; omega, ?_, start_append _ h3⟩
    unfold pad; rw [List.getElem?_append_left h1]; exact h2

theorem analyze_correct {code : List Nat} (hb : Bytes code) (t : Nat) :
    isValid (analyze (pad code)) t = true ↔ ValidDest code t := by
  rw [isValid_iff, (analyze_spec (bytes_pad hb)).1 t, validDest_pad]

theorem pad_getElem (code : List Nat) (i : Nat) (h1 : code.length ≤ i) (h2 : i < (pad code).length) :
    (pad code)[i]? = some 0 := by
  unfold pad at h2 ⊢
  rw [List.length_append, List.length_replicate] at h2
  rw [List.getElem?_append_right h1, List.getElem?_replicate, if_pos (by omega)]

theorem analyzeLoop_true (code : List Nat) (i : Nat) (jumps : List Bool) (t : Nat)
    (ht : (analyzeLoop code i jumps)[t]? = some true) :
    jumps[t]? = some true ∨ code[t]? = some JUMPDEST := by
  induction i, jumps using analyzeLoop.induct code with
  | case1 i jumps hi _ hop ih =>
    rw [analyzeLoop, dif_pos hi, if_pos hop] at ht
    rcases ih ht with h | h
    · rw [List.getElem?_set] at h
      by_cases hti : i = t
      · subst hti; exact .inr (by rw [List.getElem?_eq_getElem hi]; exact congrArg some hop)
      · rw [if_neg hti] at h; exact .inl h
    · exact .inr h
  | case2 i jumps hi _ hop _ hp ih =>
    rw [analyzeLoop, dif_pos hi, if_neg hop, if_pos hp] at ht
    exact ih ht
  | case3 i jumps hi _ hop _ hp ih =>
    rw [analyzeLoop, dif_pos hi, if_neg hop, if_neg hp] at ht
    exact ih ht
  | case4 i jumps hi =>
    rw [analyzeLoop, dif_neg hi] at ht
    exact .inl ht

/-- no jump destination in the padding, for any list of naturals as code -/
theorem isValid_beyond' (code : List Nat) (t : Nat) (ht : code.length ≤ t) :
    isValid (analyze (pad code)) t = false := by
  cases h : isValid (analyze (pad code)) t with
  | false => rfl
  | true =>
    exfalso
    unfold isValid at h
    split at h
    · rename_i hlt
      have hget : (analyze (pad code))[t]? = some true := by
        rw [List.getElem?_eq_getElem hlt, h]
      unfold analyze at hget
      rcases analyzeLoop_true (pad code) 0 _ t hget with h1 | h1
      · rw [List.getElem?_replicate] at h1
        split at h1 <;> cases h1
      · by_cases hp : t < (pad code).length
        · rw [pad_getElem code t ht hp] at h1
          cases h1
        · rw [List.getElem?_eq_none (by omega)] at h1
          cases h1
    · cases h

theorem isValid_beyond {code : List Nat} (_hb : Bytes code) (t : Nat) (ht : code.length ≤ t) :
    isValid (analyze (pad code)) t = false :=
  isValid_beyond' code t ht

/-! ### the executable Spec scan agrees with the declarative definition -/

theorem drop_cons_inv {code : List Nat} {i b : Nat} {rest : List Nat} (h : code.drop i = b :: rest) :
    i < code.length ∧ code[i]? = some b ∧ code.drop (i + 1) = rest := by
  have hi : i < code.length := by
    by_cases hc : i < code.length
    · exact hc
    · rw [List.drop_eq_nil_of_le (by omega)] at h; cases h
  rw [List.drop_eq_getElem_cons hi] at h
  injection h with h1 h2
  exact ⟨hi, by rw [List.getElem?_eq_getElem hi, h1], h2⟩

theorem classify_spec {code : List Nat} : ∀ (l : List Nat) (skip i : Nat), code.drop i = l →
    InstrStart code (i + skip) → (∀ t, i ≤ t → t < i + skip → ¬ ValidDest code t) →
    ∀ t, (classify l skip)[t]? = some true ↔ ValidDest code (i + t) := by
  intro l
  induction l with
  | nil =>
    intro skip i hd _ _ t
    have hi : code.length ≤ i := by
      by_cases hc : code.length ≤ i
      · exact hc
      · have := congrArg List.length hd; rw [List.length_drop] at this; simp at this; omega
    cases skip <;> simp only [classify] <;>
      exact ⟨fun h => (by cases h), fun h => (by have := h.1; omega)⟩
  | cons b rest ih =>
    intro skip i hd hs hno t
    obtain ⟨hi, hop, hd'⟩ := drop_cons_inv hd
    cases skip with
    | succ k =>
      simp only [classify]
      cases t with
      | zero =>
        constructor
        · intro h; cases h
        · intro h; exact absurd h (hno i (by omega) (by omega))
      | succ t' =>
        rw [List.getElem?_cons_succ]
        have := ih k (i + 1) hd' (by rw [show i + 1 + k = i + (k + 1) by omega]; exact hs)
          (fun t h1 h2 => hno t (by omega) (by omega)) t'
        rw [this, show i + 1 + t' = i + (t' + 1) by omega]
    | zero =>
      simp only [classify]
      have hs0 : InstrStart code i := hs
      cases t with
      | zero =>
        rw [List.getElem?_cons_zero, Nat.add_zero]
        constructor
        · intro h
          have hb : b = 0x5b := by
            have := Option.some.inj h; exact of_decide_eq_true (by simpa using this)
          exact ⟨hi, by rw [hop, hb], hs0⟩
        · rintro ⟨_, h2, _⟩
          rw [hop] at h2
          have hb : b = 0x5b := Option.some.inj h2
          rw [hb]; rfl
      | succ t' =>
        rw [List.getElem?_cons_succ]
        have := ih (pushLen b) (i + 1) hd' (.step hs0 hop)
          (fun t h1 h2 hv => by
            have := start_gap t i b hs0 hv.2.2 (by omega) hop
            omega) t'
        rw [this, show i + 1 + t' = i + (t' + 1) by omega]

theorem validDestB_iff (code : List Nat) (t : Nat) : validDestB code t = true ↔ ValidDest code t := by
  unfold validDestB
  have := classify_spec (code := code) code 0 0 rfl .zero (fun t h1 h2 => by omega) t
  rw [Nat.zero_add] at this
  rw [← this]
  constructor
  · intro h; exact eq_of_beq h
  · intro h; rw [h]; rfl

theorem mem_trueIdx : ∀ (l : List Bool) (i t : Nat),
    t ∈ trueIdx l i ↔ (i ≤ t ∧ l[t - i]? = some true) := by
  intro l
  induction l with
  | nil => intro i t; simp [trueIdx]
  | cons b r ih =>
    intro i t
    have hmem : t ∈ trueIdx (b :: r) i ↔ (t = i ∧ b = true) ∨ t ∈ trueIdx r (i + 1) := by
      show t ∈ (if b = true then i :: trueIdx r (i + 1) else trueIdx r (i + 1)) ↔ _
      cases b
      · rw [if_neg (by decide)]; exact ⟨.inr, fun h => h.resolve_left (fun hc => nomatch hc.2)⟩
      · rw [if_pos rfl, List.mem_cons]; exact ⟨fun h => h.imp (⟨·, rfl⟩) id, fun h => h.imp (·.1) id⟩
    rw [hmem, ih]
    rcases Nat.lt_trichotomy t i with h | rfl | h
    · exact ⟨fun hc => by omega, fun hc => by omega⟩
    · rw [Nat.sub_self, List.getElem?_cons_zero, Option.some.injEq]
      exact ⟨fun hc => hc.elim (fun h => ⟨Nat.le_refl _, h.2⟩) (fun h => by omega), fun hc => .inl ⟨rfl, hc.2⟩⟩
    · have e : t - i = (t - (i + 1)) + 1 := by omega
      rw [e, List.getElem?_cons_succ]
      exact ⟨fun hc => hc.elim (fun h => by omega) (fun h => ⟨by omega, h.2⟩), fun hc => .inr ⟨h, hc.2⟩⟩

theorem toAnalysed_idem (b : Bytecode) : toAnalysed (toAnalysed b) = toAnalysed b := by
  cases b <;> rfl

theorem isValidJump_contract {code : List Nat} (hb : Bytes code) (t : Nat) :
    isValidJump (contractNew (.legacyRaw code)) t = true ↔ ValidDest code t :=
  analyze_correct hb t

theorem lt_of_div_mod_eq_zero {a b v : Nat} (hv : v < a * b) (h : v / a % b = 0) : v < a := by
  rw [Nat.mod_eq_of_lt (Nat.div_lt_of_lt_mul hv), Nat.div_eq_zero_iff] at h
  rcases h with rfl | h
  · rw [Nat.zero_mul] at hv; cases hv
  · exact h

/-- the three upper limbs vanish exactly for the words below 2^64 -/
theorem asUsizeOrFail_eq {v : Nat} (hv : v < W) :
    asUsizeOrFail v = if v < U64 then some v else none := by
  have e2 : U128 = U64 * U64 := by decide
  have e3 : U192 = U128 * U64 := by decide
  have e4 : W = U192 * U64 := by decide
  have hlt : v % U64 < U64 := Nat.mod_lt _ (by decide)
  unfold asUsizeOrFail
  simp only []
  by_cases h : v < U64
  · have h2 : v < U128 := by rw [e2]; exact Nat.lt_of_lt_of_le h (Nat.le_mul_of_pos_right _ (by decide))
    have h3 : v < U192 := by rw [e3]; exact Nat.lt_of_lt_of_le h2 (Nat.le_mul_of_pos_right _ (by decide))
    rw [if_pos h, Nat.div_eq_of_lt h, Nat.div_eq_of_lt h2, Nat.div_eq_of_lt h3, Nat.mod_eq_of_lt h,
      if_neg (by rw [Nat.zero_mod]; omega)]
  · rw [if_neg h, if_pos]
    refine Decidable.byContradiction fun hc => h ?_
    have h3 : v < U192 := lt_of_div_mod_eq_zero (e4 ▸ hv) (by omega)
    have h2 : v < U128 := lt_of_div_mod_eq_zero (e3 ▸ h3) (by omega)
    exact lt_of_div_mod_eq_zero (e2 ▸ h2) (by omega)

/-- accepted targets: representable as `usize` and a valid destination of the contract's code -/
def Accepts (code : List Nat) (target : Nat) : Prop := target < U64 ∧ ValidDest code target

/-- decided by the Spec's own scan -/
instance (code : List Nat) (target : Nat) : Decidable (Accepts code target) :=
  decidable_of_iff (target < U64 ∧ validDestB code target = true) (and_congr_right fun _ => validDestB_iff code target)

theorem accepts_iff_validDest {code : List Nat} (hlen : code.length ≤ U64) (target : Nat) :
    Accepts code target ↔ ValidDest code target :=
  ⟨fun h => h.2, fun h => ⟨Nat.lt_of_lt_of_le h.1 hlen, h⟩⟩

theorem jumpInner_eq {code : List Nat} (hb : Bytes code) (s : Interp)
    (hs : s.bytecode = contractNew (.legacyRaw code)) {target : Nat} (ht : target < W) :
    jumpInner s target =
      if Accepts code target then { s with pc := target } else { s with result := .InvalidJump } := by
  unfold jumpInner
  rw [asUsizeOrFail_eq ht]
  by_cases h64 : target < U64
  · rw [if_pos h64]
    simp only []
    rw [hs]
    by_cases hv : ValidDest code target
    · have ha : Accepts code target := ⟨h64, hv⟩
      rw [(isValidJump_contract hb target).mpr hv, if_pos ha]
      exact if_neg (by decide)
    · have ha : ¬ Accepts code target := fun h => hv h.2
      rw [Bool.eq_false_iff.mpr fun h => hv ((isValidJump_contract hb target).mp h), if_neg ha]
      exact if_pos (by decide)
  · have ha : ¬ Accepts code target := fun h => h64 h.1
    rw [if_neg h64, if_neg ha]

/-- JUMP on any state whose top word, if there is one, is a 256-bit word: out of gas, stack underflow, or the target is
popped and the frame goes on at it exactly when it is accepted -/
theorem jump_closed {code : List Nat} (hb : Bytes code) (s : Interp)
    (hs : s.bytecode = contractNew (.legacyRaw code)) (ht : ∀ t ∈ s.stack.head?, t < W) :
    jump s =
      if s.gas < MID then { s with result := .OutOfGas }
      else match s.stack with
        | [] => { s with gas := s.gas - MID, result := .StackUnderflow }
        | t :: rest =>
          if Accepts code t then { s with gas := s.gas - MID, stack := rest, pc := t }
          else { s with gas := s.gas - MID, stack := rest, result := .InvalidJump } := by
  unfold jump recordCost
  by_cases hg : s.gas < MID
  · rw [if_neg (Nat.not_le.mpr hg), if_pos hg]
  · rw [if_pos (Nat.not_lt.mp hg), if_neg hg]
    cases hst : s.stack with
    | nil => dsimp only
    | cons t rest =>
      exact jumpInner_eq hb { s with gas := s.gas - MID, stack := rest } hs (ht t (by rw [hst]; rfl))

/-- JUMPI likewise; with a zero condition the target is popped and not looked at -/
theorem jumpi_closed {code : List Nat} (hb : Bytes code) (s : Interp)
    (hs : s.bytecode = contractNew (.legacyRaw code)) (ht : ∀ t ∈ s.stack.head?, t < W) :
    jumpi s =
      if s.gas < HIGH then { s with result := .OutOfGas }
      else match s.stack with
        | t :: cond :: rest =>
          if cond = 0 then { s with gas := s.gas - HIGH, stack := rest }
          else if Accepts code t then { s with gas := s.gas - HIGH, stack := rest, pc := t }
          else { s with gas := s.gas - HIGH, stack := rest, result := .InvalidJump }
        | _ => { s with gas := s.gas - HIGH, result := .StackUnderflow } := by
  unfold jumpi recordCost
  by_cases hg : s.gas < HIGH
  · rw [if_neg (Nat.not_le.mpr hg), if_pos hg]
  · rw [if_pos (Nat.not_lt.mp hg), if_neg hg]
    match hst : s.stack with
    | [] => dsimp only
    | [_] => dsimp only
    | t :: cond :: rest =>
      dsimp only
      by_cases hc : cond = 0
      · rw [if_neg (fun h => h hc), if_pos hc]
      · rw [if_pos hc, if_neg hc]
        exact jumpInner_eq hb { s with gas := s.gas - HIGH, stack := rest } hs (ht t (by rw [hst]; rfl))

theorem jump_eq {code : List Nat} (hb : Bytes code) (s : Interp)
    (hs : s.bytecode = contractNew (.legacyRaw code)) (hgas : MID ≤ s.gas)
    {target : Nat} {rest : List Nat} (hst : s.stack = target :: rest) (ht : target < W) :
    jump s =
      if Accepts code target then { s with gas := s.gas - MID, stack := rest, pc := target }
      else { s with gas := s.gas - MID, stack := rest, result := .InvalidJump } := by
  rw [jump_closed hb s hs (by rw [hst]; exact fun t h => Option.some.inj h ▸ ht), if_neg (Nat.not_lt.mpr hgas)]
  simp only [hst]

theorem jumpi_eq {code : List Nat} (hb : Bytes code) (s : Interp)
    (hs : s.bytecode = contractNew (.legacyRaw code)) (hgas : HIGH ≤ s.gas)
    {target cond : Nat} {rest : List Nat} (hst : s.stack = target :: cond :: rest) (ht : target < W) :
    jumpi s =
      if cond = 0 then { s with gas := s.gas - HIGH, stack := rest }
      else if Accepts code target then { s with gas := s.gas - HIGH, stack := rest, pc := target }
      else { s with gas := s.gas - HIGH, stack := rest, result := .InvalidJump } := by
  rw [jumpi_closed hb s hs (by rw [hst]; exact fun t h => Option.some.inj h ▸ ht), if_neg (Nat.not_lt.mpr hgas)]
  simp only [hst]

theorem jump_ok_iff {code : List Nat} (hb : Bytes code) (hlen : code.length ≤ U64) (s : Interp)
    (hs : s.bytecode = contractNew (.legacyRaw code)) (hres : s.result = .Continue) (hgas : MID ≤ s.gas)
    {target : Nat} {rest : List Nat} (hst : s.stack = target :: rest) (ht : target < W) :
    ((jump s).result = .Continue ∧ (jump s).pc = target) ↔ ValidDest code target := by
  rw [← accepts_iff_validDest hlen, jump_eq hb s hs hgas hst ht]
  split
  · exact ⟨fun _ => ‹_›, fun _ => ⟨hres, rfl⟩⟩
  · exact ⟨fun h => (nomatch h.1), fun h => absurd h ‹_›⟩

theorem jumpi_nonzero_ok_iff {code : List Nat} (hb : Bytes code) (hlen : code.length ≤ U64) (s : Interp)
    (hs : s.bytecode = contractNew (.legacyRaw code)) (hres : s.result = .Continue) (hgas : HIGH ≤ s.gas)
    {target cond : Nat} {rest : List Nat} (hst : s.stack = target :: cond :: rest) (ht : target < W)
    (hc : cond ≠ 0) :
    ((jumpi s).result = .Continue ∧ (jumpi s).pc = target) ↔ ValidDest code target := by
  rw [← accepts_iff_validDest hlen, jumpi_eq hb s hs hgas hst ht, if_neg hc]
  split
  · exact ⟨fun _ => ‹_›, fun _ => ⟨hres, rfl⟩⟩
  · exact ⟨fun h => (nomatch h.1), fun h => absurd h ‹_›⟩

/-- safety form, no assumption on gas or stack depth: a frame still running after JUMP is at an accepted target -/
theorem jump_safe {code : List Nat} (hb : Bytes code) (s : Interp)
    (hs : s.bytecode = contractNew (.legacyRaw code)) (hw : ∀ w ∈ s.stack, w < W)
    (hres : (jump s).result = .Continue) : Accepts code (jump s).pc := by
  rw [jump_closed hb s hs fun t h => hw t (List.mem_of_mem_head? h)] at hres ⊢
  split
  · rw [if_pos ‹_›] at hres; cases hres
  · rw [if_neg ‹_›] at hres
    split
    · rename_i hst; simp only [hst] at hres; cases hres
    · rename_i t rest hst
      simp only [hst] at hres
      split
      · assumption
      · rw [if_neg ‹_›] at hres; cases hres

/-- JUMPI moves the pc only to an accepted target, however it ends -/
theorem jumpi_safe {code : List Nat} (hb : Bytes code) (s : Interp)
    (hs : s.bytecode = contractNew (.legacyRaw code)) (hw : ∀ w ∈ s.stack, w < W) :
    (jumpi s).pc = s.pc ∨ Accepts code (jumpi s).pc := by
  rw [jumpi_closed hb s hs fun t h => hw t (List.mem_of_mem_head? h)]
  split
  · exact .inl rfl
  · split
    · split
      · exact .inl rfl
      · split
        · exact .inr ‹_›
        · exact .inl rfl
    · exact .inl rfl

end Revm.Proofs.Jump
