import Revm.Proofs.InterpEofC26
import Revm.Proofs.InterpEofWf
import Revm.Proofs.EofTop
/-! C25 ↔ C26, the whole of `WfCtx`: the in-range half comes from `InterpEofC26`, the rest (successors and jump targets
are boundaries, the returning discipline, sub-containers) from `SectionValid` / `Validated` of the validator proofs. So a
container accepted by `validate_raw_eof_inner`, and every container it can create, is `WfCtx (ctxOf e)`. -/
namespace Revm.Proofs.Interp
open Revm Revm.Model Revm.Model.Interp

theorem spec_u16At {sec : List Nat} {p : Nat} (h : p + 1 < sec.length) :
    Spec.Eof.u16At sec.toArray p = some (u16At sec p) := by
  unfold Spec.Eof.u16At u16At
  simp only [List.getElem?_toArray]
  rw [List.getElem?_eq_getElem (by omega : p < sec.length), List.getElem?_eq_getElem h,
    getD_of_lt (by omega : p < sec.length), getD_of_lt h]

theorem spec_byte {sec : List Nat} {p : Nat} (h : p < sec.length) :
    sec.toArray[p]? = some (sec.getD p 0) := by
  rw [List.getElem?_toArray, List.getElem?_eq_getElem h, getD_of_lt h]

theorem targetOk_intro {B : List Nat} {t : Int} (h0 : 0 ≤ t) (hB : t.toNat ∈ B) : targetOk B t = true := by
  unfold targetOk
  simp only [Bool.and_eq_true, decide_eq_true_eq, List.contains_iff_mem]
  exact ⟨h0, hB⟩

theorem instrOk_of_facts {sec : List Nat} {types : List (Nat × Nat × Nat)} {containers : List (List Nat)}
    {self i : Nat} (hb : ∀ b ∈ sec, b < 256) (hi : i ∈ boundaries sec)
    (hr : InRange types.length containers.length sec i)
    (hknown : notEofOf (sec.getD i 0) = false)
    (hj : Spec.Eof.JumpsOnStarts sec.toArray)
    (hnext : i + 1 + Spec.Eof.immLen sec.toArray i < sec.length ∨ Proofs.EofValidate.Term sec.toArray i)
    (hretf : sec.getD i 0 = 0xe4 → returning (typeOf types self) = true)
    (hjumpf : sec.getD i 0 = 0xe5 → i + 3 ≤ sec.length → u16At sec (i + 1) < types.length →
      (!(returning (typeOf types (u16At sec (i + 1)))) || returning (typeOf types self)) = true)
    (hec : sec.getD i 0 = 0xec → ∀ c, containers[sec.getD (i + 1) 0]? = some c → subcontainerOk c = true)
    (hrc : sec.getD i 0 = 0xee → ∀ c, containers[sec.getD (i + 1) 0]? = some c →
      ∃ h, headerOf c = some h ∧ h.dataSizeRawI + 2 ≤ c.length) :
    instrOk (boundaries sec) types containers self sec i = true := by
  have hs := boundary_isInstrStart hb hi
  have hlt : i < sec.length := by have := hs.2; rw [List.size_toArray] at this; exact this
  have hop : sec[i] < 256 := hb _ (List.getElem_mem hlt)
  have tterm := (opcode_row hop).2.2.2.2
  have hgd := getD_of_lt hlt
  have hcode : sec.toArray[i]? = some sec[i] := by rw [List.getElem?_toArray, List.getElem?_eq_getElem hlt]
  obtain ⟨hlen, hspec⟩ := hr
  rw [hgd] at hspec hretf hjumpf hec hrc hknown
  have hc : i + 1 < sec.length ∨ sec[i] ≠ 0xe2 := by
    by_cases h7 : sec[i] = 0xe2
    · have hl := hlen
      rw [instrLen_split hb hlt, if_pos h7] at hl
      exact Or.inl (by omega)
    · exact Or.inr h7
  have hlen' := instrLen_eq hb hlt hc
  -- the next position
  have hnext' : terminating (decode sec[i]) = true ∨ (i + instrLen sec i) ∈ boundaries sec := by
    rcases hnext with hn | ⟨op, inf, h1, h2, h3⟩
    · right
      rw [hlen']
      have e : i + (1 + Spec.Eof.immLen sec.toArray i) = i + 1 + Spec.Eof.immLen sec.toArray i := by omega
      rw [e]
      refine isInstrStart_boundary hb ⟨Proofs.EofValidate.Reach.snoc hs.1 hs.2, ?_⟩
      rw [List.size_toArray]; exact hn
    · left
      rw [hcode] at h1
      have e := Option.some.inj h1
      subst e
      exact tterm (by unfold termOf; rw [h2]; exact h3) hknown
  have hjs := hj i hs
  unfold instrOk
  simp only [Bool.and_eq_true, decide_eq_true_eq, Bool.or_eq_true, List.contains_iff_mem]
  rw [hgd]
  refine ⟨⟨hlen, hnext'⟩, ?_⟩
  have hlenI : i + instrLenOf (decode sec[i]) sec i ≤ sec.length := by
    have := hlen; unfold instrLen at this; rw [hgd] at this; exact this
  -- a relative jump lands on a boundary
  have target : ∀ {p : Nat} {base : Int}, p + 1 < sec.length → 0 ≤ base + i16At sec p →
      (∀ v, Spec.Eof.u16At sec.toArray p = some v →
        Spec.Eof.IsInstrStart sec.toArray (base + EofValidate.toI16 v).toNat) →
      targetOk (boundaries sec) (base + i16At sec p) = true := fun hp h0 hst =>
    targetOk_intro h0 (isInstrStart_boundary hb (hst _ (spec_u16At hp)))
  have hv := opView hop
  generalize decode sec[i] = I at hv hspec hlenI
  generalize hb' : sec[i] = b at hv hcode hretf hjumpf hec hrc
  cases hv
  case rjump => exact target (by simp only [instrLenOf] at hlenI; omega) hspec.1 (hjs.1 (.inl hcode))
  case rjumpi => exact target (by simp only [instrLenOf] at hlenI; omega) hspec.1 (hjs.1 (.inr hcode))
  case rjumpv =>
    simp only [instrSpecific, instrLenOf, List.all_eq_true, List.mem_range] at hlenI ⊢
    intro k hk
    refine target (by omega) (hspec k (by omega)).1 fun v hv => ?_
    have hst := hjs.2 hcode _ (spec_byte (by omega : i + 1 < sec.length)) k (by omega) v hv
    generalize EofValidate.toI16 v = x at hst ⊢
    generalize sec.getD (i + 1) 0 = m at hst ⊢
    have e : ((i + (4 + 2 * m) : Nat) : Int) + x = ((i : Int) + 2 + 2 * ((m : Int) + 1)) + x := by omega
    rw [e]; exact hst
  case callf => exact decide_eq_true hspec
  case jumpf =>
    simp only [instrSpecific, Bool.and_eq_true, decide_eq_true_eq]
    exact ⟨hspec, hjumpf rfl hlenI hspec⟩
  case retf => exact hretf rfl
  case eofcreate =>
    have hc := List.getElem?_eq_getElem (show sec.getD (i + 1) 0 < containers.length from hspec)
    simp only [instrSpecific, hc]
    exact hec rfl _ hc
  case returnContract =>
    have hc := List.getElem?_eq_getElem (show sec.getD (i + 1) 0 < containers.length from hspec)
    obtain ⟨h, hc2, hc3⟩ := hrc rfl _ hc
    simp only [instrSpecific, hc, hc2, decide_eq_true_eq]
    exact hc3
  case codesize => exact hspec.elim
  case codecopy => exact hspec.elim
  case other _ h0 => cases I <;> first | (cases h0; done) | rfl

theorem typeOf_map {ts : List Eof.TypesSection} {k : Nat} {tt : Eof.TypesSection} (h : ts[k]? = some tt) :
    typeOf (ts.map fun t => (t.inputs, t.outputs, t.maxStackSize)) k = (tt.inputs, tt.outputs, tt.maxStackSize) := by
  unfold typeOf
  rw [List.getD_eq_getElem?_getD, List.getElem?_map, h]; rfl

theorem returning_eq (tt : Eof.TypesSection) :
    returning (tt.inputs, tt.outputs, tt.maxStackSize) = !tt.isNonReturning := rfl

theorem decode_e3 : decode 0xe3 = .callf := rfl

theorem header_of_decoded {c : List Nat} {e' : Eof.Eof} (hb : Eof.IsBytes c) (h : Eof.Eof.decode c = .ok e') :
    ∃ hd, headerOf c = some hd ∧ hd.dataSizeRawI + 2 ≤ c.length := by
  unfold Eof.Eof.decode at h
  rw [Proofs.Eof.bind_eq_ok] at h
  obtain ⟨⟨hd, rest⟩, h1, _⟩ := h
  refine ⟨hd, by unfold headerOf; rw [h1], ?_⟩
  obtain ⟨hin, _⟩ := Proofs.Eof.headerDecode_ok h1 hb
  have hspec := Proofs.Eof.dataSizeRawI_spec hd
  have hl : ((hd.encode.drop hd.dataSizeRawI).take 2).length = 2 := by rw [hspec]; rfl
  rw [List.length_take, List.length_drop] at hl
  rw [hin, List.length_append]
  omega

/-- **validation ⇒ well-formed**, for any container that went through `validate_eof_codes` with all its
sub-containers (`Validated`) -/
theorem wf_of_validated {bs : List Nat} {t : Option EofValidate.CodeType} {e : Eof.Eof} (hbs : Eof.IsBytes bs)
    (hlen : bs.length ≤ 49152) (hdec : Eof.Eof.decode bs = .ok e) (hval : Proofs.EofValidate.Validated e t) :
    WfCtx (ctxOf e) := by
  obtain ⟨hne, htl, hdl, hsecs, hsubs⟩ := inRange_of_validated hbs hlen hdec hval
  obtain ⟨_, _, hw, bw, _⟩ := Proofs.Eof.decode_ok hdec hbs
  rcases hval with @⟨_, _, l, hcodes, _, hchildren⟩
  have ok := Proofs.EofValidate.validateEofCodes_ok _ hcodes
  obtain ⟨trF, hflow, hl⟩ := ok.sections
  obtain ⟨ft, hft, hnr⟩ := ok.first
  have hcbytes := (Proofs.Eof.decoded_isBytes hdec hbs).2
  refine ⟨hne, htl, ?_, hdl, ?_⟩
  · -- the first section is non-returning
    show returning (typeOf (e.body.typesSection.map fun t => (t.inputs, t.outputs, t.maxStackSize)) 0) = false
    rw [typeOf_map hft, returning_eq, hnr]; rfl
  · intro k sec hk
    obtain ⟨hbytes, hB⟩ := hsecs k sec hk
    have hk' : e.body.codeSection[k]? = some sec := hk
    have hklt : k < e.body.codeSection.length := by
      rcases Nat.lt_or_ge k e.body.codeSection.length with hh | hh
      · exact hh
      · rw [List.getElem?_eq_none hh] at hk'; cases hk'
    have hmem : sec ∈ e.body.codeSection := List.mem_of_getElem? hk'
    have hpos : 0 < sec.length := (hw.code_sizes _ (bw.code_len ▸ List.mem_map_of_mem hmem)).1
    obtain ⟨tt, htt, hsok, hjumps, hsf, hcreate⟩ := hflow k hklt sec hk'
    have htt' : e.body.typesSection[k]? = some tt := by rw [← List.getElem?_toArray]; exact htt
    refine ⟨hbytes, ?_, fun i hi => ?_⟩
    · unfold boundaries scan
      rw [if_pos hpos]; exact List.mem_cons_self ..
    obtain ⟨hlt, hr⟩ := hB i hi
    refine ⟨hlt, ?_⟩
    have hs := boundary_isInstrStart hbytes hi
    have hgd := getD_of_lt hlt
    have hcode : sec.toArray[i]? = some sec[i] := by rw [List.getElem?_toArray, List.getElem?_eq_getElem hlt]
    have hself : typeOf (ctxOf e).types k = (tt.inputs, tt.outputs, tt.maxStackSize) := typeOf_map htt'
    have at_op : ∀ {b : Nat}, sec.getD i 0 = b → sec.toArray[i]? = some b := fun hop => by rw [hcode, ← hgd, hop]
    refine instrOk_of_facts hbytes hi hr ?_ hjumps (hsf.noRunOff i hs) ?_ ?_ ?_ ?_
    · -- the opcode is EOF-enabled
      obtain ⟨op, inf, h1, h2, h3⟩ := (hsok i hs).known
      rw [hcode] at h1
      have e1 := Option.some.inj h1
      subst e1
      rw [hgd]; unfold notEofOf; rw [h2]; exact h3
    · -- RETF only in a returning section
      intro hop
      rw [hself, returning_eq]
      cases hn : tt.isNonReturning with
      | false => rfl
      | true => exact absurd (at_op hop) (hsf.discipline hn i hs).1
    · -- JUMPF to a returning section only from a returning one
      intro hop hl3 hidx
      rw [hself, returning_eq]
      cases hn : tt.isNonReturning with
      | false => simp
      | true =>
        rw [show (ctxOf e).types.length = e.body.typesSection.length from List.length_map _] at hidx
        have hsome := List.getElem?_eq_getElem hidx
        have := (hsf.discipline hn i hs).2 (at_op hop) _ _ (spec_u16At (by omega))
          (by rw [List.getElem?_toArray]; exact hsome)
        have ht2 : typeOf (ctxOf e).types (u16At sec (i + 1)) = _ := typeOf_map hsome
        rw [ht2, returning_eq, this]; rfl
    · -- EOFCREATE: the sub-container was validated as an init container
      intro hop c hc
      obtain ⟨idx, hidx, hsub⟩ := hcreate i hs (at_op hop)
      rw [getD_of_some hidx] at hc
      obtain ⟨e', hd'⟩ := hsubs _ (List.mem_of_getElem? hc)
      rcases hchildren idx _ _ e' hc (hl _ _ hsub) hd' with @⟨_, _, l', hv', _, _⟩
      unfold subcontainerOk
      rw [hd']; exact (Proofs.EofValidate.validateEofCodes_ok _ hv').filled rfl
    · -- RETURNCONTRACT: the sub-container decodes
      intro hop c hc
      have hcm := List.mem_of_getElem? hc
      obtain ⟨e', hd'⟩ := hsubs _ hcm
      exact header_of_decoded (hcbytes _ hcm) hd'

theorem length_le_sum_of_mem {c : List Nat} : ∀ {l : List (List Nat)}, c ∈ l → c.length ≤ (l.map List.length).sum
  | _ :: l, h => by
    simp only [List.map_cons, List.sum_cons]
    rcases List.mem_cons.1 h with rfl | h
    · omega
    · have := length_le_sum_of_mem h; omega

/-- a sub-container is a byte string no longer than its parent -/
theorem sub_bytes {e e' : Eof.Eof} (hs : Spec.Eof.SubOf e e') : ∀ {bs : List Nat}, Eof.IsBytes bs → bs.length ≤ 49152 →
    Eof.Eof.decode bs = .ok e → ∃ bs', Eof.IsBytes bs' ∧ bs'.length ≤ 49152 ∧ Eof.Eof.decode bs' = .ok e' := by
  induction hs with
  | refl => exact fun hbs hlen hdec => ⟨_, hbs, hlen, hdec⟩
  | sub hc hd _ ih =>
    intro bs hbs hlen hdec
    obtain ⟨_, _, hw, bw, hsz⟩ := Proofs.Eof.decode_ok hdec hbs
    have := length_le_sum_of_mem hc
    rw [bw.cont_len, ← hw.sum_cont] at this
    exact ih ((Proofs.Eof.decoded_isBytes hdec hbs).2 _ hc) (by omega) hd

/-- **validation ⇒ well-formed, for the container and every container it can create**: what EOFCREATE and
RETURNCONTRACT start or deploy (`SubOf`) satisfies the hypothesis of the EOF theorems of C25 as well -/
theorem validated_wf_sub {bs : List Nat} {t : Option EofValidate.CodeType} {e e' : Eof.Eof} (hbs : Eof.IsBytes bs)
    (h : EofValidate.validateRawEofInner bs t = .ok e) (hs : Spec.Eof.SubOf e e') : WfCtx (ctxOf e') := by
  obtain ⟨hlen, hdec, _, hv⟩ := Proofs.EofValidate.validateRaw_ok _ h
  obtain ⟨bs', hbs', hlen', hdec'⟩ := sub_bytes hs hbs hlen hdec
  obtain ⟨t', hv'⟩ := Proofs.EofValidate.Validated.sub hs hv
  exact wf_of_validated hbs' hlen' hdec' hv'

end Revm.Proofs.Interp
