import Revm.Model.TxFeeLegs
import Revm.Proofs.EtherJournal
/-! C08: the fee legs of the transaction handler (`deduct_caller`, `reimburse_caller`, `reward_beneficiary`) and the
transaction-level conservation law around a conserving execution. -/
namespace Revm.Proofs.Ether
open Revm Revm.Model.Journal Revm.Model.TxFeeLegs Revm.Spec.JournalAbs Revm.Spec.Ether
open Revm.U256 (satMul_eq satAdd_eq wmul_eq)

theorem bal_load_set {db : Db} {s s1 : JState} {a : Addr} {c : Bool} {acc : Acct}
    (h1 : loadAccount db s a = some (s1, c)) (h2 : s1.state a = some acc) (acc' : Acct) :
    acc.info.balance = bal db s a ∧ bal db (setAcct s1 a acc') = upd (bal db s) a acc'.info.balance ∧
      JB (setAcct s1 a acc') = JB s := by
  obtain ⟨e1, _⟩ := loadAccount_same (db := db) h1
  exact ⟨by rw [← e1.1]; exact (bal_some h2).symm, by rw [bal_setAcct, e1.1], e1.2⟩

theorem deductCaller_bal {db : Db} {s s' : JState} {spec : Nat} {e : FeeEnv}
    (h : deductCaller db s spec e = some s') :
    ∃ c, gasCost spec e = some c ∧
      bal db s' = upd (bal db s) e.caller (U256.saturatingSub (bal db s e.caller) c) ∧ JB s' = JB s := by
  unfold deductCaller at h
  simp only [bind, Option.bind_eq_some_iff] at h
  obtain ⟨⟨s1, c1⟩, h1, acc, h2, acc', h3, h⟩ := h
  cases h
  unfold deductCallerInner at h3
  simp only [Option.map_eq_some_iff] at h3
  obtain ⟨c, hc, h3⟩ := h3
  obtain ⟨hb, eb, ej⟩ := bal_load_set (db := db) h1 h2 acc'
  refine ⟨c, hc, ?_, ej⟩
  rw [eb, ← hb, ← h3]
  split <;> rfl

theorem reimburseCaller_bal {db : Db} {s s' : JState} {e : FeeEnv} {remaining refunded : Nat}
    (h : reimburseCaller db s e remaining refunded = some s') :
    bal db s' = upd (bal db s) e.caller
      (U256.saturatingAdd (bal db s e.caller) (reimbursement e remaining refunded)) ∧ JB s' = JB s := by
  unfold reimburseCaller at h
  simp only [bind, Option.bind_eq_some_iff] at h
  obtain ⟨⟨s1, c1⟩, h1, acc, h2, h⟩ := h
  cases h
  obtain ⟨hb, eb, ej⟩ := bal_load_set (db := db) h1 h2 _
  exact ⟨by rw [eb, ← hb], ej⟩

theorem rewardBeneficiary_bal {db : Db} {s s' : JState} {spec : Nat} {e : FeeEnv} {spent refunded : Nat}
    (h : rewardBeneficiary db s spec e spent refunded = some s') :
    bal db s' = upd (bal db s) e.coinbase
      (U256.saturatingAdd (bal db s e.coinbase) (reward spec e spent refunded)) ∧ JB s' = JB s := by
  unfold rewardBeneficiary at h
  simp only [bind, Option.bind_eq_some_iff] at h
  obtain ⟨⟨s1, c1⟩, h1, acc, h2, h⟩ := h
  cases h
  obtain ⟨hb, eb, ej⟩ := bal_load_set (db := db) h1 h2 _
  exact ⟨by rw [eb, ← hb], ej⟩

/-! Under what validation guarantees, the saturating and wrapping arithmetic of the three legs is exact. -/

theorem coinbaseGasPrice_le (spec : Nat) (e : FeeEnv) : coinbaseGasPrice spec e ≤ effectiveGasPrice e := by
  unfold coinbaseGasPrice U256.saturatingSub; split <;> omega

theorem burntPerGas_london {spec : Nat} {e : FeeEnv} (h : spec ≥ LONDON) :
    burntPerGas spec e = min (effectiveGasPrice e) e.basefee := by
  unfold burntPerGas coinbaseGasPrice U256.saturatingSub; rw [if_pos h]; omega

theorem gasCost_validated {db : Db} {s : JState} {spec : Nat} {e : FeeEnv} (hok : BalOk db s)
    (hv : Validated db s spec e) {c : Nat} (hc : gasCost spec e = some c) :
    c = e.gasLimit * effectiveGasPrice e + dataFee spec e := by
  obtain ⟨h1, h2⟩ := hv
  have hb := hok e.caller
  unfold gasCost at hc
  simp only [] at hc
  unfold dataFee at h1 ⊢
  split at hc
  · rename_i hcan
    rw [if_pos hcan] at h1 ⊢
    simp only [Option.map_eq_some_iff] at hc
    obtain ⟨d, hd, hc⟩ := hc
    rw [hd] at h1 ⊢
    simp only [Option.getD_some] at h1 ⊢
    rw [satMul_eq (by omega), satAdd_eq (by omega)] at hc
    exact hc.symm
  · rename_i hcan
    rw [if_neg hcan] at h1 ⊢
    cases hc
    rw [satMul_eq (by omega)]; omega


theorem reimbursement_exact {e : FeeEnv} {remaining spent refunded : Nat} (hg : GasOk e remaining spent refunded)
    (hfit : e.gasLimit * effectiveGasPrice e < W) :
    reimbursement e remaining refunded = specReimbursement e remaining refunded := by
  obtain ⟨h1, h2, h3⟩ := hg
  unfold reimbursement specReimbursement
  rw [U64ops.wadd_of_lt _ _ (by omega), wmul_eq]
  have : effectiveGasPrice e * (remaining + refunded) ≤ effectiveGasPrice e * e.gasLimit :=
    Nat.mul_le_mul_left _ (by omega)
  rw [Nat.mul_comm e.gasLimit] at hfit
  omega

theorem reward_exact {spec : Nat} {e : FeeEnv} {remaining spent refunded : Nat} (hg : GasOk e remaining spent refunded)
    (hfit : e.gasLimit * effectiveGasPrice e < W) :
    reward spec e spent refunded = specReward spec e spent refunded := by
  obtain ⟨h1, h2, h3⟩ := hg
  unfold reward specReward
  rw [U64ops.wsub_of_le _ _ (by omega) h2, wmul_eq]
  have h4 : coinbaseGasPrice spec e * (spent - refunded) ≤ effectiveGasPrice e * e.gasLimit :=
    Nat.mul_le_mul (coinbaseGasPrice_le spec e) (by omega)
  rw [Nat.mul_comm e.gasLimit] at hfit
  omega

theorem legs_split {E C g remaining spent refunded : Nat} (hC : C ≤ E) (hg : spent + remaining = g)
    (hr : refunded ≤ spent) :
    E * (remaining + refunded) + (C * (spent - refunded) + (E - C) * (spent - refunded)) = g * E := by
  have hE : C + (E - C) = E := by omega
  rw [← Nat.add_mul, hE, ← Nat.mul_add, Nat.mul_comm]
  congr 1; omega

theorem total_upd {db : Db} {L : List Addr} {s s' : JState} {a : Addr} {v : Nat} (hn : L.Nodup) (ha : a ∈ L)
    (h : bal db s' = upd (bal db s) a v) : total L db s' + bal db s a = total L db s + v := by
  simp only [total, h]; exact sumOver_upd _ v hn ha

/-- the transaction-level law under the local conditions the driver evaluates on the observed balances (the two credits
fit in 256 bits) in place of the bound on the total. The debit is read over the database view `db`, the credits over
`db2`; the views meet only in `hexec`. `Props.C08.tx_conserves_local` is the instance `db2 = db`. -/
theorem tx_conserves_local {db db2 : Db} {L : List Addr} {s0 s1 s2 s3 : JState} {spec : Nat} {e : FeeEnv}
    {rewards : Bool} {remaining spent refunded burntExec : Nat}
    (hn : L.Nodup) (hcL : e.caller ∈ L) (hbL : e.coinbase ∈ L)
    (hok0 : BalOk db s0)
    (hfitR : bal db2 s2 e.caller + specReimbursement e remaining refunded < W)
    (hfitC : bal db2 s2 e.coinbase + (if e.coinbase = e.caller then specReimbursement e remaining refunded else 0)
      + specReward spec e spent refunded < W)
    (hval : Validated db s0 spec e) (hgas : GasOk e remaining spent refunded)
    (hded : deductCaller db s0 spec e = some s1)
    (hexec : total L db2 s2 + burntExec = total L db s1)
    (hpost : postExecution db2 s2 spec e rewards remaining spent refunded = some s3) :
    total L db2 s3 + burntPerGas spec e * (spent - refunded) + dataFee spec e + burntExec
      + (if rewards then 0 else coinbaseGasPrice spec e * (spent - refunded)) = total L db s0 := by
  obtain ⟨c, hc, b1, _⟩ := deductCaller_bal hded
  cases gasCost_validated hok0 hval hc
  have hfit : e.gasLimit * effectiveGasPrice e < W := by have := hval.1; have := hok0 e.caller; omega
  have t1 := total_upd hn hcL b1
  unfold postExecution at hpost
  simp only [bind, Option.bind_eq_some_iff] at hpost
  obtain ⟨s2', hr, hpost⟩ := hpost
  obtain ⟨b2, _⟩ := reimburseCaller_bal hr
  rw [reimbursement_exact hgas hfit, satAdd_eq hfitR] at b2
  unfold specReimbursement at b2 hfitR hfitC
  have t2 := total_upd hn hcL b2
  have hsplit := legs_split (coinbaseGasPrice_le spec e) hgas.1 hgas.2.1
  have hv := hval.1
  unfold specReward at hfitC
  unfold burntPerGas
  unfold U256.saturatingSub at t1
  cases rewards
  · cases hpost
    simp only [Bool.false_eq_true, if_false]
    omega
  · obtain ⟨b3, _⟩ := rewardBeneficiary_bal hpost
    have hcb : bal db2 s2' e.coinbase + coinbaseGasPrice spec e * (spent - refunded) < W := by
      rw [b2]
      by_cases h : e.coinbase = e.caller
      · rw [if_pos h] at hfitC
        rw [h] at hfitC ⊢
        rw [upd_same]; omega
      · rw [if_neg h] at hfitC
        rw [upd_other _ _ h]; omega
    rw [reward_exact hgas hfit] at b3
    unfold specReward at b3
    rw [satAdd_eq hcb] at b3
    have t3 := total_upd hn hbL b3
    simp only [if_true]
    omega

/-- the transaction-level conservation law over two database views: `db` when `deduct_caller` runs, `db2` when the
first frame has returned (in the whole-EVM model the view changes when code enters the code store) -/
theorem tx_conserves2 {db db2 : Db} {L : List Addr} {s0 s1 s2 s3 : JState} {spec : Nat} {e : FeeEnv}
    {rewards : Bool} {remaining spent refunded burntExec : Nat}
    (hn : L.Nodup) (hcL : e.caller ∈ L) (hbL : e.coinbase ∈ L)
    (hok0 : BalOk db s0) (hSum : total L db s0 < W)
    (hval : Validated db s0 spec e) (hgas : GasOk e remaining spent refunded)
    (hded : deductCaller db s0 spec e = some s1)
    (hexec : total L db2 s2 + burntExec = total L db s1)
    (hpost : postExecution db2 s2 spec e rewards remaining spent refunded = some s3) :
    total L db2 s3 + burntPerGas spec e * (spent - refunded) + dataFee spec e + burntExec
      + (if rewards then 0 else coinbaseGasPrice spec e * (spent - refunded)) = total L db s0 := by
  obtain ⟨c, hc, b1, _⟩ := deductCaller_bal hded
  cases gasCost_validated hok0 hval hc
  have t1 := total_upd hn hcL b1
  have hsplit := legs_split (coinbaseGasPrice_le spec e) hgas.1 hgas.2.1
  -- both credits fit: a balance of `s2` plus the gas paid for is at most the total of `s0`
  have room : ∀ x ∈ L, bal db2 s2 x + e.gasLimit * effectiveGasPrice e < W := by
    intro x hx
    have h2 : bal db2 s2 x ≤ total L db2 s2 := le_sumOver (bal db2 s2) hx
    have hv := hval.1
    unfold U256.saturatingSub at t1
    omega
  refine tx_conserves_local hn hcL hbL hok0 ?_ ?_ hval hgas hded hexec hpost
  · have := room _ hcL; unfold specReimbursement; omega
  · have := room _ hbL; unfold specReimbursement specReward; split <;> omega

/-- the law over one database view. Whatever happens between `s1` and `s2` is only required to conserve (`hexec`;
`burntExec` is what self-destructs naming themselves destroyed). -/
theorem tx_conserves {db : Db} {L : List Addr} {s0 s1 s2 s3 : JState} {spec : Nat} {e : FeeEnv}
    {rewards : Bool} {remaining spent refunded burntExec : Nat}
    (hn : L.Nodup) (hcL : e.caller ∈ L) (hbL : e.coinbase ∈ L)
    (hok0 : BalOk db s0) (hSum : total L db s0 < W)
    (hval : Validated db s0 spec e) (hgas : GasOk e remaining spent refunded)
    (hded : deductCaller db s0 spec e = some s1)
    (hexec : total L db s2 + burntExec = total L db s1)
    (hpost : postExecution db s2 spec e rewards remaining spent refunded = some s3) :
    total L db s3 + burntPerGas spec e * (spent - refunded) + dataFee spec e + burntExec
      + (if rewards then 0 else coinbaseGasPrice spec e * (spent - refunded)) = total L db s0 :=
  tx_conserves2 hn hcL hbL hok0 hSum hval hgas hded hexec hpost

end Revm.Proofs.Ether
