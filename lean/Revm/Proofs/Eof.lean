import Revm.Model.Eof
/-! The EOF codec: `decode bs = ok e → encode e = bs`, and the header size arithmetic. Every decoding function gets
one specification (`Spec`): it does not panic, and what it returns on a byte string re-encodes to the input it consumed. -/
namespace Revm.Proofs.Eof
open Revm.Model.Eof

section monad
variable {ε α β : Type}

theorem bind_def (x : R ε α) (f : α → R ε β) : (x >>= f) = R.bind x f := rfl
theorem pure_def (a : α) : (pure a : R ε α) = .ok a := rfl

theorem bind_eq_ok {x : R ε α} {f : α → R ε β} {b : β} :
    (x >>= f) = .ok b ↔ ∃ a, x = .ok a ∧ f a = .ok b := by
  cases x <;> simp [bind_def, R.bind]

theorem bind_eq_panic {x : R ε α} {f : α → R ε β} :
    (x >>= f) = .panic ↔ x = .panic ∨ ∃ a, x = .ok a ∧ f a = .panic := by
  cases x <;> simp [bind_def, R.bind]
theorem ite_err_eq_ok {c : Prop} [Decidable c] {e : ε} {x : R ε α} {b : α}
    (h : (if c then R.err e else x) = R.ok b) : ¬c ∧ x = .ok b := by
  by_cases hc : c
  · rw [if_pos hc] at h; cases h
  · rw [if_neg hc] at h; exact ⟨hc, h⟩

@[reducible] def Spec (P : α → Prop) (x : R ε α) : Prop := x ≠ .panic ∧ ∀ a, x = .ok a → P a

theorem spec_ok {P : α → Prop} {a : α} (h : P a) : Spec P (R.ok a : R ε α) :=
  ⟨nofun, fun _ e => by cases e; exact h⟩
theorem spec_pure {P : α → Prop} {a : α} (h : P a) : Spec P (pure a : R ε α) := spec_ok h
theorem spec_err {P : α → Prop} {e : ε} : Spec P (R.err e : R ε α) :=
  ⟨nofun, nofun⟩
theorem spec_bind {Q : α → Prop} {P : β → Prop} {x : R ε α} {f : α → R ε β} (hx : Spec Q x)
    (hf : ∀ a, Q a → Spec P (f a)) : Spec P (x >>= f) := by
  cases x with
  | ok a => exact hf a (hx.2 a rfl)
  | err e => exact spec_err
  | panic => exact absurd rfl hx.1
theorem spec_guard {P : α → Prop} {c : Prop} [Decidable c] {e : ε} {x : R ε α} (h : ¬c → Spec P x) :
    Spec P (if c then R.err e else x) := by
  by_cases hc : c
  · rw [if_pos hc]; exact spec_err
  · rw [if_neg hc]; exact h hc
theorem Spec.mono {P Q : α → Prop} {x : R ε α} (h : Spec Q x) (hq : ∀ a, Q a → P a) : Spec P x :=
  ⟨h.1, fun a e => hq a (h.2 a e)⟩
end monad

theorem be16_join (a b : Nat) (ha : a < 256) (hb : b < 256) : be16 (a * 256 + b) = [a, b] := by
  unfold be16
  have h1 : (a * 256 + b) / 256 % 256 = a := by omega
  have h2 : (a * 256 + b) % 256 = b := by omega
  rw [h1, h2]

theorem be16_length (v : Nat) : (be16 v).length = 2 := rfl

theorem isBytes_cons {a : Nat} {l : List Nat} : IsBytes (a :: l) ↔ a < 256 ∧ IsBytes l := by
  simp [IsBytes]

theorem isBytes_drop {l : List Nat} (h : IsBytes l) (n : Nat) : IsBytes (l.drop n) :=
  fun b hb => h b (List.mem_of_mem_drop hb)

theorem isBytes_take {l : List Nat} (h : IsBytes l) (n : Nat) : IsBytes (l.take n) :=
  fun b hb => h b (List.mem_of_mem_take hb)

theorem isBytes_append {l m : List Nat} : IsBytes (l ++ m) ↔ IsBytes l ∧ IsBytes m := by
  simp only [IsBytes, List.mem_append]
  constructor
  · intro h; exact ⟨fun b hb => h b (Or.inl hb), fun b hb => h b (Or.inr hb)⟩
  · rintro ⟨h1, h2⟩ b (hb | hb); exact h1 b hb; exact h2 b hb

/-- `p = (rest, v)` was read off the front of a byte string: the bytes consumed are `enc v`, what is left are bytes
again, and `v` satisfies `V`. Every field of the header is read this way; a decoder is a chain of such reads. -/
def Reads {α : Type} (enc : α → List Nat) (V : α → Prop) (input : List Nat) (p : List Nat × α) : Prop :=
  IsBytes input → input = enc p.2 ++ p.1 ∧ IsBytes p.1 ∧ V p.2

theorem consumeU8_spec (input : List Nat) : Spec (Reads (fun b => [b]) (· < 256) input) (consumeU8 input) := by
  cases input with
  | nil => exact spec_err
  | cons b rest => exact spec_ok fun hb => ⟨rfl, (isBytes_cons.1 hb).2, (isBytes_cons.1 hb).1⟩

theorem consumeU16_spec (input : List Nat) : Spec (Reads be16 (· < 65536) input) (consumeU16 input) := by
  match input with
  | [] => exact spec_err
  | [_] => exact spec_err
  | a :: b :: rest =>
    refine spec_ok fun hb => ?_
    simp only [isBytes_cons] at hb
    exact ⟨by rw [be16_join a b hb.1 hb.2.1]; rfl, hb.2.2, by omega⟩

/-- what `TypesSection::validate` accepts -/
def TypesOk (t : TypesSection) : Prop :=
  t.inputs ≤ 0x7f ∧ t.outputs ≤ 0x80 ∧ t.maxStackSize ≤ 0x3ff ∧ t.inputs ≤ t.maxStackSize

theorem validate_ok {t : TypesSection} : t.validate = .ok () ↔ TypesOk t := by
  unfold TypesSection.validate TypesOk
  split
  · simp; omega
  · split
    · simp; omega
    · simp; omega

theorem validate_spec (t : TypesSection) : Spec (fun _ => TypesOk t) t.validate :=
  ⟨by unfold TypesSection.validate; split; simp; split <;> simp, fun _ h => validate_ok.1 h⟩

theorem typesDecode_spec (input : List Nat) :
    Spec (fun p => IsBytes input → input = p.1.encode ++ p.2 ∧ TypesOk p.1) (TypesSection.decode input) := by
  unfold TypesSection.decode
  refine spec_bind (consumeU8_spec _) fun p1 e1 => spec_bind (consumeU8_spec _) fun p2 e2 =>
    spec_bind (consumeU16_spec _) fun p3 e3 => spec_bind (validate_spec _) fun _ hok => spec_pure fun hb => ⟨?_, hok⟩
  obtain ⟨e1, hb, _⟩ := e1 hb
  obtain ⟨e2, hb, _⟩ := e2 hb
  rw [e1, e2, (e3 hb).1]
  rfl

theorem typesEncode_length (t : TypesSection) : t.encode.length = 4 := rfl

theorem decodeTypes_spec : ∀ (n : Nat) (input : List Nat) (acc : List TypesSection),
    Spec (fun ts => IsBytes input → ∃ new, ts = acc.reverse ++ new ∧ new.length = n ∧
      (new.map TypesSection.encode).flatten = input.take (4 * n) ∧ 4 * n ≤ input.length ∧
      ∀ t ∈ new, TypesOk t) (decodeTypes n input acc)
  | 0, input, acc => spec_ok fun _ => ⟨[], by simp⟩
  | n + 1, input, acc => by
    simp only [decodeTypes]
    refine spec_bind (typesDecode_spec input) fun p hp => ?_
    refine (decodeTypes_spec n p.2 (p.1 :: acc)).mono fun ts hts hb => ?_
    obtain ⟨hin, hok⟩ := hp hb
    obtain ⟨new, e1, e2, e3, e4, e5⟩ := hts (by rw [hin] at hb; exact (isBytes_append.1 hb).2)
    refine ⟨p.1 :: new, by simp [e1], by simp [e2], ?_, ?_, ?_⟩
    · rw [hin, List.map_cons, List.flatten_cons, e3]
      rw [show 4 * (n + 1) = p.1.encode.length + 4 * n by rw [typesEncode_length]; omega,
        List.take_length_add_append]
    · rw [hin, List.length_append, typesEncode_length]; omega
    · intro x hx
      rcases List.mem_cons.1 hx with rfl | hx
      · exact hok
      · exact e5 x hx

theorem readSizes_spec : ∀ (n : Nat) (input acc : List Nat) (sum : Nat), n * 2 ≤ input.length →
    Spec (fun p => IsBytes input → ∃ new, p.1 = acc.reverse ++ new ∧ new.length = n ∧
      (new.map be16).flatten = input.take (n * 2) ∧ p.2 = sum + new.sum ∧
      (∀ x ∈ new, 0 < x ∧ x < 65536)) (readSizes n input acc sum)
  | 0, input, acc, sum, _ => spec_ok fun _ => ⟨[], by simp⟩
  | n + 1, [], _, _, h => by simp at h
  | n + 1, [a], _, _, h => by simp at h; omega
  | n + 1, a :: b :: rest, acc, sum, h => by
    simp only [readSizes]
    refine spec_guard fun hz => ?_
    refine (readSizes_spec n rest _ _ (by simp at h; omega)).mono fun p hp hb => ?_
    simp only [isBytes_cons] at hb
    obtain ⟨new, e1, e2, e3, e4, e5⟩ := hp hb.2.2
    refine ⟨(a * 256 + b) :: new, by simp [e1], by simp [e2], ?_, ?_, ?_⟩
    · rw [List.map_cons, List.flatten_cons, e3, be16_join a b hb.1 hb.2.1,
        show (n + 1) * 2 = n * 2 + 2 by omega]
      simp [List.take_succ_cons]
    · simp [e4]; omega
    · intro x hx
      rcases List.mem_cons.1 hx with rfl | hx
      · omega
      · exact e5 x hx

/-- sizes as produced by `consume_header_section_size` -/
def SizesOk (sizes : List Nat) (sum : Nat) : Prop :=
  0 < sizes.length ∧ sizes.length < 65536 ∧ sum = sizes.sum ∧ ∀ x ∈ sizes, 0 < x ∧ x < 65536

theorem consumeSizes_spec (input : List Nat) :
    Spec (Reads (fun q : List Nat × Nat => be16 q.1.length ++ (q.1.map be16).flatten) (fun q => SizesOk q.1 q.2) input)
      (consumeHeaderSectionSize input) := by
  unfold consumeHeaderSectionSize
  refine spec_bind (consumeU16_spec _) fun p1 e1 => spec_guard fun hnz => spec_guard fun hlen => ?_
  refine spec_bind (readSizes_spec _ _ _ _ (by omega)) fun p2 hp2 => ?_
  obtain ⟨sz, sm⟩ := p2
  dsimp only at hp2 ⊢
  rw [if_pos (by omega)]
  refine spec_pure fun hb => ?_
  obtain ⟨e1, hb1, hlt⟩ := e1 hb
  obtain ⟨new, e2, e3, e4, e5, e6⟩ := hp2 hb1
  simp only [List.reverse_nil, List.nil_append] at e2
  subst e2
  have hs : SizesOk sz sm := ⟨by omega, by omega, by omega, e6⟩
  refine ⟨?_, isBytes_drop hb1 _, hs⟩
  show input = be16 sz.length ++ (sz.map be16).flatten ++ p1.1.drop (p1.2 * 2)
  rw [e4, e3, List.append_assoc, List.take_append_drop]
  exact e1

/-- the invariants of a header produced by `EofHeader::decode` -/
structure HeaderWf (h : Header) : Prop where
  types_lt : h.typesSize < 65536
  types_mod : h.typesSize % 4 = 0
  code_count : h.codeSizes.length = h.typesSize / 4
  code_pos : 0 < h.codeSizes.length
  code_le : h.codeSizes.length ≤ 1024
  cont_le : h.containerSizes.length ≤ 256
  code_sizes : ∀ x ∈ h.codeSizes, 0 < x ∧ x < 65536
  cont_sizes : ∀ x ∈ h.containerSizes, 0 < x ∧ x < 65536
  sum_code : h.sumCodeSizes = h.codeSizes.sum
  sum_cont : h.sumContainerSizes = h.containerSizes.sum
  data_lt : h.dataSize < 65536

theorem decodeTail_spec (h0 : Header) (input : List Nat) :
    Spec (fun p => IsBytes input → input = be16 p.1.dataSize ++ [KIND_TERMINAL] ++ p.2 ∧
      p.1 = { h0 with dataSize := p.1.dataSize } ∧ p.1.dataSize < 65536) (Header.decodeTail h0 input) := by
  unfold Header.decodeTail
  refine spec_bind (consumeU16_spec _) fun p1 e1 => spec_bind (consumeU8_spec _) fun p2 e2 =>
    spec_guard fun ht => spec_pure fun hb => ?_
  obtain ⟨e1, hb, hlt⟩ := e1 hb
  refine ⟨?_, rfl, hlt⟩
  rw [e1, (e2 hb).1, Decidable.not_not.1 ht]
  exact (List.append_assoc ..).symm

theorem headerDecode_spec (input : List Nat) :
    Spec (fun p => IsBytes input → input = p.1.encode ++ p.2 ∧ HeaderWf p.1) (Header.decode input) := by
  unfold Header.decode
  refine spec_bind (consumeU16_spec _) fun p1 e1 => spec_guard fun hmagic => ?_
  refine spec_bind (consumeU8_spec _) fun p2 e2 => spec_guard fun hver => ?_
  refine spec_bind (consumeU8_spec _) fun p3 e3 => spec_guard fun hkt => ?_
  refine spec_bind (consumeU16_spec _) fun p4 e4 => spec_guard fun hmod => ?_
  refine spec_bind (consumeU8_spec _) fun p5 e5 => spec_guard fun hkc => ?_
  refine spec_bind (consumeSizes_spec _) fun p6 e6 => ?_
  obtain ⟨r6, sizes, sum⟩ := p6
  dsimp only at e6 ⊢
  refine spec_guard fun hmany => spec_guard fun hempty => spec_guard fun hcount => ?_
  refine spec_bind (consumeU8_spec _) fun p7 e7 => ?_
  simp only [Decidable.not_not] at hmagic hver hkt hmod hkc hcount
  -- the reads up to the kind byte that follows the code sizes
  have front : IsBytes input → IsBytes p7.1 ∧ p4.2 < 65536 ∧ SizesOk sizes sum ∧
      input = be16 0xEF00 ++ [0x01] ++ [KIND_TYPES] ++ be16 p4.2 ++ [KIND_CODE] ++ be16 (sizes.length % 65536) ++
        (sizes.map be16).flatten ++ ([p7.2] ++ p7.1) := by
    intro hb
    obtain ⟨e1, hb, _⟩ := e1 hb
    obtain ⟨e2, hb, _⟩ := e2 hb
    obtain ⟨e3, hb, _⟩ := e3 hb
    obtain ⟨e4, hb, h4⟩ := e4 hb
    obtain ⟨e5, hb, _⟩ := e5 hb
    obtain ⟨e6, hb, h6⟩ := e6 hb
    obtain ⟨e7, hb, _⟩ := e7 hb
    refine ⟨hb, h4, h6, ?_⟩
    rw [e1, e2, e3, e4, e5, e6, e7, hmagic, hver, hkt, hkc, Nat.mod_eq_of_lt h6.2.1]
    simp only [List.append_assoc]
  split
  · -- container kind
    rename_i hk
    refine spec_bind (consumeSizes_spec _) fun p8 e8 => ?_
    obtain ⟨r8, csizes, csum⟩ := p8
    dsimp only at e8 ⊢
    refine spec_guard fun hcmany => spec_bind (consumeU8_spec _) fun p9 e9 => spec_guard fun hkd => ?_
    refine (decodeTail_spec _ _).mono fun p hp hb => ?_
    obtain ⟨hb, h4, hsz, hin⟩ := front hb
    obtain ⟨e8, hb, hcsz⟩ := e8 hb
    obtain ⟨e9, hb, _⟩ := e9 hb
    obtain ⟨et, ep, hds⟩ := hp hb
    have hne : csizes.isEmpty = false := by
      cases csizes with
      | nil => exact absurd hcsz.1 (Nat.lt_irrefl 0)
      | cons _ _ => rfl
    rw [ep]
    refine ⟨?_, h4, hmod, hcount, hsz.1, by simpa using hmany, by simpa using hcmany, hsz.2.2.2, hcsz.2.2.2,
      hsz.2.2.1, hcsz.2.2.1, hds⟩
    simp only [Header.encode, hne, Nat.mod_eq_of_lt hcsz.2.1]
    rw [hin, hk, e8, e9, Decidable.not_not.1 hkd, et]
    simp only [List.append_assoc, Bool.false_eq_true, if_false]
  · rename_i hk
    split
    · rename_i hk2
      refine (decodeTail_spec _ _).mono fun p hp hb => ?_
      obtain ⟨hb, h4, hsz, hin⟩ := front hb
      obtain ⟨et, ep, hds⟩ := hp hb
      rw [ep]
      refine ⟨?_, h4, hmod, hcount, hsz.1, by simpa using hmany, by simp, hsz.2.2.2, by simp, hsz.2.2.1, by simp, hds⟩
      simp only [Header.encode, List.isEmpty_nil, if_true]
      rw [hin, hk2, et]
      simp only [List.append_assoc]
    · exact spec_err

theorem headerDecode_ok {input rest : List Nat} {h : Header}
    (hd : Header.decode input = .ok (h, rest)) (hb : IsBytes input) :
    input = h.encode ++ rest ∧ HeaderWf h := (headerDecode_spec input).2 (h, rest) hd hb

theorem flatten_be16_length (l : List Nat) : (l.map be16).flatten.length = 2 * l.length := by
  induction l with
  | nil => rfl
  | cons a t ih => simp only [List.map_cons, List.flatten_cons, List.length_append, ih,
      be16_length, List.length_cons]; omega

theorem encode_length (h : Header) : h.encode.length = h.size := by
  unfold Header.encode Header.size
  by_cases he : h.containerSizes.isEmpty = true
  · simp only [he, if_true, List.length_append, be16_length, flatten_be16_length,
      List.length_cons, List.length_nil]
  · simp only [he, if_false, List.length_append, be16_length, flatten_be16_length,
      List.length_cons, List.length_nil, Bool.false_eq_true]; omega

theorem size_ge (h : Header) : 13 + 2 * h.codeSizes.length ≤ h.size := by
  unfold Header.size; split <;> omega

/-- `data_size_raw_i` points at the two bytes that hold `data_size` -/
theorem dataSizeRawI_spec (h : Header) :
    (h.encode.drop h.dataSizeRawI).take 2 = be16 h.dataSize := by
  have hl := encode_length h
  have hs := size_ge h
  unfold Header.dataSizeRawI
  unfold Header.encode at hl ⊢
  generalize hp : be16 0xEF00 ++ [0x01] ++ [KIND_TYPES] ++ be16 h.typesSize ++ [KIND_CODE] ++
    be16 (h.codeSizes.length % 65536) ++ (h.codeSizes.map be16).flatten ++
    (if h.containerSizes.isEmpty then [KIND_DATA]
     else [KIND_CONTAINER] ++ be16 (h.containerSizes.length % 65536) ++
          (h.containerSizes.map be16).flatten ++ [KIND_DATA]) = pre at hl ⊢
  simp only [List.length_append, be16_length, List.length_cons, List.length_nil] at hl
  have : h.size - 3 = pre.length := by omega
  rw [this, List.append_assoc, List.drop_left]
  simp [be16]

theorem sliceFrom_spec {input : List Nat} {a : Nat} (h : a ≤ input.length) :
    Spec (fun s => s = input.drop a) (sliceFrom input a) := by
  unfold sliceFrom
  rw [if_pos h]
  exact spec_ok rfl

theorem slice_spec {input : List Nat} {a b : Nat} (h1 : a ≤ b) (h2 : b ≤ input.length) :
    Spec (fun s => s = (input.drop a).take (b - a)) (slice input a b) := by
  unfold slice
  rw [if_pos ⟨h1, h2⟩]
  exact spec_ok rfl

theorem sliceSections_spec (input : List Nat) : ∀ (sizes : List Nat) (start : Nat)
    (acc : List (List Nat)), start + sizes.sum ≤ input.length →
    Spec (fun p => ∃ new, p.1 = acc.reverse ++ new ∧ new.map List.length = sizes ∧
      p.2 = start + sizes.sum ∧ new.flatten = (input.drop start).take sizes.sum)
      (sliceSections input sizes start acc)
  | [], start, acc, _ => spec_ok ⟨[], by simp⟩
  | size :: sizes, start, acc, h => by
    simp only [sliceSections]
    simp only [List.sum_cons] at h
    refine spec_bind (slice_spec (by omega) (by omega)) fun s hs1 => ?_
    refine (sliceSections_spec input sizes _ _ (by omega)).mono fun p hp => ?_
    obtain ⟨new, e1, e2, e3, e4⟩ := hp
    refine ⟨s :: new, by simp [e1], ?_, by simp [e3, Nat.add_assoc], ?_⟩
    · simp only [List.map_cons, e2, List.cons.injEq, and_true, hs1, List.length_take,
        List.length_drop]; omega
    · rw [List.flatten_cons, e4, hs1, List.sum_cons, List.take_add, List.drop_drop]
      congr 2
      omega

theorem split5 (l : List Nat) (a b c d : Nat) :
    l = l.take a ++ ((l.drop a).take b ++ ((l.drop (a + b)).take c ++
      ((l.drop (a + b + c)).take d ++ l.drop (a + b + c + d)))) := by
  have h1 : l.drop (a + b) = (l.drop a).drop b := by rw [List.drop_drop]
  have h2 : l.drop (a + b + c) = (l.drop (a + b)).drop c := by rw [List.drop_drop]
  have h3 : l.drop (a + b + c + d) = (l.drop (a + b + c)).drop d := by rw [List.drop_drop]
  rw [h3, List.take_append_drop, h2, List.take_append_drop, h1, List.take_append_drop,
    List.take_append_drop]

structure BodyWf (h : Header) (b : Body) : Prop where
  types_len : b.typesSection.length = h.codeSizes.length
  types_ok : ∀ t ∈ b.typesSection, TypesOk t
  code_len : b.codeSection.map List.length = h.codeSizes
  cont_len : b.containerSection.map List.length = h.containerSizes
  data_le : b.dataSection.length ≤ h.dataSize
  filled : b.isDataFilled = (b.dataSection.length == h.dataSize)

theorem bodyDecode_spec {input : List Nat} {h : Header} (hw : HeaderWf h) :
    Spec (fun b => IsBytes input → input = input.take h.size ++ b.encode ∧ BodyWf h b ∧
      input.length = h.size + h.typesSize + h.sumCodeSizes + h.sumContainerSizes + b.dataSection.length)
      (Body.decode input h) := by
  unfold Body.decode
  dsimp only
  refine spec_guard fun hlo => spec_guard fun hhi => ?_
  have hsc := hw.sum_code
  have hsk := hw.sum_cont
  have hT : 4 * h.typesCount = h.typesSize := by
    have := hw.types_mod; unfold Header.typesCount; omega
  refine spec_bind (sliceFrom_spec (by omega)) fun ti hti => ?_
  refine spec_bind (decodeTypes_spec _ _ _) fun types htypes => ?_
  refine spec_bind (sliceSections_spec _ _ _ _ (by omega)) fun p1 hp1 => ?_
  obtain ⟨cnew, c1, c2, c3, c4⟩ := hp1
  simp only [List.reverse_nil, List.nil_append] at c1
  refine spec_bind (sliceSections_spec _ _ _ _ (by omega)) fun p2 hp2 => ?_
  obtain ⟨knew, k1, k2, k3, k4⟩ := hp2
  simp only [List.reverse_nil, List.nil_append] at k1
  refine spec_bind (sliceFrom_spec (by omega)) fun data hdata => spec_pure fun hb => ?_
  obtain ⟨tnew, t1, t2, t3, t4, t5⟩ := htypes (by rw [hti]; exact isBytes_drop hb _)
  simp only [List.reverse_nil, List.nil_append] at t1
  have hdl : data.length = input.length - p2.2 := by rw [hdata, List.length_drop]
  refine ⟨?_, ⟨?_, ?_, ?_, ?_, ?_, rfl⟩, ?_⟩
  · simp only [Body.encode]
    rw [t1, c1, k1, t3, c4, k4, hdata, hti, hT, k3, c3, ← hsc, ← hsk, List.append_assoc, List.append_assoc]
    exact split5 input h.size h.typesSize h.sumCodeSizes h.sumContainerSizes
  · show types.length = _
    rw [t1, t2, hw.code_count]; rfl
  · show ∀ t ∈ types, TypesOk t
    rw [t1]; exact t5
  · show p1.1.map List.length = _
    rw [c1]; exact c2
  · show p2.1.map List.length = _
    rw [k1]; exact k2
  · show data.length ≤ _
    omega
  · show _ = _ + data.length
    omega

theorem take_encode {h : Header} {rest : List Nat} : (h.encode ++ rest).take h.size = h.encode := by
  rw [← encode_length h, List.take_left]

theorem decode_spec {bs : List Nat} (hb : IsBytes bs) :
    Spec (fun e => e.encodeSlow = bs ∧ e.raw = bs ∧ HeaderWf e.header ∧ BodyWf e.header e.body ∧
      bs.length = e.header.size + e.header.typesSize + e.header.sumCodeSizes +
        e.header.sumContainerSizes + e.body.dataSection.length) (Eof.decode bs) := by
  unfold Eof.decode
  refine spec_bind (headerDecode_spec bs) fun p hp => ?_
  obtain ⟨hin, hw⟩ := hp hb
  refine spec_bind (bodyDecode_spec hw) fun b hbody => spec_pure ?_
  obtain ⟨e1, e2, e3⟩ := hbody hb
  refine ⟨?_, rfl, hw, e2, e3⟩
  simp only [Eof.encodeSlow]
  have : bs.take p.1.size = p.1.encode := by rw [hin]; exact take_encode
  rw [← this]; exact e1.symm

theorem decode_ok {bs : List Nat} {e : Eof} (hd : Eof.decode bs = .ok e) (hb : IsBytes bs) :
    e.encodeSlow = bs ∧ e.raw = bs ∧ HeaderWf e.header ∧ BodyWf e.header e.body ∧
      bs.length = e.header.size + e.header.typesSize + e.header.sumCodeSizes +
        e.header.sumContainerSizes + e.body.dataSection.length := (decode_spec hb).2 e hd

theorem decoded_isBytes {bs : List Nat} {e : Eof} (hd : Eof.decode bs = .ok e) (hb : IsBytes bs) :
    (∀ s ∈ e.body.codeSection, IsBytes s) ∧ ∀ c ∈ e.body.containerSection, IsBytes c := by
  have hb' : IsBytes e.encodeSlow := by rw [(decode_ok hd hb).1]; exact hb
  unfold Eof.encodeSlow Body.encode at hb'
  simp only [isBytes_append] at hb'
  exact ⟨fun s hs b hm => hb'.2.1.1.2 b (List.mem_flatten.2 ⟨s, hs, hm⟩),
    fun c hc b hm => hb'.2.1.2 b (List.mem_flatten.2 ⟨c, hc, hm⟩)⟩

theorem decodeDangling_spec {bs : List Nat} (hb : IsBytes bs) :
    Spec (fun p => p.1.encodeSlow ++ p.2 = bs ∧ p.1.raw = p.1.encodeSlow ∧ p.1.body.isDataFilled = true ∧
      HeaderWf p.1.header ∧ BodyWf p.1.header p.1.body) (Eof.decodeDangling bs) := by
  unfold Eof.decodeDangling
  refine spec_bind (headerDecode_spec bs) fun p hp => ?_
  obtain ⟨h, rest⟩ := p
  obtain ⟨hin, hw⟩ := hp hb
  dsimp only at hin hw ⊢
  refine spec_guard fun hsz => ?_
  rw [if_pos (by omega)]
  refine spec_bind (bodyDecode_spec hw) fun b hbody => spec_pure ?_
  obtain ⟨e1, e2, e3⟩ := hbody (isBytes_take hb _)
  have htk : (bs.take (h.bodySize + h.size)).take h.size = h.encode := by
    rw [List.take_take, Nat.min_eq_left (by omega), hin]; exact take_encode
  have henc : h.encode ++ b.encode = bs.take (h.bodySize + h.size) := by
    rw [← htk]; exact e1.symm
  refine ⟨?_, ?_, ?_, hw, e2⟩
  · simp only [Eof.encodeSlow, henc, List.take_append_drop]
  · simp only [Eof.encodeSlow, henc]
  · rw [e2.filled]
    simp only [List.length_take] at e3
    simp only [beq_iff_eq]
    rw [Nat.min_eq_left (by omega)] at e3
    unfold Header.bodySize at e3
    omega

theorem sum_le_of_lt {l : List Nat} {b : Nat} (h : ∀ x ∈ l, 0 < x ∧ x < b) :
    l.sum ≤ l.length * b := by
  induction l with
  | nil => simp
  | cons a t ih =>
    have ha := (h a (List.mem_cons_self ..)).2
    have := ih (fun x hx => h x (List.mem_cons_of_mem _ hx))
    simp only [List.sum_cons, List.length_cons, Nat.add_mul]
    omega

theorem eofSize_lt {h : Header} (hw : HeaderWf h) : h.eofSize < 2 ^ 32 := by
  have h4 := hw.code_le
  have h5 := hw.cont_le
  have h6 := hw.types_lt
  have h7 := hw.data_lt
  have hs1 := sum_le_of_lt hw.code_sizes
  have hs2 := sum_le_of_lt hw.cont_sizes
  have hsc := hw.sum_code
  have hsk := hw.sum_cont
  have hsz : h.size ≤ 13 + 2 * h.codeSizes.length + 3 + 2 * h.containerSizes.length := by
    unfold Header.size; split <;> omega
  unfold Header.eofSize Header.bodySize
  omega

end Revm.Proofs.Eof
