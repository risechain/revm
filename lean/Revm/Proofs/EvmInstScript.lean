import Revm.Proofs.EvmInstTraceRun
import Revm.Proofs.EvmLinkFrameStages
import Revm.Proofs.InspectorHooks
/-! C29 instance: the trace of a concrete run that returns is a complete, well-nested frame history (`WfTrace`,
`runLoopTr_wf`), and on the script of such a trace the handler-register machine `Model.InspectorHooks.runTurns` runs
through the WHOLE script and ends `finished` (`runTurns_of_wf`). So every completed `Evm.transact` is a behaviour of the
abstract machine: `transactTr_completed`, `completed_finished`, `completed_insns`, which `EvmInstRun` feeds to C29 / C30. -/
namespace Revm.Proofs.EvmInstHooks
open Revm Revm.Model Revm.Model.Evm
open Revm.Model.InspectorHooks (Insn Spawn Turn Kind Ev Stacks St Status HandlerRes)
open Revm.Proofs.EvmLink (deliver_ok)
open Revm.Proofs.Evm (Move Moves)

/-- the kind of a concrete frame is the kind of the request that made it: the `*_end` callback the real handler chooses by
the kind of the FRAME that returned is the one `InspectorHooks.turn` chooses by the kind it remembered from the request -/
theorem makeFrame_kind {κ : Type} {C : CpOps κ} {cfg : Cfg} {w w' : World} {a : Interp.Action} {mem}
    {f : Frame κ} (h : makeFrame C cfg w a mem = .ok (.frame f, w')) : kindOfFrame f.kind = kindOfAct a := by
  rcases Revm.Proofs.EvmLink.makeFrame_cases h with ⟨i, rfl, hm⟩ | ⟨i, rfl, hm⟩
  · obtain ⟨_, hf⟩ := Revm.Proofs.EvmLink.makeCallFrame_frame hm; rw [hf]; rfl
  · obtain ⟨_, hf⟩ := Revm.Proofs.EvmLink.makeCreateFrame_frame hm; rw [hf]; rfl

theorem prepare_kind {κ : Type} {C : CpOps κ} {e : Env} {spec initialGas : Nat} {w w' : World} {f : Frame κ}
    {isCreate : Bool} {refund : Nat}
    (h : prepare C e spec initialGas w = .ok (.frame f, w', isCreate, refund)) :
    kindOfFrame f.kind = if e.tx.to.isSome then .call else .create := by
  obtain ⟨_, _, _, _, hm, _⟩ := Revm.Proofs.EvmFrame.prepare_ok h
  rw [makeFrame_kind hm]
  unfold Revm.Proofs.EvmFrame.firstAction
  cases e.tx.to <;> rfl

/-- with open frames of kinds `ks` (innermost first, non-empty) the events are a complete, well-nested frame history: a
request answered with a frame opens one of the request's kind, one answered with a result opens none, a return closes
the innermost frame, and the history ends exactly with the return that closes the last one -/
inductive WfTrace : List Kind → List LEv → Prop
  | insn {k : Kind} {ks : List Kind} {l : List LEv} (x : Insn) (g : Truth) :
      WfTrace (k :: ks) l → WfTrace (k :: ks) (.insn x g :: l)
  | frame {k : Kind} {ks : List Kind} {l : List LEv} (k' : Kind) (i : Nat) :
      WfTrace (k' :: k :: ks) l → WfTrace (k :: ks) (.next (.spawn ⟨k', i, none, .frame⟩ false) :: l)
  | result {k : Kind} {ks : List Kind} {l : List LEv} (k' : Kind) (i o : Nat) :
      WfTrace (k :: ks) l → WfTrace (k :: ks) (.next (.spawn ⟨k', i, none, .result o⟩ false) :: l)
  | ret {k k' : Kind} {ks : List Kind} {l : List LEv} (o : Nat) :
      WfTrace (k' :: ks) l → WfTrace (k :: k' :: ks) (.next (.ret (some o) false) :: l)
  | last (k : Kind) (o : Nat) : WfTrace [k] [.next (.ret (some o) false)]

/-- the kinds of the frames of a concrete call stack, innermost first -/
def kindsOf {κ : Type} (st : List (Frame κ)) : List Kind := st.map fun f => kindOfFrame f.kind

/-- the KINDS of the open frames after an iteration, not their number; `none`: the first frame returned. `kindsOfNext`
except at `.done`. -/
def depthOf {κ : Type} : Evm.Next κ → Option (List Kind)
  | .run st _ => some (kindsOf st)
  | .ended top rest _ _ _ _ => some (kindsOf (top :: rest))
  | .done _ _ => none

/-- `l` is a complete history for what is left open after an iteration -/
def Rest {κ : Type} (nx : Evm.Next κ) (l : List LEv) : Prop :=
  match depthOf nx with
  | some d => WfTrace d l
  | none => l = []

theorem deliver_depth {κ : Type} {kind : FrameKind} {o : Interp.ChildResult} {parent : Frame κ}
    {rest : List (Frame κ)} {mem : Memory.SharedMemory} {w : World} {nx : Evm.Next κ}
    (h : Evm.deliver kind o parent rest mem w = .ok nx) : depthOf nx = some (kindsOf (parent :: rest)) := by
  rcases deliver_ok h with ⟨s, _, rfl⟩ | ⟨r, out, s, _, rfl⟩ <;> rfl

theorem ended_wf {κ : Type} {C : CpOps κ} {cfg : Cfg} {top : Frame κ} {rest : List (Frame κ)}
    {r : Interp.IResult} {out : List Nat} {s : Interp.IState} {w : World} {nx : Evm.Next κ}
    (h : Move C cfg true (.ended top rest r out s w) nx) {l : List LEv} (hl : Rest nx l) :
    WfTrace (kindsOf (top :: rest)) (retEv :: l) := by
  cases h with
  | done =>
    cases (show l = [] from hl)
    exact .last _ _
  | ret _ _ hdl =>
    simp only [Rest, deliver_depth hdl] at hl
    exact .ret _ hl

/-- the kinds of the open frames before an iteration (`.done` has none and makes no iteration) -/
def kindsOfNext {κ : Type} : Evm.Next κ → List Kind
  | .run st _ => kindsOf st
  | .ended top rest _ _ _ _ => kindsOf (top :: rest)
  | .done _ _ => []

/-- the events of an iteration, followed by a complete history of what it leaves open -/
theorem moves_wf {κ : Type} {C : CpOps κ} {cfg : Cfg} {n nx : Evm.Next κ} (h : Moves C cfg n nx)
    {l : List LEv} (hl : Rest nx l) : WfTrace (kindsOfNext n) (turnEvs C cfg n ++ l) := by
  cases h with
  | one h1 =>
    cases h1 with
    | next hr =>
      simp only [turnEvs, iterEvs_resolved hr, stepEvs_next]
      exact .insn _ _ hl
    | push hr hmk =>
      simp only [turnEvs, iterEvs_resolved hr, stepEvs_frame hmk]
      refine .insn _ _ (.frame _ _ ?_)
      rw [← makeFrame_kind hmk]
      exact hl
    | early hr hmk hdl =>
      simp only [turnEvs, iterEvs_resolved hr, stepEvs_result hmk]
      simp only [Rest, deliver_depth hdl] at hl
      exact .insn _ _ (.result _ _ _ hl)
    | done hm hret => exact ended_wf (.done hm hret) hl
    | ret hm hret hdl => exact ended_wf (.ret hm hret hdl) hl
  | two hr h2 =>
    simp only [turnEvs, iterEvs_resolved hr, stepEvs_halt]
    exact .insn _ _ (ended_wf h2 hl)

theorem Run.wf {κ : Type} {C : CpOps κ} {cfg : Cfg} {n : Evm.Next κ} {evs : List LEv}
    {x : Interp.ChildResult × World} (t : Run C cfg n evs x) : Rest n evs := by
  induction t with
  | done r w => rfl
  | @iter n n' l x h _ ih =>
    have := moves_wf h ih
    cases n with
    | run st w => exact this
    | ended => exact this
    | done r w => cases h with | one h1 => cases h1

theorem runLoopTr_wf {κ : Type} (C : CpOps κ) (cfg : Cfg) (fuel : Nat) (stack : List (Frame κ)) (w : World)
    (x : Interp.ChildResult × World) (h : (runLoopTr C cfg fuel stack w).1 = .ok x) :
    WfTrace (kindsOf stack) (runLoopTr C cfg fuel stack w).2 := (contTr_run fuel (.run stack w) x h).wf


/-! ## the machine on the script -/

open Revm.Model.InspectorHooks (Insn Spawn Turn Kind Ev Stacks St runTurns usedTurns runTx usedTx turn)
open Revm.Spec.InspectorHooks (stacksOf turnInsns)


/-- the machine's `call_stack` kinds are `ks` and its three input stacks hold the inputs of those open notifications above
arbitrary leftovers `b` (the invariant of `runTurns_of_wf`; not `EvmInstLoaded.Inv`) -/
def Inv (b : Stacks) (ks : List Kind) (st : St) : Prop :=
  ∃ opened : List (Kind × Nat), opened.map Prod.fst = ks ∧ st.frames = ks ∧ st.stk = stacksOf opened b

theorem turn_frame (st : St) (ins : List Insn) (k : Kind) (n : Nat) :
    ∃ word, turn st { ins := ins, next := .spawn ⟨k, n, none, .frame⟩ false } =
      (.running, { frames := k :: st.frames, stk := st.stk.push k n, word := word }) := ⟨_, rfl⟩

theorem turn_result (st : St) (ins : List Insn) (k : Kind) (n o : Nat) (hne : st.frames ≠ []) :
    ∃ word, turn st { ins := ins, next := .spawn ⟨k, n, none, .result o⟩ false } =
      (.running, { frames := st.frames, stk := st.stk, word := word }) := by
  obtain ⟨frames, stk, word⟩ := st
  cases frames with
  | nil => exact absurd rfl hne
  | cons f fs =>
    simp only [turn, InspectorHooks.spawn, InspectorHooks.deliver, Revm.Proofs.InspectorHooks.pop_push]
    exact ⟨_, rfl⟩

theorem turn_ret (st : St) (ins : List Insn) (k : Kind) (fs : List Kind) (i o : Nat) (stk : Stacks)
    (hf : st.frames = k :: fs) (hs : st.stk = stk.push k i) :
    ∃ word, turn st { ins := ins, next := .ret (some o) false } =
      (match fs with
        | [] => .finished
        | _ :: _ => .running, { frames := fs, stk := stk, word := word }) := by
  obtain ⟨frames, stk0, word⟩ := st
  simp only at hf hs
  subst hf hs
  cases fs with
  | nil =>
    simp only [turn, InspectorHooks.deliver, Revm.Proofs.InspectorHooks.pop_push]
    exact ⟨_, rfl⟩
  | cons f fs' =>
    simp only [turn, InspectorHooks.deliver, Revm.Proofs.InspectorHooks.pop_push]
    exact ⟨_, rfl⟩

-- the equations of `group` (`EvmInstTrace`); none for `.fatal`, which no concrete trace holds
theorem group_insn (n : Nat) (acc : List Insn) (x : Insn) (g : Truth) (l : List LEv) :
    group n acc (.insn x g :: l) = group n (acc ++ [x]) l := by rw [group]
theorem group_spawn (n : Nat) (acc : List Insn) (s : Spawn) (ie : Bool) (l : List LEv) :
    group n acc (.next (.spawn s ie) :: l) =
      { ins := acc, next := .spawn { s with i := n } ie } :: group (n + 1) [] l := by rw [group]
theorem group_ret (n : Nat) (acc : List Insn) (o : Option Nat) (ie : Bool) (l : List LEv) :
    group n acc (.next (.ret o ie) :: l) = { ins := acc, next := .ret o ie } :: group n [] l := by rw [group]
theorem group_nil (n : Nat) (acc : List Insn) : group n acc [] = [] := by rw [group]

theorem runTurns_of_wf (b : Stacks) {ks : List Kind} {evs : List LEv} (hwf : WfTrace ks evs) :
    ∀ (n : Nat) (acc : List Insn) (st : St), Inv b ks st →
      (runTurns st (group n acc evs)).1 = .finished ∧
      usedTurns st (group n acc evs) = (group n acc evs).length := by
  induction hwf with
  | insn x g _ ih =>
    intro n acc st hinv
    rw [group_insn]
    exact ih n _ st hinv
  | @frame k ks l k' i _ ih =>
    intro n acc st hinv
    rw [group_spawn]
    obtain ⟨word, ht⟩ := turn_frame st acc k' n
    obtain ⟨opened, hmap, hfr, hstk⟩ := hinv
    have hinv' : Inv b (k' :: k :: ks) { frames := k' :: st.frames, stk := st.stk.push k' n, word := word } :=
      ⟨(k', n) :: opened, by simp [hmap], by simp [hfr], by simp [hstk, stacksOf]⟩
    have := ih (n + 1) [] _ hinv'
    simp only [runTurns, usedTurns, ht, List.length_cons]
    exact ⟨this.1, by rw [this.2]⟩
  | @result k ks l k' i o _ ih =>
    intro n acc st hinv
    rw [group_spawn]
    obtain ⟨opened, hmap, hfr, hstk⟩ := hinv
    have hne : st.frames ≠ [] := by rw [hfr]; simp
    obtain ⟨word, ht⟩ := turn_result st acc k' n o hne
    have hinv' : Inv b (k :: ks) { frames := st.frames, stk := st.stk, word := word } := ⟨opened, hmap, hfr, hstk⟩
    have := ih (n + 1) [] _ hinv'
    simp only [runTurns, usedTurns, ht, List.length_cons]
    exact ⟨this.1, by rw [this.2]⟩
  | @ret k k' ks l o _ ih =>
    intro n acc st hinv
    rw [group_ret]
    obtain ⟨opened, hmap, hfr, hstk⟩ := hinv
    cases opened with
    | nil => simp at hmap
    | cons p rest =>
      obtain ⟨k0, i⟩ := p
      simp only [List.map_cons, List.cons.injEq] at hmap
      obtain ⟨rfl, hrest⟩ := hmap
      obtain ⟨word, ht⟩ := turn_ret st acc k0 (k' :: ks) i o (stacksOf rest b) hfr (by simp [hstk, stacksOf])
      have hinv' : Inv b (k' :: ks) { frames := k' :: ks, stk := stacksOf rest b, word := word } :=
        ⟨rest, hrest, rfl, rfl⟩
      have := ih n [] _ hinv'
      simp only [runTurns, usedTurns, ht, List.length_cons]
      exact ⟨this.1, by rw [this.2]⟩
  | last k o =>
    intro n acc st hinv
    rw [group_ret, group_nil]
    obtain ⟨opened, hmap, hfr, hstk⟩ := hinv
    cases opened with
    | nil => simp at hmap
    | cons p rest =>
      obtain ⟨k0, i⟩ := p
      simp only [List.map_cons, List.cons.injEq, List.map_eq_nil_iff] at hmap
      obtain ⟨rfl, rfl⟩ := hmap
      obtain ⟨word, ht⟩ := turn_ret st acc k0 [] i o b hfr (by simp [hstk, stacksOf])
      simp only [runTurns, usedTurns, ht, List.length_cons, List.length_nil]
      refine ⟨?_, ?_⟩ <;> first | trivial | rfl

/-- no turn of a concrete script has a `step` that stopped the interpreter (the inspector only observes) -/
theorem group_halt_none : ∀ (evs : List LEv) (n : Nat) (acc : List Insn), ∀ t ∈ group n acc evs, t.halt = none := by
  intro evs
  induction evs with
  | nil => intro n acc t ht; rw [group_nil] at ht; cases ht
  | cons ev l ih =>
    intro n acc t ht
    cases ev with
    | insn x g => rw [group_insn] at ht; exact ih _ _ t ht
    | next nx =>
      cases nx with
      | spawn s ie =>
        rw [group_spawn] at ht
        rcases List.mem_cons.1 ht with rfl | ht
        · rfl
        · exact ih _ _ t ht
      | ret o ie =>
        rw [group_ret] at ht
        rcases List.mem_cons.1 ht with rfl | ht
        · rfl
        · exact ih _ _ t ht
      | fatal =>
        rw [group] at ht
        rcases List.mem_cons.1 ht with rfl | ht
        · rfl
        · exact ih _ _ t ht

/-- the instructions of the script are the instructions of the trace, in order (a complete trace ends with a
`next`, so no instruction is left over) -/
theorem group_insns {ks : List Kind} {evs : List LEv} (hwf : WfTrace ks evs) :
    ∀ (n : Nat) (acc : List Insn), (group n acc evs).flatMap turnInsns = acc ++ insnsOf evs := by
  induction hwf with
  | insn x g _ ih =>
    intro n acc
    rw [group_insn, ih]
    simp [insnsOf]
  | frame k i _ ih => intro n acc; rw [group_spawn]; simp [ih, insnsOf, turnInsns]
  | result k i o _ ih => intro n acc; rw [group_spawn]; simp [ih, insnsOf, turnInsns]
  | ret o _ ih => intro n acc; rw [group_ret]; simp [ih, insnsOf, turnInsns]
  | last k o => intro n acc; rw [group_ret, group_nil]; simp [insnsOf, turnInsns]

/-- what a completed traced transaction gives: the first request and a complete trace for it -/
inductive Completed : Spawn → List LEv → Prop
  | frame (k : Kind) (evs : List LEv) : WfTrace [k] evs → Completed ⟨k, 0, none, .frame⟩ evs
  | result (k : Kind) : Completed ⟨k, 0, none, .result 0⟩ []

theorem transactWithTr_completed {κ : Type} (C : CpOps κ) (fuel : Nat) (w : World) (e : Env) (spec : Nat)
    (o : Outcome) (w' : World) (first : Spawn) (evs : List LEv)
    (h : transactWithTr C fuel w e spec = (.ok (o, w'), some (first, evs))) : Completed first evs := by
  obtain ⟨w1, ig, fg, fr, w2, isCreate, refund, hq, rfl, rfl, hval⟩ := transactWithTr_trace h
  cases fr with
  | result r => exact .result _
  | frame f =>
    cases hr : (runLoopTr C (e.toCfg (GasCalc.canon spec)) fuel [f] w2).1 with
    | error err => simp only [runFirstTr] at hval; rw [hr] at hval; cases hval
    | ok x =>
      have hwf := runLoopTr_wf C _ fuel [f] w2 x hr
      simp only [kindsOf, List.map_cons, List.map_nil, prepare_kind hq] at hwf
      exact .frame _ _ hwf

theorem transactTr_completed (fuel : Nat) (w : World) (e : Env) (spec : Nat)
    (o : Outcome) (w' : World) (first : Spawn) (evs : List LEv)
    (h : transactTr fuel w e spec = (.ok (o, w'), some (first, evs))) : Completed first evs :=
  transactWithTr_completed journalOps fuel w e spec o w' first evs h

/-- a completed concrete transaction is a finished behaviour of the handler-register machine, whatever the stacks hold
at its start -/
theorem completed_finished (b : Stacks) {first : Spawn} {evs : List LEv} (hc : Completed first evs) :
    (runTx b first (scriptOf evs)).1 = .finished ∧
    usedTx b first (scriptOf evs) = (scriptOf evs).length := by
  cases hc with
  | frame k evs hwf =>
    have hinv : Inv b [k] { frames := [k], stk := b.push k 0, word := ([] ++ [Ev.opn k 0]) ++ [Ev.initInterp] } :=
      ⟨[(k, 0)], rfl, rfl, rfl⟩
    have := runTurns_of_wf b hwf 1 [] _ hinv
    simp only [runTx, usedTx, InspectorHooks.spawn, scriptOf]
    exact this
  | result k =>
    simp only [runTx, usedTx, InspectorHooks.spawn, scriptOf, group_nil, InspectorHooks.deliver,
      Revm.Proofs.InspectorHooks.pop_push, List.length_nil]
    exact ⟨trivial, trivial⟩

theorem completed_insns {first : Spawn} {evs : List LEv} (hc : Completed first evs) :
    (scriptOf evs).flatMap turnInsns = insnsOf evs := by
  cases hc with
  | frame k evs hwf => simpa [scriptOf] using group_insns hwf 1 []
  | result k => simp [scriptOf, group_nil, insnsOf]

theorem steps_of_script : ∀ (ts : List Turn), (∀ t ∈ ts, t.halt = none) →
    ts.flatMap (fun t => t.ins.flatMap (fun _ => [Ev.step, Ev.stepEnd]) ++ t.halt.toList.map (fun _ => Ev.step)) =
      (ts.flatMap turnInsns).flatMap (fun _ => [Ev.step, Ev.stepEnd]) := by
  intro ts
  induction ts with
  | nil => intro _; rfl
  | cons t ts ih =>
    intro h
    have ht := h t List.mem_cons_self
    have := ih (fun t' ht' => h t' (List.mem_cons_of_mem _ ht'))
    rw [List.flatMap_cons, List.flatMap_cons, List.flatMap_append, this]
    simp [turnInsns, ht]

end Revm.Proofs.EvmInstHooks
