import Revm.Proofs.EvmInstInsn
import Revm.Proofs.EvmStep2State
/-! C30 instance: the concrete SELFDESTRUCT instruction refines `SelfdestructNotify.selfdestructInsn` (C30's instruction
model) under the abstraction `absI` (`sd_refines`), with the hypotheses listed there: the points where the two models do
not line up by construction. -/
namespace Revm.Proofs.EvmInstSd
open Revm Revm.Model Revm.Model.Evm Revm.Model.Interp
open Revm.Model.GasCalc (enabled)
open Revm.Spec.EvmRules (adv charge)
open Revm.Proofs.EvmStep Revm.Proofs.EvmStep2
open Revm.Proofs.EvmInstHooks
open Revm.Proofs.SelfdestructNotify


/-- the state after the EIP-3529 era refund, which `SelfdestructNotify` does not model -/
def refunded (resp : HostResp) (s1 : IState) : IState :=
  if !enabled s1.spec GasCalc.SpecId.LONDON && !resp.previouslyDestroyed then
    { s1 with gas := Gas.recordRefund s1.gas GasCalc.SELFDESTRUCT }
  else s1

theorem refunded_same (resp : HostResp) (s1 : IState) :
    (refunded resp s1).stack = s1.stack ∧ (refunded resp s1).gas.remaining = s1.gas.remaining ∧
    (refunded resp s1).isStatic = s1.isStatic ∧ (refunded resp s1).target = s1.target ∧
    (refunded resp s1).spec = s1.spec := by
  unfold refunded; split <;> exact ⟨rfl, rfl, rfl, rfl, rfl⟩

/-- `sdPost` in closed form (infallible host: `ok = true`) -/
theorem sdPost_done (resp : HostResp) (s1 : IState) (hok : resp.ok = true) (hg : s1.gas.remaining < U64) :
    (sdPost resp s1).toDone =
      if s1.gas.remaining < GasCalc.selfdestructCost s1.spec resp.hadValue resp.targetExists resp.isCold then
        .halt .OutOfGas [] (refunded resp s1)
      else .halt .SelfDestruct []
        (charge (refunded resp s1) (GasCalc.selfdestructCost s1.spec resp.hadValue resp.targetExists resp.isCold)) := by
  unfold sdPost
  rw [bind_ok _ _ _ _ _ (requireSome_ok resp s1 hok), bind_ok _ _ _ _ _ (getS_ok _)]
  generalize hc : GasCalc.selfdestructCost s1.spec resp.hadValue resp.targetExists resp.isCold = cost
  have key : ∀ s2 : IState, s2.gas.remaining = s1.gas.remaining →
      ((gasCharge cost >>= fun _ => (haltWith .SelfDestruct : M Unit)) s2).toDone =
        if s1.gas.remaining < cost then .halt .OutOfGas [] s2 else .halt .SelfDestruct [] (charge s2 cost) := by
    intro s2 h2
    by_cases hlt : s1.gas.remaining < cost
    · rw [bind_halt _ _ _ _ _ _ (gasCharge_fail s2 cost (by rw [h2]; exact hlt)), if_pos hlt]; rfl
    · rw [bind_ok _ _ _ _ _ (gasCharge_ok s2 cost (by rw [h2]; exact hg) (by rw [h2]; omega)), if_neg hlt]; rfl
  by_cases hr : (!enabled s1.spec GasCalc.SpecId.LONDON && !resp.previouslyDestroyed) = true
  · have hrf : refunded resp s1 = { s1 with gas := Gas.recordRefund s1.gas GasCalc.SELFDESTRUCT } := by
      unfold refunded; rw [if_pos hr]
    simp only [hr, if_true]
    have h24 : refund GasCalc.SELFDESTRUCT s1 = .ok () { s1 with gas := Gas.recordRefund s1.gas GasCalc.SELFDESTRUCT } :=
      rfl
    rw [bind_ok _ _ _ _ _ h24, hrf]
    exact key _ rfl
  · have hrf : refunded resp s1 = s1 := by unfold refunded; rw [if_neg hr]
    simp only [hr, if_false, Bool.false_eq_true]
    rw [hrf]
    exact key s1 rfl

/-- the two cost tables agree (`SelfdestructNotify.selfdestructCost` is a transcription of
`gas::selfdestruct_cost` of its own; same constants, same fork tests) -/
theorem selfdestructCost_agree (spec : Nat) (hv te c : Bool) :
    SelfdestructNotify.selfdestructCost spec hv te c = GasCalc.selfdestructCost spec hv te c := by
  unfold SelfdestructNotify.selfdestructCost GasCalc.selfdestructCost enabled
  simp only [Bool.and_eq_true, decide_eq_true_eq]
  rfl

/-- `InstructionResult` → the results `SelfdestructNotify` distinguishes -/
def iresOf : IResult → SelfdestructNotify.IRes
  | .Continue => .continue_
  | .SelfDestruct => .selfDestruct
  | .StateChangeDuringStaticCall => .stateChangeDuringStaticCall
  | .StackUnderflow => .stackUnderflow
  | .OutOfGas => .outOfGas
  | .FatalExternalError => .fatalExternalError
  | _ => .other 0

/-- the abstraction: `SelfdestructNotify.Interp` keeps the static flag, the stack (top first), of the meter only
`gas.remaining`, the target, and the result `r` the instruction ended with -/
def absI (s : IState) (r : SelfdestructNotify.IRes := .continue_) : SelfdestructNotify.Interp :=
  { isStatic := s.isStatic, stack := s.stack.reverse, gas := s.gas.remaining, contract := s.target, result := r }

def absAfter (s : IState) (rest : List Nat) (gas : Nat) (r : SelfdestructNotify.IRes) : SelfdestructNotify.Interp :=
  { isStatic := s.isStatic, stack := rest.reverse, gas := gas, contract := s.target, result := r }

theorem sd_refines_host {s s1 : IState} {w : World} {js' : Journal.JState} {rest : List Nat} {t0 : Nat}
    {resp : HostResp}
    (hstf : s.isStatic = false) (hst : s.stack = rest ++ [t0])
    (h1s : s1.stack = rest) (h1g : s1.gas = s.gas) (h1i : s1.isStatic = s.isStatic) (h1t : s1.target = s.target)
    (h1p : s1.spec = s.spec) (hspec : s.spec = w.js.spec) (hgas : s.gas.remaining < U64)
    (hj : Journal.selfdestruct w.db w.js s.target (addrOfWord t0) =
      some (js', resp.hadValue, resp.targetExists, resp.previouslyDestroyed, resp.isCold))
    (hok : resp.ok = true) :
    ∃ r out s', (sdPost resp s1).toDone = .halt r out s' ∧
      SelfdestructNotify.selfdestructInsn w.db false (absI s) w.js = some (absI s' (iresOf r), js') := by
  have hpost := sdPost_done resp s1 hok (by rw [h1g]; exact hgas)
  obtain ⟨hstk, hrem, hist, htg, _⟩ := refunded_same resp s1
  have htarget : t0 % SelfdestructNotify.ADDR = addrOfWord t0 := rfl
  have hcost : SelfdestructNotify.selfdestructCost w.js.spec resp.hadValue resp.targetExists resp.isCold =
      GasCalc.selfdestructCost s1.spec resp.hadValue resp.targetExists resp.isCold := by
    rw [selfdestructCost_agree, h1p, hspec]
  generalize GasCalc.selfdestructCost s1.spec resp.hadValue resp.targetExists resp.isCold = cost at hpost hcost
  have habs : SelfdestructNotify.selfdestructInsn w.db false (absI s) w.js =
      (if s.gas.remaining < cost then some (absAfter s rest s.gas.remaining .outOfGas, js')
       else some (absAfter s rest (s.gas.remaining - cost) .selfDestruct, js')) := by
    simp only [SelfdestructNotify.selfdestructInsn, absI, absAfter, hstf, hst, List.reverse_append, List.reverse_cons,
      List.reverse_nil, List.nil_append, List.cons_append, htarget, hj, hcost, Bool.false_eq_true, false_and,
      if_false]
  rw [hpost, habs, h1g]
  by_cases hlt : s.gas.remaining < cost
  · rw [if_pos hlt, if_pos hlt]
    refine ⟨_, _, _, rfl, ?_⟩
    simp only [absI, absAfter, iresOf, hstk, hrem, hist, htg, h1s, h1g, h1i, h1t]
  · rw [if_neg hlt, if_neg hlt]
    refine ⟨_, _, _, rfl, ?_⟩
    have e1 : (charge (refunded resp s1) cost).stack = (refunded resp s1).stack := rfl
    have e2 : (charge (refunded resp s1) cost).gas.remaining = (refunded resp s1).gas.remaining - cost := rfl
    have e3 : (charge (refunded resp s1) cost).isStatic = (refunded resp s1).isStatic := rfl
    have e4 : (charge (refunded resp s1) cost).target = (refunded resp s1).target := rfl
    simp only [absI, absAfter, iresOf, e1, e2, e3, e4, hstk, hrem, hist, htg, h1s, h1g, h1i, h1t]

/-- every resolved concrete SELFDESTRUCT is a run of the abstract instruction on the abstracted state, over the same
database and journal, with the same journal afterwards, provided
(1) the interpreter's spec is the journal's spec (`SelfdestructNotify` prices with the JOURNAL's spec, the
    interpreter with its own `SPEC_ID`),
(2) `gas.remaining` is a `u64` (the abstract model subtracts in `Nat`, the concrete one wraps).
Both stay hypotheses: no lemma provides them along a `transact` run. Not related: the refund counter (`refunded`) and a
failing `Database` (`dbFails = true`), each of which only one side has. When `Journal.selfdestruct` is `none` (a Rust
panic) the concrete `answer` fails with `Err.panic`, so there is no resolved instruction. -/
theorem sd_refines {he : HostEnv} {s : IState} {w w' : World} {d : Done}
    (hcode : s.code[s.pc]? = some 0xff) (hr : Resolved he s w d w')
    (hspec : s.spec = w.js.spec) (hgas : s.gas.remaining < U64) :
    ∃ r out s', d = .halt r out s' ∧
      SelfdestructNotify.selfdestructInsn w.db false (absI s) w.js = some (absI s' (iresOf r), w'.js) := by
  rcases resolved_sd hcode hr with ⟨hst, rfl, rfl⟩ | ⟨hst, hnil, rfl, rfl⟩ | ⟨hstf, rest, t0, resp, hst, ha, rfl⟩
  · exact ⟨_, _, _, rfl, by simp [SelfdestructNotify.selfdestructInsn, absI, hst, adv, iresOf]⟩
  · exact ⟨_, _, _, rfl, by simp [SelfdestructNotify.selfdestructInsn, absI, hst, hnil, adv, iresOf]⟩
  · obtain ⟨hok, _, hj, _⟩ := Revm.Proofs.EvmLink.answer_inv ha
    exact sd_refines_host hstf hst rfl rfl rfl rfl rfl hspec hgas hj hok

end Revm.Proofs.EvmInstSd
