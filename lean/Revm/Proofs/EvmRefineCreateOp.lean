import Revm.Proofs.EvmRefineOps
/-! Congruence of `create_account_checkpoint` with respect to `JRel` (`create_rel`, result relation `CreateRes`): on a
collision / overflow the journal machine's internal revert gives back a state related to the one the creation started
from, which is what the specification restores. -/
namespace Revm.Proofs.EvmRefine
open Revm Revm.Model Revm.Model.Journal Revm.Spec.JournalAbs Revm.Proofs.Journal

/-- `checkpoint_revert` to a checkpoint that is exactly one level below the top -/
theorem revert_one {s : JState} {cp : Checkpoint} {l : List Entry} {rest : List (List Entry)}
    (hj : s.journal = l :: rest) (hcp : cp.journalI = rest.length) :
    revert s cp = (undoLevel (decide (s.spec ≥ SPURIOUS_DRAGON)) s l).map fun s' =>
      { s' with depth := decU64 s.depth, logs := s.logs.take cp.logI, journal := rest } := by
  unfold revert
  have hlen : s.journal.length = rest.length + 1 := by rw [hj]; simp
  have hlt : ¬ s.journal.length < cp.journalI := by omega
  simp only [hlt, if_false]
  have hn : s.journal.length - cp.journalI = 1 := by omega
  rw [hn, hj]
  simp only [List.take_succ_cons, List.take_zero, undoLevels, bind, Option.bind, List.drop_succ_cons, List.drop_zero]
  cases undoLevel (decide (s.spec ≥ SPURIOUS_DRAGON)) s l with
  | none => rfl
  | some s' => rfl

/-- the created mark on related accounts: slots never read count as zero now, which is what they were (the database
holds no storage for the address) -/
theorem arel_created {db : Db} {a : Addr} {x y : Acct} (h : ARel db a x y) (hx : x.created = false)
    (hz : ∀ k, db.storage a k = 0) :
    ARel db a { x with created := true, info := { x.info with code := none } }
      { y with created := true, info := { y.info with code := none } } := by
  obtain ⟨e1, e2, e3, e4, e5, e6, e7, e8, e9⟩ := h
  refine ⟨e1, e2, e3, rfl, e5, e6, e7, e8, ?_⟩
  have hy : y.created = false := by rw [← e4]; exact hx
  funext k
  have := congrFun e9 k
  simp only [slotsOf, hx, hy, hz, Bool.false_eq_true, if_false] at this
  simp only [slotsOf, if_true]
  exact this

/-- undoing `accountCreated` on an account that was not created and had nonce 0 gives it back -/
theorem acct_back {x : Acct} (hcr : x.created = false) (hn : x.info.nonce = 0) (t : Bool) :
    ({ x with created := false, touched := t, info := { x.info with code := none, nonce := 0 } } : Acct) =
      { x with touched := t, info := { x.info with code := none } } := by
  cases x with | mk info st cr sdd tt ne c => cases info with | mk bb n ch co => simp at hcr hn; simp [hcr, hn]

/-- undoing what the middle part of `create_account_checkpoint` journaled (created mark, touch) gives back the account it
started from, with the code cache emptied -/
theorem createMark_undo {jc j3 : JState} {x x3 : Acct} {a : Addr} {rest : List (List Entry)} {sd : Bool}
    (hj : jc.journal = [] :: rest) (hx : jc.state a = some x) (hcr : x.created = false) (hn : x.info.nonce = 0)
    (h3 : ¬ (sd = true ∧ a = PRECOMPILE3))
    (hl : (pushEntry (setAcct jc a { x with created := true }) (.accountCreated a) >>= fun s =>
      touchAccount (setAcct s a { x with created := true, info := { x.info with code := none } }) a
        { x with created := true, info := { x.info with code := none } }) = some (j3, x3)) :
    ∃ l j4, j3.journal = l :: rest ∧ undoLevel sd j3 l = some j4 ∧
      j4.state = (setAcct jc a { x with info := { x.info with code := none } }).state ∧
      j4.transient = jc.transient ∧ j4.spec = jc.spec ∧ j4.preloaded = jc.preloaded ∧
      j3.depth = jc.depth ∧ j3.logs = jc.logs ∧ j3.spec = jc.spec := by
  simp only [bind, Option.bind, pushEntry, setAcct, hj] at hl
  unfold touchAccount at hl
  -- journaled: `accountCreated`, and `accountTouched` on top of it when the account was not touched yet
  cases ht : x.touched with
  | true =>
    simp only [ht, Bool.not_true, Bool.false_eq_true, if_false, Option.some.injEq, Prod.mk.injEq] at hl
    obtain ⟨hl1, hl2⟩ := hl
    subst hl1
    refine ⟨[.accountCreated a], ?_⟩
    simp only [undoLevel, undoEntry, bind, Option.bind, if_true, true_and]
    refine ⟨_, rfl, ?_, rfl, rfl, rfl, trivial⟩
    funext b
    by_cases hb : b = a
    · subst hb
      simp only [setAcct, if_true, Option.some.injEq]
      exact acct_back hcr hn _
    · simp [setAcct, hb]
  | false =>
    simp only [ht, Bool.not_false, if_true, bind, Option.bind, pushEntry, setAcct, Option.some.injEq, Prod.mk.injEq] at hl
    obtain ⟨hl1, hl2⟩ := hl
    subst hl1
    refine ⟨[.accountTouched a, .accountCreated a], ?_⟩
    simp only [undoLevel, undoEntry, bind, Option.bind, h3, if_false, if_true, setAcct, true_and]
    refine ⟨_, rfl, ?_, rfl, rfl, rfl, trivial⟩
    funext b
    by_cases hb : b = a
    · subst hb
      simp only [if_true, Option.some.injEq]
      exact acct_back hcr hn _
    · simp [hb]

/-- the internal revert of `create_account_checkpoint` goes back exactly one level -/
theorem revert_back {j j3 j4 : JState} {l : List Entry} (h1 : j3.journal = l :: j.journal)
    (h2 : undoLevel (decide (j3.spec ≥ SPURIOUS_DRAGON)) j3 l = some j4) (hd : j3.depth = incU64 j.depth)
    (hlg : j3.logs = j.logs) :
    ∃ j', revert j3 (checkpoint j).2 = some j' ∧ j'.state = j4.state ∧ j'.transient = j4.transient ∧
      j'.spec = j4.spec ∧ j'.preloaded = j4.preloaded ∧ j'.depth = j.depth ∧ j'.logs = j.logs ∧
      j'.journal = j.journal := by
  rw [revert_one h1 (by simp [checkpoint]), h2]
  refine ⟨_, rfl, rfl, rfl, rfl, rfl, ?_, ?_, rfl⟩
  · show decU64 j3.depth = j.depth
    rw [hd, Proofs.Frame.dec_inc]
  · show j3.logs.take (checkpoint j).2.logI = j.logs
    rw [hlg]; simp [checkpoint]

/-- a state that differs from `j` in the journal and in the code cache of one account only is related to what `j` is
related to -/
theorem JRel.of_back {db : Db} {j s j' : JState} (h : JRel db j s) {a : Addr} {x : Acct}
    (hst : j'.state = j.state ∨ (j.state a = some x ∧ j'.state = (Journal.setAcct j a { x with info := { x.info with code := none } }).state))
    (htr : j'.transient = j.transient) (hsp : j'.spec = j.spec) (hpr : j'.preloaded = j.preloaded)
    (hd : j'.depth = j.depth) (hlg : j'.logs = j.logs) (hj : j'.journal = j.journal) : JRel db j' s := by
  refine ⟨?_, ?_, by rw [hlg]; exact h.logs, by rw [hd]; exact h.depth, by rw [hsp]; exact h.spec,
    by rw [hpr]; exact h.pre, by rw [hj]; exact h.jne, h.sne, ?_, h.cs⟩
  · intro b
    rcases hst with hst | ⟨hx, hst⟩
    · rw [hst]; exact h.ent b
    · rw [hst]
      by_cases hb : b = a
      · subst hb
        have := h.ent b
        rw [hx] at this
        simp only [Journal.setAcct, if_true]
        cases hs : s.state b with
        | none => rw [hs] at this; exact this.elim
        | some y => rw [hs] at this; exact this
      · simp only [Journal.setAcct, hb, if_false]; exact h.ent b
  · intro b k; simp only [tload, htr]; exact h.tr b k
  · intro b acc hacc
    rcases hst with hst | ⟨hx, hst⟩
    · rw [hst] at hacc; exact h.cj b acc hacc
    · rw [hst] at hacc
      by_cases hb : b = a
      · subst hb
        simp only [Journal.setAcct, if_true, Option.some.injEq] at hacc
        subst hacc
        intro c hc; simp at hc
      · simp only [Journal.setAcct, hb, if_false] at hacc; exact h.cj b acc hacc

theorem checkpoint_jrel {db : Db} {j s : JState} (h : JRel db j s) : JRel db (checkpoint j).1 (checkpoint s).1 := by
  refine ⟨h.ent, h.tr, h.logs, ?_, h.spec, h.pre, by simp [checkpoint], by simp [checkpoint], h.cj, h.cs⟩
  show incU64 j.depth = incU64 s.depth
  rw [h.depth]

/-- both machines succeed, with the checkpoint of `j` and related states, or both fail with the same error and the journal
machine is back at a state `j'` related to `s`, the state the creation started from on the specification's side -/
def CreateRes (db : Db) (j s j' s' : JState) : Except CreateErr Checkpoint → Except CreateErr Checkpoint → Prop
  | .ok cp, .ok _ => cp = (checkpoint j).2 ∧ JRel db j' s'
  | .error e, .error e' => e = e' ∧ JRel db j' s
  | _, _ => False

/-- `hcr` is `CreateTargetFresh` (as `CreateTargetFresh.created` gives it), `hz` what a faithful `has_storage = false` says -/
theorem create_rel {db : Db} {j s : JState} {caller a : Addr} {hs : Bool} {bal spec : Nat} (h : JRel db j s)
    (hcr : ∀ x, j.state a = some x →
      x.created = false ∨ (x.info.codeHash ≠ KECCAK_EMPTY ∨ x.info.nonce ≠ 0 ∨ hs = true))
    (hz : hs = false → ∀ k, db.storage a k = 0) (h3 : a ≠ PRECOMPILE3) :
    OSim (fun p q => CreateRes db j s p.1 q.1 p.2 q.2) (createAccountCheckpoint j caller a hs bal spec)
      (createAccountCheckpoint s caller a hs bal spec) := by
  unfold createAccountCheckpoint
  have hc := checkpoint_jrel h
  refine OSim.bind (hc.state a) ?_
  rintro x y ⟨ar, hx, hy⟩
  have hxj : j.state a = some x := hx
  have ⟨e1, e2, e3, e4, e5, e6, e7, e8, e9⟩ := ar
  rw [← e2, ← e3]
  by_cases hcol : x.info.codeHash ≠ KECCAK_EMPTY ∨ x.info.nonce ≠ 0 ∨ hs = true
  · rw [if_pos hcol, if_pos hcol]
    obtain ⟨jr, hjr, a1, a2, a3, a4, a5, a6, a7⟩ := revert_back (j := j) (j3 := (checkpoint j).1) (j4 := (checkpoint j).1)
      (l := []) rfl rfl rfl rfl
    obtain ⟨sr, hsr, _⟩ := revert_back (j := s) (j3 := (checkpoint s).1) (j4 := (checkpoint s).1)
      (l := []) rfl rfl rfl rfl
    show OSim _ (revert (checkpoint j).1 (checkpoint j).2 >>= _) (revert (checkpoint s).1 (checkpoint s).2 >>= _)
    rw [hjr, hsr]
    exact OSim.some ⟨rfl, h.of_back (a := a) (x := x) (.inl a1) a2 a3 a4 a5 a6 a7⟩
  · rw [if_neg hcol, if_neg hcol]
    have hcrx : x.created = false := (hcr x hxj).resolve_right hcol
    have hn : x.info.nonce = 0 := Classical.byContradiction fun h0 => hcol (.inr (.inl h0))
    have hhs : hs = false := by
      cases hs
      · rfl
      · exact absurd (Or.inr (Or.inr rfl)) hcol
    -- created mark (the slots never read count as zero from now on: `hz`), emptied code cache, touch
    have ar2 := arel_created ar hcrx (hz hhs)
    have ⟨c1, c2, c3, _, c5, c6, c7, c8, c9⟩ := ar2
    have r0 := hc.setAcct a { x with created := true } { y with created := true } ⟨c1, c2, c3, rfl, c5, c6, c7, c8, c9⟩
      (hc.cj a x hx) (hc.cs a y hy)
    refine OSim.bind (r0.push _).withEq ?_
    rintro j1 s1 ⟨⟨r1, hs1⟩, hp, hps⟩
    have r2 := r1.setAcct a { x with created := true, info := { x.info with code := none } }
      { y with created := true, info := { y.info with code := none } } ar2 (fun c hc => nomatch hc) (fun c hc => nomatch hc)
    refine OSim.bind (touchAccount_rel r2 (by simp [setAcct]) (by simp [setAcct])).withEq ?_
    rintro ⟨j3, x3⟩ ⟨s3, y3⟩ ⟨⟨r3, hx3, hy3, ar3⟩, ht, hts⟩
    simp only at r3 hx3 hy3 ar3 ⊢
    rw [← ar3.1]
    by_cases hov : x3.info.balance + bal ≥ W
    · -- both machines undo what they journaled and are back where the creation started
      rw [if_pos hov, if_pos hov]
      have hsd : ∀ (jj : JState), ¬ (decide (jj.spec ≥ SPURIOUS_DRAGON) = true ∧ a = PRECOMPILE3) := fun _ hh => h3 hh.2
      obtain ⟨l, j4, b1, b2, b3, b4, b5, b6, b7, b8, b9⟩ := createMark_undo (sd := decide (j3.spec ≥ SPURIOUS_DRAGON))
        (rest := j.journal) rfl hx hcrx hn (hsd j3) (by rw [hp]; exact ht)
      obtain ⟨jr, hjr, a1, a2, a3, a4, a5, a6, a7⟩ := revert_back (j := j) b1 b2 b7 b8
      obtain ⟨l', s4, c1, c2, c3, c4, c5, c6, c7, c8, c9⟩ := createMark_undo (sd := decide (s3.spec ≥ SPURIOUS_DRAGON))
        (rest := s.journal) rfl hy (by rw [← e4]; exact hcrx) (by rw [← e2]; exact hn) (hsd s3) (by rw [hps]; exact hts)
      obtain ⟨sr, hsr, _⟩ := revert_back (j := s) c1 c2 c7 c8
      show OSim _ (revert j3 (checkpoint j).2 >>= _) (revert s3 (checkpoint s).2 >>= _)
      rw [hjr, hsr]
      refine OSim.some ⟨rfl, h.of_back (a := a) (x := x) (.inr ⟨hxj, ?_⟩) (a2.trans b4) (a3.trans b5) (a4.trans b6) a5 a6 a7⟩
      rw [a1, b3]; rfl
    · -- endowment (nonce 1 from Spurious Dragon on), debit of the caller
      rw [if_neg hov, if_neg hov]
      obtain ⟨f1, f2, f3, f4, f5, f6, f7, f8, f9⟩ := ar3
      have r4 : ∀ (nx ny : Nat), nx = ny → JRel db
          (setAcct j3 a { x3 with info := { x3.info with balance := x3.info.balance + bal, nonce := nx } })
          (setAcct s3 a { y3 with info := { y3.info with balance := x3.info.balance + bal, nonce := ny } }) :=
        fun nx ny hxy => r3.setAcct a _ _ ⟨rfl, hxy, f3, f4, f5, f6, f7, f8, f9⟩ (r3.cj a x3 hx3) (r3.cs a y3 hy3)
      have tail : ∀ (j4 s4 : JState), JRel db j4 s4 →
          OSim (fun p q => CreateRes db j s p.1 q.1 p.2 q.2)
            (j4.state caller >>= fun c => pushEntry (setAcct j4 caller
              { c with info := { c.info with balance := bsub c.info.balance bal } }) (.balanceTransfer caller a bal) >>=
              fun s' => some (s', Except.ok (checkpoint j).2))
            (s4.state caller >>= fun c => pushEntry (setAcct s4 caller
              { c with info := { c.info with balance := bsub c.info.balance bal } }) (.balanceTransfer caller a bal) >>=
              fun s' => some (s', Except.ok (checkpoint s).2)) := by
        intro j4 s4 r4
        refine OSim.bind (r4.state caller) ?_
        rintro c c' ⟨arc, hc1, hc2⟩
        simp only
        rw [← arc.1]
        refine OSim.bind ((r4.setBal hc1 hc2 (bsub c.info.balance bal)).push _) ?_
        rintro j6 s6 ⟨r6, _⟩
        exact OSim.some ⟨rfl, r6⟩
      by_cases hsd : spec ≥ SPURIOUS_DRAGON
      · simp only [hsd, if_true]
        exact tail _ _ (r4 1 1 rfl)
      · simp only [hsd, if_false]
        exact tail _ _ (r4 _ _ f2)

theorem create_collision {j j' : JState} {caller a : Addr} {hs : Bool} {bal spec : Nat}
    {r : Except CreateErr Checkpoint} {x : Acct} (hx : j.state a = some x)
    (hcol : x.info.codeHash ≠ KECCAK_EMPTY ∨ x.info.nonce ≠ 0 ∨ hs = true)
    (hl : createAccountCheckpoint j caller a hs bal spec = some (j', r)) : r = .error .collision ∧ j' = j := by
  obtain ⟨jr, hjr, a1, a2, a3, a4, a5, a6, a7⟩ := revert_back (j := j) (j3 := (checkpoint j).1) (j4 := (checkpoint j).1)
    (l := []) rfl rfl rfl rfl
  obtain ⟨x', hx', hl⟩ := create_some hl
  cases hx'.symm.trans hx
  rw [if_pos hcol] at hl
  obtain ⟨hjr', rfl⟩ := hl
  cases hjr'.symm.trans hjr
  refine ⟨rfl, ?_⟩
  cases j' with | mk st tr lg dp jn sp pr =>
  cases j with | mk st' tr' lg' dp' jn' sp' pr' =>
  simp only at a1 a2 a3 a4 a5 a6 a7
  simp only [checkpoint] at a1 a2 a3 a4
  subst a1; subst a2; subst a3; subst a4; subst a5; subst a6; subst a7
  rfl
