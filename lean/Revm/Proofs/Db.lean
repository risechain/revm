import Revm.Spec.Db
/-! C20: a `CacheDB` query or update acts on the `&self` reading `CacheDB.view` as the plain operation of `Spec.Db`
(`cstep_sim`); then `State`'s read caches (`state_step`) and stacks of wrappers (`stack_query`). `Model.Db.StateDb`
models `State`'s read side separately from `Model.StateDb.State` / `Proofs.StateDb` (C15, C19). -/
namespace Revm.Proofs.Db
open Revm.Model.Db Revm.Spec.Db

theorem Data.ext' {v w : Data} (h1 : v.basic = w.basic) (h2 : v.storage = w.storage)
    (h3 : v.code = w.code) (h4 : v.blockHash = w.blockHash) : v = w := by
  cases v; cases w; simp_all

/-- what `storage_ref` answers from an occupied entry -/
def slotRead (b : Data) (a : Addr) (acc : DbAccount) (k : Slot) : Nat :=
  match acc.storage k with
  | some v => v
  | none => if acc.state.zeroUnknown then 0 else b.storage a k

theorem view_basic_some {b : Data} {c : CacheDB} {a : Addr} {acc : DbAccount} (h : c.accounts a = some acc) :
    (c.view b).basic a = acc.infoOpt := by
  simp only [CacheDB.view, CacheDB.basicRef, h]

theorem view_basic_none {b : Data} {c : CacheDB} {a : Addr} (h : c.accounts a = none) :
    (c.view b).basic a = b.basic a := by
  simp only [CacheDB.view, CacheDB.basicRef, h]

theorem view_storage_some {b : Data} {c : CacheDB} {a : Addr} {acc : DbAccount} (h : c.accounts a = some acc)
    (k : Slot) : (c.view b).storage a k = slotRead b a acc k := by
  simp only [CacheDB.view, CacheDB.storageRef, h]; rfl

theorem view_storage_none {b : Data} {c : CacheDB} {a : Addr} (h : c.accounts a = none) (k : Slot) :
    (c.view b).storage a k = b.storage a k := by
  simp only [CacheDB.view, CacheDB.storageRef, h]

theorem slotRead_upd (b : Data) (a : Addr) (acc : DbAccount) (k : Slot) (v : Nat) (k' : Slot) :
    slotRead b a { acc with storage := upd acc.storage k (some v) } k' =
      if k' = k then v else slotRead b a acc k' := by
  unfold slotRead upd
  by_cases hk : k' = k <;> simp only [hk, if_true, if_false]

/-- Writing the entry of `a` moves the view at `a` only; every query and update of an account entry is an instance. -/
theorem view_setAccount (b : Data) (c : CacheDB) (a : Addr) (acc : DbAccount) (w : Data)
    (hoff : ∀ x, x ≠ a → w.basic x = (c.view b).basic x ∧ w.storage x = (c.view b).storage x)
    (hinfo : w.basic a = acc.infoOpt) (hslot : ∀ k, w.storage a k = slotRead b a acc k)
    (hcode : w.code = (c.view b).code) (hbh : w.blockHash = (c.view b).blockHash) :
    CacheDB.view b { c with accounts := upd c.accounts a (some acc) } = w := by
  have hnew : upd c.accounts a (some acc) a = some acc := if_pos rfl
  apply Data.ext'
  · funext x
    by_cases hx : x = a
    · subst hx; rw [hinfo]; exact view_basic_some hnew
    · rw [(hoff x hx).1]; simp only [CacheDB.view, CacheDB.basicRef, upd, if_neg hx]
  · funext x k
    by_cases hx : x = a
    · subst hx; rw [hslot]; exact view_storage_some hnew k
    · rw [(hoff x hx).2]; simp only [CacheDB.view, CacheDB.storageRef, upd, if_neg hx]
  · exact hcode.symm
  · exact hbh.symm

theorem view_setAccount_same (b : Data) (c : CacheDB) (a : Addr) (acc : DbAccount)
    (hinfo : (c.view b).basic a = acc.infoOpt) (hslot : ∀ k, (c.view b).storage a k = slotRead b a acc k) :
    CacheDB.view b { c with accounts := upd c.accounts a (some acc) } = c.view b :=
  view_setAccount b c a acc _ (fun _ _ => ⟨rfl, rfl⟩) hinfo hslot rfl rfl

theorem ofOpt_infoOpt (oi : Option Info) : (DbAccount.ofOpt oi).infoOpt = oi := by
  cases oi <;> rfl

theorem ofOpt_slot (b : Data) (a : Addr) (h0 : b.basic a = none → ∀ k, b.storage a k = 0) (k : Slot) :
    slotRead b a (DbAccount.ofOpt (b.basic a)) k = b.storage a k := by
  cases h : b.basic a with
  | none => exact (h0 h k).symm
  | some i => rfl

theorem loadAccount_spec (b : Data) (c : CacheDB) (a : Addr)
    (h0 : c.accounts a = none → b.basic a = none → ∀ k, b.storage a k = 0) :
    (c.loadAccount b a).1.view b = c.view b ∧
    (c.loadAccount b a).1.accounts a = some (c.loadAccount b a).2 := by
  unfold CacheDB.loadAccount
  cases h : c.accounts a with
  | some acc => exact ⟨rfl, h⟩
  | none =>
    refine ⟨view_setAccount_same b c a _ ?_ fun k => ?_, if_pos rfl⟩
    · rw [view_basic_none h, ofOpt_infoOpt]
    · rw [view_storage_none h, ofOpt_slot b a (h0 h)]

theorem loadAccount_view (b : Data) (hb : Consistent b) (c : CacheDB) (a : Addr) :
    (c.loadAccount b a).1.view b = c.view b := (loadAccount_spec b c a fun _ => hb.absent_zero a).1

theorem basic_eq_load (b : Data) (c : CacheDB) (a : Addr) :
    c.basic b a = ((c.loadAccount b a).1, (c.loadAccount b a).2.infoOpt) := by
  unfold CacheDB.basic CacheDB.loadAccount
  cases c.accounts a <;> rfl

theorem basic_view (b : Data) (hb : Consistent b) (c : CacheDB) (a : Addr) :
    (c.basic b a).1.view b = c.view b := by
  rw [basic_eq_load]; exact loadAccount_view b hb c a

theorem storage_view (b : Data) (hb : Consistent b) (c : CacheDB) (a : Addr) (k : Slot) :
    (c.storage b a k).1.view b = c.view b := by
  unfold CacheDB.storage
  cases h : c.accounts a with
  | some acc =>
    have hr := view_storage_some (b := b) h
    dsimp only
    cases hs : acc.storage k with
    | some v => rfl
    | none =>
      cases hz : acc.state.zeroUnknown with
      | true => rfl
      | false =>
        refine view_setAccount_same b c a _ (view_basic_some (acc := acc) h) fun k' => ?_
        rw [slotRead_upd, hr]
        by_cases hk' : k' = k
        · rw [if_pos hk', hk', slotRead, hs, hz]; rfl
        · rw [if_neg hk']
  | none =>
    have hr := view_storage_none (b := b) h
    dsimp only
    cases hbx : b.basic a with
    | none =>
      refine view_setAccount_same b c a _ ?_ fun k' => ?_
      · rw [view_basic_none h, hbx]; rfl
      · rw [hr, hb.absent_zero a hbx]; rfl
    | some i =>
      refine view_setAccount_same b c a _ ?_ fun k' => ?_
      · rw [view_basic_none h, hbx]; rfl
      · rw [slotRead_upd, hr]
        by_cases hk' : k' = k
        · rw [if_pos hk', hk']
        · rw [if_neg hk']; rfl

theorem code_view (b : Data) (c : CacheDB) (h : Hash) : (c.codeByHash b h).1.view b = c.view b := by
  unfold CacheDB.codeByHash
  cases hc : c.contracts h with
  | some x => rfl
  | none =>
    refine Data.ext' rfl rfl (funext fun x => ?_) rfl
    simp only [CacheDB.view, CacheDB.codeByHashRef, upd]
    by_cases hx : x = h
    · rw [if_pos hx, hx, hc]
    · rw [if_neg hx]

theorem blockHash_view (b : Data) (c : CacheDB) (n : Nat) : (c.blockHash b n).1.view b = c.view b := by
  unfold CacheDB.blockHash
  cases hc : c.blockHashes n with
  | some x => rfl
  | none =>
    refine Data.ext' rfl rfl rfl (funext fun x => ?_)
    simp only [CacheDB.view, CacheDB.blockHashRef, upd]
    by_cases hx : x = n
    · rw [if_pos hx, hx, hc]
    · rw [if_neg hx]

theorem query_view (b : Data) (hb : Consistent b) (c : CacheDB) (q : Query) :
    (c.query b q).1.view b = c.view b := by
  cases q with
  | basic a => exact basic_view b hb c a
  | storage a k => exact storage_view b hb c a k
  | code h => exact code_view b c h
  | blockHash n => exact blockHash_view b c n
  | hasStorage a => rfl

theorem refQuery_answer (b : Data) (c : CacheDB) (q : DQuery) :
    c.refQuery b q.toQuery = answer (c.view b) q := by
  cases q <;> rfl

/-- Asked again, a query is a hit with the same answer, also on the `&self` path. No assumption on `b`:
`Consistent` is needed only to read that answer from the cache as it was before (`query_view`). -/
theorem query_settled (b : Data) (c : CacheDB) (q : Query) :
    (c.query b q).1.query b q = ((c.query b q).1, (c.query b q).2) ∧
    (c.query b q).1.refQuery b q = (c.query b q).2 := by
  cases q with
  | basic a =>
    simp only [CacheDB.query, CacheDB.basic, CacheDB.refQuery, CacheDB.basicRef]
    cases h : c.accounts a with
    | some acc => simp only [h, and_self]
    | none => simp only [upd, ↓reduceIte, and_self]
  | storage a k =>
    simp only [CacheDB.query, CacheDB.storage, CacheDB.refQuery, CacheDB.storageRef]
    cases h : c.accounts a with
    | some acc =>
      dsimp only
      cases hs : acc.storage k with
      | some v => simp only [h, hs, and_self]
      | none =>
        cases hz : acc.state.zeroUnknown with
        | true => simp only [h, hs, hz, ↓reduceIte, and_self]
        | false => simp only [upd, ↓reduceIte, Bool.false_eq_true, and_self]
    | none =>
      dsimp only
      cases hb : b.basic a with
      | none => simp only [upd, ↓reduceIte, DbAccount.newNotExisting, AccState.zeroUnknown, and_self]
      | some i => simp only [upd, ↓reduceIte, and_self]
  | code h =>
    simp only [CacheDB.query, CacheDB.codeByHash, CacheDB.refQuery, CacheDB.codeByHashRef]
    cases hc : c.contracts h with
    | some x => simp only [hc, and_self]
    | none => simp only [upd, ↓reduceIte, and_self]
  | blockHash n =>
    simp only [CacheDB.query, CacheDB.blockHash, CacheDB.refQuery, CacheDB.blockHashRef]
    cases hc : c.blockHashes n with
    | some x => simp only [hc, and_self]
    | none => simp only [upd, ↓reduceIte, and_self]
  | hasStorage a => exact ⟨rfl, rfl⟩

theorem query_answer (b : Data) (hb : Consistent b) (c : CacheDB) (q : DQuery) :
    (c.query b q.toQuery).2 = answer (c.view b) q := by
  rw [← (query_settled b c q.toQuery).2, refQuery_answer, query_view b hb]

theorem insertContract_frame (c : CacheDB) (i : Info) :
    (c.insertContract i).1.accounts = c.accounts ∧ (c.insertContract i).1.blockHashes = c.blockHashes := by
  unfold CacheDB.insertContract
  cases i.code with
  | none => exact ⟨rfl, rfl⟩
  | some code =>
    dsimp only
    cases code.isEmpty with
    | true => exact ⟨rfl, rfl⟩
    | false => cases c.contracts (codeKey i code) <;> exact ⟨rfl, rfl⟩

theorem addCode_basic (v : Data) (i : Info) : (addCode v i).basic = v.basic := by
  unfold addCode; cases i.code with
  | none => rfl
  | some code => by_cases he : code.isEmpty = true <;> simp [he]
theorem addCode_storage (v : Data) (i : Info) : (addCode v i).storage = v.storage := by
  unfold addCode; cases i.code with
  | none => rfl
  | some code => by_cases he : code.isEmpty = true <;> simp [he]
theorem addCode_blockHash (v : Data) (i : Info) : (addCode v i).blockHash = v.blockHash := by
  unfold addCode; cases i.code with
  | none => rfl
  | some code => by_cases he : code.isEmpty = true <;> simp [he]

theorem insertContract_view (b : Data) (c : CacheDB) (i : Info) (hok : CodeOk c i) :
    (c.insertContract i).1.view b = addCode (c.view b) i := by
  unfold CacheDB.insertContract addCode
  cases hc : i.code with
  | none => rfl
  | some code =>
    dsimp only
    cases he : code.isEmpty with
    | true => rfl
    | false =>
      have hkey : ∀ x, x ≠ codeKey i code → ∀ c' : CacheDB, c'.contracts x = c.contracts x →
          (c'.view b).code x = (c.view b).code x := by
        intro x _ c' hx; simp only [CacheDB.view, CacheDB.codeByHashRef, hx]
      rcases hok code hc he with hk | hk <;> rw [hk] <;> refine Data.ext' rfl rfl ?_ rfl <;> funext x <;>
        by_cases hx : x = codeKey i code
      · simp only [CacheDB.view, CacheDB.codeByHashRef, upd, hx, if_true, Bool.not_false]
      · simp only [hx, if_false, Bool.not_false, if_true]; exact hkey x hx _ (if_neg hx)
      · simp only [CacheDB.view, CacheDB.codeByHashRef, hx, hk, if_true, Bool.not_false]
      · simp only [hx, if_false, Bool.not_false, if_true]

theorem orDefault_insertContract (c : CacheDB) (i : Info) (a : Addr) :
    (c.insertContract i).1.orDefault a = c.orDefault a := by
  unfold CacheDB.orDefault; rw [(insertContract_frame c i).1]

theorem orDefault_slot (b : Data) (c : CacheDB) (a : Addr) (k : Slot) :
    slotRead b a (c.orDefault a) k = (c.view b).storage a k := by
  unfold CacheDB.orDefault
  cases h : c.accounts a with
  | none => exact (view_storage_none h k).symm
  | some acc => exact (view_storage_some h k).symm

theorem orDefault_state (c : CacheDB) (a : Addr) (hna : NotCachedAbsent c a) :
    (c.orDefault a).state ≠ .notExisting := by
  unfold CacheDB.orDefault
  cases h : c.accounts a with
  | none => exact fun h => nomatch h
  | some acc => exact hna acc h

theorem insertAccountInfo_view (b : Data) (c : CacheDB) (a : Addr) (i : Info)
    (hok : CodeOk c i) (hna : NotCachedAbsent c a) :
    (c.insertAccountInfo a i).view b = setInfo (c.view b) a i := by
  have hc1 := insertContract_view b c i hok
  refine view_setAccount b (c.insertContract i).1 a
    { (c.insertContract i).1.orDefault a with info := normInfo i } _ (fun x hx => ?_) ?_ (fun k => ?_) ?_ ?_
  · rw [hc1, addCode_basic]; exact ⟨if_neg hx, rfl⟩
  · rw [orDefault_insertContract]
    unfold DbAccount.infoOpt
    rw [if_neg (orDefault_state c a hna)]
    exact if_pos rfl
  · rw [orDefault_insertContract]
    exact (congrFun (congrFun (addCode_storage _ i) a) k).trans (orDefault_slot b c a k).symm
  · rw [hc1]; rfl
  · rw [hc1]; rfl

theorem insertAccountStorage_view (b : Data) (hb : Consistent b) (c : CacheDB) (a : Addr) (k : Slot) (x : Nat) :
    (c.insertAccountStorage b a k x).view b = setSlot (c.view b) a k x := by
  obtain ⟨hv, hacc⟩ := loadAccount_spec b c a fun _ => hb.absent_zero a
  cases hr : c.loadAccount b a with | mk c1 acc =>
  rw [hr] at hv hacc
  simp only [CacheDB.insertAccountStorage, hr]
  rw [← hv]
  refine view_setAccount b c1 a _ _ (fun y hy => ⟨rfl, ?_⟩) (view_basic_some (acc := acc) hacc) (fun k' => ?_) rfl rfl
  · funext k'; exact if_neg fun h => hy h.1
  · rw [slotRead_upd, ← view_storage_some hacc]
    by_cases hk : k' = k
    · rw [if_pos hk]; exact if_pos ⟨rfl, hk⟩
    · rw [if_neg hk]; exact if_neg fun h => hk h.2

theorem replaceAccountStorage_view (b : Data) (c : CacheDB) (a : Addr) (m : List (Slot × Nat))
    (hex : (c.view b).basic a ≠ none) :
    (c.replaceAccountStorage b a m).view b = replaceStorage (c.view b) a m := by
  obtain ⟨hv, hacc⟩ := loadAccount_spec b c a fun h hn => absurd ((view_basic_none h).trans hn) hex
  cases hr : c.loadAccount b a with | mk c1 acc =>
  rw [hr] at hv hacc
  simp only [CacheDB.replaceAccountStorage, hr]
  rw [← hv, view_basic_some hacc] at hex
  rw [← hv]
  refine view_setAccount b c1 a _ _ (fun y hy => ⟨rfl, ?_⟩) ?_ (fun k' => ?_) rfl rfl
  · funext k'; exact if_neg hy
  · -- the loaded account exists, so making it `StorageCleared` keeps its info
    rw [show (replaceStorage (c1.view b) a m).basic a = acc.infoOpt from view_basic_some hacc]
    unfold DbAccount.infoOpt at hex ⊢
    by_cases hs : acc.state = .notExisting
    · rw [if_pos hs] at hex; exact absurd rfl hex
    · rw [if_neg hs]; rfl
  · show (if a = a then _ else _) = _
    rw [if_pos rfl]
    unfold slotRead
    dsimp only
    cases lookupSlot m k' <;> rfl

theorem commitOne_view (b : Data) (c : CacheDB) (ch : Change) (hg : GoodChange b c ch) :
    (c.commitOne ch).view b = commitOne (c.view b) ch := by
  unfold CacheDB.commitOne Spec.Db.commitOne
  cases ht : ch.touched with
  | false => rfl
  | true =>
    cases hsd : ch.selfdestructed with
    | true =>
      exact view_setAccount b c ch.addr _ _ (fun x hx => ⟨if_neg hx, funext fun k => if_neg hx⟩)
        (if_pos rfl) (fun k => if_pos rfl) rfl rfl
    | false =>
      obtain ⟨hok, hst⟩ := hg ht hsd
      have hc1 := insertContract_view b c ch.info hok
      simp only [Bool.not_true, Bool.false_eq_true, if_false]
      rw [orDefault_insertContract]
      refine view_setAccount b (c.insertContract ch.info).1 ch.addr _ _ (fun x hx => ?_) ?_ (fun k => ?_) ?_ ?_
      · rw [hc1, addCode_basic, addCode_storage]; exact ⟨if_neg hx, funext fun k => if_neg hx⟩
      · -- the new state is `StorageCleared` or `Touched`, so the info is visible
        unfold DbAccount.infoOpt
        dsimp only
        rw [if_pos rfl, if_neg]
        · rfl
        · split
          · exact fun h => nomatch h
          · split <;> exact fun h => nomatch h
      · unfold slotRead extendStorage
        dsimp only
        rw [if_pos rfl]
        cases lookupSlot ch.storage k with
        | some v => rfl
        | none =>
          cases hcr : ch.created with
          | true => rfl
          | false =>
            -- the old slots stay; the old state matters only through `zeroUnknown`, which the new
            -- state keeps except on a `NotExisting` entry (excluded by `GoodChange`)
            simp only [Bool.false_eq_true, if_false]
            rw [← orDefault_slot b c ch.addr k]
            unfold slotRead CacheDB.orDefault
            cases h : c.accounts ch.addr with
            | none => rfl
            | some acc =>
              dsimp only
              by_cases hcl : acc.state = .storageCleared
              · simp only [hcl, if_true]
              · simp only [hcl, if_false]
                cases hs : acc.storage k with
                | some v => rfl
                | none =>
                  cases hstate : acc.state with
                  | storageCleared => exact absurd hstate hcl
                  | notExisting => exact (hst hcr acc h hstate k hs).symm
                  | _ => rfl
      · rw [hc1]
      · rw [hc1]

theorem commit_view (b : Data) (chs : List Change) : ∀ (c : CacheDB), GoodCommit b c chs →
    (c.commit chs).view b = commit (c.view b) chs := by
  induction chs with
  | nil => intro c _; rfl
  | cons ch r ih =>
    intro c hg
    obtain ⟨h1, h2⟩ := hg
    simp only [CacheDB.commit, Spec.Db.commit, List.foldl_cons]
    have := ih (c.commitOne ch) h2
    simp only [CacheDB.commit, Spec.Db.commit] at this
    rw [this, commitOne_view b c ch h1]

theorem cstep_sim (b : Data) (hb : Consistent b) (c : CacheDB) (op : Op) (hg : GoodOp b c op) :
    (cstep b c op).2 = (step (c.view b) op).2 ∧ (cstep b c op).1.view b = (step (c.view b) op).1 := by
  cases op with
  | query q => exact ⟨by simp [cstep, step, query_answer b hb], by simp [cstep, step, query_view b hb]⟩
  | refQuery q => exact ⟨rfl, rfl⟩
  | load a => exact ⟨rfl, by simp [cstep, step, loadAccount_view b hb]⟩
  | insertInfo a i => exact ⟨rfl, by simp [cstep, step, insertAccountInfo_view b c a i hg.1 hg.2]⟩
  | insertSlot a k x => exact ⟨rfl, by simp [cstep, step, insertAccountStorage_view b hb]⟩
  | replaceStorage a m => exact ⟨rfl, by simp [cstep, step, replaceAccountStorage_view b c a m hg]⟩
  | commit chs => exact ⟨rfl, by simp [cstep, step, commit_view b chs c hg]⟩

/-- every cached pair is what the inner database answers -/
def BhOk (f : Nat → Hash) (m : List (Nat × Hash)) : Prop := ∀ p ∈ m, p.2 = f p.1

theorem btLookup_mem {m : List (Nat × Hash)} {n : Nat} {h : Hash} (hl : btLookup m n = some h) :
    (n, h) ∈ m := by
  induction m with
  | nil => cases hl
  | cons p r ih =>
    obtain ⟨k, v⟩ := p
    unfold btLookup at hl
    by_cases hk : n = k
    · rw [if_pos hk] at hl; cases hl; rw [hk]; exact List.mem_cons_self ..
    · rw [if_neg hk] at hl; exact List.mem_cons_of_mem _ (ih hl)

theorem mem_btInsert {m : List (Nat × Hash)} {n : Nat} {h : Hash} {p : Nat × Hash}
    (hp : p ∈ btInsert m n h) : p = (n, h) ∨ p ∈ m := by
  induction m with
  | nil => exact Or.inl (List.mem_singleton.mp hp)
  | cons q r ih =>
    obtain ⟨k, v⟩ := q
    unfold btInsert at hp
    by_cases hk : n < k
    · rw [if_pos hk] at hp; exact List.mem_cons.mp hp
    · rw [if_neg hk] at hp
      rcases List.mem_cons.mp hp with hp | hp
      · exact Or.inr (hp ▸ List.mem_cons_self ..)
      · exact (ih hp).imp_right (List.mem_cons_of_mem _)

theorem mem_btPrune {m : List (Nat × Hash)} {last : Nat} {p : Nat × Hash}
    (hp : p ∈ btPrune m last) : p ∈ m := by
  induction m with
  | nil => exact hp
  | cons q r ih =>
    obtain ⟨k, v⟩ := q
    unfold btPrune at hp
    by_cases hk : k < last
    · rw [if_pos hk] at hp; exact List.mem_cons_of_mem _ (ih hp)
    · rw [if_neg hk] at hp; exact hp

theorem state_blockHash_step (f : Nat → Hash) (s : StateDb) (hs : BhOk f s.blockHashes) (n : Nat) :
    (s.step (.blockHash n) (.word (f n))).2.2 = .word (f n) ∧
    BhOk f (s.step (.blockHash n) (.word (f n))).2.1.blockHashes := by
  simp only [StateDb.step]
  cases hl : btLookup s.blockHashes n with
  | some h => exact ⟨congrArg Reply.word (hs _ (btLookup_mem hl)), hs⟩
  | none => exact ⟨rfl, fun p hp => (mem_btInsert (mem_btPrune hp)).elim (fun e => e ▸ rfl) (hs p)⟩

/-- the block-hash answers of `State` along a sequence of queries -/
def stateBhRun (f : Nat → Hash) (s : StateDb) : List Nat → List Reply
  | [] => []
  | n :: r => (s.step (.blockHash n) (.word (f n))).2.2 :: stateBhRun f (s.step (.blockHash n) (.word (f n))).2.1 r

theorem stateBhRun_eq (f : Nat → Hash) (ns : List Nat) : ∀ (s : StateDb), BhOk f s.blockHashes →
    stateBhRun f s ns = ns.map (fun n => Reply.word (f n)) := by
  induction ns with
  | nil => intro s _; rfl
  | cons n r ih =>
    intro s hs
    have := state_blockHash_step f s hs n
    simp only [stateBhRun, List.map_cons]
    rw [this.1, ih _ this.2]

/-- what is cached in a `State` is what the inner database (reading `v`) answers -/
def StOk (v : Data) (s : StateDb) : Prop :=
  (∀ a acc, s.accounts a = some acc →
     acc.status = (CacheAccount.ofOpt (v.basic a)).status ∧
     acc.accountInfo = stateBasic (v.basic a) ∧
     (∀ i st, acc.account = some (i, st) → ∀ k x, st k = some x → x = v.storage a k)) ∧
  (∀ h c, s.contracts h = some c → c = v.code h) ∧
  BhOk v.blockHash s.blockHashes

/-- the reading of a `State` over `v`: `basic` goes through `stateBasic`, every other query is `v`'s -/
def stateView (v : Data) : Data := { v with basic := fun a => stateBasic (v.basic a) }

theorem ofOpt_account_some (oi : Option Info) (i : Info) (st : Slot → Option Nat)
    (acc : CacheAccount) (hst : acc.status = (CacheAccount.ofOpt oi).status)
    (hinfo : acc.accountInfo = stateBasic oi) (h : acc.account = some (i, st)) :
    acc.status.isStorageKnown = false ∧ oi ≠ none := by
  cases oi with
  | none =>
    simp [stateBasic, CacheAccount.ofOpt, CacheAccount.accountInfo, h] at hinfo
  | some j =>
    refine ⟨?_, by simp⟩
    rw [hst]
    unfold CacheAccount.ofOpt
    by_cases he : j.isEmpty = true <;> simp [he, StStatus.isStorageKnown]

theorem ofOpt_slots (oi : Option Info) (i : Info) (st : Slot → Option Nat)
    (h : (CacheAccount.ofOpt oi).account = some (i, st)) (k : Slot) : st k = none := by
  unfold CacheAccount.ofOpt at h
  split at h
  · cases h
  · split at h <;> cases h <;> rfl

theorem stOk_setAccount {v : Data} {s : StateDb} (hs : StOk v s) (a : Addr) (acc : CacheAccount)
    (h : acc.status = (CacheAccount.ofOpt (v.basic a)).status ∧ acc.accountInfo = stateBasic (v.basic a) ∧
      ∀ i st, acc.account = some (i, st) → ∀ k x, st k = some x → x = v.storage a k) :
    StOk v { s with accounts := upd s.accounts a (some acc) } := by
  refine ⟨fun x acc' hx => ?_, hs.2⟩
  by_cases hxa : x = a
  · cases (if_pos hxa).symm.trans hx; exact hxa ▸ h
  · exact hs.1 x acc' ((if_neg hxa).symm.trans hx)

theorem state_step (v : Data) (hv : Consistent v) (s : StateDb) (hs : StOk v s) (q : DQuery)
    (hl : ∀ a k, q = .storage a k → s.accounts a ≠ none) :
    (s.step q.toQuery (answer v q)).2.2 = answer (stateView v) q ∧
    StOk v (s.step q.toQuery (answer v q)).2.1 := by
  obtain ⟨hacc, hcode, hbh⟩ := id hs
  cases q with
  | basic a =>
    simp only [DQuery.toQuery, StateDb.step, answer, stateView]
    cases h : s.accounts a with
    | some acc => exact ⟨congrArg Reply.info (hacc a acc h).2.1, hs⟩
    | none =>
      refine ⟨rfl, stOk_setAccount hs a _ ⟨rfl, rfl, fun i st hi k y hy => ?_⟩⟩
      rw [ofOpt_slots _ i st hi k] at hy; cases hy
  | storage a k =>
    simp only [DQuery.toQuery, StateDb.step, answer, stateView]
    cases h : s.accounts a with
    | none => exact absurd h (hl a k rfl)
    | some acc =>
      obtain ⟨hst, hinfo, hslots⟩ := hacc a acc h
      dsimp only
      cases hacct : acc.account with
      | none =>
        -- no account cached: the inner database has none either, so the slot is zero there
        have hnone : v.basic a = none := by
          cases hb : v.basic a with
          | none => rfl
          | some j =>
            simp [stateBasic, CacheAccount.accountInfo, hacct, hb, CacheAccount.ofOpt] at hinfo
            by_cases he : j.isEmpty = true <;> simp [he] at hinfo
        exact ⟨congrArg Reply.word (hv.absent_zero a hnone k).symm, hs⟩
      | some p =>
        obtain ⟨i, st⟩ := p
        dsimp only
        cases hk : st k with
        | some x => exact ⟨congrArg Reply.word (hslots i st hacct k x hk), hs⟩
        | none =>
          have hnk := (ofOpt_account_some (v.basic a) i st acc hst hinfo hacct).1
          simp only [hnk, Bool.false_eq_true, if_false]
          refine ⟨trivial, stOk_setAccount hs a _ ⟨hst, ?_, fun i' st' hi' k' y hy => ?_⟩⟩
          · simpa [CacheAccount.accountInfo, hacct] using hinfo
          · cases hi'
            by_cases hkk : k' = k
            · cases (if_pos hkk).symm.trans hy; rw [hkk]
            · exact hslots i st hacct k' y ((if_neg hkk).symm.trans hy)
  | code h =>
    simp only [DQuery.toQuery, StateDb.step, answer, stateView]
    cases hc : s.contracts h with
    | some c => exact ⟨congrArg Reply.code (hcode h c hc), hs⟩
    | none =>
      refine ⟨rfl, hacc, fun x c hx => ?_, hbh⟩
      by_cases hxh : x = h
      · cases (if_pos hxh).symm.trans hx; rw [hxh]
      · exact hcode x c ((if_neg hxh).symm.trans hx)
  | blockHash n =>
    have := state_blockHash_step v.blockHash s hbh n
    refine ⟨this.1, ?_, ?_, this.2⟩ <;> simp only [DQuery.toQuery, answer, StateDb.step] <;>
      cases btLookup s.blockHashes n <;> assumption

/-- the reading under every `CacheDB` and `State` layer is `Consistent`, and a `State` layer's caches are `StOk`
of it; nothing is asked of a `CacheDB` layer's cache -/
def WF : Db → Prop
  | .base b => Consistent b.toData
  | .empty _ => True
  | .cache i _ => WF i ∧ Consistent i.view.toData
  | .state i s => WF i ∧ Consistent i.view.toData ∧ StOk i.view.toData s
  | .wrapRef i => WF i
  | .fwd i => WF i
  | .components i => WF i

/-- `State::storage` may only be asked for a loaded account (`unreachable!` otherwise): every
`State` layer the query passes through has the account in its cache -/
def Ready : Db → DQuery → Prop
  | .state i s, q => (∀ a k, q = .storage a k → s.accounts a ≠ none) ∧ Ready i q
  | .fwd i, q => Ready i q
  | .components i, q => Ready i q
  | _, _ => True

theorem base_answer (b : Base) (q : DQuery) : b.answer q.toQuery = answer b.toData q := by
  cases q <;> rfl

theorem stack_query (d : Db) : ∀ (q : DQuery), WF d → Ready d q →
    (d.query q.toQuery).2 = answer d.view.toData q ∧ (d.query q.toQuery).1.view = d.view ∧
    WF (d.query q.toQuery).1 := by
  induction d with
  | base b => intro q hw _; exact ⟨base_answer b q, rfl, hw⟩
  | empty k => intro q hw _; exact ⟨base_answer _ q, rfl, hw⟩
  | cache i c ih =>
    intro q hw _
    obtain ⟨hwi, hc⟩ := hw
    refine ⟨query_answer i.view.toData hc c q, ?_, hwi, hc⟩
    simp only [Db.query, Db.view, query_view i.view.toData hc c q.toQuery]
    rfl
  | wrapRef i ih => intro q hw _; exact ⟨base_answer i.view q, rfl, hw⟩
  | fwd i ih =>
    intro q hw hr
    obtain ⟨h1, h2, h3⟩ := ih q hw hr
    exact ⟨h1, by simp only [Db.query, Db.view, h2], h3⟩
  | components i ih =>
    intro q hw hr
    obtain ⟨h1, h2, h3⟩ := ih q hw hr
    have hq : (Db.components i).query q.toQuery =
        (Db.components (i.query q.toQuery).1, (i.query q.toQuery).2) := by cases q <;> rfl
    rw [hq]
    refine ⟨?_, by simp only [Db.view, h2], h3⟩
    rw [h1]; cases q <;> rfl
  | state i s ih =>
    intro q ⟨hwi, hc, hs⟩ ⟨hl, hri⟩
    obtain ⟨h1, h2, h3⟩ := ih q hwi hri
    obtain ⟨ha, hok⟩ := state_step i.view.toData hc s hs q hl
    simp only [Db.query, h1]
    refine ⟨by rw [ha]; cases q <;> rfl, ?_⟩
    -- the inner database moves on only if `State` asked it; either way its reading is `i.view`
    cases (s.step q.toQuery (answer i.view.toData q)).1 with
    | true =>
      simp only [↓reduceIte]
      exact ⟨by simp only [Db.view, h2], by rw [WF, h2]; exact ⟨h3, hc, hok⟩⟩
    | false => exact ⟨rfl, hwi, hc, hok⟩

end Revm.Proofs.Db
