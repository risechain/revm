import Revm.Proofs.JournalPushes
import Revm.Spec.AccessHistory
/-! C34: the access sets the simulation is stated in. `SetsEq` / `SetsLe` are pointwise statements about the membership
test `Sets.has`, and adding keys is `has`-or-`contains`, so addresses and slots need no separate lemmas. Then
`warmSets`, the model's warm flags as sets, and `initLoad_warms`: `initial_account_load` warms exactly the keys it
names. -/
namespace Revm.Proofs.Access
open Revm Revm.Model.Journal Revm.Spec.JournalAbs Revm.Proofs.Journal Revm.Spec.AccessHistory
open Revm.Spec.AccessSets (Access Sets State)

def SetsEq (x y : Sets) : Prop := (∀ a, x.addrs a = y.addrs a) ∧ (∀ a k, x.slots a k = y.slots a k)
def SetsLe (x y : Sets) : Prop :=
  (∀ a, x.addrs a = true → y.addrs a = true) ∧ (∀ a k, x.slots a k = true → y.slots a k = true)

theorem SetsEq.refl (x : Sets) : SetsEq x x := ⟨fun _ => rfl, fun _ _ => rfl⟩
theorem SetsEq.symm {x y : Sets} (h : SetsEq x y) : SetsEq y x := ⟨fun a => (h.1 a).symm, fun a k => (h.2 a k).symm⟩
theorem SetsEq.trans {x y z : Sets} (h1 : SetsEq x y) (h2 : SetsEq y z) : SetsEq x z :=
  ⟨fun a => (h1.1 a).trans (h2.1 a), fun a k => (h1.2 a k).trans (h2.2 a k)⟩
theorem SetsLe.refl (x : Sets) : SetsLe x x := ⟨fun _ h => h, fun _ _ h => h⟩
theorem SetsLe.trans {x y z : Sets} (h1 : SetsLe x y) (h2 : SetsLe y z) : SetsLe x z :=
  ⟨fun a h => h2.1 a (h1.1 a h), fun a k h => h2.2 a k (h1.2 a k h)⟩

theorem setsEq_iff {x y : Sets} : SetsEq x y ↔ ∀ k, x.has k = y.has k :=
  ⟨fun h k => by cases k with | addr a => exact h.1 a | slot a j => exact h.2 a j,
   fun h => ⟨fun a => h (.addr a), fun a j => h (.slot a j)⟩⟩

theorem setsLe_iff {x y : Sets} : SetsLe x y ↔ ∀ k, x.has k = true → y.has k = true :=
  ⟨fun h k => by cases k with | addr a => exact h.1 a | slot a j => exact h.2 a j,
   fun h => ⟨fun a => h (.addr a), fun a j => h (.slot a j)⟩⟩

theorem add_has (s : Sets) (x k : Access) : (s.add x).has k = (s.has k || x == k) := by
  cases x with
  | addr a =>
    cases k with
    | addr b =>
      show (decide (b = a) || s.addrs b) = (s.addrs b || Access.addr a == Access.addr b)
      rw [Bool.or_comm]
      congr 1
      exact decide_eq_decide.2 ⟨fun h => h ▸ rfl, fun h => (Access.addr.inj h).symm⟩
    | slot b j => exact (Bool.or_false _).symm
  | slot a i =>
    cases k with
    | addr b => exact (Bool.or_false _).symm
    | slot b j =>
      show ((decide (b = a) && decide (j = i)) || s.slots b j) = (s.slots b j || Access.slot a i == Access.slot b j)
      rw [Bool.or_comm, ← Bool.decide_and]
      congr 1
      exact decide_eq_decide.2 ⟨fun h => h.1 ▸ h.2 ▸ rfl, fun h => by cases h; exact ⟨rfl, rfl⟩⟩

theorem addAll_has (xs : List Access) (s : Sets) (k : Access) : (s.addAll xs).has k = (s.has k || xs.contains k) := by
  induction xs generalizing s with
  | nil => exact (Bool.or_false _).symm
  | cons x xs ih =>
    show ((s.add x).addAll xs).has k = _
    rw [ih, add_has, List.contains_cons, Bool.or_assoc, BEq.comm]

theorem union_has (s t : Sets) (k : Access) : (s.union t).has k = (s.has k || t.has k) := by cases k <;> rfl

theorem SetsEq.addAll {x y : Sets} (h : SetsEq x y) (xs : List Access) : SetsEq (x.addAll xs) (y.addAll xs) :=
  setsEq_iff.2 fun k => by rw [addAll_has, addAll_has, setsEq_iff.1 h k]

/-- the `is_cold` replies to a list of accesses, as a function of the sets alone -/
def coldList (w : Sets) : List Access → List Bool
  | [] => []
  | x :: xs => (!w.has x) :: coldList (w.add x) xs

theorem accessAll_eq (xs : List Access) (st : State) :
    Spec.AccessSets.accessAll st xs = ({ st with cur := st.cur.addAll xs }, coldList st.cur xs) := by
  induction xs generalizing st with
  | nil => rfl
  | cons x xs ih =>
    simp only [Spec.AccessSets.accessAll, Spec.AccessSets.access, Spec.AccessSets.isCold, ih]
    rfl

theorem coldList_congr {v w : Sets} (h : SetsEq v w) (xs : List Access) : coldList v xs = coldList w xs := by
  induction xs generalizing v w with
  | nil => rfl
  | cons x xs ih =>
    rw [coldList, coldList, setsEq_iff.1 h x, ih (show SetsEq (v.add x) (w.add x) from h.addAll [x])]

theorem addAll_le (s : Sets) (xs : List Access) : SetsLe s (s.addAll xs) :=
  setsLe_iff.2 fun k h => by rw [addAll_has, h]; rfl

theorem addAll_mono {s t : Sets} (h : SetsLe s t) (xs : List Access) : SetsLe (s.addAll xs) (t.addAll xs) :=
  setsLe_iff.2 fun k hk => by
    rw [addAll_has, Bool.or_eq_true] at hk ⊢
    exact hk.imp_left (setsLe_iff.1 h k)

theorem prewarmAll_spec (xs : List Access) (st : State) :
    (prewarmAll st xs).cur = st.cur.addAll xs ∧ (prewarmAll st xs).pre = st.pre.addAll xs ∧
    (prewarmAll st xs).snaps = st.snaps := by
  induction xs generalizing st with
  | nil => simp [prewarmAll, Sets.addAll]
  | cons x xs ih =>
    have := ih (Spec.AccessSets.prewarm st x)
    simp only [prewarmAll, List.foldl_cons, Sets.addAll] at *
    exact ⟨this.1, this.2.1, this.2.2⟩

/-- the model's warm/cold flags as access sets: `setsOf (absT db s)` by `rfl`, with membership test `(absT db s).has` -/
def warmSets (db : Db) (s : JState) : Sets :=
  { addrs := (absT db s).warm, slots := fun a k => ((absT db s).slot a k).warm }

theorem warmSets_has (db : Db) (s : JState) (k : Access) : (warmSets db s).has k = (absT db s).has k := by
  cases k <;> rfl

/-- the forward warm effect, read as "the accesses `xs` were added to the sets" -/
theorem Warms.sets {db : Db} {s s' : JState} {xs : List Access} (w : Warms db s s' xs) :
    SetsEq (warmSets db s') ((warmSets db s).addAll xs) :=
  setsEq_iff.2 fun k => by rw [addAll_has, warmSets_has, warmSets_has, w k]

/-- what `preloadSlots`, the slot loop of `initial_account_load`, leaves alone, and the slots it makes warm (their
values are what the database says, which is what an absent slot of a not-created account reads anyway) -/
structure Preloaded (db : Db) (a : Addr) (acc acc' : Acct) (ks : List Nat) : Prop where
  info : acc'.info = acc.info
  created : acc'.created = acc.created
  selfdestructed : acc'.selfdestructed = acc.selfdestructed
  touched : acc'.touched = acc.touched
  notExisting : acc'.notExisting = acc.notExisting
  cold : acc'.cold = acc.cold
  slots : ∀ j, slotsOf db a false acc'.storage j =
      { slotsOf db a false acc.storage j with warm := (slotsOf db a false acc.storage j).warm || ks.contains j }

theorem preloadSlots_spec (db : Db) (a : Addr) (ks : List Nat) (acc : Acct)
    (hw : ∀ k, k ∈ ks → ∀ sl, acc.storage k = some sl → sl.cold = false) :
    Preloaded db a acc (preloadSlots db a acc ks) ks := by
  induction ks generalizing acc with
  | nil => exact ⟨rfl, rfl, rfl, rfl, rfl, rfl, fun j => by simp [preloadSlots]⟩
  | cons k ks ih =>
    show Preloaded db a acc (preloadSlots db a (preloadSlot db a acc k) ks) (k :: ks)
    cases hk : acc.storage k with
    | some sl =>
      have e : preloadSlot db a acc k = acc := by simp [preloadSlot, hk]
      rw [e]
      have r := ih acc (fun k' hk' => hw k' (by simp [hk']))
      refine ⟨r.info, r.created, r.selfdestructed, r.touched, r.notExisting, r.cold, fun j => ?_⟩
      rw [r.slots j, List.contains_cons]
      by_cases hj : j = k
      · subst hj
        have hc := hw j (by simp) sl hk
        simp [slotsOf_some db a false hk, hc]
      · have : (j == k) = false := Bool.eq_false_iff.2 (fun e => hj (eq_of_beq e))
        rw [this]; simp
    | none =>
      have e : preloadSlot db a acc k =
          setSlot acc k { orig := db.storage a k, present := db.storage a k, cold := false } := by
        simp [preloadSlot, hk]
      rw [e]
      have r := ih (setSlot acc k { orig := db.storage a k, present := db.storage a k, cold := false })
        (fun k' hk' sl hsl => by
          by_cases hkk : k' = k
          · subst hkk; simp [setSlot] at hsl; rw [← hsl]
          · simp [setSlot, hkk] at hsl; exact hw k' (by simp [hk']) sl hsl)
      refine ⟨r.info, r.created, r.selfdestructed, r.touched, r.notExisting, r.cold, fun j => ?_⟩
      rw [r.slots j, List.contains_cons, slotsOf_setSlot]
      by_cases hj : j = k
      · subst hj; simp [slotsOf_none db a false hk]
      · have : (j == k) = false := Bool.eq_false_iff.2 (fun e => hj (eq_of_beq e))
        rw [this]; simp [updK, hj]

/-- observably the account is `loadedAcct` already, up to warmth (absent entries read as the database says) -/
theorem absAcct_loaded (db : Db) (s : JState) (a : Addr) :
    absAcct db s a =
      { absOf db (sdOf s) (s.preloaded a) a (some (loadedAcct db s a)) with warm := (absAcct db s a).warm } := by
  unfold loadedAcct
  cases hs : s.state a with
  | some acc => rw [absAcct_some db s hs]
  | none =>
    rw [absAcct_none db s hs]
    cases hd : db.basic a <;> simp [absOf, hd, maskT, Acct.ofInfo, Acct.newNotExisting, Info.default, absSlot_some, absSlot_none]

theorem initKeys_contains (a : Addr) (ks : List Nat) (k : Access) :
    (Access.addr a :: ks.map (Access.slot a)).contains k =
      match k with
      | .addr b => decide (b = a)
      | .slot b j => decide (b = a) && ks.contains j := by
  cases k with
  | addr b =>
    have : ¬ Access.addr b ∈ ks.map (Access.slot a) := fun h => by obtain ⟨_, _, e⟩ := List.mem_map.1 h; cases e
    rw [List.contains_cons, List.contains_eq_mem, decide_eq_false this, Bool.or_false]
    exact decide_eq_decide.2 ⟨Access.addr.inj, fun e => e ▸ rfl⟩
  | slot b j =>
    show _ = (decide (b = a) && ks.contains j)
    rw [List.contains_cons, show (Access.slot b j == Access.addr a) = false from rfl, Bool.false_or,
      List.contains_eq_mem, List.contains_eq_mem, ← Bool.decide_and, decide_eq_decide, List.mem_map]
    exact ⟨fun ⟨i, hi, e⟩ => by cases e; exact ⟨rfl, hi⟩, fun ⟨e, hj⟩ => ⟨j, hj, e ▸ rfl⟩⟩

/-- `initial_account_load` on an account that is absent, or present, warm and not created in this
transaction, with the named slots absent or warm: exactly the account and these slots become warm, no balance
changes -/
theorem initLoad_warms {db : Db} {s : JState} {a : Addr} {ks : List Nat}
    (hacc : ∀ acc, s.state a = some acc → acc.cold = false ∧ acc.created = false ∧
      ∀ k, k ∈ ks → ∀ sl, acc.storage k = some sl → sl.cold = false) :
    Warms db s (initialAccountLoad db s a ks) (Access.addr a :: ks.map (Access.slot a)) ∧
    (absT db (initialAccountLoad db s a ks)).balance = (absT db s).balance := by
  rw [initialAccountLoad_eq]
  have hr : ∀ acc0 : Acct, acc0.storage = (fun _ => none) → acc0.created = false → acc0.cold = false →
      Preloaded db a acc0 (preloadSlots db a acc0 ks) ks :=
    fun acc0 h0 _ _ => preloadSlots_spec db a ks acc0 (fun k _ sl hsl => by rw [h0] at hsl; cases hsl)
  obtain ⟨hc0, hcr0, r⟩ : (loadedAcct db s a).cold = false ∧ (loadedAcct db s a).created = false ∧
      Preloaded db a (loadedAcct db s a) (preloadSlots db a (loadedAcct db s a) ks) ks := by
    unfold loadedAcct
    cases hs : s.state a with
    | some acc =>
      obtain ⟨hc, hcr, hsl⟩ := hacc acc hs
      exact ⟨hc, hcr, preloadSlots_spec db a ks acc hsl⟩
    | none => cases hd : db.basic a <;> exact ⟨rfl, rfl, hr _ rfl rfl rfl⟩
  have hobs := absAcct_loaded db s a
  generalize loadedAcct db s a = acc0 at hc0 hcr0 r hobs ⊢
  have hbalance : (absAcct db s a).balance = acc0.info.balance := congrArg AbsAcct.balance hobs
  have hslot : (absAcct db s a).slot = slotsOf db a false acc0.storage :=
    (congrArg AbsAcct.slot hobs).trans ((absSlot_some db a acc0).trans (by rw [hcr0]))
  refine ⟨fun k => ?_, ?_⟩
  · rw [initKeys_contains]
    cases k with
    | addr b =>
      show (absT db _).warm b = ((absT db s).warm b || decide (b = a))
      by_cases hb : b = a
      · subst hb; simp [absAcct_setAcct_same, absOf, r.cold, hc0]
      · simp [absAcct_setAcct_ne db s _ hb, hb]
    | slot b j =>
      show ((absT db _).slot b j).warm = (((absT db s).slot b j).warm || (decide (b = a) && ks.contains j))
      by_cases hb : b = a
      · subst hb
        simp only [absT_slot, absAcct_setAcct_same, absOf, absSlot_some, r.created, hcr0, decide_true, Bool.true_and]
        rw [r.slots j, hslot]
      · simp [absAcct_setAcct_ne db s _ hb, hb]
  · funext b
    by_cases hb : b = a
    · subst hb; simp [absAcct_setAcct_same, absOf, r.info, hbalance]
    · simp [absAcct_setAcct_ne db s _ hb]

end Revm.Proofs.Access
