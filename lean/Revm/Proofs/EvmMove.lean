import Revm.Proofs.EvmLoop
import Revm.Proofs.InterpOutcome
/-! What `run_the_loop` can do, as a relation. `Move C cfg b n m` names the calls of the frame machine that succeeded, so
that a proof about the loop goes by cases on it instead of unfolding `iterate` / `afterStep` / `frameAction` / `frameEnd`.
A halting instruction is TWO moves, `halt` into `.ended` and then the move every `.ended` state makes, so that what happens
when a frame returns is said once; `b` = the move completes an iteration. `Moves` is one iteration, `Fail` the dual (the
call that failed), `contOf_moves_fail` the rule for the loop in these terms, `Steps` the loop's graph without fuel.
`Resolved` is `Revm.Proofs.EvmInstSd.Resolved`; `Steps` and the `*_ok` inversions are in `Revm.Proofs.EvmLink`. -/

namespace Revm.Proofs.EvmInstSd
open Revm Revm.Model Revm.Model.Evm Revm.Model.Interp

/-- one instruction of `s`, its host question (if any) answered in world `w`: result `d`, world `w'` -/
inductive Resolved (he : HostEnv) (s : IState) (w : World) : Done → World → Prop
  | pure (d : Done) : step s = .pure d → Resolved he s w d w
  | host (op : HostOp) (k : HostResp → Done) (resp : HostResp) (w' : World) :
      step s = .host op k → answer he w op = .ok (resp, w') → Resolved he s w (k resp) w'

/-- a fact about every outcome of `step s` (`OutAll`), read at the `Done` the loop resolved. `Resolved.all`
(`EvmLinkLoop`) is this at the fact `step_all` with its projections `.kept` / `.strict` / `.depth`. -/
theorem Resolved.outAll {he : HostEnv} {s : IState} {w w' : World} {d : Done} {R : HostOp → Prop}
    {A : HostResp → Prop} {D : Done → Prop} (h : Resolved he s w d w') (ho : Revm.Proofs.Interp.OutAll R A D (step s))
    (hA : ∀ {op resp}, R op → answer he w op = .ok (resp, w') → A resp) : D d := by
  cases h with
  | pure _ hs => rw [hs] at ho; cases ho with | pure hd => exact hd
  | host _ _ _ _ hs ha => rw [hs] at ho; cases ho with | host hop hk => exact hk _ (hA hop ha)

end Revm.Proofs.EvmInstSd

namespace Revm.Proofs.EvmLink
open Revm Revm.Model Revm.Model.Evm
open Revm.Proofs.Evm (bind_ok)
variable {κ : Type}

theorem deliver_ok {kind : FrameKind} {o : Interp.ChildResult} {parent : Frame κ} {rest : List (Frame κ)}
    {mem : Memory.SharedMemory} {w : World} {nx} (h : deliver kind o parent rest mem w = .ok nx) :
    (∃ s, insertBy kind o { parent.interp with mem := mem } = .ok () s ∧
      nx = .run ({ parent with interp := s } :: rest) w) ∨
    ∃ r out s, insertBy kind o { parent.interp with mem := mem } = .halt r out s ∧ nx = .ended parent rest r out s w := by
  unfold deliver at h
  split at h
  · rename_i u s heq
    cases h
    exact .inl ⟨s, heq, rfl⟩
  · rename_i r out s heq
    cases h
    exact .inr ⟨r, out, s, heq, rfl⟩
  · cases h

theorem frameEnd_ok {C : CpOps κ} {cfg : Cfg} {top : Frame κ} {rest : List (Frame κ)} {r : Interp.IResult}
    {out : List Nat} {s : Interp.IState} {w : World} {nx} (h : frameEnd C cfg top rest r out s w = .ok nx) :
    ∃ mem res w1, freeCtx s.mem = .ok mem ∧ frameReturn C cfg top w (resultOf r out s) = .ok (res, w1) ∧
      ((rest = [] ∧ nx = .done res w1) ∨
       ∃ parent rest', rest = parent :: rest' ∧ deliver top.kind res parent rest' mem w1 = .ok nx) := by
  unfold frameEnd at h
  obtain ⟨mem, hm, h⟩ := bind_ok h
  obtain ⟨⟨res, w1⟩, hret, h⟩ := bind_ok h
  refine ⟨mem, res, w1, hm, hret, ?_⟩
  cases rest with
  | nil => cases h; exact .inl ⟨rfl, rfl⟩
  | cons parent rest' => exact .inr ⟨parent, rest', rfl, h⟩

/-- a completed `makeFrame` is a completed `make_call_frame` or `make_create_frame` (`eofCreate` is not modelled: it fails) -/
theorem makeFrame_cases {C : CpOps κ} {cfg : Cfg} {w : World} {a : Interp.Action} {mem : Memory.SharedMemory} {p}
    (h : makeFrame C cfg w a mem = .ok p) :
    (∃ i, a = .call i ∧ makeCallFrame C cfg w i mem = .ok p) ∨
    (∃ i, a = .create i ∧ makeCreateFrame C cfg w i mem = .ok p) := by
  cases a with
  | call i => exact .inl ⟨i, rfl, h⟩
  | create i => exact .inr ⟨i, rfl, h⟩
  | eofCreate i => cases h

/-- a completed `frameReturn` is a completed `call_return` or `create_return`, by the kind of the frame -/
theorem frameReturn_cases {C : CpOps κ} {cfg : Cfg} {top : Frame κ} {w : World} {res : Interp.ChildResult} {p}
    (h : frameReturn C cfg top w res = .ok p) :
    (∃ rs re, top.kind = .call rs re ∧ callReturn C w top.checkpoint res = .ok p) ∨
    (∃ a, top.kind = .create a ∧ createReturn C cfg w top.checkpoint a res = .ok p) := by
  unfold frameReturn at h
  cases hk : top.kind with
  | call rs re => rw [hk] at h; exact .inl ⟨rs, re, rfl, h⟩
  | create a => rw [hk] at h; exact .inr ⟨a, rfl, h⟩

theorem frameAction_ok {C : CpOps κ} {cfg : Cfg} {top : Frame κ} {rest : List (Frame κ)} {a : Interp.Action}
    {s : Interp.IState} {w : World} {nx} (h : frameAction C cfg top rest a s w = .ok nx) :
    ∃ fr w1, makeFrame C cfg w a s.mem = .ok (fr, w1) ∧
      ((∃ f, fr = .frame f ∧ nx = .run (f :: { top with interp := s } :: rest) w1) ∨
       ∃ o, fr = .result o ∧ deliver (kindOfAction a) o { top with interp := s } rest s.mem w1 = .ok nx) := by
  unfold frameAction at h
  obtain ⟨⟨fr, w1⟩, hmk, h⟩ := bind_ok h
  refine ⟨fr, w1, hmk, ?_⟩
  cases fr with
  | frame f => cases h; exact .inl ⟨f, rfl, rfl⟩
  | result o => exact .inr ⟨o, rfl, h⟩

end Revm.Proofs.EvmLink

namespace Revm.Proofs.Evm
open Revm Revm.Model Revm.Model.Evm
open Revm.Proofs.EvmInstSd (Resolved)
open Revm.Proofs.EvmLink (frameEnd_ok frameAction_ok)
variable {κ : Type}

/-- one move of `run_the_loop` under the checkpoint discipline `C`; `b` = the move completes an iteration -/
inductive Move (C : CpOps κ) (cfg : Cfg) : Bool → Next κ → Next κ → Prop
  | next {top rest w s w1} (hr : Resolved cfg.he top.interp w (.next s) w1) :
      Move C cfg true (.run (top :: rest) w) (.run ({ top with interp := s } :: rest) w1)
  /-- `InterpreterAction::Return`; `top` keeps the interpreter state from before the instruction, the halting state is `s` -/
  | halt {top rest w r out s w1} (hr : Resolved cfg.he top.interp w (.halt r out s) w1) :
      Move C cfg false (.run (top :: rest) w) (.ended top rest r out s w1)
  | push {top rest w a s w1 f w2} (hr : Resolved cfg.he top.interp w (.action a s) w1)
      (hmk : makeFrame C cfg w1 a s.mem = .ok (.frame f, w2)) :
      Move C cfg true (.run (top :: rest) w) (.run (f :: { top with interp := s } :: rest) w2)
  /-- `make_*_frame` answers with a result at once (depth, balance, precompile, empty code, collision …) -/
  | early {top rest w a s w1 o w2 nx} (hr : Resolved cfg.he top.interp w (.action a s) w1)
      (hmk : makeFrame C cfg w1 a s.mem = .ok (.result o, w2))
      (hdl : deliver (kindOfAction a) o { top with interp := s } rest s.mem w2 = .ok nx) :
      Move C cfg true (.run (top :: rest) w) nx
  | done {top r out s w mem res w1} (hm : freeCtx s.mem = .ok mem)
      (hret : frameReturn C cfg top w (resultOf r out s) = .ok (res, w1)) :
      Move C cfg true (.ended top [] r out s w) (.done res w1)
  /-- the outcome goes to the frame below on the memory the child gave back -/
  | ret {top parent rest r out s w mem res w1 nx} (hm : freeCtx s.mem = .ok mem)
      (hret : frameReturn C cfg top w (resultOf r out s) = .ok (res, w1))
      (hdl : deliver top.kind res parent rest mem w1 = .ok nx) :
      Move C cfg true (.ended top (parent :: rest) r out s w) nx

/-- one iteration of the loop (one unit of fuel) -/
inductive Moves (C : CpOps κ) (cfg : Cfg) : Next κ → Next κ → Prop
  | one {n m} (h : Move C cfg true n m) : Moves C cfg n m
  | two {top rest w r out s w1 m} (hr : Resolved cfg.he top.interp w (.halt r out s) w1)
      (h2 : Move C cfg true (.ended top rest r out s w1) m) : Moves C cfg (.run (top :: rest) w) m

variable {C : CpOps κ} {cfg : Cfg}

theorem frameEnd_move {top : Frame κ} {rest : List (Frame κ)} {r : Interp.IResult} {out : List Nat}
    {s : Interp.IState} {w : World} {nx} (h : frameEnd C cfg top rest r out s w = .ok nx) :
    Move C cfg true (.ended top rest r out s w) nx := by
  obtain ⟨mem, res, w1, hm, hret, ⟨rfl, rfl⟩ | ⟨parent, rest', rfl, hdl⟩⟩ := frameEnd_ok h
  · exact .done hm hret
  · exact .ret hm hret hdl

theorem afterStep_moves {top : Frame κ} {rest : List (Frame κ)} {d : Interp.Done} {w w1 : World} {nx}
    (hr : Resolved cfg.he top.interp w d w1) (h : afterStep C cfg top rest d w1 = .ok nx) :
    Moves C cfg (.run (top :: rest) w) nx := by
  unfold afterStep at h
  cases d with
  | next s => cases h; exact .one (.next hr)
  | action a s =>
    obtain ⟨fr, w2, hmk, ⟨f, rfl, rfl⟩ | ⟨o, rfl, hdl⟩⟩ := frameAction_ok h
    · exact .one (.push hr hmk)
    · exact .one (.early hr hmk hdl)
  | halt r out s => exact .two hr (frameEnd_move h)
  | fault f => cases h

theorem iterate_ok {top : Frame κ} {rest : List (Frame κ)} {w : World} {nx}
    (h : iterate C cfg (top :: rest) w = .ok nx) :
    ∃ d w1, Resolved cfg.he top.interp w d w1 ∧ afterStep C cfg top rest d w1 = .ok nx := by
  unfold iterate at h
  simp only at h
  split at h
  · rename_i d hs
    exact ⟨d, w, .pure d hs, h⟩
  · rename_i op k hs
    obtain ⟨⟨resp, w1⟩, ha, h⟩ := bind_ok h
    exact ⟨k resp, w1, .host op k resp w1 hs ha, h⟩

theorem iterate_moves {stack : List (Frame κ)} {w : World} {nx} (h : iterate C cfg stack w = .ok nx) :
    Moves C cfg (.run stack w) nx := by
  cases stack with
  | nil => cases h
  | cons top rest =>
    obtain ⟨d, w1, hr, h⟩ := iterate_ok h
    exact afterStep_moves hr h

/-- a turn from a state other than `.done` is one iteration -/
theorem turn_moves {n n' : Next κ} (h : turn C cfg n = .ok n') : Moves C cfg n n' ∨ ∃ r w, n = .done r w := by
  cases n with
  | run st w => exact .inl (iterate_moves h)
  | ended t rs r o s w => exact .inl (.one (frameEnd_move h))
  | done r w => exact .inr ⟨r, w, rfl⟩

theorem Moves.inv {P : Next κ → Prop} (hP : ∀ {b n m}, Move C cfg b n m → P n → P m) {n m}
    (t : Moves C cfg n m) (h : P n) : P m := by
  cases t with
  | one h1 => exact hP h1 h
  | two hr h2 => exact hP h2 (hP (.halt hr) h)

theorem bind_err {ε α β : Type} {x : Except ε α} {f : α → Except ε β} {e : ε} (h : (x >>= f) = .error e) :
    x = .error e ∨ ∃ a, x = .ok a ∧ f a = .error e := by
  cases x with
  | error e' => exact .inl (by cases h; rfl)
  | ok a => exact .inr ⟨a, rfl, h⟩

/-- the iteration from `n` stops with the error `e`: the call of the frame machine that failed, after those that succeeded -/
inductive Fail (C : CpOps κ) (cfg : Cfg) : Next κ → Err → Prop
  | empty {w} : Fail C cfg (.run [] w) (.panic "empty call stack")
  | answer {top rest w op k e} (hs : Interp.step top.interp = .host op k) (ha : answer cfg.he w op = .error e) :
      Fail C cfg (.run (top :: rest) w) e
  /-- the instruction is one the interpreter model does not execute -/
  | fault {top rest w f w1} (hr : Resolved cfg.he top.interp w (.fault f) w1) :
      Fail C cfg (.run (top :: rest) w) (.panic s!"interpreter: {f.name}")
  /-- `make_call_frame` / `make_create_frame` fails (or the action is EOFCREATE) -/
  | make {top rest w a s w1 e} (hr : Resolved cfg.he top.interp w (.action a s) w1)
      (hmk : makeFrame C cfg w1 a s.mem = .error e) : Fail C cfg (.run (top :: rest) w) e
  | early {top rest w a s w1 o w2 e} (hr : Resolved cfg.he top.interp w (.action a s) w1)
      (hmk : makeFrame C cfg w1 a s.mem = .ok (.result o, w2))
      (hdl : deliver (kindOfAction a) o { top with interp := s } rest s.mem w2 = .error e) :
      Fail C cfg (.run (top :: rest) w) e
  | halt {top rest w r out s w1 e} (hr : Resolved cfg.he top.interp w (.halt r out s) w1)
      (h : Fail C cfg (.ended top rest r out s w1) e) : Fail C cfg (.run (top :: rest) w) e
  | free {top rest r out s w e} (hm : freeCtx s.mem = .error e) : Fail C cfg (.ended top rest r out s w) e
  | ret {top rest r out s w mem e} (hm : freeCtx s.mem = .ok mem)
      (hret : frameReturn C cfg top w (resultOf r out s) = .error e) : Fail C cfg (.ended top rest r out s w) e
  | deliver {top parent rest r out s w mem res w1 e} (hm : freeCtx s.mem = .ok mem)
      (hret : frameReturn C cfg top w (resultOf r out s) = .ok (res, w1))
      (hdl : deliver top.kind res parent rest mem w1 = .error e) : Fail C cfg (.ended top (parent :: rest) r out s w) e

/-- `deliver` fails only with a fault of the outcome insertion -/
theorem deliver_err {kind : FrameKind} {o : Interp.ChildResult} {parent : Frame κ} {rest : List (Frame κ)}
    {mem : Memory.SharedMemory} {w : World} {e} (h : deliver kind o parent rest mem w = .error e) :
    ∃ f : Interp.Fault, e = .panic s!"insert outcome: {f.name}" := by
  unfold deliver at h
  split at h
  · cases h
  · cases h
  · rename_i f _; cases h; exact ⟨f, rfl⟩

theorem frameEnd_fail {top : Frame κ} {rest : List (Frame κ)} {r : Interp.IResult} {out : List Nat}
    {s : Interp.IState} {w : World} {e} (h : frameEnd C cfg top rest r out s w = .error e) :
    Fail C cfg (.ended top rest r out s w) e := by
  unfold frameEnd at h
  rcases bind_err h with hm | ⟨mem, hm, h⟩
  · exact .free hm
  · rcases bind_err h with hret | ⟨⟨res, w1⟩, hret, h⟩
    · exact .ret hm hret
    · cases rest with
      | nil => cases h
      | cons parent rest' => exact .deliver hm hret h

theorem afterStep_fail {top : Frame κ} {rest : List (Frame κ)} {d : Interp.Done} {w w1 : World} {e}
    (hr : Resolved cfg.he top.interp w d w1) (h : afterStep C cfg top rest d w1 = .error e) :
    Fail C cfg (.run (top :: rest) w) e := by
  unfold afterStep at h
  cases d with
  | next s => cases h
  | action a s =>
    unfold frameAction at h
    rcases bind_err h with hmk | ⟨⟨fr, w2⟩, hmk, h⟩
    · exact .make hr hmk
    · cases fr with
      | frame f => cases h
      | result o => exact .early hr hmk h
  | halt r out s => exact .halt hr (frameEnd_fail h)
  | fault f => cases h; exact .fault hr

theorem iterate_fail {stack : List (Frame κ)} {w : World} {e} (h : iterate C cfg stack w = .error e) :
    Fail C cfg (.run stack w) e := by
  unfold iterate at h
  cases stack with
  | nil => cases h; exact .empty
  | cons top rest =>
    simp only at h
    split at h
    · rename_i d hs
      exact afterStep_fail (.pure d hs) h
    · rename_i op k hs
      rcases bind_err h with ha | ⟨⟨resp, w1⟩, ha, h⟩
      · exact .answer hs ha
      · exact afterStep_fail (.host op k resp w1 hs ha) h

/-- `contOf_rule` with "every turn keeps `J` up to `E`" split into what a move keeps and which failures can occur -/
theorem contOf_moves_fail {J : Next κ → Prop} {E : Err → Prop} (hfuel : E .outOfFuel)
    (hm : ∀ {b n m}, Move C cfg b n m → J n → J m) (hf : ∀ {n e}, Fail C cfg n e → J n → E e)
    (fuel : Nat) (n : Next κ) (h : J n) : TotE E (contOf C cfg fuel n) (fun p => J (.done p.1 p.2)) := by
  refine contOf_rule hfuel (fun n h => ?_) fuel n h
  unfold TotE
  split
  · rename_i m ht
    rcases turn_moves ht with mv | ⟨r, w, rfl⟩
    · exact mv.inv hm h
    · cases ht; exact h
  · rename_i e ht
    cases n with
    | run st w => exact hf (iterate_fail ht) h
    | ended t rs r o s w => exact hf (frameEnd_fail ht) h
    | done r w => cases ht

end Revm.Proofs.Evm

namespace Revm.Proofs.EvmLink
open Revm Revm.Model Revm.Model.Evm
open Revm.Proofs.Evm (bind_ok Move iterate_moves frameEnd_move contOf contOf_succ contOf_zero)

/-- the steps of `run_the_loop`: what `runLoop` / `runEnded` do, one unit of fuel at a time, with the fuel forgotten -/
inductive Steps (cfg : Cfg) : Next Journal.Checkpoint → Next Journal.Checkpoint → Prop
  | refl (n) : Steps cfg n n
  | iter {stack w n m} (h : iterate journalOps cfg stack w = .ok n) (t : Steps cfg n m) : Steps cfg (.run stack w) m
  | fend {top rest r out s w n m} (h : frameEnd journalOps cfg top rest r out s w = .ok n) (t : Steps cfg n m) :
      Steps cfg (.ended top rest r out s w) m

theorem Steps.inv {cfg : Cfg} {P : Next Journal.Checkpoint → Prop}
    (hP : ∀ {b n m}, Move journalOps cfg b n m → P n → P m) {n m} (t : Steps cfg n m) (h : P n) : P m := by
  induction t with
  | refl n => exact h
  | iter hi _ ih => exact ih ((iterate_moves hi).inv hP h)
  | fend hf _ ih => exact ih (hP (frameEnd_move hf) h)

theorem contOf_steps {cfg : Cfg} (fuel : Nat) (n : Next Journal.Checkpoint) {r w'}
    (h : contOf journalOps cfg fuel n = .ok (r, w')) : Steps cfg n (.done r w') := by
  induction fuel generalizing n with
  | zero =>
    rw [contOf_zero] at h
    cases n with
    | done r1 w1 => cases h; exact .refl _
    | run st w => cases h
    | ended t rs r1 o s w => cases h
  | succ k ih =>
    rw [contOf_succ] at h
    obtain ⟨nx, ht, hk⟩ := bind_ok h
    cases n with
    | run st w => exact .iter ht (ih nx hk)
    | ended t rs r1 o s w => exact .fend ht (ih nx hk)
    | done r1 w1 => cases ht; cases hk; exact .refl _

end Revm.Proofs.EvmLink
