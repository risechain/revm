import Revm.Model.TxValidate
/-! The replies `Res` of `Model.TxValidate` (`ok`, `err e`, `panic`): `andThen`, `resOf` and the one check
`if c then err e else …` as equations (`andThen_eq_ok`, `ite_err_ok_iff`), and: no stage of the validation replies `panic`, for every `SpecId`,
known fork or not (`tv_validateEnv_ne_panic`, `validateTxAgainstState_ne_panic`). About the model alone, no `Spec`. -/
namespace Revm.Proofs.TxValidate
open Revm
open Revm.Model.GasCalc (enabled)
open Revm.Model.GasCalc.SpecId
open Revm.Model.TxValidate

/-- the reply of a stage whose first violated rule is `o` -/
def resOf : Option Err → Res
  | none => .ok
  | some e => .err e

theorem andThen_ok (k : Res) : Res.ok.andThen k = k := rfl
theorem andThen_err (e : Err) (k : Res) : (Res.err e).andThen k = .err e := rfl
theorem andThen_panic (k : Res) : Res.panic.andThen k = .panic := rfl

theorem andThen_eq_ok (r k : Res) : r.andThen k = .ok ↔ r = .ok ∧ k = .ok := by
  cases r <;> simp [Res.andThen]

theorem ite_err_ok_iff {c : Prop} [Decidable c] {e : Err} {r : Res} :
    (if c then .err e else r) = .ok ↔ ¬ c ∧ r = .ok := by
  by_cases hc : c <;> simp [hc]

theorem andThen_congr (r k k' : Res) (h : r = .ok → k = k') : r.andThen k = r.andThen k' := by
  cases r with
  | ok => simp only [andThen_ok]; exact h rfl
  | err e => rfl
  | panic => rfl

/-! ### no panic -/

theorem resOf_ne_panic (o : Option Err) : resOf o ≠ .panic := by cases o <;> exact fun h => nomatch h

theorem andThen_ne_panic (r k : Res) (h1 : r ≠ .panic) (h2 : r = .ok → k ≠ .panic) :
    r.andThen k ≠ .panic := by
  cases r with
  | ok => exact h2 rfl
  | err e => exact fun h => nomatch h
  | panic => exact absurd rfl h1

theorem ite_err_ne_panic {c : Prop} [Decidable c] {e : Err} {r : Res} (h : r ≠ .panic) :
    (if c then .err e else r) ≠ .panic := by
  split
  · exact fun h => nomatch h
  · exact h

theorem feeChecks_ne_panic (s : Nat) (blk : Block) (tx : Tx) : feeChecks s blk tx ≠ .panic := by
  unfold feeChecks
  repeat' split
  all_goals exact fun h => nomatch h

theorem initcodeCheck_ne_panic (s : Nat) (cfg : Cfg) (tx : Tx) : initcodeCheck s cfg tx ≠ .panic := by
  unfold initcodeCheck
  split
  · split <;> exact fun h => nomatch h
  · exact fun h => nomatch h

theorem nonceCheck_ne_panic (tx : Tx) (snd : Sender) : nonceCheck tx snd ≠ .panic := by
  unfold nonceCheck
  split
  · exact ite_err_ne_panic (ite_err_ne_panic (ite_err_ne_panic fun h => nomatch h))
  · exact fun h => nomatch h

theorem validateTxAgainstState_ne_panic (s : Nat) (tx : Tx) (snd : Sender) :
    validateTxAgainstState s tx snd ≠ .panic := by
  unfold validateTxAgainstState
  refine ite_err_ne_panic (andThen_ne_panic _ _ (nonceCheck_ne_panic _ _) fun _ => ?_)
  split
  · exact fun h => nomatch h
  · exact ite_err_ne_panic fun h => nomatch h

theorem authChecks_ne_panic (s : Nat) (tx : Tx) : authChecks s tx ≠ .panic := by
  unfold authChecks
  split
  · exact fun h => nomatch h
  split
  · split
    · exact fun h => nomatch h
    split
    · exact fun h => nomatch h
    split <;> exact fun h => nomatch h
  · exact fun h => nomatch h

/-- the blob price is read only in a Cancun transaction with blob fields, and the block check has made sure a Cancun
block carries one -/
theorem blobChecks_ne_panic (s : Nat) (cfg : Cfg) (blk : Block) (tx : Tx)
    (hb : ¬ (enabled s CANCUN && blk.blobGasPrice.isNone) = true) :
    blobChecks s cfg blk tx ≠ .panic := by
  unfold blobChecks
  split
  · exact fun h => nomatch h
  rename_i hn
  split
  · rename_i mx hmx
    split
    · rename_i hnone
      exfalso
      simp only [hmx, Option.isSome_some, Bool.true_or, Bool.and_true, Bool.not_eq_true'] at hn
      simp only [hnone, Option.isNone_none, Bool.and_true, Bool.not_eq_true] at hb
      exact hn hb
    · split
      · exact fun h => nomatch h
      split
      · exact fun h => nomatch h
      split
      · exact fun h => nomatch h
      split
      · exact fun h => nomatch h
      split <;> exact fun h => nomatch h
  · split <;> exact fun h => nomatch h

/-- `validate_env` never reaches `expect("already checked")`: blob fields before Cancun are rejected before the
price is read -/
theorem tv_validateEnv_ne_panic (s : Nat) (cfg : Cfg) (blk : Block) (tx : Tx) :
    validateEnv s cfg blk tx ≠ .panic := by
  unfold validateEnv validateBlockEnv
  split
  · exact fun h => nomatch h
  split
  · exact fun h => nomatch h
  rename_i hb
  show validateTx s cfg blk tx ≠ .panic
  unfold validateTx
  split
  · exact fun h => nomatch h
  split
  · exact fun h => nomatch h
  split
  · exact fun h => nomatch h
  exact andThen_ne_panic _ _ (feeChecks_ne_panic _ _ _) fun _ =>
    andThen_ne_panic _ _ (initcodeCheck_ne_panic _ _ _) fun _ =>
    andThen_ne_panic _ _ (blobChecks_ne_panic s cfg blk tx hb) fun _ => authChecks_ne_panic s tx

end Revm.Proofs.TxValidate
