import Revm.Proofs.Frame
/-! The paths of `make_*_frame` named once (`makeCallFrame_cases`, `createFrom`, `createTail_cases`), what each of them
does to the depth of the journal in one statement per function (`Opens`: `*_opens`), and the `*_return` functions as a
verdict followed by one closing step (`Verdict`, `close`, `close_depth`) (C07). -/
namespace Revm.Proofs.Frame
open Revm Revm.Model.Journal Revm.Model.Frame

/-- what a `make_*_frame` called at journal depth `d` leaves behind (`d'` is the depth afterwards): an immediate result
at the same depth, and `CallTooDeep` only above the limit; a frame one level deeper, and only from within the limit -/
def Opens (d : Nat) (r : FrameOrResult) (d' : Nat) : Prop :=
  match r with
  | .result res => d' = d ∧ (res = .callTooDeep → d > CALL_STACK_LIMIT)
  | .frame _ => d' = incU64 d ∧ ¬ d > CALL_STACK_LIMIT
  | .fatal => True

/-- the same for the stages below the depth check (`createTail`, `createFrom`): they never answer `CallTooDeep` -/
def OpensIn (d : Nat) (r : FrameOrResult) (d' : Nat) : Prop :=
  match r with
  | .result res => d' = d ∧ res ≠ .callTooDeep
  | .frame _ => d' = incU64 d
  | .fatal => True

theorem OpensIn.opens {d d' : Nat} {r : FrameOrResult} (h : OpensIn d r d') (hd : ¬ d > CALL_STACK_LIMIT) : Opens d r d' := by
  cases r with
  | result res => exact ⟨h.1, fun e => absurd e h.2⟩
  | frame cp => exact ⟨h, hd⟩
  | fatal => trivial

section
variable {db : Db} {s s' : JState} {inp : CallInputs} {o : CallOracle}

theorem callValueStep_depth {r}
    (h : callValueStep db s inp = some (s', r)) : s'.depth = s.depth := by
  simp only [callValueStep] at h
  split at h
  · split at h
    · simp only [bind, Option.bind_eq_some_iff] at h
      obtain ⟨⟨s1, c1⟩, h1, s2, h2, h3⟩ := h
      cases h3
      exact ((lvl_touch h2).depth).trans ((lvl_loadAccount h1).depth)
    · exact (lvl_transfer h).depth
  · cases h; rfl

def loadCodes (db : Db) : JState → List Addr → Option JState
  | s, [] => some s
  | s, a :: rest => (loadCode db s a).bind fun p => loadCodes db p.1 rest

theorem loadCodes_depth {db : Db} : ∀ {codes : List Addr} {s s' : JState},
    loadCodes db s codes = some s' → s'.depth = s.depth
  | [], s, s', h => by cases h; rfl
  | a :: rest, s, s', h => by
    simp only [loadCodes, Option.bind_eq_some_iff] at h
    obtain ⟨⟨s1, c⟩, h1, h2⟩ := h
    exact (loadCodes_depth h2).trans ((lvl_loadCode h1).depth)

/-- how `make_call_frame` ends once it has taken its checkpoint `cp` and stands in the state `sm` inside it -/
inductive CallEnd (sm : JState) (cp : Checkpoint) : JState → FrameOrResult → Prop
  | frame : CallEnd sm cp sm (.frame cp)
  | fatal : CallEnd sm cp sm .fatal
  | committed {res : IRes} : res.isOk = true → CallEnd sm cp (commit sm) (.result res)
  | reverted {res : IRes} {s' : JState} : res.isOk = false → res ≠ .callTooDeep → revert sm cp = some s' →
      CallEnd sm cp s' (.result res)

/-- the paths C1 - C9 of the model; `codes` is empty, the target, or the target and its EIP-7702 delegate -/
theorem makeCallFrame_cases {r : FrameOrResult}
    (h : makeCallFrame db s inp o = some (s', r)) :
    (s.depth > CALL_STACK_LIMIT ∧ s' = s ∧ r = .result .callTooDeep) ∨
    (¬ s.depth > CALL_STACK_LIMIT ∧ ∃ s0 x sv e codes sm,
      loadAccountDelegated db s inp.bytecodeAddr = some (s0, x) ∧
      callValueStep db (checkpoint s0).1 inp = some (sv, e) ∧ loadCodes db sv codes = some sm ∧
      CallEnd sm (checkpoint s0).2 s' r) := by
  unfold makeCallFrame makeCallFrameCore at h
  by_cases hd : s.depth > CALL_STACK_LIMIT
  · rw [if_pos hd] at h
    cases h; exact .inl ⟨hd, rfl, rfl⟩
  rw [if_neg hd] at h
  obtain ⟨⟨s0, x⟩, h0, h⟩ := Option.bind_eq_some_iff.1 h
  obtain ⟨⟨sv, terr⟩, hv, h⟩ := Option.bind_eq_some_iff.1 h
  refine .inr ⟨hd, s0, x, sv, terr, ?_⟩
  cases terr with
  | some e =>
    obtain ⟨s3, h4, h5⟩ := Option.bind_eq_some_iff.1 h
    cases h5
    exact ⟨[], sv, h0, hv, rfl, .reverted (by cases e <;> rfl) (by cases e <;> decide) h4⟩
  | none =>
    cases hpc : (if inp.isExtDelegate then none else o.precompile) with
    | some pc =>
      simp only [hpc] at h
      cases hr : pc.toRes with
      | none => simp only [hr] at h; cases h; exact ⟨[], _, h0, hv, rfl, .fatal⟩
      | some r0 =>
        simp only [hr] at h
        have hne : r0 ≠ .callTooDeep := by cases pc <;> cases hr <;> decide
        by_cases hok : r0.isOk = true
        · rw [if_pos hok] at h
          cases h; exact ⟨[], _, h0, hv, rfl, .committed hok⟩
        · rw [if_neg hok] at h
          obtain ⟨s3, h4, h5⟩ := Option.bind_eq_some_iff.1 h
          cases h5
          exact ⟨[], sv, h0, hv, rfl, .reverted (Bool.eq_false_iff.2 hok) hne h4⟩
    | none =>
      simp only [hpc] at h
      unfold callTail at h
      obtain ⟨⟨s4, c4⟩, h4, h⟩ := Option.bind_eq_some_iff.1 h
      obtain ⟨acc, _, h⟩ := Option.bind_eq_some_iff.1 h
      have c1 : loadCodes db sv [inp.bytecodeAddr] = some s4 := by
        simp only [loadCodes, h4, Option.bind_some]
      by_cases hext : inp.isExtDelegate = true ∧ (!o.codeIsEof) = true
      · rw [if_pos hext, if_pos rfl] at h
        obtain ⟨s5, h7, h8⟩ := Option.bind_eq_some_iff.1 h
        cases h8
        exact ⟨_, s4, h0, hv, c1, .reverted rfl (by decide) h7⟩
      rw [if_neg hext] at h
      by_cases hem : o.codeIsEmpty = true
      · rw [if_pos hem] at h
        cases h; exact ⟨_, _, h0, hv, c1, .committed rfl⟩
      rw [if_neg hem] at h
      cases hd' : acc.info.code.bind db.delegate with
      | some d =>
        simp only [hd'] at h
        obtain ⟨⟨s5, c5⟩, h7, h8⟩ := Option.bind_eq_some_iff.1 h
        cases h8
        exact ⟨[inp.bytecodeAddr, d], s5, h0, hv, (by simp only [loadCodes, h4, h7, Option.bind_some]), .frame⟩
      | none =>
        simp only [hd'] at h
        cases h; exact ⟨_, _, h0, hv, c1, .frame⟩

theorem makeCallFrame_opens {r}
    (h : makeCallFrame db s inp o = some (s', r)) : Opens s.depth r s'.depth := by
  rcases makeCallFrame_cases h with ⟨hd, rfl, rfl⟩ | ⟨hd, s0, x, sv, e, codes, sm, h0, hv, hc, he⟩
  · exact ⟨rfl, fun _ => hd⟩
  · have dm : sm.depth = incU64 s.depth := by
      rw [loadCodes_depth hc, callValueStep_depth hv, checkpoint_depth, (lvl_loadAccountDelegated h0).depth]
    cases he with
    | frame => exact ⟨dm, hd⟩
    | fatal => trivial
    | committed hok => exact ⟨by show decU64 sm.depth = s.depth; rw [dm, dec_inc], fun e => by subst e; cases hok⟩
    | reverted _ hne hr => exact ⟨by rw [revert_depth hr, dm, dec_inc], fun e => absurd e hne⟩

theorem makeCallFrame_deep {r}
    (h : makeCallFrame db s inp o = some (s', r)) (hd : s.depth > CALL_STACK_LIMIT) :
    r = .result .callTooDeep ∧ s' = s := by
  rcases makeCallFrame_cases h with ⟨_, rfl, rfl⟩ | ⟨hle, _⟩
  · exact ⟨rfl, rfl⟩
  · exact absurd hd hle

end

section
variable {db : Db} {s s' : JState} {spec : Nat} {inp : CreateInputs} {o : CreateOracle} {a : Addr}

theorem createTail_cases {spec caller v created : Nat} {ip hs : Addr → Bool} {r a}
    (h : createTail db s spec caller v created ip hs = some (s', r, a)) :
    a = created ∧
    ((ip created = true ∧ s' = s ∧ r = .result .createCollision) ∨
     (ip created = false ∧ ∃ s3 c cp, loadAccount db s created = some (s3, c) ∧
       createAccountCheckpoint s3 caller created (hs created) v spec = some (s', .ok cp) ∧ r = .frame cp) ∨
     (ip created = false ∧ ∃ s3 c e, loadAccount db s created = some (s3, c) ∧
       createAccountCheckpoint s3 caller created (hs created) v spec = some (s', .error e) ∧
       r = .result (createErrRes e))) := by
  simp only [createTail] at h
  split at h
  · rename_i hp
    cases h; exact ⟨rfl, .inl ⟨hp, rfl, rfl⟩⟩
  · rename_i hp
    simp only [bind, Option.bind_eq_some_iff] at h
    obtain ⟨⟨s3, c⟩, h1, ⟨s4, r2⟩, h2, h3⟩ := h
    cases r2 with
    | ok cp => cases h3; exact ⟨rfl, .inr (.inl ⟨Bool.eq_false_iff.2 hp, s3, c, cp, h1, h2, rfl⟩)⟩
    | error e => cases h3; exact ⟨rfl, .inr (.inr ⟨Bool.eq_false_iff.2 hp, s3, c, e, h1, h2, rfl⟩)⟩

theorem createTail_opens {spec caller v created : Nat} {ip hs} {r a}
    (h : createTail db s spec caller v created ip hs = some (s', r, a)) : OpensIn s.depth r s'.depth := by
  rcases (createTail_cases h).2 with ⟨_, rfl, rfl⟩ | ⟨_, s3, c, cp, h1, h2, rfl⟩ | ⟨_, s3, c, e, h1, h2, rfl⟩
  · exact ⟨rfl, nofun⟩
  · exact (createAccountCheckpoint_depth h2).trans (congrArg incU64 ((lvl_loadAccount h1).depth))
  · exact ⟨(createAccountCheckpoint_depth h2).trans ((lvl_loadAccount h1).depth), by cases e <;> exact nofun⟩

/-- `make_create_frame` and `make_eofcreate_frame` from `load_account(caller)` on: the balance check, the nonce
bump, and `createTail` at the address `addrOf nonce` -/
def createFrom (db : Db) (s : JState) (specId : Nat) (inp : CreateInputs) (addrOf : Nat → Addr) (o : CreateOracle) :
    Option (JState × FrameOrResult × Addr) := do
  let (s, _) ← loadAccount db s inp.caller
  let c ← s.state inp.caller
  if c.info.balance < inp.value then some (s, .result .outOfFunds, 0) else do
  let (s, n) ← incNonce s inp.caller
  match n with
  | none => some (s, .result .ret, 0)
  | some nonce => createTail db s specId inp.caller inp.value (addrOf nonce) o.isPrecompile o.hasStorage

theorem makeCreateFrame_from (db : Db) (s : JState) (spec : Nat) (inp : CreateInputs) (o : CreateOracle) :
    makeCreateFrame db s spec inp o =
      if s.depth > CALL_STACK_LIMIT then some (s, .result .callTooDeep, 0) else
      if spec ≥ OSAKA ∧ o.initStartsEF00 then some (s, .result .createInitCodeStartingEF00, 0) else
      createFrom db s spec inp (fun n => o.createdAddr (n - 1)) o := rfl

theorem makeEofCreateFrame_opcode (db : Db) (s : JState) (spec : Nat) (inp : CreateInputs) (a : Addr) (o : CreateOracle) :
    makeEofCreateFrame db s spec inp (.opcode a) o =
      if s.depth > CALL_STACK_LIMIT then some (s, .result .callTooDeep, 0) else
      createFrom db s spec inp (fun _ => a) o := rfl

theorem makeEofCreateFrame_tx_valid (db : Db) (s : JState) (spec : Nat) (inp : CreateInputs) (f : Option Addr)
    (o : CreateOracle) :
    makeEofCreateFrame db s spec inp (.tx true true f) o =
      if s.depth > CALL_STACK_LIMIT then some (s, .result .callTooDeep, 0) else
      createFrom db s spec inp (fun n => match f with | some a => a | none => o.createdAddr (n - 1)) o := rfl

theorem makeEofCreateFrame_tx_invalid (db : Db) (s : JState) (spec : Nat) (inp : CreateInputs) {d v : Bool}
    (f : Option Addr) (o : CreateOracle) (hbad : (!d) = true ∨ (!v) = true) :
    makeEofCreateFrame db s spec inp (.tx d v f) o =
      (incNonce s inp.caller).bind fun p => some (p.1, .result .invalidEOFInitCode, 0) := by
  simp only [makeEofCreateFrame, if_pos hbad]
  cases incNonce s inp.caller <;> rfl

theorem createFrom_cases {addrOf : Nat → Addr} {r}
    (h : createFrom db s spec inp addrOf o = some (s', r, a)) :
    ∃ s1 c cacc, loadAccount db s inp.caller = some (s1, c) ∧ s1.state inp.caller = some cacc ∧
      ((cacc.info.balance < inp.value ∧ s' = s1 ∧ r = .result .outOfFunds ∧ a = 0) ∨
       (¬ cacc.info.balance < inp.value ∧ ∃ s2 n, incNonce s1 inp.caller = some (s2, n) ∧
         ((n = none ∧ s' = s2 ∧ r = .result .ret ∧ a = 0) ∨
          ∃ nonce, n = some nonce ∧
            createTail db s2 spec inp.caller inp.value (addrOf nonce) o.isPrecompile o.hasStorage = some (s', r, a)))) := by
  simp only [createFrom, bind, Option.bind_eq_some_iff] at h
  obtain ⟨⟨s1, c⟩, h1, cacc, h2, h3⟩ := h
  refine ⟨s1, c, cacc, h1, h2, ?_⟩
  split at h3
  · rename_i hb
    cases h3; exact .inl ⟨hb, rfl, rfl, rfl⟩
  · rename_i hb
    simp only [Option.bind_eq_some_iff] at h3
    obtain ⟨⟨s2, n⟩, h4, h5⟩ := h3
    refine .inr ⟨hb, s2, n, h4, ?_⟩
    cases n with
    | none => cases h5; exact .inl ⟨rfl, rfl, rfl, rfl⟩
    | some nonce => exact .inr ⟨nonce, rfl, h5⟩

theorem createFrom_opens {addrOf : Nat → Addr} {r}
    (h : createFrom db s spec inp addrOf o = some (s', r, a)) : OpensIn s.depth r s'.depth := by
  obtain ⟨s1, c, cacc, h1, _, h3⟩ := createFrom_cases h
  have d1 := (lvl_loadAccount h1).depth
  rcases h3 with ⟨_, rfl, rfl, _⟩ | ⟨_, s2, n, h4, h5⟩
  · exact ⟨d1, nofun⟩
  · have d2 := ((lvl_incNonce h4).depth).trans d1
    rcases h5 with ⟨_, rfl, rfl, _⟩ | ⟨nonce, _, h6⟩
    · exact ⟨d2, nofun⟩
    · exact d2 ▸ createTail_opens h6

theorem makeCreateFrame_opens {r : FrameOrResult} (h : makeCreateFrame db s spec inp o = some (s', r, a)) :
    Opens s.depth r s'.depth := by
  rw [makeCreateFrame_from] at h
  split at h
  · rename_i hd
    cases h; exact ⟨rfl, fun _ => hd⟩
  · rename_i hd
    split at h
    · cases h; exact ⟨rfl, nofun⟩
    · exact (createFrom_opens h).opens hd

theorem makeCreateFrame_frame {cp : Checkpoint} (h : makeCreateFrame db s spec inp o = some (s', .frame cp, a)) :
    ∃ addrOf, createFrom db s spec inp addrOf o = some (s', .frame cp, a) := by
  rw [makeCreateFrame_from] at h
  split at h
  · cases h
  · split at h
    · cases h
    · exact ⟨_, h⟩

theorem makeCreateFrame_deep {r : FrameOrResult} (h : makeCreateFrame db s spec inp o = some (s', r, a))
    (hd : s.depth > CALL_STACK_LIMIT) : r = .result .callTooDeep ∧ s' = s := by
  rw [makeCreateFrame_from, if_pos hd] at h
  cases h; exact ⟨rfl, rfl⟩

theorem makeEofCreateFrame_cases {kind : EofCreateKind} {r}
    (h : makeEofCreateFrame db s spec inp kind o = some (s', r, a)) :
    (∃ d v f n, kind = .tx d v f ∧ ((!d) = true ∨ (!v) = true) ∧ incNonce s inp.caller = some (s', n) ∧
      r = .result .invalidEOFInitCode ∧ a = 0) ∨
    (s.depth > CALL_STACK_LIMIT ∧ s' = s ∧ r = .result .callTooDeep ∧ a = 0) ∨
    (¬ s.depth > CALL_STACK_LIMIT ∧ ∃ addrOf, createFrom db s spec inp addrOf o = some (s', r, a)) := by
  have main : ∀ addrOf, (if s.depth > CALL_STACK_LIMIT then some (s, FrameOrResult.result .callTooDeep, 0) else
      createFrom db s spec inp addrOf o) = some (s', r, a) →
      (s.depth > CALL_STACK_LIMIT ∧ s' = s ∧ r = .result .callTooDeep ∧ a = 0) ∨
      (¬ s.depth > CALL_STACK_LIMIT ∧ ∃ addrOf, createFrom db s spec inp addrOf o = some (s', r, a)) := by
    intro addrOf h
    split at h
    · rename_i hd
      cases h; exact .inl ⟨hd, rfl, rfl, rfl⟩
    · rename_i hd
      exact .inr ⟨hd, addrOf, h⟩
  cases kind with
  | opcode c => exact .inr (main _ (by rw [← makeEofCreateFrame_opcode]; exact h))
  | tx d v f =>
    by_cases hdv : (!d) = true ∨ (!v) = true
    · rw [makeEofCreateFrame_tx_invalid db s spec inp f o hdv, Option.bind_eq_some_iff] at h
      obtain ⟨⟨s1, n⟩, h1, h2⟩ := h
      cases h2
      exact .inl ⟨d, v, f, n, rfl, hdv, h1, rfl, rfl⟩
    · simp only [not_or, Bool.not_eq_true', Bool.not_eq_false] at hdv
      obtain ⟨rfl, rfl⟩ := hdv
      exact .inr (main _ (by rw [← makeEofCreateFrame_tx_valid]; exact h))

theorem makeEofCreateFrame_opens {kind} {r}
    (h : makeEofCreateFrame db s spec inp kind o = some (s', r, a)) : Opens s.depth r s'.depth := by
  rcases makeEofCreateFrame_cases h with ⟨d, v, f, n, _, _, h1, rfl, _⟩ | ⟨hd, rfl, rfl, _⟩ | ⟨hd, _, h⟩
  · exact ⟨(lvl_incNonce h1).depth, nofun⟩
  · exact ⟨rfl, fun _ => hd⟩
  · exact (createFrom_opens h).opens hd

theorem makeEofCreateFrame_frame {kind} {cp : Checkpoint}
    (h : makeEofCreateFrame db s spec inp kind o = some (s', .frame cp, a)) :
    ∃ addrOf, createFrom db s spec inp addrOf o = some (s', .frame cp, a) := by
  rcases makeEofCreateFrame_cases h with ⟨_, _, _, _, _, _, _, hr, _⟩ | ⟨_, _, hr, _⟩ | ⟨_, h⟩
  · cases hr
  · cases hr
  · exact h

/-- EOFCREATE from an opcode, or a create transaction whose container is valid: refused at the depth check -/
theorem makeEofCreateFrame_deep {kind} {r}
    (h : makeEofCreateFrame db s spec inp kind o = some (s', r, a)) (hd : s.depth > CALL_STACK_LIMIT)
    (hk : ∀ d v f, kind = .tx d v f → d = true ∧ v = true) :
    r = .result .callTooDeep ∧ s' = s := by
  rcases makeEofCreateFrame_cases h with ⟨d, v, f, n, hkind, hdv, _⟩ | ⟨_, rfl, rfl, _⟩ | ⟨hle, _⟩
  · obtain ⟨rfl, rfl⟩ := hk d v f hkind
    rcases hdv with h | h <;> cases h
  · exact ⟨rfl, rfl⟩
  · exact absurd hd hle

end

/-! ### closing a frame's checkpoint

Every `*_return` decides from the interpreter's result (`create_return` also from the spec) how the frame's checkpoint
is closed (`Verdict`) and then closes it (`close`); the three functions differ only in the verdict. -/

inductive Verdict
  /-- `checkpoint_revert` -/
  | revert (res : IRes)
  /-- `checkpoint_commit` -/
  | commit (res : IRes)
  /-- `checkpoint_commit`, then `set_code(addr, hash)` of the deployed contract -/
  | deploy (res : IRes) (addr : Addr) (hash : Nat)
  /-- `Eof::decode(..).expect(..)` on a container that does not decode -/
  | panic

def close (s : JState) (cp : Checkpoint) : Verdict → Option (JState × IRes)
  | .revert res => (revert s cp).map (·, res)
  | .commit res => some (commit s, res)
  | .deploy res a h => (setCode (commit s) a h).bind fun s' => some (s', res)
  | .panic => none

def callVerdict (ok : Bool) : Verdict := if ok then .commit .otherOk else .revert .otherHalt

/-- the verdict of `create_return` in the checkpoint model of C07 (`Proofs.EvmFrame.createVerdict` is its counterpart
for the whole-transaction model) -/
def createVerdict (spec : Nat) (a : Addr) (r : CreateRet) : Verdict :=
  if !r.resultOk then .revert .otherHalt
  else if spec ≥ LONDON ∧ r.firstByteEF then .revert .createContractStartingWithEF
  else if spec ≥ SPURIOUS_DRAGON ∧ r.lenOverMax then .revert .createContractSizeLimit
  else if !r.depositOk ∧ spec ≥ HOMESTEAD then .revert .outOfGas
  else .deploy .ret a (if r.depositOk then r.codeHash else KECCAK_EMPTY)

def eofcreateVerdict (a : Addr) (r : EofCreateRet) : Verdict :=
  if !r.isReturnContract then .revert .otherHalt
  else if r.lenOverMax then .revert .createContractSizeLimit
  else if !r.depositOk then .revert .outOfGas
  else if !r.decodes then .panic
  else .deploy .returnContract a r.codeHash

theorem callReturn_close (s : JState) (cp : Checkpoint) (ok : Bool) :
    (callReturn s cp ok).map (·, if ok then IRes.otherOk else IRes.otherHalt) = close s cp (callVerdict ok) := by
  cases ok <;> rfl

theorem createReturn_close (s : JState) (spec : Nat) (cp : Checkpoint) (a : Addr) (r : CreateRet) :
    createReturn s spec cp a r = close s cp (createVerdict spec a r) := by
  -- `close` goes through the rungs of the verdict; rung by rung the two sides are the same term
  simp only [createVerdict, apply_ite (close s cp)]
  rfl

theorem eofcreateReturn_close (s : JState) (cp : Checkpoint) (a : Addr) (r : EofCreateRet) :
    eofcreateReturn s cp a r = close s cp (eofcreateVerdict a r) := by
  simp only [eofcreateVerdict, apply_ite (close s cp)]
  rfl

theorem createVerdict_cases (spec : Nat) (a : Addr) (r : CreateRet) :
    (∃ res, createVerdict spec a r = .revert res ∧ res ≠ .ret) ∨ ∃ h, createVerdict spec a r = .deploy .ret a h := by
  unfold createVerdict
  split
  · exact .inl ⟨_, rfl, by decide⟩
  split
  · exact .inl ⟨_, rfl, by decide⟩
  split
  · exact .inl ⟨_, rfl, by decide⟩
  split
  · exact .inl ⟨_, rfl, by decide⟩
  exact .inr ⟨_, rfl⟩

theorem eofcreateVerdict_cases (a : Addr) (r : EofCreateRet) :
    (∃ res, eofcreateVerdict a r = .revert res ∧ res ≠ .returnContract) ∨
      (r.decodes = false ∧ eofcreateVerdict a r = .panic) ∨
      (r.decodes = true ∧ eofcreateVerdict a r = .deploy .returnContract a r.codeHash) := by
  unfold eofcreateVerdict
  split
  · exact .inl ⟨_, rfl, by decide⟩
  split
  · exact .inl ⟨_, rfl, by decide⟩
  split
  · exact .inl ⟨_, rfl, by decide⟩
  cases r.decodes
  · exact .inr (.inl ⟨rfl, rfl⟩)
  · exact .inr (.inr ⟨rfl, rfl⟩)

section
variable {s s' : JState} {cp : Checkpoint} {v : Verdict} {res : IRes}

theorem close_depth (h : close s cp v = some (s', res)) : s'.depth = decU64 s.depth := by
  cases v with
  | revert r => obtain ⟨s1, h1, h2⟩ := Option.map_eq_some_iff.1 h; cases h2; exact revert_depth h1
  | commit r => cases h; rfl
  | deploy r a hh => obtain ⟨s1, h1, h2⟩ := Option.bind_eq_some_iff.1 h; cases h2; exact (lvl_setCode h1).depth
  | panic => cases h

theorem close_revert {r : IRes} (h : close s cp (.revert r) = some (s', res)) : revert s cp = some s' ∧ res = r := by
  obtain ⟨s1, h1, h2⟩ := Option.map_eq_some_iff.1 h; cases h2; exact ⟨h1, rfl⟩

theorem close_deploy {r : IRes} {a : Addr} {hh : Nat} (h : close s cp (.deploy r a hh) = some (s', res)) :
    setCode (commit s) a hh = some s' ∧ res = r := by
  obtain ⟨s1, h1, h2⟩ := Option.bind_eq_some_iff.1 h; cases h2; exact ⟨h1, rfl⟩

end

theorem callReturn_depth {s s' : JState} {cp : Checkpoint} {ok : Bool}
    (h : callReturn s cp ok = some s') : s'.depth = decU64 s.depth :=
  close_depth ((callReturn_close s cp ok).symm.trans (congrArg (Option.map _) h))


end Revm.Proofs.Frame
