import Revm.Proofs.JournalDom
import Revm.Proofs.EvmRefineChain
import Revm.Proofs.EvmRR
/-! The simulation relation of the refinement: `WRel` (the two worlds outside the checkpoint bookkeeping) and `CfgRel`
(every open checkpoint of the journal machine faces the snapshot taken when it was opened), over the database `dbPre` /
`hsPre` of the pre-state, and the lemmas that carry `CfgRel` across a forward step of both machines.

A journal operation `X` has `X_rel` (`OSim` for `JRel`: EvmRefineOps), `X_fwd` (history step `Fwd`: EvmRefineChain) and
a domain lemma (added addresses `Dom`: `(lvl_X …).dom` or `dom_X` in JournalDom); they are joined into `wX_rr` (world operation, `RR` for `CfgRel`:
EvmRefineWorld), the form the frame and transaction levels build on. To prove a `wX_rr`: `CfgRel.jop` for `ofOpt` of a journal
operation returning `JState × α`, followed by noting addresses / slots; `CfgRel.step` when both completed results are in
hand and the worlds change by `Upd`; `CfgRel.fwd` when another field changes too (logs, code store). For the handler's
writes at transaction level that push no entry: `CfgRel.nil_step`, or `CfgRel.nil_upd` for one rewritten account. -/
namespace Revm.Proofs.EvmRefine
open Revm Revm.Model Revm.Model.Journal Revm.Spec.JournalAbs Revm.Proofs.Journal Revm.Proofs.Frame
open Revm.Model.Evm (World PreAcct CpOps journalOps R)
open Revm.Spec.Evm (Snap)

/-- the database of a pre-state as the journal model sees it, without the delegation lookup (the histories of the
refinement proof use the `Spec.JournalAbs.Op`s `.loadCode` + `.load` instead of `.loadDelegated`) -/
def dbPre (pre : List PreAcct) : Db :=
  { basic := (Evm.World.db { js := JState.new 0 (fun _ => false), pre := pre }).basic,
    storage := (Evm.World.db { js := JState.new 0 (fun _ => false), pre := pre }).storage,
    delegate := fun _ => none }

/-- a faithful `has_storage` for that database -/
def hsPre (pre : List PreAcct) (a : Addr) : Bool :=
  match pre.find? (fun p => p.addr == a) with
  | some p => p.storage.any (fun kv => kv.2 != 0)
  | none => false

theorem db_basic (w : World) : w.db.basic = (dbPre w.pre).basic := rfl
theorem db_storage (w : World) : w.db.storage = (dbPre w.pre).storage := rfl

theorem lookup_zero (l : List (Nat × Nat)) (k : Nat) (h : l.any (fun kv => kv.2 != 0) = false) :
    (l.lookup k).getD 0 = 0 := by
  induction l with
  | nil => rfl
  | cons x xs ih =>
    simp only [List.any_cons, Bool.or_eq_false_iff] at h
    simp only [List.lookup]
    by_cases hk : k == x.1
    · simp only [hk]
      have : x.2 = 0 := by simpa using h.1
      simp [this]
    · simp only [hk]; exact ih h.2

theorem dbOk_pre (pre : List PreAcct) : DbOk (dbPre pre) (hsPre pre) := by
  intro a h k
  show (match (Evm.World.preAcct { js := JState.new 0 (fun _ => false), pre := pre } a) with
    | some p => (p.storage.lookup k).getD 0
    | none => 0) = 0
  unfold hsPre at h
  unfold Evm.World.preAcct
  cases hf : pre.find? (fun p => p.addr == a) with
  | none => rfl
  | some p => rw [hf] at h; exact lookup_zero _ k h

theorem dbBal_pre (pre : List PreAcct) (h : ∀ p ∈ pre, p.balance < W) : DbBal (dbPre pre) := by
  intro a
  show ((Option.map _ (Evm.World.preAcct { js := JState.new 0 (fun _ => false), pre := pre } a)).getD Info.default).balance < W
  unfold Evm.World.preAcct
  cases hf : pre.find? (fun p => p.addr == a) with
  | none => simp [Info.default]; rw [W_val]; decide
  | some p => simp only [Option.map_some, Option.getD_some]; exact h p (List.mem_of_find?_eq_some hf)

theorem dbCode_pre (pre : List PreAcct) : ∀ b i, (dbPre pre).basic b = some i → ∀ hh, i.code = some hh → hh = i.codeHash := by
  intro b i hb hh hc
  change Option.map _ (Evm.World.preAcct { js := JState.new 0 (fun _ => false), pre := pre } b) = some i at hb
  cases hp : Evm.World.preAcct { js := JState.new 0 (fun _ => false), pre := pre } b with
  | none => rw [hp] at hb; simp at hb
  | some p =>
    rw [hp] at hb
    simp only [Option.map_some, Option.some.injEq] at hb
    subst hb
    simp only [Option.some.injEq] at hc
    exact hc.symm

open Revm.Model.Evm (World PreAcct CpOps journalOps R)

/-- the two worlds outside the subroutine bookkeeping. `hs1` / `hs2`: the database implements `has_storage`
(`World.dbHasStorage`), so `World.hasStorage` is the faithful `hsPre` that C06's `DbOk` asks for at a creation. -/
structure WRel (w1 w2 : World) : Prop where
  rel : JRel (dbPre w1.pre) w1.js w2.js
  pre : w2.pre = w1.pre
  codes : w2.codes = w1.codes
  logs : w2.logs = w1.logs
  pc : w2.pcOracle = w1.pcOracle
  hs1 : w1.dbHasStorage = true
  hs2 : w2.dbHasStorage = true
  /-- the specification's address list is exactly the domain of its state map -/
  pres : ∀ a, w2.addrs.contains a = (w2.js.state a).isSome
  bal : ∀ p ∈ w1.pre, p.balance < W

/-- the saved states of the open subroutines (innermost first) against the current state -/
def SnapsOk : JState → List JState → Prop
  | _, [] => True
  | s, x :: xs => s.depth = incU64 x.depth ∧ x.spec = s.spec ∧ x.preloaded = s.preloaded ∧
      (∀ a, (x.state a).isSome → (s.state a).isSome) ∧ SnapsOk x xs

theorem SnapsOk.fwd {s s' : JState} {xs : List JState} (h : SnapsOk s xs) (hd : s'.depth = s.depth)
    (hsp : s'.spec = s.spec) (hp : s'.preloaded = s.preloaded) (hdom : ∀ a, (s.state a).isSome → (s'.state a).isSome) :
    SnapsOk s' xs := by
  cases xs with
  | nil => trivial
  | cons x xs =>
    obtain ⟨a, b, c, d, e⟩ := h
    exact ⟨by rw [hd]; exact a, by rw [hsp]; exact b, by rw [hp]; exact c, fun y hy => hdom y (d y hy), e⟩

/-- the configuration relation of the simulation: the journal machine with its open checkpoints `ks1`, the snapshot
machine with the saved states `ks2` -/
structure CfgRel (ks1 : List Checkpoint) (w1 : World) (ks2 : List Snap) (w2 : World) : Prop where
  w : WRel w1 w2
  len : ks1.length = ks2.length
  chain : ∃ cps, Chain (dbPre w1.pre) (hsPre w1.pre) ⟨w1.js, cps⟩ (ks1.zip (ks2.map (·.js)))
  snaps : SnapsOk w2.js (ks2.map (·.js))

theorem WRel.dbBal {w1 w2 : World} (h : WRel w1 w2) : DbBal (dbPre w1.pre) := dbBal_pre _ h.bal

variable {ks1 : List Checkpoint} {ks2 : List Snap} {w1 w2 : World}

/-- the general form: every field of `w1'`, `w2'` is given. `hf` is the history step of the journal machine, `l` the
addresses the step adds to the specification's state map. -/
theorem CfgRel.fwd {ks1 : List Checkpoint} {w1 w1' : World} {ks2 : List Snap} {w2 w2' : World} {l : List Addr}
    (h : CfgRel ks1 w1 ks2 w2)
    (hp1 : w1'.pre = w1.pre) (hp2 : w2'.pre = w2.pre) (hc : w2'.codes = w1'.codes) (hlg : w2'.logs = w1'.logs)
    (hpc : w2'.pcOracle = w1'.pcOracle) (hs1 : w1'.dbHasStorage = true) (hs2 : w2'.dbHasStorage = true)
    (hrel : JRel (dbPre w1.pre) w1'.js w2'.js) (hf : Fwd (dbPre w1.pre) (hsPre w1.pre) w1.js w1'.js)
    (hdom : Dom w2.js w2'.js l) (haddrs : ∀ a, w2'.addrs.contains a = (w2.addrs.contains a || l.contains a)) :
    CfgRel ks1 w1' ks2 w2' := by
  obtain ⟨hw, hlen, ⟨cps, hch⟩, hsn⟩ := h
  refine ⟨⟨by rw [hp1]; exact hrel, by rw [hp1, hp2, hw.pre], hc, hlg, hpc, hs1, hs2, ?_, by rw [hp1]; exact hw.bal⟩,
    hlen, ⟨cps, by rw [hp1]; exact hch.fwd (hf.tr cps)⟩, ?_⟩
  · intro a; rw [haddrs a, hw.pres a, hdom.isSome a]
  · refine hsn.fwd ?_ ?_ ?_ ?_
    · rw [← hrel.depth, hf.depth, hw.rel.depth]
    · rw [← hrel.spec, hf.spec, hw.rel.spec]
    · rw [← hrel.pre, hf.pre, hw.rel.pre]
    · intro a ha; rw [hdom.isSome a, ha]; rfl

theorem CfgRel.good {ks1 : List Checkpoint} {w1 : World} {ks2 : List Snap} {w2 : World} (h : CfgRel ks1 w1 ks2 w2) :
    Good w1.js := by
  obtain ⟨cps, hch⟩ := h.chain
  exact hch.good (dbOk_pre _) h.w.dbBal

open Revm.Model.Evm (World R ofOpt Err)
open Revm.Proofs.EvmRR

variable {ks1 : List Checkpoint} {ks2 : List Snap} {w1 w2 : World}

theorem CfgRel.db2 (h : CfgRel ks1 w1 ks2 w2) : w2.db.basic = (dbPre w1.pre).basic := by rw [db_basic, h.w.pre]
theorem CfgRel.st2 (h : CfgRel ks1 w1 ks2 w2) : w2.db.storage = (dbPre w1.pre).storage := by rw [db_storage, h.w.pre]

/-- `w'` is `w` with the journal state replaced and the addresses of `l` noted -/
def Upd (w w' : World) (j' : JState) (l : List Addr) : Prop :=
  w'.js = j' ∧ w'.pre = w.pre ∧ w'.codes = w.codes ∧ w'.logs = w.logs ∧ w'.pcOracle = w.pcOracle ∧
  w'.dbHasStorage = w.dbHasStorage ∧ ∀ b, w'.addrs.contains b = (w.addrs.contains b || l.contains b)

theorem Upd.js (w : World) (j' : JState) : Upd w { w with js := j' } j' [] :=
  ⟨rfl, rfl, rfl, rfl, rfl, rfl, fun b => by simp⟩

theorem Upd.note {w w' : World} {j' : JState} {l : List Addr} (h : Upd w w' j' l) (a : Addr) :
    Upd w (w'.noteAddr a) j' (l ++ [a]) := by
  obtain ⟨a1, a2, a3, a4, a5, a6, a7⟩ := h
  have f := noteAddr_fields w' a
  refine ⟨f.1.trans a1, f.2.1.trans a2, f.2.2.1.trans a3, f.2.2.2.1.trans a4, f.2.2.2.2.1.trans a5,
    f.2.2.2.2.2.1.trans a6, ?_⟩
  intro b; rw [noteAddr_contains, a7 b]
  by_cases hb : b = a
  · subst hb; simp
  · have : (b == a) = false := by simpa using hb
    simp [this, hb]

theorem Upd.slot {w w' : World} {j' : JState} {l : List Addr} (h : Upd w w' j' l) (a k : Nat) :
    Upd w (w'.noteSlot a k) j' l := by
  obtain ⟨a1, a2, a3, a4, a5, a6, a7⟩ := h
  have f := noteSlot_fields w' a k
  refine ⟨f.1.trans a1, f.2.1.trans a2, f.2.2.1.trans a3, f.2.2.2.1.trans a4, f.2.2.2.2.1.trans a5,
    f.2.2.2.2.2.1.trans a6, ?_⟩
  intro b; rw [f.2.2.2.2.2.2, a7 b]

theorem Upd.slots {w w' : World} {j' : JState} {l : List Addr} (h : Upd w w' j' l) (a : Nat) (ks : List Nat) :
    Upd w (ks.foldl (fun w k => w.noteSlot a k) w') j' l := by
  induction ks generalizing w' with
  | nil => exact h
  | cons k ks ih => exact ih (h.slot a k)

theorem CfgRel.step {w1' w2' : World} {j' s' : JState} {l1 l2 l : List Addr} (h : CfgRel ks1 w1 ks2 w2)
    (u1 : Upd w1 w1' j' l1) (u2 : Upd w2 w2' s' l2) (hrel : JRel (dbPre w1.pre) j' s')
    (hf : Fwd (dbPre w1.pre) (hsPre w1.pre) w1.js j') (hdom : Dom w2.js s' l)
    (hl : ∀ b, l2.contains b = l.contains b) : CfgRel ks1 w1' ks2 w2' := by
  obtain ⟨a1, a2, a3, a4, a5, a6, a7⟩ := u1
  obtain ⟨b1, b2, b3, b4, b5, b6, b7⟩ := u2
  refine h.fwd a2 b2 (by rw [a3, b3]; exact h.w.codes) (by rw [a4, b4]; exact h.w.logs)
    (by rw [a5, b5]; exact h.w.pc) (by rw [a6]; exact h.w.hs1) (by rw [b6]; exact h.w.hs2)
    (by rw [a1, b1]; exact hrel) (by rw [a1]; exact hf) (l := l) (by rw [b1]; exact hdom) ?_
  intro b; rw [b7 b, hl b]

theorem none_of_symm {α β : Type} {o1 : Option α} {o2 : Option β} (h : ∀ b, o2 = some b → ∃ a, o1 = some a)
    (hn : o1 = none) : o2 = none := by
  cases ho : o2 with
  | none => rfl
  | some b => obtain ⟨a, ha⟩ := h b ho; rw [hn] at ha; cases ha

/-- a journal operation wrapped in `ofOpt`, on both machines: `hs` carries a completed step of the first to the second,
`hn` (the same lemma at the symmetric relation) one of the second back, so the two stop together -/
theorem RR.ofSim {α β : Type} {P : α → β → Prop} {Q : β → α → Prop} (msg : String) {o1 : Option α} {o2 : Option β}
    (hs : OSim P o1 o2) (hn : OSim Q o2 o1) : RR P (ofOpt msg o1) (ofOpt msg o2) :=
  RR.ofOpt msg hs (none_of_symm fun b hb => let ⟨a, ha, _⟩ := hn b hb; ⟨a, ha⟩)

theorem ofOpt_some {α : Type} (msg : String) (x : α) : ofOpt msg (some x) = .ok x := rfl

/-- the error side alone: when the continuation of the first never stops, an error of `ofOpt msg o1 >>= f1` is the missing
`o1`, and then `o2` is missing too -/
theorem world_err {α β γ δ : Type} {msg : String} {o1 : Option α} {o2 : Option β} {f1 : α → R γ} {f2 : β → R δ}
    (hf1 : ∀ a, ∃ c, f1 a = .ok c) (hn : o1 = none → o2 = none) {e : Err}
    (h : (ofOpt msg o1 >>= f1) = .error e) : Esc e ∨ ∃ e', (ofOpt msg o2 >>= f2) = .error e' ∧ Kind e e' := by
  cases o1 with
  | some a => obtain ⟨c, hc⟩ := hf1 a; rw [ofOpt_some, show (Except.ok a >>= f1) = f1 a from rfl, hc] at h; cases h
  | none => rw [hn rfl]; cases h; exact .inr ⟨_, rfl, trivial⟩

/-- `f1`, `f2` note addresses / slots; `hs` is `X_rel`, `hn` the same lemma at `JRel.symm`, `hf` is `X_fwd`, `hdom` is `(lvl_X …).dom` -/
theorem CfgRel.jop {α : Type} (h : CfgRel ks1 w1 ks2 w2) (msg : String) {o1 o2 : Option (JState × α)}
    {l l1 l2 : List Addr} {Q : JState × α → JState × α → Prop} (f1 f2 : World → World)
    (hs : OSim (fun p q => p.2 = q.2 ∧ JRel (dbPre w1.pre) p.1 q.1) o1 o2) (hn : OSim Q o2 o1)
    (hf : ∀ p, o1 = some p → Fwd (dbPre w1.pre) (hsPre w1.pre) w1.js p.1) (hdom : ∀ q, o2 = some q → Dom w2.js q.1 l)
    (u1 : ∀ j', Upd w1 (f1 { w1 with js := j' }) j' l1) (u2 : ∀ s', Upd w2 (f2 { w2 with js := s' }) s' l2)
    (hl : ∀ b, l2.contains b = l.contains b) :
    RR (fun p q => p.2 = q.2 ∧ CfgRel ks1 (f1 { w1 with js := p.1 }) ks2 (f2 { w2 with js := q.1 }))
      (ofOpt msg o1) (ofOpt msg o2) :=
  RR.ofSim msg (hs.withEq.mono fun p q ⟨⟨hv, hrel⟩, hp, hq⟩ =>
    ⟨hv, h.step (u1 p.1) (u2 q.1) hrel (hf p hp) (hdom q hq) hl⟩) hn

theorem CfgRel.nil_intro (hw : WRel w1 w2) (g : Good w1.js) : CfgRel [] w1 [] w2 :=
  ⟨hw, rfl, ⟨[], .nil _ g⟩, trivial⟩

/-- a step of both machines at transaction level that is not journaled (nothing is open that could revert it) -/
theorem CfgRel.nil_step {w1' w2' : World} {j' s' : JState} {l1 l2 l : List Addr} (h : CfgRel [] w1 [] w2)
    (u1 : Upd w1 w1' j' l1) (u2 : Upd w2 w2' s' l2) (hrel : JRel (dbPre w1.pre) j' s') (g : Good j')
    (hdom : Dom w2.js s' l) (hl : ∀ b, l2.contains b = l.contains b) : CfgRel [] w1' [] w2' := by
  obtain ⟨a1, a2, a3, a4, a5, a6, a7⟩ := u1
  obtain ⟨b1, b2, b3, b4, b5, b6, b7⟩ := u2
  refine CfgRel.nil_intro ⟨by rw [a2, a1, b1]; exact hrel, by rw [b2, a2]; exact h.w.pre, by rw [a3, b3]; exact h.w.codes,
    by rw [a4, b4]; exact h.w.logs, by rw [a5, b5]; exact h.w.pc, by rw [a6]; exact h.w.hs1, by rw [b6]; exact h.w.hs2, ?_,
    by rw [a2]; exact h.w.bal⟩ (by rw [a1]; exact g)
  intro b
  rw [b7 b, hl b, b1, hdom.isSome b, h.w.pres b]

/-- an unjournaled rewrite of a present account at transaction level (storage kept, balance a word) -/
theorem CfgRel.nil_upd (h : CfgRel [] w1 [] w2) {a : Addr} {x y x' y' : Acct} (hx : w1.js.state a = some x)
    (hy : w2.js.state a = some y) (ar : ARel (dbPre w1.pre) a x' y') (hsx : x'.storage = x.storage)
    (hb : x'.info.balance < W) (hcx : ∀ c, x'.info.code = some c → c = x'.info.codeHash)
    (hcy : ∀ c, y'.info.code = some c → c = y'.info.codeHash) :
    CfgRel [] { w1 with js := Journal.setAcct w1.js a x' } [] { w2 with js := Journal.setAcct w2.js a y' } :=
  h.nil_step (Upd.js w1 _) (Upd.js w2 _) (h.w.rel.setAcct a x' y' ar hcx hcy) (h.good.upd hx hsx hb) (.setAcct_present _ (present_of_some hy))
    (fun _ => rfl)

end Revm.Proofs.EvmRefine
