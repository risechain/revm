import Revm.Proofs.EvmLinkFrameStages
import Revm.Proofs.EvmLinkHandler
import Revm.Proofs.EvmMove
import Revm.Proofs.FrameKeptViews
/-! Frame depth (C07) along `Evm.runLoop`: journal depth = length of the frame stack in every state a run passes
(`steps_inv`, over the fuel-free `Steps`), and `prepare` opens the first frame at depth 1 (`prepare_inv`). Declared here
too, in the namespace `EvmInstSd`: `Resolved.all` / `.kept` / `.strict` / `.depth`, what the instruction the loop
resolved satisfies; every loop module starts from them. -/
namespace Revm.Proofs.EvmLink
open Revm Revm.Model Revm.Model.Evm
open Revm.Model.Journal (incU64 decU64)
open Revm.Proofs.Frame (inc_small dec_pos)
open Revm.Proofs.Evm (Move)
open Revm.Proofs.EvmInstSd (Resolved)

/-- the frames of `Evm.runLoop` over the real journal (`journalOps`); `EvmInstLoaded` declares the same abbreviation -/
abbrev JFrame := Frame Journal.Checkpoint

/-- while the loop runs: journal depth = number of open frames, between 1 and 1025 (unrelated to C25's
`Interp.LoopInv`, a structure about the instruction boundaries of one frame) -/
def LoopInv (stack : List JFrame) (w : World) : Prop :=
  w.js.depth = stack.length ∧ 1 ≤ stack.length ∧ stack.length ≤ CALL_STACK_LIMIT + 1

/-- the invariant on what the loop does next; when the first frame has returned the depth is 0 -/
inductive NextInv : Next Journal.Checkpoint → Prop
  | run {stack w} (h : LoopInv stack w) : NextInv (.run stack w)
  | ended {top rest r out s w} (h : LoopInv (top :: rest) w) : NextInv (.ended top rest r out s w)
  | done {r w} (h : w.js.depth = 0) : NextInv (.done r w)

theorem _root_.Revm.Proofs.EvmInstSd.Resolved.depth {he : HostEnv} {s : Interp.IState} {w w1 : World}
    {d : Interp.Done} (h : Resolved he s w d w1) : w1.js.depth = w.js.depth := by
  cases h with
  | pure => rfl
  | host _ _ _ _ _ ha => exact answer_depth ha

/-- `step_all` for the instruction the loop resolved, the host's answer being `ok`: what each invariant of the loop
needs of the instruction (`KDone`, `SDone`, `StaticDone`, `TDone`) is a projection of it -/
theorem _root_.Revm.Proofs.EvmInstSd.Resolved.all {he : HostEnv} {s : Interp.IState} {w w1 : World}
    {d : Interp.Done} (h : Resolved he s w d w1) : DoneAll False s d :=
  h.outAll (step_all (E := False) s) fun _ ha => .inl (answer_inv ha).1

theorem _root_.Revm.Proofs.EvmInstSd.Resolved.kept {he : HostEnv} {s : Interp.IState} {w w1 : World}
    {d : Interp.Done} (h : Resolved he s w d w1) : KDone s d := h.all.kept

theorem _root_.Revm.Proofs.EvmInstSd.Resolved.strict {he : HostEnv} {s : Interp.IState} {w w1 : World}
    {d : Interp.Done} (h : Resolved he s w d w1) : SDone s d := h.all.strict

theorem LoopInv.updTop {top : JFrame} {rest : List JFrame} {w w1 : World} (hi : LoopInv (top :: rest) w)
    (s : Interp.IState) (hd : w1.js.depth = w.js.depth) : LoopInv ({ top with interp := s } :: rest) w1 :=
  ⟨hd.trans hi.1, hi.2⟩

theorem deliver_inv {kind : FrameKind} {o : Interp.ChildResult} {parent : JFrame} {rest : List JFrame}
    {mem : Memory.SharedMemory} {w : World} {nx} (hi : LoopInv (parent :: rest) w)
    (h : deliver kind o parent rest mem w = .ok nx) : NextInv nx := by
  rcases deliver_ok h with ⟨s, _, rfl⟩ | ⟨r, out, s, _, rfl⟩
  · exact .run (LoopInv.updTop hi s rfl)
  · exact .ended hi

theorem frameReturn_depth {cfg : Cfg} {top : JFrame} {w w' : World} {res res' : Interp.ChildResult}
    (h : frameReturn journalOps cfg top w res = .ok (res', w')) : w'.js.depth = decU64 w.js.depth := by
  rcases frameReturn_cases h with ⟨_, _, _, h⟩ | ⟨_, _, h⟩
  · exact callReturn_depth h
  · exact createReturn_depth h

theorem makeFrame_depth {cfg : Cfg} {w w' : World} {a : Interp.Action} {mem fr}
    (h : makeFrame journalOps cfg w a mem = .ok (fr, w')) :
    (∀ r, fr = .result r → w'.js.depth = w.js.depth) ∧
    (∀ f, fr = .frame f → w'.js.depth = incU64 w.js.depth ∧ ¬ w.js.depth > CALL_STACK_LIMIT) := by
  rcases makeFrame_cases h with ⟨i, rfl, hm⟩ | ⟨i, rfl, hm⟩
  · exact ⟨fun r hr => ((makeCallFrame_depth hm).1 r hr).1, (makeCallFrame_depth hm).2⟩
  · exact ⟨fun r hr => ((makeCreateFrame_depth hm).1 r hr).1, (makeCreateFrame_depth hm).2⟩

/-- C07 `loop_step_invariant` on EvmLoop: every move keeps `journal depth = length of the frame stack` -/
theorem move_inv {cfg : Cfg} {b : Bool} {n m : Next Journal.Checkpoint} (h : Move journalOps cfg b n m)
    (hi : NextInv n) : NextInv m := by
  have hlim : CALL_STACK_LIMIT = 1024 := rfl
  cases h with
  | next hr => cases hi with | run hi => exact .run (LoopInv.updTop hi _ hr.depth)
  | halt hr => cases hi with | run hi => exact .ended (LoopInv.updTop hi _ hr.depth)
  | push hr hmk =>
    cases hi with | run hi =>
    obtain ⟨h1, h2, h3⟩ := hi
    simp only [List.length_cons] at h1 h2 h3
    obtain ⟨e1, e2⟩ := (makeFrame_depth hmk).2 _ rfl
    rw [hr.depth] at e1 e2
    refine .run ⟨?_, by simp, by simp only [List.length_cons]; omega⟩
    rw [e1, inc_small (x := _) (by show _ ≤ 1024; omega)]; simp only [List.length_cons]; omega
  | early hr hmk hdl =>
    cases hi with | run hi =>
    exact deliver_inv (LoopInv.updTop hi _ (((makeFrame_depth hmk).1 _ rfl).trans hr.depth)) hdl
  | done hm hret =>
    cases hi with | ended hi =>
    exact .done (by rw [frameReturn_depth hret, hi.1]; rfl)
  | ret hm hret hdl =>
    cases hi with | ended hi =>
    obtain ⟨h1, h2, h3⟩ := hi
    simp only [List.length_cons] at h1 h2 h3
    refine deliver_inv ⟨?_, by simp, by simp only [List.length_cons]; omega⟩ hdl
    rw [frameReturn_depth hret, h1, dec_pos (by omega)]; simp only [List.length_cons]; omega

/-- C07 `loop_depth_invariant_from` on EvmLoop: the invariant holds in every state a run passes -/
theorem steps_inv {cfg : Cfg} {n m : Next Journal.Checkpoint} (t : Steps cfg n m) (hi : NextInv n) : NextInv m :=
  t.inv move_inv hi

theorem runLoop_depth_zero {cfg : Cfg} {fuel : Nat} {stack : List JFrame} {w w' : World} {r}
    (hi : LoopInv stack w) (h : runLoop journalOps cfg fuel stack w = .ok (r, w')) : w'.js.depth = 0 := by
  have := steps_inv (contOf_steps fuel (.run _ _) h) (.run hi)
  cases this with
  | done h => exact h

theorem accessList_depth : ∀ (l : List AccessItem) (w : World),
    (l.foldl (fun w it =>
      let w := { w with js := Journal.initialAccountLoad w.db w.js it.addr it.keys }.noteAddr it.addr
      it.keys.foldl (fun w k => w.noteSlot it.addr k) w) w).js.depth = w.js.depth := by
  intro l
  induction l with
  | nil => intro w; rfl
  | cons it l ih =>
    intro w
    simp only [List.foldl_cons]
    rw [ih, foldl_noteSlot_js, Proofs.EvmHost.noteAddr_js]
    rfl

theorem loadAccounts_depth (e : Evm.Env) (spec : Nat) (w : World) :
    (loadAccounts e spec w).js.depth = w.js.depth := by
  unfold loadAccounts
  simp only
  exact accessList_depth _ _

theorem deductCaller_depth {e : Evm.Env} {spec : Nat} {w w' : World} (h : deductCaller e spec w = .ok w') :
    w'.js.depth = w.js.depth := by
  obtain ⟨w1, cold, acc, d, h1, _, _, rfl⟩ := deductCaller_ok h
  show w1.js.depth = _
  exact ((w_loadAccount_wstep h1).2 []).hist.depth rfl

theorem applyAuthList_depth {e : Evm.Env} {spec : Nat} {w w' : World} {r : Nat}
    (h : applyAuthList e spec w = .ok (w', r)) : w'.js.depth = w.js.depth := by
  refine applyAuthList_rel (fun a b => b.js.depth = a.js.depth) (fun _ => rfl) (fun _ _ _ h1 h2 => h2.trans h1)
    (fun w1 w2 a b hs => ?_) h
  rcases applyAuth_ok hs with rfl | ⟨authority, w3, c, acc, h1, _, rfl | ⟨w4, acc', hw4, rfl, _⟩⟩
  · rfl
  · exact w_loadCode_depth h1
  · show (Journal.setAcct w4.js authority acc').depth = _
    rw [Proofs.Frame.setAcct_depth, ← w_loadCode_depth h1]
    rcases hw4 with rfl | rfl
    · rfl
    · rw [addCode_js]

/-- C07 `firstFrame_inv` on EvmTx: from a journal at depth 0, `prepare` opens the first frame at depth 1 or ends with
an immediate result at depth 0 -/
theorem prepare_inv {e : Evm.Env} {spec ig : Nat} {w w2 : World} {first isCreate k}
    (h0 : w.js.depth = 0) (h : prepare journalOps e spec ig w = .ok (first, w2, isCreate, k)) :
    (∀ f, first = .frame f → LoopInv [f] w2) ∧ (∀ r, first = .result r → w2.js.depth = 0) := by
  obtain ⟨wd, wa, hd, hauth, hmk, _⟩ := Revm.Proofs.EvmFrame.prepare_ok h
  have da : wa.js.depth = 0 := by
    rw [applyAuthList_depth hauth, deductCaller_depth hd, loadAccounts_depth, h0]
  obtain ⟨x, y⟩ := makeFrame_depth hmk
  refine ⟨fun f hf => ⟨?_, by simp, by simp [CALL_STACK_LIMIT]⟩, fun r hr => by rw [x r hr, da]⟩
  rw [(y f hf).1, da]; rfl

end Revm.Proofs.EvmLink
