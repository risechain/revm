import Revm.Proofs.EvmInstWrapSim
import Revm.Proofs.EvmInstWrapBlind
/-! The execution part of a transaction: `EvmInst.firstFrame` + `Evm.runFirst` + the `last_frame_return` stage
`EvmInst.lastFrameGas` of the concrete model is `Machine.exec` of `evmMachine` (first-frame handler + `run_the_loop` +
`last_frame_return` handler), on every large enough fuel (`exec_sim`). -/
namespace Revm.Proofs.EvmInstWrap
open Revm Revm.Model Revm.Model.Evm
open Revm.Model.InspectorWrap (Machine FrameResult)
open Revm.Proofs.InspectorWrap (exec_bind execCont obind andThen_mono loop_mono_le)

variable {κ : Type}

section Generic
open Revm.Model.InspectorWrap
variable {T : Ty} {C : Type}

theorem exec_mono_le (m : Machine T C) {n n' : Nat} (hle : n ≤ n') (inp : FirstInput T) (c : C)
    (x : Res T.Err (FrameResult × C)) (h : m.exec n inp c = some x) : m.exec n' inp c = some x := by
  rw [exec_bind] at h ⊢
  refine andThen_mono (fun p hp => ?_) h
  obtain ⟨f | r, c1⟩ := p
  · simp only [execCont, obind] at hp ⊢
    cases hl : m.loop n [f] (m.newContext m.newMem) c1 with
    | none => rw [hl] at hp; cases hp
    | some y => rw [hl] at hp; rw [loop_mono_le m hle _ _ _ y hl]; exact hp
  · exact hp

end Generic

/-- what `transact_preverified_inner` hands to `exec.call` / `exec.create`: by `tx.transact_to` -/
def firstInputOf (e : Env) (gasLimit : Nat) : InspectorWrap.FirstInput (evmTy κ) :=
  match e.tx.to with
  | some to => .call (EvmInst.firstCallInputs e to gasLimit)
  | none => .create (EvmInst.firstCreateInputs e gasLimit)

theorem setGas_frameResultOf (b : Bool) (l : Nat) (res : Interp.ChildResult) (g : Gas.Gas) :
    (frameResultOf b l res).setGas g = (frameResultOf b 0 res).setGas g := by
  cases b <;> rfl

/-- the `FrameResult` the execution part hands to the post-execution handlers: the first frame's result with the gas
record of `last_frame_return` -/
def execResult (e : Env) (res : Interp.ChildResult) : FrameResult :=
  (frameResultOf e.tx.to.isNone 0 res).setGas (EvmInst.lastFrameGas e res)

theorem lastFrameReturn_exec (e : Env) (l : Nat) (res : Interp.ChildResult) :
    InspectorWrap.lastFrameReturn e.tx.gasLimit (frameResultOf e.tx.to.isNone l res) = execResult e res := by
  rw [lastFrameReturn_frameResultOf, setGas_frameResultOf]; rfl

variable (C : CpOps κ) (cfg : Cfg)

/-- the execution part, given what the first-frame handler of the machine answers (`hres` / `hfr`, one of the two by
the kind of the transaction) -/
theorem exec_of_first (e : Env) (inp : InspectorWrap.FirstInput (evmTy κ)) (w0 w1 : World)
    (first : FrameOrResult κ) (gl : Nat) (toFR : Nat → Interp.ChildResult → FrameResult)
    (hres : ∀ r, first = .result r →
      (evmMachine C cfg e.tx.gasLimit).firstFrame inp { w := w0, err := none } =
        .ok (.inr (toFR gl r), { w := w1, err := none }))
    (hfr : ∀ f0, first = .frame f0 → ∃ a : AFrame κ,
      (evmMachine C cfg e.tx.gasLimit).firstFrame inp { w := w0, err := none } = .ok (.inl a, { w := w1, err := none }) ∧
      KindRel a f0 ∧ sync a.interp (Memory.newContext Memory.new) = f0.interp ∧
      a.interp.instructionResult = .Continue ∧ ∀ l res, frOfKind f0.kind l res = toFR l res)
    (hlast : ∀ l res, InspectorWrap.lastFrameReturn e.tx.gasLimit (toFR l res) = execResult e res)
    (fuel : Nat) (res : Interp.ChildResult) (w' : World) (hrun : runFirst C cfg fuel first w1 = .ok (res, w')) :
    ∃ N, ∀ N', N ≤ N' →
      (evmMachine C cfg e.tx.gasLimit).exec N' inp { w := w0, err := none } =
        some (.ok (execResult e res, { w := w', err := none })) := by
  unfold runFirst at hrun
  cases first with
  | result r =>
    simp only [pure, Except.pure, Except.ok.injEq, Prod.mk.injEq] at hrun
    obtain ⟨rfl, rfl⟩ := hrun
    refine ⟨0, fun N' _ => ?_⟩
    rw [exec_bind, hres r rfl]
    show some (InspectorWrap.Res.ok (InspectorWrap.lastFrameReturn e.tx.gasLimit (toFR gl r), _)) = _
    rw [hlast]
  | frame f0 =>
    obtain ⟨a, hff, hk, hs, hc, hfk⟩ := hfr f0 rfl
    obtain ⟨l, N, hN⟩ := loop_sim C cfg e.tx.gasLimit fuel (.run [f0] w1) _ f0.kind res w'
      (NRel.run (arest := []) (crest := []) hk hs hc trivial rfl) hrun
    refine ⟨N, fun N' hle => ?_⟩
    have hN' := loop_mono_le (evmMachine C cfg e.tx.gasLimit) hle _ _ _ _ hN
    rw [exec_bind, hff]
    show obind ((evmMachine C cfg e.tx.gasLimit).loop N' [a] (Memory.newContext Memory.new) { w := w1, err := none }) _ = _
    rw [hN']
    show some (InspectorWrap.Res.ok (InspectorWrap.lastFrameReturn e.tx.gasLimit (frOfKind f0.kind l res), _)) = _
    rw [hfk, hlast]

/-- if the first frame (or early result) `first` came from `EvmInst.firstFrame` and the concrete loop completes on it, then
from some fuel on the abstract driver returns the first frame's result with the gas record of `last_frame_return`, and the
same world -/
theorem exec_sim (e : Env) (gl : Nat) (w0 w1 : World) (first : FrameOrResult κ)
    (hfirst : EvmInst.firstFrame C cfg e gl w0 = .ok (first, w1)) (fuel : Nat) (res : Interp.ChildResult)
    (w' : World) (hrun : runFirst C cfg fuel first w1 = .ok (res, w')) :
    ∃ N, ∀ N', N ≤ N' →
      (evmMachine C cfg e.tx.gasLimit).exec N' (firstInputOf e gl) { w := w0, err := none } =
        some (.ok (execResult e res, { w := w', err := none })) := by
  unfold EvmInst.firstFrame at hfirst
  cases hto : e.tx.to with
  | some to =>
    rw [hto] at hfirst
    simp only at hfirst
    have hinp : (firstInputOf e gl : InspectorWrap.FirstInput (evmTy κ)) = .call (EvmInst.firstCallInputs e to gl) := by
      unfold firstInputOf; rw [hto]
    have hlast := lastFrameReturn_exec e
    rw [hto] at hlast
    have hcall : (evmMachine C cfg e.tx.gasLimit).call { w := w0, err := none } (EvmInst.firstCallInputs e to gl) =
        ofCallFrame { w := w0, err := none } (EvmInst.firstCallInputs e to gl) (.ok (first, w1)) := by
      show evmCall C cfg _ _ = _
      unfold evmCall
      rw [hfirst]
    rw [hinp]
    refine exec_of_first C cfg e _ w0 w1 first gl (fun l r => .call (callOutcomeOf l r 0 0)) ?_ ?_ hlast fuel res w'
      hrun
    · intro r hr; subst hr
      simp only [Machine.firstFrame, hcall]; rfl
    · intro f0 hf; subst hf
      obtain ⟨hk, hs⟩ := newFrame_rel (makeCallFrame_ok hfirst).2 f0.interp.mem
      obtain ⟨hkind, _⟩ := frFix_frame_eq (makeCallFrame_ok hfirst).2
      refine ⟨_, by simp only [Machine.firstFrame, hcall]; rfl, ?_, hs, rfl, fun l res => by rw [hkind]; rfl⟩
      exact ⟨hk.kind, by rw [hkind]⟩
  | none =>
    rw [hto] at hfirst
    simp only at hfirst
    have hinp : (firstInputOf e gl : InspectorWrap.FirstInput (evmTy κ)) = .create (EvmInst.firstCreateInputs e gl) := by
      unfold firstInputOf; rw [hto]
    have hlast := lastFrameReturn_exec e
    rw [hto] at hlast
    have hcreate : (evmMachine C cfg e.tx.gasLimit).create { w := w0, err := none } (EvmInst.firstCreateInputs e gl) =
        ofCreateFrame { w := w0, err := none } (EvmInst.firstCreateInputs e gl) (.ok (first, w1)) := by
      show evmCreate C cfg _ _ = _
      unfold evmCreate
      rw [hfirst]
    rw [hinp]
    refine exec_of_first C cfg e _ w0 w1 first gl (fun l r => .create (createOutcomeOf l r)) ?_ ?_ hlast fuel res w'
      hrun
    · intro r hr; subst hr
      simp only [Machine.firstFrame, hcreate]; rfl
    · intro f0 hf; subst hf
      obtain ⟨hk, hs⟩ := newFrame_rel (makeCreateFrame_ok hfirst).2 f0.interp.mem
      obtain ⟨hkind, _⟩ := frFix_frame_eq (makeCreateFrame_ok hfirst).2
      refine ⟨_, by simp only [Machine.firstFrame, hcreate]; rfl, ?_, hs, rfl, fun l res => by rw [hkind]; rfl⟩
      exact ⟨hk.kind, by rw [hkind]⟩

end Revm.Proofs.EvmInstWrap
