import Revm.Proofs.JournalPushesBalance
/-! C06: the invariant `Inv` of an open checkpoint, kept by every admissible step (`step_shape`, `inv_step`), and the
revert theorem `revert_restores_core`. Along every admissible history the journal only refers to entries of the state map
that are present (`jrefs_step`, `jrefs_run`), so `checkpoint_revert` of a live checkpoint never hits an `unwrap` on a
vacant entry (`revert_restores_total`). -/
namespace Revm.Proofs.Journal
open Revm Revm.Model.Journal Revm.Spec.JournalAbs

theorem above_new_level (J : Nat) (es : List Entry) (j : List (List Entry)) (h : J ≤ j.length) :
    above J (es :: j) = es ++ above J j := by
  unfold above
  simp only [List.length_cons]
  have : j.length + 1 - J = (j.length - J) + 1 := by omega
  rw [this]; simp [List.take_succ_cons]

theorem above_push (J : Nat) (es top : List Entry) (rest : List (List Entry)) (h : J < (top :: rest).length) :
    above J ((es ++ top) :: rest) = es ++ above J (top :: rest) := by
  have h' : J ≤ rest.length := Nat.le_of_lt_succ h
  rw [above_new_level J _ rest h', above_new_level J _ rest h', List.append_assoc]

theorem above_checkpoint (J : Nat) (j : List (List Entry)) (h : J ≤ j.length) :
    above J ([] :: j) = above J j :=
  above_new_level J [] j h

theorem above_split (J c : Nat) (j : List (List Entry)) (h1 : J ≤ c) (h2 : c ≤ j.length) :
    above J j = above c j ++ above J (j.drop (j.length - c)) := by
  unfold above
  have hl : (j.drop (j.length - c)).length = c := by simp; omega
  rw [hl, ← List.flatten_append]
  congr 1
  have : j.length - J = (j.length - c) + (c - J) := by omega
  rw [this, List.take_add]

theorem above_self (j : List (List Entry)) : above j.length j = [] := by simp [above]

theorem undoTs_balOk (sd : Bool) (es : List Entry) (x : AState) (h : BalOk x) : BalOk (undoTs sd x es) := by
  intro a; rw [Ether.undoTs_balance]; exact Ether.undoAll_ok h es a


/-- `J`, `L`, `x0`, `logs0`: journal length, log count, observable state and logs when the checkpoint was taken; `base`:
index of the first checkpoint handed out after it. `undo` is the point: undoing what lies above the checkpoint gives
`x0`. `zero`: the undo of `AccountCreated` clears `created`, which is unobservable only without database storage;
`bal`: the wrapping `+=`/`-=` of the balance undos invert only on words; `cps`: an admissible revert targets a level
above `J`. -/
structure Inv (db : Db) (J L : Nat) (x0 : AState) (logs0 : List Nat) (spec0 : Nat) (pre0 : Addr → Bool)
    (base : Nat) (r : Run) : Prop where
  len : J < r.js.journal.length
  spec : r.js.spec = spec0
  pre : r.js.preloaded = pre0
  logs : r.js.logs.take L = logs0
  logsLen : L ≤ r.js.logs.length
  undo : undoTs (sdOf r.js) (absT db r.js) (above J r.js.journal) = x0
  zero : ∀ a, Entry.accountCreated a ∈ above J r.js.journal → ∀ k, db.storage a k = 0
  bal : BalOk (absT db r.js)
  cps : ∀ i cp, base ≤ i → r.cps[i]? = some cp → J < cp.journalI ∧ L ≤ cp.logI

variable {db : Db} {J L : Nat} {x0 : AState} {logs0 : List Nat} {spec0 : Nat} {pre0 : Addr → Bool} {base : Nat}

theorem Inv.of_pushes {r : Run} {js' : JState} {es : List Entry}
    (h : Inv db J L x0 logs0 spec0 pre0 base r) (p : Pushes db r.js js' es) :
    Inv db J L x0 logs0 spec0 pre0 base { r with js := js' } := by
  obtain ⟨top, rest, hj⟩ : ∃ top rest, r.js.journal = top :: rest := by
    cases hj : r.js.journal with
    | nil => have := h.len; simp [hj] at this
    | cons t r => exact ⟨t, r, rfl⟩
  have hj' := p.journal top rest hj
  have hl : J < (top :: rest).length := by rw [← hj]; exact h.len
  have hab : above J js'.journal = es ++ above J r.js.journal := by rw [hj', hj]; exact above_push J es top rest hl
  refine ⟨?_, p.spec.trans h.spec, p.pre.trans h.pre, ?_, ?_, ?_, ?_, p.bal h.bal, h.cps⟩
  · show J < js'.journal.length
    rw [hj']; simpa using hl
  · show js'.logs.take L = logs0
    rw [p.logs]; exact h.logs
  · show L ≤ js'.logs.length
    rw [p.logs]; exact h.logsLen
  · show undoTs (sdOf js') (absT db js') (above J js'.journal) = x0
    rw [hab, undoTs_append, sdOf_eq p.spec, p.undo]; exact h.undo
  · intro a ha
    change Entry.accountCreated a ∈ above J js'.journal at ha
    rw [hab] at ha
    rcases List.mem_append.1 ha with h1 | h1
    · exact p.zero a h1
    · exact h.zero a h1

theorem Inv.checkpoint {r : Run} (h : Inv db J L x0 logs0 spec0 pre0 base r) :
    Inv db J L x0 logs0 spec0 pre0 base { js := (checkpoint r.js).1, cps := r.cps ++ [(checkpoint r.js).2] } := by
  have hle : J ≤ r.js.journal.length := Nat.le_of_lt h.len
  refine ⟨?_, h.spec, h.pre, h.logs, h.logsLen, ?_, ?_, h.bal, ?_⟩
  · show J < ([] :: r.js.journal).length
    simp; omega
  · show undoTs (sdOf r.js) (absT db r.js) (above J ([] :: r.js.journal)) = x0
    rw [above_checkpoint J _ hle]; exact h.undo
  · intro a ha
    change Entry.accountCreated a ∈ above J ([] :: r.js.journal) at ha
    rw [above_checkpoint J _ hle] at ha; exact h.zero a ha
  · intro i cp hi hcp
    simp only at hcp
    by_cases hlt : i < r.cps.length
    · rw [List.getElem?_append_left hlt] at hcp; exact h.cps i cp hi hcp
    · rw [List.getElem?_append_right (Nat.le_of_not_lt hlt)] at hcp
      cases hk : i - r.cps.length with
      | zero =>
        rw [hk] at hcp; simp at hcp; subst hcp
        exact ⟨h.len, h.logsLen⟩
      | succ n => rw [hk] at hcp; simp at hcp


theorem Inv.revert {r : Run} {cp : Checkpoint} {js' : JState} (h : Inv db J L x0 logs0 spec0 pre0 base r)
    (hJ : J < cp.journalI) (hL : L ≤ cp.logI) (hr : revert r.js cp = some js') :
    Inv db J L x0 logs0 spec0 pre0 base { r with js := js' } := by
  have hle : cp.journalI ≤ r.js.journal.length := (revert_some hr).1
  have hsplit := above_split J cp.journalI r.js.journal (Nat.le_of_lt hJ) hle
  obtain ⟨_, r2, r3, r4, r5, r6⟩ := revert_abs db r.js js' cp hr
    (fun a ha => h.zero a (by rw [hsplit]; exact List.mem_append_left _ ha))
  have hu : undoTs (sdOf js') (absT db js') (above J js'.journal) = x0 := by
    rw [r2, r5, sdOf_eq r3, ← undoTs_append, ← hsplit]; exact h.undo
  refine ⟨?_, r3.trans h.spec, r4.trans h.pre, ?_, ?_, hu, ?_, ?_, h.cps⟩
  · show J < js'.journal.length
    rw [r5]; simp; omega
  · show js'.logs.take L = logs0
    rw [r6, List.take_take, Nat.min_eq_left hL]; exact h.logs
  · show L ≤ js'.logs.length
    rw [r6, List.length_take]; exact Nat.le_min.2 ⟨hL, h.logsLen⟩
  · intro a ha
    change Entry.accountCreated a ∈ above J js'.journal at ha
    rw [r5] at ha
    exact h.zero a (by rw [hsplit]; exact List.mem_append_right _ ha)
  · show BalOk (absT db js')
    rw [r2]; exact undoTs_balOk _ _ _ h.bal




/-- a log is appended behind the first `L` entries -/
theorem Inv.log {r : Run} (h : Inv db J L x0 logs0 spec0 pre0 base r) (l : Nat) :
    Inv db J L x0 logs0 spec0 pre0 base { r with js := Model.Journal.log r.js l } := by
  have hl : (Model.Journal.log r.js l).logs = r.js.logs ++ [l] := rfl
  have e : absT db (Model.Journal.log r.js l) = absT db r.js := absT_congr db rfl rfl rfl rfl
  refine ⟨h.len, h.spec, h.pre, ?_, ?_, ?_, h.zero, ?_, h.cps⟩
  · show (Model.Journal.log r.js l).logs.take L = logs0
    rw [hl, List.take_append_of_le_length h.logsLen]; exact h.logs
  · show L ≤ (Model.Journal.log r.js l).logs.length
    rw [hl]; simp; have := h.logsLen; omega
  · show undoTs (sdOf r.js) (absT db (Model.Journal.log r.js l)) (above J r.js.journal) = x0
    rw [e]; exact h.undo
  · show BalOk (absT db (Model.Journal.log r.js l))
    rw [e]; exact h.bal

/-- The proof idea of C06 in one statement: a step either pushes entries that undo it (`Pushes`), or does so on a
fresh level and hands out its checkpoint, or appends a log, or reverts an admissible checkpoint. -/
theorem step_shape {hasStorage : Addr → Bool} (hdb : DbOk db hasStorage) {r r' : Run} {op : Op} {b : Nat}
    (hbal : BalOk (absT db r.js)) (hadm : admissible db hasStorage b r op = true)
    (hs : step db r op = some r') :
    (∃ es, Pushes db r.js r'.js es ∧ r'.cps = r.cps) ∨
    (∃ es, Pushes db (checkpoint r.js).1 r'.js es ∧ r'.cps = r.cps ++ [(checkpoint r.js).2]) ∨
    (∃ l, r' = { r with js := Model.Journal.log r.js l }) ∨
    (∃ i cp, b ≤ i ∧ r.cps[i]? = some cp ∧ Model.Journal.revert r.js cp = some r'.js ∧ r'.cps = r.cps) := by
  have ord : ∀ {js' : JState}, (∃ es, Pushes db r.js js' es) → ∃ es, Pushes db r.js js' es ∧ r.cps = r.cps :=
    fun ⟨es, p⟩ => ⟨es, p, rfl⟩
  have created {c a hst bal spec js out} (hc : createAccountCheckpoint r.js c a hst bal spec = some (js, out))
      (hadm : admissible db hasStorage b r (.create c a hst bal spec) = true) := by
    simp only [admissible, Bool.and_eq_true, Bool.or_eq_true, Bool.not_eq_true'] at hadm
    exact create_pushes hdb hbal (fun acc hacc => by simpa [hacc] using hadm.1.1) hadm.1.2 hc
  cases step_called hs with
  | load h1 => exact .inl (ord ⟨_, (loadAccount_pushes h1).1⟩)
  | loadCode h1 => exact .inl (ord ⟨_, (loadCode_pushes h1).1⟩)
  | loadDelegated h1 => exact .inl (ord (loadAccountDelegated_pushes (db := db) h1).1)
  | initLoad a ks => simp [admissible] at hadm
  | touch h1 =>
    obtain ⟨es, p, _⟩ := touch_pushes (db := db) h1
    exact .inl (ord ⟨es, p⟩)
  | transfer h1 => exact .inl (ord (transfer_pushes (db := db) hbal h1).1)
  | incNonce h1 =>
    obtain ⟨es, p, _⟩ := incNonce_pushes (db := db) h1
    exact .inl (ord ⟨es, p⟩)
  | @setCode a _ _ h1 =>
    obtain ⟨es, p, _⟩ := setCode_pushes (db := db) (fun acc hacc => by simpa [admissible, hacc] using hadm) h1
    exact .inl (ord ⟨es, p⟩)
  | sload h1 => exact .inl (ord ⟨_, (sload_pushes h1).1⟩)
  | sstore h1 => exact .inl (ord (sstore_pushes (db := db) h1).1)
  | tload => exact .inl ⟨[], Pushes.refl db _, rfl⟩
  | tstore h1 =>
    obtain ⟨es, p, _⟩ := tstore_pushes (db := db) h1
    exact .inl (ord ⟨es, p⟩)
  | log l => exact .inr (.inr (.inl ⟨l, rfl⟩))
  | selfdestruct h1 => exact .inl (ord (selfdestruct_pushes (db := db) hbal h1).1)
  | created h1 =>
    obtain ⟨rfl, es, p, _⟩ := created h1 hadm
    exact .inr (.inl ⟨es, p, rfl⟩)
  | notCreated h1 => exact .inl ⟨[], created h1 hadm, rfl⟩
  | checkpoint => exact .inr (.inl ⟨[], Pushes.refl db _, rfl⟩)
  | commit =>
    exact .inl ⟨[], Pushes.silent (absT_congr db rfl rfl rfl rfl) rfl rfl rfl rfl (Grows.of_state_eq rfl), rfl⟩
  | revert hcp h1 => exact .inr (.inr (.inr ⟨_, _, by simpa [admissible] using hadm, hcp, h1, rfl⟩))

theorem inv_step {hasStorage : Addr → Bool} (hdb : DbOk db hasStorage) {r r' : Run} {op : Op}
    (h : Inv db J L x0 logs0 spec0 pre0 base r)
    (hadm : admissible db hasStorage base r op = true) (hs : step db r op = some r') :
    Inv db J L x0 logs0 spec0 pre0 base r' := by
  rcases step_shape hdb h.bal hadm hs with ⟨es, p, hc⟩ | ⟨es, p, hc⟩ | ⟨l, rfl⟩ | ⟨i, cp, hi, hcp, hr, hc⟩
  · obtain ⟨js', cps'⟩ := r'; cases hc
    exact h.of_pushes p
  · obtain ⟨js', cps'⟩ := r'; cases hc
    exact h.checkpoint.of_pushes p
  · exact h.log l
  · obtain ⟨js', cps'⟩ := r'; cases hc
    obtain ⟨hJ, hL⟩ := h.cps i cp hi hcp
    exact h.revert hJ hL hr

theorem inv_run {hasStorage : Addr → Bool} (hdb : DbOk db hasStorage) (ops : List Op) {r r' : Run}
    (h : Inv db J L x0 logs0 spec0 pre0 base r)
    (hadm : admissibleRun db hasStorage base r ops = true) (hr : run db r ops = some r') :
    Inv db J L x0 logs0 spec0 pre0 base r' := by
  induction ops generalizing r with
  | nil => simp [run] at hr; subst hr; exact h
  | cons op ops ih =>
    simp only [run] at hr
    simp only [admissibleRun, Bool.and_eq_true] at hadm
    cases hs : Spec.JournalAbs.step db r op with
    | none => simp [hs] at hr
    | some r1 =>
      simp only [hs] at hr hadm
      exact ih (inv_step hdb h hadm.1 hs) hadm.2 hr

theorem step_cps {db : Db} {r r' : Run} {op : Op} (hs : Spec.JournalAbs.step db r op = some r') :
    r'.cps = r.cps ∨ ((op = .checkpoint ∨ ∃ c a hst bal spec, op = .create c a hst bal spec) ∧
      ∃ cp, r'.cps = r.cps ++ [cp]) := by
  cases step_called hs with
  | created => exact Or.inr ⟨Or.inr ⟨_, _, _, _, _, rfl⟩, _, rfl⟩
  | checkpoint => exact Or.inr ⟨Or.inl rfl, _, rfl⟩
  | _ => exact Or.inl rfl

theorem step_cps_prefix {r r' : Run} {op : Op} (hs : Spec.JournalAbs.step db r op = some r') :
    ∃ t, r'.cps = r.cps ++ t := by
  rcases step_cps hs with h | ⟨_, cp, h⟩
  · exact ⟨[], by simp [h]⟩
  · exact ⟨[cp], h⟩

theorem run_cps_prefix (ops : List Op) {r r' : Run} (hr : run db r ops = some r') : ∃ t, r'.cps = r.cps ++ t := by
  induction ops generalizing r with
  | nil => simp [run] at hr; subst hr; exact ⟨[], by simp⟩
  | cons op ops ih =>
    simp only [run] at hr
    cases hs : Spec.JournalAbs.step db r op with
    | none => simp [hs] at hr
    | some r1 =>
      simp only [hs] at hr
      obtain ⟨t1, h1⟩ := step_cps_prefix hs
      obtain ⟨t2, h2⟩ := ih hr
      exact ⟨t1 ++ t2, by rw [h2, h1, List.append_assoc]⟩

theorem inv_init {hasStorage : Addr → Bool} (hdb : DbOk db hasStorage) {rpre r0 : Run} {op : Op} {cp : Checkpoint}
    (hbal : BalOk (absT db rpre.js))
    (hadm : admissible db hasStorage 0 rpre op = true)
    (hs : Spec.JournalAbs.step db rpre op = some r0) (hcp : r0.cps = rpre.cps ++ [cp]) :
    cp = (checkpoint rpre.js).2 ∧
    Inv db rpre.js.journal.length rpre.js.logs.length (absT db rpre.js) rpre.js.logs rpre.js.spec
      rpre.js.preloaded (rpre.cps.length + 1) r0 := by
  have base : Inv db rpre.js.journal.length rpre.js.logs.length (absT db rpre.js) rpre.js.logs rpre.js.spec
      rpre.js.preloaded (rpre.cps.length + 1)
      { js := (checkpoint rpre.js).1, cps := rpre.cps ++ [(checkpoint rpre.js).2] } := by
    refine ⟨?_, rfl, rfl, ?_, ?_, ?_, ?_, hbal, ?_⟩
    · show _ < ([] :: rpre.js.journal).length
      simp
    · show rpre.js.logs.take rpre.js.logs.length = rpre.js.logs
      simp
    · exact Nat.le_refl _
    · show undoTs _ (absT db rpre.js) (above rpre.js.journal.length ([] :: rpre.js.journal)) = _
      rw [above_checkpoint _ _ (Nat.le_refl _), above_self]; rfl
    · intro a ha
      change _ ∈ above rpre.js.journal.length ([] :: rpre.js.journal) at ha
      rw [above_checkpoint _ _ (Nat.le_refl _), above_self] at ha; simp at ha
    · intro i c hi hc
      simp only at hc
      rw [List.getElem?_eq_none (by simp; omega)] at hc; simp at hc
  rcases step_shape hdb hbal hadm hs with ⟨_, _, hc⟩ | ⟨es, p, hc⟩ | ⟨l, rfl⟩ | ⟨_, _, _, _, _, hc⟩
  · rw [hc] at hcp; have := congrArg List.length hcp; simp at this
  · rw [hc] at hcp; simp at hcp; subst hcp
    obtain ⟨js0, cps0⟩ := r0; cases hc
    exact ⟨rfl, base.of_pushes p⟩
  · have := congrArg List.length hcp; simp at this
  · rw [hc] at hcp; have := congrArg List.length hcp; simp at this


/-- C06. Take a checkpoint (`checkpoint` or a successful `create_account_checkpoint`) in a state whose
balances are 256-bit words, run any admissible history (nested checkpoints, commits, reverts of inner
checkpoints included), then revert to the checkpoint: every observable is as it was. -/
theorem revert_restores_core {hasStorage : Addr → Bool} (hdb : DbOk db hasStorage) {rpre r0 r : Run} {op : Op}
    {cp : Checkpoint} {ops : List Op} {s' : JState}
    (hbal : BalOk (absT db rpre.js))
    (hadm0 : admissible db hasStorage 0 rpre op = true)
    (hs : Spec.JournalAbs.step db rpre op = some r0) (hcp : r0.cps = rpre.cps ++ [cp])
    (hadm : admissibleRun db hasStorage (rpre.cps.length + 1) r0 ops = true)
    (hr : run db r0 ops = some r)
    (hrev : Model.Journal.revert r.js cp = some s') : AbsEq db s' rpre.js := by
  obtain ⟨hcpe, i0⟩ := inv_init hdb hbal hadm0 hs hcp
  have i := inv_run hdb ops i0 hadm hr
  have hJ : cp.journalI = rpre.js.journal.length := by rw [hcpe]; rfl
  have hL : cp.logI = rpre.js.logs.length := by rw [hcpe]; rfl
  obtain ⟨_, r2, r3, r4, r5, r6⟩ := revert_abs db r.js s' cp hrev (by rw [hJ]; exact i.zero)
  refine absEq_of_absT ?_ ?_
  · have e : absT db s' = absT db rpre.js := by rw [r2, hJ]; exact i.undo
    exact e
  · rw [r6, hL]; exact i.logs

theorem _root_.Revm.Spec.JournalAbs.JRefs.of_pushes {db : Db} {s s' : JState} {es : List Entry} (h : JRefs s) (p : Pushes db s s' es)
    (hne : s.journal ≠ []) : JRefs s' := by
  obtain ⟨top, rest, hj⟩ : ∃ top rest, s.journal = top :: rest := by
    cases hj : s.journal with
    | nil => exact absurd hj hne
    | cons t r => exact ⟨t, r, rfl⟩
  intro l hl e he
  rw [p.journal top rest hj] at hl
  rcases List.mem_cons.1 hl with rfl | hl
  · rcases List.mem_append.1 he with he | he
    · exact p.refs e he
    · exact refsOk_mono p.grows (h top (by rw [hj]; simp) e he)
  · exact refsOk_mono p.grows (h l (by rw [hj]; simp [hl]) e he)

theorem _root_.Revm.Spec.JournalAbs.JRefs.of_same {s s' : JState} (h : JRefs s) (h1 : s'.state = s.state) (h2 : s'.journal = s.journal) :
    JRefs s' := by
  intro l hl e he
  rw [h2] at hl
  exact refsOk_congr h1 (h l hl e he)

theorem _root_.Revm.Spec.JournalAbs.JRefs.checkpoint {s : JState} (h : JRefs s) : JRefs (checkpoint s).1 := by
  intro l hl e he
  change l ∈ [] :: s.journal at hl
  rcases List.mem_cons.1 hl with rfl | hl
  · cases he
  · exact refsOk_congr (s := s) rfl (h l hl e he)

theorem jrefs_step {hasStorage : Addr → Bool} (hdb : DbOk db hasStorage) {r r' : Run} {op : Op} {b : Nat}
    (hbal : BalOk (absT db r.js)) (hne : r.js.journal ≠ []) (hr : JRefs r.js)
    (hadm : admissible db hasStorage b r op = true) (hs : Spec.JournalAbs.step db r op = some r') :
    JRefs r'.js := by
  rcases step_shape hdb hbal hadm hs with ⟨es, p, _⟩ | ⟨es, p, _⟩ | ⟨l, rfl⟩ | ⟨i, cp, _, _, h1, _⟩
  · exact hr.of_pushes p hne
  · exact hr.checkpoint.of_pushes p (by simp [Model.Journal.checkpoint])
  · exact hr.of_same rfl rfl
  · obtain ⟨_, s1, _, e⟩ := revert_some h1
    intro l hl e' he
    rw [e] at hl
    exact refsOk_mono (revert_grows h1) (hr l (List.mem_of_mem_drop hl) e' he)

theorem jrefs_run {hasStorage : Addr → Bool} (hdb : DbOk db hasStorage) (ops : List Op) {r r' : Run}
    (h : Inv db J L x0 logs0 spec0 pre0 base r) (hr : JRefs r.js)
    (hadm : admissibleRun db hasStorage base r ops = true) (hrun : run db r ops = some r') : JRefs r'.js := by
  induction ops generalizing r with
  | nil => simp [run] at hrun; subst hrun; exact hr
  | cons op ops ih =>
    simp only [run] at hrun
    simp only [admissibleRun, Bool.and_eq_true] at hadm
    cases hs : Spec.JournalAbs.step db r op with
    | none => simp [hs] at hrun
    | some r1 =>
      simp only [hs] at hrun hadm
      have hne : r.js.journal ≠ [] := by
        intro e; have := h.len; rw [e] at this; simp at this
      exact ih (inv_step hdb h hadm.1 hs) (jrefs_step hdb h.bal hne hr hadm.1 hs) hadm.2 hrun


/-- C06, total form: as `revert_restores_core`, and the revert itself does not panic, from a state whose journal has a
level and refers to present entries only (`JRefs`: true of `JournaledState::new`, kept by every operation) -/
theorem revert_restores_total {hasStorage : Addr → Bool} (hdb : DbOk db hasStorage) {rpre r0 r : Run} {op : Op}
    {cp : Checkpoint} {ops : List Op}
    (hbal : BalOk (absT db rpre.js)) (hrefs : JRefs rpre.js) (hne : rpre.js.journal ≠ [])
    (hadm0 : admissible db hasStorage 0 rpre op = true)
    (hs : Spec.JournalAbs.step db rpre op = some r0) (hcp : r0.cps = rpre.cps ++ [cp])
    (hadm : admissibleRun db hasStorage (rpre.cps.length + 1) r0 ops = true)
    (hr : run db r0 ops = some r) :
    ∃ s', Model.Journal.revert r.js cp = some s' ∧ AbsEq db s' rpre.js := by
  obtain ⟨hcpe, i0⟩ := inv_init hdb hbal hadm0 hs hcp
  have i := inv_run hdb ops i0 hadm hr
  have j0 : JRefs r0.js := jrefs_step hdb hbal hne hrefs hadm0 hs
  have j := jrefs_run hdb ops i0 j0 hadm hr
  have hJ : cp.journalI = rpre.js.journal.length := by rw [hcpe]; rfl
  obtain ⟨s', h1, _, _⟩ := revert_isSome (cp := cp) j (by rw [hJ]; exact Nat.le_of_lt i.len)
  exact ⟨s', h1, revert_restores_core hdb hbal hadm0 hs hcp hadm hr h1⟩

end Revm.Proofs.Journal
