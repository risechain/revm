import Revm.Proofs.EvmRefineWorld
import Revm.Proofs.EvmRefineCpOps
import Revm.Proofs.EvmFrame
/-! The frame obligations of the simulation, the strict journal machine against the snapshot machine: `make_call_frame`
(value step, precompile dispatch, EIP-7702 hop) and `call_return` (`makeCallFrame_rr`, `callRet_rr`); `make_create_frame`
and `create_return` (`makeCreateFrame_rr`, `createRet_rr`). Each follows the stages of `Proofs/EvmFrame.lean` with one
`RR.bind` per world operation. -/
namespace Revm.Proofs.EvmRefine
open Revm Revm.Model Revm.Model.Journal Revm.Spec.JournalAbs Revm.Proofs.Journal Revm.Proofs.Frame
open Revm.Model.Evm
open Revm.Spec.Evm (Snap snapshotOps journalOpsStrict)
open Revm.Proofs.EvmRR Revm.Proofs.EvmSim Revm.Proofs.EvmFrame

variable {ks1 : List Checkpoint} {ks2 : List Snap} {w1 w2 : World}

theorem callRet_rr (k1 : Checkpoint) (k2 : Snap) (r : Interp.ChildResult) (hR : CfgRel (k1 :: ks1) w1 (k2 :: ks2) w2) :
    RR (ValRel CfgRel ks1 ks2) (callReturn journalOpsStrict w1 k1 r) (callReturn snapshotOps w2 k2 r) := by
  unfold callReturn
  by_cases hok : r.result.isOk = true
  · rw [if_pos hok, if_pos hok]; exact RR.pure ⟨rfl, commit_rel hR⟩
  · rw [if_neg hok, if_neg hok]
    refine RR.bind (revert_rr hR) ?_
    intro a b hab
    exact RR.pure ⟨rfl, hab⟩

theorem callRet_rel (k1 : Checkpoint) (ks1 : List Checkpoint) (w1 : World) (k2 : Snap) (ks2 : List Snap) (w2 : World)
    (r r1 : Interp.ChildResult) (w1' : World) (hR : CfgRel (k1 :: ks1) w1 (k2 :: ks2) w2)
    (h : callReturn journalOps w1 k1 r = .ok (r1, w1')) :
    ∃ w2', callReturn snapshotOps w2 k2 r = .ok (r1, w2') ∧ CfgRel ks1 w1' ks2 w2' :=
  ValRel.ok (callRet_rr k1 k2 r hR) h

theorem runPrecompile_eq (h : CfgRel ks1 w1 ks2 w2) (spec a : Nat) (input : List Nat) (g : Nat) :
    runPrecompile w2 spec a input g = runPrecompile w1 spec a input g := by
  unfold runPrecompile; rw [h.w.pc]

theorem callValueStep_rr (h : CfgRel ks1 w1 ks2 w2) (i : Interp.CallInputs) :
    RR (WV ks1 ks2) (callValueStep w1 i) (callValueStep w2 i) := by
  unfold callValueStep
  by_cases hv : i.valueTransfer = true
  · rw [if_pos hv, if_pos hv]
    by_cases hz : i.value = 0
    · rw [if_pos hz, if_pos hz]
      refine RR.bind (wLoadAccount_rr h _) ?_
      rintro ⟨wa, c⟩ ⟨wb, c'⟩ ⟨hc, hr⟩
      refine RR.bind (wTouch_rr hr _) ?_
      intro wc wd hr2
      exact RR.pure ⟨rfl, hr2⟩
    · rw [if_neg hz, if_neg hz]
      refine RR.bind (wTransfer_rr h _ _ _) ?_
      rintro ⟨wa, e⟩ ⟨wb, e'⟩ ⟨he, hr⟩
      simp only at he hr
      subst he
      cases e with
      | none => exact RR.pure ⟨rfl, hr⟩
      | some e => cases e <;> exact RR.pure ⟨rfl, hr⟩
  · rw [if_neg hv, if_neg hv]; exact RR.pure ⟨rfl, h⟩

theorem callTail_rr {k1 : Checkpoint} {k2 : Snap} (cfg : Cfg) (i : Interp.CallInputs) (mem : Memory.SharedMemory)
    (h : CfgRel (k1 :: ks1) w1 (k2 :: ks2) w2) :
    RR (ForRel CfgRel ks1 ks2) (callTail journalOpsStrict cfg w1 k1 i mem) (callTail snapshotOps cfg w2 k2 i mem) := by
  simp only [callTail]
  refine fetch_rr h i.bytecodeAddress fun wa wb c x y bytecode F => ?_
  have hr := F.rel
  by_cases hem : bytecode.isEmpty = true
  · simp only [hem, if_true]
    exact RR.pure ⟨rfl, commit_rel hr⟩
  · simp only [hem, Bool.false_eq_true, if_false]
    cases hd : delegateOf bytecode with
    | none =>
      simp only [pure_bind]
      exact RR.pure ⟨⟨rfl, rfl⟩, hr⟩
    | some d =>
      simp only [bind_assoc, pure_bind]
      refine fetch_rr hr d fun wc wd c3 x3 y3 dcode F3 => ?_
      exact RR.pure ⟨⟨rfl, rfl⟩, F3.rel⟩

theorem callPrecompile_rr {k1 : Checkpoint} {k2 : Snap} (cfg : Cfg) (i : Interp.CallInputs) (mem : Memory.SharedMemory)
    (h : CfgRel (k1 :: ks1) w1 (k2 :: ks2) w2) :
    RR (ForRel CfgRel ks1 ks2) (callPrecompile journalOpsStrict cfg w1 k1 i mem)
      (callPrecompile snapshotOps cfg w2 k2 i mem) := by
  unfold callPrecompile
  rw [runPrecompile_eq h]
  refine RR.bindSame _ fun o => ?_
  have rev : ∀ (x : Interp.IResult), RR (ForRel CfgRel ks1 ks2)
      (journalOpsStrict.revert w1 k1 >>= fun w => pure (FrameOrResult.result (earlyResult x i.gasLimit), w))
      (snapshotOps.revert w2 k2 >>= fun w => pure (FrameOrResult.result (earlyResult x i.gasLimit), w)) :=
    fun x => RR.bind (revert_rr h) (fun a b hab => RR.pure ⟨rfl, hab⟩)
  cases o with
  | none => exact callTail_rr cfg i mem h
  | some res =>
    cases res with
    | ok gasUsed out =>
      simp only
      by_cases hg : gasUsed ≤ i.gasLimit
      · simp only [hg, if_true]; exact RR.pure ⟨rfl, commit_rel h⟩
      · simp only [hg, if_false]; exact rev _
    | err e => simp only; exact rev _
    | panic => exact RR.throw trivial

theorem makeCallFrame_rr (cfg : Cfg) (i : Interp.CallInputs) (mem : Memory.SharedMemory) (h : CfgRel ks1 w1 ks2 w2) :
    RR (ForRel CfgRel ks1 ks2) (makeCallFrame journalOpsStrict cfg w1 i mem) (makeCallFrame snapshotOps cfg w2 i mem) := by
  rw [makeCallFrame_staged, makeCallFrame_staged]
  unfold makeCallFrameS
  rw [← h.w.rel.depth]
  by_cases hd : w1.js.depth > CALL_STACK_LIMIT
  · simp only [hd, if_true]; exact RR.pure ⟨rfl, h⟩
  · simp only [hd, if_false]
    refine RR.bind (wLoadAccountDelegated_rr h _) ?_
    rintro ⟨wa, r⟩ ⟨wb, r'⟩ ⟨_, hr⟩
    have hcp : CfgRel ((journalOpsStrict.checkpoint wa).2 :: ks1) (journalOpsStrict.checkpoint wa).1
        ((snapshotOps.checkpoint wb).2 :: ks2) (snapshotOps.checkpoint wb).1 := checkpoint_rel hr
    refine RR.bind (callValueStep_rr hcp i) ?_
    rintro ⟨wc, f⟩ ⟨wd, f'⟩ ⟨hf, hr2⟩
    simp only at hf hr2
    subst hf
    cases f with
    | none => exact callPrecompile_rr cfg i mem hr2
    | some r =>
      exact RR.bind (revert_rr hr2) (fun a b hab => RR.pure ⟨rfl, hab⟩)

/-- `make_call_frame` never reaches an admissibility check: the strict machine's is the model's -/
theorem makeCallFrame_rel (cfg : Cfg) (i : Interp.CallInputs) (mem : Memory.SharedMemory)
    (h : CfgRel ks1 w1 ks2 w2) {x1 : FrameOrResult Checkpoint × World}
    (hl : makeCallFrame journalOps cfg w1 i mem = .ok x1) :
    ∃ x2, makeCallFrame snapshotOps cfg w2 i mem = .ok x2 ∧ ForRel CfgRel ks1 ks2 x1 x2 :=
  (makeCallFrame_rr cfg i mem h).ok hl

variable {ks1 : List Checkpoint} {ks2 : List Snap} {w1 w2 : World}

theorem incNonce_dom_some {s s' : JState} {a : Addr} {r} (h : incNonce s a = some (s', r)) : (s.state a).isSome := by
  obtain ⟨acc, hs, _⟩ := incNonce_some h
  rw [hs]; rfl

theorem isPrecompile_ne3 {spec a : Nat} (h : isPrecompile spec a = false) : a ≠ PRECOMPILE3 := by
  intro e
  subst e
  simp [isPrecompile, PRECOMPILE3] at h

theorem createTail_rr (cfg : Cfg) (i : Interp.CreateInputs) (mem : Memory.SharedMemory) (created : Nat)
    (h : CfgRel ks1 w1 ks2 w2) {acc0 : Acct} (hc : w1.js.state i.caller = some acc0) (hv : i.value ≤ acc0.info.balance) :
    RR (ForRel CfgRel ks1 ks2) (createTail journalOpsStrict cfg w1 i mem created)
      (createTail snapshotOps cfg w2 i mem created) := by
  unfold createTail
  by_cases hpc : isPrecompile cfg.spec created = true
  · simp only [hpc, if_true]; exact RR.pure ⟨rfl, h⟩
  · simp only [hpc, Bool.false_eq_true, if_false]
    have hpc' : isPrecompile cfg.spec created = false := by
      cases hh : isPrecompile cfg.spec created <;> simp_all
    refine RR.bind (RR.withEq (wLoadAccount_rr h created)) ?_
    rintro ⟨wc, c3⟩ ⟨wd, c3'⟩ ⟨⟨_, hr3⟩, h3, _⟩
    simp only at hr3
    have hfund : ∀ acc, wc.js.state i.caller = some acc → i.value ≤ acc.info.balance := by
      intro acc hacc
      obtain ⟨acc3, h3a, hi3⟩ := loadAccount_info (EvmHost.loadAccount_ok h3).1 i.caller acc0 hc
      rw [hacc] at h3a
      cases h3a
      rw [hi3]; exact hv
    refine RR.bind (createCheckpoint_rr hr3 (isPrecompile_ne3 hpc') hfund) ?_
    rintro ⟨we, r⟩ ⟨wf, r'⟩ hres
    simp only at hres
    cases r with
    | error e =>
      cases r' with
      | ok _ => exact hres.elim
      | error e' =>
        obtain ⟨he, hrr⟩ := hres
        subst he
        cases e <;> exact RR.pure ⟨rfl, hrr⟩
    | ok cp =>
      cases r' with
      | error _ => exact hres.elim
      | ok snap => exact RR.pure ⟨⟨rfl, rfl⟩, hres⟩

theorem makeCreateFrame_rr (cfg : Cfg) (i : Interp.CreateInputs) (mem : Memory.SharedMemory) (h : CfgRel ks1 w1 ks2 w2) :
    RR (ForRel CfgRel ks1 ks2) (makeCreateFrame journalOpsStrict cfg w1 i mem)
      (makeCreateFrame snapshotOps cfg w2 i mem) := by
  rw [makeCreateFrame_staged, makeCreateFrame_staged]
  unfold makeCreateFrameS
  rw [← h.w.rel.depth]
  by_cases hd : w1.js.depth > CALL_STACK_LIMIT
  · simp only [hd, if_true]; exact RR.pure ⟨rfl, h⟩
  · simp only [hd, if_false]
    refine RR.bind (wLoadAccount_rr h _) ?_
    rintro ⟨wa, c⟩ ⟨wb, c'⟩ ⟨_, hr⟩
    simp only at hr
    refine RR.bind (acct_rr hr _) ?_
    rintro x y ⟨ar, hxs, hys⟩
    have eb : x.info.balance = y.info.balance := ar.1
    simp only
    rw [← eb]
    by_cases hf : x.info.balance < i.value
    · simp only [hf, if_true]; exact RR.pure ⟨rfl, hr⟩
    · simp only [hf, if_false]
      have hinc : RR (fun p1 p2 => p1.2 = p2.2 ∧ Journal.incNonce wa.js i.caller = some p1 ∧
            CfgRel ks1 { wa with js := p1.1 } ks2 { wb with js := p2.1 })
          (ofOpt "inc_nonce" (Journal.incNonce wa.js i.caller)) (ofOpt "inc_nonce" (Journal.incNonce wb.js i.caller)) := by
        refine RR.ofSim _ (fun p hp => ?_) (incNonce_rel (db := dbPre wa.pre) hr.w.rel.symm)
        obtain ⟨s', hs, hc⟩ := wIncNonce_rel hr (j' := p.1) (r := p.2) hp
        exact ⟨(s', p.2), hs, rfl, hp, hc⟩
      refine RR.bind hinc ?_
      rintro ⟨j2, nn⟩ ⟨s2, nn'⟩ ⟨hnn, hj, hr2⟩
      simp only at hnn hj hr2
      subst hnn
      cases nn with
      | none => exact RR.pure ⟨rfl, hr2⟩
      | some newNonce =>
        obtain ⟨acc2, hacc2, hb2⟩ := incNonce_balance hj hxs
        exact createTail_rr cfg i mem _ hr2 hacc2 (by rw [hb2]; omega)

theorem makeCreateFrame_rel (cfg : Cfg) (i : Interp.CreateInputs) (mem : Memory.SharedMemory)
    (h : CfgRel ks1 w1 ks2 w2) {x1 : FrameOrResult Checkpoint × World}
    (hl : makeCreateFrame journalOpsStrict cfg w1 i mem = .ok x1) :
    ∃ x2, makeCreateFrame snapshotOps cfg w2 i mem = .ok x2 ∧ ForRel CfgRel ks1 ks2 x1 x2 :=
  (makeCreateFrame_rr cfg i mem h).ok hl

theorem createRet_rr (cfg : Cfg) (k1 : Checkpoint) (k2 : Snap) (a : Nat) (r : Interp.ChildResult)
    (hR : CfgRel (k1 :: ks1) w1 (k2 :: ks2) w2) :
    RR (ValRel CfgRel ks1 ks2) (createReturn journalOpsStrict cfg w1 k1 a r) (createReturn snapshotOps cfg w2 k2 a r) := by
  rw [createReturn_eq, createReturn_eq]
  obtain ⟨x, o⟩ := createVerdict cfg a r
  cases o with
  | none => exact RR.bind (revert_rr hR) (fun a b hab => RR.pure ⟨rfl, hab⟩)
  | some p => exact RR.bind (setCode_rr (commit_rel hR) a p.1) (fun wa wb hab => RR.pure ⟨rfl, addCode_rel hab _ _⟩)

end Revm.Proofs.EvmRefine
