import Revm.Model.Evm
import Revm.Proofs.JournalPushes
/-! The journal-backed `Host` of the whole-transaction model against the abstraction of the journaled state (`Spec.JournalAbs.absAcct`):
what the interpreter receives for BALANCE, SLOAD, SSTORE is what the abstract state holds (`loadAccount_abs`, `sload_agrees`,
`sstore_agrees`). Also the inversions of the world's own bookkeeping that the modules above use: `ofOpt_ok`, `loadAccount_ok` /
`loadCode_ok`, the field lemmas of `noteAddr` / `noteSlot` / `addCode`. -/
namespace Revm.Proofs.EvmHost
open Revm Revm.Model Revm.Model.Evm Revm.Model.Journal
open Revm.Spec.JournalAbs

theorem ofOpt_ok {α} {msg : String} {o : Option α} {a : α} (h : ofOpt msg o = .ok a) : o = some a := by
  cases o with
  | none => simp [ofOpt] at h
  | some x => simp [ofOpt] at h; rw [h]

theorem ofOpt_bind_ok {α β} {msg : String} {o : Option α} {f : α → R β} {b : β} (h : (ofOpt msg o >>= f) = .ok b) :
    ∃ a, o = some a ∧ f a = .ok b := by
  cases o with
  | none => cases h
  | some a => exact ⟨a, rfl, h⟩

theorem absAcct_some (db : Db) (s : JState) (a : Addr) (acc : Acct) (h : s.state a = some acc) :
    (absAcct db s a).balance = acc.info.balance ∧ (absAcct db s a).nonce = acc.info.nonce ∧
    (absAcct db s a).codeHash = acc.info.codeHash ∧ (absAcct db s a).warm = !acc.cold ∧
    (absAcct db s a).slot = absSlot db a (some acc) := by
  simp only [absAcct, h, and_self]

theorem absAcct_none (db : Db) (s : JState) (a : Addr) (h : s.state a = none) :
    (absAcct db s a).balance = ((db.basic a).getD Info.default).balance ∧
    (absAcct db s a).nonce = ((db.basic a).getD Info.default).nonce ∧
    (absAcct db s a).codeHash = ((db.basic a).getD Info.default).codeHash ∧
    (absAcct db s a).warm = s.preloaded a := by
  simp only [absAcct, h, and_self]

/-- the account as `Database::basic` gives it, not yet loaded into the journal -/
def dbAcct (db : Db) (a : Addr) : Acct :=
  match db.basic a with
  | some i => Acct.ofInfo i
  | none => Acct.newNotExisting

theorem dbAcct_info (db : Db) (a : Addr) : (dbAcct db a).info = (db.basic a).getD Info.default := by
  unfold dbAcct
  cases db.basic a <;> rfl

theorem loadAccount_state {db : Db} {s s' : JState} {a : Addr} {c : Bool} (h : Journal.loadAccount db s a = some (s', c)) :
    s'.state = (setAcct s a (match s.state a with
      | some x => { x with cold := false }
      | none => dbAcct db a)).state ∧
    c = (match s.state a with
      | some x => x.cold
      | none => !s.preloaded a) :=
  Proofs.Journal.loadAccount_state h

theorem dbAcct_fields (db : Db) (a : Addr) :
    (dbAcct db a).created = false ∧ (dbAcct db a).selfdestructed = false ∧ (dbAcct db a).touched = false ∧
    (dbAcct db a).notExisting = (db.basic a).isNone ∧ (dbAcct db a).storage = fun _ => none := by
  unfold dbAcct
  cases db.basic a <;> exact ⟨rfl, rfl, rfl, rfl, rfl⟩

/-- `load_account`: cold flag and the loaded account against the abstraction -/
theorem loadAccount_abs (db : Db) (s s' : JState) (a : Addr) (cold : Bool)
    (h : Journal.loadAccount db s a = some (s', cold)) :
    cold = !(absAcct db s a).warm ∧
    ∃ acc, s'.state a = some acc ∧ acc.info.balance = (absAcct db s a).balance ∧
      acc.info.nonce = (absAcct db s a).nonce ∧ acc.info.codeHash = (absAcct db s a).codeHash := by
  obtain ⟨hst, hc⟩ := loadAccount_state h
  cases hs : s.state a with
  | some x =>
    rw [hs] at hst hc
    obtain ⟨hb, hn, hch, hwarm, _⟩ := absAcct_some db s a x hs
    rw [hb, hn, hch, hwarm, hc, hst]
    exact ⟨by simp, { x with cold := false }, by simp [setAcct], rfl, rfl, rfl⟩
  | none =>
    rw [hs] at hst hc
    obtain ⟨hb, hn, hch, hwarm⟩ := absAcct_none db s a hs
    rw [hb, hn, hch, hwarm, hc, hst]
    rw [← dbAcct_info]
    exact ⟨rfl, dbAcct db a, by simp [setAcct], rfl, rfl, rfl⟩

theorem noteAddr_contains (w : World) (a b : Nat) :
    (w.noteAddr a).addrs.contains b = (w.addrs.contains b || b == a) := by
  unfold World.noteAddr
  by_cases h : w.addrs.contains a = true
  · rw [if_pos h]
    by_cases hb : b = a
    · subst hb; rw [h]; simp
    · simp [hb]
  · rw [if_neg h]
    simp only [List.contains_cons]
    rw [Bool.or_comm]

theorem noteAddr_fields (w : World) (a : Nat) :
    (w.noteAddr a).js = w.js ∧ (w.noteAddr a).pre = w.pre ∧ (w.noteAddr a).codes = w.codes ∧
    (w.noteAddr a).logs = w.logs ∧ (w.noteAddr a).pcOracle = w.pcOracle ∧
    (w.noteAddr a).dbHasStorage = w.dbHasStorage ∧ (w.noteAddr a).slots = w.slots := by
  unfold World.noteAddr
  by_cases h : w.addrs.contains a = true
  · rw [if_pos h]; exact ⟨rfl, rfl, rfl, rfl, rfl, rfl, rfl⟩
  · rw [if_neg h]; exact ⟨rfl, rfl, rfl, rfl, rfl, rfl, rfl⟩

theorem noteSlot_fields (w : World) (a k : Nat) :
    (w.noteSlot a k).js = w.js ∧ (w.noteSlot a k).pre = w.pre ∧ (w.noteSlot a k).codes = w.codes ∧
    (w.noteSlot a k).logs = w.logs ∧ (w.noteSlot a k).pcOracle = w.pcOracle ∧
    (w.noteSlot a k).dbHasStorage = w.dbHasStorage ∧ (w.noteSlot a k).addrs = w.addrs := by
  unfold World.noteSlot
  by_cases h : w.slots.contains (a, k) = true
  · rw [if_pos h]; exact ⟨rfl, rfl, rfl, rfl, rfl, rfl, rfl⟩
  · rw [if_neg h]; exact ⟨rfl, rfl, rfl, rfl, rfl, rfl, rfl⟩

theorem noteAddr_js (w : World) (a : Nat) : (w.noteAddr a).js = w.js := (noteAddr_fields w a).1

theorem noteSlot_js (w : World) (a k : Nat) : (w.noteSlot a k).js = w.js := (noteSlot_fields w a k).1

theorem loadAccount_ok {w w1 : World} {a : Addr} {c : Bool} (h : w.loadAccount a = .ok (w1, c)) :
    Journal.loadAccount w.db w.js a = some (w1.js, c) ∧ w1 = { w with js := w1.js }.noteAddr a := by
  obtain ⟨⟨js, c'⟩, t, e⟩ := ofOpt_bind_ok (show (ofOpt "load_account" (Journal.loadAccount w.db w.js a) >>= _) = _ from h)
  cases e
  exact ⟨by rw [noteAddr_js]; exact t, by rw [noteAddr_js]⟩

theorem loadCode_ok {w w1 : World} {a : Addr} {c : Bool} (h : w.loadCode a = .ok (w1, c)) :
    Journal.loadCode w.db w.js a = some (w1.js, c) ∧ w1 = { w with js := w1.js }.noteAddr a := by
  obtain ⟨⟨js, c'⟩, t, e⟩ := ofOpt_bind_ok (show (ofOpt "load_code" (Journal.loadCode w.db w.js a) >>= _) = _ from h)
  cases e
  exact ⟨by rw [noteAddr_js]; exact t, by rw [noteAddr_js]⟩

theorem addCode_js (w : World) (h : Nat) (c : List Nat) : (w.addCode h c).js = w.js := by
  unfold World.addCode
  split
  · rfl
  · split <;> rfl

theorem addCode_db_basic (w : World) (h : Nat) (c : List Nat) : (w.addCode h c).db.basic = w.db.basic := by
  unfold World.addCode
  split
  · rfl
  · split <;> rfl

theorem addCode_pre (w : World) (h : Nat) (c : List Nat) : (w.addCode h c).pre = w.pre := by
  unfold World.addCode
  split
  · rfl
  · split <;> rfl

theorem noteAddr_db (w : World) (a : Nat) : (w.noteAddr a).db = w.db := by
  unfold World.noteAddr; split <;> rfl

theorem sload_abs (db : Db) (s s' : JState) (a : Addr) (k v : Nat) (cold : Bool)
    (h : Journal.sload db s a k = some (s', v, cold)) :
    v = ((absAcct db s a).slot k).present ∧ cold = !((absAcct db s a).slot k).warm ∧
    ∃ acc' sl', s'.state a = some acc' ∧ acc'.storage k = some sl' ∧
      sl'.orig = ((absAcct db s a).slot k).orig ∧ sl'.present = ((absAcct db s a).slot k).present := by
  obtain ⟨_, hc, hv, acc', sl, h1, h2, h3, h4⟩ := Proofs.Journal.sload_pushes (db := db) h
  exact ⟨hv, hc, acc', sl, h1, h2, h4, h3.trans hv⟩

/-- SLOAD: value and cold flag are those of the abstract slot -/
theorem sload_agrees (he : HostEnv) (w w' : World) (a k : Nat) (resp : Interp.HostResp)
    (h : answer he w (.sload a k) = .ok (resp, w')) :
    resp.word = ((absAcct w.db w.js a).slot k).present ∧ resp.isCold = !((absAcct w.db w.js a).slot k).warm ∧
    resp.ok = true := by
  simp only [answer, bind, Except.bind] at h
  cases hl : Journal.sload w.db w.js a k with
  | none => rw [hl] at h; simp [ofOpt] at h
  | some p =>
    obtain ⟨js, v, cold⟩ := p
    rw [hl] at h
    simp only [ofOpt, pure, Except.pure, Except.ok.injEq, Prod.mk.injEq] at h
    obtain ⟨h1, _⟩ := h
    obtain ⟨hv, hc, _⟩ := sload_abs w.db w.js js a k v cold hl
    rw [← h1]
    exact ⟨hv, hc, rfl⟩

/-- SSTORE: the `SStoreResult` (original, present, new) and the cold flag, from which the gas and the refund of the
instruction are computed (C14), are those of the abstract slot -/
theorem sstore_agrees (he : HostEnv) (w w' : World) (a k v : Nat) (resp : Interp.HostResp)
    (h : answer he w (.sstore a k v) = .ok (resp, w')) :
    resp.original = ((absAcct w.db w.js a).slot k).orig ∧ resp.present = ((absAcct w.db w.js a).slot k).present ∧
    resp.new = v ∧ resp.isCold = !((absAcct w.db w.js a).slot k).warm := by
  simp only [answer, bind, Except.bind] at h
  cases hl : Journal.sstore w.db w.js a k v with
  | none => rw [hl] at h; simp [ofOpt] at h
  | some p =>
    obtain ⟨js, o, pr, n, cold⟩ := p
    rw [hl] at h
    simp only [ofOpt, pure, Except.pure, Except.ok.injEq, Prod.mk.injEq] at h
    obtain ⟨h1, _⟩ := h
    rw [← h1]
    simp only
    -- `sstore` is `sload` (which caches the slot `sl`) and then the write
    obtain ⟨s1, acc, sl, hsl, hst, hk, ho, hn, _⟩ := Proofs.Journal.sstore_some hl
    obtain ⟨hv, hc, acc', sl', hst', hsl', hor, _⟩ := sload_abs w.db w.js s1 a k pr cold hsl
    cases hst.symm.trans hst'
    cases hk.symm.trans hsl'
    exact ⟨ho.trans hor, hv, hn, hc⟩

end Revm.Proofs.EvmHost
