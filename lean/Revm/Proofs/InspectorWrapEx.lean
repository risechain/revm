import Revm.Model.InspectorWrap
/-! Concrete small machines for C28: witnesses that the hypotheses of the theorems are satisfiable, and the
machine showing that `GasInspector`'s outcome modification IS visible to a consumer that reads the gas of an
error-class outcome. -/
namespace Revm.Proofs.InspectorWrap
open Revm Revm.Model.InspectorWrap

def unitTy : Ty :=
  { E := Unit, Rest := Unit, Mem := Unit, CallIn := Unit, CreateIn := Unit, EofIn := Unit, FrameData := Unit,
    Err := Unit, Log := Unit, SD := Unit }

def unitOps : EnvOps unitTy :=
  { logs := fun _ => [], journalLastLen := fun _ => 0, sdInfo := fun _ _ _ => (), depth := fun _ => 0,
    txGasLimit := fun _ => 100000 }

def unitIo : InterpOps unitTy :=
  { push := fun st _ => st, setReturnData := fun st _ => st, isEof := fun _ => false, memSet := fun m _ _ => m }

/-- an `InvalidJump` halt with 40 of 100 gas left -/
def haltResult : InterpreterResult :=
  { result := .InvalidJump, output := [], gas := { limit := 100, remaining := 40, refunded := 0 } }

def unitState : IState unitTy :=
  { ip := 0, instructionResult := .Continue, gas := Revm.Model.Gas.new 100, mem := (), nextAction := .none, rest := () }

/-- a machine whose first `call` halts at once with gas left, with the MAINNET outcome consumers -/
def mainnetLike : Machine unitTy Unit where
  fetch _ := 0
  table _ st c := ({ st with instructionResult := .InvalidJump }, c)
  takeError c := .ok c
  call c _ := .ok (.result { result := haltResult, memoryOffset := (0, 0) }, c)
  create c _ := .ok (.frame unitState (), c)
  eofcreate c _ := .ok (.result { result := haltResult, address := none }, c)
  callReturn c _ r := .ok ({ result := r, memoryOffset := (0, 0) }, c)
  createReturn c _ r := .ok ({ result := r, address := none }, c)
  eofcreateReturn c _ r := .ok ({ result := r, address := none }, c)
  insertCallOutcome c f sh o := mainnetInsertCall unitIo (fun c => .ok c) c f sh o
  insertCreateOutcome c f o := mainnetInsertCreate unitIo (fun c => .ok c) c f o
  insertEofcreateOutcome c f o := mainnetInsertEofcreate unitIo (fun c => .ok c) c f o
  lastFrameReturn c r := .ok (lastFrameReturn (unitOps.txGasLimit c) r, c)
  newContext m := m
  freeContext m := m
  emptyMem := ()
  newMem := ()

theorem mainnetLike_consumers : MainnetConsumers unitOps unitIo mainnetLike where
  insertCall _ _ _ _ := rfl
  insertCreate _ _ _ := rfl
  insertEofcreate _ _ _ := rfl
  last _ _ := rfl

/-- the same machine, but `last_frame_return` hands the first frame's gas record on unchanged, i.e. it READS
the gas of an error-class outcome -/
def leaky : Machine unitTy Unit := { mainnetLike with lastFrameReturn := fun c r => .ok (r, c) }

def emptyW {S : Type} (s : S) : WState unitTy S := { obs := s, callStack := [], createStack := [], eofStack := [] }

end Revm.Proofs.InspectorWrap
