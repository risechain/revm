import Revm.Model.Static
import Revm.Spec.Activation
import Revm.Proofs.TableRow
/-! C10: reading of the generated static-mode table (`Revm.Gen.staticTable`, `Revm.Gen.staticChild`): the
Boolean checks that `decide +kernel` evaluates over the whole table in `Props/C10.lean`, and the lemmas that
turn a successful check into statements about single entries. An entry is `res*100 + mut*10 + act`
(harness/src/c10.rs: result, 1 iff the host saw a mutating call, action emitted); 999 = not executed, EOF validation
rejecting the opcode. -/
namespace Revm.Proofs.Static
open Revm Revm.Model.Static

def codeRes (c : Nat) : Nat := c / 100
def codeMut (c : Nat) : Nat := c / 10 % 10
def codeAct (c : Nat) : Nat := c % 10

/-- res code of harness/src/c10.rs -/
def resCode : Res → Nat
  | .stateChange => 1 | .callNotAllowed => 2 | .notActivated => 3 | .opcodeNotFound => 4
  | .eofDisabledInLegacy => 5 | .callOrCreate => 6 | _ => 8

/-- act code of harness/src/c10.rs for an action emitted by the model (always a call with `is_static = true`) -/
def actCode : Option Act → Nat
  | none => 0
  | some a => if !a.childStatic then 5 else if a.valueZero then 1 else if a.scheme = .callCode then 6 else 2

/-- no mutating host call, and no action other than a call with `is_static = true` that moves nothing between
accounts (value 0, or CALLCODE) -/
def safeCode (c : Nat) : Bool :=
  Nat.beq (c % 100) 0 || Nat.beq (c % 100) 1 || Nat.beq (c % 100) 6

def callOps : List Nat := [0xf1, 0xf2, 0xf4, 0xfa, 0xf8, 0xf9, 0xfb]
/-- guarded and call opcodes that EOF validation admits: these are executed in EOF mode -/
def eofExecuted : List Nat := [0x55, 0x5d, 0xa0, 0xa1, 0xa2, 0xa3, 0xa4, 0xec, 0xf8, 0xf9, 0xfb]

/-- what the model predicts for a call opcode on the table's probe (17 equal stack words, ample gas); 998, the code
of no entry, where it answers `none` -/
def expectedCall (spec : Nat) (eof : Bool) (fill op : Nat) : Nat :=
  match stepStatic spec eof op 10000000 (List.replicate 17 fill) with
  | some o => resCode o.res * 100 + actCode o.act
  | none => 998

/-- A row is (spec, EOF flag, stack fill, the 256 codes by opcode). The pass over every entry does not mention `spec`
or `fill`, so the kernel, which remembers what it has evaluated, shares it between rows; only the guarded opcodes and
the call family are compared with the model. -/
def rowOk : Nat × Nat × Nat × List Nat → Bool
  | (spec, eof, fill, codes) =>
    Nat.beq codes.length 256 &&
    codes.zipIdx.all (fun (c, op) =>
      if c = 999 then Nat.beq eof 1 && !eofExecuted.contains op else safeCode c) &&
    (codes.zipIdx.filter fun (_, op) => guarded op || callOps.contains op).all fun (c, op) =>
      c == 999 || ((!guarded op || codeRes c == resCode (guardResult spec (Nat.beq eof 1) op)) &&
        (!callOps.contains op || c == expectedCall spec (Nat.beq eof 1) fill op))

theorem nbeq {a b : Nat} : Nat.beq a b = true ↔ a = b :=
  ⟨Nat.eq_of_beq_eq_true, fun h => by subst h; exact Nat.beq_refl a⟩

theorem safeCode_spec {c : Nat} (h : safeCode c = true) :
    codeMut c = 0 ∧ (codeAct c = 0 ∨ codeAct c = 1 ∨ codeAct c = 6) := by
  simp only [safeCode, Bool.or_eq_true, nbeq] at h
  unfold codeMut codeAct
  omega

theorem row_spec {spec eof fill : Nat} {codes : List Nat} (h : rowOk (spec, eof, fill, codes) = true)
    (op : Nat) (hop : op < 256) :
    (codes.getD op 999 = 999 ∨ (codeMut (codes.getD op 999) = 0 ∧
        (codeAct (codes.getD op 999) = 0 ∨ codeAct (codes.getD op 999) = 1 ∨ codeAct (codes.getD op 999) = 6))) ∧
    (guarded op = true → codes.getD op 999 = 999 ∨
        codeRes (codes.getD op 999) = resCode (guardResult spec (Nat.beq eof 1) op)) ∧
    (op ∈ callOps → codes.getD op 999 = 999 ∨ codes.getD op 999 = expectedCall spec (Nat.beq eof 1) fill op) ∧
    (Nat.beq eof 1 = false → codes.getD op 999 ≠ 999) ∧
    (Nat.beq eof 1 = true → op ∈ eofExecuted → codes.getD op 999 ≠ 999) := by
  simp only [rowOk, Bool.and_eq_true, nbeq] at h
  obtain ⟨⟨hlen, hall⟩, hmodel⟩ := h
  have hmem := getD_mem_zipIdx (hlen ▸ hop : op < codes.length) 999
  have hc := List.all_eq_true.mp hall _ hmem
  have hm := fun hf => List.all_eq_true.mp hmodel _ (List.mem_filter.mpr ⟨hmem, hf⟩)
  generalize codes.getD op 999 = c at hc hm ⊢
  simp only [Bool.or_eq_true, Bool.and_eq_true, Bool.not_eq_true', beq_iff_eq, List.contains_eq_mem,
    decide_eq_true_eq, decide_eq_false_iff_not] at hm
  by_cases h9 : c = 999
  · simp only [if_pos h9, Bool.and_eq_true, Bool.not_eq_true', List.contains_eq_mem, decide_eq_false_iff_not] at hc
    exact ⟨.inl h9, fun _ => .inl h9, fun _ => .inl h9, fun he => absurd hc.1 (by simp [he]), fun _ hx => absurd hx hc.2⟩
  · rw [if_neg h9] at hc
    refine ⟨.inr (safeCode_spec hc), fun hg => ?_, fun hx => ?_, fun _ => h9, fun _ _ => h9⟩
    · exact (hm (.inl hg)).imp_right fun h => h.1.resolve_left (by simp [hg])
    · exact (hm (.inr hx)).imp_right fun h => h.2.resolve_left (by simp [hx])

theorem enabled_cancun {spec : Nat} (h : 17 ≤ spec) : enabled spec CANCUN = true := by
  rw [enabled, canon, if_neg (by omega), if_neg (by omega), if_neg (by omega), if_neg (by omega), if_neg (by omega)]
  exact decide_eq_true h

/-- an opcode that exists for legacy code under `spec` (hand-written EIP table of C05) always reaches the guard in
static mode -/
theorem guardResult_legacy_exists {spec op : Nat} (hex : Spec.Activation.undefinedIn spec op = false) :
    guardResult spec false op = .stateChange := by
  by_cases h5 : op = 0x5d
  · subst h5
    simp [Spec.Activation.undefinedIn, Spec.Activation.introducedIn, Spec.Activation.CANCUN] at hex
    simp [guardResult, enabled_cancun hex]
  · by_cases hec : op = 0xec
    · subst hec
      simp [Spec.Activation.undefinedIn, Spec.Activation.introducedIn] at hex
    · simp [guardResult, h5, hec]

theorem guardResult_eof_osaka {spec op : Nat} (hs : OSAKA ≤ spec) : guardResult spec true op = .stateChange := by
  have h17 : 17 ≤ spec := Nat.le_trans (by decide) hs
  simp [guardResult, enabled_cancun h17]

/-- `staticChild` row: (spec, eof, parent flag, call opcode, child flag | 2 = no call emitted) -/
def childOk (r : Nat × Nat × Nat × Nat × Nat) : Bool :=
  let spec := r.1; let eof := r.2.1; let parent := r.2.2.1; let op := r.2.2.2.1; let child := r.2.2.2.2
  (match schemeOfOp op with
   | some s => Nat.beq child 2 || Nat.beq child (childIsStatic s (Nat.beq parent 1)).toNat
   | none => false) &&
  -- coverage: the opcode exists in that mode and fork => an action was emitted and its flag observed
  (if Nat.beq eof 0 then (Spec.Activation.undefinedIn spec op || !Nat.beq child 2)
   else (!(Nat.beq op 0xf8 || Nat.beq op 0xf9 || Nat.beq op 0xfb) || !Nat.beq child 2))

end Revm.Proofs.Static
