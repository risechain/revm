import Revm.Model.Evm
import Revm.Spec.Evm
import Revm.Proofs.Journal
import Revm.Proofs.EvmHost
import Revm.Proofs.Frame
/-! `JRel`: the journal state of the model and the state of the snapshot specification (`Spec.Evm`) are observably equal.
Both are `JState`s: the specification runs the same forward operations, which push journal entries it never reads back.
`OSim` is the shape of every congruence with respect to `JRel`. The `export` below puts nine `EvmHost` lemmas into this
namespace. -/
namespace Revm.Proofs.EvmRefine
open Revm Revm.Model Revm.Model.Journal Revm.Spec.JournalAbs Revm.Proofs.Journal
export Revm.Proofs.EvmHost (dbAcct dbAcct_info dbAcct_fields loadAccount_state noteAddr_contains noteAddr_fields noteSlot_fields addCode_js addCode_pre)

/-- entries of the two maps at one address: both absent, or both present with the same observable content -/
def EntryRel (db : Db) (a : Addr) : Option Acct → Option Acct → Prop
  | none, none => True
  | some x, some y =>
    x.info.balance = y.info.balance ∧ x.info.nonce = y.info.nonce ∧ x.info.codeHash = y.info.codeHash ∧
    x.created = y.created ∧ x.selfdestructed = y.selfdestructed ∧ x.touched = y.touched ∧
    x.notExisting = y.notExisting ∧ x.cold = y.cold ∧
    slotsOf db a x.created x.storage = slotsOf db a y.created y.storage
  | _, _ => False

/-- the code cache, when filled, holds the code of the hash -/
def CodeOk (s : JState) : Prop := ∀ a acc, s.state a = some acc → ∀ h, acc.info.code = some h → h = acc.info.codeHash

/-- same domain and same observable content, including the touched mark of 0x03 that C06's `maskT` hides. `jne` / `sne`:
`pushEntry` fails on an empty journal, on the specification side too; `cj` / `cs`: `CodeOk` of either side. -/
structure JRel (db : Db) (j s : JState) : Prop where
  ent : ∀ a, EntryRel db a (j.state a) (s.state a)
  tr : ∀ a k, tload j a k = tload s a k
  logs : j.logs = s.logs
  depth : j.depth = s.depth
  spec : j.spec = s.spec
  pre : j.preloaded = s.preloaded
  jne : j.journal ≠ []
  sne : s.journal ≠ []
  cj : CodeOk j
  cs : CodeOk s

def SameButJournal (s s' : JState) : Prop :=
  s'.state = s.state ∧ s'.transient = s.transient ∧ s'.logs = s.logs ∧ s'.depth = s.depth ∧ s'.spec = s.spec ∧
  s'.preloaded = s.preloaded ∧ s'.journal ≠ []

theorem pushEntry_some {s s' : JState} {e : Entry} (h : pushEntry s e = some s') : SameButJournal s s' := by
  obtain ⟨_, _, _, rfl⟩ := pushEntry_eq h; exact ⟨rfl, rfl, rfl, rfl, rfl, rfl, by simp⟩

theorem pushEntry_ne {s : JState} {e : Entry} (h : s.journal ≠ []) :
    ∃ s', pushEntry s e = some s' ∧ s'.state = s.state ∧ s'.transient = s.transient ∧ s'.logs = s.logs ∧
      s'.depth = s.depth ∧ s'.spec = s.spec ∧ s'.preloaded = s.preloaded ∧ s'.journal ≠ [] :=
  let ⟨s', hs⟩ := Frame.pushEntry_total e h; ⟨s', hs, pushEntry_some hs⟩

theorem JRel.of_same {db : Db} {j s j' s' : JState} (h : JRel db j s) (hj : SameButJournal j j')
    (hs : SameButJournal s s') : JRel db j' s' := by
  obtain ⟨a1, a2, a3, a4, a5, a6, a7⟩ := hj
  obtain ⟨b1, b2, b3, b4, b5, b6, b7⟩ := hs
  refine ⟨?_, ?_, ?_, ?_, ?_, ?_, a7, b7, ?_, ?_⟩
  · intro a; rw [a1, b1]; exact h.ent a
  · intro a k; simp only [tload, a2, b2]; exact h.tr a k
  · rw [a3, b3]; exact h.logs
  · rw [a4, b4]; exact h.depth
  · rw [a5, b5]; exact h.spec
  · rw [a6, b6]; exact h.pre
  · intro a acc hacc; rw [a1] at hacc; exact h.cj a acc hacc
  · intro a acc hacc; rw [b1] at hacc; exact h.cs a acc hacc

theorem JRel.setAcct {db : Db} {j s : JState} (h : JRel db j s) (a : Addr) (x y : Acct)
    (hxy : EntryRel db a (some x) (some y))
    (hx : ∀ c, x.info.code = some c → c = x.info.codeHash) (hy : ∀ c, y.info.code = some c → c = y.info.codeHash) :
    JRel db (Journal.setAcct j a x) (Journal.setAcct s a y) := by
  refine ⟨?_, h.tr, h.logs, h.depth, h.spec, h.pre, h.jne, h.sne, ?_, ?_⟩
  · intro b
    by_cases hb : b = a
    · subst hb; simpa [Journal.setAcct] using hxy
    · simpa [Journal.setAcct, hb] using h.ent b
  · intro b acc hacc
    by_cases hb : b = a
    · subst hb; simp [Journal.setAcct] at hacc; subst hacc; exact hx
    · simp [Journal.setAcct, hb] at hacc; exact h.cj b acc hacc
  · intro b acc hacc
    by_cases hb : b = a
    · subst hb; simp [Journal.setAcct] at hacc; subst hacc; exact hy
    · simp [Journal.setAcct, hb] at hacc; exact h.cs b acc hacc

theorem entryRel_symm {db : Db} {a : Addr} {p q : Option Acct} (h : EntryRel db a p q) : EntryRel db a q p := by
  cases p <;> cases q
  · trivial
  · exact h.elim
  · exact h.elim
  · obtain ⟨e1, e2, e3, e4, e5, e6, e7, e8, e9⟩ := h
    exact ⟨e1.symm, e2.symm, e3.symm, e4.symm, e5.symm, e6.symm, e7.symm, e8.symm, e9.symm⟩

theorem JRel.symm {db : Db} {j s : JState} (h : JRel db j s) : JRel db s j :=
  ⟨fun a => entryRel_symm (h.ent a), fun a k => (h.tr a k).symm, h.logs.symm, h.depth.symm, h.spec.symm, h.pre.symm,
   h.sne, h.jne, h.cs, h.cj⟩

/-- a completed step of the first computation is matched by one of the second, with `P`-related results -/
def OSim {α β : Type} (P : α → β → Prop) (o1 : Option α) (o2 : Option β) : Prop :=
  ∀ a, o1 = some a → ∃ b, o2 = some b ∧ P a b

section OSim
variable {α β γ δ : Type} {P : α → β → Prop} {Q : γ → δ → Prop}

theorem OSim.some {a : α} {b : β} (h : P a b) : OSim P (some a) (some b) :=
  fun _ ha => ⟨b, rfl, by cases ha; exact h⟩

theorem OSim.none {o2 : Option β} : OSim P none o2 := fun _ ha => nomatch ha

theorem OSim.bind {o1 : Option α} {o2 : Option β} {f : α → Option γ} {g : β → Option δ} (h : OSim P o1 o2)
    (hfg : ∀ a b, P a b → OSim Q (f a) (g b)) : OSim Q (o1 >>= f) (o2 >>= g) := by
  intro c hc
  cases o1 with
  | none => cases hc
  | some a =>
    obtain ⟨b, hb, hp⟩ := h a rfl
    subst hb
    exact hfg a b hp c hc

theorem OSim.map {o1 : Option α} {o2 : Option β} {f : α → γ} {g : β → δ} (h : OSim P o1 o2)
    (hfg : ∀ a b, P a b → Q (f a) (g b)) : OSim Q (o1.map f) (o2.map g) := by
  intro c hc
  cases o1 with
  | none => cases hc
  | some a =>
    obtain ⟨b, hb, hp⟩ := h a rfl
    subst hb
    cases hc
    exact ⟨g b, rfl, hfg a b hp⟩

theorem OSim.mono {P' : α → β → Prop} {o1 : Option α} {o2 : Option β} (h : OSim P o1 o2)
    (hpq : ∀ a b, P a b → P' a b) : OSim P' o1 o2 :=
  fun a ha => let ⟨b, hb, hp⟩ := h a ha; ⟨b, hb, hpq a b hp⟩

theorem OSim.withEq {o1 : Option α} {o2 : Option β} (h : OSim P o1 o2) :
    OSim (fun a b => P a b ∧ o1 = Option.some a ∧ o2 = Option.some b) o1 o2 :=
  fun a ha => let ⟨b, hb, hp⟩ := h a ha; ⟨b, hb, hp, ha, hb⟩

end OSim

theorem JRel.state {db : Db} {j s : JState} (h : JRel db j s) (a : Addr) :
    OSim (fun x y => EntryRel db a (some x) (some y) ∧ j.state a = some x ∧ s.state a = some y) (j.state a) (s.state a) := by
  intro x hx
  have := h.ent a
  rw [hx] at this
  cases hs : s.state a with
  | none => rw [hs] at this; exact this.elim
  | some y => rw [hs] at this; exact ⟨y, rfl, this, hx, rfl⟩

theorem JRel.push {db : Db} {j s : JState} (h : JRel db j s) (e : Entry) :
    OSim (fun j' s' => JRel db j' s' ∧ s'.state = s.state) (pushEntry j e) (pushEntry s e) := by
  intro j' hj
  obtain ⟨s', hs, _⟩ := pushEntry_ne (e := e) h.sne
  exact ⟨s', hs, h.of_same (pushEntry_some hj) (pushEntry_some hs), (pushEntry_some hs).1⟩

/-- `hdb` is `CodeOk` of the database; it has no name and is written out wherever a lemma needs it. -/
theorem dbAcct_code {db : Db} (hdb : ∀ b i, db.basic b = some i → ∀ hh, i.code = some hh → hh = i.codeHash) (a : Addr) :
    ∀ c, (dbAcct db a).info.code = some c → c = (dbAcct db a).info.codeHash := by
  unfold dbAcct
  cases hb : db.basic a with
  | none => intro c hc; simp [Acct.newNotExisting, Info.default] at hc ⊢; exact hc.symm
  | some i => intro c hc; exact hdb a i hb c hc

end Revm.Proofs.EvmRefine
