import Revm.Proofs.EvmLoop
import Revm.Proofs.EvmLinkGasLoop
import Revm.Proofs.EvmLinkNoFuel
/-! Termination: `Evm.runLoop` and `Evm.transact` end within `2 · gas + 1` iterations. The measure `mu` =
`2 · Σ (gas remaining of the frames on the stack) + number of frames` falls with every iteration of `run_the_loop`:
a continuing instruction consumes gas (`SDone`), an action pays for the child's gas and one more, a returning frame
hands back at most what it has left. No invariant is needed. `EvmTerm.runLoop_fuel` (`EvmLoop`) asks for fuel strictly above
the measure, one unit more than the iterations: hence `2 · gas_limit + 2` in `transact_terminates'`. -/
namespace Revm.Proofs.EvmLink
open Revm Revm.Model Revm.Model.Evm
open Revm.Proofs.Evm (Move iterate_moves frameEnd_move)

def gsum : List JFrame → Nat
  | [] => 0
  | f :: r => f.interp.gas.remaining + gsum r

def mu : Next Journal.Checkpoint → Nat
  | .run st _ => 2 * gsum st + st.length
  | .ended _ rest _ _ s _ => 2 * (s.gas.remaining + gsum rest) + rest.length + 1
  | .done _ _ => 0

theorem deliver_mu {kind : FrameKind} {o : Interp.ChildResult} {parent : JFrame} {rest : List JFrame}
    {mem : Memory.SharedMemory} {w : World} {nx} (h : deliver kind o parent rest mem w = .ok nx) :
    mu nx ≤ 2 * (parent.interp.gas.remaining + o.gasRemaining + gsum rest) + rest.length + 1 := by
  have hk := insertBy_kept kind o { parent.interp with mem := mem }
  rcases deliver_ok h with ⟨s, heq, rfl⟩ | ⟨r, out, s, heq, rfl⟩ <;> rw [heq] at hk
  · cases hk with
    | ok hs _ =>
      have e2 : s.gas.remaining ≤ parent.interp.gas.remaining + o.gasRemaining := hs.rem
      show 2 * (s.gas.remaining + gsum rest) + (rest.length + 1) ≤ _
      omega
  · cases hk with
    | halt hs =>
      have e2 : s.gas.remaining ≤ parent.interp.gas.remaining + o.gasRemaining := hs.rem
      show 2 * (s.gas.remaining + gsum rest) + rest.length + 1 ≤ _
      omega

/-- a move that completes an iteration lowers the measure; `halt` does not raise it -/
theorem move_mu {cfg : Cfg} {b : Bool} {n m : Next Journal.Checkpoint} (h : Move journalOps cfg b n m) :
    mu m + b.toNat ≤ mu n := by
  cases h with
  | @next top rest _ s _ hr =>
    cases hr.strict with | next hk hg =>
    show 2 * (s.gas.remaining + gsum rest) + (rest.length + 1) + 1 ≤
      2 * (top.interp.gas.remaining + gsum rest) + (rest.length + 1)
    omega
  | @halt top rest _ _ _ s _ hr =>
    cases hr.strict with | halt hk _ =>
    have := hk.rem
    show 2 * (s.gas.remaining + gsum rest) + rest.length + 1 + 0 ≤
      2 * (top.interp.gas.remaining + gsum rest) + (rest.length + 1)
    omega
  | @push top rest _ a s _ f _ hr hmk =>
    cases hr.strict with | action hk hg =>
    have : f.interp.gas.remaining = a.gasLimit := by rw [(makeFrame_gas hmk).2 f rfl]; rfl
    show 2 * (f.interp.gas.remaining + (s.gas.remaining + gsum rest)) + (rest.length + 1 + 1) + 1 ≤
      2 * (top.interp.gas.remaining + gsum rest) + (rest.length + 1)
    omega
  | @early top rest _ a s _ o _ _ hr hmk hdl =>
    cases hr.strict with | action hk hg =>
    have := (makeFrame_gas hmk).1 o rfl
    have := deliver_mu hdl
    have e : ({ top with interp := s } : JFrame).interp.gas.remaining = s.gas.remaining := rfl
    rw [e] at this
    show _ + 1 ≤ 2 * (top.interp.gas.remaining + gsum rest) + (rest.length + 1)
    omega
  | @done _ _ _ s _ _ _ _ _ hret =>
    show 0 + 1 ≤ 2 * (s.gas.remaining + 0) + 0 + 1
    omega
  | @ret _ parent rest _ _ s _ _ res _ _ _ hret hdl =>
    have hres : res.gasRemaining ≤ s.gas.remaining := frameReturn_gas hret
    have := deliver_mu hdl
    show _ + 1 ≤ 2 * (s.gas.remaining + (parent.interp.gas.remaining + gsum rest)) + (rest.length + 1) + 1
    omega

theorem iterate_mu {cfg : Cfg} {stack : List JFrame} {w : World} {nx}
    (h : iterate journalOps cfg stack w = .ok nx) : mu nx < mu (.run stack w) := by
  cases iterate_moves h with
  | one h1 => exact move_mu h1
  | two hr h2 => exact Nat.lt_of_lt_of_le (move_mu h2) (move_mu (.halt hr))

/-- the frame loop of the whole EVM is decreasing (C01 `EvmTerm.Decreasing`), with no invariant -/
theorem loop_decreasing (cfg : Cfg) : EvmTerm.Decreasing journalOps cfg (fun _ => True) mu where
  iter := fun st w _ => by
    cases h : iterate journalOps cfg st w with
    | ok n => exact ⟨trivial, iterate_mu h⟩
    | error e => exact (Revm.Proofs.Evm.iterate_fail h).nf
  fend := fun t r res out s w _ => by
    cases h : frameEnd journalOps cfg t r res out s w with
    | ok n => exact ⟨trivial, move_mu (frameEnd_move h)⟩
    | error e => exact (Revm.Proofs.Evm.frameEnd_fail h).nf

/-- `run_the_loop` terminates, from every stack of frames in any state -/
theorem runLoop_terminates (cfg : Cfg) (fuel : Nat) (stack : List JFrame) (w : World)
    (h : 2 * gsum stack + stack.length < fuel) : runLoop journalOps cfg fuel stack w ≠ .error .outOfFuel :=
  (EvmTerm.runLoop_fuel (loop_decreasing cfg) fuel).1 stack w trivial h

/-- `Evm.transact` terminates: on `2 · gas_limit + 2` units of fuel the answer is never "out of fuel", for every world,
environment and fork -/
theorem transact_terminates' (fuel : Nat) (w : World) (e : Evm.Env) (spec : Nat)
    (hf : 2 * e.tx.gasLimit + 2 ≤ fuel) : Evm.transact fuel w e spec ≠ .error .outOfFuel := by
  refine nf_iff.2 (transactWith_rule (C := journalOps) (P1 := fun _ => True) (P2 := fun _ => True) (P3 := fun _ => True)
    (Proofs.Evm.TotE.mono (nf_iff.1 (nf_preverify w e _)) (fun _ h => h) fun _ _ _ _ _ => trivial) trivial
    (fun w1 ig fg _ _ => nf_iff.1 (nf_prepare e _ ig w1)) (fun w1 ig fg first w2 ic rf ho hq _ _ => nf_iff.1 ?_)
    (fun fg rf ic res w3 _ => nf_iff.1 (nf_finish _ _ _ _ _ _ _)))
  cases first with
  | result r => exact nf_pure _
  | frame f =>
    obtain ⟨_, _, hig, _, _⟩ := preverify_some_inv w w1 e _ ig fg ho
    have hg := (prepare_gas hq).2 f rfl
    have hle : U64ops.wsub e.tx.gasLimit ig ≤ e.tx.gasLimit := by
      have := wsub_le' e.tx.gasLimit ig hig; omega
    refine runLoop_terminates _ fuel [f] w2 ?_
    show 2 * (f.interp.gas.remaining + 0) + 1 < fuel
    rw [hg]
    show 2 * (U64ops.wsub e.tx.gasLimit ig + 0) + 1 < fuel
    omega

end Revm.Proofs.EvmLink
