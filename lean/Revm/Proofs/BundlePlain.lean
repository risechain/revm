import Revm.Proofs.BundleSRel
/-! The reference plain state as lookups: observations (`acct`, `slot`) after its update functions, after
`applyChangeset` (one `PlainStorageChangeset` row = `applyRow`) and after `applyRevertBlock` (one storage row of a block
of plain reverts = `revSlotV`); `slot_foldl_filterMap`: the fold over the rows rendered from a map, per address. -/
namespace Revm.Proofs.Bundle
open Revm.Model.Bundle Revm.Spec.Bundle


theorem acct_setAcct (p : Plain) (a : Nat) (i : Option Info) (a' : Nat) :
    (p.setAcct a i).acct a' = if a = a' then i else p.acct a' := by
  unfold Plain.setAcct Plain.acct
  by_cases h : a = a'
  · simp [h]
  · have hb : (a == a') = false := by simp [h]
    simp only [List.find?_cons, hb, h, if_false]

theorem slot_setAcct (p : Plain) (a : Nat) (i : Option Info) (a' k : Nat) :
    (p.setAcct a i).slot a' k = p.slot a' k := rfl

theorem acct_setSlot (p : Plain) (a k v a' : Nat) : (p.setSlot a k v).acct a' = p.acct a' := rfl

theorem slot_setSlot (p : Plain) (a k v a' k' : Nat) :
    (p.setSlot a k v).slot a' k' = if a = a' ∧ k = k' then v else p.slot a' k' := by
  unfold Plain.setSlot Plain.slot
  by_cases h : a = a' ∧ k = k'
  · simp [List.find?, h.1, h.2]
  · simp only [h, if_false]
    have : ((a == a') && (k == k')) = false := by
      cases h1 : (a == a') <;> cases h2 : (k == k') <;> simp_all
    simp [List.find?, this]

theorem acct_wipe (p : Plain) (a a' : Nat) : (p.wipe a).acct a' = p.acct a' := rfl

theorem find_filter_addr (l : List (Nat × Nat × Nat)) (c : Nat → Bool) (a' k : Nat) :
    (l.filter (fun e => c e.1)).find? (fun e => e.1 == a' && e.2.1 == k) =
      if c a' then l.find? (fun e => e.1 == a' && e.2.1 == k) else none := by
  rw [List.find?_filter]
  cases hc : c a' with
  | true =>
    simp only [if_true]
    congr 1; funext e
    by_cases he : e.1 = a' <;> by_cases hk : e.2.1 = k <;> simp [he, hk, hc]
  | false =>
    refine List.find?_eq_none.mpr (fun e _ => ?_)
    by_cases he : e.1 = a' <;> simp [he, hc]

theorem slot_wipe (p : Plain) (a a' k : Nat) : (p.wipe a).slot a' k = if a = a' then 0 else p.slot a' k := by
  unfold Plain.wipe Plain.slot
  simp only [find_filter_addr _ (· != a)]
  by_cases h : a = a'
  · subst h; simp
  · have : (a' != a) = true := by simp [Ne.symm h]
    simp only [this, h, if_true, if_false]

/-- `applyRow false`: a list of slot writes over the slots of one address -/
def writeSlots (row : List (Nat × Nat)) (base : Nat → Nat) (k : Nat) : Nat :=
  match BMap.get row k with
  | some v => v
  | none => base k

theorem acct_setSlots (p : Plain) (a : Nat) (l : List (Nat × Nat)) (a' : Nat) :
    (p.setSlots a l).acct a' = p.acct a' := by
  unfold Plain.setSlots
  induction l generalizing p with
  | nil => rfl
  | cons e r ih => simp only [List.foldl]; rw [ih]; rfl

theorem slot_setSlots (p : Plain) (a : Nat) (l : List (Nat × Nat)) (hw : WF l) (a' k : Nat) :
    (p.setSlots a l).slot a' k = if a = a' then writeSlots l (fun k => p.slot a' k) k else p.slot a' k := by
  unfold Plain.setSlots
  induction l generalizing p with
  | nil => by_cases h : a = a' <;> simp [h, writeSlots, BMap.get]
  | cons e r ih =>
    rw [WF_cons] at hw
    simp only [List.foldl]
    rw [ih _ hw.2]
    by_cases h : a = a'
    · simp only [h, if_true, writeSlots, get_cons]
      by_cases hk : e.1 = k
      · have : BMap.get r k = none := get_none_of_not_mem r k (hk ▸ hw.1)
        simp only [this, hk, if_true, slot_setSlot, and_self]
      · simp only [hk, if_false]
        cases BMap.get r k with
        | some v => rfl
        | none => simp only [slot_setSlot, hk, and_false, if_false]
    · simp only [h, if_false, slot_setSlot, false_and]

theorem slot_setSlots_ne (p : Plain) (a : Nat) (l : List (Nat × Nat)) (a' k : Nat) (h : a ≠ a') :
    (p.setSlots a l).slot a' k = p.slot a' k := by
  unfold Plain.setSlots
  induction l generalizing p with
  | nil => rfl
  | cons e r ih =>
    simp only [List.foldl]
    rw [ih, slot_setSlot]
    simp [h]

theorem hasStorage_false (p : Plain) (a : Nat) (h : hasStorage p a = false) (k : Nat) : p.slot a k = 0 := by
  by_cases hz : p.slot a k = 0
  · exact hz
  · exfalso
    have hs : p.slot a k = match p.stor.find? (fun e => e.1 == a && e.2.1 == k) with
        | some e => e.2.2 | none => 0 := rfl
    cases hf : p.stor.find? (fun e => e.1 == a && e.2.1 == k) with
    | none => rw [hf] at hs; exact hz hs
    | some e =>
      have hm := List.mem_of_find?_eq_some hf
      have hq := List.find?_some hf
      simp only [Bool.and_eq_true, beq_iff_eq] at hq
      have : hasStorage p a = true := by
        unfold hasStorage
        apply List.any_eq_true.mpr
        refine ⟨e, hm, ?_⟩
        simp only [Bool.and_eq_true, beq_iff_eq, bne_iff_ne, ne_eq]
        exact ⟨hq.1, by rw [hq.2]; exact hz⟩
      rw [h] at this; cases this

theorem plainEq_symm {p q : Plain} (h : PlainEq p q) : PlainEq q p :=
  ⟨fun a => (h.1 a).symm, fun a k => (h.2 a k).symm⟩

theorem plainEq_trans {p q r : Plain} (h1 : PlainEq p q) (h2 : PlainEq q r) : PlainEq p r :=
  ⟨fun a => (h1.1 a).trans (h2.1 a), fun a k => (h1.2 a k).trans (h2.2 a k)⟩

theorem acct_foldl_setAcct (l : List (Nat × Option Info)) (hw : WF l) (p : Plain) (a : Nat) :
    (l.foldl (fun p e => p.setAcct e.1 (e.2.map Info.withoutCode)) p).acct a =
      match BMap.get l a with
      | some v => v.map Info.withoutCode
      | none => p.acct a := by
  induction l generalizing p with
  | nil => rfl
  | cons e r ih =>
    rw [WF_cons] at hw
    simp only [List.foldl]
    rw [ih hw.2, get_cons, acct_setAcct]
    by_cases h : e.1 = a
    · have : BMap.get r a = none := get_none_of_not_mem r a (h ▸ hw.1)
      simp [h, this]
    · simp [h]

theorem slot_foldl_setAcct (l : List (Nat × Option Info)) (p : Plain) (a k : Nat) :
    (l.foldl (fun p e => p.setAcct e.1 (e.2.map Info.withoutCode)) p).slot a k = p.slot a k := by
  induction l generalizing p with
  | nil => rfl
  | cons e r ih => simp only [List.foldl]; rw [ih]; rfl

section rows
variable {ρ : Type} {step : Plain → Nat × ρ → Plain}

theorem acct_foldl_step (hacct : ∀ p e a, (step p e).acct a = p.acct a) (rows : List (Nat × ρ)) (p : Plain) (a : Nat) :
    (rows.foldl step p).acct a = p.acct a := by
  induction rows generalizing p with
  | nil => rfl
  | cons e r ih => simp only [List.foldl]; rw [ih, hacct]

theorem slot_foldl_step {G : Nat → ρ → (Nat → Nat) → Nat → Nat} {ok : ρ → Prop}
    (hne : ∀ p e a k, e.1 ≠ a → (step p e).slot a k = p.slot a k)
    (hself : ∀ p e, ok e.2 → ∀ k, (step p e).slot e.1 k = G e.1 e.2 (fun k => p.slot e.1 k) k)
    (rows : List (Nat × ρ)) (hw : WF rows) (p : Plain) (a k : Nat) (hok : ∀ r, BMap.get rows a = some r → ok r) :
    (rows.foldl step p).slot a k = (BMap.get rows a).elim (p.slot a k) (fun r => G a r (fun k => p.slot a k) k) := by
  induction rows generalizing p with
  | nil => rfl
  | cons e r ih =>
    rw [WF_cons] at hw
    simp only [List.foldl]
    by_cases h : e.1 = a
    · have hn : BMap.get r a = none := get_none_of_not_mem r a (h ▸ hw.1)
      have hge : BMap.get (e :: r) a = some e.2 := by rw [get_cons]; simp [h]
      rw [ih hw.2 _ (fun r' hr' => by rw [hn] at hr'; cases hr'), hn, hge]
      subst h
      exact hself p e (hok e.2 hge) k
    · have hge : BMap.get (e :: r) a = BMap.get r a := by rw [get_cons]; simp [h]
      rw [ih hw.2 _ (fun r' hr' => hok r' (by rw [hge]; exact hr')), hge]
      have : (fun k => (step p e).slot a k) = fun k => p.slot a k := funext fun k => hne p e a k h
      rw [this]
      cases BMap.get r a with
      | none => exact hne p e a k h
      | some r' => rfl

/-- `slot_foldl_step` for the rows selected (`c`) and rendered (`g`) from a map -/
theorem slot_foldl_filterMap {α : Type} {G : Nat → ρ → (Nat → Nat) → Nat → Nat} {ok : ρ → Prop}
    (hne : ∀ p e a k, e.1 ≠ a → (step p e).slot a k = p.slot a k)
    (hself : ∀ p e, ok e.2 → ∀ k, (step p e).slot e.1 k = G e.1 e.2 (fun k => p.slot e.1 k) k)
    (m : BMap α) (c : Nat × α → Bool) (g : Nat × α → ρ) (hw : WF m) (p : Plain) (a k : Nat)
    (hok : ∀ v, m.get a = some v → c (a, v) = true → ok (g (a, v))) :
    ((m.filterMap (fun e => if c e then some (e.1, g e) else none)).foldl step p).slot a k =
      (m.get a).elim (p.slot a k)
        (fun v => if c (a, v) then G a (g (a, v)) (fun k => p.slot a k) k else p.slot a k) := by
  have hrow := get_filterMap m c g hw a
  have hokr : ∀ r, BMap.get (m.filterMap (fun e => if c e then some (e.1, g e) else none)) a = some r → ok r := by
    intro r hr
    rw [hrow] at hr
    cases hv : m.get a with
    | none => rw [hv] at hr; cases hr
    | some v =>
      rw [hv] at hr
      by_cases hc : c (a, v) = true
      · simp only [Option.bind, hc, if_true] at hr; injection hr with hr; rw [← hr]; exact hok v hv hc
      · simp [Option.bind, hc] at hr
  rw [slot_foldl_step hne hself _ (WF_filterMap m c g hw) p a k hokr, hrow]
  cases m.get a with
  | none => rfl
  | some v => by_cases hc : c (a, v) = true <;> simp [Option.bind, hc]
end rows

/-- one `PlainStorageChangeset` row -/
def rowStep (p : Plain) (e : Nat × Bool × List (Nat × Nat)) : Plain :=
  (if e.2.1 then p.wipe e.1 else p).setSlots e.1 e.2.2

theorem acct_rowStep (p : Plain) (e : Nat × Bool × List (Nat × Nat)) (a : Nat) : (rowStep p e).acct a = p.acct a := by
  unfold rowStep; rw [acct_setSlots]; cases e.2.1 <;> rfl

theorem acct_foldl_rows (rows : List (Nat × Bool × List (Nat × Nat))) (p : Plain) (a : Nat) :
    (rows.foldl rowStep p).acct a = p.acct a :=
  acct_foldl_step acct_rowStep rows p a

theorem slot_rowStep_ne (p : Plain) (e : Nat × Bool × List (Nat × Nat)) (a k : Nat) (h : e.1 ≠ a) :
    (rowStep p e).slot a k = p.slot a k := by
  unfold rowStep
  rw [slot_setSlots_ne _ _ _ _ _ h]
  cases e.2.1 with
  | false => rfl
  | true => simp only [if_true]; rw [slot_wipe]; simp [h]

theorem slot_rowStep_self (p : Plain) (e : Nat × Bool × List (Nat × Nat)) (hw : WF e.2.2) (k : Nat) :
    (rowStep p e).slot e.1 k = applyRow e.2.1 e.2.2 (fun k => p.slot e.1 k) k := by
  unfold rowStep applyRow
  rw [slot_setSlots _ _ _ hw]
  simp only [if_true, writeSlots]
  cases BMap.get e.2.2 k with
  | some v => rfl
  | none =>
    cases e.2.1 with
    | false => rfl
    | true => simp [slot_wipe]

theorem applyChangeset_eq (cs : Changeset) (p : Plain) :
    applyChangeset cs p = cs.storage.foldl rowStep
      (cs.accounts.foldl (fun p e => p.setAcct e.1 (e.2.map Info.withoutCode)) p) := rfl

theorem applyChangeset_empty (known : Bool) (p0 : Plain) : applyChangeset (toPlainState {} known) p0 = p0 := rfl

/-- the base a wiping revert starts from: the pre-bundle slots of the address -/
def restoreBase (p0 p : Plain) (a : Nat) : Plain :=
  { p with stor := p0.stor.filter (fun t => t.1 == a) ++ (p.wipe a).stor }

theorem acct_restoreBase (p0 p : Plain) (a a' : Nat) : (restoreBase p0 p a).acct a' = p.acct a' := rfl

theorem slot_restoreBase (p0 p : Plain) (a a' k : Nat) :
    (restoreBase p0 p a).slot a' k = if a = a' then p0.slot a' k else p.slot a' k := by
  have hw := slot_wipe p a a' k
  unfold restoreBase Plain.slot at *
  simp only [List.find?_append, find_filter_addr _ (· == a)]
  by_cases h : a = a'
  · subst h
    simp only [beq_self_eq_true, if_true] at hw ⊢
    cases List.find? (fun e => e.1 == a && e.2.1 == k) p0.stor with
    | some e => rfl
    | none => exact hw
  · have hb : (a' == a) = false := by simp [Ne.symm h]
    simp only [hb, h, Bool.false_eq_true, if_false, Option.or] at hw ⊢
    exact hw

/-- the listed-slot arm of `revSlotV` -/
def revVal (dbr wipe : Bool) (p0 : Plain) (a : Nat) (s : Nat × RevSlot) : Nat :=
  match s.2 with
  | .some v => v
  | .destroyed => if dbr && wipe then p0.slot a s.1 else 0

/-- one storage row of a block of plain reverts -/
def revRowStep (dbr : Bool) (p0 : Plain) (p : Plain) (e : Nat × Bool × List (Nat × RevSlot)) : Plain :=
  (if e.2.1 then restoreBase p0 p e.1 else p).setSlots e.1 (e.2.2.map (fun s => (s.1, revVal dbr e.2.1 p0 e.1 s)))

theorem applyRevertBlock_eq (dbr : Bool) (p0 : Plain) (blk : PlainRevertBlock) (p : Plain) :
    applyRevertBlock dbr p0 blk p = blk.storage.foldl (revRowStep dbr p0)
      (blk.accounts.foldl (fun p e => p.setAcct e.1 (e.2.map Info.withoutCode)) p) := rfl

theorem acct_revRowStep (dbr : Bool) (p0 p : Plain) (e : Nat × Bool × List (Nat × RevSlot)) (a : Nat) :
    (revRowStep dbr p0 p e).acct a = p.acct a := by
  unfold revRowStep; rw [acct_setSlots]; cases e.2.1 <;> rfl

theorem acct_foldl_revrows (dbr : Bool) (p0 : Plain) (rows : List (Nat × Bool × List (Nat × RevSlot))) (p : Plain) (a : Nat) :
    (rows.foldl (revRowStep dbr p0) p).acct a = p.acct a :=
  acct_foldl_step (acct_revRowStep dbr p0) rows p a

theorem slot_revRowStep_ne (dbr : Bool) (p0 p : Plain) (e : Nat × Bool × List (Nat × RevSlot)) (a k : Nat) (h : e.1 ≠ a) :
    (revRowStep dbr p0 p e).slot a k = p.slot a k := by
  unfold revRowStep
  rw [slot_setSlots_ne _ _ _ _ _ h]
  cases e.2.1 with
  | false => rfl
  | true => simp only [if_true]; rw [slot_restoreBase]; simp [h]

theorem slot_revRowStep_self (dbr : Bool) (p0 p : Plain) (e : Nat × Bool × List (Nat × RevSlot)) (hw : WF e.2.2) (k : Nat) :
    (revRowStep dbr p0 p e).slot e.1 k =
      revSlotV dbr e.2.2 e.2.1 (fun k => p0.slot e.1 k) (fun k => p.slot e.1 k) k := by
  unfold revRowStep revSlotV
  rw [slot_setSlots _ _ _ (WF_map_val e.2.2 (fun s => revVal dbr e.2.1 p0 e.1 s) hw)]
  simp only [if_true, writeSlots]
  rw [get_map_val e.2.2 (fun s => revVal dbr e.2.1 p0 e.1 s)]
  cases hg : BMap.get e.2.2 k with
  | some v => cases v <;> simp [revVal]
  | none =>
    simp only [Option.map]
    cases e.2.1 with
    | false => rfl
    | true => simp [slot_restoreBase]

end Revm.Proofs.Bundle
