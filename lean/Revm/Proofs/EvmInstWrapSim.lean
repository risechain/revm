import Revm.Proofs.EvmInstWrapSimRel
import Revm.Proofs.EvmInstTraceRun
import Revm.Proofs.FrameKeptStep
import Revm.Proofs.InspectorWrapDriver
/-! Every completed run of the concrete frame loop (`contOf`, one unit of fuel per instruction of the top frame) is a run
of the abstract driver `Machine.loop` of `evmMachine` (nested fuel: `loop n` runs `runInterp n`) with the same `FrameResult`
and world, on some fuel and then on every larger one (`loop_mono_le`): `loop_sim`. The proof is the one-step lemma
`moves_sim`, stated with `Ans` so that no fuel arithmetic arises, and an induction over `Run` (`run_sim`). The one fact about
the instruction set that is used: no handler stops the frame with `instruction_result = Continue`, the value the abstract
`while` loop tests (`halt_ne_continue`, read off `step_all`). -/
namespace Revm.Proofs.EvmInstWrap
open Revm Revm.Model Revm.Model.Evm
open Revm.Model.InspectorWrap (LoopNext)
open Revm.Proofs.Evm (Moves)
open Revm.Proofs.InspectorWrap (Ans runInterp_last runInterp_halted)
open Revm.Proofs.EvmInstHooks (Run)
open Revm.Proofs.EvmInstSd (Resolved)

variable {κ : Type} (C : CpOps κ) (cfg : Cfg) (lim : Nat)

theorem evm_step (st0 : AState κ) (c : ECtx) (op : Nat) (hop : st0.rest.code[st0.ip]? = some op) :
    (evmMachine C cfg lim).step st0 c =
      ofOutcome cfg { st0 with ip := st0.ip + 1 } c
        (Interp.execInstr (Interp.decode op) { sync st0 st0.mem with pc := st0.ip + 1 }) := by
  show evmTable cfg (evmFetch st0) { st0 with ip := st0.ip + 1 } c = _
  unfold evmTable evmFetch
  simp only [Nat.add_sub_cancel, hop, Option.getD]
  rfl

theorem interp_step_some (s : Interp.IState) (op : Nat) (hop : s.code[s.pc]? = some op) :
    Interp.step s = Interp.execInstr (Interp.decode op) { s with pc := s.pc + 1 } := by
  unfold Interp.step
  rw [hop]

theorem interp_step_none (s : Interp.IState) (hop : s.code[s.pc]? = none) : Interp.step s = .fault .oobCode := by
  unfold Interp.step
  rw [hop]

/-- no instruction stops a frame with `instruction_result = Continue`, the value the `while` loop of `run` tests for:
every halt carries a result that `SuccessOrHalt::from` classifies, or `FatalExternalError` (`step_all`) -/
theorem halt_ne_continue {he : HostEnv} {s s1 : Interp.IState} {w w1 : World} {r : Interp.IResult} {out : List Nat}
    (h : Resolved he s w (.halt r out s1) w1) : r ≠ .Continue := by
  have hd := h.outAll (Revm.Proofs.EvmLink.step_all (E := True) s) (fun _ _ => .inr trivial)
  cases hd with
  | halt _ hr _ => exact hr.ne_continue

/-- an instruction the concrete loop resolved is one `step` of the abstract machine on an interpreter that stands for
the concrete one -/
theorem resolved_step {st0 : AState κ} {s : Interp.IState} {w w1 : World} {d : Interp.Done}
    (hs : sync st0 st0.mem = s) (hr : Resolved cfg.he s w d w1) (hnf : ∀ fl, d ≠ .fault fl) :
    (evmMachine C cfg lim).step st0 { w := w, err := none } =
      ofDone { st0 with ip := st0.ip + 1 } { w := w1, err := none } d := by
  subst hs
  cases hcode : (sync st0 st0.mem).code[(sync st0 st0.mem).pc]? with
  | none =>
    have hst := interp_step_none _ hcode
    cases hr with
    | pure d hs => rw [hst] at hs; cases hs; exact absurd rfl (hnf _)
    | host op k resp w' hs ha => rw [hst] at hs; cases hs
  | some op =>
    have hstep := evm_step C cfg lim st0 { w := w, err := none } op hcode
    have hst := interp_step_some _ op hcode
    cases hr with
    | pure d hs =>
      have hs' : Interp.execInstr (Interp.decode op) { sync st0 st0.mem with pc := st0.ip + 1 } = .pure d :=
        hst.symm.trans hs
      rw [hstep, hs']; rfl
    | host op' k resp w' hs ha =>
      have hs' : Interp.execInstr (Interp.decode op) { sync st0 st0.mem with pc := st0.ip + 1 } = .host op' k :=
        hst.symm.trans hs
      rw [hstep, hs']
      simp only [ofOutcome, ha, ofAnswer]

/-- the abstract loop follows one iteration of the concrete one: whatever it answers from the state related to where
the iteration leads, it answers from the state related to where the iteration starts -/
theorem moves_sim {next next' : Next κ} (h : Moves C cfg next next') {bk : FrameKind}
    {ln : LoopNext (evmTy κ) ECtx} (hrel : NRel bk next ln) :
    ∃ ln', NRel bk next' ln' ∧ ∀ x, Ans (evmMachine C cfg lim) ln' x → Ans (evmMachine C cfg lim) ln x := by
  cases hrel with
  | @run f arest top crest shared w hk hs hc hr hb =>
    subst hb
    have hc0 : ({ f.interp with nextAction := .none, mem := shared } : AState κ).instructionResult = .Continue := hc
    have hst : ∀ {d w1}, Resolved cfg.he top.interp w d w1 → (∀ fl, d ≠ .fault fl) →
        (evmMachine C cfg lim).step { f.interp with nextAction := .none, mem := shared } { w := w, err := none } =
          ofDone { f.interp with nextAction := .none, mem := shared, ip := f.interp.ip + 1 } { w := w1, err := none } d :=
      fun hr hnf => resolved_step C cfg lim (st0 := { f.interp with nextAction := .none, mem := shared }) hs hr hnf
    -- an instruction that stops the `while` loop: `run` hands `handle_action` the frame `framePost` makes of it
    have hlast : ∀ {d w1} (ir : InspectorWrap.IR) (na : AAction κ) (s1 : Interp.IState), ir ≠ .Continue →
        ofDone { f.interp with nextAction := .none, mem := shared, ip := f.interp.ip + 1 } { w := w1, err := none } d =
          (unsync s1 ir na, { w := w1, err := none }) →
        Resolved cfg.he top.interp w d w1 → (∀ fl, d ≠ .fault fl) →
        ∀ n, (evmMachine C cfg lim).runInterp (n + 2) { f.interp with nextAction := .none, mem := shared }
          { w := w, err := none } = some (unsync s1 ir na, { w := w1, err := none }) := by
      intro d w1 ir na s1 hir hd hres hnf n
      have hstep := (hst hres hnf).trans hd
      rw [runInterp_last (evmMachine C cfg lim) n _ _ hc0 (by rw [hstep]; exact hir), hstep]
    cases h with
    | one h1 =>
      cases h1 with
      | @next _ _ _ s1 w1 hres =>
        have hstep' : (evmMachine C cfg lim).step { f.interp with nextAction := .none, mem := shared }
            { w := w, err := none } = (unsync s1 .Continue .none, { w := w1, err := none }) := by
          rw [hst hres (fun fl h => nomatch h)]; simp only [ofDone, hc]
        exact ⟨.continue ({ f with interp := unsync s1 .Continue .none } :: arest) s1.mem { w := w1, err := none },
          .run ⟨hk.kind, hk.data⟩ rfl rfl hr (bottomKind_interp top crest s1),
          fun x => Ans.step _ f arest shared _ hc _ _ hstep' rfl⟩
      | @push _ _ _ a s1 w1 nf w2 hres hm =>
        obtain ⟨ln', hh, hrel'⟩ := frameAction_sim C cfg lim
          { f with interp := { unsync s1 .CallOrCreate (.none : AAction κ) with mem := Memory.new } } top crest arest a s1
          w1 ⟨hk.kind, hk.data⟩ (fun X => rfl) hr _ hm (.inl ⟨_, rfl, rfl⟩)
        refine ⟨ln', hrel', fun x => Ans.handle _ f arest shared _ _ _
          (hlast .CallOrCreate (actionOf a) s1 (by decide) rfl hres (fun fl h => nomatch h)) ?_ ?_⟩
        · cases a <;> rfl
        · cases a <;> exact hh
      | @early _ _ _ a s1 w1 o w2 _ hres hm hd =>
        obtain ⟨ln', hh, hrel'⟩ := frameAction_sim C cfg lim
          { f with interp := { unsync s1 .CallOrCreate (.none : AAction κ) with mem := Memory.new } } top crest arest a s1
          w1 ⟨hk.kind, hk.data⟩ (fun X => rfl) hr _ hm (.inr ⟨_, rfl, hd⟩)
        refine ⟨ln', hrel', fun x => Ans.handle _ f arest shared _ _ _
          (hlast .CallOrCreate (actionOf a) s1 (by decide) rfl hres (fun fl h => nomatch h)) ?_ ?_⟩
        · cases a <;> rfl
        · cases a <;> exact hh
    | @two _ _ _ r out s1 w1 _ hres he =>
      have hne' : toIR r ≠ InspectorWrap.IR.Continue := fun e => halt_ne_continue hres (toIR_eq_continue.mp e)
      obtain ⟨ln', hh, hrel'⟩ := frameEnd_sim C cfg lim
        { f with interp := { unsync s1 (toIR r) (.none : AAction κ) with mem := Memory.new } } top crest arest r out s1 w1
        ⟨hk.kind, hk.data⟩ hr _ he
      exact ⟨ln', hrel', fun x => Ans.handle _ f arest shared _ _ _
        (hlast (toIR r) (.ret { result := toIR r, output := out, gas := s1.gas }) s1 hne' rfl hres
          (fun fl h => nomatch h)) rfl hh⟩
  | @ended f arest top crest r s shared w hk hs hc hne hr hb =>
    subst hb
    cases h with
    | one he =>
      subst hs
      have hne' : ({ f.interp with nextAction := .none, mem := shared } : AState κ).instructionResult ≠
          InspectorWrap.IR.Continue := by
        show f.interp.instructionResult ≠ _
        rw [hc]; exact fun e => hne (toIR_eq_continue.mp e)
      obtain ⟨ln', hh, hrel'⟩ := frameEnd_sim C cfg lim
        { f with interp := { ({ f.interp with nextAction := .none, mem := shared } : AState κ) with mem := Memory.new } }
        top crest arest r [] (sync f.interp shared) w ⟨hk.kind, hk.data⟩ hr _ he
      rw [← hc] at hh
      exact ⟨ln', hrel', fun x => Ans.handle _ f arest shared _ _ _ (fun n => runInterp_halted _ (n + 1) _ _ hne') rfl hh⟩
  | done res w l => cases h with | one h1 => cases h1

/-- from related states, what a completed run of the concrete loop returns is what the abstract loop answers, as a
`FrameResult` of the kind of the transaction's first frame -/
theorem run_sim {next : Next κ} {evs : List EvmInstHooks.LEv} {x : Interp.ChildResult × World}
    (t : Run C cfg next evs x) : ∀ {bk : FrameKind} {ln : LoopNext (evmTy κ) ECtx}, NRel bk next ln →
    ∃ l, Ans (evmMachine C cfg lim) ln (.ok (frOfKind bk l x.1, { w := x.2, err := none })) := by
  induction t with
  | done r w => intro _ _ hrel; cases hrel with | done _ _ l => exact ⟨l, 0, rfl⟩
  | iter h _ ih =>
    intro bk ln hrel
    obtain ⟨ln', hrel', hans⟩ := moves_sim C cfg lim h hrel
    obtain ⟨l, hl⟩ := ih hrel'
    exact ⟨l, hans _ hl⟩


/-- `run_sim` for a completed `contOf`: the form `EvmInstWrapSimExec` uses -/
theorem loop_sim (fuel : Nat) (next : Next κ) (ln : LoopNext (evmTy κ) ECtx) (bk : FrameKind) (res : Interp.ChildResult)
    (w' : World) (hrel : NRel bk next ln) (h : Revm.Proofs.Evm.contOf C cfg fuel next = .ok (res, w')) :
    ∃ l, Ans (evmMachine C cfg lim) ln (.ok (frOfKind bk l res, { w := w', err := none })) :=
  run_sim C cfg lim (EvmInstHooks.contTr_run fuel next (res, w') ((EvmInstHooks.contTr_fst C cfg fuel next).trans h)) hrel

end Revm.Proofs.EvmInstWrap
