import Revm.Model.EvmLifecycle
/-! C31, the context life cycle of `Evm`: an entry point is a function of `(env, work)` closed by `clear` (`NF`), so it leaves
a `Clean` context (`call_cleared`) and on a clean context a caller sees a function of the database and the environment
(`call_of_clean`), although the journal's `spec` is not reset: the stages that can run on a stale one are `SpecBlind`.
`sequence_eq` concludes for histories of calls. -/
namespace Revm.Proofs.EvmLifecycle
open Revm.Model.Journal Revm.Model.EvmLifecycle

variable {Db Env Err Pre L1 G LS Act FR ER : Type}

/-- the context looks like that of a freshly built `Evm` (up to the journal's `spec` field and the
precompile field, which are not reset by the code) -/
def Clean (c : Ctx Db Env Err Pre L1) : Prop :=
  c.js = JState.new c.js.spec noPreloaded ∧ c.error = none ∧ c.l1 = none

def eraseSpec (j : JState) : JState := { j with spec := 0 }

/-- `set_spec_id` on the journal of a work -/
def Work.setSpec (w : Work Db Err L1) (s : Nat) : Work Db Err L1 := { w with js := setSpecId w.js s }

/-- the stage does not look at `journaled_state.spec` (and does not change it) -/
def SpecBlind {α : Type} (st : Stage Db Env Err L1 α) : Prop :=
  ∀ env w s, st env (Work.setSpec w s) = ((st env w).1, Work.setSpec (st env w).2 s)

/-- the two stages that can run while the journal's spec is still stale - `tx_against_state` and,
for a validation error, `post_execution.end` - do not look at `journaled_state.spec` -/
def HSpecBlind (h : Handler Db Env Err Pre L1 G LS Act FR ER) : Prop :=
  SpecBlind h.txAgainstState ∧ ∀ e, SpecBlind (h.endHook (.error e))

/-- equal up to the journal's `spec` field -/
def WSim (w1 w2 : Work Db Err L1) : Prop :=
  w1.db = w2.db ∧ eraseSpec w1.js = eraseSpec w2.js ∧ w1.error = w2.error ∧ w1.l1 = w2.l1

theorem eraseSpec_setSpecId (j : JState) (s : Nat) : eraseSpec (setSpecId j s) = eraseSpec j := rfl

theorem eraseSpec_new (s : Nat) (p : Addr → Bool) : eraseSpec (JState.new s p) = JState.new 0 p := rfl

theorem wsim_symm {w1 w2 : Work Db Err L1} (h : WSim w1 w2) : WSim w2 w1 :=
  ⟨h.1.symm, h.2.1.symm, h.2.2.1.symm, h.2.2.2.symm⟩

theorem wsim_trans {w1 w2 w3 : Work Db Err L1} (h : WSim w1 w2) (h' : WSim w2 w3) : WSim w1 w3 :=
  ⟨h.1.trans h'.1, h.2.1.trans h'.2.1, h.2.2.1.trans h'.2.2.1, h.2.2.2.trans h'.2.2.2⟩

section
variable (h : Handler Db Env Err Pre L1 G LS Act FR ER)

theorem work_withWork (c : Ctx Db Env Err Pre L1) (w : Work Db Err L1) : (c.withWork w).work = w := rfl

theorem finish_eq_map (fuel : Nat) (g : G) (c : Ctx Db Env Err Pre L1) :
    finish h fuel g c = (inner h fuel g c).map fun p =>
      ((h.endHook p.1 p.2.env p.2.work).1, clear (p.2.withWork (h.endHook p.1 p.2.env p.2.work).2)) := by
  unfold finish
  cases inner h fuel g c <;> rfl

theorem transactCommit_eq_map (commit : Db → EvmState → Db) (fuel : Nat) (c : Ctx Db Env Err Pre L1) :
    transactCommit h commit fuel c = (transact h fuel c).map fun p =>
      match p.1 with
      | .error e => (.error e, p.2)
      | .ok (res, st) => (.ok res, { p.2 with db := commit p.2.db st }) := by
  unfold transactCommit
  cases transact h fuel c with
  | none => rfl
  | some p =>
    obtain ⟨out, d⟩ := p
    cases out with
    | error e => rfl
    | ok rs => rfl

/-- `c'` is what an entry point can leave behind when started from `c` -/
def ClearedFrom (c c' : Ctx Db Env Err Pre L1) : Prop :=
  c'.env = c.env ∧ Clean c' ∧ (c'.precompiles = c.precompiles ∨ c'.precompiles = h.loadPrecompiles)

/-! An entry point touches the context in three ways only: it reads `env`, it runs stages on the changeable part (`Work`),
and it may overwrite the precompile field by the handler's set; it ends with `clear`. So it IS a function of
`(env, work)` (`transactW` …) closed by `clear ∘ put`: what the context looks like afterwards is read off that, and what
the result depends on is a statement about works. -/

/-- the context with the changeable part `w`; the precompile field is the handler's set iff `set_precompiles` ran -/
def put (c : Ctx Db Env Err Pre L1) (w : Work Db Err L1) (loaded : Bool) : Ctx Db Env Err Pre L1 :=
  { c.withWork w with precompiles := if loaded then h.loadPrecompiles else c.precompiles }

/-- an entry point `f` is `fW` on `(env, work)`, closed by `clear` -/
def NF {R : Type} (f : Ctx Db Env Err Pre L1 → Option (R × Ctx Db Env Err Pre L1))
    (fW : Env → Work Db Err L1 → Option (R × Work Db Err L1 × Bool)) : Prop :=
  ∀ c, f c = (fW c.env c.work).map fun q => (q.1, clear (put h c q.2.1 q.2.2))

theorem NF.cleared {R : Type} {f : Ctx Db Env Err Pre L1 → Option (R × Ctx Db Env Err Pre L1)}
    {fW : Env → Work Db Err L1 → Option (R × Work Db Err L1 × Bool)} (hn : NF h f fW)
    {c c' : Ctx Db Env Err Pre L1} {r : R} (hf : f c = some (r, c')) : ClearedFrom h c c' := by
  rw [hn c, Option.map_eq_some_iff] at hf
  obtain ⟨q, _, hq⟩ := hf
  obtain ⟨_, rfl⟩ := Prod.mk.inj hq
  exact ⟨rfl, ⟨rfl, rfl, rfl⟩, by cases q.2.2 <;> simp [clear, put]⟩

def obsW {R : Type} (o : Option (R × Work Db Err L1 × Bool)) : Option (R × Db) := o.map fun q => (q.1, q.2.1.db)

theorem NF.obs {R : Type} {f : Ctx Db Env Err Pre L1 → Option (R × Ctx Db Env Err Pre L1)}
    {fW : Env → Work Db Err L1 → Option (R × Work Db Err L1 × Bool)} (hn : NF h f fW) (c : Ctx Db Env Err Pre L1) :
    (f c).map (fun p => (p.1, p.2.db)) = obsW (fW c.env c.work) := by
  rw [hn c, obsW, Option.map_map]; rfl

/-- `inner` (`transact_preverified_inner`) on `(env, work)`; the flag says whether `set_precompiles` ran -/
def innerW (fuel : Nat) (g : G) (env : Env) (w : Work Db Err L1) :
    Option (Except Err (Out ER) × Work Db Err L1 × Bool) :=
  match loadAccountsW h env w with
  | (.error e, w) => some (.error e, w, false)
  | (.ok _, w) =>
    (innerRestW h fuel g h.loadPrecompiles env
      { w with js := preloadExtend w.js (h.precompileAddrs h.loadPrecompiles) }).map fun p => (p.1, p.2, true)

theorem inner_nf (fuel : Nat) (g : G) (c : Ctx Db Env Err Pre L1) :
    inner h fuel g c = (innerW h fuel g c.env c.work).map fun q => (q.1, put h c q.2.1 q.2.2) := by
  unfold inner innerW
  cases loadAccountsW h c.env c.work with | mk r w =>
  cases r with
  | error e => rfl
  | ok _ =>
    show (match innerRestW h fuel g h.loadPrecompiles c.env (setPrecompiles h (c.withWork w)).work with
      | none => none | some (r, w') => _) = Option.map _ (Option.map _ (innerRestW h fuel g h.loadPrecompiles c.env _))
    rw [show (setPrecompiles h (c.withWork w)).work =
      { w with js := preloadExtend w.js (h.precompileAddrs h.loadPrecompiles) } from rfl]
    cases innerRestW h fuel g h.loadPrecompiles c.env
      { w with js := preloadExtend w.js (h.precompileAddrs h.loadPrecompiles) } <;> rfl

/-- `finish` (`inner`, `post_execution().end`, `clear`) on `(env, work)` -/
def finishW (fuel : Nat) (g : G) (env : Env) (w : Work Db Err L1) :
    Option (Except Err (Out ER) × Work Db Err L1 × Bool) :=
  (innerW h fuel g env w).map fun q => ((h.endHook q.1 env q.2.1).1, (h.endHook q.1 env q.2.1).2, q.2.2)

theorem finish_nf (fuel : Nat) (g : G) : NF h (finish h fuel g) (finishW h fuel g) := by
  intro c
  rw [finish_eq_map, inner_nf, finishW, Option.map_map, Option.map_map]; rfl

def transactW (fuel : Nat) (env : Env) (w : Work Db Err L1) : Option (Except Err (Out ER) × Work Db Err L1 × Bool) :=
  match preverifyInnerW h env w with
  | (.error e, w) => some ((h.endHook (.error e) env w).1, (h.endHook (.error e) env w).2, false)
  | (.ok g, w) => finishW h fuel g env w

theorem transact_nf (fuel : Nat) : NF h (transact h fuel) (transactW h fuel) := by
  intro c
  unfold transact transactW preverifyInner
  cases preverifyInnerW h c.env c.work with | mk r w =>
  cases r with
  | error e => rfl
  | ok g => exact finish_nf h fuel g (c.withWork w)

/-! The journal's `spec` is not reset between calls, so an entry point may start on a stale one. Two works that differ
only there are `w` and `Work.setSpec w s`; what follows says what ONE run does when the spec of its input is overwritten:
a `SpecBlind` stage commutes with it, `load_accounts` (which starts with `set_spec_id`) absorbs it, and what a caller sees
of an entry point does not change. -/

/-- validation is itself a stage, and spec-blind when `tx_against_state` is -/
theorem preverifyInnerW_blind (hb : SpecBlind h.txAgainstState) : SpecBlind (preverifyInnerW h) := by
  intro env w s
  unfold preverifyInnerW
  cases h.validateEnv env with
  | error e => rfl
  | ok _ =>
    cases h.initialTxGas env with
    | error e => rfl
    | ok g =>
      simp only [hb env w s]
      cases h.txAgainstState env w with | mk r v => cases r <;> rfl

theorem transactW_blind (hb : HSpecBlind h) (fuel : Nat) (env : Env) (w : Work Db Err L1) (s : Nat) :
    obsW (transactW h fuel env (Work.setSpec w s)) = obsW (transactW h fuel env w) := by
  unfold transactW
  rw [preverifyInnerW_blind h hb.1 env w s]
  cases preverifyInnerW h env w with | mk r v =>
  cases r with
  | error e => simp only [hb.2 e env v s]; rfl
  | ok g => rfl

/-- `transact_commit` after `transact`, on a result and a database -/
def commitOut (commit : Db → EvmState → Db) (p : Except Err (Out ER) × Db) : Except Err ER × Db :=
  match p.1 with
  | .error e => (.error e, p.2)
  | .ok (res, st) => (.ok res, commit p.2 st)

/-- any of the four entry points on `(env, work)` -/
def callW (commit : Db → EvmState → Db) (e : EntryPoint) (fuel : Nat) (env : Env) (w : Work Db Err L1) :
    Option (CallResult Err ER × Work Db Err L1 × Bool) :=
  match e with
  | .transact => (transactW h fuel env w).map fun q => (.tx q.1, q.2)
  | .transactPreverified =>
    match h.initialTxGas env with
    | .error e => some (.tx (.error e), w, false)
    | .ok g => (finishW h fuel g env w).map fun q => (.tx q.1, q.2)
  | .transactCommit => (transactW h fuel env w).map fun q =>
      (.commit (commitOut commit (q.1, q.2.1.db)).1, { q.2.1 with db := (commitOut commit (q.1, q.2.1.db)).2 }, q.2.2)
  | .preverify => some (.pre ((preverifyInnerW h env w).1.map fun _ => ()), (preverifyInnerW h env w).2, false)

theorem call_nf (commit : Db → EvmState → Db) (e : EntryPoint) (fuel : Nat) :
    NF h (call h commit e fuel) (callW h commit e fuel) := by
  intro c
  cases e with
  | transact => simp only [call, callW, transact_nf h fuel c, Option.map_map]; rfl
  | transactPreverified =>
    simp only [call, callW, transactPreverified]
    cases h.initialTxGas c.env with
    | error e => rfl
    | ok g => simp only [finish_nf h fuel g c, Option.map_map]; rfl
  | transactCommit =>
    simp only [call, callW, transactCommit_eq_map, transact_nf h fuel c, Option.map_map]
    congr 1; funext q
    obtain ⟨r, w, b⟩ := q
    cases r <;> rfl
  | preverify => rfl

theorem obsW_map {R R' : Type} (f : R → R') (o : Option (R × Work Db Err L1 × Bool)) :
    obsW (o.map fun q => (f q.1, q.2)) = (obsW o).map fun p => (f p.1, p.2) := by
  simp only [obsW, Option.map_map]; rfl

theorem callW_blind (commit : Db → EvmState → Db) (hb : HSpecBlind h) (e : EntryPoint) (fuel : Nat) (env : Env)
    (w : Work Db Err L1) (s : Nat) :
    obsW (callW h commit e fuel env (Work.setSpec w s)) = obsW (callW h commit e fuel env w) := by
  cases e with
  | transact => simp only [callW, obsW_map, transactW_blind h hb]
  | transactPreverified => simp only [callW]; cases h.initialTxGas env <;> rfl
  | transactCommit =>
    have key : ∀ w, obsW (callW h commit .transactCommit fuel env w) =
        (obsW (transactW h fuel env w)).map fun p => (.commit (commitOut commit p).1, (commitOut commit p).2) := by
      intro w; simp only [obsW, callW, Option.map_map]; rfl
    rw [key, key, transactW_blind h hb]
  | preverify => simp only [callW, preverifyInnerW_blind h hb.1 env w s]; rfl

theorem call_cleared (commit : Db → EvmState → Db) (e : EntryPoint) (fuel : Nat) {c c' : Ctx Db Env Err Pre L1}
    {r : CallResult Err ER} (hc : call h commit e fuel c = some (r, c')) : ClearedFrom h c c' :=
  (call_nf h commit e fuel).cleared h hc

/-- the changeable part of a freshly built `Evm` over `db` (at journal spec 0: the spec does not matter) -/
def freshWork (db : Db) : Work Db Err L1 := { db := db, js := JState.new 0 noPreloaded, error := none, l1 := none }

omit h in
theorem clean_work {c : Ctx Db Env Err Pre L1} (hc : Clean c) : c.work = Work.setSpec (freshWork c.db) c.js.spec := by
  obtain ⟨h1, h2, h3⟩ := hc
  cases c
  simp only [Ctx.work, Work.setSpec, freshWork, Work.mk.injEq] at *
  exact ⟨trivial, h1, h2, h3⟩

/-- ANY clean context: freshly built, or left behind by an earlier call, whatever its precompile field and journal spec -/
theorem call_of_clean (commit : Db → EvmState → Db) (hb : HSpecBlind h) (e : EntryPoint) (fuel : Nat)
    {c : Ctx Db Env Err Pre L1} (hc : Clean c) :
    (call h commit e fuel c).map (fun p => (p.1, p.2.db)) = obsW (callW h commit e fuel c.env (freshWork c.db)) := by
  rw [(call_nf h commit e fuel).obs, clean_work hc, callW_blind h commit hb]

end

theorem clean_build (db : Db) (env : Env) (spec : Nat) (pre0 : Pre) :
    Clean (Ctx.build db env spec pre0 : Ctx Db Env Err Pre L1) := ⟨rfl, rfl, rfl⟩

theorem clean_prepare (op : Op Db Env Err Pre L1 G LS Act FR ER) {c : Ctx Db Env Err Pre L1} (hc : Clean c) :
    Clean (prepare op c) ∧ (prepare op c).db = c.db ∧ (prepare op c).env = op.env := by
  obtain ⟨h1, h2, h3⟩ := hc
  unfold prepare
  cases op.rebuilt
  · exact ⟨⟨h1, h2, h3⟩, rfl, rfl⟩
  · exact ⟨⟨by show setSpecId c.js _ = _; rw [h1]; rfl, h2, h3⟩, rfl, rfl⟩

/-- C31: a history of calls on ONE `Evm` returns the results and the final database of the same history with every call on
a freshly built `Evm` over the database the previous one left -/
theorem sequence_eq (commit : Db → EvmState → Db) (pre0 : Pre) :
    ∀ (ops : List (Op Db Env Err Pre L1 G LS Act FR ER)) (c : Ctx Db Env Err Pre L1),
      Clean c → (∀ op ∈ ops, HSpecBlind op.h) →
      (runOne commit ops c).map (fun p => (p.1, p.2.db)) = runFresh commit pre0 ops c.db := by
  intro ops
  induction ops with
  | nil => intro c _ _; rfl
  | cons op ops ih =>
    intro c hc hb
    obtain ⟨hp, hdb, henv⟩ := clean_prepare op hc
    -- both calls start clean over the same database and environment: both see `call_of_clean`'s function of the two
    have hobs := call_of_clean op.h commit (hb op (List.mem_cons_self ..)) op.entry op.fuel hp
    rw [hdb, henv] at hobs
    replace hobs := hobs.trans (call_of_clean op.h commit (hb op (List.mem_cons_self ..)) op.entry op.fuel
      (clean_build c.db op.env op.h.spec pre0)).symm
    unfold runOne runFresh
    cases h1 : call op.h commit op.entry op.fuel (prepare op c) with
    | none =>
      rw [h1] at hobs
      cases h2 : call op.h commit op.entry op.fuel (Ctx.build c.db op.env op.h.spec pre0) with
      | none => rfl
      | some p2 => rw [h2] at hobs; cases hobs
    | some p1 =>
      rw [h1] at hobs
      cases h2 : call op.h commit op.entry op.fuel (Ctx.build c.db op.env op.h.spec pre0) with
      | none => rw [h2] at hobs; cases hobs
      | some p2 =>
        rw [h2] at hobs
        obtain ⟨hres, hdb⟩ := Prod.mk.inj (Option.some.inj hobs)
        have := ih p1.2 (call_cleared op.h commit op.entry op.fuel h1).2.1 (fun o ho => hb o (List.mem_cons_of_mem _ ho))
        simp only
        rw [← hres, ← hdb, ← this]
        cases runOne commit ops p1.2 <;> rfl

theorem pushEntry_setSpecId (s : JState) (x : Nat) (e : Revm.Model.Journal.Entry) :
    pushEntry (setSpecId s x) e = (pushEntry s e).map (fun t => setSpecId t x) := by
  unfold pushEntry setSpecId
  cases s.journal <;> rfl

theorem loadAccount_setSpecId (db : Revm.Model.Journal.Db) (s : JState) (x : Nat) (a : Addr) :
    loadAccount db (setSpecId s x) a = (loadAccount db s a).map (fun p => (setSpecId p.1 x, p.2)) := by
  unfold loadAccount
  show (match s.state a with | some acc => _ | none => _) = _
  cases hs : s.state a with
  | some acc =>
    simp only
    by_cases hc : acc.cold
    · simp only [hc, if_true]
      show (pushEntry (setSpecId (setAcct s a { acc with cold := false }) x) _).map _ = _
      rw [pushEntry_setSpecId]
      cases pushEntry (setAcct s a { acc with cold := false }) (.accountWarmed a) <;> rfl
    · simp only [hc, if_false, Bool.false_eq_true]; rfl
  | none =>
    simp only
    show (if (!s.preloaded a) = true then (pushEntry (setSpecId (setAcct s a _) x) _).map _ else _) = _
    by_cases hc : (!s.preloaded a) = true
    · simp only [hc, if_true]
      rw [pushEntry_setSpecId]
      cases pushEntry (setAcct s a (match db.basic a with | some i => Acct.ofInfo i | none => Acct.newNotExisting)) (.accountWarmed a) <;> rfl
    · simp only [hc, if_false, Bool.false_eq_true]; rfl

theorem loadCode_setSpecId (db : Revm.Model.Journal.Db) (s : JState) (x : Nat) (a : Addr) :
    loadCode db (setSpecId s x) a = (loadCode db s a).map (fun p => (setSpecId p.1 x, p.2)) := by
  unfold loadCode
  rw [loadAccount_setSpecId]
  cases loadAccount db s a with
  | none => rfl
  | some p =>
    cases p with | mk s1 cold =>
    simp only [Option.map_some, bind, Option.bind]
    have hst : (setSpecId s1 x).state a = s1.state a := rfl
    rw [hst]
    cases s1.state a with
    | none => rfl
    | some acc =>
      simp only
      by_cases hc : acc.info.code.isNone = true
      · simp only [hc, if_true]; rfl
      · simp only [hc, if_false, Bool.false_eq_true]; rfl

/-- the mainnet body of `tx_against_state` (over the C06 journal model) does not look at the journal's
spec, whatever the database, the environment check and the caller -/
theorem mainnetTxAgainstState_specBlind (caller : Env → Addr) (view : Db → Revm.Model.Journal.Db)
    (dbErr : Db → Addr → Option Err) (check : Env → Acct → Except Err Unit × Acct) (panicErr : Err) :
    SpecBlind (mainnetTxAgainstState (L1 := L1) caller view dbErr check panicErr) := by
  intro env w s
  unfold mainnetTxAgainstState
  show (match dbErr w.db (caller env) with | some e => _ | none => _) = _
  cases dbErr w.db (caller env) with
  | some e => rfl
  | none =>
    simp only
    have hjs : (Work.setSpec w s).js = setSpecId w.js s := rfl
    have hdb : (Work.setSpec w s).db = w.db := rfl
    rw [hjs, hdb, loadCode_setSpecId]
    cases loadCode (view w.db) w.js (caller env) with
    | none => rfl
    | some p =>
      cases p with | mk js cold =>
      simp only [Option.map_some]
      have hst : (setSpecId js s).state (caller env) = js.state (caller env) := rfl
      rw [hst]
      cases js.state (caller env) with
      | none => rfl
      | some acc => rfl

end Revm.Proofs.EvmLifecycle
