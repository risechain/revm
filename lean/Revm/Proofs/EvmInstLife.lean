import Revm.Proofs.EvmInstStages
import Revm.Model.EvmLifecycle
/-! C31 (`Model.EvmLifecycle`, the context life cycle) instantiated with the whole-EVM model: `evmHandler spec`, the
handler-stage record built from the stages of `Evm.transact`; its stages run `GasCalc.canon spec` like `spec_to_generic!`.
One "frame execution" of the abstract loop is ONE instruction of the top frame (`stepTop`) and the "frame action" is
`Evm.afterStep`, so abstract and concrete fuel coincide. The abstract `take_error()?` between the two never fires: the
concrete databases are infallible, the error slot stays `Ok(())` (`setWorld` does not touch it). -/
namespace Revm.Proofs.EvmInstLife
open Revm Revm.Model Revm.Model.Evm Revm.Proofs.EvmInst
open Revm.Model.Journal (JState)

/-- the database of the instance: `Evm.World` without the journal (pre-state accounts, code store, log records,
enumeration lists, precompile oracle) -/
structure WDb where
  addrs : List Nat
  slots : List (Nat × Nat)
  codes : List (Nat × List Nat)
  logs : List LogRec
  pre : List PreAcct
  dbHasStorage : Bool
  pcOracle : List PcAnswer

def WDb.of (w : World) : WDb :=
  { addrs := w.addrs, slots := w.slots, codes := w.codes, logs := w.logs, pre := w.pre,
    dbHasStorage := w.dbHasStorage, pcOracle := w.pcOracle }

def mkWorld (d : WDb) (js : JState) : World :=
  { js := js, addrs := d.addrs, slots := d.slots, codes := d.codes, logs := d.logs, pre := d.pre,
    dbHasStorage := d.dbHasStorage, pcOracle := d.pcOracle }

theorem mkWorld_of (w : World) : mkWorld (WDb.of w) w.js = w := rfl
theorem of_mkWorld (d : WDb) (js : JState) : WDb.of (mkWorld d js) = d := rfl
theorem mkWorld_js (d : WDb) (js : JState) : (mkWorld d js).js = js := rfl

inductive LErr
  /-- `EVMError::Transaction(_) | EVMError::Header(_)`: `Outcome.rejected` -/
  | rejected
  /-- the concrete model stops without a result (Rust panic, fatal precompile error, missing oracle line) -/
  | err (e : Evm.Err)

abbrev LWork := EvmLifecycle.Work WDb LErr Empty
abbrev LCtx := EvmLifecycle.Ctx WDb Env LErr Nat Empty
abbrev LStage (α : Type) := EvmLifecycle.Stage WDb Env LErr Empty α

def workWorld (w : LWork) : World := mkWorld w.db w.js
def setWorld (w : LWork) (x : World) : LWork := { w with db := WDb.of x, js := x.js }
def ctxWorld (c : LCtx) : World := mkWorld c.db c.js

theorem setWorld_world (w : LWork) (x : World) : workWorld (setWorld w x) = x := rfl
theorem setWorld_error (w : LWork) (x : World) : (setWorld w x).error = w.error := rfl
theorem setWorld_setWorld (w : LWork) (x y : World) : setWorld (setWorld w x) y = setWorld w y := rfl
theorem setWorld_self (w : LWork) : setWorld w (workWorld w) = w := rfl

/-- a stage of the concrete model as a life-cycle stage; one that fails at model level leaves the context as it was -/
def liftStage {α : Type} (f : World → R (α × World)) (w : LWork) : Except LErr α × LWork :=
  match f (workWorld w) with
  | .ok (a, x) => (.ok a, setWorld w x)
  | .error e => (.error (.err e), w)

def liftStageU (f : World → R World) (w : LWork) : Except LErr Unit × LWork :=
  match f (workWorld w) with
  | .ok x => (.ok (), setWorld w x)
  | .error e => (.error (.err e), w)

/-- the state of `run_the_loop` between two iterations: a call stack, or a top frame that an outcome insertion left
stopped (`Next.ended`) -/
inductive LS
  | run (stack : List (Frame Journal.Checkpoint))
  | ended (top : Frame Journal.Checkpoint) (rest : List (Frame Journal.Checkpoint)) (r : Interp.IResult)
      (out : List Nat) (s : Interp.IState)

/-- one instruction of the top frame with its host question answered: the first half of `Evm.iterate` -/
def stepTop (cfg : Cfg) (top : Frame Journal.Checkpoint) (w : World) : R (Interp.Done × World) :=
  match Interp.step top.interp with
  | .pure d => pure (d, w)
  | .host op k => do
    let (resp, w) ← answer cfg.he w op
    pure (k resp, w)

theorem iterate_eq (cfg : Cfg) (top : Frame Journal.Checkpoint) (rest : List (Frame Journal.Checkpoint)) (w : World) :
    iterate journalOps cfg (top :: rest) w = (do
      let (d, w) ← stepTop cfg top w
      afterStep journalOps cfg top rest d w) := by
  unfold iterate stepTop
  dsimp only
  cases Interp.step top.interp with
  | pure d => rfl
  | host op k =>
    simp only [bind, Except.bind]
    cases answer cfg.he w op with
    | error e => rfl
    | ok p => rfl

/-- what the running frame did: `some d` = one instruction ended as `d`; `none` = no instruction (the frame was
already stopped) -/
abbrev Act := Option Interp.Done

def execFrame (cfg : Cfg) (ls : LS) (w : World) : R (Act × World) :=
  match ls with
  | .run [] => throw (.panic "empty call stack")
  | .run (top :: _) => do
    let (d, w) ← stepTop cfg top w
    pure (some d, w)
  | .ended .. => pure (none, w)

def ofNext : Next Journal.Checkpoint → (LS ⊕ Interp.ChildResult) × World
  | .run stack w => (.inl (.run stack), w)
  | .ended top rest r out s w => (.inl (.ended top rest r out s), w)
  | .done r w => (.inr r, w)

def actFrame (cfg : Cfg) (ls : LS) (a : Act) (w : World) : R ((LS ⊕ Interp.ChildResult) × World) :=
  match ls, a with
  | .run (top :: rest), some d => do
    let n ← afterStep journalOps cfg top rest d w
    pure (ofNext n)
  | .ended top rest r out s, none => do
    let n ← frameEnd journalOps cfg top rest r out s w
    pure (ofNext n)
  | _, _ => throw (.panic "loop state and action do not match")

/-- the first frame's result and the gas meter of the transaction (set by `last_frame_return`, adjusted by `refund`) -/
abbrev FRes := Interp.ChildResult × Gas.Gas

/-- `ExecutionResult` with the logs still as the journal's log ids (the records live in the database part `WDb.logs`,
which `post_execution.output` cannot see in the abstract model) -/
abbrev ERes := TxResult × List Nat

def resolve (store : List LogRec) (r : ERes) : TxResult := { r.1 with logs := logsOf r.2 store }

/-- the part of `output` after `finalize` -/
def mkRes (e : Env) (fr : FRes) (st : EvmLifecycle.EvmState) (ids : List Nat) :
    Except LErr (ERes × EvmLifecycle.EvmState) :=
  match classOf fr.1.result with
  | none => .error (.err (.panic "unexpected internal return flag"))
  | some cls => .ok ((txResultOf cls fr.1 e.tx.to.isNone fr.2 [], if cls = .success then ids else []), st)

theorem resolve_txResultOf (store : List LogRec) (cls : ResultClass) (res : Interp.ChildResult) (isCreate : Bool)
    (gas : Gas.Gas) (ids : List Nat) :
    resolve store (txResultOf cls res isCreate gas [], if cls = .success then ids else []) =
      txResultOf cls res isCreate gas (logsOf ids store) := by
  cases cls <;> rfl

/-- a gas meter that is never read (the first frame's result before `last_frame_return`) -/
def noGas : Gas.Gas := Gas.new 0

def evmHandler (spec : Nat) :
    EvmLifecycle.Handler WDb Env LErr Nat Empty (Nat × Nat) LS Act FRes ERes :=
  let sp := GasCalc.canon spec
  { spec := spec
    validateEnv := fun e =>
      match validateEnv e sp with
      | .error err => .error (.err err)
      | .ok false => .error .rejected
      | .ok true => .ok ()
    initialTxGas := fun e =>
      match initialTxGas e sp with
      | .error err => .error (.err err)
      | .ok none => .error .rejected
      | .ok (some g) => .ok g
    txAgainstState := fun e w =>
      match txAgainstState e sp (workWorld w) with
      | .error err => (.error (.err err), w)
      | .ok (x, false) => (.error .rejected, setWorld w x)
      | .ok (x, true) => (.ok (), setWorld w x)
    coinbase := fun e => e.block.coinbase
    loadAccessList := fun e w => (.ok (), setWorld w (loadAccessList e (workWorld w)))
    loadPrecompiles := sp
    precompileAddrs := fun p => precompileAddrs p
    deductCaller := fun _ e => liftStageU (deductCaller e sp)
    applyAuthList := fun _ e => liftStage (fun x => (applyAuthList e sp x).map (fun p => (p.2, p.1)))
    firstFrame := fun _ g e => liftStage (fun x =>
      (firstFrame journalOps (e.toCfg sp) e (firstGasLimit e g.1) x).map (fun p =>
        (match p.1 with
         | .frame f => Sum.inl (LS.run [f])
         | .result r => Sum.inr (r, noGas), p.2)))
    executeFrame := fun _ ls e => liftStage (execFrame (e.toCfg sp) ls)
    frameAction := fun _ ls a e => liftStage (fun x =>
      (actFrame (e.toCfg sp) ls a x).map (fun p =>
        (match p.1 with
         | .inl ls' => Sum.inl ls'
         | .inr r => Sum.inr (r, noGas), p.2)))
    lastFrameReturn := fun _ fr e w => (.ok (fr.1, lastFrameGas e fr.1), w)
    refund := fun _ g refund7702 fr => (fr.1, refundGas sp g.2 refund7702 fr.2)
    reimburseCaller := fun _ fr e => liftStageU (reimburse e fr.2)
    rewardBeneficiary := fun _ fr e => liftStageU (reward e sp fr.2)
    mkResult := mkRes
    endHook := fun out _ w => (out, w) }

end Revm.Proofs.EvmInstLife
