import Revm.Proofs.GasCalc
import Revm.Proofs.Gas
/-! C14, transaction part: intrinsic gas, EIP-7623 floor, `validate_initial_tx_gas`. -/
namespace Revm.Proofs.GasCalc
open Revm Revm.U64ops Revm.Model.GasCalc Revm.Model.GasCalc.SpecId
open Revm.Proofs.Gas (wadd_of_lt wmul_of_lt wsub_of_le wadd_wmul)
open Revm.Spec.GasCalc (Fork ceil32 zeroBytes nonZeroBytes intrinsicGas floorGas tokens7623)
open Revm.Spec.GasCalc.Fork

theorem foldl_wadd (l : List Nat) (a : Nat) (ha : a < U64) :
    l.foldl (fun a k => wadd a k) a = (a + l.sum) % U64 := by
  have hU := U64_val
  induction l generalizing a with
  | nil => simp only [List.foldl_nil, List.sum_nil, Nat.add_zero]; exact (Nat.mod_eq_of_lt ha).symm
  | cons x xs ih =>
    simp only [List.foldl_cons, List.sum_cons]
    rw [ih _ (by unfold wadd; rw [hU]; omega)]; unfold wadd
    rw [Nat.mod_add_mod, Nat.add_assoc]

theorem zeros_eq (input : List Nat) : (input.filter (fun v => v == 0)).length = zeroBytes input := by
  unfold zeroBytes
  rw [List.countP_eq_length_filter]
  congr 1

theorem zeros_add_nonzeros (input : List Nat) : zeroBytes input + nonZeroBytes input = input.length := by
  unfold zeroBytes nonZeroBytes
  rw [List.length_eq_countP_add_countP (fun x => decide (x = 0)) (l := input)]
  congr 1
  apply List.countP_congr
  intro x _; simp

theorem calcTxFloorCost_eq (t : Nat) (h : 21000 + 10 * t < U64) : calcTxFloorCost t = 21000 + 10 * t := by
  unfold calcTxFloorCost TOTAL_COST_FLOOR_PER_TOKEN
  rw [wmul_of_lt _ _ (by omega), wadd_of_lt _ _ (by omega)]; omega

theorem getTokensInCalldata_eq (input : List Nat) (ist : Bool)
    (h : zeroBytes input + (if ist then 4 else 17) * nonZeroBytes input < U64) :
    getTokensInCalldata input ist = zeroBytes input + (if ist then 4 else 17) * nonZeroBytes input := by
  have hlen := zeros_add_nonzeros input
  have hm : (if ist then 16 / 4 else 68 / 4) = (if ist then 4 else 17) := by cases ist <;> rfl
  have hpos : nonZeroBytes input ≤ (if ist then 4 else 17) * nonZeroBytes input :=
    Nat.le_mul_of_pos_left _ (by cases ist <;> decide)
  unfold getTokensInCalldata NON_ZERO_BYTE_MULTIPLIER_ISTANBUL NON_ZERO_BYTE_MULTIPLIER
    NON_ZERO_BYTE_DATA_COST_ISTANBUL NON_ZERO_BYTE_DATA_COST STANDARD_TOKEN_COST
  simp only []
  rw [zeros_eq, hm, wsub_of_le _ _ (by omega) (by omega),
    show input.length - zeroBytes input = nonZeroBytes input by omega,
    wadd_wmul _ _ _ (by rw [Nat.mul_comm]; exact h), Nat.mul_comm]

theorem calculateInitialTxGas_eq (f : Fork) (input : List Nat) (cr : Bool) (acl : List Nat) (auth : Nat)
    (h1 : intrinsicGas f input cr acl auth < U64) (h2 : floorGas f input < U64) :
    calculateInitialTxGas f.id input cr acl auth
      = some (intrinsicGas f input cr acl auth, floorGas f input) := by
  have hlen := zeros_add_nonzeros input
  have hg := gates_monotone f
  have hm : hasEIP7623 f = true → hasEIP2200 f = true :=
    fun h => hg.2.2.2.1 (hg.2.2.1 (hg.2.1 (hg.1 h)))
  clear hg
  unfold intrinsicGas at h1 ⊢
  unfold floorGas tokens7623 at h2 ⊢
  unfold calculateInitialTxGas
  rw [en_istanbul, en_berlin, en_homestead, en_shanghai, en_prague]
  generalize hasEIP2200 f = e2 at *
  generalize hasEIP7623 f = e5 at *
  -- the only product of two unknowns, `multiplier * non_zero_data_len`, becomes one unknown `tn`
  have hb : zeroBytes input + (if e2 then 4 else 17) * nonZeroBytes input < U64 ∧ input.length + 31 < U64 ∧
      (if e2 then 16 else 68) * nonZeroBytes input = 4 * ((if e2 then 4 else 17) * nonZeroBytes input) := by
    cases e2 <;> simp only [Bool.false_eq_true, if_true, if_false] at h1 ⊢ <;> omega
  have hfl : (if e5 then 21000 + 10 * (zeroBytes input + 4 * nonZeroBytes input) else 0)
      = if e5 then 21000 + 10 * (zeroBytes input + (if e2 then 4 else 17) * nonZeroBytes input) else 0 := by
    cases e5
    · rfl
    · rw [hm rfl]; rfl
  rw [getTokensInCalldata_eq _ _ hb.1, initcodeCost_eq _ hb.2.1, foldl_wadd _ _ (by omega)]
  rw [hb.2.2] at h1 ⊢
  rw [hfl] at h2 ⊢
  clear hb hfl hm
  unfold Spec.GasCalc.initcodeCost STANDARD_TOKEN_COST ACCESS_LIST_ADDRESS ACCESS_LIST_STORAGE_KEY
    PER_EMPTY_ACCOUNT_COST
  generalize (if e2 then 4 else 17) * nonZeroBytes input = tn at *
  generalize zeroBytes input = z at *
  generalize ceil32 input.length = C at *
  generalize acl.length = L at *
  generalize acl.sum = S at *
  generalize hasEIP2 f = e1 at *
  generalize hasEIP2929 f = e3 at *
  generalize hasEIP3860 f = e4 at *
  simp only []
  -- every `+=` adds one summand of the Spec's formula: each running total is a partial sum of the
  -- intrinsic gas, so nothing wraps
  have s0 : wadd 0 (wmul (z + tn) 4) = 4 * z + 4 * tn := by rw [wadd_wmul _ _ _ (by omega)]; omega
  have s1 : (if e3 then wadd (wadd (4 * z + 4 * tn) (wmul L 2400)) (wmul ((0 + S) % U64) 1900) else 4 * z + 4 * tn)
      = 4 * z + 4 * tn + (if e3 then 2400 * L + 1900 * S else 0) := by
    cases e3 <;> simp only [Bool.false_eq_true, if_true, if_false] at h1 ⊢
    · rfl
    · rw [Nat.zero_add S, Nat.mod_eq_of_lt (by omega), wadd_wmul _ L _ (by omega), wadd_wmul _ _ _ (by omega)]
      omega
  have s2 : wadd (4 * z + 4 * tn + (if e3 then 2400 * L + 1900 * S else 0))
        (if cr then if e1 then 53000 else 21000 else 21000)
      = 21000 + (if cr ∧ e1 then 32000 else 0) + 4 * z + 4 * tn + (if e3 then 2400 * L + 1900 * S else 0) := by
    have : (if cr then if e1 then 53000 else 21000 else 21000) = 21000 + (if cr ∧ e1 then 32000 else 0) := by
      cases cr <;> cases e1 <;> rfl
    rw [this, wadd_of_lt _ _ (by omega)]; omega
  rw [s0, s1, s2]
  clear s0 s1 s2
  generalize (21000 + if cr ∧ e1 then 32000 else 0) + 4 * z + 4 * tn + (if e3 then 2400 * L + 1900 * S else 0) = G at *
  have s3 : (if (e4 && cr) = true then some (wadd G (2 * C)) else some G)
      = some (G + if e4 = true ∧ cr = true then 2 * C else 0) := by
    simp only [Bool.and_eq_true]
    by_cases h4 : e4 = true ∧ cr = true <;> simp only [h4, and_self, if_true, if_false] at h1 ⊢
    · rw [wadd_of_lt _ _ (by omega)]
    · rfl
  rw [s3]
  cases e5 <;> simp only [Bool.false_eq_true, if_true, if_false] at h1 h2 ⊢
  · rfl
  · rw [wadd_wmul _ _ _ (by omega), calcTxFloorCost_eq _ h2, Nat.mul_comm auth]

/-- the fork a `SpecId` is executed as by `spec_to_generic!` -/
def canonFork : Fork → Fork
  | .frontierThawing => .frontier
  | .daoFork => .homestead
  | .constantinople => .petersburg
  | .muirGlacier => .istanbul
  | .arrowGlacier => .london
  | .grayGlacier => .london
  | f => f

theorem canon_id (f : Fork) : canon f.id = (canonFork f).id := by cases f <;> rfl
theorem intrinsic_canon (f : Fork) (input : List Nat) (cr : Bool) (acl : List Nat) (auth : Nat) :
    intrinsicGas (canonFork f) input cr acl auth = intrinsicGas f input cr acl auth := by cases f <;> rfl
theorem floor_canon (f : Fork) (input : List Nat) : floorGas (canonFork f) input = floorGas f input := by
  cases f <;> rfl
theorem prague_canon (f : Fork) : hasEIP7623 (canonFork f) = hasEIP7623 f := by cases f <;> rfl

theorem validateInitialTxGas_eq (f : Fork) (input : List Nat) (cr : Bool) (acl : List Nat) (nauth lim : Nat)
    (h1 : intrinsicGas f input cr acl nauth < U64) (h2 : floorGas f input < U64) :
    validateInitialTxGas f.id input cr acl nauth lim =
      if intrinsicGas f input cr acl nauth > lim then .callGasCostMoreThanGasLimit
      else if floorGas f input > lim then .gasFloorMoreThanGasLimit
      else .ok (intrinsicGas f input cr acl nauth) (floorGas f input) := by
  unfold validateInitialTxGas
  simp only []
  rw [canon_id, calculateInitialTxGas_eq (canonFork f) input cr acl nauth
    (by rw [intrinsic_canon]; exact h1) (by rw [floor_canon]; exact h2), en_prague, prague_canon,
    intrinsic_canon, floor_canon]
  simp only []
  by_cases hi : intrinsicGas f input cr acl nauth > lim
  · simp only [hi, if_true]
  · simp only [hi, if_false]
    by_cases hf : floorGas f input > lim
    · have hp : hasEIP7623 f = true := by
        unfold floorGas at hf
        cases h : hasEIP7623 f
        · simp only [h, Bool.false_eq_true, if_false] at hf; omega
        · rfl
      simp only [hf, hp, and_self, if_true]
    · simp only [hf, and_false, if_false]

end Revm.Proofs.GasCalc
