import Revm.Proofs.InspectorWrapDriver
/-! C28 at the instruction level: under an `Observing` inspector the wrapped instruction table, `step`, `run` and
`execute_frame` compute what the plain ones compute and only the inspector's own state moves (`wrap_step`, `wrap_run`,
`wrap_executeFrame`). The C28 modules build on one another in the order `InspectorWrapDriver`, `InspectorWrap`,
`InspectorWrapLoop` (the frame loop), `InspectorWrapTop` (the transaction), `InspectorWrapEx` (witnesses). -/
namespace Revm.Proofs.InspectorWrap
open Revm Revm.Model.InspectorWrap


variable {T : Ty} {S : Type}

abbrev withObs (w : WState T S) (s : S) : WState T S := { w with obs := s }

@[simp] theorem withObs_withObs (w : WState T S) (s s' : S) : withObs (withObs w s) s' = withObs w s' := rfl
@[simp] theorem withObs_callStack (w : WState T S) (s : S) : (withObs w s).callStack = w.callStack := rfl
@[simp] theorem withObs_createStack (w : WState T S) (s : S) : (withObs w s).createStack = w.createStack := rfl
@[simp] theorem withObs_eofStack (w : WState T S) (s : S) : (withObs w s).eofStack = w.eofStack := rfl

/-- `ip - 1 … ip + 1` nets to the identity: when the interpreter is still running
(`instruction_result == Continue`, which is the loop condition of `Interpreter::run`) and the pointer was
already advanced by `step` (`1 ≤ ip`), the wrapped instruction is the instruction; only the inspector's own
state moves. -/
theorem inspectorInstruction_running {rel : ORel} {obs : Observer T S} (h : Observing obs rel)
    (i : IState T → T.E → IState T × T.E) (st : IState T) (c : T.E × WState T S)
    (hc : st.instructionResult = .Continue) (hip : 1 ≤ st.ip) :
    ∃ s', inspectorInstruction obs (liftInstr i) st c = ((i st c.1).1, ((i st c.1).2, withObs c.2 s')) := by
  obtain ⟨ip, ir, gas, mem, na, rest⟩ := st
  simp only at hc hip
  subst hc
  have hs := h.step c.2.obs { ip := ip - 1, instructionResult := .Continue, gas := gas, mem := mem, nextAction := na, rest := rest } c.1
  have hip' : ip - 1 + 1 = ip := by omega
  refine ⟨(obs.stepEnd (obs.step c.2.obs { ip := ip - 1, instructionResult := .Continue, gas := gas, mem := mem, nextAction := na, rest := rest } c.1).1
    (i { ip := ip, instructionResult := .Continue, gas := gas, mem := mem, nextAction := na, rest := rest } c.1).1
    (i { ip := ip, instructionResult := .Continue, gas := gas, mem := mem, nextAction := na, rest := rest } c.1).2).1, ?_⟩
  unfold inspectorInstruction
  dsimp only
  simp only [hs, ne_eq, not_true_eq_false, if_false, liftInstr, hip']
  have he := h.stepEnd (obs.step c.2.obs { ip := ip - 1, instructionResult := .Continue, gas := gas, mem := mem, nextAction := na, rest := rest } c.1).1
    (i { ip := ip, instructionResult := .Continue, gas := gas, mem := mem, nextAction := na, rest := rest } c.1).1
    (i { ip := ip, instructionResult := .Continue, gas := gas, mem := mem, nextAction := na, rest := rest } c.1).2
  simp only [he]

theorem logWrapper_eq {rel : ORel} {obs : Observer T S} (h : Observing obs rel) (ops : EnvOps T)
    (prev : IState T → T.E × WState T S → IState T × (T.E × WState T S)) (st : IState T)
    (c : T.E × WState T S) :
    ∃ s', logWrapper ops obs prev st c = ((prev st c).1, ((prev st c).2.1, withObs (prev st c).2.2 s')) := by
  unfold logWrapper
  dsimp only
  by_cases hl : (ops.logs (prev st c).2.1).length = (ops.logs c.1).length + 1
  · simp only [hl, if_true]
    cases hg : (ops.logs (prev st c).2.1).getLast? with
    | none => exact ⟨(prev st c).2.2.obs, rfl⟩
    | some l =>
      have := h.log (prev st c).2.2.obs (prev st c).1 (prev st c).2.1 l
      exact ⟨(obs.log (prev st c).2.2.obs (prev st c).1 (prev st c).2.1 l).1, by simp only [this]⟩
  · simp only [hl, if_false]
    exact ⟨(prev st c).2.2.obs, rfl⟩

theorem selfdestructWrapper_eq (ops : EnvOps T) (obs : Observer T S)
    (prev : IState T → T.E × WState T S → IState T × (T.E × WState T S)) (st : IState T)
    (c : T.E × WState T S) :
    ∃ s', selfdestructWrapper ops obs prev st c = ((prev st c).1, ((prev st c).2.1, withObs (prev st c).2.2 s')) := by
  unfold selfdestructWrapper
  dsimp only
  by_cases hl : (prev st c).1.instructionResult = .SelfDestruct
  · simp only [hl, ne_eq, not_true_eq_false, if_false]
    exact ⟨_, rfl⟩
  · simp only [hl, ne_eq, not_false_eq_true, if_true]
    exact ⟨(prev st c).2.2.obs, rfl⟩

theorem wrapTable_running {rel : ORel} {obs : Observer T S} (h : Observing obs rel) (ops : EnvOps T)
    (table : Nat → IState T → T.E → IState T × T.E) (opcode : Nat) (st : IState T) (c : T.E × WState T S)
    (hc : st.instructionResult = .Continue) (hip : 1 ≤ st.ip) :
    ∃ s', wrapTable ops obs table opcode st c =
      ((table opcode st c.1).1, ((table opcode st c.1).2, withObs c.2 s')) := by
  obtain ⟨s1, h1⟩ := inspectorInstruction_running h (table opcode) st c hc hip
  unfold wrapTable
  by_cases hlog : opLOG0 ≤ opcode ∧ opcode ≤ opLOG4
  · simp only [hlog, and_self, if_true]
    obtain ⟨s2, h2⟩ := logWrapper_eq h ops (inspectorInstruction obs (liftInstr (table opcode))) st c
    rw [h2, h1]; exact ⟨s2, rfl⟩
  · simp only [hlog, if_false]
    by_cases hsd : opcode = opSELFDESTRUCT
    · simp only [hsd, if_true]
      obtain ⟨s2, h2⟩ := selfdestructWrapper_eq ops obs (inspectorInstruction obs (liftInstr (table opSELFDESTRUCT))) st c
      rw [h2]; subst hsd; rw [h1]; exact ⟨s2, rfl⟩
    · simp only [hsd, if_false]; exact ⟨s1, h1⟩

theorem wrap_step {rel : ORel} {obs : Observer T S} (h : Observing obs rel) (ops : EnvOps T)
    (m : Machine T T.E) (st : IState T) (c : T.E × WState T S) (hc : st.instructionResult = .Continue) :
    ∃ s', (wrap ops obs m).step st c = ((m.step st c.1).1, ((m.step st c.1).2, withObs c.2 s')) := by
  unfold Machine.step
  exact wrapTable_running h ops m.table (m.fetch st) { st with ip := st.ip + 1 } c hc (by simp)

def liftRun (w : WState T S) (s : S) : Option (IState T × T.E) → Option (IState T × (T.E × WState T S))
  | none => none
  | some x => some (x.1, (x.2, withObs w s))

theorem wrap_runInterp {rel : ORel} {obs : Observer T S} (h : Observing obs rel) (ops : EnvOps T)
    (m : Machine T T.E) : ∀ (n : Nat) (st : IState T) (c : T.E × WState T S),
    ∃ s', (wrap ops obs m).runInterp n st c = liftRun c.2 s' (m.runInterp n st c.1) := by
  intro n
  induction n with
  | zero => intro st c; exact ⟨c.2.obs, rfl⟩
  | succ n ih =>
    intro st c
    by_cases hc : st.instructionResult = .Continue
    · obtain ⟨s1, h1⟩ := wrap_step h ops m st c hc
      obtain ⟨s2, h2⟩ := ih (m.step st c.1).1 ((m.step st c.1).2, withObs c.2 s1)
      refine ⟨s2, ?_⟩
      show (if st.instructionResult = .Continue then _ else _) = liftRun c.2 s2 (if st.instructionResult = .Continue then _ else _)
      rw [if_pos hc, if_pos hc, h1]
      exact h2
    · refine ⟨c.2.obs, ?_⟩
      show (if st.instructionResult = .Continue then _ else _) = liftRun c.2 c.2.obs (if st.instructionResult = .Continue then _ else _)
      rw [if_neg hc, if_neg hc]
      rfl

def liftAct (w : WState T S) (s : S) : Option (Action T × IState T × T.E) →
    Option (Action T × IState T × (T.E × WState T S))
  | none => none
  | some x => some (x.1, x.2.1, (x.2.2, withObs w s))

theorem runPost_wrap (st : IState T) (e : T.E) (w : WState T S) :
    runPost st (e, w) = ((runPost st e).1, (runPost st e).2.1, ((runPost st e).2.2, w)) := by
  unfold runPost
  cases st.nextAction <;> rfl

theorem wrap_run {rel : ORel} {obs : Observer T S} (h : Observing obs rel) (ops : EnvOps T)
    (m : Machine T T.E) (n : Nat) (st : IState T) (mem : T.Mem) (c : T.E × WState T S) :
    ∃ s', (wrap ops obs m).run n st mem c = liftAct c.2 s' (m.run n st mem c.1) := by
  obtain ⟨s1, h1⟩ := wrap_runInterp h ops m n { st with nextAction := .none, mem := mem } c
  refine ⟨s1, ?_⟩
  rw [run_eq, run_eq, h1]
  cases m.runInterp n { st with nextAction := .none, mem := mem } c.1 with
  | none => rfl
  | some x => exact congrArg some (runPost_wrap x.1 x.2 _)

def liftExec (w : WState T S) (s : S) : Option (Action T × Frame T × T.Mem × T.E) →
    Option (Action T × Frame T × T.Mem × (T.E × WState T S))
  | none => none
  | some x => some (x.1, x.2.1, x.2.2.1, (x.2.2.2, withObs w s))

theorem wrap_executeFrame {rel : ORel} {obs : Observer T S} (h : Observing obs rel) (ops : EnvOps T)
    (m : Machine T T.E) (n : Nat) (f : Frame T) (sh : T.Mem) (c : T.E × WState T S) :
    ∃ s', (wrap ops obs m).executeFrame n f sh c = liftExec c.2 s' (m.executeFrame n f sh c.1) := by
  obtain ⟨s1, h1⟩ := wrap_runInterp h ops m n { f.interp with nextAction := .none, mem := sh } c
  refine ⟨s1, ?_⟩
  rw [executeFrame_eq, executeFrame_eq, h1]
  cases m.runInterp n { f.interp with nextAction := .none, mem := sh } c.1 with
  | none => rfl
  | some x =>
    show some (framePost (wrap ops obs m) f x.1 (x.2, withObs c.2 s1)) = some _
    simp only [framePost, runPost_wrap]; rfl

end Revm.Proofs.InspectorWrap
