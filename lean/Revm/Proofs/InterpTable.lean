import Revm.Model.Interp
import Revm.Gen.Tables
/-! C25 ⇄ kind-A table: the activation gate of the interpreter model (`decode` + the `check!` of each handler,
+ `require_eof!`) equals, for every opcode byte and every SpecId, what the compiled interpreter did when the table
was dumped (`Gen.opStatus`, regenerated on every run). -/
namespace Revm.Proofs.Interp
open Revm Revm.Model Revm.Model.Interp

/-- the state the dumper prepares: one opcode, 17 stack items, ample gas (`harness/src/act.rs::op_status`) -/
def gateState (spec op : Nat) : IState :=
  { code := op :: List.replicate 33 0, origLen := 1, jumpTable := List.replicate 34 false, pc := 0,
    stack := List.replicate 17 1, mem := Memory.new, gas := Gas.new 10000000, returnData := [], input := [],
    isStatic := false, isEof := false, isEofInit := false, spec := spec, target := 0, caller := 0, callValue := 0,
    env := {} }

/-- `gate_code` of the result of the first instruction -/
def gateOf (spec op : Nat) : Nat :=
  match step (gateState spec op) with
  | .pure (.halt .NotActivated _ _) => 1
  | .pure (.halt .OpcodeNotFound _ _) => 2
  | .pure (.halt .EOFOpcodeDisabledInLegacy _ _) => 3
  | .pure (.halt .InvalidFEOpcode _ _) => 4
  | .pure (.halt .ReturnContractInNotInitEOF _ _) => 5
  | _ => 0

/-- the dumped row of `spec` is the model's gate, byte by byte, at the SpecId `spec_to_generic!` runs `spec` as -/
def gateRowOk (spec : Nat) (codes : List Nat) : Bool :=
  (List.range 256).all fun op => codes[op]? == some (gateOf (GasCalc.canon spec) op)

theorem canon_canon (spec : Nat) : GasCalc.canon (GasCalc.canon spec) = GasCalc.canon spec := by
  -- the six SpecIds `canon` moves: FRONTIER_THAWING, DAO_FORK, CONSTANTINOPLE, MUIR / ARROW / GRAY_GLACIER
  by_cases h : spec = 1 ∨ spec = 3 ∨ spec = 7 ∨ spec = 10 ∨ spec = 13 ∨ spec = 14
  · rcases h with rfl | rfl | rfl | rfl | rfl | rfl <;> rfl
  · have : GasCalc.canon spec = spec := by
      simp only [not_or] at h
      simp [GasCalc.canon, GasCalc.SpecId.FRONTIER_THAWING, GasCalc.SpecId.DAO_FORK, GasCalc.SpecId.CONSTANTINOPLE,
        GasCalc.SpecId.MUIR_GLACIER, GasCalc.SpecId.ARROW_GLACIER, GasCalc.SpecId.GRAY_GLACIER, h]
    rw [this, this]

/-- the model is run once per opcode and marker type: a SpecId that `spec_to_generic!` executes as its neighbour has to
show the neighbour's row -/
def gateRowRun : Nat × List Nat → Bool
  | (spec, codes) =>
    if GasCalc.canon spec = spec then codes == (List.range 256).map (gateOf spec)
    else Gen.opStatus.contains (GasCalc.canon spec, codes)

theorem gate_rows : Gen.opStatus.all gateRowRun = true := by
  decide +kernel

theorem gate_table : Gen.opStatus.all (fun r => gateRowOk r.1 r.2) = true := by
  have canonical : ∀ spec codes, (spec, codes) ∈ Gen.opStatus → GasCalc.canon spec = spec →
      gateRowOk spec codes = true := by
    intro spec codes hm hc
    have h := List.all_eq_true.mp gate_rows _ hm
    simp only [gateRowRun, if_pos hc, beq_iff_eq] at h
    refine List.all_eq_true.mpr fun op hop => ?_
    simp [h, hc, List.mem_range.mp hop]
  refine List.all_eq_true.mpr fun (spec, codes) hm => ?_
  by_cases hc : GasCalc.canon spec = spec
  · exact canonical spec codes hm hc
  · have h := List.all_eq_true.mp gate_rows _ hm
    simp only [gateRowRun, if_neg hc, List.contains_iff_mem] at h
    have := canonical _ codes h (canon_canon spec)
    rwa [gateRowOk, canon_canon] at this

end Revm.Proofs.Interp
