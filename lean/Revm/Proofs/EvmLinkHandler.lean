import Revm.Proofs.EvmLinkValidate
import Revm.Proofs.EvmLinkHost
import Revm.Proofs.EtherTx
import Revm.Proofs.EvmFrame
import Revm.Proofs.EvmInstStages
import Revm.Proofs.EtherHistory
import Revm.Proofs.Evm
/-! The stages of the transaction handler around the frame loop. The three balance writes (`deduct_caller`,
`reimburse_caller`, `reward_beneficiary`) are one function, `leg`: `load_account(a)`, then the loaded account overwritten
in place, not journaled; `Leg` is its graph, with one lemma per thing the properties ask of a leg. `load_accounts`,
validation's `load_code` and the EIP-7702 list are writes the ledger does not see (`Quiet`, `applyAuthList_wrun`).
`Exec` is a completed executed `Evm.transact` as the record of its stages (`transact_exec`); every transaction-level
corollary starts from it. Also here: `FirstFrameResult`, `txFrame`, `FrameAccounting`, `authRefund`, and the deciders
behind the examples of `Props/C01Link` (`isNoneOk`, `isExecuted`, `loadedSenderIs`). `transactWith_ok` /
`transactWith_rule` of `Proofs.Evm` are exported into `EvmLink` here. -/

namespace Revm.Proofs.EvmLink
open Revm Revm.Model Revm.Model.Evm
open Revm.Model.GasCalc (enabled)
open Revm.Proofs.Evm (bind_ok)
export Revm.Proofs.Evm (transactWith_ok transactWith_rule)

section
variable {κ : Type}

theorem transactWith_rejected_iff (C : CpOps κ) (fuel : Nat) (w w' : World) (e : Evm.Env) (spec : Nat) :
    transactWith C fuel w e spec = .ok (.rejected, w') ↔
      (preverify w e (GasCalc.canon spec) = .ok none ∧ w' = w) := by
  refine ⟨fun h => ?_, fun ⟨hp, hw⟩ => ?_⟩
  · rcases transactWith_ok h with ⟨hp, _, hw⟩ | ⟨_, _, _, _, _, _, _, _, _, _, _, _, _, _, ho⟩
    · exact ⟨hp, hw⟩
    · cases ho
  · subst hw
    show (preverify w' e (GasCalc.canon spec) >>= _) = _
    rw [hp]; rfl

end

theorem forIn_count {α σ : Type} (f : α → σ × Nat → R (ForInStep (σ × Nat)))
    (hf : ∀ a s st, f a s = .ok st → ∃ s', st = .yield s' ∧ s.2 ≤ s'.2 ∧ s'.2 ≤ s.2 + 1) :
    ∀ (l : List α) (s r : σ × Nat), forIn (m := R) l s f = .ok r → s.2 ≤ r.2 ∧ r.2 ≤ s.2 + l.length := by
  intro l
  induction l with
  | nil =>
    intro s r h
    simp only [List.forIn_nil, pure, Except.pure, Except.ok.injEq] at h
    subst h; simp
  | cons a l ih =>
    intro s r h
    rw [List.forIn_cons] at h
    obtain ⟨st, h1, h2⟩ := bind_ok h
    obtain ⟨s', rfl, hlo, hhi⟩ := hf a s st h1
    have := ih _ _ h2
    simp only [List.length_cons]; omega

def authLen (e : Evm.Env) : Nat := match e.tx.authList with | some l => l.length | none => 0

theorem authLen_none {e : Evm.Env} (h : e.tx.authList = none) : authLen e = 0 := by unfold authLen; rw [h]

/-- what `apply_eip7702_auth_list` hands to the gas pipeline: `authRefund k`, `k` the authorities refunded -/
theorem applyAuthList_refund (e : Evm.Env) (spec : Nat) (w w' : World) (r : Nat)
    (h : applyAuthList e spec w = .ok (w', r)) :
    ∃ k, r = U64ops.wmul k (Evm.PER_EMPTY_ACCOUNT_COST - Evm.PER_AUTH_BASE_COST) ∧
      k ≤ authLen e := by
  unfold applyAuthList at h
  simp only [bind, Except.bind, pure, Except.pure] at h
  split at h
  · simp only [Except.ok.injEq, Prod.mk.injEq] at h
    exact ⟨0, by rw [← h.2]; rfl, Nat.zero_le _⟩
  · cases hal : e.tx.authList with
    | none =>
      rw [hal] at h
      simp only [Except.ok.injEq, Prod.mk.injEq] at h
      exact ⟨0, by rw [← h.2]; rfl, Nat.zero_le _⟩
    | some l =>
      rw [hal] at h
      simp only at h
      split at h
      · cases h
      · rename_i v hv
        simp only [Except.ok.injEq, Prod.mk.injEq] at h
        have := forIn_count _ (by
          intro a s st hst
          split at hst
          · cases hst
          · split at hst
            · simp only [Except.ok.injEq] at hst; subst hst; exact ⟨_, rfl, by simp, by simp⟩
            · simp only [Except.ok.injEq] at hst; subst hst; exact ⟨_, rfl, by simp, by simp⟩) l (w, 0) v hv
        exact ⟨v.2, h.2.symm, by unfold authLen; rw [hal]; show v.2 ≤ l.length; omega⟩

theorem applyAuth_ok {e : Evm.Env} {w w' : World} {a : Auth} {b : Bool} (h : applyAuth e w a = .ok (w', b)) :
    w' = w ∨ ∃ authority w1 c acc, w.loadCode authority = .ok (w1, c) ∧ w1.js.state authority = some acc ∧
      (w' = w1 ∨ ∃ w2 acc', (w2 = w1 ∨ w2 = w1.addCode (Keccak.keccak256w (designator a.address)) (designator a.address)) ∧
        w' = { w2 with js := Journal.setAcct w2.js authority acc' } ∧ acc'.info.balance = acc.info.balance ∧
        acc'.storage = acc.storage) := by
  unfold applyAuth at h
  split at h
  · cases h; exact .inl rfl
  split at h
  · cases h; exact .inl rfl
  split at h
  · rename_i authority _
    obtain ⟨⟨w1, c⟩, h1, h⟩ := bind_ok h
    obtain ⟨acc, hacc, h⟩ := bind_ok h
    obtain ⟨hh, _, h⟩ := bind_ok h
    obtain ⟨code, _, h⟩ := bind_ok h
    refine .inr ⟨authority, w1, c, acc, h1, Proofs.EvmHost.ofOpt_ok hacc, ?_⟩
    split at h
    · cases h; exact .inl rfl
    split at h
    · cases h; exact .inl rfl
    by_cases hz : a.address = 0
    · simp only [hz, if_true] at h
      cases h
      exact .inr ⟨w1, _, .inl rfl, rfl, rfl, rfl⟩
    · simp only [hz, if_false] at h
      cases h
      exact .inr ⟨_, _, .inr rfl, rfl, rfl, rfl⟩
  · cases h; exact .inl rfl

theorem applyAuthList_rel {e : Evm.Env} {spec : Nat} {w w' : World} {r : Nat} (Rel : World → World → Prop)
    (hr : ∀ w, Rel w w) (ht : ∀ a b c, Rel a b → Rel b c → Rel a c)
    (hs : ∀ w1 w2 a b, applyAuth e w1 a = .ok (w2, b) → Rel w1 w2)
    (h : applyAuthList e spec w = .ok (w', r)) : Rel w w' := by
  unfold applyAuthList at h
  split at h
  · cases h; exact hr _
  split at h
  · rename_i l _
    obtain ⟨v, hv, h⟩ := bind_ok h
    cases h
    have key : ∀ (l : List Auth) (s r : World × Nat), forIn (m := R) l s (fun a r => do
        let (w', b) ← applyAuth e r.1 a
        if b then pure (ForInStep.yield (w', r.2 + 1)) else pure (ForInStep.yield (w', r.2))) = .ok r →
        Rel s.1 r.1 := by
      intro l
      induction l with
      | nil => intro s r h; cases h; exact hr _
      | cons a l ih =>
        intro s r h
        rw [List.forIn_cons] at h
        obtain ⟨st, h1, h2⟩ := bind_ok h
        obtain ⟨⟨w2, b⟩, k1, h1⟩ := bind_ok h1
        have hstep := hs _ _ _ _ k1
        dsimp only at h1
        split at h1 <;> (cases h1; exact ht _ _ _ hstep (ih _ _ h2))
    exact key l (w, 0) v hv
  · cases h; exact hr _

def setJs (w : World) (js : Journal.JState) : World := { w with js := js }

/-! ## `load_accounts`, the EIP-7702 list and validation's `load_code` move no ether -/

open Revm.Spec.Ether Revm.Proofs.Ether
open Revm.Proofs.EvmInstLife (loadAccessList)

theorem Quiet.noteAddr {w w' : World} (h : Quiet w w') (a : Nat) : Quiet w (w'.noteAddr a) :=
  ⟨by rw [Proofs.EvmHost.noteAddr_js]; exact h.same, by rw [Proofs.EvmHost.noteAddr_db]; exact h.db,
   by rw [Proofs.EvmHost.noteAddr_js]; exact h.kle, h.ng.noteAddr a⟩
theorem Quiet.noteSlot {w w' : World} (h : Quiet w w') (a k : Nat) : Quiet w (w'.noteSlot a k) :=
  ⟨by rw [Proofs.EvmHost.noteSlot_js]; exact h.same, by rw [noteSlot_db]; exact h.db,
   by rw [Proofs.EvmHost.noteSlot_js]; exact h.kle, h.ng.noteSlot a k⟩

theorem quiet_foldl_noteSlot {w : World} (a : Nat) : ∀ (keys : List Nat) (w' : World), Quiet w w' →
    Quiet w (keys.foldl (fun w k => w.noteSlot a k) w') := by
  intro keys
  induction keys with
  | nil => intro w' h; exact h
  | cons k ks ih => intro w' h; simp only [List.foldl_cons]; exact ih _ (h.noteSlot a k)

theorem quiet_initialLoad {w w' : World} (h : Quiet w w') (a : Nat) (ks : List Nat) :
    Quiet w ({ w' with js := Journal.initialAccountLoad w'.db w'.js a ks }.noteAddr a) := by
  refine ⟨h.same.trans ?_, ?_, h.kle.trans ?_, h.ng.trans (NGrow.of_js_note (dom_initialAccountLoad _ _ _ _))⟩
  · rw [Proofs.EvmHost.noteAddr_js]
    show Same w.db w'.js (Journal.initialAccountLoad w'.db w'.js a ks)
    rw [h.db]; exact initialAccountLoad_same
  · rw [Proofs.EvmHost.noteAddr_db]; exact h.db
  · rw [Proofs.EvmHost.noteAddr_js]; unfold Journal.initialAccountLoad; exact KLe.setAcct _ _ _

theorem Quiet.setMeta {w w' : World} (h : Quiet w w') (js' : Journal.JState) (hs : js'.state = w'.js.state)
    (hj : js'.journal = w'.js.journal) : Quiet w { w' with js := js' } :=
  ⟨h.same.trans ⟨bal_congr_state hs, by unfold JB; rw [hj]⟩, h.db, h.kle.trans (KLe.of_state_eq hs),
   h.ng.trans (NGrow.of_js (.of_state_eq hs))⟩

theorem quiet_accessList {w : World} : ∀ (l : List AccessItem) (w' : World), Quiet w w' →
    Quiet w (l.foldl (fun w it =>
      let w := { w with js := Journal.initialAccountLoad w.db w.js it.addr it.keys }.noteAddr it.addr
      it.keys.foldl (fun w k => w.noteSlot it.addr k) w) w') := by
  intro l
  induction l with
  | nil => intro w' h; exact h
  | cons it l ih =>
    intro w' h
    simp only [List.foldl_cons]
    exact ih _ (quiet_foldl_noteSlot _ _ _ (quiet_initialLoad h it.addr it.keys))

/-- the shape of the two writes `load_accounts` makes to the journal's spec and pre-warmed set (`loadAccounts_eq`) -/
def setMetaW (w : World) (spec : Nat) (pre : Nat → Bool) : World :=
  { w with js := { w.js with spec := spec, preloaded := pre } }

theorem quiet_setMetaW {w w' : World} (h : Quiet w w') (spec : Nat) (pre : Nat → Bool) : Quiet w (setMetaW w' spec pre) :=
  ⟨h.same.trans ⟨bal_congr_state rfl, rfl⟩, h.db, h.kle.trans (KLe.of_state_eq rfl),
   h.ng.trans (NGrow.of_js (.of_state_eq rfl))⟩

theorem loadAccounts_eq (e : Evm.Env) (spec : Nat) (w : World) :
    loadAccounts e spec w =
      setMetaW (loadAccessList e (setMetaW w spec (fun a => w.js.preloaded a ||
        (GasCalc.enabled spec GasCalc.SpecId.SHANGHAI && a == e.block.coinbase))))
        (loadAccessList e (setMetaW w spec (fun a => w.js.preloaded a ||
          (GasCalc.enabled spec GasCalc.SpecId.SHANGHAI && a == e.block.coinbase)))).js.spec
        (fun a => (loadAccessList e (setMetaW w spec (fun a => w.js.preloaded a ||
          (GasCalc.enabled spec GasCalc.SpecId.SHANGHAI && a == e.block.coinbase)))).js.preloaded a ||
          isPrecompile spec a) := rfl

theorem quiet_loadAccounts (e : Evm.Env) (spec : Nat) (w : World) : Quiet w (loadAccounts e spec w) := by
  rw [loadAccounts_eq]
  exact quiet_setMetaW (quiet_accessList _ _ (quiet_setMetaW (Quiet.refl w) _ _)) _ _

theorem quiet_setAcct {w : World} {a : Nat} {acc acc' : Journal.Acct} (hs : w.js.state a = some acc)
    (hb : acc'.info.balance = acc.info.balance) : Quiet w { w with js := Journal.setAcct w.js a acc' } :=
  ⟨same_setAcct' hs hb, rfl, KLe.setAcct _ _ _, ng_setAcct _ (present_of_some hs)⟩

/-- the EIP-7702 list: each authorization is a `load_code`, possibly a new code in the store, and a rewrite of the
authority's nonce and code hash, which leaves its balance -/
theorem applyAuthList_wrun {e : Evm.Env} {spec : Nat} {w w' : World} {r : Nat}
    (h : applyAuthList e spec w = .ok (w', r)) : WRun w w' := by
  refine applyAuthList_rel WRun .refl (fun _ _ _ => WRun.trans) (fun w1 w2 a b hs => ?_) h
  rcases applyAuth_ok hs with rfl | ⟨authority, w3, c, acc, h1, hacc, rfl | ⟨w4, acc', hw4, rfl, hb, _⟩⟩
  · exact .refl _
  · exact ((w_loadCode_wstep h1).2 []).hist.wrun
  · refine .hist ((w_loadCode_wstep h1).2 []).hist ?_
    rcases hw4 with rfl | rfl
    · exact .quiet (quiet_setAcct hacc hb) (.refl _)
    · exact .code _ _ (.quiet (quiet_setAcct (by rw [Proofs.EvmHost.addCode_js]; exact hacc) hb) (.refl _))

theorem quiet_loadCode {w w1 : World} {a : Nat} {c : Bool} (h : w.loadCode a = .ok (w1, c)) : Quiet w w1 := by
  obtain ⟨t1, s⟩ := w_loadCode_wstep h
  exact ⟨loadCode_same t1, (s []).only.db, (s []).kle, (s []).ng⟩

/-! ## `load_accounts` keeps the `AccountInfo` of loaded accounts -/

theorem foldl_noteSlot_js (a : Nat) : ∀ (keys : List Nat) (w : World),
    (keys.foldl (fun w k => w.noteSlot a k) w).js = w.js := by
  intro keys
  induction keys with
  | nil => intro w; rfl
  | cons k ks ih => intro w; simp only [List.foldl_cons]; rw [ih, Proofs.EvmHost.noteSlot_js]

theorem initialAccountLoad_info {db : Journal.Db} {s : Journal.JState} {a : Nat} {info : Journal.Info}
    (x : Nat) (keys : List Nat) (h : HasInfo s a info) : HasInfo (Journal.initialAccountLoad db s x keys) a info := by
  obtain ⟨acc, h1, h2⟩ := h
  rw [Proofs.Journal.ial_eq]
  by_cases hx : a = x
  · subst hx
    have hset : ∀ accx, (Journal.setAcct s a accx).state a = some accx :=
      fun accx => by simp only [Journal.setAcct, if_true]
    refine ⟨_, hset _, ?_⟩
    show (Proofs.Journal.loadedAcct db s a).info = info
    unfold Proofs.Journal.loadedAcct; rw [h1]; exact h2
  · exact ⟨acc, by simp only [Journal.setAcct, hx, if_false]; exact h1, h2⟩

theorem accessList_info {a : Nat} {info : Journal.Info} : ∀ (l : List AccessItem) (w : World),
    HasInfo w.js a info →
    HasInfo (l.foldl (fun w it =>
      let w := { w with js := Journal.initialAccountLoad w.db w.js it.addr it.keys }.noteAddr it.addr
      it.keys.foldl (fun w k => w.noteSlot it.addr k) w) w).js a info := by
  intro l
  induction l with
  | nil => intro w h; exact h
  | cons it l ih =>
    intro w h
    simp only [List.foldl_cons]
    apply ih
    rw [foldl_noteSlot_js, Proofs.EvmHost.noteAddr_js]
    exact initialAccountLoad_info it.addr it.keys h

theorem loadAccounts_info {e : Evm.Env} {spec : Nat} {w : World} {a : Nat} {info : Journal.Info}
    (h : HasInfo w.js a info) : HasInfo (loadAccounts e spec w).js a info := by
  unfold loadAccounts
  simp only
  exact accessList_info _ _ h

/-- a balance leg of the handler: `load_account(a)`, then the loaded account replaced by `f` of it. Nothing of it is
journaled; `f` may fail (the `expect("already checked")` of `deduct_caller` sits between the load and the write) -/
def leg (w : World) (a : Nat) (f : Journal.Acct → R Journal.Acct) : R World := do
  let (w, _) ← w.loadAccount a
  let acc ← w.acct a
  let acc' ← f acc
  pure { w with js := Journal.setAcct w.js a acc' }

/-- the graph of `leg`: `acc` the account found, `acc'` the one written -/
def Leg (w : World) (a : Nat) (acc acc' : Journal.Acct) (w' : World) : Prop :=
  ∃ w1 c, w.loadAccount a = .ok (w1, c) ∧ w1.js.state a = some acc ∧
    w' = { w1 with js := Journal.setAcct w1.js a acc' }

theorem leg_ok {w w' : World} {a : Nat} {f : Journal.Acct → R Journal.Acct} (h : leg w a f = .ok w') :
    ∃ acc acc', f acc = .ok acc' ∧ Leg w a acc acc' w' := by
  unfold leg at h
  obtain ⟨⟨w1, c⟩, h1, h⟩ := bind_ok h
  obtain ⟨acc, h2, h⟩ := bind_ok h
  obtain ⟨acc', h3, h⟩ := bind_ok h
  cases h
  exact ⟨acc, acc', h3, w1, c, h1, acct_ok h2, rfl⟩

namespace Leg
variable {w w' : World} {a : Nat} {acc acc' : Journal.Acct}

theorem ng (l : Leg w a acc acc' w') : NGrow w w' := by
  obtain ⟨w1, c, h1, h2, rfl⟩ := l
  exact ((w_loadAccount_wstep h1).2 []).ng.trans (ng_setAcct _ (present_of_some h2))

theorem kle (l : Leg w a acc acc' w') : KLe w.js w'.js := by
  obtain ⟨w1, c, h1, h2, rfl⟩ := l
  exact ((w_loadAccount_wstep h1).2 []).kle.trans (KLe.setAcct _ _ _)

theorem only (l : Leg w a acc acc' w') : JOnly w w' [] := by
  obtain ⟨w1, c, h1, h2, rfl⟩ := l
  exact ((w_loadAccount_wstep h1).2 []).only.trans0 (JOnly.js w1 _)

theorem db (l : Leg w a acc acc' w') : w'.db = w.db := l.only.db

theorem state (l : Leg w a acc acc' w') : w'.js.state a = some acc' := by
  obtain ⟨w1, c, h1, h2, rfl⟩ := l
  simp only [Journal.setAcct, if_true]

theorem other (l : Leg w a acc acc' w') {x : Nat} (hx : x ≠ a) : w'.js.state x = w.js.state x := by
  obtain ⟨w1, c, h1, h2, rfl⟩ := l
  simp only [Journal.setAcct, hx, if_false]
  rw [(Proofs.Journal.loadAccount_state (w_loadAccount_wstep h1).1).1]; simp only [Journal.setAcct, hx, if_false]

/-- the ledger's view of a leg: the balance written is the only change, and no balance entry is journaled -/
theorem bal (l : Leg w a acc acc' w') :
    acc.info.balance = Spec.Ether.bal w.db w.js a ∧
    Spec.Ether.bal w'.db w'.js = upd (Spec.Ether.bal w.db w.js) a acc'.info.balance ∧ JB w'.js = JB w.js := by
  have hdb := l.db
  obtain ⟨w1, c, h1, h2, rfl⟩ := l
  rw [hdb]
  exact bal_load_set (w_loadAccount_wstep h1).1 h2 acc'

theorem found (l : Leg w a acc acc' w') {info : Journal.Info} (hi : HasInfo w.js a info) : acc.info = info := by
  obtain ⟨w1, c, h1, h2, rfl⟩ := l
  obtain ⟨acc0, h0, rfl⟩ := hi
  obtain ⟨accl, hs, hi⟩ := Proofs.Journal.loadAccount_info (w_loadAccount_wstep h1).1 a acc0 h0
  rw [hs] at h2; cases h2; exact hi

/-- a leg is the journal function of that shape (the fee legs of `Model.TxFeeLegs` are): `load_account`, read, write -/
theorem journal (l : Leg w a acc acc' w') (f : Journal.Acct → Option Journal.Acct) (hf : f acc = some acc') :
    (do let (s, _) ← Journal.loadAccount w.db w.js a
        let x ← s.state a
        let y ← f x
        some (Journal.setAcct s a y)) = some w'.js := by
  obtain ⟨w1, c, h1, h2, rfl⟩ := l
  simp only [bind, Option.bind, (w_loadAccount_wstep h1).1, h2, hf]

end Leg

/-- `gas_cost` of `deduct_caller_inner`: `gas_limit · effective price` (saturating), plus the blob fee from Cancun -/
def debitAmount (e : Evm.Env) (spec : Nat) : R Nat :=
  if enabled spec GasCalc.SpecId.CANCUN then do
    let fee ← ofOpt "already checked" e.calcDataFee
    pure (U256.saturatingAdd (U256.saturatingMul e.tx.gasLimit e.effectiveGasPrice) fee)
  else pure (U256.saturatingMul e.tx.gasLimit e.effectiveGasPrice)

/-- the account `deduct_caller` leaves: `d` less (`saturating_sub`), touched, the nonce of a call transaction bumped -/
def debited (e : Evm.Env) (acc : Journal.Acct) (d : Nat) : Journal.Acct :=
  { acc with touched := true, info := (if e.tx.to.isSome then
      { acc.info with balance := U256.saturatingSub acc.info.balance d, nonce := U64ops.saturatingAdd acc.info.nonce 1 }
    else { acc.info with balance := U256.saturatingSub acc.info.balance d }) }

theorem debited_balance (e : Evm.Env) (acc : Journal.Acct) (d : Nat) :
    (debited e acc d).info.balance = TxGas.deductCaller acc.info.balance d := by
  unfold debited; simp only; split <;> rfl

theorem debited_nonce (e : Evm.Env) (acc : Journal.Acct) (d : Nat) :
    (debited e acc d).info.nonce = (if e.tx.to.isSome then U64ops.saturatingAdd acc.info.nonce 1 else acc.info.nonce) := by
  unfold debited; simp only; split <;> rfl

theorem deductCaller_eq_leg (e : Evm.Env) (spec : Nat) (w : World) :
    Evm.deductCaller e spec w =
      leg w e.tx.caller (fun acc => do let d ← debitAmount e spec; pure (debited e acc d)) := by
  unfold Evm.deductCaller leg debitAmount
  refine bind_congr fun p => bind_congr fun acc => ?_
  by_cases hc : enabled spec GasCalc.SpecId.CANCUN = true
  · simp only [hc, if_true]
    cases e.calcDataFee with
    | none => rfl
    | some fee => simp only [ofOpt, bind, Except.bind, pure, Except.pure, debited]
  · simp only [hc, if_false, Bool.false_eq_true, bind, Except.bind, pure, Except.pure, debited]

theorem debitAmount_ok {e : Evm.Env} {spec d : Nat} (h : debitAmount e spec = .ok d) :
    TxGas.deductAmount (gasEnv e spec) = some d := by
  unfold debitAmount at h
  unfold TxGas.deductAmount
  rw [← effectiveGasPrice_eq, ← calcDataFee_eq]
  show (if enabled spec GasCalc.SpecId.CANCUN = true then _ else _) = _
  split at h
  · rename_i hc
    obtain ⟨fee, hf, h⟩ := bind_ok h
    cases h
    rw [if_pos hc, Proofs.EvmHost.ofOpt_ok hf]; rfl
  · rename_i hc
    cases h
    rw [if_neg hc]; rfl

/-- a completed `deduct_caller`, in the form to reach for. `deductCaller_ok` and `deductCaller_leg` (the one
`Props/C01Link` cites) spell the same out without `Leg`; `deductCaller_eq_leg` is the equation before completion -/
theorem deductCaller_isLeg {e : Evm.Env} {spec : Nat} {w w' : World} (h : Evm.deductCaller e spec w = .ok w') :
    ∃ acc d, TxGas.deductAmount (gasEnv e spec) = some d ∧ Leg w e.tx.caller acc (debited e acc d) w' := by
  rw [deductCaller_eq_leg] at h
  obtain ⟨acc, acc', hf, l⟩ := leg_ok h
  obtain ⟨d, hd, hf⟩ := bind_ok hf
  cases hf
  exact ⟨acc, d, debitAmount_ok hd, l⟩

theorem deductCaller_ok {e : Evm.Env} {spec : Nat} {w w' : World} (h : Evm.deductCaller e spec w = .ok w') :
    ∃ (w1 : World) (cold : Bool) (acc : Journal.Acct) (d : Nat),
      w.loadAccount e.tx.caller = .ok (w1, cold) ∧ w1.acct e.tx.caller = .ok acc ∧
      (if enabled spec GasCalc.SpecId.CANCUN then
          match e.calcDataFee with
          | some fee => some (U256.saturatingAdd (U256.saturatingMul e.tx.gasLimit e.effectiveGasPrice) fee)
          | none => none
        else some (U256.saturatingMul e.tx.gasLimit e.effectiveGasPrice)) = some d ∧
      w' = { w1 with js := (Journal.setAcct w1.js e.tx.caller
        { acc with touched := true, info := (if e.tx.to.isSome then
            { acc.info with balance := U256.saturatingSub acc.info.balance d,
                            nonce := U64ops.saturatingAdd acc.info.nonce 1 }
          else { acc.info with balance := U256.saturatingSub acc.info.balance d }) }) } := by
  obtain ⟨acc, d, hd, w1, c, h1, h2, rfl⟩ := deductCaller_isLeg h
  refine ⟨w1, c, acc, d, h1, acct_of_state h2, ?_, rfl⟩
  rw [← hd]
  unfold TxGas.deductAmount
  rw [← effectiveGasPrice_eq, ← calcDataFee_eq]; rfl

/-- `deduct_caller` takes `TxGas.deductAmount` from the loaded caller (`saturating_sub`), bumps the nonce of a call
transaction, and touches nobody else -/
theorem deductCaller_leg (e : Evm.Env) (spec : Nat) (w w' : World) (h : Evm.deductCaller e spec w = .ok w') :
    ∃ (w1 : World) (cold : Bool) (acc acc' : Journal.Acct) (d : Nat),
      w.loadAccount e.tx.caller = .ok (w1, cold) ∧ w1.acct e.tx.caller = .ok acc ∧
      TxGas.deductAmount (gasEnv e spec) = some d ∧
      w'.js.state e.tx.caller = some acc' ∧
      acc'.info.balance = TxGas.deductCaller acc.info.balance d ∧
      acc'.info.nonce = (if e.tx.to.isSome then U64ops.saturatingAdd acc.info.nonce 1 else acc.info.nonce) ∧
      (∀ x, x ≠ e.tx.caller → w'.js.state x = w1.js.state x) := by
  obtain ⟨acc, d, hd, w1, c, h1, h2, rfl⟩ := deductCaller_isLeg h
  exact ⟨w1, c, acc, _, d, h1, acct_of_state h2, hd, by simp only [Journal.setAcct, if_true],
    debited_balance e acc d, debited_nonce e acc d, fun x hx => by simp only [Journal.setAcct, hx, if_false]⟩

def credited (acc : Journal.Acct) (touch : Bool) (amt : Nat) : Journal.Acct :=
  { acc with touched := touch || acc.touched,
             info := { acc.info with balance := U256.saturatingAdd acc.info.balance amt } }

theorem reimburse_eq_leg (e : Evm.Env) (spec : Nat) (g : Gas.Gas) (w : World) :
    EvmInst.reimburse e g w =
      leg w e.tx.caller (fun acc => pure (credited acc false (TxGas.reimburseAmount (gasEnv e spec) g))) := rfl

theorem reward_eq_leg (e : Evm.Env) (spec : Nat) (g : Gas.Gas) (w : World) :
    EvmInst.reward e spec g w =
      leg w e.block.coinbase (fun acc => pure (credited acc true (TxGas.rewardAmount (gasEnv e spec) g))) := rfl

/-- a completed `Evm.finish`: two legs, the reward on the world `w2` the reimbursement left, then `output` -/
theorem finish_stages {e : Evm.Env} {spec fg r7 : Nat} {isCreate : Bool} {res : Interp.ChildResult} {w w' : World}
    {r : TxResult} (h : Evm.finish e spec fg r7 isCreate res w = .ok (r, w')) :
    ∃ cacc w2 bacc cls,
      Leg w e.tx.caller cacc
        (credited cacc false (TxGas.reimburseAmount (gasEnv e spec) (Evm.finalGas e spec fg r7 res))) w2 ∧
      Leg w2 e.block.coinbase bacc
        (credited bacc true (TxGas.rewardAmount (gasEnv e spec) (Evm.finalGas e spec fg r7 res))) w' ∧
      classOf res.result = some cls ∧
      r = txResultOf cls res isCreate (Evm.finalGas e spec fg r7 res) (EvmInst.logsOf w'.js.logs w'.logs) := by
  rw [EvmInst.finish_eq, ← EvmInst.finalGas_eq] at h
  obtain ⟨w2, h1, h⟩ := bind_ok h
  obtain ⟨w3, h2, h⟩ := bind_ok h
  obtain ⟨r', h3, h⟩ := bind_ok h
  cases h
  obtain ⟨cls, h4, h3⟩ := bind_ok h3
  cases h3
  rw [reimburse_eq_leg e spec] at h1
  rw [reward_eq_leg] at h2
  obtain ⟨cacc, _, hc, l1⟩ := leg_ok h1
  obtain ⟨bacc, _, hb, l2⟩ := leg_ok h2
  cases hc; cases hb
  exact ⟨cacc, w2, bacc, cls, l1, l2, Proofs.EvmHost.ofOpt_ok h4, rfl⟩

/-- what `output` reports: the class of the first frame's `InstructionResult` (`SuccessOrHalt::from`), its reason, and the
gas numbers of `TxGas` on the final meter -/
theorem finish_out {e : Evm.Env} {spec fg r7 : Nat} {isCreate : Bool} {res : Interp.ChildResult} {w w' : World}
    {r : TxResult} (h : Evm.finish e spec fg r7 isCreate res w = .ok (r, w')) :
    classOf res.result = some r.cls ∧ r.reason = res.result ∧
    r.gasUsed = TxGas.gasUsed (Evm.finalGas e spec fg r7 res) ∧
    (r.cls = .success → r.gasRefunded = TxGas.gasRefunded (Evm.finalGas e spec fg r7 res)) ∧
    (r.cls ≠ .success → r.gasRefunded = 0) := by
  obtain ⟨_, _, _, cls, _, _, hc, rfl⟩ := finish_stages h
  obtain ⟨a, b, _⟩ := Proofs.Evm.txResultOf_fields cls res isCreate (Evm.finalGas e spec fg r7 res)
    (EvmInst.logsOf w'.js.logs w'.logs)
  rw [a]
  exact ⟨hc, b, txResultOf_gas cls _ _ _ _⟩

/-- for non-vacuity examples: a verdict that is `Ok(None)` -/
def isNoneOk {α} : R (Option α) → Bool
  | .ok none => true
  | _ => false

theorem eq_none_of_isNoneOk {α} {x : R (Option α)} (h : isNoneOk x = true) : x = .ok none := by
  cases x with
  | error e => exact Bool.noConfusion h
  | ok o => cases o with
    | none => rfl
    | some a => exact Bool.noConfusion h

/-- for non-vacuity examples: a run that completes with an executed transaction (`Props.C01Inst.isExecuted` is a copy) -/
def isExecuted : R (Outcome × World) → Bool
  | .ok (.executed _, _) => true
  | _ => false

theorem exists_of_isExecuted {x : R (Outcome × World)} (h : isExecuted x = true) :
    ∃ r w', x = .ok (.executed r, w') := by
  cases x with
  | error e => exact Bool.noConfusion h
  | ok p =>
    obtain ⟨o, w'⟩ := p
    cases o with
    | rejected => exact Bool.noConfusion h
    | executed r => exact ⟨r, w', rfl⟩

/-- for witnesses: the sender loads and is, in C02's reading, `snd` -/
def loadedSenderIs (w : World) (a : Nat) (snd : TxValidate.Sender) : Bool :=
  match loadSender w a with
  | .ok (_, acc, code) => decide (senderOf code acc.info = snd)
  | .error _ => false

theorem loadedSenderIs_spec {w : World} {a : Nat} {snd : TxValidate.Sender} (h : loadedSenderIs w a snd = true) :
    ∃ w1 acc code, loadSender w a = .ok (w1, acc, code) ∧ senderOf code acc.info = snd := by
  unfold loadedSenderIs at h
  cases hl : loadSender w a with
  | error e => rw [hl] at h; cases h
  | ok p =>
    obtain ⟨w1, acc, code⟩ := p
    rw [hl] at h
    exact ⟨w1, acc, code, rfl, by simpa using h⟩

/-- `res` is the result of the first frame of the transaction `e` run on `w` (fuel `fuel`), `ig` / `fg` the initial and
the floor gas validation computed, `k` the number of refunded EIP-7702 authorities, `w3` the world the frame left -/
def FirstFrameResult (fuel : Nat) (w : World) (e : Evm.Env) (spec : Nat) (ig fg k : Nat) (res : Interp.ChildResult)
    (w3 : World) : Prop :=
  ∃ (w1 : World) (first : FrameOrResult Journal.Checkpoint) (w2 : World) (isCreate : Bool),
    Evm.preverify w e (GasCalc.canon spec) = .ok (some (w1, ig, fg)) ∧
    Evm.prepare journalOps e (GasCalc.canon spec) ig w1 =
      .ok (first, w2, isCreate, U64ops.wmul k (Evm.PER_EMPTY_ACCOUNT_COST - Evm.PER_AUTH_BASE_COST)) ∧
    Evm.runFirst journalOps (e.toCfg (GasCalc.canon spec)) fuel first w2 = .ok (res, w3)

/-- the first frame's result as the input of the C09 pipeline (its own meter had the limit `gas_limit − initial_gas`) -/
abbrev txFrame (e : Evm.Env) (ig : Nat) (res : Interp.ChildResult) : TxGas.FrameRes :=
  frameRes res (U64ops.wsub e.tx.gasLimit ig)

/-- the first frame gives back at most the gas it was given, `gas_limit − initial_gas`; true of every run
(`frameAccounting`) -/
def FrameAccounting (fuel : Nat) (w : World) (e : Evm.Env) (spec : Nat) : Prop :=
  ∀ ig fg k res w3, FirstFrameResult fuel w e spec ig fg k res w3 → res.gasRemaining ≤ e.tx.gasLimit - ig

/-- `FrameAccounting` as a test on one run -/
def frameAccountingCheck (fuel : Nat) (w : World) (e : Evm.Env) (spec : Nat) : Bool :=
  match Evm.preverify w e (GasCalc.canon spec) with
  | .ok (some (w1, ig, _)) =>
    (match Evm.prepare journalOps e (GasCalc.canon spec) ig w1 with
     | .ok (first, w2, _, _) =>
       (match Evm.runFirst journalOps (e.toCfg (GasCalc.canon spec)) fuel first w2 with
        | .ok (res, _) => decide (res.gasRemaining ≤ e.tx.gasLimit - ig)
        | .error _ => true)
     | .error _ => true)
  | _ => true

theorem frameAccounting_of_check {fuel : Nat} {w : World} {e : Evm.Env} {spec : Nat}
    (h : frameAccountingCheck fuel w e spec = true) : FrameAccounting fuel w e spec := by
  intro ig fg k res w3 hff
  obtain ⟨w1, first, w2, isCreate, hp, hpr, hrf⟩ := hff
  unfold frameAccountingCheck at h
  rw [hp] at h
  simp only [hpr, hrf, decide_eq_true_eq] at h
  exact h

/-- the refund `apply_eip7702_auth_list` hands over for `k` refunded authorities; `applyAuthList_refund`,
`FirstFrameResult`, `finalGas_eq_txgas` and `transact_fees` write the product out -/
abbrev authRefund (k : Nat) : Nat := U64ops.wmul k (Evm.PER_EMPTY_ACCOUNT_COST - Evm.PER_AUTH_BASE_COST)

/-- a completed executed `Evm.transact`, stage by stage (the stages of `transact_preverified_inner`). Every
transaction-level corollary starts from this record (`transact_exec`) and reads off what its component theorem needs. -/
structure Exec (fuel : Nat) (w : World) (e : Evm.Env) (spec : Nat) where
  /-- validation: the world with the sender loaded, the sender as `load_code` found it, initial and floor gas -/
  (w1 : World) (accV : Journal.Acct) (code : List Nat) (ig fg : Nat)
  /-- the worlds after `deduct_caller` and after the EIP-7702 list, which refunded `k` authorities -/
  (wd wa : World) (k : Nat)
  /-- the first frame or its early result, the first frame's result, the worlds they are handed over on -/
  (first : FrameOrResult Journal.Checkpoint) (w2 : World) (res : Interp.ChildResult) (w3 : World)
  /-- the reported result and the final world -/
  (r : TxResult) (w' : World)
  sender : loadSender w e.tx.caller = .ok (w1, accV, code)
  envOk : Evm.validateEnv e (GasCalc.canon spec) = .ok true
  stateOk : Evm.validateAgainstState e (GasCalc.canon spec) code accV.info = true
  initial : initialGas e (GasCalc.canon spec) = some (ig, fg)
  ig_le : ig ≤ e.tx.gasLimit
  fg_le : fg ≤ e.tx.gasLimit
  pre : Evm.preverify w e (GasCalc.canon spec) = .ok (some (w1, ig, fg))
  deduct : Evm.deductCaller e (GasCalc.canon spec) (loadAccounts e (GasCalc.canon spec) w1) = .ok wd
  auth : applyAuthList e (GasCalc.canon spec) wd = .ok (wa, authRefund k)
  k_le : k ≤ authLen e
  frame : makeFrame journalOps (e.toCfg (GasCalc.canon spec)) wa
    (Proofs.EvmFrame.firstAction e (U64ops.wsub e.tx.gasLimit ig)) Memory.new = .ok (first, w2)
  prep : prepare journalOps e (GasCalc.canon spec) ig w1 = .ok (first, w2, e.tx.to.isNone, authRefund k)
  run : runFirst journalOps (e.toCfg (GasCalc.canon spec)) fuel first w2 = .ok (res, w3)
  fin : finish e (GasCalc.canon spec) fg (authRefund k) e.tx.to.isNone res w3 = .ok (r, w')

/-- the result and the final world are fields of the record, not indices: `r` stays free to be rewritten -/
theorem transact_exec {fuel : Nat} {w w' : World} {e : Evm.Env} {spec : Nat} {r : TxResult}
    (h : transact fuel w e spec = .ok (.executed r, w')) : ∃ x : Exec fuel w e spec, x.r = r ∧ x.w' = w' := by
  rcases transactWith_ok h with ⟨_, ho, _⟩ | ⟨w1, ig, fg, first, w2, isCreate, refund, res, w3, r', hp, hpr, hrf, hfin, ho⟩
  · cases ho
  · cases ho
    obtain ⟨wd, wa, hd, hauth, hmk, rfl⟩ := Proofs.EvmFrame.prepare_ok hpr
    obtain ⟨k, rfl, hkl⟩ := applyAuthList_refund e _ wd wa refund hauth
    obtain ⟨hvE, hi, h1, h2, accV, code, hl, hvs⟩ := preverify_some_inv w w1 e _ ig fg hp
    exact ⟨⟨w1, accV, code, ig, fg, wd, wa, k, first, w2, res, w3, _, _, hl, hvE, hvs, hi, h1, h2, hp, hd, hauth, hkl, hmk,
      hpr, hrf, hfin⟩, rfl, rfl⟩

namespace Exec
variable {fuel : Nat} {w : World} {e : Evm.Env} {spec : Nat} (x : Exec fuel w e spec)
include x

theorem ffr : FirstFrameResult fuel w e spec x.ig x.fg x.k x.res x.w3 := ⟨x.w1, x.first, x.w2, _, x.pre, x.prep, x.run⟩

theorem senderInfo : HasInfo x.w1.js e.tx.caller x.accV.info := by
  obtain ⟨cold, hh, _, hacct, _, _⟩ := loadSender_inv x.sender
  exact ⟨x.accV, acct_ok hacct, rfl⟩

/-- `finish_out` on C09's final meter -/
theorem out : classOf x.res.result = some x.r.cls ∧ x.r.reason = x.res.result ∧
    x.r.gasUsed = TxGas.gasUsed (TxGas.finalGas (gasEnv e (GasCalc.canon spec)) x.fg x.k (txFrame e x.ig x.res)) ∧
    (x.r.cls = .success → x.r.gasRefunded =
      TxGas.gasRefunded (TxGas.finalGas (gasEnv e (GasCalc.canon spec)) x.fg x.k (txFrame e x.ig x.res))) ∧
    (x.r.cls ≠ .success → x.r.gasRefunded = 0) := by
  have h := finish_out x.fin
  rw [finalGas_eq_txgas e _ x.fg x.k x.res (U64ops.wsub e.tx.gasLimit x.ig)] at h
  exact h

/-- C09's validation of the environment, from C02's -/
theorem feeValid : TxGas.validateEnv (gasEnv e (GasCalc.canon spec)) (feeShape e) = none :=
  txgas_validateEnv_of_evm e _ x.envOk

/-- C09's balance validation on the balance validation saw -/
theorem funded : TxGas.validateAgainstState (gasEnv e (GasCalc.canon spec)) x.accV.info.balance = none :=
  txgas_validateAgainstState_of_evm e _ x.code x.accV.info x.stateOk

end Exec

end Revm.Proofs.EvmLink
