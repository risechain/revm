import Revm.Proofs.FrameKeptStep
/-! Three predicates on handlers about the byte buffers of a frame (the interpreter side of panic-freedom). `HE`: every
halt carries the empty output; it holds of every pure handler but RETURN / REVERT / RETURNCONTRACT (`he_*I`). `BP` / `TB`:
the shared memory buffer stays a Rust `Vec` (`BufOk`), `TB` with a fact about the value besides (`tb_callPost`: the
calldata the tail of a call instruction hands out is a Rust `Bytes`). For every instruction at once, the bound on a halt's
output is part of `step_all` (`OutBnd`), the one on an action's calldata / initcode part of `step_good2` (`ActOk2`). -/
namespace Revm.Proofs.EvmLink
open Revm Revm.Model Revm.Model.Interp Revm.Proofs.Interp

def HE {α} (m : M α) : Prop := ∀ s r o s', m s = .halt r o s' → o = []

theorem he_mpure {α} (a : α) : HE (M.pure a : M α) := fun _ _ _ _ h => nomatch h

/-- a handler that is `KaO` with no output admitted but the empty one -/
theorem he_of {α} {b : Bool} {m : M α} (h : ∀ s0, KaO True (fun _ _ => False) s0 b m) : HE m := fun s r o s' hm => by
  have hk := h s false s (.refl s)
  rw [hm] at hk
  cases hk with
  | halt _ _ ho => exact ho.resolve_right id

theorem he_requireInitEof  : HE (requireInitEof) := he_of fun _ => KaO.requireInitEof

theorem he_unopI (c : Nat) (f : Nat → Nat) : HE (unopI c f) :=
  he_of fun _ => KaO.bindF (KaO.gasCharge c) fun _ => KaO.bindF KaO.popTop1 fun _ => KaO.setTop _

theorem he_binopI (c k : Nat) (f : Nat → Nat → Nat) : HE (binopI c k f) :=
  he_of fun _ => KaO.bindF (KaO.check k) fun _ => KaO.bindF (KaO.gasCharge c) fun _ =>
    KaO.bindF KaO.popTop2 fun _ => KaO.setTop _

theorem he_teropI (c : Nat) (f : Nat → Nat → Nat → Nat) : HE (teropI c f) :=
  he_of fun _ => KaO.bindF (KaO.gasCharge c) fun _ => KaO.bindF KaO.popTop3 fun _ => KaO.setTop _

theorem he_pushValI (c k : Nat) (v : IState → Nat) : HE (pushValI c k v) :=
  he_of fun _ => KaO.bindF (KaO.check k) fun _ => KaO.bindF (KaO.gasCharge c) fun _ =>
    KaO.bindF KaO.getS fun _ => KaO.push _

theorem he_pushI (n : Nat) : HE (pushI n) := he_of fun _ => KaO.pushI n

theorem he_dupI (n : Nat) : HE (dupI n) := he_of fun _ => KaO.dupI n

theorem he_swapI (n : Nat) : HE (swapI n) := he_of fun _ => KaO.swapI n

theorem he_rjumpI : HE rjumpI := he_of fun _ => KaO.rjumpI

theorem he_rjumpiI : HE rjumpiI := he_of fun _ => KaO.rjumpiI

theorem he_rjumpvI : HE rjumpvI := he_of fun _ => KaO.rjumpvI

theorem he_callfI : HE callfI := he_of fun _ => KaO.callfI

theorem he_retfI : HE retfI := he_of fun _ => KaO.retfI

theorem he_jumpfI : HE jumpfI := he_of fun _ => KaO.jumpfI

theorem he_dupnI : HE dupnI := he_of fun _ => KaO.dupnI

theorem he_swapnI : HE swapnI := he_of fun _ => KaO.swapnI

theorem he_exchangeI : HE exchangeI := he_of fun _ => KaO.exchangeI

theorem he_dataloadI : HE dataloadI := he_of fun _ => KaO.dataloadI

theorem he_dataloadnI : HE dataloadnI := he_of fun _ => KaO.dataloadnI

theorem he_datasizeI : HE datasizeI := he_of fun _ => KaO.datasizeI

theorem he_datacopyI : HE datacopyI := he_of fun _ => KaO.datacopyI

theorem he_returndataloadI : HE returndataloadI := he_of fun _ => KaO.returndataloadI

theorem he_expI : HE expI := he_of fun _ => KaO.expI

theorem he_difficultyI : HE difficultyI := he_of fun _ => KaO.difficultyI

theorem he_calldataloadI : HE calldataloadI := he_of fun _ => KaO.calldataloadI

theorem he_codesizeI : HE codesizeI := he_of fun _ => KaO.codesizeI

theorem he_returndatacopyI : HE returndatacopyI := he_of fun _ => KaO.returndatacopyI

theorem he_blobhashI : HE blobhashI := he_of fun _ => KaO.blobhashI

theorem he_popI : HE popI := he_of fun _ => KaO.popI

theorem he_push0I : HE push0I := he_of fun _ => KaO.push0I

theorem he_mloadI : HE mloadI := he_of fun _ => KaO.mloadI

theorem he_mstoreI : HE mstoreI := he_of fun _ => KaO.mstoreI

theorem he_mstore8I : HE mstore8I := he_of fun _ => KaO.mstore8I

theorem he_mcopyI : HE mcopyI := he_of fun _ => KaO.mcopyI

theorem he_jumpI : HE jumpI := he_of fun _ => KaO.jumpI

theorem he_jumpiI : HE jumpiI := he_of fun _ => KaO.jumpiI

local notation "ISZ" => Memory.ISIZE_MAX

/-- the shared buffer is a Rust `Vec`: at most `isize::MAX` bytes -/
def BufOk (s : IState) : Prop := s.mem.buffer.length ≤ ISZ

def BP {α} (m : M α) : Prop := ∀ s a s', BufOk s → m s = .ok a s' → BufOk s'

theorem bp_bind {α β} {m : M α} {f : α → M β} (h1 : BP m) (h2 : ∀ a, BP (f a)) : BP (m >>= f) :=
  fun s b s' hb h => let ⟨a, s1, e1, e2⟩ := bind_ok_inv h; h2 a s1 b s' (h1 s a s1 hb e1) e2
theorem bp_pure {α} (a : α) : BP (pure a : M α) := fun s b s' hb h => by cases h; exact hb
theorem bp_haltWith {α} (r : IResult) : BP (haltWith r : M α) := fun _ _ _ _ h => nomatch h
theorem bp_getS : BP getS := fun s b s' hb h => by cases h; exact hb

theorem bp_requireSome (r : HostResp) : BP (requireSome r) := by
  intro s a s' hb h
  unfold requireSome at h
  split at h
  · cases h; exact hb
  · cases h

theorem bp_gasCharge (c : Nat) : BP (gasCharge c) := by
  intro s a s' hb h
  unfold gasCharge at h
  dsimp only at h
  split at h
  · cases h; exact hb
  · cases h

theorem bp_gasOrFail (c : Option Nat) : BP (gasOrFail c) := by
  unfold gasOrFail
  split
  · exact bp_gasCharge _
  · exact bp_haltWith _

theorem bp_calcCallGas (r : HostResp) (a b : Bool) (l : Nat) : BP (calcCallGas r a b l) :=
  bp_bind bp_getS fun _ => bp_bind (bp_gasCharge _) fun _ => bp_bind bp_getS fun _ => bp_pure _

def TB {α} (m : M α) (Q : α → Prop) : Prop := ∀ s a s', BufOk s → m s = .ok a s' → BufOk s' ∧ Q a

theorem tb_bind {α β} {m : M α} {f : α → M β} {Q : α → Prop} {R : β → Prop} (h1 : TB m Q)
    (h2 : ∀ a, Q a → TB (f a) R) : TB (m >>= f) R := by
  intro s b s' hb h
  obtain ⟨a, s1, e1, e2⟩ := bind_ok_inv h
  obtain ⟨k1, k2⟩ := h1 s a s1 hb e1
  exact h2 a k2 s1 b s' k1 e2
theorem tb_of_bp {α} {m : M α} (h : BP m) : TB m (fun _ => True) := fun s a s' hb e => ⟨h s a s' hb e, trivial⟩
theorem tb_pure {α} {a : α} {Q : α → Prop} (h : Q a) : TB (pure a : M α) Q := fun s b s' hb e => by
  cases e; exact ⟨hb, h⟩

theorem tb_callPost (r : HostResp) (ie ht : Bool) (lgl : Nat) (adj : Nat → Nat) (mk : Nat → IState → CallInputs)
    (hmk : ∀ g s, (mk g s).input.length ≤ ISZ) :
    TB (do
        requireSome r
        let gasLimit ← calcCallGas r ie ht lgl
        gasCharge gasLimit
        let s ← getS
        pure (Action.call (mk (adj gasLimit) s)) : M Action) (fun a => ActOk2 a) :=
  tb_bind (tb_of_bp (bp_requireSome _)) fun _ _ => tb_bind (tb_of_bp (bp_calcCallGas _ _ _ _)) fun _ _ =>
  tb_bind (tb_of_bp (bp_gasCharge _)) fun _ _ => tb_bind (tb_of_bp bp_getS) fun _ _ =>
    tb_pure ⟨hmk _ _, fun _ hx => nomatch hx⟩

end Revm.Proofs.EvmLink
