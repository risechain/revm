import Revm.Proofs.BundleState
/-! C16 assembled: `to_plain_state` of a bundle that satisfies the invariant, applied to the pre-bundle plain state,
gives the current reference state (`changeset_of_bundleOK`, a fold over the addresses); then runs of a fresh `State`. -/
namespace Revm.Proofs.Bundle
open Revm.Model.Bundle Revm.Spec.Bundle


/-- the bundle state `st` describes the step from the plain state `p0` to `R`: what `SInv` says once every transition is
merged. An absent address is unchanged; a present one satisfies `OKAcc`, spelled out. -/
def BundleOK (st : BMap BAcct) (p0 R : Plain) : Prop :=
  WF st ∧ ∀ a, match st.get a with
    | none => R.acct a = p0.acct a ∧ ∀ k, R.slot a k = p0.slot a k
    | some b => b.info.map wc = R.acct a ∧ b.origInfo.map wc = p0.acct a ∧
        StorageInv b (fun k => p0.slot a k) (fun k => R.slot a k)

theorem bundleOK_of_inv {s : SState} {p0 R : Plain} (h : SInv s p0 R R) (hts : s.ts = []) :
    BundleOK s.bundle.state p0 R := by
  refine ⟨h.wfb, fun a => ?_⟩
  obtain ⟨_, _, hrest⟩ := h.acct a
  have htn : s.ts.get a = none := by rw [hts]; rfl
  rw [htn] at hrest
  cases hc : s.cache.get a with
  | none =>
    rw [hc] at hrest
    obtain ⟨_, q2, q3, q4, _, _⟩ := hrest
    rw [q2]; exact ⟨q3, fun k => congrFun q4 k⟩
  | some c =>
    rw [hc] at hrest
    obtain ⟨_, ms, _, _, hB⟩ := hrest
    cases hb : s.bundle.state.get a with
    | none => rw [hb] at hB; obtain ⟨q1, q2, _⟩ := hB; exact ⟨q1, fun k => congrFun q2 k⟩
    | some b => rw [hb] at hB; exact ⟨hB.1.info, hB.1.orig, hB.1.stor⟩

theorem plainStorage_WF (acc : BAcct) (known : Bool) (hw : WF acc.storage) : WF (acc.plainStorage known) := by
  unfold BAcct.plainStorage
  exact WF_map_val _ _ (WF_filter _ _ hw)

theorem map_wc_idem (i : Option Info) : (i.map Info.withoutCode).map Info.withoutCode = i.map Info.withoutCode := by
  cases i <;> rfl

theorem changeset_of_bundleOK (b : BState) (known : Bool) (p0 R : Plain) (h : BundleOK b.state p0 R) :
    PlainEq (applyChangeset (toPlainState b known) p0) R := by
  obtain ⟨hw, hall⟩ := h
  have hacc := get_filterMap b.state (fun e => !known || e.2.isInfoChanged) (fun e => e.2.info.map Info.withoutCode) hw
  have hwacc : WF (toPlainState b known).accounts := WF_filterMap b.state _ _ hw
  constructor
  · intro a
    rw [applyChangeset_eq, acct_foldl_rows, acct_foldl_setAcct _ hwacc,
      show BMap.get (toPlainState b known).accounts a = _ from hacc a]
    have ha := hall a
    cases hg : b.state.get a with
    | none => rw [hg] at ha; exact ha.1.symm
    | some acc =>
      rw [hg] at ha
      obtain ⟨hi, ho, _⟩ := ha
      by_cases hc : (!known || acc.isInfoChanged) = true
      · simp only [Option.bind, hc, if_true]; rw [map_wc_idem]; exact hi
      · simp only [Option.bind, hc, Bool.false_eq_true, if_false]
        have := account_row_correct acc known (p0.acct a) (R.acct a) hi.symm ho.symm
        simp only [hc, Bool.false_eq_true, if_false] at this
        exact this
  · intro a k
    have ha := hall a
    have hsl : ((toPlainState b known).storage.foldl rowStep
        ((toPlainState b known).accounts.foldl (fun p e => p.setAcct e.1 (e.2.map Info.withoutCode)) p0)).slot a k = _ :=
      slot_foldl_filterMap (G := fun _ (r : Bool × List (Nat × Nat)) => applyRow r.1 r.2) (ok := fun r => WF r.2)
        slot_rowStep_ne slot_rowStep_self b.state
        (fun e => !(e.2.plainStorage known).isEmpty || e.2.status.wasDestroyed)
        (fun e => (e.2.status.wasDestroyed, e.2.plainStorage known)) hw _ a k
        (fun v hv _ => by rw [hv] at ha; exact plainStorage_WF v known ha.2.2.1)
    rw [applyChangeset_eq, hsl]
    simp only [slot_foldl_setAcct]
    cases hg : b.state.get a with
    | none => rw [hg] at ha; exact (ha.2 k).symm
    | some acc =>
      rw [hg] at ha
      obtain ⟨_, _, hs⟩ := ha
      simp only [Option.elim]
      by_cases hc : (!(acc.plainStorage known).isEmpty || acc.status.wasDestroyed) = true
      · simp only [hc, if_true]; exact storage_row_correct acc known _ _ hs k
      · have hc' : (!(acc.plainStorage known).isEmpty || acc.status.wasDestroyed) = false := by simpa using hc
        simp only [hc', Bool.false_eq_true, if_false]
        exact (no_row_means_unchanged acc known _ _ hs hc' k).symm

theorem changeset_correct_proof : ChangesetCorrectStatement := by
  intro db sc p0 h known hdb hwf hr
  obtain ⟨l, h1, _, h3⟩ := fresh_run db sc p0 h hdb hwf hr
  refine ⟨l, h1, fun s r hl => ?_⟩
  exact changeset_of_bundleOK s.bundle known p0 r (bundleOK_of_inv (h3 s r hl).inv (h3 s r hl).ts)

end Revm.Proofs.Bundle
