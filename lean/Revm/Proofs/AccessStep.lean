import Revm.Proofs.AccessSim
/-! C34: one lockstep step preserves the simulation invariant and the reported `is_cold` bits are the set
machine's prediction (`sim_step`) — the keyed operations (those that only perform their accesses, and the
transaction-level pre-warming), `commit`, the steps that hand out a checkpoint, and the revert. -/
namespace Revm.Proofs.Access
open Revm Revm.Model.Journal Revm.Spec.JournalAbs Revm.Proofs.Journal Revm.Spec.AccessHistory
open Revm.Spec.AccessSets (Access Sets)

/-- the conclusion about one step: the invariant again, and for the operations that report `is_cold` the
reported bits are the set machine's prediction -/
def StepOk (db : Db) (l l' : Lock) (op : Op) : Prop :=
  Sim db l' ∧ (exposes op = true → ∃ r' st' bits, step db l.r op = some r' ∧
    specStep db l.r r' l.st op = some (st', bits) ∧ coldBits db l.r.js op = some bits)

/-- the warm effect of a step and the `is_cold` bits it reports, on the model alone: exactly the keys of the
operation become warm (its accesses; for `initial_account_load`, which is not journaled, the address and slots it names,
under the check of `initLoadOk`), and the bits are those of the warm flags before. Every other case is C06's `Pushes`
lemma of the operation. -/
theorem step_keys {db : Db} {hasStorage : Addr → Bool} {r r' : Run} {op : Op} (hbal : BalOk (absT db r.js))
    (hadm : admOp db hasStorage r op = true) (hord : keyed op = true)
    (hil : ∀ a ks, op = .initLoad a ks → initLoadOk r a ks = true) (hstep : step db r op = some r') :
    r'.cps = r.cps ∧ Warms db r.js r'.js (opKeys db r.js op) ∧ BalOk (absT db r'.js) ∧
    (exposes op = true → coldBits db r.js op = some (coldList (warmSets db r.js) (accessesOf db r.js op))) := by
  cases step_called hstep with
  | created _ | notCreated _ | checkpoint | commit | revert _ _ => cases hord
  | initLoad a ks =>
    have hc := hil a ks rfl
    simp only [initLoadOk, Bool.and_eq_true] at hc
    obtain ⟨w, hb⟩ := initLoad_warms (db := db) (s := r.js) (a := a) (ks := ks) (fun acc hacc => by
      simp only [hacc, Bool.and_eq_true, Bool.not_eq_true', List.all_eq_true] at hc
      obtain ⟨-, ⟨h1, h2⟩, h3⟩ := hc
      exact ⟨h1, h2, fun k hk sl hsl => by have := h3 k hk; simp [hsl] at this; exact this⟩)
    exact ⟨rfl, w, BalOk.of_eq hb hbal, fun hx => nomatch hx⟩
  | @load a _ _ h1 =>
    obtain ⟨p, hc, _⟩ := loadAccount_pushes (db := db) h1
    refine ⟨rfl, Warms.of_access (k := .addr a) p hc, p.bal hbal, fun _ => ?_⟩
    simp only [coldBits, h1, Option.map_some, accessesOf, coldList, warmSets_has, hc]; rfl
  | @loadCode a _ _ h1 =>
    obtain ⟨p, hc, _⟩ := loadCode_pushes (db := db) h1
    refine ⟨rfl, Warms.of_access (k := .addr a) p hc, p.bal hbal, fun _ => ?_⟩
    simp only [coldBits, h1, Option.map_some, accessesOf, coldList, warmSets_has, hc]; rfl
  | @sload a k _ _ h1 =>
    obtain ⟨p, hc, _⟩ := sload_pushes (db := db) h1
    refine ⟨rfl, Warms.of_access (k := .slot a k) p hc, p.bal hbal, fun _ => ?_⟩
    simp only [coldBits, h1, Option.map_some, accessesOf, coldList, warmSets_has, hc]; rfl
  | sstore h1 =>
    obtain ⟨⟨es, p⟩, hc, w⟩ := sstore_pushes (db := db) h1
    refine ⟨rfl, w, p.bal hbal, fun _ => ?_⟩
    simp only [coldBits, h1, Option.map_some, accessesOf, coldList, warmSets_has, hc]; rfl
  | selfdestruct h1 =>
    obtain ⟨⟨es, p⟩, hc, w⟩ := selfdestruct_pushes (db := db) hbal h1
    refine ⟨rfl, w, p.bal hbal, fun _ => ?_⟩
    simp only [coldBits, h1, Option.map_some, accessesOf, coldList, warmSets_has, hc]; rfl
  | transfer h1 =>
    obtain ⟨⟨es, p⟩, w⟩ := transfer_pushes (db := db) hbal h1
    exact ⟨rfl, w, p.bal hbal, fun hx => nomatch hx⟩
  | @loadDelegated a _ _ h1 =>
    obtain ⟨⟨es, p⟩, hc, hd⟩ := loadAccountDelegated_pushes (db := db) h1
    cases hdel : delegateOf db r.js a with
    | none =>
      rw [hdel] at hd; obtain ⟨hd, w⟩ := hd
      refine ⟨rfl, by simp only [opKeys, accessesOf, hdel]; exact w, p.bal hbal, fun _ => ?_⟩
      simp only [coldBits, h1, Option.map_some, accessesOf, hdel, Option.map_none, Option.toList, coldList, warmSets_has,
        hc, hd]; rfl
    | some dl =>
      rw [hdel] at hd; obtain ⟨hd, w⟩ := hd
      refine ⟨rfl, by simp only [opKeys, accessesOf, hdel]; exact w, p.bal hbal, fun _ => ?_⟩
      -- the delegate is probed after the account itself was added
      have e : (Access.addr a == Access.addr dl) = (dl == a) :=
        decide_eq_decide.2 ⟨fun e => (Access.addr.inj e).symm, fun e => e ▸ rfl⟩
      simp only [coldBits, h1, Option.map_some, accessesOf, hdel, Option.toList, coldList, add_has, warmSets_has, hc, hd,
        AState.has, e]
  | touch h1 =>
    obtain ⟨es, p, n⟩ := touch_pushes (db := db) h1
    exact ⟨rfl, p.warms_nil n, p.bal hbal, fun hx => nomatch hx⟩
  | incNonce h1 =>
    obtain ⟨es, p, n⟩ := incNonce_pushes (db := db) h1
    exact ⟨rfl, p.warms_nil n, p.bal hbal, fun hx => nomatch hx⟩
  | @setCode a _ _ h1 =>
    have hk : ∀ acc, r.js.state a = some acc → acc.info.codeHash = KECCAK_EMPTY := by
      intro acc hacc; simp [admOp, admissible, hacc] at hadm; exact hadm
    obtain ⟨es, p, n⟩ := setCode_pushes (db := db) hk h1
    exact ⟨rfl, p.warms_nil n, p.bal hbal, fun hx => nomatch hx⟩
  | tstore h1 =>
    obtain ⟨es, p, n⟩ := tstore_pushes (db := db) h1
    exact ⟨rfl, p.warms_nil n, p.bal hbal, fun hx => nomatch hx⟩
  | tload a k => exact ⟨rfl, Warms.refl db _, hbal, fun hx => nomatch hx⟩
  | log x =>
    have e : absT db (Model.Journal.log r.js x) = absT db r.js := absT_congr db rfl rfl rfl rfl
    refine ⟨rfl, ?_, ?_, fun hx => nomatch hx⟩
    · show Warms db r.js (Model.Journal.log r.js x) []
      exact fun k => by rw [e]; exact (Bool.or_false _).symm
    · show BalOk (absT db (Model.Journal.log r.js x)); rw [e]; exact hbal

theorem union_pre (snap pre : Sets) (h : SetsLe pre snap) : SetsEq (snap.union pre) snap :=
  setsEq_iff.2 fun k => by
    rw [union_has]
    cases hp : pre.has k
    · exact Bool.or_false _
    · rw [setsLe_iff.1 h k hp]; rfl

section ops
variable {db : Db} {hasStorage : Addr → Bool} (hdb : DbOk db hasStorage) {l l' : Lock} (h : Sim db l)
include hdb h

/-- a keyed operation: the set machine adds its keys (`specStep_keyed`), the model warms exactly them (`step_keys`), and the
replies agree because the warm flags are the current sets -/
theorem stepOk_keyed {op : Op} (hs : lockStep db hasStorage l op = some l') (hord : keyed op = true) :
    StepOk db l l' op := by
  obtain ⟨hadm, r', o', st', bits, hstep, hwn, hsp, rfl⟩ := lockStep_some hs
  obtain ⟨rfl, hil⟩ := wnStep_keyed hord hwn
  obtain ⟨hcps, hw, hbal, hbits⟩ := step_keys h.bal hadm hord hil hstep
  obtain ⟨c1, c2, c3, hb⟩ := specStep_keyed hord hsp
  have hk : (preKeys op = [] ∧ admissible db hasStorage 0 l.r op = true) ∨
      (preKeys op = opKeys db l.r.js op ∧ l.open_ = []) := by
    cases op <;> first | exact .inl ⟨rfl, hadm⟩ | cases hord | skip
    -- a transaction-level pre-warming happens before the first checkpoint
    have hc := hil _ _ rfl
    simp only [initLoadOk, Bool.and_eq_true, List.isEmpty_iff] at hc
    refine .inr ⟨rfl, ?_⟩
    cases ho : l.open_ with
    | nil => rfl
    | cons i t => have := h.lt i (by simp [ho]); rw [hc.1] at this; cases this
  exact ⟨sim_keyed hdb h hstep hcps (fun i e => by subst e; cases hord) ⟨c1, c2, c3⟩ hk hw hbal,
    fun hx => ⟨r', _, _, hstep, hsp, by rw [hbits hx, hb hx, coldList_congr h.rel]⟩⟩

theorem sim_step_commit (hs : lockStep db hasStorage l .commit = some l') : StepOk db l l' .commit := by
  obtain ⟨hadm, r', o', st', bits, hstep, hwn, hsp, rfl⟩ := lockStep_some hs
  cases hstep
  cases hsp
  simp only [wnStep] at hwn
  split at hwn
  · cases hwn
  · cases hwn
    have e : absT db (commit l.r.js) = absT db l.r.js := absT_congr db rfl rfl rfl rfl
    have hsub : ∀ i, i ∈ l.open_.dropLast → i ∈ l.open_ := fun i hi => List.dropLast_subset _ hi
    refine ⟨⟨?_, ?_, h.len, fun i hi => h.lt i (hsub i hi), ?_, h.preCur, ?_⟩, fun hx => nomatch hx⟩
    · show SetsEq (warmSets db (commit l.r.js)) l.st.cur
      rw [warmSets_eq, e]; exact h.rel
    · show BalOk (absT db (commit l.r.js)); rw [e]; exact h.bal
    · exact List.Pairwise.sublist (List.dropLast_sublist _) h.sorted
    · intro i hi
      obtain ⟨cp, snap, x0, logs0, spec0, pre0, e1, e2, iv, e3, e4⟩ := h.inv i (hsub i hi)
      exact ⟨cp, snap, x0, logs0, spec0, pre0, e1, e2,
        inv_step hdb (op := .commit) iv rfl rfl, e3, e4⟩

/-- a step that hands out a checkpoint (`checkpoint`, or a creation that succeeds): the set machine saves a
copy; the C06 invariant for the new checkpoint starts here -/
theorem sim_opening {op : Op} {r' : Run} {cp : Checkpoint}
    (hadm : admissible db hasStorage 0 l.r op = true) (hnr : ∀ i, op ≠ .revert i)
    (hstep : step db l.r op = some r') (hcp : r'.cps = l.r.cps ++ [cp])
    (hsame : SetsEq (warmSets db r'.js) (warmSets db l.r.js)) (hbal : BalOk (absT db r'.js)) :
    Sim db { r := r', st := Spec.AccessSets.checkpoint l.st, open_ := l.open_ ++ [l.r.cps.length] } := by
  obtain ⟨hcpe, i0⟩ := inv_init hdb h.bal hadm hstep hcp
  have hlen : r'.cps.length = l.r.cps.length + 1 := by rw [hcp, List.length_append]; rfl
  refine ⟨?_, hbal, ?_, ?_, ?_, h.preCur, ?_⟩
  · show SetsEq (warmSets db r'.js) l.st.cur
    exact SetsEq.trans hsame h.rel
  · show (l.st.snaps ++ [l.st.cur]).length = r'.cps.length
    rw [hlen, List.length_append, h.len]; rfl
  · intro i hi
    show i < r'.cps.length
    rw [hlen]
    rcases List.mem_append.1 hi with hi | hi
    · exact Nat.lt_succ_of_lt (h.lt i hi)
    · cases List.mem_singleton.1 hi; exact Nat.lt_succ_self _
  · show (l.open_ ++ [l.r.cps.length]).Pairwise (· < ·)
    rw [List.pairwise_append]
    exact ⟨h.sorted, List.pairwise_singleton _ _, fun a ha b hb => by cases List.mem_singleton.1 hb; exact h.lt a ha⟩
  · intro i hi
    rcases List.mem_append.1 hi with hi | hi
    · obtain ⟨cp0, snap, x0, logs0, spec0, pre0, e1, e2, iv, e3, e4⟩ := h.inv i hi
      have hil := h.lt i hi
      refine ⟨cp0, snap, x0, logs0, spec0, pre0, ?_, ?_, ?_, e3, e4⟩
      · show r'.cps[i]? = some cp0
        rw [hcp, List.getElem?_append_left hil]; exact e1
      · show (l.st.snaps ++ [l.st.cur])[i]? = some snap
        rw [List.getElem?_append_left (by rw [h.len]; exact hil)]; exact e2
      · exact inv_step hdb iv (by rw [admissible_base db hasStorage (i+1) 0 l.r op hnr]; exact hadm) hstep
    · cases List.mem_singleton.1 hi
      refine ⟨cp, l.st.cur, absT db l.r.js, l.r.js.logs, l.r.js.spec, l.r.js.preloaded, ?_, ?_, ?_, h.rel, h.preCur⟩
      · show r'.cps[l.r.cps.length]? = some cp
        rw [hcp, List.getElem?_append_right (Nat.le_refl _), Nat.sub_self]; rfl
      · show (l.st.snaps ++ [l.st.cur])[l.r.cps.length]? = some l.st.cur
        rw [← h.len, List.getElem?_append_right (Nat.le_refl _), Nat.sub_self]; rfl
      · have hJ : cp.journalI = l.r.js.journal.length := by rw [hcpe]; rfl
        have hL : cp.logI = l.r.js.logs.length := by rw [hcpe]; rfl
        rw [hJ, hL]; exact i0

theorem sim_step_checkpoint (hs : lockStep db hasStorage l .checkpoint = some l') : StepOk db l l' .checkpoint := by
  obtain ⟨hadm, r', o', st', bits, hstep, hwn, hsp, rfl⟩ := lockStep_some hs
  have hstep0 := hstep
  cases hstep
  cases hsp
  cases hwn
  exact ⟨sim_opening hdb h (op := .checkpoint) rfl (fun _ h => by cases h) hstep0 rfl (SetsEq.refl _) h.bal,
    fun hx => nomatch hx⟩

theorem sim_step_create {c a : Addr} {hst : Bool} {bal spec : Nat}
    (hs : lockStep db hasStorage l (.create c a hst bal spec) = some l') :
    StepOk db l l' (.create c a hst bal spec) := by
  obtain ⟨hadm, r', o', st', bits, hstep, hwn, hsp, rfl⟩ := lockStep_some hs
  have hadm0 : admissible db hasStorage 0 l.r (.create c a hst bal spec) = true := hadm
  have hadm1 := hadm0
  simp only [admissible, Bool.and_eq_true, Bool.or_eq_true, Bool.not_eq_true'] at hadm1
  obtain ⟨⟨ha1, ha2⟩, -⟩ := hadm1
  have hcr : ∀ acc, l.r.js.state a = some acc → acc.created = false := by
    intro acc hacc; simp [hacc] at ha1; exact ha1
  cases step_called hstep with
  | @notCreated _ _ _ _ _ js' _ hc =>
    have hp := create_pushes hdb h.bal hcr ha2 hc
    simp [specStep] at hsp; obtain ⟨rfl, rfl⟩ := hsp
    simp [wnStep] at hwn; subst hwn
    have w : Warms db l.r.js js' [] := Pushes.warms_nil hp NoWarm.nil
    exact ⟨sim_keyed hdb (xs := []) (ys := []) h hstep rfl (fun _ h => by cases h) ⟨rfl, rfl, rfl⟩ (.inl ⟨rfl, hadm0⟩) w
        (hp.bal h.bal),
      fun hx => nomatch hx⟩
  | created hc =>
    obtain ⟨rfl, es, p, n⟩ := create_pushes hdb h.bal hcr ha2 hc
    simp [specStep] at hsp; obtain ⟨rfl, rfl⟩ := hsp
    simp [wnStep] at hwn; subst hwn
    have w := p.warms_nil n
    exact ⟨sim_opening hdb h (op := .create c a hst bal spec) hadm0 (fun _ h => by cases h) hstep rfl
      (setsEq_iff.2 fun k => by rw [warmSets_has, warmSets_has, w k, checkpoint_absT]; exact Bool.or_false _)
      (p.bal h.bal), fun hx => nomatch hx⟩

theorem sim_step_revert {i : Nat} (hs : lockStep db hasStorage l (.revert i) = some l') :
    StepOk db l l' (.revert i) := by
  obtain ⟨hadm, r', o', st', bits, hstep, hwn, hsp, rfl⟩ := lockStep_some hs
  have hstep0 := hstep
  simp only [wnStep] at hwn
  by_cases hi : i ∈ l.open_
  · simp [hi] at hwn; subst hwn
    obtain ⟨cp, snap, x0, logs0, spec0, pre0, e1, e2, iv, e3, e4⟩ := h.inv i hi
    simp only [step, e1, Option.map_eq_some_iff] at hstep
    obtain ⟨js', hrev, rfl⟩ := hstep
    simp [specStep, Spec.AccessSets.revert, e2] at hsp; obtain ⟨rfl, rfl⟩ := hsp
    obtain ⟨_, r2, r3, r4, r5, r6⟩ := revert_abs db l.r.js js' cp hrev iv.zero
    have hx0 : absT db js' = x0 := by rw [r2]; exact iv.undo
    have hsub : ∀ j, j ∈ l.open_.filter (· < i) → j ∈ l.open_ ∧ j < i := by
      intro j hj; simpa using List.mem_filter.1 hj
    refine ⟨⟨?_, ?_, h.len, fun j hj => h.lt j (hsub j hj).1, ?_, ?_, ?_⟩, fun hx => by simp [exposes] at hx⟩
    · show SetsEq (warmSets db js') (snap.union l.st.pre)
      rw [warmSets_eq, hx0]
      exact SetsEq.trans e3 (union_pre snap l.st.pre e4).symm
    · show BalOk (absT db js')
      rw [r2]; exact undoTs_balOk _ _ _ h.bal
    · exact List.Pairwise.sublist List.filter_sublist h.sorted
    · show SetsLe l.st.pre (snap.union l.st.pre)
      exact ⟨fun a ha => by simp [Sets.union, ha], fun a k ha => by simp [Sets.union, ha]⟩
    · intro j hj
      obtain ⟨hjo, hji⟩ := hsub j hj
      obtain ⟨cpj, snapj, xj, logsj, specj, prej, f1, f2, ivj, f3, f4⟩ := h.inv j hjo
      exact ⟨cpj, snapj, xj, logsj, specj, prej, f1, f2,
        inv_step hdb (op := .revert i) ivj (by simp [admissible]; omega) hstep0, f3, f4⟩
  · simp [hi] at hwn

/-- one step of any kind keeps `Sim` and reports the `is_cold` bits the specification's sets give -/
theorem sim_step {op : Op} (hs : lockStep db hasStorage l op = some l') : StepOk db l l' op := by
  cases op with
  | create c a hst bal spec => exact sim_step_create hdb h hs
  | checkpoint => exact sim_step_checkpoint hdb h hs
  | commit => exact sim_step_commit hdb h hs
  | revert i => exact sim_step_revert hdb h hs
  | _ => exact stepOk_keyed hdb h hs rfl

end ops

end Revm.Proofs.Access
