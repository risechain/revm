import Revm.Proofs.EvmInstWrapSimExec
import Revm.Props.C28
import Revm.Model.SelfdestructNotify
import Revm.Proofs.Evm
/-! C28 for the whole-EVM model. `transactVia run` is `Evm.transact` with the execution part of `transact_preverified_inner`
(first-frame handler, `run_the_loop`, `last_frame_return`) delegated to `run`; the other stages are the functions of
`EvmInstStages`, which `inspector_handle_register` does not wrap. `transactAbs` runs it on `evmMachine journalOps`,
`transactInspected obs wst` on the machine `inspector_handle_register` builds from it. `transactInspected_eq_abs`: equal
for every fuel when the inspector observes up to a `rel` the machine respects (`evmMachine_respects`);
`transactAbs_of_transact`: a completed `Evm.transact` is a `transactAbs` run; `evm_inspected_eq_plain` puts the two together. -/
namespace Revm.Proofs.EvmInstWrap
open Revm Revm.Model Revm.Model.Evm
open Revm.Model.InspectorWrap (FrameResult Observer WState ORel Observing Respects wrap)
open Revm.Proofs.InspectorWrap (dropW)
open Revm.Proofs.Evm (bind_ok)

/-- what a frame keeps to revert: the inspected machine is built over the journal's own discipline `journalOps` -/
abbrev K := Journal.Checkpoint

/-- the `EnvOps` of the concrete context: the journal's logs, the length of the innermost journal level, the
SELFDESTRUCT wrapper's triple (`SelfdestructNotify.newEntryNote`, else `(contract, contract, 0)`), the journal depth,
`env.tx.gas_limit` -/
def evmOps (lim : Nat) : InspectorWrap.EnvOps (evmTy K) where
  logs c := c.w.js.logs
  journalLastLen c := SelfdestructNotify.lastLen c.w.js
  sdInfo prev st c := (SelfdestructNotify.newEntryNote prev c.w.js).getD (st.rest.target, st.rest.target, 0)
  depth c := c.w.js.depth
  txGasLimit _ := lim

/-- `refund` (+ EIP-7623 floor), `reimburse_caller`, `reward_beneficiary`, `output` on the `FrameResult` the execution part
returned (its gas record was set by `last_frame_return`) -/
def finishFr (e : Env) (spec floorGas refund : Nat) (fr : FrameResult) (w : World) : R (TxResult × World) := do
  let gas := EvmInst.refundGas spec floorGas refund fr.interpreterResult.gas
  let w ← EvmInst.reimburse e gas w
  let w ← EvmInst.reward e spec gas w
  let r ← EvmInst.output e.tx.to.isNone (childOfFrameResult fr) gas w.js.logs w.logs
  pure (r, w)

theorem output_congr (isCreate : Bool) (r1 r2 : Interp.ChildResult) (gas : Gas.Gas) (ids : List Nat)
    (store : List LogRec) (h1 : r1.result = r2.result) (h2 : r1.output = r2.output)
    (h3 : isCreate = true → r1.address = r2.address) :
    EvmInst.output isCreate r1 gas ids store = EvmInst.output isCreate r2 gas ids store := by
  unfold EvmInst.output
  rw [h1]
  cases ofOpt "unexpected internal return flag" (classOf r2.result) with
  | error e => rfl
  | ok cls =>
    simp only [bind, Except.bind, pure, Except.pure, Except.ok.injEq]
    cases isCreate with
    | false => cases cls <;> simp only [txResultOf, h1, h2] <;> rfl
    | true => cases cls <;> simp only [txResultOf, h1, h2, h3 rfl]

theorem finishFr_execResult (e : Env) (spec floorGas refund : Nat) (res : Interp.ChildResult) (w : World) :
    finishFr e spec floorGas refund (execResult e res) w = finish e spec floorGas refund e.tx.to.isNone res w := by
  rw [EvmInst.finish_eq]
  unfold finishFr
  have hgas : (execResult e res).interpreterResult.gas = EvmInst.lastFrameGas e res := by
    unfold execResult frameResultOf
    cases e.tx.to.isNone <;> rfl
  rw [hgas]
  have hout : ∀ gas ids store, EvmInst.output e.tx.to.isNone (childOfFrameResult (execResult e res)) gas ids store =
      EvmInst.output e.tx.to.isNone res gas ids store := by
    intro gas ids store
    apply output_congr
    · unfold execResult frameResultOf
      cases e.tx.to.isNone <;> exact ofIR_toIR _
    · unfold execResult frameResultOf
      cases e.tx.to.isNone <;> rfl
    · intro hc
      unfold execResult frameResultOf
      rw [hc]; rfl
  simp only [hout]

/-- how the execution part is run: first input and context to the `FrameResult` and the context (`none`: out of fuel) -/
abbrev Runner := Cfg → Nat → InspectorWrap.FirstInput (evmTy K) → ECtx → Option (ARes (FrameResult × ECtx))

/-- `transact_preverified_inner` after validation, the execution part done by `run` -/
def executeVia (run : Runner) (e : Env) (spec initialGas floorGas : Nat) (w : World) :
    Option (R (TxResult × World)) :=
  match deductCaller e spec (loadAccounts e spec w) with
  | .error err => some (.error err)
  | .ok w =>
    match applyAuthList e spec w with
    | .error err => some (.error err)
    | .ok (w, refund) =>
      match run (e.toCfg spec) e.tx.gasLimit (firstInputOf e (EvmInst.firstGasLimit e initialGas))
          { w := w, err := none } with
      | none => none
      | some (.err err) => some (.error err)
      | some .panic => some (.error (.panic "frame machine"))
      | some (.ok (fr, c)) => some (finishFr e spec floorGas refund fr c.w)

/-- `Evm::transact`, the execution part done by `run` -/
def transactVia (run : Runner) (w : World) (e : Env) (spec : Nat) : Option (R (Outcome × World)) :=
  match preverify w e (GasCalc.canon spec) with
  | .error err => some (.error err)
  | .ok none => some (.ok (.rejected, w))
  | .ok (some (w', initialGas, floorGas)) =>
    match executeVia run e (GasCalc.canon spec) initialGas floorGas w' with
    | none => none
    | some (.error err) => some (.error err)
    | some (.ok (r, w'')) => some (.ok (.executed r, w''))

def plainRun (fuel : Nat) : Runner :=
  fun cfg lim inp c => (evmMachine journalOps cfg lim).exec fuel inp c

/-- the execution part on the machine `inspector_handle_register` builds from it, started in wrapper state `wst`; the
wrapper state is dropped from the result (`dropW`) -/
def inspectedRun {S : Type} (obs : Nat → Observer (evmTy K) S) (wst : WState (evmTy K) S) (fuel : Nat) : Runner :=
  fun cfg lim inp c => dropW ((wrap (evmOps lim) (obs lim) (evmMachine journalOps cfg lim)).exec fuel inp (c, wst))

/-- `transact_preverified_inner` with the inspector register installed -/
def execInspected {S : Type} (obs : Nat → Observer (evmTy K) S) (wst : WState (evmTy K) S) (fuel : Nat) (e : Env)
    (spec initialGas floorGas : Nat) (w : World) : Option (R (TxResult × World)) :=
  executeVia (inspectedRun obs wst fuel) e spec initialGas floorGas w

def transactAbs (fuel : Nat) (w : World) (e : Env) (spec : Nat) : Option (R (Outcome × World)) :=
  transactVia (plainRun fuel) w e spec

/-- `Evm::transact` with the inspector register installed: inspector `obs` (it may depend on `env.tx.gas_limit` through
`EnvOps`, as the tracer does), wrapper state `wst` -/
def transactInspected {S : Type} (obs : Nat → Observer (evmTy K) S) (wst : WState (evmTy K) S) (fuel : Nat)
    (w : World) (e : Env) (spec : Nat) : Option (R (Outcome × World)) :=
  transactVia (inspectedRun obs wst fuel) w e spec

theorem inspectedRun_eq_plainRun {S : Type} {rel : ORel} (obs : Nat → Observer (evmTy K) S)
    (hobs : ∀ lim, Observing (obs lim) rel)
    (hr : ∀ cfg lim, Respects (evmMachine journalOps cfg lim) rel) (wst : WState (evmTy K) S) (fuel : Nat) :
    inspectedRun obs wst fuel = plainRun fuel := by
  funext cfg lim inp c
  exact Revm.Props.C28.inspected_eq_plain_mod (hobs lim) (evmOps lim) (evmMachine journalOps cfg lim) (hr cfg lim) fuel
    inp c wst

theorem transactInspected_eq_abs {S : Type} {rel : ORel} (obs : Nat → Observer (evmTy K) S)
    (hobs : ∀ lim, Observing (obs lim) rel) (hr : ∀ cfg lim, Respects (evmMachine journalOps cfg lim) rel)
    (wst : WState (evmTy K) S) (fuel : Nat) (w : World) (e : Env) (spec : Nat) :
    transactInspected obs wst fuel w e spec = transactAbs fuel w e spec := by
  unfold transactInspected transactAbs
  rw [inspectedRun_eq_plainRun obs hobs hr wst fuel]

/-- the three inspectors of the code base, on the frame machine of the whole-EVM model: for EVERY fuel, world,
environment, spec and leftover wrapper state the inspected transaction is the plain one -/
theorem three_inspectors_invisible_evm (fuel : Nat) (w : World) (e : Env) (spec : Nat) :
    (∀ wst, transactInspected (fun _ => InspectorWrap.noop (evmTy K)) wst fuel w e spec = transactAbs fuel w e spec) ∧
    (∀ wst, transactInspected (fun _ => InspectorWrap.gasInspector (evmTy K)) wst fuel w e spec =
      transactAbs fuel w e spec) ∧
    (∀ wst, transactInspected (fun lim => InspectorWrap.tracer3155 (evmTy K) (evmOps lim)) wst fuel w e spec =
      transactAbs fuel w e spec) :=
  ⟨fun wst => transactInspected_eq_abs _ (fun _ => Revm.Props.C28.noop_observing _)
      (fun _ _ => Revm.Proofs.InspectorWrap.respects_eq _) wst fuel w e spec,
   fun wst => transactInspected_eq_abs _ (fun _ => Revm.Props.C28.gas_inspector_observing _)
      (fun cfg lim => evmMachine_respects journalOps cfg lim) wst fuel w e spec,
   fun wst => transactInspected_eq_abs _ (fun lim => Revm.Props.C28.tracer_observing _ (evmOps lim))
      (fun cfg lim => evmMachine_respects journalOps cfg lim) wst fuel w e spec⟩

theorem executeVia_of_execute (fuel : Nat) (e : Env) (spec initialGas floorGas : Nat) (w : World)
    (r : TxResult) (w' : World) (h : execute journalOps fuel e spec initialGas floorGas w = .ok (r, w')) :
    ∃ N, ∀ N', N ≤ N' → executeVia (plainRun N') e spec initialGas floorGas w = some (.ok (r, w')) := by
  rw [EvmInst.execute_eq] at h
  obtain ⟨w1, hd, h⟩ := bind_ok h
  obtain ⟨⟨w2, refund⟩, ha, h⟩ := bind_ok h
  obtain ⟨⟨first, w3⟩, hf, h⟩ := bind_ok h
  obtain ⟨⟨res, w4⟩, hrun, h⟩ := bind_ok h
  obtain ⟨N, hN⟩ := exec_sim journalOps (e.toCfg spec) e (EvmInst.firstGasLimit e initialGas) w2 w3 first hf
    fuel res w4 hrun
  refine ⟨N, fun N' hle => ?_⟩
  unfold executeVia
  simp only [hd, ha, plainRun, hN N' hle]
  rw [finishFr_execResult]
  exact congrArg some h

/-- a completed run of `Evm.transact` is a run of the transaction over the abstract frame machine, on every large enough
fuel, with the same outcome and the same world -/
theorem transactAbs_of_transact (fuel : Nat) (w : World) (e : Env) (spec : Nat) (o : Outcome)
    (w' : World) (h : transact fuel w e spec = .ok (o, w')) :
    ∃ N, ∀ N', N ≤ N' → transactAbs N' w e spec = some (.ok (o, w')) := by
  unfold transactAbs transactVia
  rcases Proofs.Evm.transactWith_pre h with ⟨hp, rfl, rfl⟩ | ⟨w1, ig, fg, r, hp, hx, rfl⟩
  · rw [hp]; exact ⟨0, fun _ _ => rfl⟩
  · rw [hp]
    obtain ⟨N, hN⟩ := executeVia_of_execute fuel e (GasCalc.canon spec) ig fg w1 r w' hx
    exact ⟨N, fun N' hle => by simp only [hN N' hle]⟩

/-- **C28 for `Evm.transact`**: whenever the whole-EVM model completes a transaction with `(o, w')`, the same
transaction run with the inspector register installed — inspector `NoOpInspector`, `GasInspector` or `TracerEip3155`,
from ANY wrapper state (inspector state, leftover input stacks) — completes with the same `(o, w')` on every large
enough fuel. -/
theorem evm_inspected_eq_plain (fuel : Nat) (w : World) (e : Env) (spec : Nat) (o : Outcome)
    (w' : World) (h : transact fuel w e spec = .ok (o, w')) :
    ∃ N, ∀ N', N ≤ N' →
      (∀ wst, transactInspected (fun _ => InspectorWrap.noop (evmTy K)) wst N' w e spec = some (.ok (o, w'))) ∧
      (∀ wst, transactInspected (fun _ => InspectorWrap.gasInspector (evmTy K)) wst N' w e spec =
        some (.ok (o, w'))) ∧
      (∀ wst, transactInspected (fun lim => InspectorWrap.tracer3155 (evmTy K) (evmOps lim)) wst N' w e spec =
        some (.ok (o, w'))) := by
  obtain ⟨N, hN⟩ := transactAbs_of_transact fuel w e spec o w' h
  refine ⟨N, fun N' hle => ?_⟩
  obtain ⟨h1, h2, h3⟩ := three_inspectors_invisible_evm N' w e spec
  exact ⟨fun wst => (h1 wst).trans (hN N' hle), fun wst => (h2 wst).trans (hN N' hle),
    fun wst => (h3 wst).trans (hN N' hle)⟩

section Examples

/-- an account `0xaa` with funds and a contract `0xcc` whose code is `PUSH1 1; PUSH1 2; ADD; STOP` (stored under the
code-store key 77) -/
def exWorld : World :=
  { js := Journal.JState.new 17 (fun _ => false),
    codes := [(77, [0x60, 0x01, 0x60, 0x02, 0x01, 0x00])],
    pre := [{ addr := 0xaa, balance := 10^18, nonce := 0, code := [], codeHash := KECCAK_EMPTY, storage := [] },
            { addr := 0xcc, balance := 0, nonce := 1, code := [0x60, 0x01, 0x60, 0x02, 0x01, 0x00], codeHash := 77,
              storage := [] }] }

def exEnv : Env :=
  { block := { gasLimit := 30000000, basefee := 7, prevrandao := some 0, blobGasPrice := some 1 },
    tx := { caller := 0xaa, gasLimit := 50000, gasPrice := 10, to := some 0xcc, value := 5, nonce := some 0 } }

-- a completed transaction that really runs a frame (four instructions of the contract at `0xcc`)
example : ∃ r, transact 10 exWorld exEnv 17 = .ok r := Proofs.Evm.exists_of_isOk (by decide +kernel)
-- … and one that is answered by an early result (plain transfer to an account without code)
example : ∃ r, transact 10 exWorld { exEnv with tx := { exEnv.tx with to := some 0xbb } } 17 = .ok r :=
  Proofs.Evm.exists_of_isOk (by decide +kernel)
/-- "executed, ended by STOP, 21009 gas used" (21000 + three `VERYLOW` instructions) -/
def exCheck : Option (R (Outcome × World)) → Bool
  | some (.ok (.executed r, _)) => r.reason == .Stop && r.gasUsed == 21009
  | _ => false
-- the concrete model, the plain abstract machine and the machine inspected by the EIP-3155 tracer (empty input stacks)
-- all complete the first transaction, on the same fuel, with that result
example : exCheck (some (transact 10 exWorld exEnv 17)) = true := by decide +kernel
example : exCheck (transactAbs 10 exWorld exEnv 17) = true := by decide +kernel
example : exCheck (transactInspected (fun lim => InspectorWrap.tracer3155 (evmTy K) (evmOps lim))
    { obs := InspectorWrap.Tracer.new, callStack := [], createStack := [], eofStack := [] } 10 exWorld exEnv 17) = true := by
  decide +kernel
-- there are error-class results (whose gas the blindness lemmas ignore) and results that are not
example : isErr Interp.IResult.OutOfGas = true ∧ isErr Interp.IResult.StackOverflow = true ∧
    isErr Interp.IResult.Revert = false ∧ isErr Interp.IResult.Return = false := by decide

end Examples

end Revm.Proofs.EvmInstWrap
