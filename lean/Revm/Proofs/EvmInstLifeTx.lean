import Revm.Proofs.EvmInstLifeLoop
/-! C31 instance: `EvmLifecycle.transact (evmHandler spec)` answers as `Evm.transact` does
(`evm_transact_is_lifecycle_transact`) - stage by stage on the changeable part of the context (`pre_eq`, `rest_rel`,
`innerW_rel`), the rest of the context being the business of the entry point's normal form (`transact_nf`). -/
namespace Revm.Proofs.EvmInstLife
open Revm Revm.Model Revm.Model.Evm Revm.Proofs.EvmInst
open Revm.Model.Journal (JState)
open Revm.Model.GasCalc (enabled)
open Revm.Proofs.EvmLifecycle (transact_nf transactW innerW)

theorem isPrecompile_lt {sp a : Nat} (h : isPrecompile sp a = true) : a < 18 := by
  unfold isPrecompile at h
  simp only [Bool.or_eq_true, Bool.and_eq_true, decide_eq_true_eq, beq_iff_eq] at h
  omega

theorem contains_precompileAddrs (sp a : Nat) : (precompileAddrs sp).contains a = isPrecompile sp a := by
  unfold precompileAddrs
  cases h : isPrecompile sp a with
  | true =>
    rw [List.contains_iff_mem, List.mem_filter, List.mem_range]
    exact ⟨isPrecompile_lt h, h⟩
  | false =>
    rw [← Bool.not_eq_true, List.contains_iff_mem, List.mem_filter]
    intro hc
    rw [h] at hc
    exact absurd hc.2 (by decide)

/-- the journal after `set_spec_id` and the EIP-3651 coinbase warming, as the abstract `loadAccountsW` writes it -/
def jsStart (e : Env) (sp : Nat) (js : JState) : JState :=
  if sp ≥ EvmLifecycle.SHANGHAI then
    EvmLifecycle.preloadInsert (EvmLifecycle.setSpecId js sp) e.block.coinbase
  else EvmLifecycle.setSpecId js sp

theorem jsStart_eq (e : Env) (sp : Nat) (js : JState) :
    jsStart e sp js =
      { js with spec := sp,
                preloaded := fun a => js.preloaded a || (enabled sp GasCalc.SpecId.SHANGHAI && a == e.block.coinbase) } := by
  unfold jsStart EvmLifecycle.preloadInsert EvmLifecycle.setSpecId enabled
  by_cases h : sp ≥ EvmLifecycle.SHANGHAI
  · have h' : sp ≥ GasCalc.SpecId.SHANGHAI := h
    simp only [h, h', if_true, decide_true, Bool.true_and]
    congr 1
    funext a
    exact Bool.or_comm _ _
  · have h' : ¬ sp ≥ GasCalc.SpecId.SHANGHAI := h
    simp only [h, h', if_false, decide_false, Bool.false_and, Bool.or_false]

/-- `Evm.loadAccounts` in the order of the abstract `load_accounts`, `set_precompiles`: write spec and coinbase warming,
load the access list, extend by the precompiles -/
theorem loadAccounts_eq (e : Env) (sp : Nat) (w : World) :
    loadAccounts e sp w =
      (let x := loadAccessList e { w with js := jsStart e sp w.js }
       { x with js := EvmLifecycle.preloadExtend x.js (precompileAddrs sp) }) := by
  unfold loadAccounts loadAccessList
  rw [jsStart_eq]
  simp only [EvmLifecycle.preloadExtend]
  congr 1
  congr 1
  funext a
  rw [contains_precompileAddrs]
  exact Bool.or_comm _ _

section
variable {Db Env Err Pre L1 G LS Act FR ER : Type} (h : EvmLifecycle.Handler Db Env Err Pre L1 G LS Act FR ER)

/-- the loop (or the early result) of `transact_preverified_inner`. `loopL` / `postL` are stated for an arbitrary handler so
that their `match`es are the matchers of `innerRestW` and `innerRestW_eq` is `rfl`: specialised to `evmHandler` they would
be different constants and the equation would need a case split per stage -/
def loopL (pre : Pre) (env : Env) (fuel : Nat) (first : LS ⊕ FR) (w : EvmLifecycle.Work Db Err L1) :
    Option (Except Err FR × EvmLifecycle.Work Db Err L1) :=
  match first with
  | .inl ls => EvmLifecycle.runLoop h pre env fuel ls w
  | .inr r => some (.ok r, w)

/-- what `transact_preverified_inner` does with the answer of the loop -/
def postL (pre : Pre) (env : Env) (g : G) (refund : Nat) :
    Option (Except Err FR × EvmLifecycle.Work Db Err L1) → Option (Except Err (EvmLifecycle.Out ER) × EvmLifecycle.Work Db Err L1)
  | none => none
  | some (.error e, w) => some (.error e, w)
  | some (.ok fr, w) =>
  match h.lastFrameReturn pre fr env w with
  | (.error e, w) => some (.error e, w)
  | (.ok fr, w) =>
  let fr := h.refund env g refund fr
  match h.reimburseCaller pre fr env w with
  | (.error e, w) => some (.error e, w)
  | (.ok _, w) =>
  match h.rewardBeneficiary pre fr env w with
  | (.error e, w) => some (.error e, w)
  | (.ok _, w) => some (EvmLifecycle.outputW h env fr w)

theorem innerRestW_eq (fuel : Nat) (g : G) (pre : Pre) (env : Env) (w : EvmLifecycle.Work Db Err L1) :
    EvmLifecycle.innerRestW h fuel g pre env w =
      match h.deductCaller pre env w with
      | (.error e, w) => some (.error e, w)
      | (.ok _, w) =>
      match h.applyAuthList pre env w with
      | (.error e, w) => some (.error e, w)
      | (.ok refund, w) =>
      match h.firstFrame pre g env w with
      | (.error e, w) => some (.error e, w)
      | (.ok first, w) => postL h pre env g refund (loopL h pre env fuel first w) := rfl
end

/-- `Evm.execute` after `loadAccounts` -/
def restC (fuel : Nat) (e : Env) (s ig fg : Nat) (x : World) : R (TxResult × World) := do
  let w ← deductCaller e s x
  let (w, refund) ← applyAuthList e s w
  let (f, w) ← firstFrame journalOps (e.toCfg s) e (firstGasLimit e ig) w
  let (res, w) ← runFirst journalOps (e.toCfg s) fuel f w
  finish e s fg refund e.tx.to.isNone res w

theorem execute_eq_restC (fuel : Nat) (e : Env) (s ig fg : Nat) (w : World) :
    execute journalOps fuel e s ig fg w = restC fuel e s ig fg (loadAccounts e s w) :=
  execute_eq journalOps fuel e s ig fg w

/-- the concrete run after `loadAccounts` against the abstract `transact_preverified_inner` after `set_precompiles` -/
inductive RestRel : R (TxResult × World) → Option (Except LErr (ERes × EvmLifecycle.EvmState) × LWork) → Prop
  | ok (x : World) (er : ERes) (w1 : LWork) : w1.db = WDb.of x →
      RestRel (.ok (resolve x.logs er, x)) (some (.ok (er, x.js.state), w1))
  | fuel : RestRel (.error .outOfFuel) none
  | err (er : Evm.Err) (w1 : LWork) : RestRel (.error er) (some (.error (.err er), w1))

section
variable (spec : Nat) (e : Env)

local notation "sp" => GasCalc.canon spec
local notation "H" => evmHandler spec

theorem h_spec : (H).spec = spec := rfl
theorem h_validateEnv : (H).validateEnv e =
    (match validateEnv e sp with
     | .error err => .error (.err err)
     | .ok false => .error .rejected
     | .ok true => .ok ()) := rfl
theorem h_initialTxGas : (H).initialTxGas e =
    (match initialTxGas e sp with
     | .error err => .error (.err err)
     | .ok none => .error .rejected
     | .ok (some g) => .ok g) := rfl
theorem h_txAgainstState (w : LWork) : (H).txAgainstState e w =
    (match txAgainstState e sp (workWorld w) with
     | .error err => (.error (.err err), w)
     | .ok (x, false) => (.error .rejected, setWorld w x)
     | .ok (x, true) => (.ok (), setWorld w x)) := rfl
theorem h_coinbase : (H).coinbase e = e.block.coinbase := rfl
theorem h_loadAccessList (w : LWork) :
    (H).loadAccessList e w = (.ok (), setWorld w (loadAccessList e (workWorld w))) := rfl
theorem h_loadPrecompiles : (H).loadPrecompiles = sp := rfl
theorem h_precompileAddrs (p : Nat) : (H).precompileAddrs p = precompileAddrs p := rfl
theorem h_deductCaller (p : Nat) : (H).deductCaller p e = liftStageU (deductCaller e sp) := rfl
theorem h_applyAuthList (p : Nat) :
    (H).applyAuthList p e = liftStage (fun x => (applyAuthList e sp x).map (fun q => (q.2, q.1))) := rfl
theorem h_firstFrame (p : Nat) (g : Nat × Nat) :
    (H).firstFrame p g e = liftStage (fun x =>
      (firstFrame journalOps (e.toCfg sp) e (firstGasLimit e g.1) x).map (fun q =>
        (match q.1 with
         | .frame f => Sum.inl (LS.run [f])
         | .result r => Sum.inr (r, noGas), q.2))) := rfl
theorem h_lastFrameReturn (p : Nat) (fr : FRes) (w : LWork) :
    (H).lastFrameReturn p fr e w = (.ok (fr.1, lastFrameGas e fr.1), w) := rfl
theorem h_refund (g : Nat × Nat) (r : Nat) (fr : FRes) : (H).refund e g r fr = (fr.1, refundGas sp g.2 r fr.2) := rfl
theorem h_reimburseCaller (p : Nat) (fr : FRes) : (H).reimburseCaller p fr e = liftStageU (reimburse e fr.2) := rfl
theorem h_rewardBeneficiary (p : Nat) (fr : FRes) :
    (H).rewardBeneficiary p fr e = liftStageU (reward e sp fr.2) := rfl
theorem h_mkResult : (H).mkResult = mkRes := rfl
theorem h_endHook (out : Except LErr (ERes × EvmLifecycle.EvmState)) (w : LWork) : (H).endHook out e w = (out, w) := rfl

/-- the concrete answer of validation read off the abstract one: a failed stage forgets the work -/
def preOf : Except LErr (Nat × Nat) × LWork → R (Option (World × Nat × Nat))
  | (.error (.err er), _) => .error er
  | (.error .rejected, _) => .ok none
  | (.ok g, w1) => .ok (some (workWorld w1, g.1, g.2))

theorem pre_eq (w : LWork) :
    preverify (workWorld w) e sp = preOf (EvmLifecycle.preverifyInnerW (H) e w) ∧
      (EvmLifecycle.preverifyInnerW (H) e w).2.error = w.error := by
  rw [preverify_eq]
  unfold EvmLifecycle.preverifyInnerW
  rw [h_validateEnv, h_initialTxGas]
  simp only [h_txAgainstState]
  cases validateEnv e sp with
  | error er => exact ⟨rfl, rfl⟩
  | ok b =>
    cases b with
    | false => exact ⟨rfl, rfl⟩
    | true =>
      cases initialTxGas e sp with
      | error er => exact ⟨rfl, rfl⟩
      | ok g =>
        cases g with
        | none => exact ⟨rfl, rfl⟩
        | some g =>
          cases txAgainstState e sp (workWorld w) with
          | error er => exact ⟨rfl, rfl⟩
          | ok p =>
            obtain ⟨x, b⟩ := p
            cases b <;> exact ⟨rfl, rfl⟩

theorem loadAccountsW_eq (w : LWork) :
    EvmLifecycle.loadAccountsW (H) e w =
      (.ok (), setWorld w (loadAccessList e { workWorld w with js := jsStart e sp w.js })) := by
  unfold EvmLifecycle.loadAccountsW
  rw [h_spec, canon_eq, h_coinbase]
  simp only [h_loadAccessList]
  rfl

theorem output_rel (fr : FRes) (w : LWork) (hw : w.error = none) :
    RestRel
      ((output e.tx.to.isNone fr.1 fr.2 w.js.logs w.db.logs).map (fun r => (r, workWorld w)))
      (some (EvmLifecycle.outputW (H) e fr w)) := by
  unfold EvmLifecycle.outputW output
  simp only [EvmLifecycle.takeError, hw, h_mkResult, mkRes, EvmLifecycle.jfinalize]
  cases hc : classOf fr.1.result with
  | none => exact .err _ _
  | some cls =>
    simp only [ofOpt, bind, Except.bind, pure, Except.pure, Except.map]
    rw [← resolve_txResultOf]
    exact .ok (workWorld w) _ _ rfl

theorem post_rel (pre : Nat) (g : Nat × Nat) (refund : Nat) (w : LWork) (hw : w.error = none)
    {A : R (Interp.ChildResult × World)} {B : Option (Except LErr FRes × LWork)} (hl : LoopRel w A B) :
    RestRel (A >>= fun p => finish e sp g.2 refund e.tx.to.isNone p.1 p.2) (postL (H) pre e g refund B) := by
  cases hl with
  | fuel => exact .fuel
  | err er w1 _ => exact .err er w1
  | ok res x4 =>
    show RestRel (finish e sp g.2 refund e.tx.to.isNone res x4) _
    rw [finish_eq]
    unfold postL
    simp only [h_lastFrameReturn, h_refund, h_reimburseCaller, h_rewardBeneficiary, liftStageU, setWorld_world,
      bind, Except.bind]
    cases reimburse e (refundGas sp g.2 refund (lastFrameGas e res)) x4 with
    | error er => exact .err er _
    | ok x5 =>
      simp only [setWorld_setWorld, setWorld_world]
      cases reward e sp (refundGas sp g.2 refund (lastFrameGas e res)) x5 with
      | error er => exact .err er _
      | ok x6 =>
        have : RestRel
            ((output e.tx.to.isNone res (refundGas sp g.2 refund (lastFrameGas e res)) x6.js.logs x6.logs).map
              (fun r => (r, x6)))
            (some (EvmLifecycle.outputW (H) e (res, refundGas sp g.2 refund (lastFrameGas e res)) (setWorld w x6))) :=
          output_rel spec e (res, refundGas sp g.2 refund (lastFrameGas e res)) (setWorld w x6) hw
        revert this
        simp only [pure, Except.pure, Except.map]
        cases output e.tx.to.isNone res (refundGas sp g.2 refund (lastFrameGas e res)) x6.js.logs x6.logs with
        | error er => exact id
        | ok r => exact id

theorem rest_rel (fuel : Nat) (g : Nat × Nat) (pre : Nat) (w : LWork) (hw : w.error = none) :
    RestRel (restC fuel e sp g.1 g.2 (workWorld w)) (EvmLifecycle.innerRestW (H) fuel g pre e w) := by
  rw [innerRestW_eq]
  unfold restC
  rw [h_deductCaller]
  simp only [h_applyAuthList, h_firstFrame]
  unfold liftStageU
  simp only [bind, Except.bind]
  cases deductCaller e sp (workWorld w) with
  | error er => exact .err er w
  | ok x1 =>
    simp only [liftStage, setWorld_world]
    cases applyAuthList e sp x1 with
    | error er => exact .err er _
    | ok p =>
      obtain ⟨x2, refund⟩ := p
      simp only [Except.map, setWorld_world, setWorld_setWorld]
      cases firstFrame journalOps (e.toCfg sp) e (firstGasLimit e g.1) x2 with
      | error er => exact .err er _
      | ok p =>
        obtain ⟨f, x3⟩ := p
        have hloop : LoopRel (setWorld w x3) (runFirst journalOps (e.toCfg sp) fuel f x3)
            (loopL (H) pre e fuel (match f with
                    | .frame f => (Sum.inl (LS.run [f]) : LS ⊕ FRes)
                    | .result r => Sum.inr (r, noGas)) (setWorld w x3)) := by
          cases f with
          | frame f => exact (loop_sim spec e pre fuel (setWorld w x3) hw).1 [f]
          | result r => exact .ok r x3
        exact post_rel spec e pre g refund (setWorld w x3) hw hloop

theorem innerW_rel (fuel : Nat) (g : Nat × Nat) (w : LWork) (hw : w.error = none) :
    RestRel (execute journalOps fuel e sp g.1 g.2 (workWorld w))
      ((innerW (H) fuel g e w).map fun q => (q.1, q.2.1)) := by
  have hr := rest_rel spec e fuel g sp (setWorld w (loadAccounts e sp (workWorld w))) hw
  rw [execute_eq_restC]
  unfold innerW
  rw [loadAccountsW_eq, Option.map_map]
  rw [loadAccounts_eq] at hr ⊢
  exact (Option.map_id' (x := EvmLifecycle.innerRestW (H) fuel g sp e _)).symm ▸ hr

/-- what `Evm.transact` returns against what the abstract `Evm::transact` over `evmHandler` returns. Executed: the same
`ExecutionResult` (log ids resolved in the log store of the final world), the state handed out by `finalize` is the
journal state of the final world, the context keeps that world's database part. `fuel`: the loop does not return
within the fuel on either side. -/
inductive TransactRel (c : LCtx) :
    R (Outcome × World) → Option (Except LErr (ERes × EvmLifecycle.EvmState) × LCtx) → Prop
  | executed (x : World) (er : ERes) (c' : LCtx) : c'.db = WDb.of x →
      TransactRel c (.ok (.executed (resolve x.logs er), x)) (some (.ok (er, x.js.state), c'))
  | rejected (c' : LCtx) : TransactRel c (.ok (.rejected, ctxWorld c)) (some (.error .rejected, c'))
  | fuel : TransactRel c (.error .outOfFuel) none
  | err (er : Evm.Err) (c' : LCtx) : TransactRel c (.error er) (some (.error (.err er), c'))

/-- the abstract entry point `Evm::transact` of `Model.EvmLifecycle`, instantiated with the handler stages
of the whole-EVM model, computes `Revm.Model.Evm.transact` - for every context with an empty error slot, every
environment, configured `SpecId` and fuel (the same fuel on both sides). -/
theorem evm_transact_is_lifecycle_transact (fuel : Nat) (c : LCtx) (hc : c.error = none) :
    TransactRel c (Evm.transact fuel (ctxWorld c) c.env spec) (EvmLifecycle.transact (H) fuel c) := by
  obtain ⟨hp, he⟩ := pre_eq spec c.env c.work
  -- the entry point is `transactW` on `(env, work)`; what it does to the rest of the context is `transact_nf`'s
  rw [transact_nf]
  unfold Evm.transact transactWith transactW
  dsimp only
  rw [show ctxWorld c = workWorld c.work from rfl, hp]
  cases hq : EvmLifecycle.preverifyInnerW (H) c.env c.work with
  | mk r w1 =>
    rw [hq] at he
    cases r with
    | error er =>
      cases er with
      | rejected => exact .rejected _
      | err er => exact .err er _
    | ok g =>
      have hr := innerW_rel spec c.env fuel g w1 (he.trans hc)
      show TransactRel c
        (execute journalOps fuel c.env sp g.1 g.2 (workWorld w1) >>= fun x => pure (.executed x.1, x.2))
        (Option.map _ (Option.map _ (innerW (H) fuel g c.env w1)))
      revert hr
      generalize execute journalOps fuel c.env sp g.1 g.2 (workWorld w1) = A
      cases innerW (H) fuel g c.env w1 with
      | none => intro hr; cases hr; exact .fuel
      | some q =>
        obtain ⟨out, w2, b⟩ := q
        intro hr
        cases hr with
        | err er _ => exact .err er _
        | ok x er _ h1 => exact .executed x er _ h1

theorem evm_transact_executed (fuel : Nat) (c : LCtx) (hc : c.error = none) (r : TxResult) (x : World)
    (h : Evm.transact fuel (ctxWorld c) c.env spec = .ok (.executed r, x)) :
    ∃ er c', EvmLifecycle.transact (H) fuel c = some (.ok (er, x.js.state), c') ∧ resolve x.logs er = r ∧
      c'.db = WDb.of x := by
  have hrel := evm_transact_is_lifecycle_transact spec fuel c hc
  rw [h] at hrel
  generalize EvmLifecycle.transact (H) fuel c = B at hrel
  cases hrel with
  | executed x' er c' hdb => exact ⟨er, c', rfl, rfl, hdb⟩

/-- the other direction: what the abstract entry point returns is what `Evm.transact` returns -/
theorem evm_lifecycle_result_is_transact (fuel : Nat) (c : LCtx) (hc : c.error = none) :
    (∀ er st c', EvmLifecycle.transact (H) fuel c = some (.ok (er, st), c') →
      ∃ x, Evm.transact fuel (ctxWorld c) c.env spec = .ok (.executed (resolve x.logs er), x) ∧ st = x.js.state ∧
        c'.db = WDb.of x) ∧
    (∀ c', EvmLifecycle.transact (H) fuel c = some (.error .rejected, c') →
      Evm.transact fuel (ctxWorld c) c.env spec = .ok (.rejected, ctxWorld c)) ∧
    (∀ er c', EvmLifecycle.transact (H) fuel c = some (.error (.err er), c') →
      Evm.transact fuel (ctxWorld c) c.env spec = .error er) ∧
    (EvmLifecycle.transact (H) fuel c = none → Evm.transact fuel (ctxWorld c) c.env spec = .error .outOfFuel) := by
  have hrel := evm_transact_is_lifecycle_transact spec fuel c hc
  generalize EvmLifecycle.transact (H) fuel c = B at hrel
  generalize Evm.transact fuel (ctxWorld c) c.env spec = A at hrel
  refine ⟨?_, ?_, ?_, ?_⟩
  · intro er st c' hB
    subst hB
    cases hrel with
    | executed x er' c'' hdb => exact ⟨x, rfl, rfl, hdb⟩
  · intro c' hB
    subst hB
    cases hrel with
    | rejected c'' => rfl
  · intro er c' hB
    subst hB
    cases hrel with
    | err er' c'' => rfl
  · intro hB
    subst hB
    cases hrel with
    | fuel => rfl

theorem ctxWorld_build (db : WDb) (env : Env) (pre0 : Nat) :
    ctxWorld (EvmLifecycle.Ctx.build db env spec pre0 : LCtx) = mkWorld db (JState.new spec EvmLifecycle.noPreloaded) := rfl

end

end Revm.Proofs.EvmInstLife
