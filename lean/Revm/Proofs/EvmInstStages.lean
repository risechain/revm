import Revm.Model.EvmTx
import Revm.Proofs.EvmFrame
/-! `Model/EvmTx.lean` writes `preverify`, `prepare`, `finish` as single `do` blocks and names only `validateEnv`,
`loadAccounts`, `deductCaller`, `applyAuthList`. The other handler stages of `crates/revm/src/evm.rs` (`initial_tx_gas`,
`tx_against_state`, first frame, `last_frame_return`, `refund` + EIP-7623 floor, `reimburse_caller`, `reward_beneficiary`,
`output`) get a name here (namespace `EvmInst`), and `preverify_eq`, `execute_eq`, `finish_eq` say that the model's blocks
are the compositions of the stages, so that the abstract machines of C28-C31 can be instantiated stage by stage. -/
namespace Revm.Proofs.EvmInst
open Revm Revm.Model Revm.Model.Evm
open Revm.Model.GasCalc (enabled)

theorem bind_bind_congr {α β γ : Type} {x : R α} {f : α → R β} {g : β → R γ} {h : α → R γ}
    (H : ∀ a, h a = f a >>= g) : x >>= h = (x >>= f) >>= g := by
  cases x with
  | error e => rfl
  | ok a => exact H a

/-- `validation.initial_tx_gas`: `none` = rejected (`CallGasCostMoreThanGasLimit` / `GasFloorMoreThanGasLimit`) -/
def initialTxGas (e : Env) (spec : Nat) : R (Option (Nat × Nat)) := do
  let (initialGas, floorGas) ← ofOpt "initcode_cost"
    (GasCalc.calculateInitialTxGas spec e.tx.data e.tx.to.isNone (e.tx.accessList.map (·.keys.length))
      (match e.tx.authList with | some l => l.length | none => 0))
  if initialGas > e.tx.gasLimit then return none
  if enabled spec GasCalc.SpecId.PRAGUE ∧ floorGas > e.tx.gasLimit then return none
  return some (initialGas, floorGas)

/-- `validation.tx_against_state`: `load_code(caller)`, then `Env::validate_tx_against_state`; the world with the
caller loaded and whether the transaction is accepted -/
def txAgainstState (e : Env) (spec : Nat) (w : World) : R (World × Bool) := do
  let (w, _) ← w.loadCode e.tx.caller
  let acc ← w.acct e.tx.caller
  let h ← ofOpt "code not cached" acc.info.code
  let code ← ofOpt "code_by_hash" (w.codeOf h)
  pure (w, validateAgainstState e spec code acc.info)

theorem preverify_eq (w : World) (e : Env) (spec : Nat) :
    preverify w e spec = (do
      if !(← validateEnv e spec) then return none
      match ← initialTxGas e spec with
      | none => return none
      | some (ig, fg) =>
        let (w, ok) ← txAgainstState e spec w
        if !ok then return none
        return some (w, ig, fg)) := by
  unfold preverify initialTxGas txAgainstState
  refine bind_congr fun b => ?_
  cases b with
  | false => rfl
  | true =>
    refine bind_bind_congr fun p => ?_
    obtain ⟨ig, fg⟩ := p
    by_cases h1 : ig > e.tx.gasLimit
    · simp only [h1, if_true]; rfl
    · by_cases h2 : enabled spec GasCalc.SpecId.PRAGUE = true ∧ fg > e.tx.gasLimit
      · simp only [h1, h2, and_self, if_true, if_false]; rfl
      · simp only [h1, h2, if_false]
        refine bind_bind_congr fun p => ?_
        refine bind_bind_congr fun acc => ?_
        refine bind_bind_congr fun h => ?_
        refine bind_bind_congr fun code => ?_
        rfl

/-- `gas_limit - initial_gas` -/
def firstGasLimit (e : Env) (initialGas : Nat) : Nat := U64ops.wsub e.tx.gasLimit initialGas

def firstCallInputs (e : Env) (to gasLimit : Nat) : Interp.CallInputs :=
  { input := e.tx.data, retStart := 0, retEnd := 0, gasLimit := gasLimit, bytecodeAddress := to,
    targetAddress := to, caller := e.tx.caller, valueTransfer := true, value := e.tx.value, scheme := .call,
    isStatic := false, isEof := false }

def firstCreateInputs (e : Env) (gasLimit : Nat) : Interp.CreateInputs :=
  { caller := e.tx.caller, salt := none, value := e.tx.value, initCode := e.tx.data, gasLimit := gasLimit }

/-- `exec.call` / `exec.create` for the first frame -/
def firstFrame {κ : Type} (C : CpOps κ) (cfg : Cfg) (e : Env) (gasLimit : Nat) (w : World) :
    R (FrameOrResult κ × World) :=
  match e.tx.to with
  | some to => makeCallFrame C cfg w (firstCallInputs e to gasLimit) Memory.new
  | none => makeCreateFrame C cfg w (firstCreateInputs e gasLimit) Memory.new

theorem firstFrame_eq {κ : Type} (C : CpOps κ) (cfg : Cfg) (e : Env) (gasLimit : Nat) (w : World) :
    firstFrame C cfg e gasLimit w = makeFrame C cfg w (Revm.Proofs.EvmFrame.firstAction e gasLimit) Memory.new := by
  unfold firstFrame makeFrame Revm.Proofs.EvmFrame.firstAction
  cases e.tx.to <;> rfl

/-- `last_frame_return`: the meter of the transaction from the first frame's result -/
def lastFrameGas (e : Env) (res : Interp.ChildResult) : Gas.Gas :=
  let gas := Gas.newSpent e.tx.gasLimit
  if res.result.isOk then Gas.recordRefund (Gas.eraseCost gas res.gasRemaining) res.gasRefunded
  else if res.result.isRevert then Gas.eraseCost gas res.gasRemaining
  else gas

/-- `post_execution.refund` and the EIP-7623 floor of `transact_preverified_inner` -/
def refundGas (spec floorGas eip7702Refund : Nat) (gas : Gas.Gas) : Gas.Gas :=
  let gas := Gas.recordRefund gas (Gas.u64AsI64 eip7702Refund)
  let gas := Gas.setFinalRefund gas (enabled spec GasCalc.SpecId.LONDON)
  if Gas.spentSubRefunded gas < floorGas then Gas.setRefund (Gas.setSpent gas floorGas) 0 else gas

theorem finalGas_eq (e : Env) (spec floorGas eip7702Refund : Nat) (res : Interp.ChildResult) :
    finalGas e spec floorGas eip7702Refund res = refundGas spec floorGas eip7702Refund (lastFrameGas e res) := rfl

/-- `reimburse_caller` -/
def reimburse (e : Env) (gas : Gas.Gas) (w : World) : R World := do
  let price := e.effectiveGasPrice
  let (w, _) ← w.loadAccount e.tx.caller
  let cacc ← w.acct e.tx.caller
  let back := U256.wmul price (U64ops.wadd gas.remaining (Gas.i64AsU64 gas.refunded))
  let cacc' := { cacc with info := { cacc.info with balance := U256.saturatingAdd cacc.info.balance back } }
  pure { w with js := Journal.setAcct w.js e.tx.caller cacc' }

/-- `reward_beneficiary` -/
def reward (e : Env) (spec : Nat) (gas : Gas.Gas) (w : World) : R World := do
  let price := e.effectiveGasPrice
  let coinbasePrice := if enabled spec GasCalc.SpecId.LONDON then U256.saturatingSub price e.block.basefee else price
  let (w, _) ← w.loadAccount e.block.coinbase
  let bacc ← w.acct e.block.coinbase
  let reward := U256.wmul coinbasePrice (U64ops.wsub (Gas.spent gas) (Gas.i64AsU64 gas.refunded))
  let bacc' := { bacc with touched := true,
                           info := { bacc.info with balance := U256.saturatingAdd bacc.info.balance reward } }
  pure { w with js := Journal.setAcct w.js e.block.coinbase bacc' }

/-- the logs of the journal, resolved in the store of log records -/
def logsOf (ids : List Nat) (store : List LogRec) : List LogRec := ids.filterMap (fun i => store[i]?)

/-- `output`: the `ExecutionResult` -/
def output (isCreate : Bool) (res : Interp.ChildResult) (gas : Gas.Gas) (ids : List Nat) (store : List LogRec) :
    R TxResult := do
  let cls ← ofOpt "unexpected internal return flag" (classOf res.result)
  pure (txResultOf cls res isCreate gas (logsOf ids store))

theorem finish_eq (e : Env) (spec floorGas eip7702Refund : Nat) (isCreate : Bool) (res : Interp.ChildResult)
    (w : World) :
    finish e spec floorGas eip7702Refund isCreate res w = (do
      let gas := refundGas spec floorGas eip7702Refund (lastFrameGas e res)
      let w ← reimburse e gas w
      let w ← reward e spec gas w
      let r ← output isCreate res gas w.js.logs w.logs
      pure (r, w)) := by
  unfold finish reimburse reward output
  refine bind_bind_congr fun p => ?_
  refine bind_bind_congr fun cacc => ?_
  refine bind_bind_congr fun p => ?_
  refine bind_bind_congr fun bacc => ?_
  refine bind_bind_congr fun cls => ?_
  rfl

theorem execute_eq {κ : Type} (C : CpOps κ) (fuel : Nat) (e : Env) (spec initialGas floorGas : Nat) (w : World) :
    execute C fuel e spec initialGas floorGas w = (do
      let w ← deductCaller e spec (loadAccounts e spec w)
      let (w, refund) ← applyAuthList e spec w
      let (f, w) ← firstFrame C (e.toCfg spec) e (firstGasLimit e initialGas) w
      let (res, w) ← runFirst C (e.toCfg spec) fuel f w
      finish e spec floorGas refund e.tx.to.isNone res w) := by
  unfold execute
  simp only [Revm.Proofs.EvmFrame.prepare_eq, firstFrame_eq, firstGasLimit]
  refine (bind_bind_congr fun w1 => ?_).symm
  refine bind_bind_congr fun p => ?_
  refine bind_bind_congr fun q => ?_
  rfl

end Revm.Proofs.EvmInst
