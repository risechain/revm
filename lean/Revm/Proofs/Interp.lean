import Revm.Proofs.InterpMem
import Revm.Proofs.Gas
/-! C25, the handler monad. `Rel k st ne L s0 s` relates the state `s0` right after the opcode fetch to a later state `s`
of the same handler; its indices are all a handler has to know to be safe: `k` gas surely spent, `st` "`measure <
u64::MAX` is known", `ne` "a `pop_top!` reference is live", `L` bytes of memory surely there. A handler is walked once,
index by index, with the rules of namespace `TrS`, and its proof is the term that mirrors it.

What a new lemma assumes. A primitive: `Step s0 i m j P` (that is `Rel`; `Core` / `Res` only come up after the pc or
the code has moved: jumps, CALLF / RETF / JUMPF). A handler: `Tr s0 .zero m Paid` (`TrS s0 .zero m R` if it moves the
pc), with what it reads of `Start` / `StartE` as a hypothesis on `s0`. A whole instruction `execInstr i s0`: `Base s0`
if it asks the host (any code format), else `Start s0` (legacy) or `StartE` (EOF). A step of `run`: `Inv s`, the
legacy instruction boundary (`InvE` for EOF). Re-entry of a child result, where gas comes back and so no `Rel` holds:
`Base s`, walked with `Mid`. The rule proofs of C01 (`EvmStep*`) share none of this: there the closed form of a memory
primitive assumes `MemOK`, a primitive's `_run` lemma `Inv b`, a `step_…` theorem `WF` (rules of `Spec/EvmRules`) or
`WFM` (`Spec/EvmRules2*`). -/
namespace Revm.Proofs.Interp
open Revm Revm.Model Revm.Model.Interp
open Revm.Proofs.Memory (WF)

/-- `C_mem` of the running context, as the meter sees it -/
def mcost (s : IState) : Nat := Memory.currentExpansionCost s.mem
/-- the termination measure: gas left plus the memory cost already paid for -/
def measure (s : IState) : Nat := s.gas.remaining + mcost s

/-- the part of `Rel` that survives a jump or an EOF function call: all but code, jump table, EOF context and pc -/
structure Res (k : Nat) (st ne : Bool) (L : Nat) (s0 s : IState) : Prop where
  isEof : s.isEof = s0.isEof
  isEofInit : s.isEofInit = s0.isEofInit
  spec : s.spec = s0.spec
  env : s.env = s0.env
  input : s.input = s0.input
  ck : s.mem.lastCheckpoint = s0.mem.lastCheckpoint
  cks : s.mem.checkpoints = s0.mem.checkpoints
  stack : s.stack.length ≤ 1024
  memWF : WF s.mem
  memCk : s.mem.lastCheckpoint ≤ 2^62
  memL : L ≤ clen s.mem
  /-- memory of the frame never shrinks -/
  grow : clen s0.mem ≤ clen s.mem
  rdLen : s.returnData.length ≤ Memory.ISIZE_MAX
  inLen : s.input.length ≤ Memory.ISIZE_MAX
  m0 : measure s0 ≤ U64 - 1
  meas : measure s + k ≤ measure s0
  strict : st = true → measure s < U64 - 1
  safe : measure s < U64 - 1 ∨ s.stack = []
  nonempty : ne = true → s.stack ≠ []

/-- `Res` plus "code, jump table and EOF context are those of `s0`" (all but CALLF / RETF / JUMPF keep it) -/
structure Core (k : Nat) (st ne : Bool) (L : Nat) (s0 s : IState) : Prop extends Res k st ne L s0 s where
  code : s.code = s0.code
  origLen : s.origLen = s0.origLen
  jt : s.jumpTable = s0.jumpTable
  eofc : s.eof = s0.eof

/-- `Core` plus "the instruction pointer has not moved" -/
structure Rel (k : Nat) (st ne : Bool) (L : Nat) (s0 s : IState) : Prop extends Core k st ne L s0 s where
  pc : s.pc = s0.pc

/-- what holds of every state in which a handler stops the frame -/
abbrev Halt (s0 s : IState) : Prop := Res 0 false false 0 s0 s

theorem Res.weaken {k st ne L s0 s} (h : Res k st ne L s0 s) {k' : Nat} {st' ne' : Bool} {L' : Nat}
    (hk : k' ≤ k) (hst : st' = true → st = true) (hne : ne' = true → ne = true) (hL : L' ≤ L) :
    Res k' st' ne' L' s0 s :=
  { h with
    memL := Nat.le_trans hL h.memL
    meas := by have := h.meas; omega
    strict := fun e => h.strict (hst e)
    nonempty := fun e => h.nonempty (hne e) }

theorem Core.weaken {k st ne L s0 s} (h : Core k st ne L s0 s) {k' : Nat} {st' ne' : Bool} {L' : Nat}
    (hk : k' ≤ k) (hst : st' = true → st = true) (hne : ne' = true → ne = true) (hL : L' ≤ L) :
    Core k' st' ne' L' s0 s :=
  { toRes := h.toRes.weaken hk hst hne hL, code := h.code, origLen := h.origLen, jt := h.jt, eofc := h.eofc }

theorem Res.toHalt {k st ne L s0 s} (h : Res k st ne L s0 s) : Halt s0 s :=
  h.weaken (Nat.zero_le _) (fun e => by cases e) (fun e => by cases e) (Nat.zero_le _)

theorem Core.toHalt {k st ne L s0 s} (h : Core k st ne L s0 s) : Halt s0 s := h.toRes.toHalt

theorem Rel.weaken {k st ne L s0 s} (h : Rel k st ne L s0 s) {k' : Nat} {st' ne' : Bool} {L' : Nat}
    (hk : k' ≤ k) (hst : st' = true → st = true) (hne : ne' = true → ne = true) (hL : L' ≤ L) :
    Rel k' st' ne' L' s0 s :=
  { toCore := h.toCore.weaken hk hst hne hL, pc := h.pc }

theorem Res.remLt {k st ne L s0 s} (h : Res k st ne L s0 s) : s.gas.remaining < U64 := by
  have h1 := h.meas; have h2 := h.m0
  have hU := U64_val
  unfold measure at h1 h2; omega

theorem Res.strictOfK {k st ne L s0 s} (h : Res k st ne L s0 s) (hk : 1 ≤ k) : measure s < U64 - 1 := by
  have h1 := h.meas; have h2 := h.m0; omega

/-- what `Next` and `ActOk` keep of the `Rel` of a handler that has consumed gas -/
theorem Rel.core1 {k st ne L s0 s} (h : Rel k st ne L s0 s) (hk : 1 ≤ k) : Core 1 true false 0 s0 s :=
  (show Core k true ne L s0 s from { h.toCore with strict := fun _ => h.toRes.strictOfK hk }).weaken hk
    (fun e => e) (fun e => by cases e) (Nat.zero_le _)

/-- no fault; a continuing computation satisfies `Q`, a stopped frame `H` (an inductive predicate, so that
nothing ever tries to evaluate the computation when it looks at the statement) -/
inductive SatI {α} (H : IState → Prop) (Q : α → IState → Prop) : Exec α → Prop
  | ok {a : α} {s : IState} (h : Q a s) : SatI H Q (.ok a s)
  | halt {r : IResult} {o : List Nat} {s : IState} (h : H s) : SatI H Q (.halt r o s)

abbrev Exec.Sat {α} (e : Exec α) (H : IState → Prop) (Q : α → IState → Prop) : Prop := SatI H Q e

theorem sat_ok {α} {a : α} {s : IState} {H : IState → Prop} {Q : α → IState → Prop} (h : Q a s) :
    Exec.Sat (.ok a s) H Q := .ok h
theorem sat_halt {α} {r : IResult} {o : List Nat} {s : IState} {H : IState → Prop} {Q : α → IState → Prop}
    (h : H s) : Exec.Sat (Exec.halt r o s : Exec α) H Q := .halt h

theorem sat_ok_inv {α} {a : α} {s : IState} {H : IState → Prop} {Q : α → IState → Prop}
    (h : Exec.Sat (.ok a s) H Q) : Q a s := by cases h with | ok h => exact h
theorem sat_halt_inv {α} {r : IResult} {o : List Nat} {s : IState} {H : IState → Prop} {Q : α → IState → Prop}
    (h : Exec.Sat (Exec.halt r o s : Exec α) H Q) : H s := by cases h with | halt h => exact h
theorem sat_fault_inv {α} {f : Fault} {H : IState → Prop} {Q : α → IState → Prop}
    (h : Exec.Sat (Exec.fault f : Exec α) H Q) : False := by cases h

theorem sat_bind {α β} {m : M α} {f : α → M β} {s : IState} {H : IState → Prop}
    {Q : α → IState → Prop} {Q' : β → IState → Prop}
    (h1 : Exec.Sat (m s) H Q) (h2 : ∀ a s', Q a s' → Exec.Sat (f a s') H Q') :
    Exec.Sat ((m >>= f) s) H Q' := by
  show Exec.Sat (M.bind m f s) H Q'
  unfold M.bind
  cases hm : m s with
  | ok a s' => rw [hm] at h1; exact h2 a s' (sat_ok_inv h1)
  | halt r o s' => rw [hm] at h1; exact sat_halt (sat_halt_inv h1)
  | fault f => rw [hm] at h1; exact (sat_fault_inv h1).elim

theorem sat_conv {α} {e : Exec α} {H H' : IState → Prop} {Q Q' : α → IState → Prop}
    (h : Exec.Sat e H Q) (hH : ∀ x, H x → H' x) (hQ : ∀ a x, Q a x → Q' a x) : Exec.Sat e H' Q' := by
  cases h with
  | ok h => exact .ok (hQ _ _ h)
  | halt h => exact .halt (hH _ h)

theorem sat_mono {α} {e : Exec α} {H : IState → Prop} {Q Q' : α → IState → Prop}
    (h : Exec.Sat e H Q) (hq : ∀ a s, Q a s → Q' a s) : Exec.Sat e H Q' :=
  sat_conv h (fun _ h => h) hq

theorem sat_pure {α} {a : α} {s : IState} {H : IState → Prop} {Q : α → IState → Prop} (h : Q a s) :
    Exec.Sat ((pure a : M α) s) H Q := .ok h

structure Idx where
  k : Nat
  st : Bool
  ne : Bool
  L : Nat

/-- the index a handler starts from -/
abbrev Idx.zero : Idx := ⟨0, false, false, 0⟩

abbrev RelI (s0 : IState) (i : Idx) (s : IState) : Prop := Rel i.k i.st i.ne i.L s0 s

/-- started in a state of index `i`, `m` does not fault, stops the frame only in `Halt s0`, and continues with a value
and a state in `R` -/
def TrS {α} (s0 : IState) (i : Idx) (m : M α) (R : α → IState → Prop) : Prop :=
  ∀ s, RelI s0 i s → Exec.Sat (m s) (Halt s0) R

/-- … and continues in a state of some index `j` with `Q a j`: the post-condition of what leaves the instruction
pointer, the code and the EOF context alone -/
abbrev Tr {α} (s0 : IState) (i : Idx) (m : M α) (Q : α → Idx → Prop) : Prop :=
  TrS s0 i m (fun a s' => ∃ j, Q a j ∧ RelI s0 j s')

/-- `m` takes index `i` to index `j`, and the value it returns satisfies `P`: every primitive but `gas_or_fail!` -/
abbrev Step {α} (s0 : IState) (i : Idx) (m : M α) (j : Idx) (P : α → Prop) : Prop :=
  Tr s0 i m (fun a j' => j' = j ∧ P a)

abbrev Paid : Unit → Idx → Prop := fun _ j => 1 ≤ j.k

theorem paid {k c : Nat} (h : 1 ≤ c) : 1 ≤ k + c := Nat.le_trans h (Nat.le_add_left c k)

namespace TrS
variable {s0 : IState} {α β : Type} {i j : Idx}

theorem bind {m : M α} {f : α → M β} {Q : α → Idx → Prop} {R : β → IState → Prop} (h1 : Tr s0 i m Q)
    (h2 : ∀ a j, Q a j → TrS s0 j (f a) R) : TrS s0 i (m >>= f) R :=
  fun s h => sat_bind (h1 s h) fun a s' ⟨j, hq, hr⟩ => h2 a j hq s' hr

theorem seq {m : M α} {f : α → M β} {P : α → Prop} {R : β → IState → Prop} (h1 : Step s0 i m j P)
    (h2 : ∀ a, P a → TrS s0 j (f a) R) : TrS s0 i (m >>= f) R :=
  h1.bind fun a _ ⟨e, hp⟩ => e ▸ h2 a hp

/-- the end of a walk that leaves `Rel`: the last step's index, then the state -/
theorem lastS {m : M α} {P : α → Prop} {R : α → IState → Prop} (h1 : Step s0 i m j P)
    (h2 : ∀ a s', P a → RelI s0 j s' → R a s') : TrS s0 i m R :=
  fun s hs => sat_mono (h1 s hs) fun a s' ⟨_, ⟨e, hp⟩, hr⟩ => h2 a s' hp (e ▸ hr)

theorem pureS {a : α} {R : α → IState → Prop} (h : ∀ s, RelI s0 i s → R a s) : TrS s0 i (Pure.pure a) R :=
  fun s hs => sat_pure (h s hs)

theorem halt (r : IResult) {R : α → IState → Prop} : TrS s0 i (haltWith r) R :=
  fun _ hs => sat_halt hs.toCore.toHalt

theorem haltOut (r : IResult) (out : List Nat) {R : α → IState → Prop} : TrS s0 i (Interp.haltOut r out) R :=
  fun _ hs => sat_halt hs.toCore.toHalt

/-- a step that leaves `Rel` (the instruction pointer, the EOF context): the end of a walk -/
theorem modify (f : IState → IState) {R : Unit → IState → Prop} (h : ∀ s, RelI s0 i s → R () (f s)) :
    TrS s0 i (modifyS f) R :=
  fun s hs => sat_ok (h s hs)

theorem mono {m : M α} {R R' : α → IState → Prop} (h : TrS s0 i m R) (hr : ∀ a s', R a s' → R' a s') :
    TrS s0 i m R' :=
  fun s hs => sat_mono (h s hs) hr

/-- the end of a walk that stays in `Rel` -/
theorem last {m : M α} {P : α → Prop} {Q : α → Idx → Prop} (h1 : Step s0 i m j P) (h2 : ∀ a, P a → Q a j) :
    Tr s0 i m Q :=
  lastS h1 fun a _ hp hr => ⟨j, h2 a hp, hr⟩

theorem pure {a : α} {Q : α → Idx → Prop} (h : Q a i) : Tr s0 i (Pure.pure a) Q :=
  pureS fun _ hs => ⟨i, h, hs⟩

/-- the memory an index speaks of is a Rust buffer -/
theorem boundL {k : Nat} {st ne : Bool} {L : Nat} {m : M α} {R : α → IState → Prop}
    (h : L ≤ Memory.ISIZE_MAX → TrS s0 ⟨k, st, ne, L⟩ m R) : TrS s0 ⟨k, st, ne, L⟩ m R :=
  fun s hs => h (Nat.le_trans hs.memL (clen_lt hs.memWF)) s hs

theorem ofRead {m : M α} {P : α → Prop}
    (h : ∀ s, RelI s0 i s → Exec.Sat (m s) (Halt s0) (fun a s' => s = s' ∧ P a)) : Step s0 i m i P :=
  fun s hs => sat_mono (h s hs) fun _ _ ⟨e, hp⟩ => ⟨i, ⟨rfl, hp⟩, e ▸ hs⟩

theorem ofRel {m : M α} {P : α → Prop}
    (h : ∀ s, RelI s0 i s → Exec.Sat (m s) (Halt s0) (fun a s' => RelI s0 j s' ∧ P a)) : Step s0 i m j P :=
  fun s hs => sat_mono (h s hs) fun _ _ ⟨hr, hp⟩ => ⟨j, ⟨rfl, hp⟩, hr⟩

end TrS

theorem Step.sat {α} {s0 s : IState} {i j : Idx} {m : M α} {P : α → Prop} (h : Step s0 i m j P) (hs : RelI s0 i s) :
    Exec.Sat (m s) (Halt s0) (fun a s' => RelI s0 j s' ∧ P a) :=
  sat_mono (h s hs) fun _ _ ⟨_, ⟨e, hp⟩, hr⟩ => by subst e; exact ⟨hr, hp⟩

/-! ## the primitives that touch neither stack nor memory -/

namespace Step
variable {s0 : IState} {k : Nat} {st ne : Bool} {L : Nat} {i : Idx}

theorem check (fork : Nat) : Step s0 i (Interp.check fork) i fun _ => True :=
  .ofRead fun s hs => by
    unfold Interp.check; split
    · exact sat_ok ⟨rfl, trivial⟩
    · exact sat_halt hs.toCore.toHalt

theorem requireNonStatic : Step s0 i Interp.requireNonStatic i fun _ => True :=
  .ofRead fun s hs => by
    unfold Interp.requireNonStatic; split
    · exact sat_halt hs.toCore.toHalt
    · exact sat_ok ⟨rfl, trivial⟩

theorem requireSome (r : HostResp) : Step s0 i (Interp.requireSome r) i fun _ => r.ok = true :=
  .ofRead fun s hs => by
    unfold Interp.requireSome; split
    · rename_i hok; exact sat_ok ⟨rfl, hok⟩
    · exact sat_halt hs.toCore.toHalt

/-- the state a handler reads is one `Rel` holds of -/
theorem getS : Step s0 i Interp.getS i (RelI s0 i) :=
  .ofRead fun _ hs => sat_ok ⟨rfl, hs⟩

theorem asUsize (v : Nat) (r : IResult) : Step s0 i (asUsizeOrFail v r) i fun _ => True :=
  .ofRead fun s hs => by
    unfold asUsizeOrFail
    cases Jump.asUsizeOrFail v with
    | none => exact sat_halt hs.toCore.toHalt
    | some x => exact sat_ok ⟨rfl, trivial⟩

theorem refund (r : Int) : Step s0 i (Interp.refund r) i fun _ => True :=
  .ofRel fun s hs => sat_ok ⟨show RelI s0 i { s with gas := Gas.recordRefund s.gas r } from { hs with }, trivial⟩

/-- `gas!(c)`: `c` more gas is consumed; if `1 ≤ c`, `measure < u64::MAX` is known from here on -/
theorem gasAny (c : Nat) :
    Step s0 ⟨k, st, ne, L⟩ (gasCharge c) ⟨k + c, st || decide (1 ≤ c), ne, L⟩ fun _ => True :=
  .ofRel fun s h => by
    replace h : Rel k st ne L s0 s := h
    have hr := h.toRes.remLt
    unfold gasCharge
    simp only []
    by_cases hc : c ≤ s.gas.remaining
    · rw [Proofs.Gas.recordCost_ok _ _ hr hc]
      simp only [if_true]
      refine sat_ok ⟨?_, trivial⟩
      show Rel (k + c) (st || decide (1 ≤ c)) ne L s0
        { s with gas := { s.gas with remaining := s.gas.remaining - c } }
      have hm := h.meas
      have hm0 := h.m0
      have hmeas : measure { s with gas := { s.gas with remaining := s.gas.remaining - c } }
          = s.gas.remaining - c + mcost s := rfl
      have hms : measure s = s.gas.remaining + mcost s := rfl
      exact
        { h with
          meas := by rw [hmeas]; omega
          strict := by
            intro e
            rw [hmeas]
            cases hst : st with
            | true => have := h.strict hst; omega
            | false =>
              rw [hst] at e
              simp only [Bool.false_or, decide_eq_true_eq] at e
              omega
          safe := by
            rcases h.safe with h1 | h1
            · left; rw [hmeas]; omega
            · right; exact h1 }
    · rw [Proofs.Gas.recordCost_fail _ _ (by omega)]
      simp only [Bool.false_eq_true, if_false]
      exact sat_halt h.toCore.toHalt

theorem gas (c : Nat) (hc : 1 ≤ c) : Step s0 ⟨k, st, ne, L⟩ (gasCharge c) ⟨k + c, true, ne, L⟩ fun _ => True := by
  have h := gasAny (s0 := s0) (k := k) (st := st) (ne := ne) (L := L) c
  rwa [show (st || decide (1 ≤ c)) = true by simp [hc]] at h

/-- `gas!(c)` for a `c` that may be 0 -/
theorem gas0 (c : Nat) : Step s0 ⟨k, st, ne, L⟩ (gasCharge c) ⟨k + c, st, ne, L⟩ fun _ => True :=
  .ofRel fun _ hs => sat_mono ((gasAny c).sat hs) fun _ _ ⟨h, _⟩ =>
    ⟨h.weaken (Nat.le_refl _) (fun e => Bool.or_eq_true_iff.mpr (.inl e)) (fun e => e) (Nat.le_refl _), trivial⟩

end Step

/-- `gas_or_fail!(c)` in front of the rest of a handler, for a cost known to be at least `lb`: the one primitive
whose new index is not known beforehand -/
theorem TrS.gasOrFail {s0 : IState} {β} {k : Nat} {st ne : Bool} {L : Nat} {c : Option Nat} {f : Unit → M β}
    {R : β → IState → Prop} (lb : Nat) (hlb : 1 ≤ lb) (hc : ∀ c', c = some c' → lb ≤ c')
    (h : ∀ c', lb ≤ c' → TrS s0 ⟨k + c', true, ne, L⟩ (f ()) R) :
    TrS s0 ⟨k, st, ne, L⟩ (Interp.gasOrFail c >>= f) R := by
  cases c with
  | none => exact .seq (j := ⟨k, st, ne, L⟩) (P := fun _ => False) (.halt _) fun _ hf => hf.elim
  | some c' => exact .seq (.gas c' (Nat.le_trans hlb (hc c' rfl))) fun _ _ => h c' (hc c' rfl)

/-- … behind a charge that has paid already: no lower bound on the cost is needed -/
theorem TrS.gasOrFailPaid {s0 : IState} {β} {k : Nat} {ne : Bool} {L : Nat} {c : Option Nat} {f : Unit → M β}
    {R : β → IState → Prop} (h : ∀ c', TrS s0 ⟨k + c', true, ne, L⟩ (f ()) R) :
    TrS s0 ⟨k, true, ne, L⟩ (Interp.gasOrFail c >>= f) R := by
  cases c with
  | none => exact .seq (j := ⟨k, true, ne, L⟩) (P := fun _ => False) (.halt _) fun _ hf => hf.elim
  | some c' => exact .seq (.gasAny c') fun _ _ => h c'

theorem asUsizeSat_lt (v : Nat) : asUsizeSat v < U64 := by
  unfold asUsizeSat U256.asU64Sat
  have hU := U64_val
  split <;> omega

end Revm.Proofs.Interp
