import Revm.Proofs.Precompile
/-! C23, modexp: `run_inner` as its header checks in front of `modexpBody` (`modexpRun_eq`), from which the
length-overflow errors and the size of a returned output are read; the code refines EIP-198 / EIP-2565 on the
region without `u64` effects; the witnesses outside the region. -/
namespace Revm.Proofs.Precompile
open Revm Revm.Model.Precompile Revm.Model.PrecompileHash
open Revm.Spec.Precompile (multComplexity198 eip198Gas eip2565Gas ceilDiv slice num ModexpPost modexpFields modexpValue)

def ValidBytes (bs : Bytes) : Prop := ∀ b ∈ bs, b < 256

theorem rightPad_valid (n : Nat) (d : Bytes) (h : ValidBytes d) : ValidBytes (rightPad n d) := by
  intro b hb
  unfold rightPad at hb
  rcases List.mem_append.mp hb with h1 | h1
  · exact h b (List.mem_of_mem_take h1)
  · have := (List.mem_replicate.mp h1).2; omega

theorem drop_valid (n : Nat) (d : Bytes) (h : ValidBytes d) : ValidBytes (d.drop n) :=
  fun b hb => h b (List.mem_of_mem_drop hb)
theorem take_valid (n : Nat) (d : Bytes) (h : ValidBytes d) : ValidBytes (d.take n) :=
  fun b hb => h b (List.mem_of_mem_take hb)

theorem num_eq (input : Bytes) (off n : Nat) : num input off n = beNat (rightPad n (input.drop off)) := by
  unfold num; rw [slice_eq]

theorem num_lt (input : Bytes) (off n : Nat) (hv : ValidBytes input) : num input off n < 256 ^ n := by
  rw [num_eq]
  have := beNat_lt _ (rightPad_valid n _ (drop_valid off _ hv))
  rwa [rightPad_length] at this

theorem head_eq (input : Bytes) (bl el : Nat) :
    beNat (leftPad 32 ((rightPadOff 32 (input.drop 96) bl).take (min el 32))) = num input (96 + bl) (min el 32) := by
  unfold rightPadOff
  rw [take_rightPad _ _ _ (Nat.min_le_right _ _), beNat_leftPad _ _ (by rw [rightPad_length]; exact Nat.min_le_right _ _)]
  rw [num_eq, List.drop_drop]


theorem eip2565Gas_ge (bl el ml hp : Nat) : 200 ≤ eip2565Gas bl el ml hp := by
  unfold eip2565Gas; omega

theorem beNat_rightPadOff (input : Bytes) (off n : Nat) : beNat (rightPadOff n input off) = num input off n := by
  unfold rightPadOff; rw [num_eq]

/-- `run_inner` behind the header checks, for the three parsed lengths: price, allocation check of
`right_pad_vec`, library call -/
def modexpBody (berlin : Bool) (input : Bytes) (gas bl el ml : Nat) : Res :=
  let hp := beNat (leftPad 32 ((rightPadOff 32 (input.drop 96) bl).take (min el 32)))
  let gasCost := if berlin then berlinGasCalc bl el ml hp else byzantiumGasCalc bl el ml hp
  if gasCost > gas then .err .OutOfGas else
  let inputLen := U64ops.saturatingAdd (U64ops.saturatingAdd bl el) ml
  if (input.drop 96).length < inputLen ∧ inputLen > isizeMax then .panic else
  let padded := rightPad inputLen (input.drop 96)
  .ok gasCost (leftPad ml (modexpLib (padded.take bl) ((padded.drop bl).take el) ((padded.drop bl).drop el)))

theorem modexpRun_eq (berlin : Bool) (input : Bytes) (gas : Nat) :
    modexpRun berlin input gas =
      if (if berlin then 200 else 0) > gas then .err .OutOfGas else
      if num input 0 32 ≥ U64 then .err .ModexpBaseOverflow else
      if num input 64 32 ≥ U64 then .err .ModexpModOverflow else
      if num input 0 32 = 0 ∧ num input 64 32 = 0 then .ok (if berlin then 200 else 0) [] else
      if num input 32 32 ≥ U64 then .err .ModexpModOverflow else
      modexpBody berlin input gas (num input 0 32) (num input 32 32) (num input 64 32) := by
  simp only [← beNat_rightPadOff]; rfl

theorem modexpBody_ne {berlin : Bool} {input : Bytes} {gas bl el ml : Nat} {e : Err} (he : e ≠ .OutOfGas) :
    modexpBody berlin input gas bl el ml ≠ .err e := by
  unfold modexpBody
  dsimp only
  generalize (if berlin = true then _ else _) = c
  split
  · exact fun h => he (Res.err.inj h).symm
  · split <;> nofun

/-- the output has `mod_len` bytes, and `mod_len` is at most the length that `right_pad_vec` pads the data to -/
theorem modexpRun_ok_length (berlin : Bool) (input : Bytes) (gas : Nat) :
    Ok (fun _ out => out.length ≤ isizeMax ∨ out.length ≤ input.length) (modexpRun berlin input gas) := by
  rw [modexpRun_eq]
  refine .ite (fun _ => .err) fun _ => .ite (fun _ => .err) fun _ => .ite (fun _ => .err) fun _ =>
    .ite (fun _ => .ok (.inl (Nat.zero_le _))) fun _ => .ite (fun _ => .err) fun _ => ?_
  unfold modexpBody
  refine .ite (fun _ => .err) fun _ => .ite (fun _ => .panic) fun hp => .ok ?_
  rw [leftPad_length]
  have h1 : ∀ a, num input 64 32 ≤ U64ops.saturatingAdd a (num input 64 32) := fun a => by
    unfold U64ops.saturatingAdd; split <;> omega
  have h1 := h1 (U64ops.saturatingAdd (num input 0 32) (num input 32 32))
  have hd : (input.drop 96).length ≤ input.length := by rw [List.length_drop]; omega
  generalize U64ops.saturatingAdd (U64ops.saturatingAdd _ _) _ = n at hp h1
  omega

/-- `run_inner` once the lengths fit, for a price `c` with minimum `mg`: below the gas limit `2^64 - 1` the
clamp of the price is invisible, and the early exit for `base_len = mod_len = 0` agrees with the general
rule because the price is then the minimum. -/
theorem modexpPost_core {z : Prop} [Decidable z] (mg c gas : Nat) (out : Bytes) (P : Bytes → Prop)
    (hgas : gas < U64 - 1) (hmg : mg ≤ c) (hz : z → c = mg ∧ P []) (hP : ¬ z → P out) :
    if c > gas then
      (if mg > gas then Res.err .OutOfGas else if z then .ok mg []
        else if min c (U64 - 1) > gas then .err .OutOfGas else .ok (min c (U64 - 1)) out) = .err .OutOfGas
    else ∃ o, (if mg > gas then Res.err .OutOfGas else if z then .ok mg []
        else if min c (U64 - 1) > gas then .err .OutOfGas else .ok (min c (U64 - 1)) out) = .ok c o ∧ P o := by
  by_cases hc : c > gas
  · have hmin : min c (U64 - 1) > gas := by omega
    rw [if_pos hc, if_pos hmin]
    by_cases hm : mg > gas
    · rw [if_pos hm]
    · have hnz : ¬ z := fun h => hm ((hz h).1 ▸ hc)
      rw [if_neg hm, if_neg hnz]
  · have hmin : min c (U64 - 1) = c := by omega
    rw [if_neg hc, if_neg (by omega : ¬ mg > gas), hmin, if_neg hc]
    by_cases h : z
    · rw [if_pos h, (hz h).1]; exact ⟨[], rfl, (hz h).2⟩
    · rw [if_neg h]; exact ⟨out, rfl, hP h⟩

theorem modexpRun_post (berlin : Bool) (input : Bytes) (gas : Nat) (hv : ValidBytes input)
    (hns : NoIterSat (num input 32 32)) (hlen : num input 0 32 + num input 32 32 + num input 64 32 ≤ isizeMax)
    (hgas : gas < U64 - 1) : ModexpPost berlin input gas (modexpRun berlin input gas) := by
  have hU := U64_val
  unfold isizeMax at hlen
  rw [modexpRun_eq]
  unfold ModexpPost modexpFields modexpBody
  simp only [head_eq, show ¬ num input 0 32 ≥ U64 by omega, show ¬ num input 32 32 ≥ U64 by omega,
    show ¬ num input 64 32 ≥ U64 by omega, if_false]
  have hhp : num input (96 + num input 0 32) (min (num input 32 32) 32) < W := by
    have h1 := num_lt input (96 + num input 0 32) (min (num input 32 32) 32) hv
    have h2 : (256 : Nat) ^ (min (num input 32 32) 32) ≤ 256 ^ 32 := Nat.pow_le_pow_right (by omega) (Nat.min_le_right _ _)
    rw [pow256_32] at h2; omega
  generalize num input (96 + num input 0 32) (min (num input 32 32) 32) = hp at *
  have hm := num_lt input (96 + num input 0 32 + num input 32 32) (num input 64 32) hv
  generalize num input 0 32 = bl at *
  generalize num input 32 32 = el at *
  generalize num input 64 32 = ml at *
  have hlib := modexpLib_padded (rightPad bl (List.drop 96 input)) (rightPad el (List.drop (96 + bl) input))
    (rightPad ml (List.drop (96 + bl + el) input)) ml (by rw [← num_eq]; exact hm)
  rw [← num_eq, ← num_eq, ← num_eq] at hlib
  have hbase : List.take bl (rightPad (bl + el + ml) (List.drop 96 input)) = rightPad bl (List.drop 96 input) :=
    take_rightPad _ _ _ (by omega)
  have hexp : List.take el (List.drop bl (rightPad (bl + el + ml) (List.drop 96 input))) =
      rightPad el (List.drop (96 + bl) input) := by
    rw [Nat.add_assoc, drop_rightPad, take_rightPad _ _ _ (by omega), List.drop_drop]
  have hmod : List.drop el (List.drop bl (rightPad (bl + el + ml) (List.drop 96 input))) =
      rightPad ml (List.drop (96 + bl + el) input) := by
    rw [Nat.add_assoc, drop_rightPad, drop_rightPad, List.drop_drop, List.drop_drop, Nat.add_assoc]
  have hsat : U64ops.saturatingAdd (U64ops.saturatingAdd bl el) ml = bl + el + ml := by
    unfold U64ops.saturatingAdd
    rw [if_pos (by omega : bl + el < U64), if_pos (by omega : bl + el + ml < U64)]
  have hisz : ¬ (bl + el + ml > isizeMax) := by unfold isizeMax; omega
  simp only [hsat, hisz, and_false, if_false, hbase, hexp, hmod]
  have hz0 : bl = 0 ∧ ml = 0 → ([] : Bytes).length = ml ∧
      beNat [] = modexpValue (num input 96 bl) (num input (96 + bl) el) (num input (96 + bl + el) ml) := by
    intro ⟨h1, h2⟩; subst h1; subst h2
    exact ⟨rfl, by simp [num, slice, beNat, modexpValue]⟩
  cases berlin
  · simp only [Bool.false_eq_true, if_false]
    rw [byzantiumGasCalc_eq bl el ml hp (by omega) (by omega) hhp hns]
    refine modexpPost_core 0 (eip198Gas bl el ml hp) gas _ _ hgas (Nat.zero_le _) (fun hz => ⟨?_, hz0 hz⟩) (fun _ => hlib)
    obtain ⟨h1, h2⟩ := hz; subst h1; subst h2; simp [eip198Gas, multComplexity198]
  · simp only [if_true]
    rw [berlinGasCalc_eq bl el ml hp (by omega) (by omega) hhp hns]
    refine modexpPost_core 200 (eip2565Gas bl el ml hp) gas _ _ hgas (eip2565Gas_ge _ _ _ _) (fun hz => ⟨?_, hz0 hz⟩) (fun _ => hlib)
    obtain ⟨h1, h2⟩ := hz; subst h1; subst h2; simp [eip2565Gas, ceilDiv]
theorem scaled_ge (q it k : Nat) (hk : 0 < k) (hq : U64 * k ≤ q) : U64 ≤ q * max it 1 / k :=
  (Nat.le_div_iff_mul_le hk).mpr (Nat.le_trans hq (Nat.le_mul_of_pos_right q (by omega)))

theorem eip198Gas_huge (bl el ml hp : Nat) (h : bl ≥ U64 ∨ ml ≥ U64) : eip198Gas bl el ml hp ≥ U64 := by
  unfold eip198Gas multComplexity198
  have hx : max ml bl ≥ U64 := by omega
  generalize max ml bl = x at *
  refine scaled_ge _ _ 20 (by decide) ?_
  rw [U64_val] at *
  rw [if_neg (by omega), if_neg (by omega), Nat.pow_two]
  have hs : 18446744073709551616 * 18446744073709551616 ≤ x * x := Nat.mul_le_mul hx hx
  generalize x * x = s at *
  omega

theorem eip2565Gas_huge (bl el ml hp : Nat) (h : bl ≥ U64 ∨ ml ≥ U64) : eip2565Gas bl el ml hp ≥ U64 := by
  unfold eip2565Gas ceilDiv
  have hx : max bl ml ≥ U64 := by omega
  generalize max bl ml = x at *
  refine Nat.le_trans (scaled_ge _ _ 3 (by decide) ?_) (Nat.le_max_right _ _)
  rw [U64_val] at *
  have hw : 2305843009213693952 ≤ (x + 8 - 1) / 8 := by omega
  generalize (x + 8 - 1) / 8 = w at *
  have hs : 2305843009213693952 * 2305843009213693952 ≤ w * w := Nat.mul_le_mul hw hw
  rw [Nat.pow_two]
  generalize w * w = s at *
  omega

/-! Outside the region the code's price differs from the EIP's (findings): the witness. -/

theorem modexpPost_not_panic (berlin : Bool) (input : Bytes) (gas : Nat) : ¬ ModexpPost berlin input gas .panic := by
  unfold ModexpPost
  intro h
  simp only [] at h
  split at h
  · cases h
  · obtain ⟨_, h, _⟩ := h; cases h

/-- header `base_len = 0, exp_len = 2^63, mod_len = 1` and nothing else -/
def witnessInput : Bytes := toBE 32 0 ++ toBE 32 (2 ^ 63) ++ toBE 32 1

theorem witness_hdr :
    num witnessInput 0 32 = 0 ∧ num witnessInput 32 32 = 2 ^ 63 ∧ num witnessInput 64 32 = 1 := by
  -- `num_eq`: the code's read is one `drop` / `take`; the Spec's `slice` indexes the list anew for every byte
  rw [num_eq, num_eq, num_eq]; decide +kernel

theorem witness_cost (berlin : Bool) : (modexpFields berlin witnessInput).cost =
    if berlin then 24595658764946068736 else 3689348814741910310 := by
  have hh : num witnessInput (96 + 0) (min (2 ^ 63) 32) = 0 := by rw [num_eq]; decide +kernel
  unfold modexpFields
  simp only [witness_hdr, hh]
  cases berlin <;> decide +kernel

theorem witnessInput_valid : ValidBytes witnessInput := forall_mem_of_all _ (by decide +kernel)
end Revm.Proofs.Precompile
