import Revm.Proofs.EvmRR
import Revm.Proofs.EvmLoop
/-! The generic simulation of the frame loop: the whole-transaction machine `Evm.transactWith` is parametric in
the subroutine discipline `CpOps κ`; two disciplines related by a relation on configurations that host answers, frame
creation and frame return preserve give related runs — for every program (the interpreter is the same function on both
sides) and every fuel. The stepping is proved once, for results related by `RRw E` (`FrameSimE`, `contOf_rr`): completed
runs are related and model-level errors outside `E` are of the same kind. `runLoop_sim`, for obligations that speak of
completed steps only (`FrameSim`), is the case where `E` is everything. -/
namespace Revm.Proofs.EvmSim
open Revm Revm.Model Revm.Model.Evm Revm.Proofs.EvmRR Revm.Proofs.Evm

/-- two frames of the two machines: same kind, same interpreter state; their checkpoints are related only through the `R`
of `FrameSimE`, which speaks of the checkpoints of the whole stack (`cps`) -/
def FrameRel {κ1 κ2 : Type} (f1 : Frame κ1) (f2 : Frame κ2) : Prop := f1.kind = f2.kind ∧ f1.interp = f2.interp

def StackRel {κ1 κ2 : Type} : List (Frame κ1) → List (Frame κ2) → Prop
  | [], [] => True
  | f1 :: r1, f2 :: r2 => FrameRel f1 f2 ∧ StackRel r1 r2
  | _, _ => False

def cps {κ : Type} (st : List (Frame κ)) : List κ := st.map (·.checkpoint)

/-- what `make_*_frame` returns on the two machines: a frame opens a checkpoint on both sides, an early result on neither -/
def ForRel {κ1 κ2 : Type} (R : List κ1 → World → List κ2 → World → Prop) (ks1 : List κ1) (ks2 : List κ2) :
    FrameOrResult κ1 × World → FrameOrResult κ2 × World → Prop
  | (.frame f1, w1), (.frame f2, w2) => FrameRel f1 f2 ∧ R (f1.checkpoint :: ks1) w1 (f2.checkpoint :: ks2) w2
  | (.result r1, w1), (.result r2, w2) => r1 = r2 ∧ R ks1 w1 ks2 w2
  | _, _ => False

/-- `FrameSimE` with obligations on completed steps only (`FrameSim.toE`: the case `E := fun _ => True`) -/
structure FrameSim {κ1 κ2 : Type} (C1 : CpOps κ1) (C2 : CpOps κ2) (cfg : Cfg) where
  R : List κ1 → World → List κ2 → World → Prop
  host : ∀ ks1 w1 ks2 w2 op resp w1', R ks1 w1 ks2 w2 → answer cfg.he w1 op = .ok (resp, w1') →
    ∃ w2', answer cfg.he w2 op = .ok (resp, w2') ∧ R ks1 w1' ks2 w2'
  callFrame : ∀ ks1 w1 ks2 w2 i mem x1, R ks1 w1 ks2 w2 → makeCallFrame C1 cfg w1 i mem = .ok x1 →
    ∃ x2, makeCallFrame C2 cfg w2 i mem = .ok x2 ∧ ForRel R ks1 ks2 x1 x2
  createFrame : ∀ ks1 w1 ks2 w2 i mem x1, R ks1 w1 ks2 w2 → makeCreateFrame C1 cfg w1 i mem = .ok x1 →
    ∃ x2, makeCreateFrame C2 cfg w2 i mem = .ok x2 ∧ ForRel R ks1 ks2 x1 x2
  callRet : ∀ k1 ks1 w1 k2 ks2 w2 r r1 w1', R (k1 :: ks1) w1 (k2 :: ks2) w2 → callReturn C1 w1 k1 r = .ok (r1, w1') →
    ∃ w2', callReturn C2 w2 k2 r = .ok (r1, w2') ∧ R ks1 w1' ks2 w2'
  createRet : ∀ k1 ks1 w1 k2 ks2 w2 a r r1 w1', R (k1 :: ks1) w1 (k2 :: ks2) w2 →
    createReturn C1 cfg w1 k1 a r = .ok (r1, w1') →
    ∃ w2', createReturn C2 cfg w2 k2 a r = .ok (r1, w2') ∧ R ks1 w1' ks2 w2'

variable {κ1 κ2 : Type} {C1 : CpOps κ1} {C2 : CpOps κ2} {cfg : Cfg}

variable {E : Err → Prop}

/-- results that carry a world: same value, related worlds -/
def ValRel {κ1 κ2 α : Type} (R : List κ1 → World → List κ2 → World → Prop) (ks1 : List κ1) (ks2 : List κ2) :
    α × World → α × World → Prop := fun p1 p2 => p1.1 = p2.1 ∧ R ks1 p1.2 ks2 p2.2

/-- the completed-run reading of a `ValRel` result -/
theorem ValRel.ok {κ1 κ2 α : Type} {Rel : List κ1 → World → List κ2 → World → Prop} {ks1 : List κ1} {ks2 : List κ2}
    {E : Err → Prop} {x1 x2 : R (α × World)} (h : RRw E (ValRel Rel ks1 ks2) x1 x2) {v : α} {w1' : World}
    (hl : x1 = .ok (v, w1')) : ∃ w2', x2 = .ok (v, w2') ∧ Rel ks1 w1' ks2 w2' := by
  obtain ⟨⟨v', w2'⟩, h2, hv, hr⟩ := h.ok hl
  cases hv
  exact ⟨w2', h2, hr⟩

theorem ValRel.ofOk {κ1 κ2 α : Type} {Rel : List κ1 → World → List κ2 → World → Prop} {ks1 : List κ1} {ks2 : List κ2}
    {x1 x2 : R (α × World)} (h : ∀ v w1', x1 = .ok (v, w1') → ∃ w2', x2 = .ok (v, w2') ∧ Rel ks1 w1' ks2 w2') :
    RRw (fun _ => True) (ValRel Rel ks1 ks2) x1 x2 :=
  RRw.ofOk fun p hp => let ⟨w2', h2, hR'⟩ := h p.1 p.2 hp; ⟨(p.1, w2'), h2, rfl, hR'⟩

/-- what relates two subroutine disciplines for the frame loop: a relation `R` between configurations (the open
checkpoints, innermost first, and the world) that every host answer, frame creation and frame return preserves, with
results related by `RRw E` -/
structure FrameSimE (E : Err → Prop) {κ1 κ2 : Type} (C1 : CpOps κ1) (C2 : CpOps κ2) (cfg : Cfg) where
  R : List κ1 → World → List κ2 → World → Prop
  host : ∀ ks1 w1 ks2 w2 op, R ks1 w1 ks2 w2 → RRw E (ValRel R ks1 ks2) (answer cfg.he w1 op) (answer cfg.he w2 op)
  callFrame : ∀ ks1 w1 ks2 w2 i mem, R ks1 w1 ks2 w2 →
    RRw E (ForRel R ks1 ks2) (makeCallFrame C1 cfg w1 i mem) (makeCallFrame C2 cfg w2 i mem)
  createFrame : ∀ ks1 w1 ks2 w2 i mem, R ks1 w1 ks2 w2 →
    RRw E (ForRel R ks1 ks2) (makeCreateFrame C1 cfg w1 i mem) (makeCreateFrame C2 cfg w2 i mem)
  callRet : ∀ k1 ks1 w1 k2 ks2 w2 r, R (k1 :: ks1) w1 (k2 :: ks2) w2 →
    RRw E (ValRel R ks1 ks2) (callReturn C1 w1 k1 r) (callReturn C2 w2 k2 r)
  createRet : ∀ k1 ks1 w1 k2 ks2 w2 a r, R (k1 :: ks1) w1 (k2 :: ks2) w2 →
    RRw E (ValRel R ks1 ks2) (createReturn C1 cfg w1 k1 a r) (createReturn C2 cfg w2 k2 a r)

/-- the invariant of `contOf_rr`; the checkpoint of an `.ended` frame still counts as open -/
def NextRelE (S : FrameSimE E C1 C2 cfg) : Next κ1 → Next κ2 → Prop
  | .run st1 w1, .run st2 w2 => StackRel st1 st2 ∧ S.R (cps st1) w1 (cps st2) w2
  | .ended t1 r1 res1 o1 s1 w1, .ended t2 r2 res2 o2 s2 w2 =>
    FrameRel t1 t2 ∧ StackRel r1 r2 ∧ res1 = res2 ∧ o1 = o2 ∧ s1 = s2 ∧ S.R (cps (t1 :: r1)) w1 (cps (t2 :: r2)) w2
  | .done r1 w1, .done r2 w2 => r1 = r2 ∧ S.R [] w1 [] w2
  | _, _ => False

theorem deliver_rr (S : FrameSimE E C1 C2 cfg) (kind : FrameKind) (o : Interp.ChildResult)
    (p1 : Frame κ1) (p2 : Frame κ2) (r1 : List (Frame κ1)) (r2 : List (Frame κ2)) (mem : Memory.SharedMemory)
    (w1 w2 : World) (hp : FrameRel p1 p2) (hr : StackRel r1 r2) (hR : S.R (cps (p1 :: r1)) w1 (cps (p2 :: r2)) w2) :
    RRw E (NextRelE S) (deliver kind o p1 r1 mem w1) (deliver kind o p2 r2 mem w2) := by
  unfold deliver
  rw [← hp.2]
  cases insertBy kind o { p1.interp with mem := mem } with
  | ok u s => exact RRw.pure ⟨⟨⟨hp.1, rfl⟩, hr⟩, hR⟩
  | halt r out s => exact RRw.pure ⟨hp, hr, rfl, rfl, rfl, hR⟩
  | fault f => exact RRw.throw trivial

theorem frameReturn_rr (S : FrameSimE E C1 C2 cfg) (t1 : Frame κ1) (t2 : Frame κ2) (ks1 : List κ1) (ks2 : List κ2)
    (w1 w2 : World) (res : Interp.ChildResult) (ht : FrameRel t1 t2)
    (hR : S.R (t1.checkpoint :: ks1) w1 (t2.checkpoint :: ks2) w2) :
    RRw E (ValRel S.R ks1 ks2) (frameReturn C1 cfg t1 w1 res) (frameReturn C2 cfg t2 w2 res) := by
  unfold frameReturn
  rw [← ht.1]
  cases t1.kind with
  | call rs re => exact S.callRet _ _ _ _ _ _ _ hR
  | create a => exact S.createRet _ _ _ _ _ _ _ _ hR

theorem frameEnd_rr (S : FrameSimE E C1 C2 cfg) (t1 : Frame κ1) (t2 : Frame κ2) (r1 : List (Frame κ1))
    (r2 : List (Frame κ2)) (res : Interp.IResult) (out : List Nat) (s : Interp.IState) (w1 w2 : World)
    (ht : FrameRel t1 t2) (hr : StackRel r1 r2) (hR : S.R (cps (t1 :: r1)) w1 (cps (t2 :: r2)) w2) :
    RRw E (NextRelE S) (frameEnd C1 cfg t1 r1 res out s w1) (frameEnd C2 cfg t2 r2 res out s w2) := by
  unfold frameEnd
  refine RRw.bind (RRw.same (freeCtx s.mem)) ?_
  intro mem mem' hm
  subst hm
  refine RRw.bind (frameReturn_rr S t1 t2 (cps r1) (cps r2) w1 w2 _ ht hR) ?_
  rintro ⟨res1, w1'⟩ ⟨res2, w2'⟩ ⟨hres, hR'⟩
  simp only at hres hR'
  subst hres
  cases r1 with
  | nil =>
    cases r2 with
    | nil => exact RRw.pure ⟨rfl, hR'⟩
    | cons a b => exact absurd hr (by simp [StackRel])
  | cons p1 r1' =>
    cases r2 with
    | nil => exact absurd hr (by simp [StackRel])
    | cons p2 r2' =>
      simp only
      rw [← ht.1]
      exact deliver_rr S t1.kind res1 p1 p2 r1' r2' mem w1' w2' hr.1 hr.2 hR'

theorem makeFrame_rr (S : FrameSimE E C1 C2 cfg) (ks1 : List κ1) (ks2 : List κ2) (w1 w2 : World) (a : Interp.Action)
    (mem : Memory.SharedMemory) (hR : S.R ks1 w1 ks2 w2) :
    RRw E (ForRel S.R ks1 ks2) (makeFrame C1 cfg w1 a mem) (makeFrame C2 cfg w2 a mem) := by
  unfold makeFrame
  cases a with
  | call i => exact S.callFrame _ _ _ _ _ _ hR
  | create i => exact S.createFrame _ _ _ _ _ _ hR
  | eofCreate i => exact RRw.throw trivial

theorem frameAction_rr (S : FrameSimE E C1 C2 cfg) (t1 : Frame κ1) (t2 : Frame κ2) (r1 : List (Frame κ1))
    (r2 : List (Frame κ2)) (a : Interp.Action) (s : Interp.IState) (w1 w2 : World)
    (ht : FrameRel t1 t2) (hr : StackRel r1 r2) (hR : S.R (cps (t1 :: r1)) w1 (cps (t2 :: r2)) w2) :
    RRw E (NextRelE S) (frameAction C1 cfg t1 r1 a s w1) (frameAction C2 cfg t2 r2 a s w2) := by
  unfold frameAction
  refine RRw.bind (makeFrame_rr S _ _ w1 w2 a s.mem hR) ?_
  rintro ⟨fr1, w1'⟩ ⟨fr2, w2'⟩ hx
  cases fr1 with
  | frame f1 =>
    cases fr2 with
    | frame f2 =>
      exact RRw.pure ⟨⟨hx.1, ⟨ht.1, rfl⟩, hr⟩, hx.2⟩
    | result r => exact absurd hx (by simp [ForRel])
  | result o1 =>
    cases fr2 with
    | frame f2 => exact absurd hx (by simp [ForRel])
    | result o2 =>
      simp only [ForRel] at hx
      obtain ⟨ho, hR'⟩ := hx
      subst ho
      exact deliver_rr S _ o1 { t1 with interp := s } { t2 with interp := s } r1 r2 s.mem w1' w2' ⟨ht.1, rfl⟩ hr hR'

theorem afterStep_rr (S : FrameSimE E C1 C2 cfg) (t1 : Frame κ1) (t2 : Frame κ2) (r1 : List (Frame κ1))
    (r2 : List (Frame κ2)) (d : Interp.Done) (w1 w2 : World)
    (ht : FrameRel t1 t2) (hr : StackRel r1 r2) (hR : S.R (cps (t1 :: r1)) w1 (cps (t2 :: r2)) w2) :
    RRw E (NextRelE S) (afterStep C1 cfg t1 r1 d w1) (afterStep C2 cfg t2 r2 d w2) := by
  unfold afterStep
  cases d with
  | next s => exact RRw.pure ⟨⟨⟨ht.1, rfl⟩, hr⟩, hR⟩
  | action a s => exact frameAction_rr S t1 t2 r1 r2 a s w1 w2 ht hr hR
  | halt r out s => exact frameEnd_rr S t1 t2 r1 r2 r out s w1 w2 ht hr hR
  | fault f => exact RRw.throw trivial

theorem iterate_rr (S : FrameSimE E C1 C2 cfg) (st1 : List (Frame κ1)) (st2 : List (Frame κ2)) (w1 w2 : World)
    (hs : StackRel st1 st2) (hR : S.R (cps st1) w1 (cps st2) w2) :
    RRw E (NextRelE S) (iterate C1 cfg st1 w1) (iterate C2 cfg st2 w2) := by
  unfold iterate
  cases st1 with
  | nil =>
    cases st2 with
    | nil => exact RRw.throw trivial
    | cons a b => exact absurd hs (by simp [StackRel])
  | cons t1 r1 =>
    cases st2 with
    | nil => exact absurd hs (by simp [StackRel])
    | cons t2 r2 =>
      simp only
      rw [← hs.1.2]
      cases Interp.step t1.interp with
      | pure d => exact afterStep_rr S t1 t2 r1 r2 d w1 w2 hs.1 hs.2 hR
      | host op k =>
        simp only
        refine RRw.bind (S.host _ _ _ _ op hR) ?_
        rintro ⟨resp1, w1'⟩ ⟨resp2, w2'⟩ ⟨hresp, hR'⟩
        simp only at hresp hR'
        subst hresp
        exact afterStep_rr S t1 t2 r1 r2 (k resp1) w1' w2' hs.1 hs.2 hR'

theorem turn_rr (S : FrameSimE E C1 C2 cfg) {n1 : Next κ1} {n2 : Next κ2} (hn : NextRelE S n1 n2) :
    RRw E (NextRelE S) (turn C1 cfg n1) (turn C2 cfg n2) := by
  cases n1 <;> cases n2 <;> try exact hn.elim
  case run.run st1 w1 st2 w2 => exact iterate_rr S st1 st2 w1 w2 hn.1 hn.2
  case ended.ended t1 r1 res1 o1 s1 w1 t2 r2 res2 o2 s2 w2 =>
    obtain ⟨a1, a2, a3, a4, a5, a6⟩ := hn
    subst a3; subst a4; subst a5
    exact frameEnd_rr S t1 t2 r1 r2 res1 o1 s1 w1 w2 a1 a2 a6
  case done.done r1 w1 r2 w2 => exact RRw.pure hn

theorem contOf_rr (S : FrameSimE E C1 C2 cfg) (fuel : Nat) {n1 : Next κ1} {n2 : Next κ2} (hn : NextRelE S n1 n2) :
    RRw E (ValRel S.R [] []) (contOf C1 cfg fuel n1) (contOf C2 cfg fuel n2) := by
  induction fuel generalizing n1 n2 with
  | zero =>
    rw [contOf_zero, contOf_zero]
    cases n1 <;> cases n2 <;> try exact hn.elim
    case run.run => exact RRw.throw trivial
    case ended.ended => exact RRw.throw trivial
    case done.done => exact RRw.pure hn
  | succ n ih =>
    rw [contOf_succ, contOf_succ]
    exact RRw.bind (turn_rr S hn) fun _ _ h => ih h

theorem runLoop_rr (S : FrameSimE E C1 C2 cfg) (fuel : Nat) (st1 : List (Frame κ1)) (st2 : List (Frame κ2))
    (w1 w2 : World) (hs : StackRel st1 st2) (hR : S.R (cps st1) w1 (cps st2) w2) :
    RRw E (ValRel S.R [] []) (runLoop C1 cfg fuel st1 w1) (runLoop C2 cfg fuel st2 w2) :=
  contOf_rr S fuel (n1 := .run st1 w1) (n2 := .run st2 w2) ⟨hs, hR⟩

theorem runFirst_rr (S : FrameSimE E C1 C2 cfg) (fuel : Nat) (x1 : FrameOrResult κ1 × World)
    (x2 : FrameOrResult κ2 × World) (hx : ForRel S.R [] [] x1 x2) :
    RRw E (ValRel S.R [] []) (runFirst C1 cfg fuel x1.1 x1.2) (runFirst C2 cfg fuel x2.1 x2.2) := by
  obtain ⟨f1, w1⟩ := x1
  obtain ⟨f2, w2⟩ := x2
  unfold runFirst
  cases f1 with
  | frame a =>
    cases f2 with
    | frame b => exact runLoop_rr S fuel [a] [b] w1 w2 ⟨hx.1, trivial⟩ hx.2
    | result r => exact absurd hx (by simp [ForRel])
  | result r1 =>
    cases f2 with
    | frame b => exact absurd hx (by simp [ForRel])
    | result r2 => exact RRw.pure ⟨hx.1, hx.2⟩

def FrameSim.toE (S : FrameSim C1 C2 cfg) : FrameSimE (fun _ => True) C1 C2 cfg where
  R := S.R
  host := fun ks1 w1 ks2 w2 op hR => ValRel.ofOk fun resp w1' => S.host ks1 w1 ks2 w2 op resp w1' hR
  callFrame := fun ks1 w1 ks2 w2 i mem hR => RRw.ofOk fun x1 h => S.callFrame ks1 w1 ks2 w2 i mem x1 hR h
  createFrame := fun ks1 w1 ks2 w2 i mem hR => RRw.ofOk fun x1 h => S.createFrame ks1 w1 ks2 w2 i mem x1 hR h
  callRet := fun k1 ks1 w1 k2 ks2 w2 r hR => ValRel.ofOk fun r1 w1' => S.callRet k1 ks1 w1 k2 ks2 w2 r r1 w1' hR
  createRet := fun k1 ks1 w1 k2 ks2 w2 a r hR => ValRel.ofOk fun r1 w1' => S.createRet k1 ks1 w1 k2 ks2 w2 a r r1 w1' hR

/-- related disciplines give related completed runs of the frame loop, for every program and every fuel -/
theorem runLoop_sim (S : FrameSim C1 C2 cfg) (fuel : Nat) (st1 : List (Frame κ1)) (st2 : List (Frame κ2))
    (w1 w2 : World) (hs : StackRel st1 st2) (hR : S.R (cps st1) w1 (cps st2) w2) (r : Interp.ChildResult)
    (w1' : World) (h : runLoop C1 cfg fuel st1 w1 = .ok (r, w1')) :
    ∃ w2', runLoop C2 cfg fuel st2 w2 = .ok (r, w2') ∧ S.R [] w1' [] w2' :=
  ValRel.ok (runLoop_rr S.toE fuel st1 st2 w1 w2 hs hR) h

end Revm.Proofs.EvmSim
