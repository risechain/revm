import Revm.Proofs.EofSection
/-! The container level: `validate_eof_codes` puts every code section through `validate_eof_code` (the access
tracker: what is marked accessed is still on the processing stack or validated), and `validate_eof_inner` every
sub-container with the code type recorded for it, recursively. -/
namespace Revm.Proofs.EofValidate
open Revm.Model.Eof Revm.Model.EofValidate Revm.Spec.Eof Revm.Proofs.Eof

def SecValid (e : Eof) (trF : Tracker) (k : Nat) : Prop :=
  ∀ code, e.body.codeSection[k]? = some code → ∃ tt, e.body.typesSection.toArray[k]? = some tt ∧
    SectionValid code.toArray e.body.typesSection.toArray e.body.containerSection.length tt trF

theorem SecValid.mono {e : Eof} {a b : Tracker} {k : Nat} (h : Sticky a b) (hs : SecValid e a k) : SecValid e b k :=
  fun code hc => let ⟨tt, htt, v⟩ := hs code hc; ⟨tt, htt, v.mono h⟩

theorem codesLoop_ok (e : Eof) : ∀ (fuel : Nat) (tr tr' : Tracker),
    codesLoop e e.body.typesSection.toArray fuel tr = .ok tr' →
    (∀ k, tr.codes[k]? = some true → k ∈ tr.stack ∨ SecValid e tr k) →
    (∀ k, tr'.codes[k]? = some true → SecValid e tr' k) ∧ Sticky tr tr' ∧
      tr'.codes.size = tr.codes.size ∧ tr'.subs.size = tr.subs.size := by
  have done : ∀ tr : Tracker, tr.stack = [] →
      (∀ k, tr.codes[k]? = some true → k ∈ tr.stack ∨ SecValid e tr k) →
      (∀ k, tr.codes[k]? = some true → SecValid e tr k) ∧ Sticky tr tr ∧
        tr.codes.size = tr.codes.size ∧ tr.subs.size = tr.subs.size :=
    fun tr hs inv => ⟨fun k hk => (inv k hk).resolve_left (by rw [hs]; simp), Sticky.refl _, rfl, rfl⟩
  intro fuel
  induction fuel with
  | zero =>
    intro tr tr' h inv
    unfold codesLoop at h
    split at h
    · rename_i hs
      cases h
      exact done tr hs inv
    · cases h
  | succ fuel ih =>
    intro tr tr' h inv
    unfold codesLoop at h
    split at h
    · rename_i hs
      cases h
      exact done tr hs inv
    · rename_i index rest hs
      dsimp only at h
      split at h
      · cases h
      rename_i code hcode
      rw [bind_eq_ok] at h
      obtain ⟨tr1, h1, h2⟩ := h
      obtain ⟨tt, htt, hsteps, v⟩ := validateEofCode_valid h1
      have hext := Ext.of_steps hsteps
      -- popping the stack changes neither the sub-container types nor the container's own
      have hst : Sticky tr tr1 := ⟨(Sticky.of_steps hsteps).subs, (Sticky.of_steps hsteps).thisType⟩
      have inv1 : ∀ k, tr1.codes[k]? = some true → k ∈ tr1.stack ∨ SecValid e tr1 k := by
        intro k hk
        rcases hext.codes k hk with h | h
        · rcases inv k h with h' | h'
          · rw [hs] at h'
            rcases List.mem_cons.1 h' with rfl | h'
            · right
              intro code' hc'
              rw [hcode] at hc'; cases hc'
              exact ⟨tt, htt, v⟩
            · exact Or.inl (hext.stack k h')
          · exact Or.inr (h'.mono hst)
        · exact Or.inl h
      obtain ⟨r1, r2, r3, r4⟩ := ih tr1 tr' h2 inv1
      exact ⟨r1, hst.trans r2, by rw [r3, hext.size], by rw [r4, hext.subs]⟩

theorem unwrapAll_ok : ∀ (l : List (Option CodeType)) (r : List CodeType),
    unwrapAll l = .ok r → l = r.map some
  | [], r, h => by simp only [unwrapAll, R.ok.injEq] at h; subst h; rfl
  | none :: _, r, h => by simp [unwrapAll] at h
  | some t :: l, r, h => by
    simp only [unwrapAll] at h
    rw [bind_eq_ok] at h
    obtain ⟨r', h1, h2⟩ := h
    simp only [pure_def, R.ok.injEq] at h2
    subst h2
    rw [List.map_cons, ← unwrapAll_ok l r' h1]

/-- what `validate_eof_codes e t = ok l` went through; `l`: the sub-container types the final tracker recorded -/
structure CodesOk (e : Eof) (t : Option CodeType) (l : List CodeType) : Prop where
  types_len : e.body.codeSection.length = e.body.typesSection.length
  nonempty : 0 < e.body.codeSection.length
  first : ∃ ft, e.body.typesSection[0]? = some ft ∧ ft.isNonReturning = true
  sections : ∃ trF, (∀ k, k < e.body.codeSection.length → SecValid e trF k) ∧
    ∀ (k : Nat) (ct : CodeType), trF.subs[k]? = some (some ct) → l[k]? = some ct
  subs_len : l.length = e.body.containerSection.length
  filled : t = some .ReturnContract → e.body.isDataFilled = true

theorem validateEofCodes_ok {e : Eof} {t : Option CodeType} :
    Holds (CodesOk e t) (validateEofCodes e t) := by
  unfold validateEofCodes
  refine holds_guard fun hlen => holds_guard fun hne => ?_
  split
  · exact holds_panic
  rename_i ft hft
  refine holds_guard fun hfirst => holds_bind fun tr0 h0 => holds_bind fun tr1 h1 => holds_guard fun hall =>
    holds_guard fun _ => holds_guard fun hfill l h => ?_
  unfold Tracker.new at h0
  split at h0
  · cases h0
  simp only [R.ok.injEq] at h0
  subst h0
  obtain ⟨r1, rst, r2, r3⟩ := codesLoop_ok e _ _ _ h1 (fun k hk => by
    dsimp only at hk
    rw [Array.getElem?_setIfInBounds] at hk
    by_cases hk0 : 0 = k
    · subst hk0; exact Or.inl (List.mem_cons_self ..)
    · rw [if_neg hk0, Array.getElem?_replicate] at hk
      split at hk <;> cases hk)
  dsimp only at r2 r3
  rw [Array.size_setIfInBounds, Array.size_replicate] at r2
  rw [Array.size_replicate] at r3
  have hall' : tr1.codes.all id = true := by simpa using hall
  rw [Array.all_eq_true] at hall'
  have hl := unwrapAll_ok _ _ h
  refine ⟨by simpa using hlen, ?_, ⟨ft, hft, ?_⟩, ⟨tr1, fun k hk => ?_, fun k ct hk => ?_⟩, ?_, fun ht => ?_⟩
  · cases hc : e.body.codeSection with
    | nil => rw [hc] at hne; simp at hne
    | cons _ _ => simp
  · cases hnr : ft.isNonReturning with
    | true => rfl
    | false => exact absurd (Or.inr (by rw [hnr]; rfl)) hfirst
  · apply r1 k
    have hk' : k < tr1.codes.size := by omega
    rw [Array.getElem?_eq_getElem hk']
    have := hall' k hk'
    simpa using this
  · rw [← Array.getElem?_toList, hl, List.getElem?_map] at hk
    cases hlk : l[k]? with
    | none => rw [hlk] at hk; cases hk
    | some ct' => rw [hlk] at hk; cases hk; rfl
  · rw [← r3, ← Array.length_toList, hl, List.length_map]
  · have htt : tr1.thisType = some .ReturnContract := rst.thisType _ ht
    cases hdf : e.body.isDataFilled with
    | true => rfl
    | false =>
      exfalso
      apply hfill
      rw [htt, hdf]
      rfl

theorem CodesOk.index {e : Eof} {t : Option CodeType} {l : List CodeType} (ok : CodesOk e t l) {c : List Nat}
    (hc : c ∈ e.body.containerSection) :
    ∃ (k : Nat) (ct : CodeType), e.body.containerSection[k]? = some c ∧ l[k]? = some ct := by
  obtain ⟨k, hk, hget⟩ := List.getElem_of_mem hc
  exact ⟨k, l[k]'(ok.subs_len ▸ hk), by rw [List.getElem?_eq_getElem hk, hget], List.getElem?_eq_getElem _⟩

theorem validateEofCodes_container {e : Eof} {t : Option CodeType} {l : List CodeType}
    (h : validateEofCodes e t = .ok l) : ContainerOk e := by
  have ok := validateEofCodes_ok _ h
  obtain ⟨trF, hsec, _⟩ := ok.sections
  refine ⟨ok.types_len.symm, ok.nonempty, fun k code hk => ?_⟩
  have hk' : k < e.body.codeSection.length := by
    by_cases hlt : k < e.body.codeSection.length
    · exact hlt
    · rw [List.getElem?_eq_none (by omega)] at hk; cases hk
  obtain ⟨_, _, v⟩ := hsec k hk' code hk
  exact v.ok

theorem validateEofCodes_jumps {e : Eof} {t : Option CodeType} {l : List CodeType}
    (h : validateEofCodes e t = .ok l) : ContainerJumpsOk e := by
  obtain ⟨trF, hsec, _⟩ := (validateEofCodes_ok _ h).sections
  intro code hc
  obtain ⟨k, hk, hget⟩ := List.getElem_of_mem hc
  have hget' : e.body.codeSection[k]? = some code := by
    rw [List.getElem?_eq_getElem hk, hget]
  obtain ⟨_, _, v⟩ := hsec k hk code hget'
  exact v.jumps

theorem decodeChildren_get : ∀ (cs : List (List Nat)) (ts : List CodeType)
    (r : List (Eof × Option CodeType)), decodeChildren cs ts = .ok r →
    ∀ (k : Nat) (c : List Nat) (ct : CodeType), cs[k]? = some c → ts[k]? = some ct →
      ∃ e', Eof.decode c = .ok e' ∧ (e', some ct) ∈ r
  | [], _, _, _, k, c, ct, hc, _ => by simp at hc
  | c0 :: cs, [], r, h, k, c, ct, _, ht => by simp at ht
  | c0 :: cs, t0 :: ts, r, h, k, c, ct, hc, ht => by
    simp only [decodeChildren] at h
    rw [bind_eq_ok] at h
    obtain ⟨e0, h0, h⟩ := h
    rw [bind_eq_ok] at h
    obtain ⟨r', hr', h⟩ := h
    simp only [pure_def, R.ok.injEq] at h
    subst h
    cases k with
    | zero =>
      simp only [List.getElem?_cons_zero, Option.some.injEq] at hc ht
      subst hc; subst ht
      exact ⟨e0, mapErr_eq_ok h0, List.mem_cons_self ..⟩
    | succ k =>
      simp only [List.getElem?_cons_succ] at hc ht
      obtain ⟨e', he', hm⟩ := decodeChildren_get cs ts r' hr' k c ct hc ht
      exact ⟨e', he', List.mem_cons_of_mem _ hm⟩

/-- `e` went through `validate_eof_codes` as code type `t`; every sub-container decodes and, recursively, went
through it with the code type the tracker recorded for it -/
inductive Validated : Eof → Option CodeType → Prop
  | mk {e : Eof} {t : Option CodeType} {l : List CodeType} : validateEofCodes e t = .ok l →
      (∀ c, c ∈ e.body.containerSection → ∃ e', Eof.decode c = .ok e') →
      (∀ (k : Nat) (c : List Nat) (ct : CodeType) (e' : Eof), e.body.containerSection[k]? = some c →
        l[k]? = some ct → Eof.decode c = .ok e' → Validated e' (some ct)) →
      Validated e t

theorem innerLoop_validated : ∀ (fuel : Nat) (stack : List (Eof × Option CodeType)),
    innerLoop fuel stack = .ok () → ∀ p, p ∈ stack → Validated p.1 p.2 := by
  intro fuel
  induction fuel with
  | zero =>
    intro stack h p hp
    cases stack with
    | nil => simp at hp
    | cons a rest => simp [innerLoop] at h
  | succ fuel ih =>
    intro stack h p hp
    cases stack with
    | nil => simp at hp
    | cons a rest =>
      obtain ⟨e, ct⟩ := a
      simp only [innerLoop] at h
      rw [bind_eq_ok] at h
      obtain ⟨tc, h1, h⟩ := h
      rw [bind_eq_ok] at h
      obtain ⟨children, h2, h3⟩ := h
      have h1' := mapErr_eq_ok h1
      have hall := ih _ h3
      rcases List.mem_cons.1 hp with rfl | hp
      · refine .mk h1' (fun c hc => ?_) (fun k c ct' e' hk hct hd => ?_)
        · obtain ⟨k, ct', hk, hct⟩ := (validateEofCodes_ok _ h1').index hc
          obtain ⟨e', he', _⟩ := decodeChildren_get _ _ _ h2 k c ct' hk hct
          exact ⟨e', he'⟩
        · obtain ⟨e1, he1, hm⟩ := decodeChildren_get _ _ _ h2 k c ct' hk hct
          rw [hd] at he1; cases he1
          exact hall (e', some ct') (List.mem_append_left _ (List.mem_reverse.2 hm))
      · exact hall p (List.mem_append_right _ hp)

theorem validateRaw_ok {bs : List Nat} {t : Option CodeType} :
    Holds (fun e => bs.length ≤ 49152 ∧ Eof.decode bs = .ok e ∧ e.body.isDataFilled = true ∧ Validated e t)
      (validateRawEofInner bs t) := by
  unfold validateRawEofInner
  refine holds_guard fun hlen => holds_bind fun e h1 => holds_bind fun _ h2 => holds_pure ?_
  refine ⟨by simp only [MAX_INITCODE_SIZE] at hlen; omega, mapErr_eq_ok h1, ?_⟩
  unfold validateEofInner at h2
  replace h2 := ite_err_eq_ok h2
  obtain ⟨hfill, h2⟩ := h2
  refine ⟨by simpa using hfill, ?_⟩
  by_cases hc : e.body.containerSection.isEmpty = true
  · rw [if_pos hc, bind_eq_ok] at h2
    obtain ⟨l, hl, _⟩ := h2
    rw [List.isEmpty_iff] at hc
    exact .mk (mapErr_eq_ok hl) (fun c hc' => by rw [hc] at hc'; simp at hc')
      (fun k c _ _ hk => by rw [hc] at hk; simp at hk)
  · rw [if_neg hc] at h2
    exact innerLoop_validated _ _ h2 (e, t) (List.mem_cons_self ..)

/-- every (transitive) sub-container of a validated container went through `validate_eof_codes` itself, as the code
type its parent recorded for it -/
theorem Validated.sub {e e' : Eof} (hs : SubOf e e') : ∀ {t}, Validated e t → ∃ t', Validated e' t' := by
  induction hs with
  | refl => exact fun h => ⟨_, h⟩
  | sub hc hd _ ih =>
    rintro t @⟨_, _, l, hl, _, hsub⟩
    obtain ⟨k, ct, hk, hct⟩ := (validateEofCodes_ok _ hl).index hc
    exact ih (hsub k _ ct _ hk hct hd)

theorem Validated.deepOk {e : Eof} {t : Option CodeType} (h : Validated e t) : DeepOk e := by
  induction h with
  | @mk e t l hl hdec _ ih =>
    refine .mk _ (validateEofCodes_container hl) hdec fun c e' hc hd => ?_
    obtain ⟨k, ct, hk, hct⟩ := (validateEofCodes_ok _ hl).index hc
    exact ih k c ct e' hk hct hd

theorem Validated.deepJumpsOk {e : Eof} {t : Option CodeType} (h : Validated e t) : DeepJumpsOk e := by
  induction h with
  | @mk e t l hl _ _ ih =>
    refine .mk _ (validateEofCodes_jumps hl) fun c e' hc hd => ?_
    obtain ⟨k, ct, hk, hct⟩ := (validateEofCodes_ok _ hl).index hc
    exact ih k c ct e' hk hct hd

theorem validateRaw_deep {bs : List Nat} {t : Option CodeType} {e : Eof}
    (h : validateRawEofInner bs t = .ok e) : DeepOk e := (validateRaw_ok _ h).2.2.2.deepOk

end Revm.Proofs.EofValidate
