import Revm.Proofs.EvmSimTx
import Revm.Proofs.EvmFrame
import Revm.Proofs.Evm
/-! The strict journal machine (`Spec/EvmStrict.lean`: `journalOps` with two run-time checks). For EvmRefineCpOps: the
checks as conditions on the world (`CreateTargetFresh`, `CodeEmptyAt`), the only places where the admissibility hypothesis
of the refinement theorem is used; each in three shapes, `_iff` (both directions), completed (`strict_create`,
`strict_setCode`) and `_or` (what `strict_or` takes). For EvmRefineMain: the strict machine is the journal machine unless
it stops at a check (`strictSimE`, the generic simulation at the relation `EqR`), hence `strict_is_model`. -/
namespace Revm.Proofs.EvmRefine
open Revm Revm.Model Revm.Model.Journal
open Revm.Model.Evm
open Revm.Spec.Evm (journalOpsStrict)
open Revm.Proofs.EvmRR

/-- at `create_account_checkpoint(caller, a, has_storage, …)`: the target `a` is not an account created earlier in this
transaction, unless the collision check fires anyway (code, nonce or storage present). This is what `CREATE` / `CREATE2`
address derivation gives when `keccak256` does not collide inside a transaction. From Spurious Dragon on a created
account has nonce 1, so the collision check fires for it (`createTargetFresh_of_nonce`) as long as `created → nonce ≠ 0`
holds along the run — an invariant that is NOT proved here; Frontier … Tangerine Whistle need the freshness itself. -/
def CreateTargetFresh (w : World) (a : Addr) (hasStorage : Bool) : Prop :=
  ∀ acc, w.js.state a = some acc → acc.created = true →
    (acc.info.codeHash ≠ Journal.KECCAK_EMPTY ∨ acc.info.nonce ≠ 0 ∨ hasStorage = true)

/-- at the `set_code` of `create_return` for the address `a` of the returning creation: the code of `a` is still empty. It
was at the collision check; only the `create_return` of another creation on `a` started meanwhile can have changed it, i.e.
a derived address that collided with `a` without the check firing (never from Spurious Dragon on: `a` has nonce 1). -/
def CodeEmptyAt (w : World) (a : Addr) : Prop :=
  ∀ acc, w.js.state a = some acc → acc.info.codeHash = Journal.KECCAK_EMPTY

/-- `CreateTargetFresh` in the form C06's `create_account_checkpoint` lemmas take it -/
theorem CreateTargetFresh.created {w : World} {a : Addr} {hs : Bool} (h : CreateTargetFresh w a hs) (acc : Acct)
    (hacc : w.js.state a = some acc) :
    acc.created = false ∨ (acc.info.codeHash ≠ Journal.KECCAK_EMPTY ∨ acc.info.nonce ≠ 0 ∨ hs = true) := by
  cases hc : acc.created with
  | false => exact .inl rfl
  | true => exact .inr (h acc hacc hc)

theorem strict_create_iff (w : World) (caller a : Addr) (hs : Bool) (v spec : Nat) :
    (CreateTargetFresh w a hs →
      journalOpsStrict.createCheckpoint w caller a hs v spec = journalOps.createCheckpoint w caller a hs v spec) ∧
    (¬ CreateTargetFresh w a hs →
      ∃ e, journalOpsStrict.createCheckpoint w caller a hs v spec = .error e ∧ Esc e) := by
  have hdef : journalOpsStrict.createCheckpoint w caller a hs v spec = (match w.js.state a with
      | some acc =>
        if acc.created ∧ ¬ (acc.info.codeHash ≠ Journal.KECCAK_EMPTY ∨ acc.info.nonce ≠ 0 ∨ hs = true) then
          Except.error (Err.panic "inadmissible: create_account_checkpoint without collision on an account created in this transaction")
        else journalOps.createCheckpoint w caller a hs v spec
      | none => journalOps.createCheckpoint w caller a hs v spec) := rfl
  rw [hdef]
  unfold CreateTargetFresh
  cases hst : w.js.state a with
  | none => exact ⟨fun _ => rfl, fun hn => absurd (fun acc h => by cases h) hn⟩
  | some acc =>
    simp only
    by_cases hc : acc.created = true ∧ ¬ (acc.info.codeHash ≠ Journal.KECCAK_EMPTY ∨ acc.info.nonce ≠ 0 ∨ hs = true)
    · rw [if_pos hc]
      exact ⟨fun hf => absurd (hf acc rfl hc.1) hc.2, fun _ => ⟨_, rfl, .inl rfl⟩⟩
    · rw [if_neg hc]
      refine ⟨fun _ => rfl, fun hn => absurd (fun acc' h hcr => ?_) hn⟩
      cases h
      exact Classical.byContradiction fun hh => hc ⟨hcr, hh⟩

theorem strict_create {w : World} {caller a : Addr} {hs : Bool} {v spec : Nat} {x}
    (hl : journalOpsStrict.createCheckpoint w caller a hs v spec = .ok x) :
    (∀ acc, w.js.state a = some acc →
      acc.created = false ∨ (acc.info.codeHash ≠ Journal.KECCAK_EMPTY ∨ acc.info.nonce ≠ 0 ∨ hs = true)) ∧
    journalOps.createCheckpoint w caller a hs v spec = .ok x := by
  by_cases hf : CreateTargetFresh w a hs
  · exact ⟨hf.created, by rw [← (strict_create_iff w caller a hs v spec).1 hf]; exact hl⟩
  · obtain ⟨e, he, _⟩ := (strict_create_iff w caller a hs v spec).2 hf
    rw [he] at hl; cases hl

theorem strict_setCode_iff (w : World) (a hash : Nat) :
    (CodeEmptyAt w a → journalOpsStrict.setCode w a hash = journalOps.setCode w a hash) ∧
    (¬ CodeEmptyAt w a → ∃ e, journalOpsStrict.setCode w a hash = .error e ∧ Esc e) := by
  have hdef : journalOpsStrict.setCode w a hash = (match w.js.state a with
      | some acc => if acc.info.codeHash = Journal.KECCAK_EMPTY then journalOps.setCode w a hash
          else Except.error (Err.panic "inadmissible: set_code on an account with code")
      | none => journalOps.setCode w a hash) := rfl
  rw [hdef]
  unfold CodeEmptyAt
  cases hst : w.js.state a with
  | none => exact ⟨fun _ => rfl, fun hn => absurd (fun acc h => by cases h) hn⟩
  | some acc =>
    simp only
    by_cases hc : acc.info.codeHash = Journal.KECCAK_EMPTY
    · rw [if_pos hc]
      exact ⟨fun _ => rfl, fun hn => absurd (fun acc' h => by cases h; exact hc) hn⟩
    · rw [if_neg hc]
      exact ⟨fun hf => absurd (hf acc rfl) hc, fun _ => ⟨_, rfl, .inr rfl⟩⟩

theorem strict_setCode {w : World} {a hash : Nat} {w' : World} (hl : journalOpsStrict.setCode w a hash = .ok w') :
    (∀ acc, w.js.state a = some acc → acc.info.codeHash = Journal.KECCAK_EMPTY) ∧ journalOps.setCode w a hash = .ok w' := by
  by_cases hf : CodeEmptyAt w a
  · exact ⟨hf, by rw [← (strict_setCode_iff w a hash).1 hf]; exact hl⟩
  · obtain ⟨e, he, _⟩ := (strict_setCode_iff w a hash).2 hf
    rw [he] at hl; cases hl

/-- the collision check fires on the nonce 1 that a creation gives from Spurious Dragon on -/
theorem createTargetFresh_of_nonce {w : World} {a : Addr} {hs : Bool}
    (h : ∀ acc, w.js.state a = some acc → acc.created = true → acc.info.nonce ≠ 0) : CreateTargetFresh w a hs :=
  fun acc hacc hcr => .inr (.inl (h acc hacc hcr))

open Revm.Proofs.EvmRR Revm.Proofs.EvmSim Revm.Proofs.EvmFrame

/-- "equal" as a configuration relation: what `strictSimE` instantiates the generic simulation with -/
def EqR (ks1 : List Checkpoint) (w1 : World) (ks2 : List Checkpoint) (w2 : World) : Prop := ks1 = ks2 ∧ w1 = w2

theorem forRel_refl (ks : List Checkpoint) (x : FrameOrResult Checkpoint × World) : ForRel EqR ks ks x x := by
  obtain ⟨f, w⟩ := x
  cases f with
  | frame f => exact ⟨⟨rfl, rfl⟩, rfl, rfl⟩
  | result r => exact ⟨rfl, rfl, rfl⟩

theorem makeCallFrame_strict (cfg : Cfg) (w : World) (i : Interp.CallInputs) (mem : Memory.SharedMemory) :
    makeCallFrame journalOpsStrict cfg w i mem = makeCallFrame journalOps cfg w i mem := rfl

theorem callReturn_strict (w : World) (k : Checkpoint) (r : Interp.ChildResult) :
    callReturn journalOpsStrict w k r = callReturn journalOps w k r := rfl

theorem RR.refl' {α : Type} {P : α → α → Prop} (hP : ∀ a, P a a) (x : R α) : RR P x x :=
  (RR.same x).mono (fun a b h => by subst h; exact hP a)

theorem strict_or {α : Type} {xs xp : R α} (h : xs = xp ∨ ∃ e, xs = .error e ∧ Esc e) : RR (fun a b => a = b) xs xp := by
  rcases h with h | ⟨e, he, hesc⟩
  · rw [h]; exact RR.same xp
  · rw [he]; exact .inl hesc

theorem strict_createCheckpoint_or (w : World) (caller a : Nat) (hs : Bool) (v spec : Nat) :
    journalOpsStrict.createCheckpoint w caller a hs v spec = journalOps.createCheckpoint w caller a hs v spec ∨
    ∃ e, journalOpsStrict.createCheckpoint w caller a hs v spec = .error e ∧ Esc e := by
  by_cases hf : CreateTargetFresh w a hs
  · exact .inl ((strict_create_iff w caller a hs v spec).1 hf)
  · exact .inr ((strict_create_iff w caller a hs v spec).2 hf)

theorem strict_setCode_or (w : World) (a hash : Nat) :
    journalOpsStrict.setCode w a hash = journalOps.setCode w a hash ∨
    ∃ e, journalOpsStrict.setCode w a hash = .error e ∧ Esc e := by
  by_cases hf : CodeEmptyAt w a
  · exact .inl ((strict_setCode_iff w a hash).1 hf)
  · exact .inr ((strict_setCode_iff w a hash).2 hf)

theorem valRel_refl {α : Type} (ks : List Checkpoint) (p : α × World) : ValRel EqR ks ks p p := ⟨rfl, rfl, rfl⟩

theorem createTail_strict_rr (cfg : Cfg) (w : World) (i : Interp.CreateInputs) (mem : Memory.SharedMemory)
    (created : Nat) (ks : List Checkpoint) :
    RR (ForRel EqR ks ks) (createTail journalOpsStrict cfg w i mem created) (createTail journalOps cfg w i mem created) := by
  unfold createTail
  by_cases hp : isPrecompile cfg.spec created = true
  · simp only [hp, if_true]; exact RR.pure (forRel_refl _ _)
  · simp only [hp, Bool.false_eq_true, if_false]
    refine RR.bindSame _ fun ⟨wa, c⟩ => ?_
    refine RR.bind (strict_or (strict_createCheckpoint_or _ _ _ _ _ _)) ?_
    rintro ⟨wc, r⟩ ⟨wd, r'⟩ hh
    cases hh
    cases r with
    | error e => cases e <;> exact RR.pure (forRel_refl _ _)
    | ok cp => exact RR.pure (forRel_refl _ _)

theorem makeCreateFrame_strict_rr (cfg : Cfg) (w : World) (i : Interp.CreateInputs) (mem : Memory.SharedMemory)
    (ks : List Checkpoint) :
    RR (ForRel EqR ks ks) (makeCreateFrame journalOpsStrict cfg w i mem) (makeCreateFrame journalOps cfg w i mem) := by
  rw [makeCreateFrame_staged, makeCreateFrame_staged]
  unfold makeCreateFrameS
  by_cases hd : w.js.depth > CALL_STACK_LIMIT
  · simp only [hd, if_true]; exact RR.pure (forRel_refl _ _)
  · simp only [hd, if_false]
    refine RR.bindSame _ fun ⟨wa, c⟩ => ?_
    refine RR.bindSame _ fun x => ?_
    simp only
    by_cases hf : x.info.balance < i.value
    · simp only [hf, if_true]; exact RR.pure (forRel_refl _ _)
    · simp only [hf, if_false]
      refine RR.bindSame _ fun ⟨j2, nn⟩ => ?_
      cases nn with
      | none => exact RR.pure (forRel_refl _ _)
      | some n => exact createTail_strict_rr cfg _ i mem _ ks

theorem createReturn_strict_rr (cfg : Cfg) (w : World) (k : Checkpoint) (a : Nat) (r : Interp.ChildResult)
    (ks : List Checkpoint) :
    RR (ValRel EqR ks ks) (createReturn journalOpsStrict cfg w k a r) (createReturn journalOps cfg w k a r) := by
  rw [createReturn_eq, createReturn_eq]
  obtain ⟨x, o⟩ := createVerdict cfg a r
  cases o with
  | none => exact RR.refl' (valRel_refl ks) _
  | some p =>
    exact RR.bind (strict_or (strict_setCode_or _ _ _)) (fun wa wb hab => by subst hab; exact RR.pure (valRel_refl ks _))

def strictSimE (e : Evm.Env) (spec : Nat) : TxSimE Esc journalOpsStrict journalOps e spec where
  R := EqR
  host := by
    intro ks1 w1 ks2 w2 op hR
    obtain ⟨h1, h2⟩ := hR; subst h1; subst h2
    exact RR.refl' (valRel_refl ks1) _
  callFrame := by
    intro ks1 w1 ks2 w2 i mem hR
    obtain ⟨h1, h2⟩ := hR; subst h1; subst h2
    rw [makeCallFrame_strict]
    exact RR.refl' (forRel_refl ks1) _
  createFrame := by
    intro ks1 w1 ks2 w2 i mem hR
    obtain ⟨h1, h2⟩ := hR; subst h1; subst h2
    exact makeCreateFrame_strict_rr _ _ _ _ _
  callRet := by
    intro k1 ks1 w1 k2 ks2 w2 r hR
    obtain ⟨h1, h2⟩ := hR
    simp only [List.cons.injEq] at h1
    obtain ⟨hk, hks⟩ := h1
    subst hk; subst hks; subst h2
    rw [callReturn_strict]
    exact RR.refl' (valRel_refl ks1) _
  createRet := by
    intro k1 ks1 w1 k2 ks2 w2 a r hR
    obtain ⟨h1, h2⟩ := hR
    simp only [List.cons.injEq] at h1
    obtain ⟨hk, hks⟩ := h1
    subst hk; subst hks; subst h2
    exact createReturn_strict_rr _ _ _ _ _ _
  R0 := fun w1 w2 => w1 = w2
  pre := by
    intro w1 w2 hR; subst hR
    refine RR.refl' (fun o => ?_) _
    cases o with
    | none => trivial
    | some p => exact ⟨rfl, rfl, rfl⟩
  load := by intro w1 w2 hR; subst hR; exact ⟨rfl, rfl⟩
  deduct := by
    intro w1 w2 hR; obtain ⟨_, h2⟩ := hR; subst h2
    exact RR.refl' (fun a => ⟨rfl, rfl⟩) _
  auth := by
    intro w1 w2 hR; obtain ⟨_, h2⟩ := hR; subst h2
    exact RR.refl' (fun a => ⟨rfl, rfl, rfl⟩) _
  fin := by
    intro w1 w2 fg rf ic res hR; obtain ⟨_, h2⟩ := hR; subst h2
    exact RR.refl' (valRel_refl []) _

theorem strict_is_model (fuel : Nat) (w : World) (e : Evm.Env) (spec : Nat) (x : Outcome × World)
    (h : Spec.Evm.transactStrict fuel w e spec = .ok x) : Evm.transact fuel w e spec = .ok x := by
  obtain ⟨o, w1'⟩ := x
  obtain ⟨⟨o', w2'⟩, h2, ho, hr⟩ := (transactWith_rr (strictSimE e (GasCalc.canon spec)) fuel w w rfl).ok h
  simp only at ho hr
  subst ho
  cases o with
  | rejected =>
    rw [Proofs.Evm.transactWith_rejected _ h]
    rw [Proofs.Evm.transactWith_rejected _ h2] at h2
    exact h2
  | executed r =>
    obtain ⟨_, hw⟩ := hr
    rw [hw]; exact h2

end Revm.Proofs.EvmRefine
