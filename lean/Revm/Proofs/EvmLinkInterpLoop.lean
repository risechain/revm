import Revm.Proofs.EvmLinkInterpFrame
import Revm.Proofs.EvmLinkTotalLoop
/-! C25's per-frame invariant carried through `run_the_loop`: `XInv` (every frame on the stack satisfies C25's `Inv` on
one shared memory) beside the journal half `NInv`; `AllInv` joins them with the loaded targets (`EvmInstLoaded.InvN`)
and C07's depth invariant (`NextInv`). `move_all` keeps it, and of the places where an iteration can fail (`Fail`) only
the soft failures remain (`fail_soft`); hence `tot3_contOf`. Lemmas about the journal / frame machine alone assume
`NInv` with `InvN`; those that need the interpreter not to fault assume `AllInv`. -/
namespace Revm.Proofs.EvmLink
open Revm Revm.Model Revm.Model.Evm
open Revm.Proofs.Evm (TotE contOf contOf_moves_fail Move Fail)
open Revm.Proofs.EvmInstSd (Resolved)
open Revm.Proofs.Memory (WF)
local notation "IInv" => Revm.Proofs.Interp.Inv
local notation "imeas" => Revm.Proofs.Interp.measure
local notation "iclen" => Revm.Proofs.Interp.clen
local notation "ISZ" => Memory.ISIZE_MAX

/-- the part of `Resid` that C25's invariant does not exclude: the fuel (legacy code never hands out the EOFCREATE
action: EOFCREATE stops at its `require_eof!`) -/
def Resid3 (e : Err) : Prop := e = .outOfFuel

theorem Resid3.resid {e : Err} (h : Resid3 e) : Resid e := Or.inr (Or.inr (Or.inr (Or.inr h)))

/-- `TotE (fun e => Soft e ∨ Resid3 e)` written out: success, a soft failure or "out of fuel" -/
def Tot3 {α} (x : R α) (P : α → Prop) : Prop :=
  match x with
  | .ok a => P a
  | .error e => Soft e ∨ Resid3 e

theorem tot3_mono {α} {x : R α} {P Q : α → Prop} (h : Tot3 x P) (hq : ∀ a, P a → Q a) : Tot3 x Q :=
  TotE.mono (E := fun e => Soft e ∨ Resid3 e) h (fun _ h => h) fun a _ => hq a
theorem Tot3.tot2 {α} {x : R α} {P : α → Prop} (h : Tot3 x P) : Tot2 x P :=
  TotE.mono (E := fun e => Soft e ∨ Resid3 e) h (fun _ h => h.imp_right Resid3.resid) fun _ _ h => h

/-- C25's `measure` (gas left + memory cost paid) summed over the frames of a stack -/
def msum : List JFrame → Nat
  | [] => 0
  | f :: rest => imeas f.interp + msum rest

/-- the state `c` of a frame of kind `k` sits on top of `rest` -/
def Link (c : Interp.IState) (k : FrameKind) : List JFrame → Prop
  | [] => True
  | p :: _ => AboveM c.mem p.interp.mem ∧ KindOk k p.interp

/-- every frame satisfies C25's `Inv` and sits on its parent's memory (`Link`); the frame at height `k` has its
checkpoint at most `k · FB`, so with at most 1025 frames the shared buffer stays far below 2^62 -/
def SOk : List JFrame → Prop
  | [] => True
  | c :: rest => IInv c.interp ∧ c.interp.mem.lastCheckpoint ≤ rest.length * FB ∧ Link c.interp c.kind rest ∧ SOk rest

/-- `XInv` of a running stack; `gas` survives a call because an action hands the child gas the parent has paid for -/
structure SI (stack : List JFrame) (w : World) : Prop where
  sok : SOk stack
  gas : msum stack ≤ U64 - 2
  codes : StoreOk w

/-- the top frame has halted in state `s` with output `out` -/
structure HT (s : Interp.IState) (k : FrameKind) (rest : List JFrame) (out : List Nat) : Prop where
  wf : WF s.mem
  link : Link s k rest
  srest : SOk rest
  gas : imeas s + msum rest ≤ U64 - 2
  out : out.length ≤ ISZ

/-- the interpreter half of the invariant of a loop state (`NInv` of `Proofs/EvmLinkTotalLoop.lean` is the journal
half): the frames satisfy C25's invariant on one shared memory, within the gas of a `u64`, over a store of Rust `Bytes` -/
def XInv : Next Journal.Checkpoint → Prop
  | .run stack w => SI stack w
  | .ended top rest _ out s w => HT s top.kind rest out ∧ StoreOk w
  | .done _ _ => True

theorem link_ckEq {s x : Interp.IState} {k : FrameKind} {rest : List JFrame} (h : Link s k rest) (hc : CkEq s x) :
    Link x k rest := by
  cases rest with
  | nil => trivial
  | cons p rest' => exact ⟨⟨hc.2.trans h.1.1, hc.1.trans h.1.2⟩, h.2⟩

theorem tot_deliver {kind : FrameKind} {o : Interp.ChildResult} {parent : JFrame} {rest : List JFrame}
    {mem : Memory.SharedMemory} {w : World}
    (hp : IInv parent.interp) (hsh : Revm.Proofs.Interp.Shape parent.interp.mem mem)
    (hk : KindOk kind parent.interp)
    (hlc : parent.interp.mem.lastCheckpoint ≤ rest.length * FB) (hlink : Link parent.interp parent.kind rest)
    (hrest : SOk rest) (gl : Nat) (hg : o.gasRemaining ≤ gl) (hB : imeas parent.interp + gl + msum rest ≤ U64 - 2)
    (hnf : RGood o.result) (hol : o.output.length ≤ ISZ) (hcodes : StoreOk w) :
    Tot (deliver kind o parent rest mem w) XInv := by
  obtain ⟨hi', hm'⟩ := inv_setMem hp hsh
  have hk' : KindOk kind { parent.interp with mem := mem } := by
    cases kind with
    | call rs re =>
      show re - rs = 0 ∨ (rs ≤ re ∧ re ≤ iclen mem)
      rw [Revm.Proofs.Interp.clen_shape hsh]; exact hk
    | create a => trivial
  have hsat := insertBy_sat kind o { parent.interp with mem := mem } gl hi'.base (by rw [hm']; omega) hk' hg
    hnf.2.2.1 hol
  have hmem := insertBy_mem kind o { parent.interp with mem := mem } hi'.memWF hk'
  have hck0 : CkEq parent.interp { parent.interp with mem := mem } := ⟨hsh.1, hsh.2.1⟩
  unfold deliver
  split
  · rename_i u x heq
    rw [heq] at hsat hmem
    have hmid := Revm.Proofs.Interp.sat_ok_inv hsat
    have hck : CkEq parent.interp x := hck0.trans hmem
    have hix : IInv x := hi'.transfer hmid.2.2 hmid.1
    refine tot_pure ⟨⟨hix, ?_, link_ckEq hlink hck, hrest⟩, ?_, hcodes⟩
    · show x.mem.lastCheckpoint ≤ _
      rw [hck.1]; exact hlc
    · show imeas x + msum rest ≤ U64 - 2
      have := hmid.2.1
      rw [hm'] at this
      omega
  · rename_i r out x heq
    rw [heq] at hsat hmem
    have hmx := Revm.Proofs.Interp.sat_halt_inv hsat
    rw [hm'] at hmx
    have hck : CkEq parent.interp x := hck0.trans hmem.1
    refine tot_pure ⟨⟨hmem.2.1, link_ckEq hlink hck, hrest, by omega, ?_⟩, hcodes⟩
    rw [hmem.2.2]; exact Nat.zero_le _
  · rename_i f heq
    rw [heq] at hsat
    exact (Revm.Proofs.Interp.sat_fault_inv hsat).elim

/-- the instruction of a frame that satisfies C25's invariant, resolved over a store of Rust `Bytes`: the step facts
for the `Done` it ends as (RETURN / REVERT output is a slice of the memory), and the store stays -/
theorem resolved_good {he : HostEnv} {s : Interp.IState} {w w1 : World} {d : Interp.Done}
    (hr : Resolved he s w d w1) (hi : IInv s) (hc : StoreOk w) :
    StepOk2 s d ∧ StoreOk w1 ∧ ∀ r out s', d = .halt r out s' → out.length ≤ s'.mem.buffer.length := by
  refine ⟨hr.outAll (step_good2 s hi) fun _ ha => answer_respOk ha hc.1.hyp fun _ _ _ hl => w_loadCode_codes hl, ?_,
    fun r out s' e => ?_⟩
  · cases hr with
    | pure => exact hc
    | host _ _ _ _ _ ha => exact hc.eq (answer_hist ha []).only.store
  · subst e
    cases hr.all with
    | halt _ _ ho => exact ho hi.notInit

theorem tot_early (pco : PcOut) {cfg : Cfg} {top : JFrame} {rest : List JFrame} {w w1 w2 : World} {a : Interp.Action}
    {s : Interp.IState} {o : Interp.ChildResult} (hr : Resolved cfg.he top.interp w (.action a s) w1)
    (hmk : makeFrame journalOps cfg w1 a s.mem = .ok (.result o, w2)) (hx : SI (top :: rest) w) :
    Tot (deliver (kindOfAction a) o { top with interp := s } rest s.mem w2) XInv := by
  obtain ⟨ti, tlc, tlink, trest⟩ := hx.sok
  have hgas := hx.gas
  simp only [msum] at hgas
  obtain ⟨h2, hc1, _⟩ := resolved_good hr ti hx.codes
  cases h2 with
  | action ha =>
    obtain ⟨hi, hm, hret, hc, hin⟩ := ha
    obtain ⟨e1, e2⟩ := (makeFrame_out pco hmk hc1 hin.1).res _ rfl
    have hk : KindOk (kindOfAction a) s := by
      cases a with
      | call i => exact hret
      | create i => trivial
      | eofCreate i => trivial
    exact tot_deliver (parent := { top with interp := s }) hi (Revm.Proofs.Interp.Shape.refl _) hk
      (by rw [hc.1]; exact tlc) (link_ckEq tlink hc) trest a.gasLimit e1
      (by show imeas s + a.gasLimit + msum rest ≤ U64 - 2; omega) (makeFrame_rgood hmk) e2
      (hc1.eq ((makeFrame_out pco hmk hc1 hin.1).store))

theorem tot_ret {cfg : Cfg} {top parent : JFrame} {rest : List JFrame} {r : Interp.IResult}
    {out : List Nat} {s : Interp.IState} {w w1 : World} {mem res} (hm : freeCtx s.mem = .ok mem)
    (hret : frameReturn journalOps cfg top w (resultOf r out s) = .ok (res, w1)) (hrg : RGood r)
    (ht : HT s top.kind (parent :: rest) out) (hc : StoreOk w) :
    Tot (deliver top.kind res parent rest mem w1) XInv := by
  obtain ⟨pi, plc, plink, prest⟩ := ht.srest
  obtain ⟨m', hm', hshape⟩ := freeContext_above ht.wf pi.memWF ht.link.1
  cases hm.symm.trans (freeCtx_eq hm')
  obtain ⟨g1, g2, g3⟩ := frameReturn_out hret hc
  have hgas := ht.gas
  simp only [msum] at hgas
  have hmeas : s.gas.remaining ≤ imeas s := Nat.le_add_right _ _
  exact tot_deliver pi hshape ht.link.2 plc plink prest (imeas s) (Nat.le_trans g1 hmeas) (by omega)
    (frameReturn_rgood (res := resultOf r out s) hrg hret) (Nat.le_trans g2 ht.out) (g3 ht.out)

theorem move_xinv (pco : PcOut) {cfg : Cfg} (henv : Revm.Proofs.Interp.EnvOk cfg.spec cfg.env) {b : Bool}
    {n m : Next Journal.Checkpoint} (h : Move journalOps cfg b n m) (hn : NInv n) (hd : NextInv n) (hx : XInv n) :
    XInv m := by
  have hU := U64_val
  cases h with
  | @next top rest _ s' _ hr =>
    obtain ⟨ti, tlc, tlink, trest⟩ := hx.sok
    have hgas := hx.gas
    simp only [msum] at hgas
    obtain ⟨h2, hc1, _⟩ := resolved_good hr ti hx.codes
    cases h2 with
    | next hn' =>
      obtain ⟨hi, hm, hc⟩ := hn'
      refine ⟨⟨hi, ?_, link_ckEq tlink hc, trest⟩, ?_, hc1⟩
      · show _ ≤ rest.length * FB
        rw [hc.1]; exact tlc
      · show imeas s' + msum rest ≤ U64 - 2
        omega
  | @halt top rest _ _ _ _ _ hr =>
    obtain ⟨ti, tlc, tlink, trest⟩ := hx.sok
    have hgas := hx.gas
    simp only [msum] at hgas
    obtain ⟨h2, hc1, hout⟩ := resolved_good hr ti hx.codes
    cases h2 with
    | halt hh =>
      obtain ⟨hm, hw, hc⟩ := hh
      exact ⟨⟨hw, link_ckEq tlink hc, trest, by omega, Nat.le_trans (hout _ _ _ rfl) hw.2.2⟩, hc1⟩
  | @push top rest _ a s _ f _ hr hmk =>
    obtain ⟨ti, tlc, tlink, trest⟩ := hx.sok
    have hgas := hx.gas
    simp only [msum] at hgas
    obtain ⟨h2, hc1, _⟩ := resolved_good hr ti hx.codes
    cases hd with
    | run hd =>
    have hlen : rest.length + 1 ≤ CALL_STACK_LIMIT + 1 := hd.2.2
    cases h2 with
    | action ha =>
      obtain ⟨hs, hm, hret, hc, hin⟩ := ha
      have hlc : s.mem.lastCheckpoint ≤ rest.length * FB := by rw [hc.1]; exact tlc
      have hbuf := buffer_le hs (by omega) rest.length hlc
      have hbuf62 : s.mem.buffer.length ≤ 2^62 := by
        unfold CALL_STACK_LIMIT at hlen
        unfold FB at hbuf
        generalize rest.length = n at hbuf hlen
        omega
      obtain ⟨fi, fm, fmem, fk⟩ := makeFrame_init pco hmk hc1 hin.1 (by omega) henv hs.memWF hbuf62
      refine ⟨⟨fi, ?_, ⟨?_, ?_⟩, hs, hlc, link_ckEq tlink hc, trest⟩, ?_,
        hc1.eq ((makeFrame_out pco hmk hc1 hin.1).store)⟩
      · rw [fmem]
        show s.mem.buffer.length ≤ (rest.length + 1) * FB
        exact hbuf
      · rw [fmem]; exact ⟨rfl, rfl⟩
      · cases a with
        | call i => rw [show f.kind = .call i.retStart i.retEnd from fk]; exact hret
        | create i => obtain ⟨ad, hk⟩ := fk; rw [hk]; trivial
        | eofCreate i => obtain ⟨ad, hk⟩ := fk; rw [hk]; trivial
      · show imeas f.interp + (imeas s + msum rest) ≤ U64 - 2
        rw [fm]; omega
  | early hr hmk hdl =>
    have := tot_early pco hr hmk hx
    rw [hdl] at this
    exact this
  | done => trivial
  | ret hm hret hdl =>
    have := tot_ret hm hret hn.2 hx.1 hx.2
    rw [hdl] at this
    exact this

/-- the whole invariant of a loop state: the journal half with the targets loaded, journal depth = stack length, and
the interpreter half -/
def AllInv (n : Next Journal.Checkpoint) : Prop :=
  (NInv n ∧ Proofs.EvmInstLoaded.InvN n) ∧ NextInv n ∧ XInv n

theorem move_all (pco : PcOut) {cfg : Cfg} (henv : Revm.Proofs.Interp.EnvOk cfg.spec cfg.env) {b : Bool}
    {n m : Next Journal.Checkpoint} (h : Move journalOps cfg b n m) (hj : AllInv n) : AllInv m :=
  ⟨move_ninv h hj.1, move_inv h hj.2.1, move_xinv pco henv h hj.1.1 hj.2.1 hj.2.2⟩

/-- what can stop an iteration of `run_the_loop` is a soft failure of a component: no interpreter fault, no fault of
an outcome insertion, `free_context` succeeds, no EOFCREATE action -/
theorem fail_soft (pco : PcOut) {cfg : Cfg} (henv : Revm.Proofs.Interp.EnvOk cfg.spec cfg.env)
    {n : Next Journal.Checkpoint} {e : Err} (h : Fail journalOps cfg n e) (hj : AllInv n) : Soft e := by
  induction h with
  | empty => exact absurd rfl hj.1.1.1
  | answer hs ha =>
    have := tot_answer hj.1.1.2.ok cfg.he _ (hok_of_step hs hj.1.2.head)
    rw [ha] at this
    exact this
  | fault hr =>
    obtain ⟨h2, _⟩ := resolved_good hr hj.2.2.sok.1 hj.2.2.codes
    cases h2
  | @make _ _ _ a s _ _ hr hmk =>
    obtain ⟨h2, _⟩ := resolved_good hr hj.2.2.sok.1 hj.2.2.codes
    have := tot_makeFrame (cfg := cfg) (hj.1.1.2.resolved hj.1.2.head hr).ok a s.mem
      (by cases h2 with | action ha => exact ha.2.2.2.2.2)
    rw [hmk] at this
    exact this
  | early hr hmk hdl =>
    have := tot_early pco hr hmk hj.2.2
    rw [hdl] at this
    exact this
  | halt hr _ ih => exact ih (move_all pco henv (.halt hr) hj)
  | free hm =>
    obtain ⟨m', hm'⟩ := Revm.Proofs.Memory.freeContext_ok hj.2.2.1.wf
    cases hm.symm.trans (freeCtx_eq hm')
  | @ret _ _ r out s _ _ _ _ hret =>
    have := tot_frameReturn (cfg := cfg) hj.1.1.1 (resultOf r out s)
    rw [hret] at this
    exact this
  | deliver hm hret hdl =>
    have := tot_ret hm hret hj.1.1.2 hj.2.2.1 hj.2.2.2
    rw [hdl] at this
    exact this

/-- `run_the_loop`, for every fuel, ends in a result on a well-formed world, a soft failure or "out of fuel" -/
theorem tot3_contOf (pco : PcOut) (cfg : Cfg) (henv : Revm.Proofs.Interp.EnvOk cfg.spec cfg.env) (fuel : Nat)
    (n : Next Journal.Checkpoint) (hj : AllInv n) :
    Tot3 (contOf journalOps cfg fuel n) (fun p => WOk p.2 ∧ RGood p.1.result) :=
  TotE.mono (contOf_moves_fail (E := fun e => Soft e ∨ Resid3 e) (Or.inr rfl) (move_all pco henv)
    (fun f hj => .inl (fail_soft pco henv f hj)) fuel n hj) (fun _ h => h) fun _ _ h => h.1.1

end Revm.Proofs.EvmLink
