import Revm.Proofs.EvmRefineTx
import Revm.Proofs.EvmRefineFrame
/-! The whole-transaction refinement (`transact_refines_spec_total`, from a world that satisfies `Start`): the model under
the journal discipline and the specification under the snapshot discipline give the same outcome and the same observable
post-state, or stop with a model-level error of the same kind — for every program, transaction, fork and fuel, for every
admissible run (`transactStrict` does not stop at a check). Before it, the transactions that validation does not accept
(`Evm.refines_spec_of_not_accepted`): there the subroutine discipline is never consulted. -/
namespace Revm.Proofs.Evm
open Revm Revm.Model Revm.Model.Evm Revm.Spec.Evm

theorem ObsEq_error_refl (err : Err) (x : R (Outcome × World)) (h : x = .error err) : ObsEq x x := by
  subst h
  cases err <;> exact trivial

theorem transactWith_of_preverify_none {κ : Type} (C : CpOps κ) (fuel : Nat) (w : World) (e : Env) (spec : Nat)
    (h : preverify w e (GasCalc.canon spec) = .ok none) : transactWith C fuel w e spec = .ok (.rejected, w) := by
  unfold transactWith
  simp only [bind, Except.bind, h]
  rfl

theorem transactWith_of_preverify_error {κ : Type} (C : CpOps κ) (fuel : Nat) (w : World) (e : Env) (spec : Nat)
    (err : Err) (h : preverify w e (GasCalc.canon spec) = .error err) : transactWith C fuel w e spec = .error err := by
  unfold transactWith
  simp only [bind, Except.bind, h]

/-- as long as validation does not accept the transaction, the subroutine discipline is never consulted: the model and
the specification give the same answer (rejected, or the same failure) -/
theorem refines_spec_of_not_accepted (fuel : Nat) (w : World) (e : Env) (spec : Nat)
    (h : ∀ x, preverify w e (GasCalc.canon spec) ≠ .ok (some x)) :
    ObsEq (Evm.transact fuel w e spec) (Spec.Evm.transact fuel w e spec) := by
  unfold Evm.transact Spec.Evm.transact
  cases hp : preverify w e (GasCalc.canon spec) with
  | error err =>
    rw [transactWith_of_preverify_error _ _ _ _ _ _ hp, transactWith_of_preverify_error _ _ _ _ _ _ hp]
    exact ObsEq_error_refl err _ rfl
  | ok o =>
    cases o with
    | none =>
      rw [transactWith_of_preverify_none _ _ _ _ _ hp, transactWith_of_preverify_none _ _ _ _ _ hp]
      exact trivial
    | some x => exact absurd hp (h x)

/-- for non-vacuity examples: validation did not accept -/
def notAccepted {α} : R (Option α) → Bool
  | .ok (some _) => false
  | _ => true

theorem ne_some_of_notAccepted {α} {x : R (Option α)} (h : notAccepted x = true) : ∀ y, x ≠ .ok (some y) := by
  intro y hy
  rw [hy] at h
  exact Bool.noConfusion h

end Revm.Proofs.Evm

namespace Revm.Proofs.EvmRefine
open Revm Revm.Model Revm.Model.Journal Revm.Spec.JournalAbs Revm.Proofs.Journal Revm.Proofs.Frame
open Revm.Model.Evm
open Revm.Spec.Evm (snapshotOps journalOpsStrict observe ObsEq)
open Revm.Proofs.EvmRR Revm.Proofs.EvmSim

/-- the generic simulation at `CfgRel`; its journal side is the strict machine, `strictSimE` leads from there to the model -/
def refineSimE (e : Evm.Env) (spec : Nat) : TxSimE Esc journalOpsStrict snapshotOps e spec where
  R := CfgRel
  host := fun _ _ _ _ op hR => host_rr _ hR op
  callFrame := fun _ _ _ _ i mem hR => makeCallFrame_rr _ i mem hR
  createFrame := fun _ _ _ _ i mem hR => makeCreateFrame_rr _ i mem hR
  callRet := fun k1 _ _ k2 _ _ r hR => callRet_rr k1 k2 r hR
  createRet := fun k1 _ _ k2 _ _ a r hR => createRet_rr _ k1 k2 a r hR
  R0 := R0
  pre := fun _ _ hR => pre_rr e spec hR
  load := fun _ _ hR => load_rel e spec hR
  deduct := fun _ _ hR => deduct_rr e spec hR
  auth := fun _ _ hR => auth_rr e spec hR
  fin := fun _ _ fg rf ic res hR => fin_rr e spec fg rf ic res hR

/-- the changed slots an observer sees are a function of the abstract slots: a slot never read counts as unchanged -/
theorem changed_eq (db : Db) (a : Addr) (c : Bool) (st : Nat → Option Slot) (k : Nat) :
    (match st k with
      | some sl => if sl.present ≠ sl.orig then some sl.present else none
      | none => none) =
    (if (slotsOf db a c st k).present ≠ (slotsOf db a c st k).orig then some (slotsOf db a c st k).present else none) := by
  unfold slotsOf
  cases st k with
  | some sl => rfl
  | none => simp

theorem observe_rel {w1 w2 : World} (h : CfgRel [] w1 [] w2) (a : Addr) :
    match observe w1 a, observe w2 a with
    | some x, some y => x.Eqv y
    | none, none => True
    | _, _ => False := by
  unfold observe
  cases hx : w1.js.state a with
  | none =>
    rw [h.w.rel.get_none hx]
    trivial
  | some x =>
    obtain ⟨y, hy, ar⟩ := h.w.rel.get hx
    rw [hy]
    obtain ⟨e1, e2, e3, e4, e5, e6, e7, e8, e9⟩ := ar
    simp only
    rw [← e6]
    by_cases ht : x.touched = true
    · simp only [ht, if_true]
      refine ⟨e4, e5, e1, e2, e3, fun k => ?_⟩
      show (match x.storage k with
        | some sl => if sl.present ≠ sl.orig then some sl.present else none
        | none => none) = (match y.storage k with
        | some sl => if sl.present ≠ sl.orig then some sl.present else none
        | none => none)
      rw [changed_eq (dbPre w1.pre) a x.created, changed_eq (dbPre w1.pre) a y.created, congrFun e9 k]
    · simp only [ht, Bool.false_eq_true, if_false]

/-- what the refinement theorem asks of the world a transaction starts from; a fresh `Evm` meets it (`start_fresh`).
`hs`: the database implements `has_storage` (see `WRel`); `good`: journal well-formedness of C06 / C07. -/
structure Start (w : World) : Prop where
  jne : w.js.journal ≠ []
  code : CodeOk w.js
  pres : ∀ a, w.addrs.contains a = (w.js.state a).isSome
  hs : w.dbHasStorage = true
  bal : ∀ p ∈ w.pre, p.balance < W
  good : Good w.js

theorem entryRel_refl (db : Db) (a : Addr) (o : Option Acct) : EntryRel db a o o := by
  cases o with
  | none => trivial
  | some x => exact ⟨rfl, rfl, rfl, rfl, rfl, rfl, rfl, rfl, rfl⟩

theorem R0_refl {w : World} (h : Start w) : R0 w w :=
  ⟨CfgRel.nil_intro ⟨⟨fun a => entryRel_refl _ a _, fun _ _ => rfl, rfl, rfl, rfl, rfl, h.jne, h.jne, h.code, h.code⟩,
      rfl, rfl, rfl, rfl, h.hs, h.hs, h.pres, h.bal⟩ h.good,
   fun a x y hx hy => by rw [hx] at hy; cases hy; rfl⟩

/-- the world of a fresh `Evm` over a database with faithful `has_storage` and 256-bit balances -/
theorem start_fresh (spec : Nat) (pre : List PreAcct) (oracle : List PcAnswer) (hbal : ∀ p ∈ pre, p.balance < W) :
    Start (Spec.Evm.freshWorld spec pre true oracle) :=
  ⟨by simp [Spec.Evm.freshWorld, JState.new], fun a acc h => by simp [Spec.Evm.freshWorld, JState.new] at h,
   fun a => by simp [Spec.Evm.freshWorld, JState.new], rfl, hbal, good_new _ _⟩

/-- journal discipline refines snapshot discipline: `transactWith_rr` at `refineSimE`, read on a completed strict run -/
theorem strict_refines_spec (fuel : Nat) (w : World) (e : Evm.Env) (spec : Nat) (hw : Start w) (o : Outcome)
    (w1' : World) (h : Spec.Evm.transactStrict fuel w e spec = .ok (o, w1')) :
    ∃ w2', Spec.Evm.transact fuel w e spec = .ok (o, w2') ∧ OutRel (fun a b => CfgRel [] a [] b) o w1' w2' := by
  obtain ⟨⟨o', w2'⟩, h2, ho, hr⟩ := (transactWith_rr (refineSimE e (GasCalc.canon spec)) fuel w w (R0_refl hw)).ok h
  simp only at ho hr
  subst ho
  exact ⟨w2', h2, hr⟩

/-- on a completed strict run: model and specification agree on outcome class, gas, refund, output, created address, logs
and the post-state of the touched accounts (`ObsEq`) -/
theorem transact_refines_spec_of_strict (fuel : Nat) (w : World) (e : Evm.Env) (spec : Nat) (hw : Start w)
    (x : Outcome × World) (h : Spec.Evm.transactStrict fuel w e spec = .ok x) :
    ObsEq (Evm.transact fuel w e spec) (Spec.Evm.transact fuel w e spec) := by
  obtain ⟨o, w1'⟩ := x
  obtain ⟨w2', h2, hr⟩ := strict_refines_spec fuel w e spec hw o w1' h
  rw [strict_is_model fuel w e spec _ h, h2]
  cases o with
  | rejected => trivial
  | executed r => exact ⟨⟨rfl, rfl, rfl, rfl, rfl, rfl⟩, fun a => observe_rel hr a⟩

/-- the strict run stops at one of its two admissibility checks -/
def StopsInadmissible (x : R (Outcome × World)) : Prop := ∃ e, x = .error e ∧ Esc e

theorem kind_obsEq {e e1 e2 : Err} (h1 : Kind e e1) (h2 : Kind e e2) :
    ObsEq (.error e1) (.error e2) := by
  cases e <;> cases e1 <;> cases e2 <;> first | trivial | exact h1.elim | exact h2.elim

/-- C01's closed statement, errors included: for every fuel, unless the strict run stops at an admissibility check, model
and specification are `ObsEq`, or stop with a model-level error of the same kind (panic / fatal / missing oracle answer /
out of fuel) -/
theorem transact_refines_spec_total (fuel : Nat) (w : World) (e : Evm.Env) (spec : Nat) (hw : Start w)
    (hadm : ¬ StopsInadmissible (Spec.Evm.transactStrict fuel w e spec)) :
    ObsEq (Evm.transact fuel w e spec) (Spec.Evm.transact fuel w e spec) := by
  have hA := transactWith_rr (refineSimE e (GasCalc.canon spec)) fuel w w (R0_refl hw)
  have hB := transactWith_rr (strictSimE e (GasCalc.canon spec)) fuel w w rfl
  cases hs : Spec.Evm.transactStrict fuel w e spec with
  | ok x =>
    exact transact_refines_spec_of_strict fuel w e spec hw x hs
  | error err =>
    have hne : ¬ Esc err := fun hh => hadm ⟨err, hs, hh⟩
    have hs' : transactWith journalOpsStrict fuel w e spec = .error err := hs
    rcases RR.err hA hs' with h | ⟨e2, he2, hk2⟩
    · exact absurd h hne
    · rcases RR.err hB hs' with h | ⟨e1, he1, hk1⟩
      · exact absurd h hne
      · show ObsEq (transactWith journalOps fuel w e spec) (transactWith snapshotOps fuel w e spec)
        rw [he1, he2]
        exact kind_obsEq hk1 hk2

end Revm.Proofs.EvmRefine
