import Revm.Proofs.StaticOps
/-! C10: `WorldEq` is reflexive and transitive; undoing benign journal entries is `Benign`; `RegionOk`: the journal
levels above a static frame's start hold nothing else; `Inv`, the invariant of a run inside a static frame, kept by every
`Static.allowed` operation (`inv_step`, `inv_run`). `sAllowed` and `sinv_*` are the form `EvmLinkStaticLoop` uses:
checkpoints counted from the frame's start (`Inv db 0 …`) and no bound on the amount of a transfer. -/
namespace Revm.Proofs.Static
open Revm Revm.Model.Journal Revm.Spec.JournalAbs Revm.Model.Static

theorem WorldEq.refl (db : Db) (s : JState) : WorldEq db s s := ⟨fun _ => rfl, fun _ _ => rfl, fun _ _ => rfl, rfl⟩

theorem WorldEq.trans {db : Db} {a b c : JState} (h1 : WorldEq db a b) (h2 : WorldEq db b c) : WorldEq db a c :=
  ⟨fun x => (h1.1 x).trans (h2.1 x), fun x k => (h1.2.1 x k).trans (h2.2.1 x k),
   fun x k => (h1.2.2.1 x k).trans (h2.2.2.1 x k), h1.2.2.2.trans h2.2.2.2⟩

theorem wadd_zero {b : Nat} (hb : b < W) : U256.wadd b 0 = b := by
  unfold U256.wadd; simpa using Nat.mod_eq_of_lt hb

theorem bsub_zero (b : Nat) : bsub b 0 = b := by simp [bsub]

theorem undoEntry_benign {db : Db} {sd : Bool} {s : JState} {e : Entry} {s' : JState} (hb : BalOk db s)
    (he : benignEntry e = true) (h : undoEntry sd s e = some s') : Benign db s s' := by
  cases e with
  | accountWarmed a =>
    obtain ⟨acc, hacc, h⟩ := Option.bind_eq_some_iff.1 h
    cases h; exact benign_setAcct_upd hacc ⟨rfl, rfl, rfl, rfl, rfl, rfl, fun _ => rfl⟩
  | accountTouched a =>
    simp only [undoEntry] at h
    split at h
    · cases h; exact Benign.refl _ _
    · obtain ⟨acc, hacc, h⟩ := Option.bind_eq_some_iff.1 h
      cases h; exact benign_setAcct_upd hacc ⟨rfl, rfl, rfl, rfl, rfl, rfl, fun _ => rfl⟩
  | storageWarmed a k =>
    obtain ⟨acc, hacc, h⟩ := Option.bind_eq_some_iff.1 h
    obtain ⟨sl, hsl, h⟩ := Option.bind_eq_some_iff.1 h
    cases h; exact benign_setAcct_upd hacc (sim_setSlot_mark true hsl)
  | balanceTransfer src dst bal =>
    simp only [benignEntry, Bool.and_eq_true, Bool.or_eq_true, decide_eq_true_eq] at he
    obtain ⟨hbal, hcase⟩ := he
    obtain ⟨f, hf, h⟩ := Option.bind_eq_some_iff.1 h
    obtain ⟨t, hto, h⟩ := Option.bind_eq_some_iff.1 h
    cases h
    have hfb : f.info.balance < W := balOk_acc hb hf
    rcases hcase with hsd | h0
    · -- caller = target: the amount is given back and taken away again
      subst hsd
      simp only [setAcct, ↓reduceIte, Option.some.injEq] at hto
      subst hto
      exact benign_setAcct2 hf ⟨(Proofs.Journal.bsub_wadd_cancel hfb hbal).symm, rfl, rfl, rfl, rfl, rfl, fun _ => rfl⟩
    · subst h0
      have B1 : Benign db s (setAcct s src { f with info := { f.info with balance := U256.wadd f.info.balance 0 } }) :=
        benign_setAcct_upd hf ⟨(wadd_zero hfb).symm, rfl, rfl, rfl, rfl, rfl, fun _ => rfl⟩
      exact B1.trans (benign_setAcct_upd hto ⟨(bsub_zero _).symm, rfl, rfl, rfl, rfl, rfl, fun _ => rfl⟩)
  | _ => cases he

theorem undoLevel_benign {db : Db} {sd : Bool} : ∀ (l : List Entry) (s s' : JState), BalOk db s →
    (∀ e ∈ l, benignEntry e = true) → undoLevel sd s l = some s' → Benign db s s'
  | [], s, s', _, _, h => by
    simp [undoLevel] at h; subst h; exact Benign.refl _ _
  | e :: rest, s, s', hb, hl, h => by
    unfold undoLevel at h
    cases h1 : undoEntry sd s e with
    | none => simp [h1] at h
    | some s1 =>
      simp only [h1, Option.bind_eq_bind, Option.bind_some] at h
      have B1 := undoEntry_benign hb (hl e (by simp)) h1
      exact B1.trans (undoLevel_benign rest s1 s' (balOk_of_world hb B1.world) (fun e he => hl e (by simp [he])) h)

/-- every journal level above the first `L` (oldest) ones holds only benign entries -/
def RegionOk (L : Nat) : List (List Entry) → Prop
  | [] => True
  | l :: rest => rest.length + 1 ≤ L ∨ ((∀ e ∈ l, benignEntry e = true) ∧ RegionOk L rest)

theorem regionOk_of_short {L : Nat} : ∀ (j : List (List Entry)), j.length ≤ L → RegionOk L j
  | [], _ => trivial
  | _ :: rest, h => Or.inl (by simpa using h)

theorem regionOk_tail {L : Nat} {l : List Entry} {rest : List (List Entry)} (h : RegionOk L (l :: rest)) : RegionOk L rest := by
  rcases h with h | h
  · exact regionOk_of_short rest (by omega)
  · exact h.2

theorem regionOk_drop {L : Nat} : ∀ (n : Nat) (j : List (List Entry)), RegionOk L j → RegionOk L (j.drop n)
  | 0, j, h => by simpa using h
  | _ + 1, [], _ => by simp [RegionOk]
  | n + 1, _ :: rest, h => by simpa using regionOk_drop n rest (regionOk_tail h)

theorem regionOk_ext {L : Nat} {j j' : List (List Entry)} (he : JournalExt j j') (h : RegionOk L j) : RegionOk L j' := by
  cases j with
  | nil => simp only [JournalExt] at he; subst he; trivial
  | cons l rest =>
    obtain ⟨es, hes, rfl⟩ := he
    rcases h with h | h
    · exact Or.inl h
    · refine Or.inr ⟨fun e hm => ?_, h.2⟩
      rcases List.mem_append.mp hm with hm | hm
      · exact hes e hm
      · exact h.1 e hm

theorem journalExt_length {j j' : List (List Entry)} (he : JournalExt j j') : j'.length = j.length := by
  cases j with
  | nil => simp only [JournalExt] at he; subst he; rfl
  | cons l rest => obtain ⟨es, _, rfl⟩ := he; rfl

theorem undoLevels_benign {db : Db} {sd : Bool} {L : Nat} : ∀ (j : List (List Entry)) (n : Nat) (s s' : JState),
    RegionOk L j → n + L ≤ j.length → BalOk db s → undoLevels sd s (j.take n) = some s' → Benign db s s'
  | [], n, s, s', _, _, _, h => by
    simp [undoLevels] at h; subst h; exact Benign.refl _ _
  | _ :: _, 0, s, s', _, _, _, h => by
    simp [undoLevels] at h; subst h; exact Benign.refl _ _
  | l :: rest, n + 1, s, s', hr, hn, hb, h => by
    have hn' : n + L ≤ rest.length := by simp at hn; omega
    rcases hr with hr | hr
    · omega
    · simp only [List.take_succ_cons, undoLevels] at h
      cases h1 : undoLevel sd s l with
      | none => simp [h1] at h
      | some s1 =>
        simp only [h1, Option.bind_eq_bind, Option.bind_some] at h
        have B1 := undoLevel_benign l s s1 hb hr.1 h1
        exact B1.trans (undoLevels_benign rest n s1 s' hr.2 hn' (balOk_of_world hb B1.world) h)

/-- invariant of a run inside a static frame that started in state `s0` with `base` checkpoints handed out and `L`
journal levels: the world state is that of `s0`; the levels above the first `L` hold only benign entries; a
checkpoint handed out since points into that region, and reverting to it cuts no log -/
structure Inv (db : Db) (base L : Nat) (s0 : JState) (r : Run) : Prop where
  world : WorldEq db r.js s0
  len : L ≤ r.js.journal.length
  region : RegionOk L r.js.journal
  cps : ∀ i cp, base ≤ i → r.cps[i]? = some cp → L ≤ cp.journalI ∧ r.js.logs.length ≤ cp.logI

theorem inv_benign {db : Db} {base L : Nat} {s0 : JState} {r : Run} {s' : JState} (hi : Inv db base L s0 r)
    (hB : Benign db r.js s') : Inv db base L s0 { r with js := s' } :=
  ⟨WorldEq.trans hB.world hi.world, by rw [journalExt_length hB.journal]; exact hi.len, regionOk_ext hB.journal hi.region,
   fun i cp hb hc => by
    have := hi.cps i cp hb hc
    show L ≤ cp.journalI ∧ s'.logs.length ≤ cp.logI
    rw [hB.logs]; exact this⟩

theorem inv_step {db : Db} {base L : Nat} {s0 : JState} {r : Run} {op : Op} {r' : Run} (hb0 : BalOk db s0)
    (hi : Inv db base L s0 r) (ha : allowed base op = true) (h : step db r op = some r') : Inv db base L s0 r' := by
  have hb : BalOk db r.js := balOk_of_world hb0 hi.world
  cases Proofs.Journal.step_called h with
  | load hl => exact inv_benign hi (loadAccount_benign hl)
  | loadCode hl => exact inv_benign hi (loadCode_benign hl)
  | loadDelegated hl => exact inv_benign hi (loadAccountDelegated_benign hl)
  | sload hl => exact inv_benign hi (sload_benign hl)
  | tload => exact hi
  | touch hl => exact inv_benign hi (touch_benign hl)
  | transfer hl =>
    simp only [allowed, Bool.and_eq_true, Bool.or_eq_true, decide_eq_true_eq] at ha
    exact inv_benign hi (transfer_benign hb ha.2 hl)
  | checkpoint =>
    refine ⟨hi.world, Nat.le_succ_of_le hi.len, Or.inr ⟨fun _ he => (nomatch he), hi.region⟩, ?_⟩
    intro i cp hbi hc
    show L ≤ cp.journalI ∧ r.js.logs.length ≤ cp.logI
    by_cases hlt : i < r.cps.length
    · rw [List.getElem?_append_left hlt] at hc
      exact hi.cps i cp hbi hc
    · -- the new checkpoint: taken at the current journal and log length
      rw [List.getElem?_append_right (by omega)] at hc
      cases hd : i - r.cps.length with
      | zero =>
        rw [hd] at hc; cases hc
        exact ⟨hi.len, Nat.le_refl _⟩
      | succ m => rw [hd] at hc; cases hc
  | commit => exact ⟨hi.world, hi.len, hi.region, hi.cps⟩
  | @revert i cp js' hcp hr =>
    simp only [allowed, decide_eq_true_eq] at ha
    obtain ⟨hL, hlog⟩ := hi.cps i cp ha hcp
    obtain ⟨hlen, s'', hu, rfl⟩ := Proofs.Journal.revert_spec hr
    -- only benign levels are undone, and no log is cut off
    have B : Benign db r.js s'' := undoLevels_benign r.js.journal _ r.js s'' hi.region (by omega) hb hu
    have hlogs : r.js.logs.take cp.logI = r.js.logs := List.take_of_length_le hlog
    have hw := WorldEq.trans B.world hi.world
    refine ⟨⟨hw.1, hw.2.1, hw.2.2.1, hlogs.trans hi.world.2.2.2⟩, ?_, regionOk_drop _ _ hi.region, ?_⟩
    · show L ≤ (r.js.journal.drop (r.js.journal.length - cp.journalI)).length
      rw [List.length_drop]; omega
    · intro j cpj hbj hcj
      show L ≤ cpj.journalI ∧ (r.js.logs.take cp.logI).length ≤ cpj.logI
      rw [hlogs]; exact hi.cps j cpj hbj hcj
  | _ => cases ha

theorem inv_run {db : Db} {base L : Nat} {s0 : JState} (hb0 : BalOk db s0) : ∀ (ops : List Op) (r r' : Run),
    Inv db base L s0 r → allowedAll base ops = true → run db r ops = some r' → Inv db base L s0 r'
  | [], r, r', hi, _, h => by simp only [run, Option.some.injEq] at h; subst h; exact hi
  | op :: ops, r, r', hi, ha, h => by
    simp only [allowedAll, List.all_cons, Bool.and_eq_true] at ha
    simp only [run] at h
    cases hs : step db r op with
    | none => simp [hs] at h
    | some r1 =>
      simp only [hs] at h
      exact inv_run hb0 ops r1 r' (inv_step hb0 hi ha.1 hs) ha.2 h

theorem inv_init (db : Db) (r : Run) : Inv db r.cps.length r.js.journal.length r.js r :=
  ⟨WorldEq.refl db r.js, Nat.le_refl _, regionOk_of_short _ (Nat.le_refl _),
   fun i cp hb hc => by
     have : r.cps[i]? = none := List.getElem?_eq_none hb
     rw [this] at hc; cases hc⟩

theorem allowed_mono {b : Nat} {op : Op} (h : allowed (b + 1) op = true) : allowed b op = true := by
  cases op with
  | revert i => exact decide_eq_true (Nat.le_of_succ_le (of_decide_eq_true h))
  | _ => exact h

/-- `Static.allowed 0` without its bound `v < W` on a transfer, which the invariant does not need -/
def sAllowed : Op → Bool
  | .transfer src dst v => decide (src = dst) || decide (v = 0)
  | op => allowed 0 op

/-- a transfer of an account to itself, or of nothing, is benign whatever its amount -/
theorem sinv_step {db : Db} {L : Nat} {s0 : JState} (hb0 : BalOk db s0) {r r' : Run} {op : Op} (hi : Inv db 0 L s0 r) (ha : sAllowed op = true)
    (h : step db r op = some r') : Inv db 0 L s0 r' := by
  cases Proofs.Journal.step_called h with
  | transfer hl =>
    simp only [sAllowed, Bool.or_eq_true, decide_eq_true_eq] at ha
    exact inv_benign hi (transfer_benign (balOk_of_world hb0 hi.world) ha hl)
  | _ => exact inv_step hb0 hi (by exact ha) h

theorem sinv_run {db : Db} {L : Nat} {s0 : JState} (hb0 : BalOk db s0) : ∀ {ops : List Op} {r r' : Run}, Inv db 0 L s0 r → ops.all sAllowed = true →
    run db r ops = some r' → Inv db 0 L s0 r'
  | [], r, r', hi, _, h => by cases h; exact hi
  | op :: ops, r, r', hi, ha, h => by
    simp only [List.all_cons, Bool.and_eq_true] at ha
    simp only [run] at h
    split at h
    · rename_i r1 h1
      exact sinv_run hb0 (sinv_step hb0 hi ha.1 h1) ha.2 h
    · cases h

end Revm.Proofs.Static
