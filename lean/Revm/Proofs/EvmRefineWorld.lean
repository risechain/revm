import Revm.Proofs.EvmRefineCfg
import Revm.Proofs.EvmSim
import Revm.Proofs.EvmLinkNoted
/-! The world-level operations on the two machines, as `RR` for `CfgRel` (`wX_rr`, `acct_rr`, `fetch_rr`; built with
`CfgRel.jop` / `CfgRel.step`); from them the `Host` of the interpreter (`host_rr`, the `host` obligation of the
simulation); `wIncNonce_rel` and `addCode_rel` for the frame constructors. -/
namespace Revm.Proofs.EvmRefine
open Revm Revm.Model Revm.Model.Journal Revm.Spec.JournalAbs Revm.Proofs.Journal Revm.Proofs.Frame
open Revm.Model.Evm (World PreAcct CpOps journalOps R ofOpt)
open Revm.Spec.Evm (Snap snapshotOps)
open Revm.Proofs.EvmRR

variable {ks1 : List Checkpoint} {ks2 : List Snap} {w1 w2 : World}

/-- result relation of the `wX_rr` lemmas whose operation returns a value beside the world -/
def WV {α : Type} (ks1 : List Checkpoint) (ks2 : List Snap) : World × α → World × α → Prop :=
  fun p1 p2 => p1.2 = p2.2 ∧ CfgRel ks1 p1.1 ks2 p2.1

theorem WV.ok {α : Type} {x1 x2 : R (World × α)} (h : RR (WV ks1 ks2) x1 x2) {w1' : World} {v : α}
    (hl : x1 = .ok (w1', v)) : ∃ w2', x2 = .ok (w2', v) ∧ CfgRel ks1 w1' ks2 w2' := by
  obtain ⟨⟨w2', v'⟩, h2, hv, hr⟩ := h.ok hl
  cases hv
  exact ⟨w2', h2, hr⟩

theorem wLoadAccount_rr (h : CfgRel ks1 w1 ks2 w2) (a : Addr) :
    RR (WV ks1 ks2) (w1.loadAccount a) (w2.loadAccount a) := by
  unfold World.loadAccount
  rw [loadAccount_congr (db_basic w1), loadAccount_congr h.db2]
  refine RR.bind (h.jop _ (·.noteAddr a) (·.noteAddr a) (loadAccount_rel h.w.rel (dbCode_pre _))
    (loadAccount_rel h.w.rel.symm (dbCode_pre _)) (fun p hp => loadAccount_fwd h.w.dbBal h.good hp)
    (fun q hq => (lvl_loadAccount hq).dom)
    (fun j' => (Upd.js w1 j').note a) (fun s' => (Upd.js w2 s').note a) (fun b => by simp)) ?_
  rintro ⟨j', c⟩ ⟨s', c'⟩ hpq
  exact RR.pure hpq

theorem wLoadAccount_rel (h : CfgRel ks1 w1 ks2 w2) {a : Addr} {w1' : World} {c : Bool}
    (hl : w1.loadAccount a = .ok (w1', c)) : ∃ w2', w2.loadAccount a = .ok (w2', c) ∧ CfgRel ks1 w1' ks2 w2' :=
  WV.ok (wLoadAccount_rr h a) hl

theorem wLoadCode_rr (h : CfgRel ks1 w1 ks2 w2) (a : Addr) :
    RR (WV ks1 ks2) (w1.loadCode a) (w2.loadCode a) := by
  unfold World.loadCode
  rw [loadCode_congr (db_basic w1), loadCode_congr h.db2]
  refine RR.bind (h.jop _ (·.noteAddr a) (·.noteAddr a) (loadCode_rel h.w.rel (dbCode_pre _))
    (loadCode_rel h.w.rel.symm (dbCode_pre _)) (fun p hp => loadCode_fwd h.w.dbBal h.good hp)
    (fun q hq => (lvl_loadCode hq).dom)
    (fun j' => (Upd.js w1 j').note a) (fun s' => (Upd.js w2 s').note a) (fun b => by simp)) ?_
  rintro ⟨j', c⟩ ⟨s', c'⟩ hpq
  exact RR.pure hpq

theorem wLoadCode_rel (h : CfgRel ks1 w1 ks2 w2) {a : Addr} {w1' : World} {c : Bool}
    (hl : w1.loadCode a = .ok (w1', c)) : ∃ w2', w2.loadCode a = .ok (w2', c) ∧ CfgRel ks1 w1' ks2 w2' :=
  WV.ok (wLoadCode_rr h a) hl

theorem wTouch_rr (h : CfgRel ks1 w1 ks2 w2) (a : Addr) :
    RR (fun a b => CfgRel ks1 a ks2 b) (w1.touch a) (w2.touch a) := by
  unfold World.touch
  refine RR.bind (RR.ofSim (P := fun j' s' => CfgRel ks1 { w1 with js := j' } ks2 { w2 with js := s' }) _
    ((touch_rel h.w.rel).withEq.mono ?_) (touch_rel (db := dbPre w1.pre) h.w.rel.symm)) (fun j' s' hpq => RR.pure hpq)
  rintro j' s' ⟨hrel, hp, hq⟩
  exact h.step (Upd.js w1 j') (Upd.js w2 s') hrel (touch_fwd h.w.dbBal h.good hp) (lvl_touch hq).dom (fun b => rfl)

theorem wTouch_rel (h : CfgRel ks1 w1 ks2 w2) {a : Addr} {w1' : World}
    (hl : w1.touch a = .ok w1') : ∃ w2', w2.touch a = .ok w2' ∧ CfgRel ks1 w1' ks2 w2' :=
  (wTouch_rr h a).ok hl

theorem wTransfer_rr (h : CfgRel ks1 w1 ks2 w2) (a b v : Nat) :
    RR (WV ks1 ks2) (w1.transfer a b v) (w2.transfer a b v) := by
  unfold World.transfer
  rw [transfer_congr (db_basic w1), transfer_congr h.db2]
  refine RR.bind (h.jop _ (fun w => (w.noteAddr a).noteAddr b) (fun w => (w.noteAddr a).noteAddr b)
    (transfer_rel h.w.rel (dbCode_pre _)) (transfer_rel h.w.rel.symm (dbCode_pre _))
    (fun p hp => transfer_fwd h.w.dbBal h.good hp) (fun q hq => (lvl_transfer hq).dom)
    (fun j' => ((Upd.js w1 j').note a).note b)
    (fun s' => ((Upd.js w2 s').note a).note b) (fun b => by simp)) ?_
  rintro ⟨j', e⟩ ⟨s', e'⟩ hpq
  exact RR.pure hpq

theorem wTransfer_rel (h : CfgRel ks1 w1 ks2 w2) {a b v : Nat} {w1' : World} {e : Option TransferErr}
    (hl : w1.transfer a b v = .ok (w1', e)) : ∃ w2', w2.transfer a b v = .ok (w2', e) ∧ CfgRel ks1 w1' ks2 w2' :=
  WV.ok (wTransfer_rr h a b v) hl

theorem db_eq_of {w w' : World} (hp : w'.pre = w.pre) (hc : w'.codes = w.codes) : w'.db = w.db := by
  unfold World.db World.preAcct World.codeOf
  rw [hp, hc]

theorem loadAccountDelegated_cached {dbw : Db} {s s' : JState} {a : Addr} {r}
    (h : loadAccountDelegated dbw s a = some (s', r)) : ∃ acc hh, s'.state a = some acc ∧ acc.info.code = some hh := by
  obtain ⟨e, c, d⟩ := r
  obtain ⟨s1, x, h1, hx, _, h⟩ := loadAccountDelegated_some h
  obtain ⟨x1, hh, hx1, hcx⟩ := loadCode_cached h1
  have hxx : x = x1 := Option.some.inj (hx.symm.trans hx1)
  subst hxx
  cases hd : Option.bind x.info.code dbw.delegate with
  | none =>
    simp only [hd] at h
    rw [h.1]
    exact ⟨x, hh, hx, hcx⟩
  | some dl =>
    simp only [hd] at h
    obtain ⟨dc, h2, _⟩ := h
    obtain ⟨x', hx', hi⟩ := loadAccount_info h2 a x hx
    exact ⟨x', hh, hx', by rw [hi]; exact hcx⟩

/-- both machines note the same delegate: it is read off the code cache, which `load_account_delegated` has filled on
both sides with the code of the hash (`CodeOk`) -/
theorem dlg_same {db dbw : Db} {j s j' s' : JState} {a : Addr} {r}
    (h1 : loadAccountDelegated dbw j a = some (j', r)) (h2 : loadAccountDelegated dbw s a = some (s', r))
    (hrel : JRel db j' s') :
    (s'.state a).bind (fun acc => acc.info.code.bind dbw.delegate) =
      (j'.state a).bind (fun acc => acc.info.code.bind dbw.delegate) := by
  obtain ⟨x, hh, hx, hcx⟩ := loadAccountDelegated_cached h1
  obtain ⟨y, hh', hy, hcy⟩ := loadAccountDelegated_cached h2
  have ar : ARel db a x y := by have := hrel.ent a; rw [hx, hy] at this; exact this
  have e3 : x.info.codeHash = y.info.codeHash := ar.2.2.1
  have hhx : hh = x.info.codeHash := hrel.cj a x hx hh hcx
  have hhy : hh' = y.info.codeHash := hrel.cs a y hy hh' hcy
  rw [hx, hy]
  simp only [Option.bind_some]
  rw [hcx, hcy, hhx, hhy, e3]

theorem wLoadAccountDelegated_rr (h : CfgRel ks1 w1 ks2 w2) (a : Addr) :
    RR (WV ks1 ks2) (w1.loadAccountDelegated a) (w2.loadAccountDelegated a) := by
  unfold World.loadAccountDelegated
  have hdb12 : w2.db = w1.db := db_eq_of h.w.pre h.w.codes
  rw [hdb12]
  refine RR.bind (RR.ofSim _
    (loadAccountDelegated_rel (db := dbPre w1.pre) (dbw := w1.db) (db_basic w1) h.w.rel (dbCode_pre _)).withEq
    (loadAccountDelegated_rel (db := dbPre w1.pre) (dbw := w1.db) (db_basic w1) h.w.rel.symm (dbCode_pre _))) ?_
  · rintro ⟨j', r⟩ ⟨s', r'⟩ ⟨⟨hr, hrel⟩, hj, hs'⟩
    simp only at hr hrel hj hs'
    subst hr
    refine RR.pure ⟨rfl, ?_⟩
    have hdbn1 : ({ w1 with js := j' }.noteAddr a).db = w1.db := db_eq_of (noteAddr_fields _ a).2.1 (noteAddr_fields _ a).2.2.1
    have hdbn2 : ({ w2 with js := s' }.noteAddr a).db = w1.db := by
      rw [← hdb12]; exact db_eq_of (noteAddr_fields _ a).2.1 (noteAddr_fields _ a).2.2.1
    simp only
    rw [hdbn1, hdbn2, dlg_same hj hs' hrel]
    have hfw := loadAccountDelegated_fwd (hs := hsPre w1.pre) h.w.dbBal (db_basic w1) h.good hj
    have hdom := (lvl_loadAccountDelegated hs').dom
    rw [dlg_same hj hs' hrel] at hdom
    cases hd : (j'.state a).bind (fun acc => acc.info.code.bind w1.db.delegate) with
    | none =>
      rw [hd] at hdom
      exact h.step ((Upd.js w1 j').note a) ((Upd.js w2 s').note a) hrel hfw hdom (fun b => by simp)
    | some d =>
      rw [hd] at hdom
      exact h.step (((Upd.js w1 j').note a).note d) (((Upd.js w2 s').note a).note d) hrel hfw hdom (fun b => by simp)

theorem wLoadAccountDelegated_rel (h : CfgRel ks1 w1 ks2 w2) {a : Addr} {w1' : World} {r : Bool × Bool × Option Bool}
    (hl : w1.loadAccountDelegated a = .ok (w1', r)) :
    ∃ w2', w2.loadAccountDelegated a = .ok (w2', r) ∧ CfgRel ks1 w1' ks2 w2' :=
  WV.ok (wLoadAccountDelegated_rr h a) hl

/-- result relation of `acct_rr`: the two worlds hold `x` and `y` at `a`, and these are related -/
def AcctRel (w1 w2 : World) (a : Addr) (x y : Acct) : Prop :=
  ARel (dbPre w1.pre) a x y ∧ w1.js.state a = some x ∧ w2.js.state a = some y

theorem acct_rr (h : CfgRel ks1 w1 ks2 w2) (a : Addr) : RR (AcctRel w1 w2 a) (w1.acct a) (w2.acct a) := by
  unfold World.acct
  refine RR.ofOpt _ (fun x hx => ?_) (fun hn => h.w.rel.get_none hn)
  obtain ⟨y, hy, ar⟩ := h.w.rel.get hx
  exact ⟨y, hy, ar, hx, hy⟩

theorem CfgRel.acct (h : CfgRel ks1 w1 ks2 w2) {a : Addr} {x : Acct} (hx : w1.acct a = .ok x) :
    ∃ y, w2.acct a = .ok y ∧ ARel (dbPre w1.pre) a x y ∧ w1.js.state a = some x ∧ w2.js.state a = some y :=
  (acct_rr h a).ok hx

/-- `ofOpt` of two options that complete with the same value; not related to `CfgRel.jop` -/
theorem jop_rr {α : Type} (msg : String) {o1 o2 : Option α} (hs : ∀ a, o1 = some a → o2 = some a)
    (hn : o1 = none → o2 = none) : RR (fun a b => a = b ∧ o1 = some a ∧ o2 = some b) (ofOpt msg o1) (ofOpt msg o2) :=
  RR.ofOpt msg (fun a ha => ⟨a, hs a ha, rfl, ha, hs a ha⟩) hn

open Revm.Model.Evm (World R ofOpt answer HostEnv)
open Revm.Proofs.EvmRR Revm.Proofs.EvmSim

variable {ks1 : List Checkpoint} {ks2 : List Snap} {w1 w2 : World}

theorem CfgRel.codeOf (h : CfgRel ks1 w1 ks2 w2) (hh : Nat) : w2.codeOf hh = w1.codeOf hh := by
  unfold World.codeOf; rw [h.w.codes]

/-- after `load_code` on both machines the two entries of the account carry the same `AccountInfo`, cache included -/
theorem fetch_info (a : Addr) {wa wb : World} {c c' : Bool} {x y : Acct}
    (h1 : w1.loadCode a = .ok (wa, c)) (h2 : w2.loadCode a = .ok (wb, c')) (hr : CfgRel ks1 wa ks2 wb)
    (hxy : AcctRel wa wb a x y) : y.info = x.info := by
  obtain ⟨jx, hhx, hjx, hcx⟩ := loadCode_cached (EvmHost.loadCode_ok h1).1
  obtain ⟨sy, hhy, hsy, hcy⟩ := loadCode_cached (EvmHost.loadCode_ok h2).1
  obtain ⟨ar, hxs, hys⟩ := hxy
  rw [hxs] at hjx; cases hjx
  rw [hys] at hsy; cases hsy
  obtain ⟨e1, e2, e3, _⟩ := ar
  have c1 := hr.w.rel.cj a x hxs hhx hcx
  have c2 := hr.w.rel.cs a y hys hhy hcy
  cases hxi : x.info with
  | mk b1 n1 ch1 co1 =>
    cases hyi : y.info with
    | mk b2 n2 ch2 co2 =>
      rw [hxi] at e1 e2 e3 hcx c1
      rw [hyi] at e1 e2 e3 hcy c2
      simp only at e1 e2 e3 hcx hcy c1 c2
      rw [e1, e2, e3, hcx, hcy, c1, c2, e3]

theorem fetch_rel (h : CfgRel ks1 w1 ks2 w2) {a : Addr} {wa : World} {c : Bool} {x : Acct} {hh : Nat}
    (h1 : w1.loadCode a = .ok (wa, c)) (hx : wa.acct a = .ok x) (hc : ofOpt "code not cached" x.info.code = .ok hh) :
    ∃ wb y, w2.loadCode a = .ok (wb, c) ∧ wb.acct a = .ok y ∧ ofOpt "code not cached" y.info.code = .ok hh ∧
      wb.codeOf hh = wa.codeOf hh ∧ CfgRel ks1 wa ks2 wb := by
  obtain ⟨wb, h2, hr⟩ := wLoadCode_rel h h1
  obtain ⟨y, hy, hxy⟩ := (acct_rr hr a).ok hx
  exact ⟨wb, y, h2, hy, by rw [fetch_info a h1 h2 hr hxy]; exact hc, hr.codeOf hh, hr⟩

/-- the code of a fetched account, from its cache and the code store, handed to the same continuation on both sides -/
theorem code_rr {γ δ : Type} {Q : γ → δ → Prop} {wa wb : World} {x y : Acct} (hr : CfgRel ks1 wa ks2 wb)
    (hinfo : y.info = x.info) {k1 : List Nat → R γ} {k2 : List Nat → R δ} (hk : ∀ code, RR Q (k1 code) (k2 code)) :
    RR Q (ofOpt "code not cached" x.info.code >>= fun h => ofOpt "code_by_hash" (wa.codeOf h) >>= k1)
      (ofOpt "code not cached" y.info.code >>= fun h => ofOpt "code_by_hash" (wb.codeOf h) >>= k2) := by
  rw [hinfo]
  refine RR.bindSame _ fun hh => ?_
  rw [hr.codeOf hh]
  exact RR.bindSame _ hk

/-- the loaded account with its code, on both machines: what `fetch` hands to the continuation -/
structure Fetched (ks1 : List Checkpoint) (ks2 : List Snap) (a : Addr) (wa wb : World) (x y : Acct) : Prop where
  rel : CfgRel ks1 wa ks2 wb
  acct : AcctRel wa wb a x y
  info : y.info = x.info

theorem fetch_rr {γ δ : Type} {Q : γ → δ → Prop} (h : CfgRel ks1 w1 ks2 w2) (a : Addr)
    {k1 : World × Bool → Acct → List Nat → R γ} {k2 : World × Bool → Acct → List Nat → R δ}
    (hk : ∀ wa wb c x y code, Fetched ks1 ks2 a wa wb x y → RR Q (k1 (wa, c) x code) (k2 (wb, c) y code)) :
    RR Q (w1.loadCode a >>= fun p => p.1.acct a >>= fun x => ofOpt "code not cached" x.info.code >>= fun hh =>
        ofOpt "code_by_hash" (p.1.codeOf hh) >>= fun code => k1 p x code)
      (w2.loadCode a >>= fun p => p.1.acct a >>= fun y => ofOpt "code not cached" y.info.code >>= fun hh =>
        ofOpt "code_by_hash" (p.1.codeOf hh) >>= fun code => k2 p y code) := by
  refine RR.bind (RR.withEq (wLoadCode_rr h a)) ?_
  rintro ⟨wa, c⟩ ⟨wb, c'⟩ ⟨⟨hc, hr⟩, h1, h2⟩
  simp only at hc hr
  subst hc
  refine RR.bind (acct_rr hr a) fun x y hxy => ?_
  have hi := fetch_info a h1 h2 hr hxy
  exact code_rr hr hi fun code => hk wa wb c x y code ⟨hr, hxy, hi⟩

theorem host_rr (he : HostEnv) (h : CfgRel ks1 w1 ks2 w2) (op : Interp.HostOp) :
    RR (ValRel CfgRel ks1 ks2) (answer he w1 op) (answer he w2 op) := by
  cases op with
  | tload a k =>
    simp only [answer]
    rw [h.w.rel.tr a k]
    exact RR.pure ⟨rfl, h⟩
  | balance a =>
    simp only [answer]
    refine RR.bind (wLoadAccount_rr h a) ?_
    rintro ⟨wa, c⟩ ⟨wb, c'⟩ ⟨hc, hr⟩
    simp only at hc hr
    subst hc
    refine RR.bind (acct_rr hr a) ?_
    rintro x y ⟨ar, _, _⟩
    exact RR.pure ⟨by rw [ar.1], hr⟩
  | code a =>
    simp only [answer]
    refine fetch_rr h a fun wa wb c x y code F => ?_
    exact RR.pure ⟨rfl, F.rel⟩
  | codeHash a =>
    simp only [answer]
    refine RR.bind (wLoadCode_rr h a) ?_
    rintro ⟨wa, c⟩ ⟨wb, c'⟩ ⟨hc, hr⟩
    simp only at hc hr
    subst hc
    refine RR.bind (acct_rr hr a) ?_
    rintro x y ⟨ar, _, _⟩
    obtain ⟨e1, e2, e3, _⟩ := ar
    have hie : y.info.isEmpty = x.info.isEmpty := by simp only [Info.isEmpty, e1, e2, e3]
    simp only
    rw [hie, ← e3]
    by_cases hem : x.info.isEmpty = true
    · rw [if_pos hem, if_pos hem]; exact RR.pure ⟨rfl, hr⟩
    · rw [if_neg hem, if_neg hem]; exact RR.pure ⟨rfl, hr⟩
  | loadAccountDelegated a =>
    simp only [answer]
    refine RR.bind (wLoadAccountDelegated_rr h a) ?_
    rintro ⟨wa, r⟩ ⟨wb, r'⟩ ⟨hc, hr⟩
    simp only at hc hr
    subst hc
    exact RR.pure ⟨rfl, hr⟩
  | sload a k =>
    simp only [answer]
    rw [sload_congr (db_storage w1), sload_congr h.st2]
    refine RR.bind (h.jop _ (·.noteSlot a k) (·.noteSlot a k) (sload_rel h.w.rel) (sload_rel h.w.rel.symm)
      (fun p hp => sload_fwd h.w.dbBal h.good hp) (fun q hq => (lvl_sload hq).dom) (fun j' => (Upd.js w1 j').slot a k) (fun s' => (Upd.js w2 s').slot a k)
      (fun b => rfl)) ?_
    rintro ⟨j', v, c⟩ ⟨s', r'⟩ ⟨hr, hrel⟩
    simp only at hr hrel
    subst hr
    exact RR.pure ⟨rfl, hrel⟩
  | sstore a k v =>
    simp only [answer]
    rw [sstore_congr (db_storage w1), sstore_congr h.st2]
    refine RR.bind (h.jop _ (·.noteSlot a k) (·.noteSlot a k) (sstore_rel h.w.rel) (sstore_rel h.w.rel.symm)
      (fun p hp => sstore_fwd h.w.dbBal h.good hp) (fun q hq => (lvl_sstore hq).dom) (fun j' => (Upd.js w1 j').slot a k) (fun s' => (Upd.js w2 s').slot a k)
      (fun b => rfl)) ?_
    rintro ⟨j', o, p, n, c⟩ ⟨s', r'⟩ ⟨hr, hrel⟩
    simp only at hr hrel
    subst hr
    exact RR.pure ⟨rfl, hrel⟩
  | tstore a k v =>
    simp only [answer]
    refine RR.bind (RR.ofSim (P := fun j' s' => CfgRel ks1 { w1 with js := j' } ks2 { w2 with js := s' }) _
      ((tstore_rel h.w.rel).withEq.mono ?_) (tstore_rel (db := dbPre w1.pre) h.w.rel.symm))
      (fun j' s' hrel => RR.pure ⟨rfl, hrel⟩)
    rintro j' s' ⟨hrel, hp, hq⟩
    exact h.step (Upd.js w1 j') (Upd.js w2 s') hrel (tstore_fwd h.w.dbBal h.good hp) (lvl_tstore hq).dom (fun b => rfl)
  | log a topics data =>
    simp only [answer]
    refine RR.pure ⟨rfl, ?_⟩
    rw [h.w.logs]
    exact h.fwd rfl rfl h.w.codes rfl h.w.pc h.w.hs1 h.w.hs2 (log_rel w1.logs.length h.w.rel)
      (log_fwd (db := dbPre w1.pre) (hs := hsPre w1.pre) w1.logs.length h.good) (l := []) (.of_state_eq rfl)
      (fun b => by simp)
  | selfdestruct a t =>
    simp only [answer]
    rw [selfdestruct_congr (db_basic w1), selfdestruct_congr h.db2]
    refine RR.bind (h.jop _ (·.noteAddr t) (·.noteAddr t) (selfdestruct_rel h.w.rel (dbCode_pre _))
      (selfdestruct_rel h.w.rel.symm (dbCode_pre _)) (fun p hp => selfdestruct_fwd h.w.dbBal h.good hp)
      (fun q hq => (lvl_selfdestruct hq).1.dom)
      (fun j' => (Upd.js w1 j').note t) (fun s' => (Upd.js w2 s').note t) (fun b => by simp)) ?_
    rintro ⟨j', hv, te, pd, c⟩ ⟨s', r'⟩ ⟨hr, hrel⟩
    simp only at hr hrel
    subst hr
    exact RR.pure ⟨rfl, hrel⟩
  | keccak data => exact RR.pure ⟨rfl, h⟩
  | blockHash n => exact RR.pure ⟨rfl, h⟩
  | create2Address d s c => exact RR.pure ⟨rfl, h⟩

theorem host_rel (he : HostEnv) (h : CfgRel ks1 w1 ks2 w2) (op : Interp.HostOp) (resp : Interp.HostResp) (w1' : World)
    (hl : answer he w1 op = .ok (resp, w1')) :
    ∃ w2', answer he w2 op = .ok (resp, w2') ∧ CfgRel ks1 w1' ks2 w2' :=
  ValRel.ok (host_rr he h op) hl

open Revm.Model.Evm
open Revm.Spec.Evm (Snap)

variable {ks1 : List Checkpoint} {ks2 : List Snap} {w1 w2 : World}

theorem wIncNonce_rel (h : CfgRel ks1 w1 ks2 w2) {a : Addr} {j' : JState} {r : Option Nat}
    (hl : Journal.incNonce w1.js a = some (j', r)) :
    ∃ s', Journal.incNonce w2.js a = some (s', r) ∧ CfgRel ks1 { w1 with js := j' } ks2 { w2 with js := s' } := by
  obtain ⟨⟨s', r'⟩, hs, hr, hrel⟩ := incNonce_rel h.w.rel _ hl
  cases hr
  exact ⟨s', hs, h.step (Upd.js w1 j') (Upd.js w2 s') hrel (incNonce_fwd h.w.dbBal h.good hl) (lvl_incNonce hs).dom (fun b => rfl)⟩

theorem addCode_rel (h : CfgRel ks1 w1 ks2 w2) (hash : Nat) (code : List Nat) :
    CfgRel ks1 (w1.addCode hash code) ks2 (w2.addCode hash code) := by
  unfold World.addCode
  rw [h.w.codes]
  by_cases hk : hash = Evm.KECCAK_EMPTY
  · rw [if_pos hk, if_pos hk]; exact h
  · rw [if_neg hk, if_neg hk]
    cases w1.codes.lookup hash with
    | some _ => exact h
    | none =>
      simp only
      exact h.fwd rfl rfl rfl h.w.logs h.w.pc
        h.w.hs1 h.w.hs2 h.w.rel (Fwd.refl _ _ h.good) (l := []) (.refl _) (fun b => by simp)

end Revm.Proofs.EvmRefine
