import Revm.Proofs.AccessSets
import Revm.Proofs.JournalInv
/-! C34: the simulation invariant `Sim` between the journal model and the access-set machine; the set machine and the
checkpoint discipline on the `keyed` operations (`specStep_keyed`, `wnStep_keyed`), and the invariant after a step that
opens and closes no checkpoint (`sim_keyed`). -/
namespace Revm.Proofs.Access
open Revm Revm.Model.Journal Revm.Spec.JournalAbs Revm.Proofs.Journal Revm.Spec.AccessHistory
open Revm.Spec.AccessSets (Access Sets State)

/-- the warm component of an observable state, as sets -/
def setsOf (x : AState) : Sets := { addrs := x.warm, slots := fun a k => (x.slot a k).warm }

theorem warmSets_eq (db : Db) (s : JState) : warmSets db s = setsOf (absT db s) := rfl

/-- the simulation invariant: the model's warm component is the current access sets; for every open checkpoint `i`
C06's `Journal.Inv` holds (base `i + 1`: the first checkpoint handed out after it) and the saved copy is the warm
component of the checkpointed state; the pre-warmed set lies in the current sets and in every live copy -/
structure Sim (db : Db) (l : Lock) : Prop where
  rel : SetsEq (warmSets db l.r.js) l.st.cur
  bal : BalOk (absT db l.r.js)
  len : l.st.snaps.length = l.r.cps.length
  lt : ∀ i, i ∈ l.open_ → i < l.r.cps.length
  sorted : l.open_.Pairwise (· < ·)
  preCur : SetsLe l.st.pre l.st.cur
  inv : ∀ i, i ∈ l.open_ → ∃ cp snap x0 logs0 spec0 pre0, l.r.cps[i]? = some cp ∧ l.st.snaps[i]? = some snap ∧
      Inv db cp.journalI cp.logI x0 logs0 spec0 pre0 (i + 1) l.r ∧ SetsEq (setsOf x0) snap ∧ SetsLe l.st.pre snap

theorem admissible_base (db : Db) (hasStorage : Addr → Bool) (b b' : Nat) (r : Run) (op : Op)
    (h : ∀ i, op ≠ .revert i) : admissible db hasStorage b r op = admissible db hasStorage b' r op := by
  cases op <;> first | rfl | exact absurd rfl (h _)

/-- all but `checkpoint`, `commit`, `revert` and `create` (also a `create` that fails and opens no checkpoint): the set
machine adds their keys and saves or restores no copy -/
def keyed : Op → Bool
  | .checkpoint | .commit | .revert _ | .create _ _ _ _ _ => false
  | _ => true

/-- the keys a keyed operation adds to the current sets: its accesses, or what a transaction-level pre-warming names -/
def opKeys (db : Db) (s : JState) : Op → List Access
  | .initLoad a ks => Access.addr a :: ks.map (Access.slot a)
  | op => accessesOf db s op

/-- the keys an operation puts into the pre-warmed set -/
def preKeys : Op → List Access
  | .initLoad a ks => Access.addr a :: ks.map (Access.slot a)
  | _ => []

theorem specStep_keyed {db : Db} {r r' : Run} {st st' : State} {op : Op} {bits : List Bool} (hk : keyed op = true)
    (hsp : specStep db r r' st op = some (st', bits)) :
    st'.cur = st.cur.addAll (opKeys db r.js op) ∧ st'.snaps = st.snaps ∧ st'.pre = st.pre.addAll (preKeys op) ∧
    (exposes op = true → bits = coldList st.cur (accessesOf db r.js op)) := by
  cases op with
  | checkpoint | commit | revert _ | create _ _ _ _ _ => cases hk
  | initLoad a ks =>
    cases hsp
    obtain ⟨c1, c2, c3⟩ := prewarmAll_spec (Access.addr a :: ks.map (Access.slot a)) st
    exact ⟨c1, c3, c2, fun hx => nomatch hx⟩
  | _ =>
    simp only [specStep, accessAll_eq, Option.some.injEq, Prod.mk.injEq] at hsp
    obtain ⟨rfl, rfl⟩ := hsp
    exact ⟨rfl, rfl, rfl, fun _ => rfl⟩

theorem wnStep_keyed {o o' : List Nat} {r r' : Run} {op : Op} (hk : keyed op = true)
    (h : wnStep o r r' op = some o') : o' = o ∧ ∀ a ks, op = .initLoad a ks → initLoadOk r a ks = true := by
  cases op with
  | checkpoint | commit | revert _ | create _ _ _ _ _ => cases hk
  | initLoad a ks =>
    simp only [wnStep] at h
    split at h
    · cases h; exact ⟨rfl, fun _ _ e => by cases e; assumption⟩
    · cases h
  | _ => cases h; exact ⟨rfl, fun _ _ e => nomatch e⟩

/-- a step that hands out no checkpoint and closes none, adds the keys `xs` to the current sets and `ys` to the
pre-warmed set, and whose forward warm effect is `xs`: either an admissible operation that pre-warms nothing, or a
transaction-level pre-warming while no checkpoint is open -/
theorem sim_keyed {db : Db} {hasStorage : Addr → Bool} (hdb : DbOk db hasStorage) {l : Lock} {r' : Run}
    {op : Op} {st' : State} {xs ys : List Access} (h : Sim db l)
    (hstep : step db l.r op = some r') (hcps : r'.cps = l.r.cps) (hnr : ∀ i, op ≠ .revert i)
    (hst : st'.cur = l.st.cur.addAll xs ∧ st'.snaps = l.st.snaps ∧ st'.pre = l.st.pre.addAll ys)
    (hk : (ys = [] ∧ admissible db hasStorage 0 l.r op = true) ∨ (ys = xs ∧ l.open_ = []))
    (hw : Warms db l.r.js r'.js xs) (hbal : BalOk (absT db r'.js)) :
    Sim db { r := r', st := st', open_ := l.open_ } := by
  obtain ⟨c1, c2, c3⟩ := hst
  refine ⟨c1 ▸ SetsEq.trans (Warms.sets hw) (h.rel.addAll xs), hbal, by rw [c2, hcps]; exact h.len,
    fun i hi => hcps ▸ h.lt i hi, h.sorted, ?_, fun i hi => ?_⟩
  · show SetsLe st'.pre st'.cur
    rw [c1, c3]
    rcases hk with ⟨rfl, _⟩ | ⟨rfl, _⟩
    · exact SetsLe.trans h.preCur (addAll_le _ _)
    · exact addAll_mono h.preCur _
  · rcases hk with ⟨rfl, hadm⟩ | ⟨_, ho⟩
    · obtain ⟨cp, snap, x0, logs0, spec0, pre0, e1, e2, iv, e3, e4⟩ := h.inv i hi
      exact ⟨cp, snap, x0, logs0, spec0, pre0, hcps ▸ e1, by rw [c2]; exact e2,
        inv_step hdb iv (by rw [admissible_base db hasStorage (i+1) 0 l.r op hnr]; exact hadm) hstep, e3, c3 ▸ e4⟩
    · rw [ho] at hi; cases hi

theorem lockStep_some {db : Db} {hasStorage : Addr → Bool} {l l' : Lock} {op : Op}
    (hs : lockStep db hasStorage l op = some l') :
    admOp db hasStorage l.r op = true ∧ ∃ r' o' st' bits, step db l.r op = some r' ∧
      wnStep l.open_ l.r r' op = some o' ∧ specStep db l.r r' l.st op = some (st', bits) ∧
      l' = { r := r', st := st', open_ := o' } := by
  unfold lockStep at hs
  by_cases hadm : admOp db hasStorage l.r op = true
  · rw [if_pos hadm] at hs
    cases hstep : step db l.r op with
    | none => simp [hstep] at hs
    | some r' =>
      simp only [hstep] at hs
      cases hwn : wnStep l.open_ l.r r' op with
      | none => simp [hwn] at hs
      | some o' =>
        cases hsp : specStep db l.r r' l.st op with
        | none => simp [hwn, hsp] at hs
        | some x =>
          obtain ⟨st', bits⟩ := x
          simp [hwn, hsp] at hs
          exact ⟨hadm, r', o', st', bits, rfl, hwn, hsp, hs.symm⟩
  · rw [if_neg hadm] at hs; cases hs

theorem lockRun_cons {db : Db} {hasStorage : Addr → Bool} {l l' : Lock} {op : Op} {ops : List Op}
    (h : lockRun db hasStorage l (op :: ops) = some l') :
    ∃ l1, lockStep db hasStorage l op = some l1 ∧ lockRun db hasStorage l1 ops = some l' := by
  simp only [lockRun] at h
  split at h
  · exact ⟨_, ‹_›, h⟩
  · cases h

end Revm.Proofs.Access
