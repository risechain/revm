import Revm.Model.Collision
/-! C21: `make_create_frame` decides by `createAccountCheckpoint` of the target's code hash, nonce, balance and the
database's `has_storage` answer (`makeCreateFrame_eq`), which no query changes (`hs_stable`): the decision does not
depend on how the target became warm. `collides_iff` reads the Bool test, `collision_iff` the result. -/
namespace Revm.Proofs.Collision
open Revm Revm.Model.Db Revm.Model.Collision

/-- the database's `has_storage(a)` says `true` exactly when its data has a non-zero slot at `a` -/
def HsFaithful (db : Db) (a : Addr) : Prop :=
  (db.query (.hasStorage a)).2 = .flag true ↔ ∃ k, db.view.storage a k ≠ 0

/-- an underlying database whose own `has_storage` is implemented properly -/
def HonestBase (b : Base) : Prop := ∀ a, b.hasStorage a = true ↔ ∃ k, b.storage a k ≠ 0

theorem hasStorage_reply (db : Db) (a : Addr) : ∃ f, (db.query (.hasStorage a)).2 = .flag f := by
  induction db with
  | base b => exact ⟨_, rfl⟩
  | empty k => exact ⟨_, rfl⟩
  | cache i c _ => exact ⟨_, rfl⟩
  | state i s _ => exact ⟨false, rfl⟩
  | wrapRef i _ => exact ⟨_, rfl⟩
  | fwd i ih => obtain ⟨f, hf⟩ := ih; exact ⟨f, by simp [Db.query, hf]⟩
  | components i _ => exact ⟨false, rfl⟩

theorem faithful_base (b : Base) (hb : HonestBase b) (a : Addr) : HsFaithful (.base b) a := by
  unfold HsFaithful
  simp only [Db.query, Base.answer, Db.view]
  constructor
  · intro h; exact (hb a).mp (by simpa using h)
  · intro h; simp [(hb a).mpr h]

theorem faithful_fwd (i : Db) (a : Addr) (hi : HsFaithful i a) : HsFaithful (.fwd i) a := by
  unfold HsFaithful at *
  simpa [Db.query, Db.view] using hi

theorem collides_iff (t : Target) (hs : Bool) :
    collides t hs = true ↔ (t.codeHash ≠ KECCAK_EMPTY ∨ t.nonce ≠ 0 ∨ hs = true) := by
  unfold collides
  simp only [Bool.or_eq_true, bne_iff_ne, ne_eq, or_assoc]

theorem cac_collides {t : Target} {hs : Bool} (h : collides t hs = true) (value gasLimit : Nat) (sd : Bool) :
    createAccountCheckpoint t hs value gasLimit sd = ⟨.collision, t, some gasLimit⟩ := by
  unfold createAccountCheckpoint; rw [if_pos h]

theorem cac_not_collides {t : Target} {hs : Bool} (h : ¬ collides t hs = true) (value gasLimit : Nat) (sd : Bool) :
    createAccountCheckpoint t hs value gasLimit sd =
      if t.balance + value ≥ W then ⟨.overflowPayment, t, some gasLimit⟩
      else ⟨.frame, { t with created := true, touched := true, balance := t.balance + value,
                              nonce := if sd then 1 else t.nonce }, none⟩ := by
  unfold createAccountCheckpoint; rw [if_neg h]

theorem collision_iff (t : Target) (hs : Bool) (value gasLimit : Nat) (sd : Bool) :
    (createAccountCheckpoint t hs value gasLimit sd).result = .collision ↔
      (t.codeHash ≠ KECCAK_EMPTY ∨ t.nonce ≠ 0 ∨ hs = true) := by
  rw [← collides_iff]
  by_cases hc : collides t hs = true
  · rw [cac_collides hc]; exact ⟨fun _ => hc, fun _ => rfl⟩
  · rw [cac_not_collides hc]
    refine ⟨fun h => ?_, fun h => absurd h hc⟩
    split at h <;> cases h

/-- the `has_storage` answer of a database stack as a Bool -/
def hsOf (db : Db) (a : Addr) : Bool :=
  match (db.query (.hasStorage a)).2 with
  | .flag f => f
  | _ => false

theorem makeCreateFrame_eq (db : Db) (a : Addr) (t : Target) (value gasLimit : Nat) (sd : Bool) :
    makeCreateFrame db a t value gasLimit sd = createAccountCheckpoint t (hsOf db a) value gasLimit sd := by
  obtain ⟨f, hf⟩ := hasStorage_reply db a
  simp [makeCreateFrame, hsOf, hf]

theorem collision_of_storage (db : Db) (a : Addr) (t : Target) (value gasLimit : Nat) (sd : Bool)
    (hf : HsFaithful db a) (h : ∃ k, db.view.storage a k ≠ 0) :
    makeCreateFrame db a t value gasLimit sd = ⟨.collision, t, some gasLimit⟩ := by
  have hs : hsOf db a = true := by unfold hsOf; rw [hf.mpr h]
  rw [makeCreateFrame_eq]
  exact cac_collides ((collides_iff t _).mpr (Or.inr (Or.inr hs))) _ _ _

theorem hs_stable (d : Db) : ∀ (q : Query) (a : Addr),
    ((d.query q).1.query (.hasStorage a)).2 = (d.query (.hasStorage a)).2 := by
  induction d with
  | base b => intro q a; rfl
  | empty k => intro q a; rfl
  | cache i c _ => intro q a; rfl
  | state i s _ => intro q a; rfl
  | wrapRef i _ => intro q a; rfl
  | fwd i ih => intro q a; exact ih q a
  | components i _ =>
    intro q a
    cases q <;> rfl

theorem hsOf_query (d : Db) (q : Query) (a : Addr) : hsOf (d.query q).1 a = hsOf d a := by
  unfold hsOf; rw [hs_stable]

theorem hsOf_preloadKeys (a : Addr) (keys : List Slot) : ∀ (db : Db) (acc : List (Slot × Nat)),
    hsOf (preloadKeys db a keys acc).1 a = hsOf db a := by
  induction keys with
  | nil => intro db acc; rfl
  | cons k ks ih =>
    intro db acc
    unfold preloadKeys
    cases h : lookupSlot acc k with
    | some v => exact ih db acc
    | none => rw [ih]; exact hsOf_query db _ a

/-- what the journal entry records of the account info is `db.basic`'s answer, however it got there -/
def infoTarget (db : Db) (a : Addr) : Target := targetOfInfo (infoOfReply (db.query (.basic a)).2)

/-- two targets creation cannot tell apart: same code hash, nonce, balance (flags may differ) -/
def SameInfo (t u : Target) : Prop := t.codeHash = u.codeHash ∧ t.nonce = u.nonce ∧ t.balance = u.balance

theorem loadedTarget_sameInfo (db : Db) (a : Addr) (w : Warmth) : SameInfo (loadedTarget db a w) (infoTarget db a) := by
  cases w <;> exact ⟨rfl, rfl, rfl⟩

theorem hsOf_journalEntry (db : Db) (a : Addr) (w : Warmth) :
    hsOf (loadAccount (journalEntry db a w).1 a (journalEntry db a w).2 false).1 a = hsOf db a := by
  cases w with
  | coldFirstTouch => exact hsOf_query db _ a
  | accessList keys =>
    show hsOf (preloadKeys (db.query (.basic a)).1 a keys []).1 a = hsOf db a
    rw [hsOf_preloadKeys]; exact hsOf_query db _ a
  | opcodeLoad => exact hsOf_query db _ a
  | called => exact hsOf_query db _ a
  | retried =>
    show hsOf ((db.query (.basic a)).1.query (.hasStorage a)).1 a = hsOf db a
    rw [hsOf_query]; exact hsOf_query db _ a
  | revertedCold => exact hsOf_query db _ a

theorem cac_congr (t u : Target) (h : SameInfo t u) (hs : Bool) (value gasLimit : Nat) (sd : Bool) :
    (createAccountCheckpoint t hs value gasLimit sd).result = (createAccountCheckpoint u hs value gasLimit sd).result ∧
    (createAccountCheckpoint t hs value gasLimit sd).gasLost = (createAccountCheckpoint u hs value gasLimit sd).gasLost := by
  obtain ⟨h1, h2, h3⟩ := h
  have hc : collides t hs = collides u hs := by unfold collides; rw [h1, h2]
  by_cases hcu : collides u hs = true
  · rw [cac_collides hcu, cac_collides (hc.trans hcu)]; exact ⟨rfl, rfl⟩
  · rw [cac_not_collides hcu, cac_not_collides (hc ▸ hcu), h3]
    by_cases ho : u.balance + value ≥ W
    · rw [if_pos ho, if_pos ho]; exact ⟨rfl, rfl⟩
    · rw [if_neg ho, if_neg ho]; exact ⟨rfl, rfl⟩

theorem cac_collision_target (t : Target) (hs : Bool) (value gasLimit : Nat) (sd : Bool)
    (h : (createAccountCheckpoint t hs value gasLimit sd).result = .collision) :
    (createAccountCheckpoint t hs value gasLimit sd).target = t := by
  rw [cac_collides ((collides_iff t hs).mpr ((collision_iff t hs value gasLimit sd).mp h))]

/-- on any journal entry the outcome is `create_account_checkpoint` of the entry's account and the
database's `has_storage`: `cold`, the loaded `slots` and `warm_preloaded_addresses` are never read -/
theorem makeCreateFrameJ_some (db : Db) (a : Addr) (j : JAccount) (preloaded : Bool) (value gasLimit : Nat) (sd : Bool) :
    makeCreateFrameJ db a (some j) preloaded value gasLimit sd =
      createAccountCheckpoint j.target (hsOf db a) value gasLimit sd := by
  simp [makeCreateFrameJ, loadAccount, makeCreateFrame_eq]

theorem makeCreateFrameJ_none (db : Db) (a : Addr) (preloaded : Bool) (value gasLimit : Nat) (sd : Bool) :
    makeCreateFrameJ db a none preloaded value gasLimit sd =
      createAccountCheckpoint (infoTarget db a) (hsOf db a) value gasLimit sd := by
  simp [makeCreateFrameJ, loadAccount, makeCreateFrame_eq, hsOf_query, infoTarget]

theorem makeCreateFrameW_eq (db : Db) (a : Addr) (w : Warmth) (value gasLimit : Nat) (sd : Bool) :
    makeCreateFrameW db a w value gasLimit sd =
      createAccountCheckpoint (loadedTarget db a w) (hsOf db a) value gasLimit sd := by
  unfold makeCreateFrameW makeCreateFrameJ loadedTarget
  simp only [makeCreateFrame_eq]
  rw [hsOf_journalEntry]

theorem cacJ_flag (j : JAccount) (f : Bool) (hs : Bool) (value gasLimit : Nat) (sd : Bool) :
    (createAccountCheckpointJ { j with notExisting := f } hs value gasLimit sd).1 =
      (createAccountCheckpointJ j hs value gasLimit sd).1 ∧
    (createAccountCheckpointJ { j with notExisting := f } hs value gasLimit sd).2.notExisting = f ∧
    (createAccountCheckpointJ j hs value gasLimit sd).2.notExisting = j.notExisting := ⟨rfl, rfl, rfl⟩

theorem makeCreateFrameJ_nonce (db : Db) (a : Addr) (j : JAccount) (hn : j.target.nonce ≠ 0) (preloaded : Bool)
    (value gasLimit : Nat) (sd : Bool) :
    makeCreateFrameJ db a (some j) preloaded value gasLimit sd = ⟨.collision, j.target, some gasLimit⟩ := by
  rw [makeCreateFrameJ_some]
  exact cac_collides ((collides_iff _ _).mpr (Or.inr (Or.inl hn))) _ _ _

/-- after a successful creation from Spurious Dragon on, the account has nonce 1 -/
theorem cac_frame_nonce (t : Target) (hs : Bool) (value gasLimit : Nat)
    (h : (createAccountCheckpoint t hs value gasLimit true).result = .frame) :
    (createAccountCheckpoint t hs value gasLimit true).target.nonce = 1 := by
  by_cases hc : collides t hs = true
  · rw [cac_collides hc] at h; cases h
  · rw [cac_not_collides hc] at h ⊢
    split at h
    · cases h
    · rename_i ho; rw [if_neg ho]; rfl

theorem makeCreateFrame_frame_nonce (db : Db) (a : Addr) (t : Target) (value gasLimit : Nat)
    (h : (makeCreateFrame db a t value gasLimit true).result = .frame) :
    (makeCreateFrame db a t value gasLimit true).target.nonce = 1 := by
  rw [makeCreateFrame_eq] at h ⊢
  exact cac_frame_nonce _ _ _ _ h

theorem cac_vacant (t : Target) (h1 : t.codeHash = KECCAK_EMPTY) (h2 : t.nonce = 0) (value gasLimit : Nat) (sd : Bool)
    (hb : t.balance + value < W) :
    (createAccountCheckpoint t false value gasLimit sd).result = .frame := by
  have hc : ¬ collides t false = true := fun h =>
    ((collides_iff t false).mp h).elim (· h1) fun h => h.elim (· h2) nofun
  rw [cac_not_collides hc, if_neg (Nat.not_le_of_lt hb)]

end Revm.Proofs.Collision
