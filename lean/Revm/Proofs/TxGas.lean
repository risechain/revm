import Revm.Model.TxGas
import Revm.Proofs.GasSettled
import Revm.Proofs.Checks
/-! C09: `last_frame_return → refund → EIP-7623 floor` ends in a settled meter, on which every wrapping `u64` read of
the handlers is exact; what `refund` leaves in the counter; the payments without wrap or saturation; what validation
gives them. `Model.TxGas.validate` transcribes the fee-relevant checks only; C02's `Model.TxValidate` (same function
names) is the full transcription, and its `validateEnv`, when it accepts, implies this one's while the configured blob
limit is within the default (`txgas_validateEnv_of_ok`, `EvmLinkValidate`). `blobChecks` / `authChecks` here name two
blocks of `TxGas.validateEnv`, not `TxValidate`'s functions. -/
namespace Revm.Proofs.TxGas
open Revm Revm.Model.Gas Revm.Model.TxGas
open Revm.Model.GasCalc (enabled)
open Revm.Model.GasCalc.SpecId (BERLIN LONDON SHANGHAI CANCUN PRAGUE)
open Revm.Proofs.Gas

/-- the refund quotient of `set_final_refund` -/
def quot (e : Env) : Nat := if enabled e.spec LONDON then 5 else 2

theorem quot_eq (e : Env) : quot e = if enabled e.spec LONDON = true then 5 else 2 := rfl

/-- the gas `last_frame_return` hands back (ok / revert class results only) -/
def remAfter (fr : FrameRes) : Nat :=
  match fr.ir.gasClass with
  | .other => 0
  | _ => fr.gas.remaining

/-- the refund counter `last_frame_return` records (ok class only) -/
def kept (fr : FrameRes) : Int :=
  match fr.ir.gasClass with
  | .ok => fr.gas.refunded
  | _ => 0

theorem remAfter_le (fr : FrameRes) : remAfter fr ≤ fr.gas.remaining := by
  unfold remAfter; generalize fr.ir.gasClass = c; cases c <;> simp

theorem kept_not_ok (fr : FrameRes) (h : fr.ir.gasClass ≠ .ok) : kept fr = 0 := by
  unfold kept; generalize fr.ir.gasClass = c at h; cases c
  · exact absurd rfl h
  · rfl
  · rfl

theorem lastFrameReturn_eq (e : Env) (fr : FrameRes) :
    lastFrameReturn e fr = recordRefund (eraseCost (newSpent e.gasLimit) (remAfter fr)) (kept fr) := by
  have h0 : i64WrapAdd 0 0 = 0 := by decide
  have h1 : U64ops.wadd 0 0 = 0 := by decide
  unfold lastFrameReturn remAfter kept recordRefund eraseCost newSpent
  generalize fr.ir.gasClass = c
  cases c <;> simp only [h0, h1]

/-! ### refund, floor: the mainnet pipeline is `Gas.settle` / `Gas.floor` -/

theorem refund_eq_settle (e : Env) (fr : FrameRes) (a : Int) :
    refund e (lastFrameReturn e fr) a = settle e.gasLimit (remAfter fr) (kept fr) a (enabled e.spec LONDON) := by
  unfold refund; rw [lastFrameReturn_eq]; rfl

theorem finalGas_eq (e : Env) (fl k : Nat) (fr : FrameRes) :
    finalGas e fl k fr =
      Gas.floor (settle e.gasLimit (remAfter fr) (kept fr) (eip7702Refund k) (enabled e.spec LONDON)) fl := by
  unfold finalGas; rw [refund_eq_settle]; rfl

theorem refund_spent (e : Env) (g : Gas) (a : Int) : spent (refund e g a) = spent g := by
  unfold refund setFinalRefund recordRefund spent; rfl

theorem u64AsI64_zero : u64AsI64 0 = 0 := by unfold u64AsI64; simp
theorem i64AsU64_zero : i64AsU64 0 = 0 := by unfold i64AsU64; simp
theorem eip7702Refund_zero : eip7702Refund 0 = 0 := by
  unfold eip7702Refund U64ops.wmul; simp [u64AsI64_zero]

theorem eip7702Refund_eq (k : Nat) (hk : 12500 * k < 9223372036854775808) :
    eip7702Refund k = ((12500 * k : Nat) : Int) := by
  have hU := U64_val
  unfold eip7702Refund U64ops.wmul Revm.Model.GasCalc.PER_EMPTY_ACCOUNT_COST Revm.Model.GasCalc.PER_AUTH_BASE_COST
  have : k * (25000 - 12500) % U64 = 12500 * k := by rw [hU]; omega
  rw [this, u64AsI64_small _ hk]

theorem refund_eq {e : Env} {fr : FrameRes} {k : Nat} (hL : e.gasLimit < U64)
    (hr : fr.gas.remaining ≤ e.gasLimit) (hk : 12500 * k < 9223372036854775808)
    (h0 : I64MIN ≤ kept fr) (h1 : kept fr + ((12500 * k : Nat) : Int) ≤ I64MAX) :
    (refund e (lastFrameReturn e fr) (eip7702Refund k)).refunded =
      if 0 ≤ kept fr + ((12500 * k : Nat) : Int)
      then min (kept fr + ((12500 * k : Nat) : Int)) (((e.gasLimit - remAfter fr) / quot e : Nat) : Int)
      else (((e.gasLimit - remAfter fr) / quot e : Nat) : Int) := by
  rw [refund_eq_settle, eip7702Refund_eq k hk]
  exact settle_refunded _ _ _ hL (Nat.le_trans (remAfter_le fr) hr) h0 (by omega) (by omega) h1

theorem toNat_min_cap {r : Int} (n d : Nat) (h0 : 0 ≤ r) :
    (min (r + (n : Int)) (d : Int)).toNat = min (r.toNat + n) d := by
  obtain ⟨m, rfl⟩ := Int.eq_ofNat_of_zero_le h0
  rw [Int.toNat_natCast, ← Int.natCast_add]; exact toNat_min _ _

theorem refund_not_ok {e : Env} {fr : FrameRes} {k : Nat} (hL : e.gasLimit < U64)
    (hr : fr.gas.remaining ≤ e.gasLimit) (hc : fr.ir.gasClass ≠ .ok) (hk : 12500 * k < 9223372036854775808) :
    (refund e (lastFrameReturn e fr) (eip7702Refund k)).refunded =
      ((min (12500 * k) ((e.gasLimit - remAfter fr) / quot e) : Nat) : Int) := by
  have h := refund_eq hL hr hk (by rw [kept_not_ok fr hc]; decide)
    (by rw [kept_not_ok fr hc]; unfold I64MAX; omega)
  rw [kept_not_ok fr hc, Int.zero_add, if_pos (Int.natCast_nonneg _)] at h
  rw [h, Int.min_def, Nat.min_def]
  simp only [Int.ofNat_le]
  split <;> rfl

theorem refund_ok {e : Env} {fr : FrameRes} {k : Nat} (hL : e.gasLimit < U64)
    (hr : fr.gas.remaining ≤ e.gasLimit) (hc : fr.ir.gasClass = .ok) (hk : 12500 * k < 9223372036854775808)
    (h0 : I64MIN ≤ fr.gas.refunded) (h1 : fr.gas.refunded + ((12500 * k : Nat) : Int) ≤ I64MAX) :
    (refund e (lastFrameReturn e fr) (eip7702Refund k)).refunded =
      if 0 ≤ fr.gas.refunded + ((12500 * k : Nat) : Int)
      then min (fr.gas.refunded + ((12500 * k : Nat) : Int)) (((e.gasLimit - fr.gas.remaining) / quot e : Nat) : Int)
      else (((e.gasLimit - fr.gas.remaining) / quot e : Nat) : Int) := by
  have hk' : kept fr = fr.gas.refunded := by unfold kept; rw [hc]
  have hrem : remAfter fr = fr.gas.remaining := by unfold remAfter; rw [hc]
  have h := refund_eq hL hr hk (by rw [hk']; exact h0) (by rw [hk']; exact h1)
  rw [hk', hrem] at h
  exact h

/-- the meter after `refund` and after the floor: closed, of the transaction's limit, the refund within its cap -/
structure Settled (e : Env) (g : Gas) : Prop extends Closed g where
  limit : g.limit = e.gasLimit
  ref_cap : g.refunded ≤ (((e.gasLimit - g.remaining) / quot e : Nat) : Int)

namespace Settled
variable {e : Env} {g : Gas} (s : Settled e g)
include s

theorem refunded : gasRefunded g = g.refunded.toNat := s.refU64
theorem spent_eq : spent g = e.gasLimit - g.remaining := s.limit ▸ s.toClosed.spent_eq
theorem used : gasUsed g = e.gasLimit - g.remaining - g.refunded.toNat := s.limit ▸ s.used_eq
theorem rem_le : g.remaining ≤ e.gasLimit := by have := s.sum; have := s.limit; omega

theorem cap : gasRefunded g ≤ spent g / quot e := by
  have hc := s.ref_cap; have h0 := s.ref0
  rw [s.refunded, s.spent_eq]
  generalize (e.gasLimit - g.remaining) / quot e = d at hc
  omega

theorem total : gasUsed g + gasRefunded g + g.remaining = e.gasLimit := by
  have := s.split; have := s.limit
  rw [s.refunded]; show Gas.used g + _ + _ = _; omega

end Settled

theorem settled_refund {e : Env} {fr : FrameRes} (a : Int) (hL : e.gasLimit < U64)
    (hr : fr.gas.remaining ≤ e.gasLimit) :
    Settled e (refund e (lastFrameReturn e fr) a) ∧ (refund e (lastFrameReturn e fr) a).remaining = remAfter fr := by
  have hle := Nat.le_trans (remAfter_le fr) hr
  rw [refund_eq_settle]
  obtain ⟨c, hcap⟩ := settle_closed (kept fr) a (enabled e.spec LONDON) hL hle
  have hrem := settle_remaining (kept fr) a (enabled e.spec LONDON) hL hle
  exact ⟨⟨c, rfl, by rw [hrem]; exact hcap⟩, hrem⟩

theorem Settled.floor {e : Env} {g : Gas} (s : Settled e g) (fl : Nat) : Settled e (Gas.floor g fl) := by
  obtain ⟨cf, hlim, _⟩ := s.toClosed.floor fl
  refine ⟨cf, hlim.trans s.limit, ?_⟩
  rw [s.toClosed.floor_eq]
  split
  · exact Int.natCast_nonneg _
  · exact s.ref_cap

theorem settled_final {e : Env} {floorGas : Nat} (k : Nat) {fr : FrameRes} (hL : e.gasLimit < U64)
    (hr : fr.gas.remaining ≤ e.gasLimit) :
    Settled e (finalGas e floorGas k fr) :=
  (settled_refund (eip7702Refund k) hL hr).1.floor floorGas

theorem gasUsed_final {e : Env} {floorGas : Nat} (k : Nat) {fr : FrameRes} (hL : e.gasLimit < U64)
    (hr : fr.gas.remaining ≤ e.gasLimit) (hf : floorGas ≤ e.gasLimit) :
    gasUsed (finalGas e floorGas k fr) =
      max (e.gasLimit - remAfter fr - (refund e (lastFrameReturn e fr) (eip7702Refund k)).refunded.toNat) floorGas := by
  obtain ⟨s, hrem⟩ := settled_refund (eip7702Refund k) hL hr
  show Gas.used (Gas.floor _ _) = _
  rw [(s.toClosed.floor floorGas).2.2 (s.limit ▸ hf), ← hrem]
  exact congrArg (max · floorGas) s.used

theorem eff_le_gasPrice (e : Env) : effectiveGasPrice e ≤ e.gasPrice := by
  unfold effectiveGasPrice; cases e.priorityFee <;> simp <;> omega

theorem coinbasePrice_le (e : Env) : coinbaseGasPrice e ≤ effectiveGasPrice e := by
  unfold coinbaseGasPrice U256.saturatingSub; split <;> omega

theorem coinbasePrice_eq (e : Env) :
    coinbaseGasPrice e = if enabled e.spec LONDON = true then effectiveGasPrice e - e.basefee else effectiveGasPrice e := rfl

/-- no 256-bit wrap in `reimburse_caller`, `reward_beneficiary` when `gas_limit · gas_price < 2^256` -/
theorem payments_exact {e : Env} {g : Gas} (s : Settled e g)
    (hmul : e.gasLimit * e.gasPrice < W) :
    reimburseAmount e g = effectiveGasPrice e * (g.remaining + gasRefunded g) ∧
    rewardAmount e g = coinbaseGasPrice e * gasUsed g ∧
    effectiveGasPrice e * e.gasLimit =
      effectiveGasPrice e * gasUsed g + effectiveGasPrice e * (g.remaining + gasRefunded g) := by
  have htot := s.total
  have hLe : effectiveGasPrice e * e.gasLimit < W :=
    Nat.lt_of_le_of_lt (Nat.mul_le_mul_right _ (eff_le_gasPrice e)) (by rw [Nat.mul_comm]; exact hmul)
  have hsplit : effectiveGasPrice e * e.gasLimit =
      effectiveGasPrice e * gasUsed g + effectiveGasPrice e * (g.remaining + gasRefunded g) := by
    rw [s.refunded, ← s.limit]; exact s.fee_split _
  refine ⟨?_, ?_, hsplit⟩
  · unfold reimburseAmount U256.wmul
    rw [s.back, ← s.refunded]
    exact Nat.mod_eq_of_lt (by omega)
  · have h1 : coinbaseGasPrice e * gasUsed g ≤ effectiveGasPrice e * gasUsed g :=
      Nat.mul_le_mul_right _ (coinbasePrice_le e)
    show coinbaseGasPrice e * gasUsed g % W = _
    exact Nat.mod_eq_of_lt (by omega)

theorem charge_reimburse {bal ded reimb fee : Nat} (hbal : bal < W) (hle : ded ≤ bal) (hsum : ded = reimb + fee) :
    ded - reimb = fee ∧ U256.saturatingAdd (deductCaller bal ded) reimb = bal - fee ∧
    ∀ r, r ≤ fee → U256.saturatingAdd (bal - fee) r = bal - fee + r := by
  unfold U256.saturatingAdd deductCaller U256.saturatingSub
  refine ⟨by omega, ?_, fun r hr => ?_⟩
  · rw [if_pos (by omega)]; omega
  · rw [if_pos (by omega)]

theorem deduct_exact {e : Env} {d : Nat} (hd : deductAmount e = some d)
    (hmul : e.gasLimit * e.gasPrice < W)
    (hfee : enabled e.spec CANCUN = true → ∀ f, calcDataFee e = some f → e.gasLimit * e.gasPrice + f < W) :
    d = e.gasLimit * effectiveGasPrice e +
      (if enabled e.spec CANCUN = true then (calcDataFee e).getD 0 else 0) := by
  have heff := eff_le_gasPrice e
  have hLe : e.gasLimit * effectiveGasPrice e ≤ e.gasLimit * e.gasPrice := Nat.mul_le_mul_left _ heff
  have hsat : U256.saturatingMul e.gasLimit (effectiveGasPrice e) = e.gasLimit * effectiveGasPrice e := by
    unfold U256.saturatingMul; rw [if_pos (by omega)]
  unfold deductAmount at hd
  rw [hsat] at hd
  split at hd
  · rename_i hc
    rw [if_pos hc]
    split at hd
    · rename_i f hf
      have := hfee hc f hf
      injection hd with hd
      rw [← hd, hf]; unfold U256.saturatingAdd; rw [if_pos (by omega)]; rfl
    · cases hd
  · rename_i hc
    injection hd with hd
    rw [if_neg hc, ← hd]; rfl

theorem validateInitialGas_none {e : Env} {i f : Nat} (h : validateInitialGas e i f = none) :
    i ≤ e.gasLimit ∧ (enabled e.spec PRAGUE = true → f ≤ e.gasLimit) := by
  unfold validateInitialGas at h
  obtain ⟨h1, h⟩ := ite_some_none h
  obtain ⟨h2, _⟩ := ite_some_none h
  refine ⟨by omega, fun hp => ?_⟩
  rw [hp] at h2; simp at h2; omega

theorem validateAgainstState_none {e : Env} {bal : Nat} (h : validateAgainstState e bal = none) :
    ∃ c, balanceCheck e = some c ∧ c ≤ bal := by
  unfold validateAgainstState at h
  split at h
  · cases h
  · exact ⟨_, ‹_›, Nat.le_of_not_lt (ite_some_none h).1⟩

theorem balanceCheck_some {e : Env} {c : Nat} (h : balanceCheck e = some c) :
    e.gasLimit * e.gasPrice < W ∧
    c = e.gasLimit * e.gasPrice + e.value +
      (if enabled e.spec CANCUN = true then (calcMaxDataFee e).getD 0 else 0) ∧ c < W := by
  rw [show balanceCheck e = _ from checkedCost_val ..] at h
  obtain ⟨hlt, rfl⟩ := ite_some_some h
  exact ⟨by omega, rfl, hlt⟩

/-! ### `validate_env` inverted -/

/-- the blob block of `validate_tx` -/
def blobChecks (e : Env) (t : TxShape) : Option Invalid :=
  match e.maxFeePerBlobGas with
  | some m =>
    match e.blobPrice with
    | none => some .panic
    | some price =>
      if price > m then some .blobGasPriceGreaterThanMax
      else if e.nBlobs = 0 then some .emptyBlobs
      else if t.isCreate then some .blobCreateTransaction
      else if enabled e.spec CANCUN && decide (e.nBlobs > (if enabled e.spec PRAGUE then 9 else 6)) then
        some .tooManyBlobs
      else none
  | none => if e.nBlobs ≠ 0 then some .blobVersionedHashesNotSupported else none

/-- the authorization-list block of `validate_tx` -/
def authChecks (e : Env) (t : TxShape) : Option Invalid :=
  if !enabled e.spec PRAGUE && t.authLen.isSome then some .authorizationListNotSupported
  else match t.authLen with
    | some n =>
      if n = 0 then some .emptyAuthorizationList
      else if e.maxFeePerBlobGas.isSome || decide (e.nBlobs ≠ 0) then some .authorizationListInvalidFields
      else if t.isCreate then some .authorizationListInvalidFields
      else none
    | none => none

theorem validateEnv_none_iff (e : Env) (t : TxShape) :
    validateEnv e t = none ↔
      ¬ (enabled e.spec CANCUN && e.blobPrice.isNone) = true ∧
      ¬ (!enabled e.spec BERLIN && !t.accessList.isEmpty) = true ∧
      ¬ (enabled e.spec LONDON &&
          (match e.priorityFee with | some p => decide (p > e.gasPrice) | none => false)) = true ∧
      ¬ (enabled e.spec LONDON && decide (effectiveGasPrice e < e.basefee)) = true ∧
      ¬ (enabled e.spec SHANGHAI && t.isCreate && decide (t.dataLen > MAX_INITCODE_SIZE)) = true ∧
      ¬ (!enabled e.spec CANCUN && (e.maxFeePerBlobGas.isSome || decide (e.nBlobs ≠ 0))) = true ∧
      blobChecks e t = none ∧ authChecks e t = none := by
  have hm : ∀ (o x : Option Invalid), (match o with | some r => some r | none => x) = none ↔ o = none ∧ x = none := by
    intro o x; cases o <;> simp
  show (if _ then _ else if _ then _ else if _ then _ else if _ then _ else if _ then _ else if _ then _ else
    (match blobChecks e t with | some r => some r | none => authChecks e t)) = none ↔ _
  simp only [ite_some_none_iff, hm]
  exact Iff.rfl

theorem blobChecks_none_iff (e : Env) (t : TxShape) :
    blobChecks e t = none ↔
      (∀ m, e.maxFeePerBlobGas = some m → ∃ p, e.blobPrice = some p ∧ ¬ p > m ∧ e.nBlobs ≠ 0 ∧ t.isCreate = false ∧
        ¬ (enabled e.spec CANCUN && decide (e.nBlobs > (if enabled e.spec PRAGUE then 9 else 6))) = true) ∧
      (e.maxFeePerBlobGas = none → e.nBlobs = 0) := by
  unfold blobChecks
  cases e.maxFeePerBlobGas with
  | none => simp
  | some m => cases e.blobPrice <;> simp [ite_some_none_iff]

theorem authChecks_none_iff (e : Env) (t : TxShape) :
    authChecks e t = none ↔
      ¬ (!enabled e.spec PRAGUE && t.authLen.isSome) = true ∧
      ∀ n, t.authLen = some n → n ≠ 0 ∧ ¬ (e.maxFeePerBlobGas.isSome || decide (e.nBlobs ≠ 0)) = true ∧
        t.isCreate = false := by
  unfold authChecks
  cases t.authLen <;> simp [ite_some_none_iff]

/-- what the payment theorems of C09 take from a passed `validate_env` -/
theorem validateEnv_none (e : Env) (t : TxShape) (h : validateEnv e t = none) :
    (enabled e.spec CANCUN = true → e.blobPrice.isSome = true) ∧
    (enabled e.spec LONDON = true → e.basefee ≤ effectiveGasPrice e) ∧
    (enabled e.spec CANCUN = false → e.maxFeePerBlobGas = none ∧ e.nBlobs = 0) ∧
    (∀ m, e.maxFeePerBlobGas = some m → ∃ p, e.blobPrice = some p ∧ p ≤ m ∧
        (enabled e.spec CANCUN = true → e.nBlobs ≤ 9)) ∧
    (e.maxFeePerBlobGas = none → e.nBlobs = 0) := by
  obtain ⟨h1, _, _, h4, _, h6, hb, _⟩ := (validateEnv_none_iff e t).1 h
  obtain ⟨b1, b2⟩ := (blobChecks_none_iff e t).1 hb
  refine ⟨fun hc => ?_, fun hl => ?_, fun hc => ?_, fun m hm => ?_, b2⟩
  · cases hp : e.blobPrice <;> simp [hc, hp] at h1 ⊢
  · simpa [hl] using h4
  · cases hm : e.maxFeePerBlobGas <;> simp [hc, hm] at h6 ⊢
    exact h6
  · obtain ⟨p, hp, hle, _, _, hmax⟩ := b1 m hm
    refine ⟨p, hp, by omega, fun hc => ?_⟩
    have h9 : (if enabled e.spec PRAGUE = true then 9 else 6) ≤ 9 := by split <;> decide
    simp [hc] at hmax
    omega

theorem totalBlobGas_zero (e : Env) (h : e.nBlobs = 0) : totalBlobGas e = 0 := by
  unfold totalBlobGas U64ops.wmul; rw [h]; rfl

theorem satmul_zero (a : Nat) : U256.saturatingMul a 0 = 0 := by
  have hW := W_val
  unfold U256.saturatingMul; rw [if_pos (by omega)]; omega

theorem floor_pre_prague {spec : Nat} {input : List Nat} {cr : Bool} {al : List Nat} {n i fl : Nat}
    (h : Revm.Model.GasCalc.calculateInitialTxGas spec input cr al n = some (i, fl))
    (hp : enabled spec PRAGUE = false) : fl = 0 := by
  unfold Revm.Model.GasCalc.calculateInitialTxGas at h
  simp only [hp] at h
  split at h
  · cases h
  · simp at h; exact h.2.symm

theorem dataFee_covered {e : Env} {t : TxShape} (h : validateEnv e t = none)
    (hc : enabled e.spec CANCUN = true) :
    ∃ f, calcDataFee e = some f ∧ f ≤ (calcMaxDataFee e).getD 0 := by
  obtain ⟨h1, _, _, h4, h5⟩ := validateEnv_none e t h
  have hb := h1 hc
  cases hp : e.blobPrice with
  | none => rw [hp] at hb; cases hb
  | some p =>
    refine ⟨U256.saturatingMul p (totalBlobGas e), by unfold calcDataFee; rw [hp], ?_⟩
    cases hm : e.maxFeePerBlobGas with
    | none =>
      rw [totalBlobGas_zero e (h5 hm), satmul_zero]; omega
    | some m =>
      obtain ⟨p', hp', hle, _⟩ := h4 m hm
      rw [hp] at hp'
      cases hp'
      have : (calcMaxDataFee e).getD 0 = U256.saturatingMul m (totalBlobGas e) := by
        unfold calcMaxDataFee; rw [hm]; rfl
      rw [this]; exact satMul_mono _ _ _ hle

theorem validate_none {e : Env} {t : TxShape} {i fl bal : Nat} (h : validate e t i fl bal = none) :
    validateEnv e t = none ∧ validateInitialGas e i fl = none ∧ validateAgainstState e bal = none := by
  unfold validate at h
  split at h
  · cases h
  split at h
  · cases h
  · exact ⟨‹_›, ‹_›, h⟩

theorem pipeline_some {e : Env} {fl k : Nat} {fr : FrameRes} {o : Out} (h : pipeline e fl k fr = some o) :
    deductAmount e = some o.deducted ∧ o.gas = finalGas e fl k fr ∧ o.gasUsed = gasUsed o.gas ∧
    o.gasRefunded = gasRefunded o.gas ∧ o.reimbursed = reimburseAmount e o.gas ∧
    o.reward = rewardAmount e o.gas := by
  unfold pipeline at h
  split at h
  · cases h
  · injection h with h
    subst h
    exact ⟨‹_›, rfl, rfl, rfl, rfl, rfl⟩

end Revm.Proofs.TxGas
