import Revm.Proofs.BundleChangeset
/-! C17, second sentence: reverted bundles that match a forward bundle state (`RState`), one `revert_latest` step along
a block that leads back (`BlockRev`), and `revert(j)` (= j times `revert_latest`) on the bundle built from groups 1..n:
inside the decidable region `revertOk` it leaves a bundle whose changeset (both `OriginalValuesKnown` settings) applied
to the pre-bundle state gives the reference state after groups 1..n-j — the same state the changeset of the bundle built
from groups 1..n-j gives (C16). -/
namespace Revm.Proofs.Bundle
open Revm.Model.Bundle Revm.Spec.Bundle


theorem revertLatest_eq (b : BState) (blk : BMap ARevert) (h : b.reverts.getLast? = some blk) :
    revertLatest b = ({ b with state := blk.foldl rlStep b.state, reverts := b.reverts.dropLast }, true) := by
  unfold revertLatest
  rw [h]
  rfl

/-- the reverted bundle `b'` matches the forward bundle state `B` and describes the reference state `R` -/
structure RState (b' : BState) (B : BMap BAcct) (p0 R : Plain) : Prop where
  wf : WF b'.state
  acct : ∀ a, RInv (b'.state.get a) (B.get a) (p0.acct a) (fun k => p0.slot a k) (R.acct a) (fun k => R.slot a k)

theorem RState.bundleOK {b' : BState} {B : BMap BAcct} {p0 R : Plain} (h : RState b' B p0 R) :
    BundleOK b'.state p0 R := by
  refine ⟨h.wf, fun a => ?_⟩
  have := h.acct a
  cases hb' : b'.state.get a with
  | none =>
    cases hB : B.get a with
    | none => rw [hb', hB] at this; exact ⟨this.1, this.2⟩
    | some b =>
      rw [hb', hB] at this
      obtain ⟨_, w2, w3, w4, w5⟩ := this
      exact ⟨by rw [w2, w3], fun k => (w4 k).trans (w5 k).symm⟩
  | some x =>
    cases hB : B.get a with
    | none => rw [hb', hB] at this; exact ⟨this.info, this.orig, this.stor⟩
    | some b => rw [hb', hB] at this; exact ⟨this.1.info, this.1.orig, this.1.stor⟩

theorem RState.refl {b : BState} {p0 R : Plain} (h : BundleOK b.state p0 R) : RState b b.state p0 R := by
  refine ⟨h.1, fun a => ?_⟩
  have := h.2 a
  cases hg : b.state.get a with
  | none => rw [hg] at this; exact ⟨this.1, this.2⟩
  | some x => rw [hg] at this; exact ⟨⟨this.1, this.2.1, this.2.2⟩, rfl, fun _ k hk => hk⟩

/-- one `revert_latest` step on a reverted bundle that matches the forward bundle after group k, inside the region
`revertStepOk`: the result matches the forward bundle after group k-1. The reverted bundle may describe its states over
another pre-state `p'` (after `extend`); `hcmp` is `RevCompat` at every address of the block. -/
theorem revertLatest_rstate (b' : BState) (B0 B1 : BMap BAcct) (p0 p' R0 R1 : Plain) (pre : List (BMap ARevert))
    (blk : BMap ARevert) (hrev : b'.reverts = pre ++ [blk]) (hR : RState b' B1 p' R1)
    (hblk : BlockRev blk B0 B1 p0 R0 R1) (hok : revertStepOk b' = true)
    (hcmp : ∀ a r, blk.get a = some r → (B0.get a = none → R0.acct a = none → p'.acct a = none) ∧
      (p'.acct a = none → ∀ k, p'.slot a k = 0) ∧ (r.wipe = true → ∀ k, p'.slot a k = p0.slot a k)) :
    RState (revertLatest b').1 B0 p' R0 ∧ (revertLatest b').1.reverts = pre ∧ (revertLatest b').2 = true := by
  have hl : b'.reverts.getLast? = some blk := by rw [hrev]; simp
  rw [revertLatest_eq b' blk hl]
  refine ⟨⟨foldl_WF rlStep_WF blk b'.state hR.wf, fun a => ?_⟩, by simp [hrev], rfl⟩
  show RInv ((blk.foldl rlStep b'.state).get a) _ _ _ _ _
  rw [rl_get blk hblk.wf]
  refine hblk.triple a _ _ _ ?_ (hR.acct a) ?_
  · intro r hr
    exact hcmp a r hr
  · cases hg : blk.get a with
    | none => rfl
    | some r =>
      simp only [wipeOkO]
      simp only [revertStepOk, hl, List.all_eq_true] at hok
      exact hok (a, r) (mem_of_get _ _ _ hg)

/-- `revert(j)` walks j frames back in the history (or to its start). The bundle may hold further
blocks `Y` below them and describe its states relative to another pre-state `p'` (bundles joined by `extend`) -/
theorem revertN_hist (p0 p' : Plain) (hwf' : ∀ a, p'.acct a = none → ∀ k, p'.slot a k = 0) (j : Nat) :
    ∀ (fs : List (BMap BAcct × Plain)) (f : BMap BAcct × Plain) (b' : BState) (revs Y : List (BMap ARevert)),
    Hist p0 (fs ++ [f]) revs → Y = [] ∨ j ≤ revs.length → b'.reverts = Y ++ revs.drop (revs.length - j) →
    (∀ blk, blk ∈ revs.drop (revs.length - j) → ∀ a r, blk.get a = some r → r.wipe = true →
      ∀ k, p'.slot a k = p0.slot a k) →
    RState b' f.1 p' f.2 → revertOk b' j = true →
    (∀ a, (f.1.get a).isSome = true → p0.acct a = none → p'.acct a = none) →
    ∃ f', (fs ++ [f])[revs.length - j]? = some f' ∧ RState (revertN b' j) f'.1 p' f'.2 := by
  induction j with
  | zero =>
    intro fs f b' revs Y hh _ _ _ hR _ _
    refine ⟨f, ?_, hR⟩
    have := hh.length
    simp only [List.length_append, List.length_singleton, Nat.add_right_cancel_iff] at this
    rw [Nat.sub_zero, ← this]; exact List.getElem?_concat_length
  | succ j ih =>
    intro fs f b' revs Y hh hY hrev hwp hR hok habs
    rcases List.eq_nil_or_concat revs with hn | ⟨pre, blk, hn⟩
    · subst hn
      have hnil : b'.reverts = [] := by rw [hrev, hY.resolve_right (by simp)]; simp
      have hf : (revertLatest b').2 = false := by rw [revertLatest_flag]; simp [hnil]
      have hfs : fs = [] := by have := hh.length; simpa using this
      refine ⟨f, by simp [hfs], ?_⟩
      rw [revertN_succ]
      simp only [hf, Bool.false_eq_true, if_false]
      rw [revertLatest_noop b' hnil]; exact hR
    · rw [List.concat_eq_append] at hn
      subst hn
      obtain ⟨fs', f0, e, ⟨_, hblk⟩, hrest⟩ := hh.unsnoc
      subst e
      have hdrop : (pre ++ [blk]).drop ((pre ++ [blk]).length - (j + 1)) = pre.drop (pre.length - j) ++ [blk] := by
        have : (pre ++ [blk]).length - (j + 1) = pre.length - j := by simp
        rw [this, List.drop_append_of_le_length (Nat.sub_le _ _)]
      rw [hdrop] at hrev hwp
      have hrev' : b'.reverts = (Y ++ pre.drop (pre.length - j)) ++ [blk] := by rw [hrev, List.append_assoc]
      simp only [revertOk, Bool.and_eq_true] at hok
      obtain ⟨g1, g2, g3⟩ := revertLatest_rstate b' f0.1 f.1 p0 p' f0.2 f.2 _ blk hrev' hR hblk hok.1
        (fun a r hr => ⟨fun hn hM => habs a (hblk.pres a r hr) (hblk.selfc a r hr hn hM), hwf' a,
          hwp blk (by simp) a r hr⟩)
      have hok2 := hok.2
      simp only [g3, if_true] at hok2
      obtain ⟨f', w1, w2⟩ := ih fs' f0 (revertLatest b').1 pre Y hrest
        (hY.imp id (fun h => by simpa using h)) g2 (fun b hb => hwp b (by simp [hb])) g1 hok2
        (fun a ha => habs a (hblk.mono a ha))
      refine ⟨f', ?_, ?_⟩
      · have hlen := hrest.length
        have hi : (pre ++ [blk]).length - (j + 1) = pre.length - j := by simp
        have hlt : pre.length - j < (fs' ++ [f0]).length := by rw [hlen]; omega
        rw [hi, List.getElem?_append_left hlt]; exact w1
      · rw [revertN_succ]; simp only [g3, if_true]; exact w2

theorem noWipe_revertOk (j : Nat) : ∀ b : BState, noWipeInLast b j = true → revertOk b j = true := by
  induction j with
  | zero => intro b _; rfl
  | succ j ih =>
    intro b h
    simp only [revertOk, Bool.and_eq_true]
    cases hl : b.reverts.getLast? with
    | none =>
      have hnil : b.reverts = [] := List.getLast?_eq_none_iff.mp hl
      have hf : (revertLatest b).2 = false := by rw [revertLatest_flag]; simp [hnil]
      exact ⟨by simp [revertStepOk, hl], by simp [hf]⟩
    | some blk =>
      obtain ⟨pre, hpre⟩ := List.getLast?_eq_some_iff.mp hl
      simp only [noWipeInLast, List.all_eq_true] at h
      have hdrop : (pre ++ [blk]).drop ((pre ++ [blk]).length - (j + 1)) = pre.drop (pre.length - j) ++ [blk] := by
        have : (pre ++ [blk]).length - (j + 1) = pre.length - j := by simp
        rw [this, List.drop_append_of_le_length (Nat.sub_le _ _)]
      rw [hpre, hdrop] at h
      have hblk : ∀ e, e ∈ blk → (!e.2.wipe) = true := h blk (by simp)
      refine ⟨?_, ?_⟩
      · simp only [revertStepOk, hl, List.all_eq_true]
        intro e he
        have := hblk e he
        simp only [wipeOk, this, Bool.true_or]
      · have hf : (revertLatest b).2 = true := by rw [revertLatest_flag]; simp [hpre]
        simp only [hf, if_true]
        apply ih
        simp only [noWipeInLast, List.all_eq_true]
        rw [revertLatest_reverts, hpre, List.dropLast_concat]
        intro x hx
        exact h x (by simp [hx])

/-- the bundle built from only the first m groups (the bundle of a fresh `State` when m = 0) -/
def prefixBundle (l : List (SState × Plain)) (m : Nat) : BState :=
  match (l.take m).getLast? with
  | some x => x.1.bundle
  | none => {}

theorem revert_j_proof (db : BMap Info) (sc : Bool) (p0 : Plain) (h : List Group) (j : Nat) (known : Bool)
    (hdb : dbMatches db p0) (hwf : plainWF p0) (hr : reachHistory sc p0 h = true) :
    ∃ l, runHistory { db := db, sc := sc } p0 h = some l ∧
      ∀ s r, l.getLast? = some (s, r) → revertOk s.bundle j = true →
        ∀ tgt, (p0 :: l.map (·.2))[h.length - j]? = some tgt →
          PlainEq (applyChangeset (toPlainState (revertN s.bundle j) known) p0) tgt := by
  obtain ⟨l, h1, hlen, h3⟩ := fresh_run db sc p0 h hdb hwf hr
  refine ⟨l, h1, fun s r hl hok tgt htgt => ?_⟩
  have hF := h3 s r hl
  have hh := hF.hist
  have hbl : s.bundle.reverts.length = h.length := by have := hh.length; simp [hlen] at this; exact this.symm
  obtain ⟨fs, hfs⟩ := frames_snoc (([] : BMap BAcct), p0) hl
  rw [hfs] at hh
  obtain ⟨f', w1, w2⟩ := revertN_hist p0 p0 hwf j fs (s.bundle.state, r) s.bundle s.bundle.reverts
    (s.bundle.reverts.take (s.bundle.reverts.length - j)) hh
    ((Nat.lt_or_ge s.bundle.reverts.length j).imp (fun h => by rw [Nat.sub_eq_zero_of_le (Nat.le_of_lt h)]; rfl) id)
    (List.take_append_drop _ _).symm (fun _ _ _ _ _ _ _ => rfl)
    (RState.refl (bundleOK_of_inv hF.inv hF.ts)) hok (fun _ _ h => h)
  have hsnd : (fs ++ [(s.bundle.state, r)]).map (·.2) = p0 :: l.map (·.2) := by
    rw [← hfs, List.map_cons, map_frameOf_snd]
  rw [← hsnd, List.getElem?_map, ← hbl, w1] at htgt
  injection htgt with htgt
  rw [← htgt]
  exact changeset_of_bundleOK (revertN s.bundle j) known p0 f'.2 w2.bundleOK

theorem revert_j_prefix_proof (db : BMap Info) (sc : Bool) (p0 : Plain) (h : List Group) (j : Nat) (known : Bool)
    (hdb : dbMatches db p0) (hwf : plainWF p0) (hr : reachHistory sc p0 h = true) :
    ∃ l, runHistory { db := db, sc := sc } p0 h = some l ∧
      runHistory { db := db, sc := sc } p0 (h.take (h.length - j)) = some (l.take (h.length - j)) ∧
      ∀ s r, l.getLast? = some (s, r) → revertOk s.bundle j = true →
        PlainEq (applyChangeset (toPlainState (revertN s.bundle j) known) p0)
          (applyChangeset (toPlainState (prefixBundle l (h.length - j)) known) p0) := by
  obtain ⟨l, h1, h2⟩ := revert_j_proof db sc p0 h j known hdb hwf hr
  have htk := runHistory_take h _ p0 l (h.length - j) h1
  refine ⟨l, h1, htk, fun s r hl hok => ?_⟩
  obtain ⟨l2, g1, g2⟩ := changeset_correct_proof db sc p0 (h.take (h.length - j)) known hdb hwf
    (reachHistory_take sc p0 h _ hr)
  rw [htk] at g1
  injection g1 with g1
  subst g1
  have hlen : l.length = h.length := by
    obtain ⟨l', e1, e2, _⟩ := fresh_run db sc p0 h hdb hwf hr
    rw [h1] at e1; injection e1 with e1; rw [e1]; exact e2
  cases hm : h.length - j with
  | zero =>
    have := h2 s r hl hok p0 (by rw [hm]; rfl)
    simp only [prefixBundle, List.take_zero, List.getLast?_nil]
    rw [applyChangeset_empty]
    exact this
  | succ m =>
    have hmlt : m < l.length := by omega
    have hgl : (l.take (m + 1)).getLast? = some l[m] := by
      rw [List.getLast?_eq_getElem?]
      simp only [List.length_take]
      have : min (m + 1) l.length - 1 = m := by omega
      rw [this, List.getElem?_take]
      simp [hmlt]
    have htgt : (p0 :: l.map (·.2))[m + 1]? = some l[m].2 := by
      simp [hmlt]
    have e1 := h2 s r hl hok l[m].2 (by rw [hm]; exact htgt)
    rw [hm] at g2
    have e2 := g2 l[m].1 l[m].2 (by rw [hgl])
    simp only [prefixBundle, hgl]
    exact plainEq_trans e1 (plainEq_symm e2)

end Revm.Proofs.Bundle
