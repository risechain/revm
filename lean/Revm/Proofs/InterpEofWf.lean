import Revm.Proofs.InterpLoop
import Revm.Model.InterpWf
/-! The root of the EOF half of C25. Well-formedness of an EOF container as the interpreter needs it, as a proposition
(`WfCtx`, from the decidable `wfCtxB` of `Model/InterpWf.lean` by `wfCtx_of_check`), the same with a valid function
stack (`CtxOk`), and the invariant `InvE` of EOF code between two instructions, with what it says about the instruction
pointer, the running section and the function stack. -/
namespace Revm.Proofs.Interp
open Revm Revm.Model Revm.Model.Interp

theorem instrOk_parts {B : List Nat} {types : List (Nat × Nat × Nat)} {containers : List (List Nat)} {self : Nat}
    {sec : List Nat} {i : Nat} {I : Instr} (hI : decode (sec.getD i 0) = I)
    (h : instrOk B types containers self sec i = true) :
    i + instrLenOf I sec i ≤ sec.length
    ∧ (terminating I = true ∨ (i + instrLenOf I sec i) ∈ B)
    ∧ instrSpecific B types containers self sec i I = true := by
  unfold instrOk instrLen at h
  rw [hI] at h
  simp only [Bool.and_eq_true, Bool.or_eq_true, decide_eq_true_eq, List.contains_iff_mem] at h
  exact ⟨h.1.1, h.1.2, h.2⟩

/-- `wfCtxB` (`Model/InterpWf.lean`) as a proposition about the parts of the container that execution never changes -/
structure WfStatic (sections : List (List Nat)) (types : List (Nat × Nat × Nat)) (containers : List (List Nat))
    (data : List Nat) : Prop where
  nonempty : 0 < sections.length
  typesLen : types.length = sections.length
  first : returning (typeOf types 0) = false
  dataLen : data.length ≤ Memory.ISIZE_MAX
  secs : ∀ k sec, sections[k]? = some sec →
    (∀ b ∈ sec, b < 256) ∧ 0 ∈ boundaries sec ∧ ∀ i ∈ boundaries sec, i < sec.length ∧
      instrOk (boundaries sec) types containers k sec i = true

abbrev WfCtx (c : EofCtx) : Prop := WfStatic c.sections c.types c.containers c.data

theorem wfCtx_of_check (c : EofCtx) (h : wfCtxB c = true) : WfCtx c := by
  unfold wfCtxB at h
  simp only [Bool.and_eq_true, Bool.not_eq_true', beq_iff_eq, decide_eq_true_eq, List.all_eq_true,
    List.mem_range, List.isEmpty_eq_false_iff] at h
  obtain ⟨⟨⟨⟨h1, h2⟩, h3⟩, h4⟩, h5⟩ := h
  refine ⟨List.length_pos_iff.mpr h1, h2, h3, h4, ?_⟩
  intro k sec hk
  have hlt : k < c.sections.length := by
    rcases Nat.lt_or_ge k c.sections.length with hh | hh
    · exact hh
    · rw [List.getElem?_eq_none hh] at hk; cases hk
  have hs := h5 k hlt
  have hget : c.sections.getD k [] = sec := by
    rw [List.getD_eq_getElem?_getD, hk]; rfl
  rw [hget] at hs
  unfold secOkB at hs
  simp only [Bool.and_eq_true, List.contains_iff_mem, List.all_eq_true, decide_eq_true_eq] at hs
  exact ⟨hs.1.1, hs.1.2, fun i hi => hs.2 i hi⟩

/-- every frame of the return stack points at an instruction boundary of an existing section, and a returning
function always has a frame to return to -/
def FramesOk (sections : List (List Nat)) (types : List (Nat × Nat × Nat)) : Nat → List (Nat × Nat) → Prop
  | cur, [] => returning (typeOf types cur) = false
  | _, (idx, pc) :: rest =>
    (∃ sec, sections[idx]? = some sec ∧ pc ∈ boundaries sec) ∧ FramesOk sections types idx rest

/-- `WfCtx` and a valid `function_stack`: the current section exists and there are at most 1024 return frames (the
limit CALLF checks), each valid. What CALLF / RETF / JUMPF keep. -/
structure CtxOk (c : EofCtx) : Prop where
  wf : WfCtx c
  cur : c.curIdx < c.sections.length
  depth : c.retStack.length ≤ 1024
  frames : FramesOk c.sections c.types c.curIdx c.retStack

/-- the parts of a container that execution never changes -/
structure StaticEq (K c : EofCtx) : Prop where
  sections : c.sections = K.sections
  types : c.types = K.types
  containers : c.containers = K.containers
  data : c.data = K.data

/-- what holds of every state `run` reaches between two instructions of EOF code; `K`: the container the frame
started with -/
structure InvE (K : EofCtx) (s : IState) : Prop extends Base s where
  isEof : s.isEof = true
  jt : s.jumpTable = []
  ctx : ∃ c sec, s.eof = some c ∧ CtxOk c ∧ c.sections[c.curIdx]? = some sec ∧ s.code = sec
    ∧ s.pc ∈ boundaries sec
  /-- the container is still the one the frame started with (up to the function stack) -/
  static : ∀ c, s.eof = some c → StaticEq K c

theorem StaticEq.of_eof {K c : EofCtx} (h : StaticEq K c) {o : Option EofCtx} (ho : o = some c) :
    ∀ c1, o = some c1 → StaticEq K c1 := fun c1 h1 => by
  rw [ho] at h1
  cases h1
  exact h

theorem invE_loop (K : EofCtx) : LoopInv (InvE K) :=
  ⟨fun _ h => h.toBase,
   fun s x h hs hb =>
    { toBase := hb
      isEof := by rw [hs.isEof]; exact h.isEof
      jt := by rw [hs.jt]; exact h.jt
      ctx := by rw [hs.eofc, hs.code, hs.pc]; exact h.ctx
      static := by rw [hs.eofc]; exact h.static }⟩

/-- `InvE` gives the instruction pointer inside the section (`pc_in_bounds` for EOF) -/
theorem InvE.pc_lt {K : EofCtx} {s : IState} (h : InvE K s) : s.pc < s.code.length := by
  obtain ⟨c, sec, _, hok, hsec, hcode, hpc⟩ := h.ctx
  rw [hcode]
  exact ((hok.wf.secs _ _ hsec).2.2 _ hpc).1

theorem InvE.retStack_le {K : EofCtx} {s : IState} (h : InvE K s) :
    ∃ c, s.eof = some c ∧ c.curIdx < c.sections.length ∧ c.retStack.length ≤ 1024 := by
  obtain ⟨c, sec, he, hok, _, _, _⟩ := h.ctx
  exact ⟨c, he, hok.cur, hok.depth⟩

theorem InvE.code_eq {K : EofCtx} {s : IState} (h : InvE K s) :
    ∃ c, s.eof = some c ∧ K.sections[c.curIdx]? = some s.code := by
  obtain ⟨c, sec, he, hok, hsec, hcode, _⟩ := h.ctx
  exact ⟨c, he, by rw [hcode, ← (h.static c he).sections]; exact hsec⟩

end Revm.Proofs.Interp
