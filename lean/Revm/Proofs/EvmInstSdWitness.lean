import Revm.Proofs.EvmInstTrace
import Revm.Spec.Evm
import Revm.Proofs.EvmLoop
/-! C29 / C30 instance: the hypotheses of `evm_hooks_balanced`, `evm_hooks_logs`, `evm_selfdestruct_notified_once` are
satisfiable by a non-trivial concrete run, evaluated by the kernel: the transaction calls contract `0xbb` (value 5),
which CALLs `0xcc`; `0xcc` runs `LOG0` and `SELFDESTRUCT` to the fresh account `0xdd` (balance 7 moves); `0xbb` stops. -/
namespace Revm.Proofs.EvmInstSd
open Revm Revm.Model Revm.Model.Evm Revm.Proofs.EvmInstHooks
open Revm.Model.InspectorHooks (Spawn Ev runTx)

def witnessWorld : World := Revm.Spec.Evm.freshWorld 17
  [{ addr := 0xaa, balance := 10^18, nonce := 0, code := [], codeHash := Evm.KECCAK_EMPTY, storage := [] },
   { addr := 0xbb, balance := 1, nonce := 1,
     code := [0x60, 0, 0x60, 0, 0x60, 0, 0x60, 0, 0x60, 0, 0x60, 0xcc, 0x61, 0xff, 0xff, 0xf1, 0x00],
     codeHash := 0x1234, storage := [] },
   { addr := 0xcc, balance := 7, nonce := 1, code := [0x60, 0, 0x60, 0, 0xa0, 0x60, 0xdd, 0xff], codeHash := 0x5678,
     storage := [] }] true []

def witnessEnv : Env :=
  { block := { gasLimit := 30000000, basefee := 7, prevrandao := some 0, blobGasPrice := some 1 },
    tx := { caller := 0xaa, gasLimit := 200000, gasPrice := 10, to := some 0xbb, value := 5, nonce := some 0 } }

/-- completed?, the completed SELFDESTRUCTs, the appended logs, the number of turns, the callback word -/
def summary (p : R (Outcome × World) × Option (Spawn × List LEv)) :
    Bool × List (Nat × Nat × Nat) × List Nat × Nat × List Ev :=
  (Revm.Proofs.Evm.isOk p.1,
   match p.2 with
   | some (f, evs) =>
     (completedSelfdestructs evs, appendedLogs evs, (scriptOf evs).length, (runTx {} f (scriptOf evs)).2.word)
   | none => ([], [], 0, []))

theorem witness_run :
    summary (transactTr 100 witnessWorld witnessEnv 17) =
      (true, [(0xcc, 0xdd, 7)], [0], 3,
       [.opn .call 0, .initInterp, .step, .stepEnd, .step, .stepEnd, .step, .stepEnd, .step, .stepEnd, .step, .stepEnd,
        .step, .stepEnd, .step, .stepEnd, .step, .stepEnd,
        .opn .call 1, .initInterp, .step, .stepEnd, .step, .stepEnd, .step, .stepEnd, .log 0, .step, .stepEnd,
        .step, .stepEnd, .selfdestruct 0xcc 0xdd 7, .cls .call 1 0,
        .step, .stepEnd, .cls .call 0 0]) := by decide +kernel

/-- hence the hypothesis of the three theorems holds for some outcome and trace -/
theorem witness_hypothesis : ∃ o w' first evs,
    transactTr 100 witnessWorld witnessEnv 17 = (.ok (o, w'), some (first, evs)) ∧
    completedSelfdestructs evs = [(0xcc, 0xdd, 7)] ∧ appendedLogs evs = [0] := by
  have h := witness_run
  unfold summary at h
  cases hp : transactTr 100 witnessWorld witnessEnv 17 with
  | mk r t =>
    rw [hp] at h
    cases r with
    | error e => simp [Revm.Proofs.Evm.isOk] at h
    | ok x =>
      cases t with
      | none => simp at h
      | some y =>
        obtain ⟨o, w'⟩ := x
        obtain ⟨first, evs⟩ := y
        simp only [Prod.mk.injEq] at h
        exact ⟨o, w', first, evs, rfl, h.2.1, h.2.2.1⟩

end Revm.Proofs.EvmInstSd
