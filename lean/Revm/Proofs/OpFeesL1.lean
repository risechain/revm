import Revm.Proofs.OpFees
/-! `calculate_tx_l1_cost` (Bedrock / Ecotone / Fjord) equals the fork's cost formula over unbounded
integers whenever no 256-bit (or, for the Fjord size estimate, 64-bit) intermediate saturates (C33). -/
namespace Revm.Proofs.OpFees
open Revm Revm.U256 Revm.Model.OpFees
open Revm.Spec.OpFees (calldataGas estimatedSize feeScaled l1Bedrock l1Cost)

theorem foldl_calldata (input : List Nat) (a : Nat) :
    input.foldl (fun acc b => acc + (if b = 0 then 4 else 16)) a =
      a + (input.filter (· = 0)).length * 4 + (input.filter (· ≠ 0)).length * 16 := by
  induction input generalizing a with
  | nil => simp
  | cons b bs ih =>
    simp only [List.foldl_cons, ih]
    by_cases hb : b = 0
    · simp [hb]; omega
    · simp [hb]; omega

theorem dataGas_pre_fjord (input : List Nat) (spec : Nat) (hf : enabled spec FJORD = false)
    (hW : calldataGas input spec < W) : dataGas input spec = calldataGas input spec := by
  unfold dataGas calldataGas at *
  simp only [hf, Bool.false_eq_true, if_false, foldl_calldata, Nat.zero_add]
  by_cases hr : enabled spec REGOLITH = true
  · simp only [hr, Bool.not_true, Bool.false_eq_true, if_false, if_true, Nat.add_zero] at hW ⊢
  · simp only [hr, Bool.not_false, if_true, Bool.false_eq_true, if_false] at hW ⊢
    have h1 : wmul 16 68 = 1088 := by decide
    rw [h1, wadd_eq hW]

theorem estimatedSize_eq (input : List Nat) (h : flzCompressLen input * 836500 < U64) :
    txEstimatedSizeFjord input = estimatedSize input := by
  unfold txEstimatedSizeFjord estimatedSize U64ops.saturatingMul U64ops.saturatingSub
  simp only [h, if_true]

theorem feeScaled_eq (info : L1Info)
    (h1 : info.l1BaseFee * 16 < W) (h2 : info.l1BaseFee * 16 * info.l1BaseFeeScalar < W)
    (h3 : info.l1BlobBaseFee.getD 0 * info.l1BlobBaseFeeScalar.getD 0 < W) (h4 : feeScaled info < W) :
    l1FeeScaledEcotone info = feeScaled info := by
  unfold l1FeeScaledEcotone feeScaled at *
  rw [satMul_eq h1, satMul_eq h2, satMul_eq h3, satAdd_eq h4]

theorem l1CostBedrock_eq (info : L1Info) (input : List Nat) (spec : Nat) (hf : enabled spec FJORD = false)
    (h1 : calldataGas input spec + info.l1FeeOverhead.getD 0 < W)
    (h2 : (calldataGas input spec + info.l1FeeOverhead.getD 0) * info.l1BaseFee < W)
    (h3 : (calldataGas input spec + info.l1FeeOverhead.getD 0) * info.l1BaseFee * info.l1BaseFeeScalar < W) :
    l1CostBedrock info input spec = l1Bedrock info input spec := by
  unfold l1CostBedrock l1Bedrock wdiv
  rw [dataGas_pre_fjord input spec hf (by omega), satAdd_eq h1, satMul_eq h2, satMul_eq h3]

/-- the no-saturation conditions of the cost function of the fork `spec` -/
structure NoSat (info : L1Info) (input : List Nat) (spec : Nat) : Prop where
  bedrock : (enabled spec ECOTONE = false ∨ (enabled spec FJORD = false ∧ info.emptyEcotoneScalars = true)) →
    calldataGas input spec + info.l1FeeOverhead.getD 0 < W ∧
    (calldataGas input spec + info.l1FeeOverhead.getD 0) * info.l1BaseFee < W ∧
    (calldataGas input spec + info.l1FeeOverhead.getD 0) * info.l1BaseFee * info.l1BaseFeeScalar < W
  scaled : (enabled spec FJORD = true ∨ (enabled spec ECOTONE = true ∧ info.emptyEcotoneScalars = false)) →
    info.l1BaseFee * 16 < W ∧ info.l1BaseFee * 16 * info.l1BaseFeeScalar < W ∧
    info.l1BlobBaseFee.getD 0 * info.l1BlobBaseFeeScalar.getD 0 < W ∧ feeScaled info < W
  ecotone : (enabled spec FJORD = false ∧ enabled spec ECOTONE = true ∧ info.emptyEcotoneScalars = false) →
    calldataGas input spec < W ∧ feeScaled info * calldataGas input spec < W
  fjord : enabled spec FJORD = true →
    flzCompressLen input * 836500 < U64 ∧ estimatedSize input * feeScaled info < W

theorem l1Cost_eq (info : L1Info) (input : List Nat) (spec : Nat) (hc : info.txL1Cost = none)
    (hn : NoSat info input spec) :
    (calculateTxL1Cost info input spec).1 = l1Cost info input spec := by
  rw [calculateTxL1Cost_fresh _ _ _ hc]
  unfold l1Cost
  by_cases hz : zeroCostEnvelope input = true
  · simp only [hz, if_true]
  · simp only [hz, Bool.false_eq_true, if_false]
    unfold l1CostFresh
    by_cases hf : enabled spec FJORD = true
    · simp only [hf, if_true]
      obtain ⟨a1, a2, a3, a4⟩ := hn.scaled (Or.inl hf)
      obtain ⟨b1, b2⟩ := hn.fjord hf
      unfold l1CostFjord wdiv
      rw [estimatedSize_eq _ b1, feeScaled_eq _ a1 a2 a3 a4, satMul_eq b2]
    · have hf' : enabled spec FJORD = false := by simpa using hf
      simp only [hf', Bool.false_eq_true, if_false]
      by_cases he : enabled spec ECOTONE = true
      · simp only [he, if_true]
        unfold l1CostEcotone
        by_cases hem : info.emptyEcotoneScalars = true
        · simp only [hem, if_true]
          obtain ⟨c1, c2, c3⟩ := hn.bedrock (Or.inr ⟨hf', hem⟩)
          exact l1CostBedrock_eq info input spec hf' c1 c2 c3
        · have hem' : info.emptyEcotoneScalars = false := by simpa using hem
          simp only [hem', Bool.false_eq_true, if_false]
          obtain ⟨a1, a2, a3, a4⟩ := hn.scaled (Or.inr ⟨he, hem'⟩)
          obtain ⟨d1, d2⟩ := hn.ecotone ⟨hf', he, hem'⟩
          unfold wdiv
          rw [feeScaled_eq _ a1 a2 a3 a4, dataGas_pre_fjord input spec hf' d1, satMul_eq d2]
      · have he' : enabled spec ECOTONE = false := by simpa using he
        simp only [he', Bool.false_eq_true, if_false]
        obtain ⟨c1, c2, c3⟩ := hn.bedrock (Or.inl he')
        exact l1CostBedrock_eq info input spec hf' c1 c2 c3

end Revm.Proofs.OpFees
