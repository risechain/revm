import Revm.Proofs.EvmLinkGasLoop
import Revm.Proofs.InterpRun
import Revm.Proofs.MemoryOutcome
/-! The interpreter side of panic-freedom for ONE frame, one shared memory and one code store; `EvmLinkInterpLoop`
carries it along the loop. `step_good2`: C25's sweep (`step_fetch`) plus what the frame machine needs of the shared
memory. Around a child frame: `AboveM`, `freeContext_above`, `buffer_le`, `insertBy_mem`, `insertBy_sat`. The code store
and the precompile oracle hold Rust `Bytes` only (`StoreOk`; only `create_return` adds to them), and so do the results
and frames of the frame functions (`makeFrame_out`, `frameReturn_out`); a frame the model opens satisfies C25's
invariant (`makeFrame_init`, from `init_inv'`; `freshMem_newContext`, `answer_respOk` are its ingredients). Assumed:
`PcOut`, proved in `EvmLinkPcOut`. -/
namespace Revm.Proofs.EvmLink
open Revm Revm.Model Revm.Model.Interp
open Revm.Proofs.Memory (WF)
local notation "IInv" => Revm.Proofs.Interp.Inv
local notation "imeas" => Revm.Proofs.Interp.measure
local notation "iclen" => Revm.Proofs.Interp.clen

/-- the checkpoints of `x`'s memory are those of `s`'s -/
def CkEq (s x : IState) : Prop :=
  x.mem.lastCheckpoint = s.mem.lastCheckpoint ∧ x.mem.checkpoints = s.mem.checkpoints

theorem CkEq.refl (s : IState) : CkEq s s := ⟨rfl, rfl⟩
theorem CkEq.trans {a b c : IState} (h1 : CkEq a b) (h2 : CkEq b c) : CkEq a c :=
  ⟨h2.1.trans h1.1, h2.2.trans h1.2⟩

/-- one resolved instruction, relative to the state before it: C25's `StepOkP` plus the memory facts, and the
calldata / initcode of an action that goes out is a Rust `Bytes` (`ActOk2`) -/
abbrev StepOk2 (s : IState) : Done → Prop :=
  Revm.Proofs.Interp.DoneGoodP (fun s' => imeas s' ≤ imeas s ∧ WF s'.mem ∧ CkEq s s')
    (fun s' => IInv s' ∧ imeas s' + 1 ≤ imeas s ∧ CkEq s s')
    (fun a s' => IInv s' ∧ imeas s' + a.gasLimit + 1 ≤ imeas s ∧ Revm.Proofs.Interp.RetOk a (iclen s'.mem) ∧ CkEq s s'
      ∧ ActOk2 a)

/-- `StepOk2` of an `Outcome` not yet resolved: of every `Done` an answer of the host that is a Rust value leads to -/
abbrev StepGood2 (s : IState) : Outcome → Prop :=
  Revm.Proofs.Interp.GoodP (fun s' => imeas s' ≤ imeas s ∧ WF s'.mem ∧ CkEq s s')
    (fun s' => IInv s' ∧ imeas s' + 1 ≤ imeas s ∧ CkEq s s')
    (fun a s' => IInv s' ∧ imeas s' + a.gasLimit + 1 ≤ imeas s ∧ Revm.Proofs.Interp.RetOk a (iclen s'.mem) ∧ CkEq s s'
      ∧ ActOk2 a)

/-- one instruction of a frame that satisfies C25's invariant: never a fault; the invariant is kept; the checkpoints
of the shared memory stay; a halting state has a well-formed memory -/
theorem step_good2 (s : IState) (hi : IInv s) : StepGood2 s (step s) :=
  have hic : Revm.Proofs.Interp.InvC s.code s.origLen s := ⟨hi, rfl, rfl⟩
  (Revm.Proofs.Interp.step_fetch hi).mono
    (fun _ h => ⟨by have := h.meas; rw [Nat.add_zero] at this; exact this, h.memWF, h.ck, h.cks⟩)
    (fun _ hn => ⟨(hic.next hn.core hn.pcOk).1, hn.core.meas, hn.core.ck, hn.core.cks⟩)
    (fun _ _ hn => ⟨(hic.next hn.1.core hn.1.pcOk).1, hn.1.gas, hn.1.ret, ⟨hn.1.core.ck, hn.1.core.cks⟩, hn.2⟩)

theorem inv_setMem {s : IState} (hi : IInv s) {m : Memory.SharedMemory} (hs : Revm.Proofs.Interp.Shape s.mem m) :
    IInv { s with mem := m } ∧ imeas { s with mem := m } = imeas s := by
  have hm : imeas { s with mem := m } = imeas s := by
    show s.gas.remaining + Memory.currentExpansionCost m = s.gas.remaining + Memory.currentExpansionCost s.mem
    rw [Revm.Proofs.Interp.cost_shape hs]
  refine ⟨?_, hm⟩
  exact
    { codeLen := hi.codeLen, pad := hi.pad, jt := hi.jt, legacy := hi.legacy, notInit := hi.notInit
      envOk := hi.envOk, origLe := hi.origLe, pc := hi.pc, stack := hi.stack
      memWF := Revm.Proofs.Interp.WF_shape hi.memWF hs
      memCk := by show m.lastCheckpoint ≤ _; rw [hs.1]; exact hi.memCk
      rdLen := hi.rdLen, inLen := hi.inLen
      meas := by rw [hm]; exact hi.meas
      safe := by rw [hm]; exact hi.safe }

/-- the memory `c` is a context opened on top of a memory of the shape of `p` -/
def AboveM (c p : Memory.SharedMemory) : Prop :=
  c.checkpoints = p.buffer.length :: p.checkpoints ∧ c.lastCheckpoint = p.buffer.length

theorem freeContext_above {c p : Memory.SharedMemory} (hc : WF c) (hp : WF p) (ha : AboveM c p) :
    ∃ m, Memory.freeContext c = .ok m ∧ Revm.Proofs.Interp.Shape p m := by
  obtain ⟨h1, h2, h3⟩ := hc
  obtain ⟨p1, p2, p3⟩ := hp
  unfold Memory.freeContext
  rw [ha.1] at h1 ⊢
  simp only []
  rw [if_pos h1.1]
  refine ⟨_, rfl, ?_, rfl, ?_⟩
  · show (match p.checkpoints with | [] => 0 | c :: _ => c) = p.lastCheckpoint
    rw [p2]
    cases p.checkpoints <;> rfl
  · show (c.buffer.take p.buffer.length).length = p.buffer.length
    rw [List.length_take]
    exact Nat.min_eq_left h1.1

/-- bound on the bytes of a frame's memory context while its memory cost is not saturated (`clen_le_of_cost`): beyond
`2^38` words the quadratic term alone exceeds `u64::MAX` -/
def FB : Nat := 2^43

theorem clen_le_of_cost {m : Memory.SharedMemory} (h : WF m) (hc : Memory.currentExpansionCost m < U64 - 1) :
    iclen m ≤ FB := by
  have hU := U64_val
  unfold Memory.currentExpansionCost at hc
  rw [Revm.Proofs.Interp.len_clen h] at hc
  have hl := Revm.Proofs.Interp.clen_lt h
  show Revm.Proofs.Interp.clen m ≤ FB
  generalize Revm.Proofs.Interp.clen m = n at hc hl ⊢
  unfold Memory.memoryGas Memory.numWords at hc
  have hs : U64ops.saturatingAdd n 31 = n + 31 := by
    unfold U64ops.saturatingAdd
    unfold Memory.ISIZE_MAX at hl
    split <;> omega
  rw [hs] at hc
  simp only [] at hc
  generalize hw : (n + 31) / 32 = w at hc
  unfold FB
  by_cases hb : w ≤ 2^38
  · omega
  · exfalso
    have h2 : 2^38 * 2^38 ≤ w * w := Nat.mul_le_mul (by omega) (by omega)
    generalize w * w = q at hc h2
    split at hc <;> omega

open Revm Revm.Model Revm.Model.Evm
local notation "ISZ" => Memory.ISIZE_MAX

/-- every code in the store is a Rust `Bytes` -/
def CodesOk (codes : List (Nat × List Nat)) : Prop := ∀ p ∈ codes, p.2.length ≤ ISZ

theorem CodesOk.codeOf {w : World} (h : CodesOk w.codes) {hh : Nat} {bytes : List Nat}
    (hb : w.codeOf hh = some bytes) : bytes.length ≤ ISZ := by
  unfold World.codeOf at hb
  split at hb
  · cases hb; exact Nat.zero_le _
  · have hm : (hh, bytes) ∈ w.codes := by
      generalize w.codes = l at hb
      induction l with
      | nil => cases hb
      | cons p l ih =>
        obtain ⟨k, v⟩ := p
        simp only [List.lookup] at hb
        split at hb
        · rename_i heq
          cases hb
          have : hh = k := by simpa using heq
          subst this
          exact List.mem_cons_self ..
        · exact List.mem_cons_of_mem _ (ih hb)
    exact h _ hm

/-- the hypothesis of `answer_respOk` / `callTail_init_inv` -/
theorem CodesOk.hyp {w : World} (h : CodesOk w.codes) :
    ∀ (wx : World) (hh : Nat) (bytes : List Nat), wx.codes = w.codes → wx.codeOf hh = some bytes →
      bytes.length ≤ ISZ := fun wx hh bytes e hb => CodesOk.codeOf (w := wx) (by rw [e]; exact h) hb

/-- every recorded precompile answer carries a Rust `Bytes` -/
def PcOk (l : List PcAnswer) : Prop := ∀ p ∈ l, p.out.length ≤ ISZ

/-- the code store and the precompile oracle hold Rust `Bytes` only -/
def StoreOk (w : World) : Prop := CodesOk w.codes ∧ PcOk w.pcOracle

def StoreEq (w w1 : World) : Prop := w1.codes = w.codes ∧ w1.pcOracle = w.pcOracle

theorem StoreEq.refl (w : World) : StoreEq w w := ⟨rfl, rfl⟩
theorem StoreEq.trans {a b c : World} (h1 : StoreEq a b) (h2 : StoreEq b c) : StoreEq a c :=
  ⟨h2.1.trans h1.1, h2.2.trans h1.2⟩
theorem StoreOk.eq {w w1 : World} (h : StoreOk w) (e : StoreEq w w1) : StoreOk w1 := by
  unfold StoreOk; rw [e.1, e.2]; exact h

/-- the kind of the frame opened for an action -/
def FKind (a : Interp.Action) (k : FrameKind) : Prop :=
  match a with
  | .call i => k = .call i.retStart i.retEnd
  | _ => ∃ addr, k = .create addr

/-- the return window of the CALL a frame of kind `k` answers lies inside the memory of the waiting state `p` -/
def KindOk (k : FrameKind) (p : Interp.IState) : Prop :=
  match k with
  | .call rs re => re - rs = 0 ∨ (rs ≤ re ∧ re ≤ iclen p.mem)
  | .create _ => True

theorem insertBy_mem (kind : FrameKind) (o : Interp.ChildResult) (s : Interp.IState) (hw : WF s.mem)
    (hk : KindOk kind s) :
    match insertBy kind o s with
    | .ok _ x => CkEq s x
    | .halt _ out x => CkEq s x ∧ WF x.mem ∧ out = []
    | .fault _ => True := by
  have lands : ∀ (e : Interp.Exec Unit) (s' : Interp.IState), Revm.Proofs.MemoryOutcome.Lands e s' →
      Revm.Proofs.Interp.Shape s.mem s'.mem →
      (match e with
        | .ok _ x => CkEq s x
        | .halt _ out x => CkEq s x ∧ WF x.mem ∧ out = []
        | .fault _ => True) := by
    intro e s' hl hs
    rcases hl with rfl | rfl
    · exact ⟨hs.1, hs.2.1⟩
    · exact ⟨⟨hs.1, hs.2.1⟩, Revm.Proofs.Interp.WF_shape hw hs, rfl⟩
  cases kind with
  | call rs re =>
    show (match Interp.insertCallOutcome rs re o s with
      | .ok _ x => CkEq s x
      | .halt _ out x => CkEq s x ∧ WF x.mem ∧ out = []
      | .fault _ => True)
    rcases Revm.Proofs.MemoryOutcome.insertCallOutcome_mem rs re o s with ⟨_, h⟩ | ⟨_, _, _, s', hl, hm⟩ | ⟨_, h⟩
    · rw [h]; trivial
    · exact lands _ s' hl (by rw [hm]; exact Revm.Proofs.Interp.Shape.refl _)
    · have hin : (o.output.take (min (re - rs) o.output.length)) = []
          ∨ rs + (o.output.take (min (re - rs) o.output.length)).length ≤ iclen s.mem := by
        rcases hk with h0 | ⟨h1, h2⟩
        · left; rw [h0]; simp
        · right; simp only [List.length_take]; omega
      obtain ⟨m', hset, hshape⟩ := Revm.Proofs.Interp.set_ok hw hin
      rw [hset] at h
      obtain ⟨s', hl, hm⟩ := h
      exact lands _ s' hl (by rw [hm]; exact hshape)
  | create a =>
    show (match Interp.insertCreateOutcome o s with
      | .ok _ x => CkEq s x
      | .halt _ out x => CkEq s x ∧ WF x.mem ∧ out = []
      | .fault _ => True)
    rcases Revm.Proofs.MemoryOutcome.insertCreateOutcome_mem o s with ⟨_, h⟩ | ⟨s', hl, hm⟩
    · rw [h]; trivial
    · exact lands _ s' hl (by rw [hm]; exact Revm.Proofs.Interp.Shape.refl _)

/-- C25's re-entry lemma, by the kind of the frame -/
theorem insertBy_sat (kind : FrameKind) (o : Interp.ChildResult) (s : Interp.IState) (gl : Nat)
    (hi : Revm.Proofs.Interp.Base s) (hB : imeas s + gl ≤ U64 - 2) (hk : KindOk kind s) (hg : o.gasRemaining ≤ gl)
    (hnf : o.result ≠ .FatalExternalError) (hol : o.output.length ≤ ISZ) :
    Interp.Exec.Sat (insertBy kind o s) (fun x => imeas x ≤ imeas s + gl)
      (fun _ x => Revm.Proofs.Interp.Mid (imeas s + gl) s x) := by
  cases kind with
  | call rs re => exact Revm.Proofs.Interp.insertCall_sat hi (Nat.le_refl _) hB rs re o hk hg hnf hol
  | create a => exact Revm.Proofs.Interp.insertCreate_sat hi (Nat.le_refl _) hB o hg hnf hol

theorem freeCtx_eq {m m' : Memory.SharedMemory} (h : Memory.freeContext m = .ok m') : freeCtx m = .ok m' := by
  unfold freeCtx; rw [h]; rfl

theorem buffer_le {s : Interp.IState} (hs : IInv s) (hm : imeas s < U64 - 1) (n : Nat)
    (hlc : s.mem.lastCheckpoint ≤ n * FB) : s.mem.buffer.length ≤ (n + 1) * FB := by
  have hcost : Memory.currentExpansionCost s.mem < U64 - 1 := by
    have : imeas s = s.gas.remaining + Memory.currentExpansionCost s.mem := rfl
    omega
  have h1 := clen_le_of_cost hs.memWF hcost
  have h2 : iclen s.mem = s.mem.buffer.length - s.mem.lastCheckpoint := rfl
  rw [Nat.add_mul]
  omega

theorem JOnly.store {w w1 : World} {l : List Nat} (n : JOnly w w1 l) : StoreEq w w1 := ⟨n.codes, n.pcOracle⟩

theorem noteAddr_store (w : World) (a : Nat) : StoreEq w (w.noteAddr a) := ((JOnly.js w w.js).noteAddr a).store
theorem noteSlot_store (w : World) (a k : Nat) : StoreEq w (w.noteSlot a k) := ((JOnly.js w w.js).noteSlot a k).store

/-- the executable precompiles (SHA-256, RIPEMD-160, identity, MODEXP, BN add / mul, BLAKE2F) return a Rust `Bytes` -/
def PcOut : Prop :=
  ∀ (fork : Precompile.Fork) (a : Nat) (input : List Nat) (gasLimit gasUsed : Nat) (out : List Nat),
    isOraclePrecompile a = false → Precompile.call dummyCores fork a input gasLimit = some (.ok gasUsed out) →
    input.length ≤ ISZ → out.length ≤ ISZ

/-- `make_*_frame` leaves the stores alone, and an immediate result carries at most `gasLimit` gas and a Rust `Bytes`
(the interpreter-side counterpart of `FOut` of `EvmLinkTotalFrames`, which speaks of the journal) -/
structure MkOut (w w' : World) (gasLimit : Nat) (fr : FrameOrResult Journal.Checkpoint) : Prop where
  store : StoreEq w w'
  res : ∀ o, fr = .result o → o.gasRemaining ≤ gasLimit ∧ o.output.length ≤ ISZ

theorem early_out (r : Interp.IResult) (g : Nat) {o : Interp.ChildResult}
    (h : FrameOrResult.result (κ := Journal.Checkpoint) (earlyResult r g) = .result o) :
    o.gasRemaining ≤ g ∧ o.output.length ≤ ISZ := by
  cases h
  exact ⟨Nat.le_refl _, Nat.zero_le _⟩

/-- the frame `make_call_frame` opens -/
def ClFr (cfg : Cfg) (w : World) (i : Interp.CallInputs) (mem : Memory.SharedMemory) (f : JFrame) : Prop :=
  f.kind = .call i.retStart i.retEnd ∧ ∃ code : List Nat, (CodesOk w.codes → code.length ≤ ISZ) ∧
    f.interp = Interp.IState.init code i.input i.gasLimit i.isStatic cfg.spec i.targetAddress i.caller i.value
      cfg.env (Memory.newContext mem)

theorem runPrecompile_out (pco : PcOut) {w : World} {spec a : Nat} {input : List Nat} {gasLimit gasUsed : Nat}
    {out : List Nat} (h : runPrecompile w spec a input gasLimit = .ok (some (.ok gasUsed out)))
    (hpc : PcOk w.pcOracle) (hin : input.length ≤ ISZ) : out.length ≤ ISZ := by
  unfold runPrecompile at h
  split at h
  · cases h
  · split at h
    · split at h
      · rename_i p hp
        have hm := List.mem_of_find?_eq_some hp
        split at h
        · simp only [pure, Except.pure, Except.ok.injEq, Option.some.injEq, Precompile.Res.ok.injEq] at h
          rw [← h.2]; exact hpc p hm
        · split at h
          · cases h
          · split at h <;> cases h
      · cases h
    · rename_i ho
      simp only [pure, Except.pure, Except.ok.injEq] at h
      exact pco _ _ _ _ _ _ (by simpa using ho) h hin

theorem makeCallFrame_out (pco : PcOut) {cfg : Cfg} {w w' : World} {i : Interp.CallInputs} {mem fr}
    (h : makeCallFrame journalOps cfg w i mem = .ok (fr, w')) (hpc : PcOk w.pcOracle) (hin : i.input.length ≤ ISZ) :
    MkOut w w' i.gasLimit fr ∧ ∀ f, fr = .frame f → ClFr cfg w i mem f := by
  rcases makeCallFrame_hist h [] with ⟨_, rfl, rfl⟩ | ⟨_, _, _, _, hh, _, he⟩
  · exact ⟨⟨StoreEq.refl _, fun o ho => early_out _ _ ho⟩, fun f hf => nomatch hf⟩
  · have st : StoreEq w w' := hh.only.store
    cases he with
    | reverted | empty => exact ⟨⟨st, fun o ho => early_out _ _ ho⟩, fun f hf => nomatch hf⟩
    | committed gasUsed out hrun =>
      refine ⟨⟨st, fun o ho => ?_⟩, fun f hf => nomatch hf⟩
      cases ho
      exact ⟨Nat.sub_le _ _, runPrecompile_out pco hrun (by rw [st.2]; exact hpc) hin⟩
    | frame _ code hb | delegated _ _ code hb =>
      exact ⟨⟨st, fun o ho => nomatch ho⟩, fun f hf => by
        cases hf
        exact ⟨rfl, _, fun hc => CodesOk.codeOf (w := w') (by rw [st.1]; exact hc) hb, rfl⟩⟩

/-- the frame `make_create_frame` opens -/
def CrFr (cfg : Cfg) (i : Interp.CreateInputs) (mem : Memory.SharedMemory) (f : JFrame) : Prop :=
  ∃ created : Nat, f.kind = .create created ∧
    f.interp = Interp.IState.init i.initCode [] i.gasLimit false cfg.spec created i.caller i.value cfg.env
      (Memory.newContext mem)

theorem makeCreateFrame_out {cfg : Cfg} {w w' : World} {i : Interp.CreateInputs} {mem fr}
    (h : makeCreateFrame journalOps cfg w i mem = .ok (fr, w')) :
    MkOut w w' i.gasLimit fr ∧ ∀ f, fr = .frame f → CrFr cfg i mem f := by
  rcases makeCreateFrame_hist h [] with ⟨_, rfl, rfl⟩ | ⟨_, _, _, hh, _, he⟩
  · exact ⟨⟨StoreEq.refl _, fun o ho => early_out _ _ ho⟩, fun f hf => nomatch hf⟩
  · obtain ⟨_, _, h2⟩ := he.hist
    have st := (hh.append h2).only.store
    cases he with
    | early | refused => exact ⟨⟨st, fun o ho => early_out _ _ ho⟩, fun f hf => nomatch hf⟩
    | frame created => exact ⟨⟨st, fun o ho => nomatch ho⟩, fun f hf => by cases hf; exact ⟨created, rfl, rfl⟩⟩

theorem addCode_storeOk {w : World} (h : StoreOk w) (hash : Nat) (c : List Nat) (hc : c.length ≤ ISZ) :
    StoreOk (w.addCode hash c) := by
  unfold World.addCode
  split
  · exact h
  · split
    · exact h
    · refine ⟨fun p hp => ?_, h.2⟩
      cases hp with
      | head => exact hc
      | tail _ hp => exact h.1 p hp

theorem createReturn_store {cfg : Cfg} {w w' : World} {cp : Journal.Checkpoint} {a : Nat} {r r' : Interp.ChildResult}
    (h : createReturn journalOps cfg w cp a r = .ok (r', w')) (hs : StoreOk w) :
    (r.output.length ≤ ISZ → StoreOk w') ∧ r'.output.length ≤ r.output.length := by
  obtain ⟨hlen, hcode⟩ := createVerdict_output cfg a r
  rw [(createReturn_ok h).1]
  refine ⟨fun hout => ?_, hlen⟩
  rcases createReturn_hist (cps := [cp]) (i := 0) h rfl with hh | ⟨hash, code, w2, hv, hh, rfl⟩
  · exact hs.eq hh.only.store
  · exact addCode_storeOk (hs.eq hh.only.store) _ _ (Nat.le_trans (hcode _ _ hv) hout)

theorem makeFrame_out (pco : PcOut) {cfg : Cfg} {w w' : World} {a : Interp.Action} {mem fr}
    (h : makeFrame journalOps cfg w a mem = .ok (fr, w')) (hs : StoreOk w) (hd : dataLen a ≤ ISZ) :
    MkOut w w' a.gasLimit fr := by
  rcases makeFrame_cases h with ⟨i, rfl, hm⟩ | ⟨i, rfl, hm⟩
  · exact (makeCallFrame_out pco hm hs.2 hd).1
  · exact (makeCreateFrame_out hm).1

theorem frameReturn_out {cfg : Cfg} {top : JFrame} {w w' : World} {res res' : Interp.ChildResult}
    (h : frameReturn journalOps cfg top w res = .ok (res', w')) (hs : StoreOk w) :
    res'.gasRemaining ≤ res.gasRemaining ∧ res'.output.length ≤ res.output.length ∧
      (res.output.length ≤ ISZ → StoreOk w') := by
  refine ⟨frameReturn_gas h, ?_⟩
  rcases frameReturn_cases h with ⟨_, _, _, h⟩ | ⟨_, _, h⟩
  · rw [(callReturn_ok h).1]
    obtain ⟨_, _, hh⟩ := callReturn_hist (cps := [top.checkpoint]) (i := 0) h rfl
    exact ⟨Nat.le_refl _, fun _ => hs.eq hh.only.store⟩
  · obtain ⟨k1, k2⟩ := createReturn_store h hs
    exact ⟨k2, k1⟩

section
open Revm.Proofs.Interp

theorem freshMem_newContext {m : Memory.SharedMemory} (h : Proofs.Memory.WF m) (hl : m.buffer.length ≤ 2^62) :
    FreshMem (Memory.newContext m) :=
  ⟨Proofs.Memory.newContext_wf h, hl, by show m.buffer.length - m.buffer.length = 0; omega⟩

/-- C25 `RespOk` for the `Host` of EvmHost: only `code` answers carry bytes, and they come from the code store -/
theorem answer_respOk {he : HostEnv} {w w1 : World} {op : Interp.HostOp} {resp : Interp.HostResp}
    (h : answer he w op = .ok (resp, w1))
    (hc : ∀ (wx : World) (hh : Nat) (bytes : List Nat), wx.codes = w.codes → wx.codeOf hh = some bytes →
      bytes.length ≤ Memory.ISIZE_MAX) (hcodes : ∀ a wx c, w.loadCode a = .ok (wx, c) → wx.codes = w.codes) :
    RespOk resp := by
  obtain ⟨_, hb | ⟨a, rfl⟩, hi⟩ := answer_inv h
  · show resp.bytes.length ≤ _
    rw [hb]; exact Nat.zero_le _
  · obtain ⟨hl, hh, hb⟩ := hi
    exact hc w1 hh _ (hcodes a w1 _ hl) hb

theorem w_loadCode_codes {w w1 : World} {a : Nat} {c : Bool} (h : w.loadCode a = .ok (w1, c)) : w1.codes = w.codes :=
  ((w_loadCode_wstep h).2 []).only.codes

/-- the frame `make_create_frame` opens satisfies C25's invariant (`init_inv'`) -/
theorem makeCreateFrame_init_inv {cfg : Cfg} {w w' : World} {i : Interp.CreateInputs} {mem : Memory.SharedMemory}
    {f : Frame Journal.Checkpoint} (h : makeCreateFrame journalOps cfg w i mem = .ok (.frame f, w'))
    (hcl : i.initCode.length ≤ Memory.ISIZE_MAX) (hg : i.gasLimit < U64) (henv : EnvOk cfg.spec cfg.env)
    (hm : Proofs.Memory.WF mem) (hl : mem.buffer.length ≤ 2^62) :
    Inv f.interp ∧ measure f.interp = i.gasLimit := by
  obtain ⟨created, hf⟩ := makeCreateFrame_frame h
  rw [hf]
  exact init_inv' _ _ _ _ _ _ _ _ _ _ hcl (Nat.zero_le _) hg henv (freshMem_newContext hm hl)

/-- the frame the tail of `make_call_frame` opens satisfies C25's invariant: its code comes from the code store (`hc`) -/
theorem callTail_init_inv {cfg : Cfg} {w w' : World} {cp : Journal.Checkpoint} {i : Interp.CallInputs}
    {mem : Memory.SharedMemory} {f : Frame Journal.Checkpoint}
    (h : callTail journalOps cfg w cp i mem = .ok (.frame f, w'))
    (hc : ∀ (wx : World) (hh : Nat) (bytes : List Nat), wx.codes = w.codes → wx.codeOf hh = some bytes →
      bytes.length ≤ Memory.ISIZE_MAX)
    (hil : i.input.length ≤ Memory.ISIZE_MAX) (hg : i.gasLimit < U64) (henv : EnvOk cfg.spec cfg.env)
    (hm : Proofs.Memory.WF mem) (hl : mem.buffer.length ≤ 2^62) :
    Inv f.interp ∧ measure f.interp = i.gasLimit := by
  obtain ⟨_, ht, he⟩ := callTail_hist h [] 0
  cases he with
  | frame hh code hb | delegated _ hh code hb =>
    exact init_inv' _ _ _ _ _ _ _ _ _ _ (hc w' hh _ ht.only.codes hb) hil hg henv (freshMem_newContext hm hl)

end

theorem makeFrame_init {cfg : Cfg} {w w' : World} {a : Interp.Action} {mem : Memory.SharedMemory} {f : JFrame}
    (pco : PcOut) (h : makeFrame journalOps cfg w a mem = .ok (.frame f, w')) (hs : StoreOk w)
    (hd : dataLen a ≤ ISZ) (hg : a.gasLimit < U64) (henv : Revm.Proofs.Interp.EnvOk cfg.spec cfg.env)
    (hm : WF mem) (hl : mem.buffer.length ≤ 2^62) :
    IInv f.interp ∧ imeas f.interp = a.gasLimit ∧ f.interp.mem = Memory.newContext mem ∧ FKind a f.kind := by
  rcases makeFrame_cases h with ⟨i, rfl, hmk⟩ | ⟨i, rfl, hmk⟩
  · obtain ⟨hk, code, hc, hi⟩ := (makeCallFrame_out pco hmk hs.2 hd).2 f rfl
    obtain ⟨i1, i2⟩ := Proofs.Interp.init_inv' code i.input i.gasLimit i.isStatic cfg.spec i.targetAddress i.caller i.value cfg.env
      (Memory.newContext mem) (hc hs.1) hd hg henv (freshMem_newContext hm hl)
    rw [hi]
    exact ⟨i1, i2, rfl, hk⟩
  · obtain ⟨created, hk, hi⟩ := (makeCreateFrame_out hmk).2 f rfl
    obtain ⟨i1, i2⟩ := Proofs.Interp.init_inv' i.initCode [] i.gasLimit false cfg.spec created i.caller i.value cfg.env
      (Memory.newContext mem) hd (Nat.zero_le _) hg henv (freshMem_newContext hm hl)
    rw [hi]
    exact ⟨i1, i2, rfl, created, hk⟩

end Revm.Proofs.EvmLink
