import Revm.Model.SelfdestructNotify
import Revm.Proofs.Journal
/-! Proofs for C30: which journal entries `JournaledState::selfdestruct` appends, what happens to the
balance of the executing contract, and what the wrapper (`wrapped`: the inspector's SELFDESTRUCT entry as repaired by /repo
commit 93c09012) reads from the entries the instruction itself appended. -/
namespace Revm.Proofs.SelfdestructNotify
open Revm Revm.Model.Journal Revm.Model.SelfdestructNotify


/-- journal `j'` is `j` with the entries `es` (newest first) pushed on its innermost level -/
def JExt (j j' : List (List Entry)) (es : List Entry) : Prop :=
  (es = [] ∧ j' = j) ∨ ∃ l rest, j = l :: rest ∧ j' = (es ++ l) :: rest

theorem JExt.refl (j : List (List Entry)) : JExt j j [] := Or.inl ⟨rfl, rfl⟩

theorem JExt.trans {j j' j'' : List (List Entry)} {e1 e2 : List Entry}
    (h1 : JExt j j' e1) (h2 : JExt j' j'' e2) : JExt j j'' (e2 ++ e1) := by
  rcases h1 with ⟨rfl, rfl⟩ | ⟨l, rest, rfl, rfl⟩
  · rcases h2 with ⟨rfl, rfl⟩ | ⟨l, rest, rfl, rfl⟩
    · exact Or.inl ⟨rfl, rfl⟩
    · exact Or.inr ⟨l, rest, rfl, by simp⟩
  · rcases h2 with ⟨rfl, rfl⟩ | ⟨l2, rest2, h, rfl⟩
    · exact Or.inr ⟨l, rest, rfl, by simp⟩
    · injection h with h1 h2
      subst h1 h2
      exact Or.inr ⟨l, rest, rfl, by simp⟩

/-- two accounts agree on the fields the self-destruct logic looks at -/
def Same (acc acc1 : Acct) : Prop :=
  acc1.info = acc.info ∧ acc1.created = acc.created ∧ acc1.selfdestructed = acc.selfdestructed

theorem Same.refl (acc : Acct) : Same acc acc := ⟨rfl, rfl, rfl⟩

theorem pushEntry_spec {s s' : JState} {e : Entry} (h : pushEntry s e = some s') :
    JExt s.journal s'.journal [e] ∧ s'.state = s.state ∧ s'.spec = s.spec := by
  obtain ⟨l, rest, hj, rfl⟩ := Proofs.Journal.pushEntry_eq h
  exact ⟨Or.inr ⟨l, rest, hj, rfl⟩, rfl, rfl⟩

theorem touchAccount_spec {s s' : JState} {t : Addr} {acc acc' : Acct}
    (h : touchAccount s t acc = some (s', acc')) :
    ∃ es, JExt s.journal s'.journal es ∧ (∀ e ∈ es, entryNote e = none) ∧ s'.spec = s.spec ∧
      (∀ x, x ≠ t → s'.state x = s.state x) ∧ acc'.info = acc.info := by
  obtain ⟨rfl, hs⟩ := Proofs.Journal.touchAccount_some h
  split at hs
  · subst hs; exact ⟨[], JExt.refl _, by simp, rfl, fun _ _ => rfl, rfl⟩
  · obtain ⟨s1, h1, rfl⟩ := hs
    obtain ⟨hext, hst, hsp⟩ := pushEntry_spec h1
    refine ⟨[.accountTouched t], hext, ?_, hsp, ?_, rfl⟩
    · intro e he; simp at he; subst he; rfl
    · intro x hx; simp [setAcct, hx, hst]

theorem same_setAcct {s : JState} {t : Addr} {acc' : Acct} (h : ∀ acc, s.state t = some acc → Same acc acc') :
    ∀ x acc, s.state x = some acc → ∃ acc1, (setAcct s t acc').state x = some acc1 ∧ Same acc acc1 := by
  intro x acc hx
  by_cases hxt : x = t
  · subst hxt
    exact ⟨acc', by simp [setAcct], h acc hx⟩
  · exact ⟨acc, by simp [setAcct, hxt, hx], Same.refl _⟩

theorem loadAccount_spec {db : Db} {s s1 : JState} {t : Addr} {c : Bool}
    (h : loadAccount db s t = some (s1, c)) :
    ∃ es, JExt s.journal s1.journal es ∧ (∀ e ∈ es, entryNote e = none) ∧ s1.spec = s.spec ∧
      (∀ x acc, s.state x = some acc → ∃ acc1, s1.state x = some acc1 ∧ Same acc acc1) := by
  obtain ⟨acc0, hcase, hs⟩ := Proofs.Journal.loadAccount_some h
  -- the state is `setAcct s t acc0` with `acc0` the old account up to the warm flag, or a new one
  have hsame : ∀ acc, s.state t = some acc → Same acc acc0 := by
    intro acc hacc
    rcases hcase with ⟨tacc, ht, rfl, _⟩ | ⟨hn, _, _⟩
    · rw [ht] at hacc; cases hacc; exact ⟨rfl, rfl, rfl⟩
    · rw [hn] at hacc; cases hacc
  split at hs
  · obtain ⟨hext, hstate, hsp⟩ := pushEntry_spec hs
    refine ⟨[.accountWarmed t], hext, ?_, hsp, ?_⟩
    · intro e he; simp at he; subst he; rfl
    · rw [hstate]; exact same_setAcct hsame
  · subst hs; exact ⟨[], JExt.refl _, by simp, rfl, same_setAcct hsame⟩

theorem sdCredit_spec {s s2 : JState} {a t : Addr} (h : Proofs.Journal.sdCredit s a t = some s2) :
    ∃ es, JExt s.journal s2.journal es ∧ (∀ e ∈ es, entryNote e = none) ∧ s2.spec = s.spec ∧
      s2.state a = s.state a := by
  unfold Proofs.Journal.sdCredit at h
  by_cases hat : a = t
  · simp [hat] at h
    subst h
    exact ⟨[], JExt.refl _, by simp, rfl, rfl⟩
  · simp only [ne_eq, hat, not_false_eq_true, if_true, bind, Option.bind_eq_some_iff] at h
    obtain ⟨acc, _, tacc, _, ⟨s', tacc'⟩, htouch, heq⟩ := h
    simp at heq
    subst heq
    obtain ⟨es, hext, hno, hsp, hstate, _⟩ := touchAccount_spec htouch
    exact ⟨es, hext, hno, hsp, by simp [setAcct, hat, hstate a hat]⟩

/-- the balance that leaves the contract -/
def movedValue (acc : Acct) (spec : Nat) (a t : Addr) : Nat :=
  if (acc.created = true ∨ spec < CANCUN) ∨ a ≠ t then acc.info.balance else 0

theorem sdFinal_spec {s s3 : JState} {a t : Addr} {acc : Acct} (h : Proofs.Journal.sdFinal s a t acc = some s3)
    (hacc : s.state a = some acc) :
    ∃ es, JExt s.journal s3.journal es ∧
      (es.findSome? entryNote).getD (a, a, 0) = (a, t, movedValue acc s.spec a t) ∧
      balanceOf s3 a + movedValue acc s.spec a t = acc.info.balance := by
  unfold Proofs.Journal.sdFinal at h
  by_cases h1 : acc.created = true ∨ s.spec < CANCUN
  · have hc : (acc.created = true ∨ (!(decide (s.spec ≥ CANCUN))) = true) := by
      rcases h1 with h1 | h1
      · exact Or.inl h1
      · right; simp; omega
    simp only [hc, if_true] at h
    obtain ⟨hext, hstate, _⟩ := pushEntry_spec h
    refine ⟨_, hext, ?_, ?_⟩
    · simp [movedValue, h1, entryNote]
    · simp [balanceOf, hstate, setAcct, movedValue, h1]
  · have hc : ¬ (acc.created = true ∨ (!(decide (s.spec ≥ CANCUN))) = true) := by
      intro hc
      apply h1
      rcases hc with hc | hc
      · exact Or.inl hc
      · right; simp at hc; omega
    simp only [hc, if_false] at h
    by_cases hat : a = t
    · subst hat
      simp at h
      subst h
      refine ⟨[], JExt.refl _, ?_, ?_⟩
      · simp [movedValue, h1]
      · simp [balanceOf, hacc, movedValue, h1]
    · simp only [ne_eq, hat, not_false_eq_true, if_true] at h
      obtain ⟨hext, hstate, _⟩ := pushEntry_spec h
      refine ⟨_, hext, ?_, ?_⟩
      · simp [movedValue, h1, hat, entryNote]
      · simp [balanceOf, hstate, setAcct, movedValue, h1, hat]

theorem findSome_append_none {es1 es2 : List Entry} (h : ∀ e ∈ es2, entryNote e = none) :
    (es1 ++ es2).findSome? entryNote = es1.findSome? entryNote := by
  rw [List.findSome?_append]
  have : es2.findSome? entryNote = none := by
    rw [List.findSome?_eq_none_iff]; exact h
  simp [this]

theorem newEntryNote_of_ext {s s' : JState} {es : List Entry} (h : JExt s.journal s'.journal es) :
    newEntryNote (lastLen s) s' = es.findSome? entryNote := by
  rcases h with ⟨rfl, hj⟩ | ⟨l, rest, hj, hj'⟩
  · unfold newEntryNote lastLen
    rw [hj]
    cases s.journal with
    | nil => rfl
    | cons l rest => simp
  · unfold newEntryNote lastLen
    rw [hj, hj']
    simp

/-- a completed `selfdestruct`: the note the wrapper reads off the journal names the contract, the beneficiary and the
balance that left, and that balance plus what the contract keeps is what it had (`acc1`: its account once the
beneficiary has been loaded) -/
theorem selfdestruct_moved_gen {db : Db} {s s' : JState} {a t : Addr} {r : Bool × Bool × Bool × Bool}
    (h : Revm.Model.Journal.selfdestruct db s a t = some (s', r)) :
    ∃ s1 c acc1, loadAccount db s t = some (s1, c) ∧ s1.state a = some acc1 ∧
      (newEntryNote (lastLen s) s').getD (a, a, 0) = (a, t, movedValue acc1 s.spec a t) ∧
      balanceOf s' a + movedValue acc1 s.spec a t = acc1.info.balance := by
  rw [Proofs.Journal.selfdestruct_eq] at h
  simp only [bind, Option.bind_eq_some_iff] at h
  obtain ⟨⟨s1, c⟩, hload, tacc, _, s2, h2, acc2, hacc2, s3, h3, heq⟩ := h
  simp at heq
  obtain ⟨rfl, _⟩ := heq
  obtain ⟨e1, hx1, hn1, hsp1, _⟩ := loadAccount_spec hload
  obtain ⟨e2, hx2, hn2, hsp2, hst2⟩ := sdCredit_spec h2
  simp only [] at hst2 hacc2
  have hacc1 : s1.state a = some acc2 := by rw [← hst2]; exact hacc2
  obtain ⟨e3, hx3, hf3, hb3⟩ := sdFinal_spec h3 hacc2
  have hspec : s2.spec = s.spec := by rw [hsp2]; exact hsp1
  rw [hspec] at hf3 hb3
  refine ⟨s1, c, acc2, hload, hacc1, ?_, hb3⟩
  -- the entries of the first two stages carry no note: the wrapper finds the one of the last stage, if any
  rw [newEntryNote_of_ext ((hx1.trans hx2).trans hx3), findSome_append_none, hf3]
  intro e he
  simp only [List.mem_append] at he
  rcases he with he | he
  · exact hn2 e he
  · exact hn1 e he

/-- for a contract that is in the journal beforehand: loading the beneficiary keeps its balance and `created` flag -/
theorem selfdestruct_moved {db : Db} {s s' : JState} {a t : Addr} {r : Bool × Bool × Bool × Bool} {acc : Acct}
    (h : Revm.Model.Journal.selfdestruct db s a t = some (s', r)) (ha : s.state a = some acc) :
    (newEntryNote (lastLen s) s').getD (a, a, 0) = (a, t, movedValue acc s.spec a t) ∧
      balanceOf s' a + movedValue acc s.spec a t = acc.info.balance := by
  obtain ⟨s1, c, acc1, hload, hacc1, hnote, hbal⟩ := selfdestruct_moved_gen h
  obtain ⟨_, _, _, _, hst1⟩ := loadAccount_spec hload
  obtain ⟨acc1', hacc1', hinfo, hcr, _⟩ := hst1 a acc ha
  obtain rfl : acc1' = acc1 := Option.some.inj (hacc1'.symm.trans hacc1)
  have hm : movedValue acc1' s.spec a t = movedValue acc s.spec a t := by simp [movedValue, hinfo, hcr]
  exact ⟨by rw [hnote, hm], by rw [← hm, ← hinfo]; exact hbal⟩

/-- an instruction that ends with `SelfDestruct` went through the journal's `selfdestruct` -/
theorem insn_completed {db : Db} {f : Bool} {it it' : Interp} {s s' : JState}
    (h : selfdestructInsn db f it s = some (it', s')) (hd : it'.result = .selfDestruct) :
    ∃ top rest r, it.stack = top :: rest ∧
      Revm.Model.Journal.selfdestruct db s it.contract (top % ADDR) = some (s', r) := by
  unfold selfdestructInsn at h
  cases hs : it.isStatic with
  | true => simp [hs] at h; obtain ⟨rfl, _⟩ := h; simp at hd
  | false =>
    simp only [hs, Bool.false_eq_true, if_false] at h
    cases hst : it.stack with
    | nil => simp [hst] at h; obtain ⟨rfl, _⟩ := h; simp at hd
    | cons top rest =>
      simp only [hst] at h
      split at h
      · simp at h; obtain ⟨rfl, _⟩ := h; simp at hd
      · cases hj : Revm.Model.Journal.selfdestruct db s it.contract (top % ADDR) with
        | none => simp [hj] at h
        | some p =>
          obtain ⟨s2, hv, te, pd, ic⟩ := p
          simp only [hj] at h
          split at h
          · simp at h; obtain ⟨rfl, _⟩ := h; simp at hd
          · simp at h
            obtain ⟨rfl, rfl⟩ := h
            exact ⟨top, rest, _, rfl, hj⟩

/-- what the wrapper reports after the wrapped instruction, run from `s` by the contract `c`, ended in `(it', s')`: the
newest note among the entries appended since, only if `instruction_result == SelfDestruct` -/
def noteOf (s : JState) (c : Addr) (it' : Interp) (s' : JState) : Option (Addr × Addr × Nat) :=
  if it'.result = .selfDestruct then some ((newEntryNote (lastLen s) s').getD (c, c, 0)) else none

theorem wrapped_eq (db : Db) (f : Bool) (ia : InspAct) (it : Interp) (s : JState) :
    wrapped db f ia it s = (stepWrapped db f ia it s).map fun p => (p.1, p.2, noteOf s it.contract p.1 p.2) := by
  unfold wrapped noteOf
  cases stepWrapped db f ia it s with
  | none => rfl
  | some p => by_cases hd : p.1.result = .selfDestruct <;> simp [hd]

theorem wrapped_some {db : Db} {f : Bool} {ia : InspAct} {it it' : Interp} {s s' : JState} {n : Option (Addr × Addr × Nat)}
    (hrun : wrapped db f ia it s = some (it', s', n)) :
    stepWrapped db f ia it s = some (it', s') ∧ n = noteOf s it.contract it' s' := by
  rw [wrapped_eq, Option.map_eq_some_iff] at hrun
  obtain ⟨p, hp, hq⟩ := hrun
  cases hq
  exact ⟨hp, rfl⟩

/-- with an inspector that leaves `instruction_result` alone the step-wrapped instruction is the instruction -/
theorem stepWrapped_observing {db : Db} {f : Bool} {it : Interp} {s : JState} (hc : it.result = .continue_) :
    stepWrapped db f {} it s = selfdestructInsn db f it s := by
  unfold stepWrapped
  simp only [hc, ne_eq, not_true_eq_false, if_false]
  cases selfdestructInsn db f it s <;> rfl

theorem wrapped_observing_inv {db : Db} {f : Bool} {it it' : Interp} {s s' : JState} {n : Option (Addr × Addr × Nat)}
    (hc : it.result = .continue_) (hrun : wrapped db f {} it s = some (it', s', n)) :
    selfdestructInsn db f it s = some (it', s') ∧ n = noteOf s it.contract it' s' := by
  rw [← stepWrapped_observing hc]; exact wrapped_some hrun

/-- a completed SELFDESTRUCT under an inspector that leaves `instruction_result` alone: exactly one report, of the
executing contract, the address popped from the stack and the balance that left the contract -/
theorem wrapped_completed {db : Db} {f : Bool} {it it' : Interp} {s s' : JState} {n : Option (Addr × Addr × Nat)}
    {acc : Acct} (hc : it.result = .continue_) (hrun : wrapped db f {} it s = some (it', s', n))
    (hloaded : s.state it.contract = some acc) (hdone : it'.result = .selfDestruct) :
    ∃ top rest, it.stack = top :: rest ∧
      n = some (it.contract, top % ADDR, movedValue acc s.spec it.contract (top % ADDR)) ∧
      balanceOf s' it.contract + movedValue acc s.spec it.contract (top % ADDR) = acc.info.balance := by
  obtain ⟨hi, hn⟩ := wrapped_observing_inv hc hrun
  obtain ⟨top, rest, r, hst, hj⟩ := insn_completed hi hdone
  obtain ⟨hnote, hbal⟩ := selfdestruct_moved hj hloaded
  exact ⟨top, rest, hst, by rw [hn, noteOf, if_pos hdone, hnote], hbal⟩

end Revm.Proofs.SelfdestructNotify
