import Revm.Proofs.InterpHost
import Revm.Proofs.GasCalc
/-! C25: CALL / CALLCODE / DELEGATECALL / STATICCALL (one common tail) and CREATE / CREATE2: the action that goes
out carries at most the gas that was consumed for it, its return window lies inside the memory, and its calldata /
initcode is a slice of the memory, hence a Rust `Bytes` (`ActIdx`). -/
namespace Revm.Proofs.Interp
open Revm Revm.Model Revm.Model.Interp

/-- a memory range handed out by `call_helpers::resize_memory`: empty, or inside the first `L` bytes (`RetOk` of
`InterpCtl` says the same of the return window of a call action) -/
def RangeOk (a b L : Nat) : Prop := a = b ∨ (a ≤ b ∧ b ≤ L)

section call
variable {s0 : IState} {N : IState → Prop} {A : Action → IState → Prop}

theorem resizeMemRange_tr {k : Nat} {ne : Bool} {L : Nat} (offset len : Nat) :
    Tr s0 ⟨k, true, ne, L⟩ (resizeMemRange offset len)
      fun p j => ∃ L', j = ⟨k, true, ne, L'⟩ ∧ L ≤ L' ∧ RangeOk p.1 p.2 L' :=
  .seq (.asUsize len _) fun len' _ => by
    split
    · refine .seq (.asUsize offset _) fun off _ => .seq (.resizeMem off len') fun _ _ => .boundL fun hL =>
        .pure ⟨_, rfl, Nat.le_max_left _ _, Or.inr ?_⟩
      have hI := Proofs.Memory.isize_lt_u64
      have : (off + len') % U64 = off + len' := Nat.mod_eq_of_lt (by have := Nat.le_max_right L (off + len'); omega)
      show off ≤ (off + len') % U64 ∧ (off + len') % U64 ≤ max L (off + len')
      rw [this]; omega
    · exact .pure ⟨L, rfl, Nat.le_refl _, Or.inl rfl⟩

/-- the calldata is a slice of the memory, which is a Rust buffer -/
theorem getMemRanges_tr {k : Nat} {st ne : Bool} {L : Nat} :
    Tr s0 ⟨k, st, ne, L⟩ getMemoryInputAndOutRanges
      fun p j => ∃ L', j = ⟨k, true, false, L'⟩ ∧ RangeOk p.2.1 p.2.2 L' ∧ p.1.length ≤ Memory.ISIZE_MAX := by
  refine .seq .pop4 fun (inOff, inLen, outOff, outLen) _ => .bind (resizeMemRange_tr inOff inLen) ?_
  rintro ⟨a, b⟩ _ ⟨L2, rfl, _, hr2⟩
  refine .boundL fun hL => .seq (P := fun input => input.length ≤ Memory.ISIZE_MAX) (j := ⟨k, true, false, L2⟩) ?_
    fun input hin => .bind (resizeMemRange_tr outOff outLen) fun (c, d) _ ⟨L3, e3, _, hr3⟩ => .pure ⟨L3, e3, hr3, hin⟩
  split
  · rename_i hab
    have : a ≤ b ∧ b ≤ L2 := by
      rcases hr2 with h0 | h0
      · simp only [] at h0 hab; omega
      · exact h0
    exact .last (.memSliceRange this.1 this.2) fun _ hl => ⟨rfl, by show _ ≤ _; rw [hl]; omega⟩
  · exact .pure ⟨rfl, Nat.zero_le _⟩

theorem calcCallGas_tr {k : Nat} {st ne : Bool} {L : Nat} (r : HostResp) (isEmpty hasTransfer : Bool) (lgl : Nat) :
    Tr s0 ⟨k, st, ne, L⟩ (calcCallGas r isEmpty hasTransfer lgl)
      fun _ j => ∃ cc, 40 ≤ cc ∧ (hasTransfer = true → 9040 ≤ cc) ∧ j = ⟨k + cc, true, ne, L⟩ :=
  .seq .getS fun s _ =>
    have hcc := callCost_ge s.spec hasTransfer r.isCold r.delegCold isEmpty
    .seq (.gas _ (Nat.le_trans (by decide) hcc.1)) fun _ _ => .seq .getS fun _ _ => .pure ⟨_, hcc.1, hcc.2, rfl⟩

/-- the common tail of the four call instructions (`calc_call_gas`, `gas!(gas_limit)`, inputs); `mk`, found by
unification, is the `CallInputs` the instruction builds: it may raise the limit by the stipend where value goes along -/
theorem callTail_tr {L : Nat} (r : HostResp) (isEmpty hasTransfer : Bool) (lgl : Nat) {mk : Nat → IState → CallInputs}
    {rs re : Nat} (hrange : RangeOk rs re L)
    (hmk : ∀ g x, (mk g x).gasLimit ≤ g + 2300 ∧ (hasTransfer = false → (mk g x).gasLimit = g) ∧
      (mk g x).retStart = rs ∧ (mk g x).retEnd = re ∧ (mk g x).input.length ≤ Memory.ISIZE_MAX) :
    Tr s0 ⟨0, true, false, L⟩ (do
        let gasLimit ← calcCallGas r isEmpty hasTransfer lgl
        gasCharge gasLimit
        let s ← getS
        pure (Action.call (mk gasLimit s)) : M Action) ActIdx := by
  refine .bind (calcCallGas_tr r isEmpty hasTransfer lgl) ?_
  rintro gl _ ⟨cc, hcc, hcct, rfl⟩
  refine .seq (.gas0 gl) fun _ _ => .seq .getS fun s2 _ => ?_
  obtain ⟨ha1, ha2, e1, e2, hin⟩ := hmk gl s2
  refine .pure ⟨?_, ?_, hin, fun i e => nomatch e⟩
  · show (mk gl s2).gasLimit + 1 ≤ 0 + cc + gl
    cases ht : hasTransfer with
    | false => have := ha2 ht; omega
    | true => have := hcct ht; omega
  · show RetOk (Action.call (mk gl s2)) L
    unfold RetOk
    simp only []
    rw [e1, e2]
    exact hrange.elim (fun h0 => .inl (by omega)) .inr

theorem stipend_adj (value : Nat) (g : Nat) :
    (if value ≠ 0 then U64ops.saturatingAdd g GasCalc.CALL_STIPEND else g) ≤ g + 2300
      ∧ (decide (value ≠ 0) = false →
          (if value ≠ 0 then U64ops.saturatingAdd g GasCalc.CALL_STIPEND else g) = g) := by
  have h2300 : GasCalc.CALL_STIPEND = 2300 := rfl
  have := U64ops.satAdd_le g GasCalc.CALL_STIPEND
  refine ⟨by split <;> omega, fun e => ?_⟩
  have : ¬ value ≠ 0 := by simpa using e
  rw [if_neg this]

/-- what the first half of a call instruction leaves: the ranges, and a calldata that is a Rust `Bytes` -/
abbrev CallPre (input : List Nat) (rs re : Nat) (j : Idx) : Prop :=
  ∃ L, j = ⟨0, true, false, L⟩ ∧ RangeOk rs re L ∧ input.length ≤ Memory.ISIZE_MAX

theorem callI_good (hb : Base s0) (hA : ∀ a s', ActRel s0 a s' ∧ EvmLink.ActOk2 a → A a s') :
    GoodP (Halt s0) N A (callI s0) :=
  hostCallAction_tr hb hA (fun b j => CallPre b.2.2.2.1 b.2.2.2.2.1 b.2.2.2.2.2 j)
    (.seq .pop1 fun lgl _ => .seq .popAddress fun to _ => .seq .pop1 fun value _ => .seq .getS fun s _ => by
      split
      · exact .halt _
      · exact .bind getMemRanges_tr fun (input, rs, re) _ ⟨L, e, h⟩ => .pure ⟨L, e, h⟩)
    fun (lgl, to, value, input, rs, re) _ r ⟨L, e, hr, hin⟩ _ => e ▸ .seq (.requireSome r) fun _ _ =>
      .act <| callTail_tr r r.isEmpty (decide (value ≠ 0)) lgl hr fun g _ =>
        ⟨(stipend_adj value g).1, (stipend_adj value g).2, rfl, rfl, hin⟩

theorem callcodeI_good (hb : Base s0) (hA : ∀ a s', ActRel s0 a s' ∧ EvmLink.ActOk2 a → A a s') :
    GoodP (Halt s0) N A (callcodeI s0) :=
  hostCallAction_tr hb hA (fun b j => CallPre b.2.2.2.1 b.2.2.2.2.1 b.2.2.2.2.2 j)
    (.seq .pop1 fun _ _ => .seq .popAddress fun _ _ => .seq .pop1 fun _ _ =>
      .bind getMemRanges_tr fun (_, _, _) _ ⟨L, e, h⟩ => .pure ⟨L, e, h⟩)
    fun (lgl, _, value, _, _, _) _ r ⟨_, e, hr, hin⟩ _ => e ▸ .seq (.requireSome r) fun _ _ =>
      .act <| callTail_tr r false (decide (value ≠ 0)) lgl hr fun g _ =>
        ⟨(stipend_adj value g).1, (stipend_adj value g).2, rfl, rfl, hin⟩

theorem delegatecallI_good (hb : Base s0) (hA : ∀ a s', ActRel s0 a s' ∧ EvmLink.ActOk2 a → A a s') :
    GoodP (Halt s0) N A (delegatecallI s0) :=
  hostCallAction_tr hb hA (fun b j => CallPre b.2.2.1 b.2.2.2.1 b.2.2.2.2 j)
    (.seq (.check _) fun _ _ => .seq .pop1 fun _ _ => .seq .popAddress fun _ _ =>
      .bind getMemRanges_tr fun (_, _, _) _ ⟨L, e, h⟩ => .pure ⟨L, e, h⟩)
    fun (lgl, _, _, _, _) _ r ⟨_, e, hr, hin⟩ _ => e ▸ .seq (.requireSome r) fun _ _ =>
      .act <| callTail_tr r false false lgl hr fun _ _ => ⟨Nat.le_add_right _ _, fun _ => rfl, rfl, rfl, hin⟩

theorem staticcallI_good (hb : Base s0) (hA : ∀ a s', ActRel s0 a s' ∧ EvmLink.ActOk2 a → A a s') :
    GoodP (Halt s0) N A (staticcallI s0) :=
  hostCallAction_tr hb hA (fun b j => CallPre b.2.2.1 b.2.2.2.1 b.2.2.2.2 j)
    (.seq (.check _) fun _ _ => .seq .pop1 fun _ _ => .seq .popAddress fun _ _ =>
      .bind getMemRanges_tr fun (_, _, _) _ ⟨L, e, h⟩ => .pure ⟨L, e, h⟩)
    fun (lgl, _, _, _, _) _ r ⟨_, e, hr, hin⟩ _ => e ▸ .seq (.requireSome r) fun _ _ =>
      .act <| callTail_tr r false false lgl hr fun _ _ => ⟨Nat.le_add_right _ _, fun _ => rfl, rfl, rfl, hin⟩

theorem initcodeCharge_tr {k : Nat} {st ne : Bool} {L : Nat} (len : Nat) :
    Tr s0 ⟨k, st, ne, L⟩ (initcodeCharge len) fun _ j => ∃ k', j = ⟨k', st, ne, L⟩ ∧ k ≤ k' :=
  .seq .getS fun s _ => by
    split
    · split
      · exact .halt _
      · -- `initcode_cost(len)` does not overflow, whatever the length: `num_words` saturates
        obtain ⟨c, hc⟩ := Proofs.GasCalc.initcodeCost_some len
        rw [hc]
        exact .last (.gas0 c) fun _ _ => ⟨_, rfl, Nat.le_add_right _ _⟩
    · exact .pure ⟨k, rfl, Nat.le_refl _⟩

theorem createCode_tr {k : Nat} {ne : Bool} {L : Nat} (codeOffset len : Nat) :
    Tr s0 ⟨k, true, ne, L⟩ (createCode codeOffset len)
      fun code j => ∃ k' L', j = ⟨k', true, ne, L'⟩ ∧ k ≤ k' ∧ code.length ≤ Memory.ISIZE_MAX := by
  unfold createCode
  split
  · refine .bind (initcodeCharge_tr len) ?_
    rintro _ _ ⟨k1, rfl, hk1⟩
    exact .seq (.asUsize codeOffset _) fun off _ => .seq (.resizeMem off len) fun _ _ => .boundL fun hL =>
      .last (.memSlice (Nat.le_max_right _ _)) fun code hcl =>
        ⟨k1, _, rfl, hk1, by rw [hcl]; have := Nat.le_max_right L (off + len); omega⟩
  · exact .pure ⟨k, L, rfl, Nat.le_refl _, Nat.zero_le _⟩

theorem createScheme_tr {k : Nat} {ne : Bool} {L : Nat} (isCreate2 : Bool) (len : Nat) :
    Tr s0 ⟨k, true, ne, L⟩ (createScheme isCreate2 len)
      fun _ j => ∃ k' ne', j = ⟨k', true, ne', L⟩ ∧ k + 32000 ≤ k' := by
  unfold createScheme
  split
  · exact .seq .pop1 fun salt _ => .gasOrFail 32000 (by decide) (fun _ hc => create2Cost_ge hc) fun c hc =>
      .pure ⟨_, _, rfl, by omega⟩
  · exact .seq (.gas0 _) fun _ _ => .pure ⟨_, _, rfl, Nat.le_refl _⟩

theorem createI_tr (isCreate2 : Bool) : Tr s0 .zero (createI isCreate2) ActIdx := by
  refine .seq .requireNonStatic fun _ _ => .seq (P := fun _ => True) (j := .zero) ?_ fun _ _ =>
    .seq .pop3 fun (value, codeOffset, len) _ => .seq (.asUsize len _) fun len' _ =>
      .bind (createCode_tr codeOffset len') ?_
  · unfold checkWhen
    split
    · exact .check _
    · exact .pure ⟨rfl, trivial⟩
  · rintro code _ ⟨k2, L2, rfl, _, hcl⟩
    refine .bind (createScheme_tr isCreate2 len') ?_
    rintro salt _ ⟨k3, ne3, rfl, hk3⟩
    exact .seq .getS fun s3 _ => .seq (.gas0 _) fun _ _ => .seq .getS fun _ _ =>
      .pure ⟨Nat.le_trans (Nat.le_of_eq (Nat.add_comm _ 1)) (Nat.add_le_add_right (by omega : 1 ≤ k3) _), trivial, hcl,
        fun i e => nomatch e⟩

end call

end Revm.Proofs.Interp
