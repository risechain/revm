import Revm.Proofs.EofValidate
/-! Why an accepted section has every relative jump land on the first byte of an instruction (`Spec.Eof.JumpsOnStarts`).
Two checks of the validator are both needed: a jump to a byte **already** marked immediate is refused by the jump
itself (`processJump`); a jump to a byte marked immediate **later** is refused when `mark_as_immediate` finds
`is_jumpdest` set (`markImm`). Here: the effect of the validator's writes on the two flags (`Marks`) and the loop
invariant (`Inv`); `EofSection` carries it along the loop. -/
namespace Revm.Proofs.EofValidate
open Revm.Model.Eof Revm.Model.EofValidate Revm.Spec.Eof Revm.Proofs.Eof

/-- `jumps[k].is_immediate` -/
def ImmAt (jumps : Array InstrInfo) (k : Nat) : Prop :=
  ∃ info, jumps[k]? = some info ∧ info.isImm = true
/-- `jumps[k].is_jumpdest` -/
def JdAt (jumps : Array InstrInfo) (k : Nat) : Prop :=
  ∃ info, jumps[k]? = some info ∧ info.isJumpdest = true

theorem getElem?_set_of_some {jumps : Array InstrInfo} {k : Nat} {info info' : InstrInfo}
    (hk : jumps[k]? = some info) (x : Nat) :
    (jumps.setIfInBounds k info')[x]? = if k = x then some info' else jumps[x]? := by
  rw [Array.getElem?_setIfInBounds, if_pos (lt_of_getElem? hk)]

theorem flagAt_set (f : InstrInfo → Bool) {jumps : Array InstrInfo} {k : Nat} {info info' : InstrInfo}
    (hk : jumps[k]? = some info) (x : Nat) :
    (∃ i, (jumps.setIfInBounds k info')[x]? = some i ∧ f i = true) ↔
      (x = k ∧ f info' = true) ∨ (x ≠ k ∧ ∃ i, jumps[x]? = some i ∧ f i = true) := by
  rw [getElem?_set_of_some hk]
  by_cases hx : k = x
  · subst hx; simp
  · rw [if_neg hx]
    have : x ≠ k := fun h => hx h.symm
    simp [this]

theorem ImmAt_set {jumps : Array InstrInfo} {k : Nat} {info info' : InstrInfo}
    (hk : jumps[k]? = some info) (x : Nat) :
    ImmAt (jumps.setIfInBounds k info') x ↔
      (x = k ∧ info'.isImm = true) ∨ (x ≠ k ∧ ImmAt jumps x) := flagAt_set (·.isImm) hk x

theorem JdAt_set {jumps : Array InstrInfo} {k : Nat} {info info' : InstrInfo}
    (hk : jumps[k]? = some info) (x : Nat) :
    JdAt (jumps.setIfInBounds k info') x ↔
      (x = k ∧ info'.isJumpdest = true) ∨ (x ≠ k ∧ JdAt jumps x) := flagAt_set (·.isJumpdest) hk x

/-- from `a` to `b` exactly the offsets in `I` became `is_immediate` and exactly those in `J` became `is_jumpdest`; none
of the first was a jump destination (else `JumpToImmediateBytes`) and none of the second an immediate (else
`BackwardJumpToImmediateBytes`): the two checks of the validator, whichever of immediate and jump it sees first -/
structure Marks (a b : Array InstrInfo) (I J : Nat → Prop) : Prop where
  imm : ∀ x, ImmAt b x ↔ ImmAt a x ∨ I x
  jd : ∀ x, JdAt b x ↔ JdAt a x ∨ J x
  immNew : ∀ x, I x → ¬ JdAt a x
  jdNew : ∀ x, J x → ¬ ImmAt a x
  disj : ∀ x, I x → ¬ J x

def Never : Nat → Prop := fun _ => False

theorem Marks.refl (a : Array InstrInfo) : Marks a a Never Never :=
  ⟨fun _ => (iff_of_eq (or_false _)).symm, fun _ => (iff_of_eq (or_false _)).symm, fun _ h => h.elim, fun _ h => h.elim, fun _ h => h.elim⟩

theorem Marks.trans {a b c : Array InstrInfo} {I J I' J' : Nat → Prop} (h1 : Marks a b I J) (h2 : Marks b c I' J') :
    Marks a c (fun x => I x ∨ I' x) (fun x => J x ∨ J' x) where
  imm x := by rw [h2.imm, h1.imm, or_assoc]
  jd x := by rw [h2.jd, h1.jd, or_assoc]
  immNew x h hj := h.elim (fun h => h1.immNew x h hj) fun h => h2.immNew x h ((h1.jd x).2 (Or.inl hj))
  jdNew x h hi := h.elim (fun h => h1.jdNew x h hi) fun h => h2.jdNew x h ((h1.imm x).2 (Or.inl hi))
  disj x hI hJ := by
    rcases hI with hI | hI <;> rcases hJ with hJ | hJ
    · exact h1.disj x hI hJ
    · exact h2.jdNew x hJ ((h1.imm x).2 (Or.inr hI))
    · exact h2.immNew x hI ((h1.jd x).2 (Or.inr hJ))
    · exact h2.disj x hI hJ

theorem Marks.congr {a b : Array InstrInfo} {I J I' J' : Nat → Prop} (h : Marks a b I J) (hI : ∀ x, I x ↔ I' x)
    (hJ : ∀ x, J x ↔ J' x) : Marks a b I' J' :=
  ⟨fun x => by rw [← hI]; exact h.imm x, fun x => by rw [← hJ]; exact h.jd x, fun x hx => h.immNew x ((hI x).2 hx),
    fun x hx => h.jdNew x ((hJ x).2 hx), fun x h1 h2 => h.disj x ((hI x).2 h1) ((hJ x).2 h2)⟩

theorem Marks.excl {a b : Array InstrInfo} {I J : Nat → Prop} (h : Marks a b I J)
    (ha : ∀ x, JdAt a x → ¬ ImmAt a x) : ∀ x, JdAt b x → ¬ ImmAt b x := by
  intro x hj hi
  rcases (h.jd x).1 hj with hj | hj <;> rcases (h.imm x).1 hi with hi | hi
  · exact ha x hj hi
  · exact h.immNew x hi hj
  · exact h.jdNew x hj hi
  · exact h.disj x hi hj

/-- one entry is replaced by one that has the flag `is_immediate` switched on if `I`, `is_jumpdest` if `J` -/
theorem Marks.set {jumps : Array InstrInfo} {k : Nat} {info info' : InstrInfo} {I J : Prop}
    (hk : jumps[k]? = some info) (hi : info'.isImm = true ↔ info.isImm = true ∨ I)
    (hj : info'.isJumpdest = true ↔ info.isJumpdest = true ∨ J) (hI : I → info.isJumpdest = false)
    (hJ : J → info.isImm = false) (hIJ : I → ¬ J) :
    Marks jumps (jumps.setIfInBounds k info') (fun x => x = k ∧ I) (fun x => x = k ∧ J) := by
  have at_k : ∀ f : InstrInfo → Bool, (∃ i, jumps[k]? = some i ∧ f i = true) ↔ f info = true := by simp [hk]
  refine ⟨fun x => ?_, fun x => ?_, ?_, ?_, fun x h1 h2 => hIJ h1.2 h2.2⟩
  · rw [ImmAt_set hk]
    by_cases hx : x = k
    · subst hx; simp [ImmAt, at_k, hi]
    · simp [hx]
  · rw [JdAt_set hk]
    by_cases hx : x = k
    · subst hx; simp [JdAt, at_k, hj]
    · simp [hx]
  · rintro x ⟨rfl, h⟩ hjd
    simpa [hI h] using (at_k (·.isJumpdest)).1 hjd
  · rintro x ⟨rfl, h⟩ him
    simpa [hJ h] using (at_k (·.isImm)).1 him

theorem markImm_rel {jumps : Array InstrInfo} {k : Nat} :
    Holds (fun jumps' => Marks jumps jumps' (· = k) Never) (markImm jumps k) := by
  unfold markImm
  split
  · exact holds_panic
  rename_i info hk
  refine holds_guard fun hjd => holds_ok ?_
  refine (Marks.set (I := True) (J := False) hk (by simp) (by simp) (fun _ => by simpa using hjd) (fun h => h.elim)
    (fun _ h => h)).congr (fun x => iff_of_eq (and_true _)) (fun x => iff_of_eq (and_false _))

theorem markImmRange_rel : ∀ (n start : Nat) (jumps jumps' : Array InstrInfo),
    markImmRange jumps start n = .ok jumps' →
    Marks jumps jumps' (fun x => start ≤ x ∧ x < start + n) Never
  | 0, start, jumps, jumps', h => by
    simp only [markImmRange, R.ok.injEq] at h
    subst h
    exact (Marks.refl _).congr (fun x => ⟨fun h => h.elim, fun h => by omega⟩) (fun _ => Iff.rfl)
  | n + 1, start, jumps, jumps', h => by
    simp only [markImmRange] at h
    rw [bind_eq_ok] at h
    obtain ⟨j1, h1, h2⟩ := h
    exact ((markImm_rel _ h1).trans (markImmRange_rel n (start + 1) j1 jumps' h2)).congr
      (fun x => ⟨fun h => by omega, fun h => by omega⟩) (fun x => iff_of_eq (or_self _))

theorem processJump_rel {len i : Nat} {ns nb : Int} {jumps : Array InstrInfo} {t : Int} :
    Holds (fun j' => Marks jumps j' Never (· = t.toNat) ∧ 0 ≤ t ∧ t < len) (processJump len i ns nb jumps t) := by
  unfold processJump
  refine holds_guard fun h0 => holds_guard fun hlt => ?_
  dsimp only
  split
  · exact holds_panic
  rename_i target hk
  refine holds_guard fun himm => ?_
  -- in both branches the entry is replaced by one with `isJumpdest = true` and the same `isImm`
  suffices key : ∀ info' : InstrInfo, info'.isImm = target.isImm → info'.isJumpdest = true →
      Marks jumps (jumps.setIfInBounds t.toNat info') Never (· = t.toNat) ∧ 0 ≤ t ∧ t < len by
    split
    · exact holds_guard fun _ => holds_guard fun _ => holds_ok (key _ rfl rfl)
    · exact holds_ok (key _ rfl rfl)
  intro info' hi1 hi2
  exact ⟨(Marks.set (I := False) (J := True) hk (by rw [hi1]; simp) (by simp [hi2]) (fun h => h.elim)
    (fun _ => by simpa using himm) (fun h => h.elim)).congr (fun x => iff_of_eq (and_false _)) (fun x => iff_of_eq (and_true _)),
    by omega, by omega⟩

theorem processJumps_rel {len i : Nat} {ns nb : Int} : ∀ (ts : List Int)
    (jumps j' : Array InstrInfo), processJumps len i ns nb jumps ts = .ok j' →
    Marks jumps j' Never (fun x => ∃ t, t ∈ ts ∧ x = t.toNat) ∧ ∀ t ∈ ts, 0 ≤ t ∧ t < len
  | [], jumps, j', h => by
    simp only [processJumps, R.ok.injEq] at h
    subst h
    exact ⟨(Marks.refl _).congr (fun _ => Iff.rfl) (fun x => ⟨fun h => h.elim, fun ⟨_, h, _⟩ => by simp at h⟩),
      fun _ h => by simp at h⟩
  | t0 :: ts, jumps, j', h => by
    simp only [processJumps] at h
    rw [bind_eq_ok] at h
    obtain ⟨j1, h1, h2⟩ := h
    obtain ⟨m1, r1⟩ := processJump_rel _ h1
    obtain ⟨m2, r2⟩ := processJumps_rel ts j1 j' h2
    refine ⟨(m1.trans m2).congr (fun x => iff_of_eq (or_self _)) fun x => ?_, fun t ht => ?_⟩
    · simp only [List.mem_cons, exists_eq_or_imp]
    · rcases List.mem_cons.1 ht with rfl | ht
      · exact r1
      · exact r2 t ht

/-- `t`: an absolute jump target, as computed by the validator -/
def Tgt (code : Array Nat) (jumps : Array InstrInfo) (t : Int) : Prop :=
  0 ≤ t ∧ t < (code.size : Int) ∧ JdAt jumps t.toNat

/-- all targets of the relative jump at instruction start `j` (if it is one) are `is_jumpdest` -/
def Marked (code : Array Nat) (jumps : Array InstrInfo) (j : Nat) : Prop :=
  (code[j]? = some RJUMP ∨ code[j]? = some RJUMPI →
    ∀ v, u16At code (j + 1) = some v → Tgt code jumps ((j + 3 : Int) + toI16 v)) ∧
  (code[j]? = some RJUMPV → ∀ m, code[j + 1]? = some m → ∀ k, k ≤ m →
    ∀ v, u16At code (j + 2 + 2 * k) = some v →
      Tgt code jumps ((j + 2 + 2 * (m + 1) : Int) + toI16 v))

theorem Marked.mono {code : Array Nat} {jumps jumps' : Array InstrInfo} {j : Nat}
    (hjd : ∀ x, JdAt jumps x → JdAt jumps' x) (h : Marked code jumps j) : Marked code jumps' j :=
  ⟨fun hc v hv => let ⟨a, b, c⟩ := h.1 hc v hv; ⟨a, b, hjd _ c⟩,
   fun hc m hm k hk v hv => let ⟨a, b, c⟩ := h.2 hc m hm k hk v hv; ⟨a, b, hjd _ c⟩⟩

/-- what `jumps` records while the loop of `validate_eof_code` stands at offset `s.i`; at the end of the section it gives
`JumpsOnStarts` -/
structure Inv (c : Ctx) (s : St) : Prop where
  reach : Reach c.code 0 s.i
  excl : ∀ x, JdAt s.jumps x → ¬ ImmAt s.jumps x
  starts : ∀ x, x < s.i → Reach c.code 0 x ∨ ImmAt s.jumps x
  marked : ∀ j, Reach c.code 0 j → j < s.i → Marked c.code s.jumps j

end Revm.Proofs.EofValidate
