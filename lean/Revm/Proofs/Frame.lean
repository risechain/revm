import Revm.Model.Frame
import Revm.Proofs.JournalDom
import Revm.Spec.JournalAbs
/-! The journal's `depth`: an operation that stays on its journal level leaves it as it was (`Lvl.depth` of its `lvl_*`,
Proofs/JournalDom.lean), a handed-out checkpoint adds one, `commit` / `revert` take one off; `depthAfter` / `run_depth`
lift this to runs of the journal model. Also: a push succeeds on an open journal (`pushEntry_total`), and the two
outcomes of a warming step (`warmed_cases`). -/
namespace Revm.Proofs.Frame
open Revm Revm.Model.Journal Revm.Model.Frame
export Revm.Proofs.Journal (lvl_touchAccount lvl_loadAccount lvl_loadCode lvl_loadAccountDelegated lvl_touch lvl_transfer
  lvl_incNonce lvl_setCode lvl_sload lvl_sstore lvl_tstore lvl_selfdestruct present_setAcct)

/-- `depth -= 1` after `depth += 1` gives the old depth back, for every value (also at the wrap) -/
theorem dec_inc (x : Nat) : decU64 (incU64 x) = x := by
  unfold incU64
  by_cases h : x = U64 - 1
  · rw [if_pos h, h]; exact if_pos rfl
  · rw [if_neg h]; exact if_neg (Nat.succ_ne_zero x)

theorem inc_small {x : Nat} (h : x ≤ CALL_STACK_LIMIT) : incU64 x = x + 1 :=
  if_neg (by have := U64_val; unfold CALL_STACK_LIMIT at h; omega)

theorem dec_pos {x : Nat} (h : 1 ≤ x) : decU64 x = x - 1 := if_neg (Nat.ne_of_gt h)

@[simp] theorem setAcct_depth (s : JState) (a : Addr) (acc : Acct) : (setAcct s a acc).depth = s.depth := rfl
@[simp] theorem setTransient_depth (s : JState) (a k : Nat) (v : Option Nat) : (setTransient s a k v).depth = s.depth := rfl
@[simp] theorem log_depth (s : JState) (l : Nat) : (log s l).depth = s.depth := rfl
@[simp] theorem commit_depth (s : JState) : (commit s).depth = decU64 s.depth := rfl
@[simp] theorem checkpoint_depth (s : JState) : (checkpoint s).1.depth = incU64 s.depth := rfl

theorem pushEntry_total {s : JState} (e : Entry) (h : s.journal ≠ []) : ∃ s', pushEntry s e = some s' := by
  unfold pushEntry
  cases hj : s.journal with
  | nil => exact absurd hj h
  | cons t r => exact ⟨_, rfl⟩

theorem tstore_total {s : JState} (a k v : Nat) (h : s.journal ≠ []) : ∃ s', tstore s a k v = some s' := by
  rw [Proofs.Journal.tstore_eq]
  split
  · exact pushEntry_total (s := setTransient s a k _) _ h
  · exact ⟨_, rfl⟩

/-- the last step of `load_account` and `sload`: the warming is journaled if the entry was cold -/
theorem warmed_cases {α : Type} {s s' : JState} {e : Entry} {c : Bool} {x y r : α}
    (h : (if c = true then (pushEntry s e).map (·, x) else some (s, y)) = some (s', r)) :
    pushEntry s e = some s' ∨ s' = s := by
  split at h
  · obtain ⟨s1, h1, h2⟩ := Option.map_eq_some_iff.1 h
    cases h2; exact .inl h1
  · cases h; exact .inr rfl

theorem revert_depth {s s' : JState} {cp : Checkpoint} (h : revert s cp = some s') : s'.depth = decU64 s.depth := by
  obtain ⟨_, s'', _, rfl⟩ := Proofs.Journal.revert_spec h
  rfl

theorem createAccountCheckpoint_depth {s s' : JState} {caller a : Addr} {hs : Bool} {v spec : Nat} {r}
    (h : createAccountCheckpoint s caller a hs v spec = some (s', r)) :
    s'.depth = (match r with | .ok _ => incU64 s.depth | .error _ => s.depth) := by
  -- an error reverts the checkpoint taken at the start
  have err : ∀ {sm s1 : JState} {cp}, sm.depth = incU64 s.depth → revert sm cp = some s1 → s1.depth = s.depth :=
    fun hm hr => by rw [revert_depth hr, hm, dec_inc]
  obtain ⟨acc, _, h⟩ := Proofs.Journal.create_some h
  split at h
  · obtain ⟨hr, rfl⟩ := h; exact err rfl hr
  · obtain ⟨s1, s3, acc3, h1, h3, h⟩ := h
    have d3 : s3.depth = incU64 s.depth := (lvl_touchAccount (present_setAcct _ _ _) h3).depth.trans (Proofs.Journal.Lvl.push h1).depth
    split at h
    · obtain ⟨hr, rfl⟩ := h; exact err d3 hr
    · obtain ⟨c, n4, _, _, hp, rfl⟩ := h
      exact (Proofs.Journal.Lvl.push hp).depth.trans d3

section
open Revm.Spec.JournalAbs (Op Run)

/-- the journal depth after a history without `.create` (`isCreate`): one would count as handing out no checkpoint -/
def depthAfter : List Op → Nat → Nat
  | [], d => d
  | .checkpoint :: ops, d => depthAfter ops (incU64 d)
  | .commit :: ops, d | .revert _ :: ops, d => depthAfter ops (decU64 d)
  | _ :: ops, d => depthAfter ops d

def isCreate : Op → Bool
  | .create .. => true
  | _ => false

theorem step_depth {db : Db} {r r' : Run} {op : Op} (h : Spec.JournalAbs.step db r op = some r')
    (hc : isCreate op = false) : r'.js.depth = depthAfter [op] r.js.depth := by
  cases Proofs.Journal.step_called h with
  | load hl => exact (lvl_loadAccount hl).depth
  | loadCode hl => exact (lvl_loadCode hl).depth
  | loadDelegated hl => exact (lvl_loadAccountDelegated hl).depth
  | touch hl => exact (lvl_touch hl).depth
  | transfer hl => exact (lvl_transfer hl).depth
  | incNonce hl => exact (lvl_incNonce hl).depth
  | setCode hl => exact (lvl_setCode hl).depth
  | sload hl => exact (lvl_sload hl).depth
  | sstore hl => exact (lvl_sstore hl).depth
  | tstore hl => exact (lvl_tstore hl).depth
  | selfdestruct hl => exact (lvl_selfdestruct hl).1.depth
  | revert _ hl => exact revert_depth hl
  | created | notCreated => cases hc
  | _ => rfl

theorem run_depth {db : Db} : ∀ {ops : List Op} {r r' : Run}, Spec.JournalAbs.run db r ops = some r' →
    ops.all (fun o => !isCreate o) = true → r'.js.depth = depthAfter ops r.js.depth
  | [], r, r', h, _ => by cases h; rfl
  | op :: ops, r, r', h, hc => by
    simp only [List.all_cons, Bool.and_eq_true, Bool.not_eq_true'] at hc
    simp only [Spec.JournalAbs.run] at h
    split at h
    · rename_i r1 h1
      rw [run_depth h hc.2, step_depth h1 hc.1]
      cases op <;> first | rfl | cases hc.1
    · cases h

end

end Revm.Proofs.Frame
