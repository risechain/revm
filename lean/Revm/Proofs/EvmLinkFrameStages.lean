import Revm.Proofs.EvmFrame
import Revm.Proofs.EvmLinkHost
import Revm.Proofs.Frame
import Revm.Proofs.EtherHistory
/-! The frame functions of the whole-EVM frame machine: `Evm.makeCallFrame`, `makeCreateFrame`, `callReturn`,
`createReturn`, in the stages `Proofs.EvmFrame` cuts them into (re-exported below). `*_ok` / `*_frame` say what a
completed run did under any checkpoint discipline; `*_hist` give the journal history each runs on `journalOps`, ending
in `CallEnd` / `CreateEnd`, which are indexed by what is handed back: every other fact about a completed `make_*_frame`
is read off them by cases. `*_depth` is C07: the journal depth moves as the checkpoint discipline of `Model.Frame` says. -/
namespace Revm.Proofs.EvmLink
open Revm Revm.Model Revm.Model.Evm
open Revm.Model.Journal (incU64 decU64)
open Revm.Proofs.Frame (dec_inc depthAfter)
open Revm.Spec.JournalAbs (Op)
open Revm.Spec.Ether (bal)
open Revm.Proofs.Ether (bal_some loadAccount_same incNonce_same)
export Revm.Proofs.EvmFrame (callValueStep callPrecompile makeCallFrameS makeCallFrame_staged createTail makeCreateFrameS
  makeCreateFrame_staged createVerdict createReturn_eq createVerdict_gas createVerdict_output)
export Revm.Proofs.EvmHost (addCode_js)

/-! ## what a completed run of a stage did -/

theorem callValueStep_ok {w w1 : World} {i : Interp.CallInputs} {f} (h : callValueStep w i = .ok (w1, f)) :
    (i.valueTransfer = false ∧ w1 = w ∧ f = none) ∨
    (i.valueTransfer = true ∧ i.value = 0 ∧ f = none ∧
      ∃ w2 c, w.loadAccount i.targetAddress = .ok (w2, c) ∧ w2.touch i.targetAddress = .ok w1) ∨
    (i.valueTransfer = true ∧ i.value ≠ 0 ∧ ∃ e, w.transfer i.caller i.targetAddress i.value = .ok (w1, e) ∧
      (f = none ∨ f = some .OutOfFunds ∨ f = some .OverflowPayment)) := by
  unfold callValueStep at h
  split at h
  · rename_i hvt
    split at h
    · rename_i hv
      obtain ⟨⟨w2, c⟩, h1, h⟩ := bind_ok h
      obtain ⟨w3, h2, h⟩ := bind_ok h
      cases h
      exact .inr (.inl ⟨hvt, hv, rfl, w2, c, h1, h2⟩)
    · rename_i hv
      obtain ⟨⟨w2, e⟩, h1, h⟩ := bind_ok h
      refine .inr (.inr ⟨hvt, hv, e, ?_⟩)
      dsimp only at h
      split at h <;> cases h
      · exact ⟨h1, .inl rfl⟩
      · exact ⟨h1, .inr (.inl rfl)⟩
      · exact ⟨h1, .inr (.inr rfl)⟩
  · rename_i hvt
    cases h
    exact .inl ⟨by simpa using hvt, rfl, rfl⟩

theorem callValueStep_result {w w1 : World} {i : Interp.CallInputs} {r} (h : callValueStep w i = .ok (w1, some r)) :
    r = .OutOfFunds ∨ r = .OverflowPayment := by
  rcases callValueStep_ok h with ⟨_, _, hf⟩ | ⟨_, _, hf, _⟩ | ⟨_, _, e, _, hf | hf | hf⟩ <;> cases hf
  · exact .inl rfl
  · exact .inr rfl

section
variable {κ : Type}

theorem callTail_ok {C : CpOps κ} {cfg : Cfg} {w w' : World} {cp : κ} {i : Interp.CallInputs}
    {mem : Memory.SharedMemory} {fr : FrameOrResult κ} (h : callTail C cfg w cp i mem = .ok (fr, w')) :
    ∃ w1 c acc hh bytecode, w.loadCode i.bytecodeAddress = .ok (w1, c) ∧ w1.acct i.bytecodeAddress = .ok acc ∧
      acc.info.code = some hh ∧ w1.codeOf hh = some bytecode ∧
      ((fr = .result (earlyResult .Stop i.gasLimit) ∧ w' = C.commit w1) ∨
       ∃ code, fr = .frame ⟨.call i.retStart i.retEnd, cp, Interp.IState.init code i.input i.gasLimit i.isStatic
            cfg.spec i.targetAddress i.caller i.value cfg.env (Memory.newContext mem)⟩ ∧
          ((w' = w1 ∧ code = bytecode) ∨
           ∃ d c2 dacc dh, w1.loadCode d = .ok (w', c2) ∧ w'.acct d = .ok dacc ∧ dacc.info.code = some dh ∧
             w'.codeOf dh = some code)) := by
  unfold callTail at h
  obtain ⟨⟨w1, c⟩, h1, h⟩ := bind_ok h
  obtain ⟨acc, h2, h⟩ := bind_ok h
  obtain ⟨hh, h3, h⟩ := bind_ok h
  obtain ⟨bytecode, h4, h⟩ := bind_ok h
  refine ⟨w1, c, acc, hh, bytecode, h1, h2, Proofs.EvmHost.ofOpt_ok h3, Proofs.EvmHost.ofOpt_ok h4, ?_⟩
  split at h
  · cases h
    exact .inl ⟨rfl, rfl⟩
  · obtain ⟨⟨w2, code⟩, hd, h⟩ := bind_ok h
    cases h
    refine .inr ⟨code, rfl, ?_⟩
    split at hd
    · rename_i d _
      obtain ⟨⟨w3, c3⟩, k1, hd⟩ := bind_ok hd
      obtain ⟨dacc, k2, hd⟩ := bind_ok hd
      obtain ⟨dh, k3, hd⟩ := bind_ok hd
      obtain ⟨dcode, k4, hd⟩ := bind_ok hd
      cases hd
      exact .inr ⟨d, c3, dacc, dh, k1, k2, Proofs.EvmHost.ofOpt_ok k3, Proofs.EvmHost.ofOpt_ok k4⟩
    · cases hd
      exact .inl ⟨rfl, rfl⟩

theorem callPrecompile_ok {C : CpOps κ} {cfg : Cfg} {w w' : World} {cp : κ} {i : Interp.CallInputs}
    {mem : Memory.SharedMemory} {fr : FrameOrResult κ} (h : callPrecompile C cfg w cp i mem = .ok (fr, w')) :
    (callTail C cfg w cp i mem = .ok (fr, w')) ∨
    (∃ gasUsed out, runPrecompile w cfg.spec i.bytecodeAddress i.input i.gasLimit = .ok (some (.ok gasUsed out)) ∧
      fr = .result { result := .Return, output := out, gasRemaining := i.gasLimit - gasUsed, gasRefunded := 0 } ∧
      w' = C.commit w) ∨
    (∃ r, (r = .PrecompileOOG ∨ r = .PrecompileError) ∧ fr = .result (earlyResult r i.gasLimit) ∧
      C.revert w cp = .ok w') := by
  unfold callPrecompile at h
  obtain ⟨pc, hrun, h⟩ := bind_ok h
  cases pc with
  | none => exact .inl h
  | some res =>
    cases res with
    | ok gasUsed out =>
      dsimp only at h
      split at h
      · cases h
        exact .inr (.inl ⟨gasUsed, out, hrun, rfl, rfl⟩)
      · obtain ⟨w1, h1, h⟩ := bind_ok h
        cases h
        exact .inr (.inr ⟨_, .inl rfl, rfl, h1⟩)
    | err e =>
      obtain ⟨w1, h1, h⟩ := bind_ok h
      cases h
      refine .inr (.inr ⟨_, ?_, rfl, h1⟩)
      split
      · exact .inl rfl
      · exact .inr rfl
    | panic => cases h

theorem makeCallFrame_ok {C : CpOps κ} {cfg : Cfg} {w w' : World} {i : Interp.CallInputs}
    {mem : Memory.SharedMemory} {fr : FrameOrResult κ} (h : makeCallFrame C cfg w i mem = .ok (fr, w')) :
    (w.js.depth > CALL_STACK_LIMIT ∧ fr = .result (earlyResult .CallTooDeep i.gasLimit) ∧ w' = w) ∨
    (¬ w.js.depth > CALL_STACK_LIMIT ∧ ∃ w1 x w2 f, w.loadAccountDelegated i.bytecodeAddress = .ok (w1, x) ∧
      callValueStep (C.checkpoint w1).1 i = .ok (w2, f) ∧
      ((∃ r0, f = some r0 ∧ fr = .result (earlyResult r0 i.gasLimit) ∧ C.revert w2 (C.checkpoint w1).2 = .ok w') ∨
       (f = none ∧ callPrecompile C cfg w2 (C.checkpoint w1).2 i mem = .ok (fr, w')))) := by
  rw [makeCallFrame_staged] at h
  unfold makeCallFrameS at h
  split at h
  · rename_i hd
    cases h
    exact .inl ⟨hd, rfl, rfl⟩
  · rename_i hd
    obtain ⟨⟨w1, x⟩, h1, h⟩ := bind_ok h
    obtain ⟨⟨w2, f⟩, h2, h⟩ := bind_ok h
    refine .inr ⟨hd, w1, x, w2, f, h1, h2, ?_⟩
    cases f with
    | some r0 =>
      obtain ⟨w3, h3, h⟩ := bind_ok h
      cases h
      exact .inl ⟨r0, rfl, rfl, h3⟩
    | none => exact .inr ⟨rfl, h⟩

theorem makeCallFrame_frame {C : CpOps κ} {cfg : Cfg} {w w' : World} {i : Interp.CallInputs}
    {mem : Memory.SharedMemory} {f : Frame κ} (h : makeCallFrame C cfg w i mem = .ok (.frame f, w')) :
    ∃ code, f = ⟨.call i.retStart i.retEnd, f.checkpoint, Interp.IState.init code i.input i.gasLimit i.isStatic
      cfg.spec i.targetAddress i.caller i.value cfg.env (Memory.newContext mem)⟩ := by
  rcases makeCallFrame_ok h with ⟨_, hfr, _⟩ | ⟨_, w1, x, w2, f0, _, _, ⟨r0, _, hfr, _⟩ | ⟨_, h3⟩⟩
  · cases hfr
  · cases hfr
  · rcases callPrecompile_ok h3 with h4 | ⟨_, _, _, hfr, _⟩ | ⟨r, _, hfr, _⟩
    · obtain ⟨_, _, _, _, _, _, _, _, _, ⟨hfr, _⟩ | ⟨code, hfr, _⟩⟩ := callTail_ok h4
      · cases hfr
      · cases hfr
        exact ⟨code, rfl⟩
    · cases hfr
    · cases hfr

end

section
variable {κ : Type}

theorem createTail_ok {C : CpOps κ} {cfg : Cfg} {w w' : World} {i : Interp.CreateInputs}
    {mem : Memory.SharedMemory} {created : Nat} {fr : FrameOrResult κ}
    (h : createTail C cfg w i mem created = .ok (fr, w')) :
    (fr = .result (earlyResult .CreateCollision i.gasLimit) ∧ w' = w) ∨
    ∃ w3 c3 r, w.loadAccount created = .ok (w3, c3) ∧
      C.createCheckpoint w3 i.caller created (w3.hasStorage created) i.value cfg.spec = .ok (w', r) ∧
      ((∃ x, (x = .CreateCollision ∨ x = .OverflowPayment) ∧ fr = .result (earlyResult x i.gasLimit) ∧
          ∃ err, r = .error err) ∨
       ∃ cp, r = .ok cp ∧ fr = .frame ⟨.create created, cp, Interp.IState.init i.initCode [] i.gasLimit false cfg.spec
          created i.caller i.value cfg.env (Memory.newContext mem)⟩) := by
  unfold createTail at h
  split at h
  · cases h
    exact .inl ⟨rfl, rfl⟩
  · obtain ⟨⟨w3, c3⟩, h3, h⟩ := bind_ok h
    obtain ⟨⟨w4, r⟩, h4, h⟩ := bind_ok h
    dsimp only at h
    split at h <;> cases h
    · exact .inr ⟨w3, c3, _, h3, h4, .inl ⟨_, .inl rfl, rfl, _, rfl⟩⟩
    · exact .inr ⟨w3, c3, _, h3, h4, .inl ⟨_, .inr rfl, rfl, _, rfl⟩⟩
    · exact .inr ⟨w3, c3, _, h3, h4, .inr ⟨_, rfl, rfl⟩⟩

theorem makeCreateFrame_ok {C : CpOps κ} {cfg : Cfg} {w w' : World} {i : Interp.CreateInputs}
    {mem : Memory.SharedMemory} {fr : FrameOrResult κ} (h : makeCreateFrame C cfg w i mem = .ok (fr, w')) :
    (w.js.depth > CALL_STACK_LIMIT ∧ fr = .result (earlyResult .CallTooDeep i.gasLimit) ∧ w' = w) ∨
    (¬ w.js.depth > CALL_STACK_LIMIT ∧ ∃ w1 c cacc, w.loadAccount i.caller = .ok (w1, c) ∧
      w1.acct i.caller = .ok cacc ∧
      ((fr = .result (earlyResult .OutOfFunds i.gasLimit) ∧ w' = w1) ∨
       (¬ cacc.info.balance < i.value ∧ ∃ js nn, Journal.incNonce w1.js i.caller = some (js, nn) ∧
         ((nn = none ∧ fr = .result (earlyResult .Return i.gasLimit) ∧ w' = { w1 with js := js }) ∨
          ∃ created, createTail C cfg { w1 with js := js } i mem created = .ok (fr, w'))))) := by
  rw [makeCreateFrame_staged] at h
  unfold makeCreateFrameS at h
  split at h
  · rename_i hd
    cases h
    exact .inl ⟨hd, rfl, rfl⟩
  · rename_i hd
    obtain ⟨⟨w1, c⟩, h1, h⟩ := bind_ok h
    obtain ⟨cacc, h2, h⟩ := bind_ok h
    refine .inr ⟨hd, w1, c, cacc, h1, h2, ?_⟩
    split at h
    · cases h
      exact .inl ⟨rfl, rfl⟩
    · rename_i hb
      obtain ⟨⟨js, nn⟩, h3, h⟩ := bind_ok h
      refine .inr ⟨hb, js, nn, Proofs.EvmHost.ofOpt_ok h3, ?_⟩
      cases nn with
      | none =>
        cases h
        exact .inl ⟨rfl, rfl, rfl⟩
      | some n => exact .inr ⟨_, h⟩

theorem callReturn_ok {C : CpOps κ} {w w' : World} {cp : κ} {r r' : Interp.ChildResult}
    (h : callReturn C w cp r = .ok (r', w')) : r' = r ∧ (w' = C.commit w ∨ C.revert w cp = .ok w') := by
  unfold callReturn at h
  split at h
  · cases h
    exact ⟨rfl, .inl rfl⟩
  · obtain ⟨w1, h1, h⟩ := bind_ok h
    cases h
    exact ⟨rfl, .inr h1⟩

theorem makeCreateFrame_frame {C : CpOps κ} {cfg : Cfg} {w w' : World} {i : Interp.CreateInputs}
    {mem : Memory.SharedMemory} {f : Frame κ} (h : makeCreateFrame C cfg w i mem = .ok (.frame f, w')) :
    ∃ created, f = ⟨.create created, f.checkpoint, Interp.IState.init i.initCode [] i.gasLimit false cfg.spec created
      i.caller i.value cfg.env (Memory.newContext mem)⟩ := by
  rcases makeCreateFrame_ok h with ⟨_, hfr, _⟩ | ⟨_, _, _, _, _, _, ⟨hfr, _⟩ | ⟨_, _, _, _, ⟨_, hfr, _⟩ | ⟨created, ht⟩⟩⟩
  · cases hfr
  · cases hfr
  · cases hfr
  · rcases createTail_ok ht with ⟨hfr, _⟩ | ⟨_, _, _, _, _, ⟨x, _, hfr, _⟩ | ⟨cp, _, hfr⟩⟩
    · cases hfr
    · cases hfr
    · cases hfr
      exact ⟨created, rfl⟩

end

theorem createReturn_ok {κ : Type} {C : CpOps κ} {cfg : Cfg} {w w' : World} {cp : κ} {a : Nat}
    {r r' : Interp.ChildResult} (h : createReturn C cfg w cp a r = .ok (r', w')) :
    r' = (createVerdict cfg a r).1 ∧
      (C.revert w cp = .ok w' ∨ ∃ hash code w2, (createVerdict cfg a r).2 = some (hash, code) ∧
        C.setCode (C.commit w) a hash = .ok w2 ∧ w' = w2.addCode hash code) := by
  rw [createReturn_eq] at h
  generalize createVerdict cfg a r = v at h ⊢
  obtain ⟨x, _ | ⟨hash, code⟩⟩ := v
  · obtain ⟨w1, h1, h⟩ := bind_ok h
    cases h
    exact ⟨rfl, .inl h1⟩
  · obtain ⟨w2, h1, h⟩ := bind_ok h
    cases h
    exact ⟨rfl, .inr ⟨hash, code, w2, rfl, h1, rfl⟩⟩

/-! ## the history each frame function runs -/

theorem callValueStep_hist {w w1 : World} {i : Interp.CallInputs} {f} (h : callValueStep w i = .ok (w1, f)) (cps) :
    ∃ ops, Hist w cps ops w1 cps ∧
      ((i.valueTransfer = false ∧ ops = []) ∨ ops = [.load i.targetAddress, .touch i.targetAddress] ∨
       (i.valueTransfer = true ∧ i.value ≠ 0 ∧ ops = [.transfer i.caller i.targetAddress i.value])) := by
  rcases callValueStep_ok h with ⟨hvt, rfl, _⟩ | ⟨_, _, _, w2, c, h1, h2⟩ | ⟨hvt, hv, e, h1, _⟩
  · exact ⟨_, .nil _ _, .inl ⟨hvt, rfl⟩⟩
  · exact ⟨_, .cons ((w_loadAccount_wstep h1).2 cps) ((w_touch_wstep h2).2 cps).hist, .inr (.inl rfl)⟩
  · exact ⟨_, ((w_transfer_wstep h1).2 cps).hist, .inr (.inr ⟨hvt, hv, rfl⟩)⟩

/-- how `make_call_frame` goes on after the value step, the frame's checkpoint `cp` being the `k`-th handed out and
`w'` the world it ends in: the rest of the history, by what is handed back (a result is never `CallTooDeep` here) -/
inductive CallEnd (cfg : Cfg) (mem : Memory.SharedMemory) (k : Nat) (i : Interp.CallInputs) (cp : Journal.Checkpoint)
    (w' : World) : FrameOrResult Journal.Checkpoint → List Op → Prop
  /-- the value step or the precompile fails -/
  | reverted (x : Interp.IResult) :
      x ∈ [Interp.IResult.OutOfFunds, .OverflowPayment, .PrecompileOOG, .PrecompileError] →
      CallEnd cfg mem k i cp w' (.result (earlyResult x i.gasLimit)) [.revert k]
  /-- a precompile ran (before the `commit`, which leaves `World.pcOracle` as it is: hence on `w'`) -/
  | committed (gasUsed : Nat) (out : List Nat) :
      runPrecompile w' cfg.spec i.bytecodeAddress i.input i.gasLimit = .ok (some (.ok gasUsed out)) →
      CallEnd cfg mem k i cp w'
        (.result { result := .Return, output := out, gasRemaining := i.gasLimit - gasUsed, gasRefunded := 0 }) [.commit]
  /-- empty code -/
  | empty : CallEnd cfg mem k i cp w' (.result (earlyResult .Stop i.gasLimit)) [.loadCode i.bytecodeAddress, .commit]
  /-- a frame on the code the store has for the loaded account -/
  | frame (hh : Nat) (code : List Nat) : w'.codeOf hh = some code →
      CallEnd cfg mem k i cp w' (.frame ⟨.call i.retStart i.retEnd, cp, Interp.IState.init code i.input i.gasLimit
        i.isStatic cfg.spec i.targetAddress i.caller i.value cfg.env (Memory.newContext mem)⟩)
        [.loadCode i.bytecodeAddress]
  /-- a frame on the code of the EIP-7702 delegate `d` -/
  | delegated (d dh : Nat) (code : List Nat) : w'.codeOf dh = some code →
      CallEnd cfg mem k i cp w' (.frame ⟨.call i.retStart i.retEnd, cp, Interp.IState.init code i.input i.gasLimit
        i.isStatic cfg.spec i.targetAddress i.caller i.value cfg.env (Memory.newContext mem)⟩)
        [.loadCode i.bytecodeAddress, .loadCode d]

theorem CallEnd.result_ne {cfg mem k i cp w' r tail} (h : CallEnd cfg mem k i cp w' (.result r) tail) :
    r.result ≠ .CallTooDeep := by
  cases h with
  | reverted x hx => rintro (rfl : x = _); simp at hx
  | committed => exact nofun
  | empty => exact nofun

/-- the tail of `make_call_frame`: `load_code`, then commit on empty code, or the frame (after the EIP-7702 hop) -/
theorem callTail_hist {cfg : Cfg} {w w' : World} {cp : Journal.Checkpoint} {i : Interp.CallInputs} {mem fr}
    (h : callTail journalOps cfg w cp i mem = .ok (fr, w')) (cps : List Journal.Checkpoint) (k : Nat) :
    ∃ tail, Hist w cps tail w' cps ∧ CallEnd cfg mem k i cp w' fr tail := by
  obtain ⟨w3, c, acc, hh, bytecode, k1, _, _, hb, hfr⟩ := callTail_ok h
  have s1 := (w_loadCode_wstep k1).2 cps
  rcases hfr with ⟨rfl, rfl⟩ | ⟨code, rfl, (⟨rfl, rfl⟩ | ⟨d, c2, dacc, dh, k2, _, _, hd⟩)⟩
  · exact ⟨_, .cons s1 (w_commit_wstep w3 cps).hist, .empty⟩
  · exact ⟨_, s1.hist, .frame hh _ hb⟩
  · exact ⟨_, .cons s1 ((w_loadCode_wstep k2).2 cps).hist, .delegated d dh _ hd⟩

/-- nothing when the stack is full; else `load_account_delegated`, `checkpoint`, the value step, and one of the five
endings of `CallEnd` -/
theorem makeCallFrame_hist {cfg : Cfg} {w w' : World} {i : Interp.CallInputs} {mem fr}
    (h : makeCallFrame journalOps cfg w i mem = .ok (fr, w')) (cps : List Journal.Checkpoint) :
    (w.js.depth > CALL_STACK_LIMIT ∧ fr = .result (earlyResult .CallTooDeep i.gasLimit) ∧ w' = w) ∨
    (¬ w.js.depth > CALL_STACK_LIMIT ∧ ∃ cp vops tail,
      Hist w cps ([.loadDelegated i.bytecodeAddress, .checkpoint] ++ vops ++ tail) w' (cps ++ [cp]) ∧
      ((i.valueTransfer = false ∧ vops = []) ∨ vops = [.load i.targetAddress, .touch i.targetAddress] ∨
       (i.valueTransfer = true ∧ i.value ≠ 0 ∧ vops = [.transfer i.caller i.targetAddress i.value])) ∧
      CallEnd cfg mem cps.length i cp w' fr tail) := by
  rcases makeCallFrame_ok h with h0 | ⟨hd, w1, x, w2, f, h1, h2, hrest⟩
  · exact .inl h0
  · refine .inr ⟨hd, w1.checkpoint.2, ?_⟩
    obtain ⟨vops, hv, hvops⟩ := callValueStep_hist h2 (cps ++ [w1.checkpoint.2])
    have hk : (cps ++ [w1.checkpoint.2])[cps.length]? = some w1.checkpoint.2 := by simp
    have pre := (Hist.cons ((w_loadAccountDelegated_wstep h1).2 cps) (w_checkpoint_wstep w1 cps).hist).append hv
    rcases hrest with ⟨r0, rfl, rfl, h3⟩ | ⟨rfl, h3⟩
    · refine ⟨vops, _, pre.append ((w_revert_wstep h3).2 _ _ hk).hist, hvops, .reverted _ ?_⟩
      rcases callValueStep_result h2 with rfl | rfl <;> simp
    · rcases callPrecompile_ok h3 with h4 | ⟨gasUsed, out, hrun, rfl, rfl⟩ | ⟨r, hr, rfl, h4⟩
      · obtain ⟨tail, ht, he⟩ := callTail_hist h4 (cps ++ [w1.checkpoint.2]) cps.length
        exact ⟨vops, tail, pre.append ht, hvops, he⟩
      · exact ⟨vops, _, pre.append (w_commit_wstep w2 _).hist, hvops, .committed gasUsed out hrun⟩
      · refine ⟨vops, _, pre.append ((w_revert_wstep h4).2 _ _ hk).hist, hvops, .reverted _ ?_⟩
        rcases hr with rfl | rfl <;> simp

theorem callReturn_hist {w w' : World} {cp : Journal.Checkpoint} {r r' : Interp.ChildResult} {cps} {i : Nat}
    (h : callReturn journalOps w cp r = .ok (r', w')) (hi : cps[i]? = some cp) :
    ∃ op, (op = .commit ∨ op = .revert i) ∧ Hist w cps [op] w' cps := by
  rcases (callReturn_ok h).2 with rfl | h1
  · exact ⟨_, .inl rfl, (w_commit_wstep w cps).hist⟩
  · exact ⟨_, .inr rfl, ((w_revert_wstep h1).2 cps i hi).hist⟩

/-- the code store learns the deployed code outside the history: `addCode` is no journal operation -/
theorem createReturn_hist {cfg : Cfg} {w w' : World} {cp : Journal.Checkpoint} {a : Nat} {r r' : Interp.ChildResult}
    {cps} {i : Nat} (h : createReturn journalOps cfg w cp a r = .ok (r', w')) (hi : cps[i]? = some cp) :
    Hist w cps [.revert i] w' cps ∨
    ∃ hash code w2, (createVerdict cfg a r).2 = some (hash, code) ∧ Hist w cps [.commit, .setCode a hash] w2 cps ∧
      w' = w2.addCode hash code := by
  obtain ⟨_, h1 | ⟨hash, code, w2, hv, h2, rfl⟩⟩ := createReturn_ok h
  · exact .inl ((w_revert_wstep h1).2 cps i hi).hist
  · exact .inr ⟨hash, code, w2, hv, .cons (w_commit_wstep w cps) ((w_setCode_wstep h2).2 cps).hist, rfl⟩

/-- how `make_create_frame` ends once loads and `inc_nonce` have taken the world to `w3`, by what it hands back (a
result is never `CallTooDeep` here) -/
inductive CreateEnd (cfg : Cfg) (i : Interp.CreateInputs) (mem : Memory.SharedMemory) (cps : List Journal.Checkpoint)
    (w3 w' : World) : FrameOrResult Journal.Checkpoint → Prop
  /-- out of funds, nonce overflow, or a precompile address: nothing more happens -/
  | early (x : Interp.IResult) : x ∈ [Interp.IResult.OutOfFunds, .Return, .CreateCollision] → w' = w3 →
      CreateEnd cfg i mem cps w3 w' (.result (earlyResult x i.gasLimit))
  /-- `create_account_checkpoint` refuses and hands out no checkpoint -/
  | refused (created : Nat) (hs : Bool) (x : Interp.IResult) :
      x ∈ [Interp.IResult.CreateCollision, .OverflowPayment] →
      WStep w3 cps (.create i.caller created hs i.value cfg.spec) w' cps →
      CreateEnd cfg i mem cps w3 w' (.result (earlyResult x i.gasLimit))
  /-- the checkpoint it hands out is the frame's, a create frame at the address the checkpoint was made for -/
  | frame (created : Nat) (hs : Bool) (cp : Journal.Checkpoint) :
      WStep w3 cps (.create i.caller created hs i.value cfg.spec) w' (cps ++ [cp]) →
      CreateEnd cfg i mem cps w3 w' (.frame ⟨.create created, cp, Interp.IState.init i.initCode [] i.gasLimit false
        cfg.spec created i.caller i.value cfg.env (Memory.newContext mem)⟩)

/-- nothing when the stack is full; else loads and `inc_nonce`, which leave the depth, then an ending of `CreateEnd`. Its
`create_account_checkpoint` is funded: the balance checked before `inc_nonce` is the one the checkpoint debits. -/
theorem makeCreateFrame_hist {cfg : Cfg} {w w' : World} {i : Interp.CreateInputs} {mem fr}
    (h : makeCreateFrame journalOps cfg w i mem = .ok (fr, w')) (cps : List Journal.Checkpoint) :
    (w.js.depth > CALL_STACK_LIMIT ∧ fr = .result (earlyResult .CallTooDeep i.gasLimit) ∧ w' = w) ∨
    (¬ w.js.depth > CALL_STACK_LIMIT ∧ ∃ pre w3, Hist w cps pre w3 cps ∧ w3.js.depth = w.js.depth ∧
      CreateEnd cfg i mem cps w3 w' fr) := by
  rcases makeCreateFrame_ok h with h0 | ⟨hd, w1, c, cacc, h1, hca, hrest⟩
  · exact .inl h0
  · refine .inr ⟨hd, ?_⟩
    obtain ⟨t0, s1⟩ := w_loadAccount_wstep h1
    rcases hrest with ⟨rfl, rfl⟩ | ⟨hge, js, nn, h2, hnn⟩
    · exact ⟨_, _, (s1 cps).hist, (s1 cps).hist.depth rfl, .early _ (by simp) rfl⟩
    · have p2 := Hist.cons (s1 cps) (w_incNonce_wstep h2 cps).hist
      rcases hnn with ⟨_, rfl, rfl⟩ | ⟨created, ht⟩
      · exact ⟨_, _, p2, p2.depth rfl, .early _ (by simp) rfl⟩
      · rcases createTail_ok ht with ⟨rfl, rfl⟩ | ⟨w3, c3, r, h3, h4, hfr⟩
        · exact ⟨_, _, p2, p2.depth rfl, .early _ (by simp) rfl⟩
        · obtain ⟨t1, s3⟩ := w_loadAccount_wstep h3
          have p3 := p2.append (s3 cps).hist
          have hbal : i.value ≤ bal w3.db w3.js i.caller := by
            rw [(s3 cps).only.db, (loadAccount_same t1).1.1]
            show i.value ≤ bal w1.db js i.caller
            rw [(incNonce_same h2).1, bal_some (acct_ok hca)]
            omega
          have s4 := (w_createCheckpoint_wstep h4).2 cps
            ⟨hbal, (s3 cps).kle _ ((lvl_incNonce h2).dom.kle _ ((lvl_loadAccount t0).dom.present (List.mem_singleton.mpr rfl))),
              (lvl_loadAccount t1).dom.present (List.mem_singleton.mpr rfl)⟩
          refine ⟨_, w3, p3, p3.depth rfl, ?_⟩
          rcases hfr with ⟨x, hx, rfl, err, rfl⟩ | ⟨cp, rfl, rfl⟩
          · exact .refused created _ x (by rcases hx with rfl | rfl <;> simp) s4
          · exact .frame created _ cp s4

theorem CreateEnd.hist {cfg : Cfg} {i : Interp.CreateInputs} {mem cps} {w3 w' : World} {fr}
    (h : CreateEnd cfg i mem cps w3 w' fr) : ∃ ops cps', Hist w3 cps ops w' cps' := by
  cases h with
  | early _ _ e => subst e; exact ⟨_, _, .nil _ _⟩
  | refused _ _ _ _ s => exact ⟨_, _, s.hist⟩
  | frame _ _ _ s => exact ⟨_, _, s.hist⟩

/-! ## the frame depth (C07) -/

theorem w_loadCode_depth {w w1 : World} {a : Nat} {c : Bool} (h : w.loadCode a = .ok (w1, c)) :
    w1.js.depth = w.js.depth := ((w_loadCode_wstep h).2 []).hist.depth rfl

theorem w_checkpoint_depth (w : World) : w.checkpoint.1.js.depth = incU64 w.js.depth := rfl
theorem w_commit_depth (w : World) : w.commit.js.depth = decU64 w.js.depth := rfl

theorem answer_depth {he : HostEnv} {w w1 : World} {op : Interp.HostOp} {resp : Interp.HostResp}
    (h : answer he w op = .ok (resp, w1)) : w1.js.depth = w.js.depth := by
  rw [(answer_hist h []).depth (by cases op <;> rfl)]
  cases op <;> rfl

/-- C07 `frame_depth_neutral_call` and `max_depth` on `Evm.makeCallFrame`: an immediate result
leaves the journal depth as it was, and is `CallTooDeep` exactly when the depth exceeds `CALL_STACK_LIMIT`; an opened
frame leaves it one higher, and is opened only at depth ≤ `CALL_STACK_LIMIT` -/
theorem makeCallFrame_depth {cfg : Cfg} {w w' : World} {i : Interp.CallInputs} {mem fr}
    (h : makeCallFrame journalOps cfg w i mem = .ok (fr, w')) :
    (∀ r, fr = .result r → w'.js.depth = w.js.depth ∧ (r.result = .CallTooDeep ↔ w.js.depth > CALL_STACK_LIMIT)) ∧
    (∀ f, fr = .frame f → w'.js.depth = incU64 w.js.depth ∧ ¬ w.js.depth > CALL_STACK_LIMIT) := by
  rcases makeCallFrame_hist h [] with ⟨hd, rfl, rfl⟩ | ⟨hd, cp, vops, tail, hh, hv, he⟩
  · exact ⟨fun r hr => by cases hr; exact ⟨rfl, fun _ => hd, fun _ => rfl⟩, fun f hf => nomatch hf⟩
  · -- the value step leaves the depth; the ending closes the checkpoint exactly when it hands back a result
    have hdep : w'.js.depth = depthAfter tail (incU64 w.js.depth) := by
      rw [hh.depth (by rcases hv with ⟨_, rfl⟩ | rfl | ⟨_, _, rfl⟩ <;> cases he <;> rfl)]
      rcases hv with ⟨_, rfl⟩ | rfl | ⟨_, _, rfl⟩ <;> rfl
    cases fr with
    | result r =>
      refine ⟨fun r' hr' => ?_, fun f hf => nomatch hf⟩
      cases hr'
      exact ⟨by cases he <;> exact hdep.trans (dec_inc _), fun hx => absurd hx he.result_ne, fun hx => absurd hx hd⟩
    | frame f => exact ⟨fun r hr => (nomatch hr), fun f' _ => ⟨by cases he <;> exact hdep, hd⟩⟩

/-- C07 `frame_depth_neutral_create` and `max_depth_create` on `Evm.makeCreateFrame` -/
theorem makeCreateFrame_depth {cfg : Cfg} {w w' : World} {i : Interp.CreateInputs} {mem fr}
    (h : makeCreateFrame journalOps cfg w i mem = .ok (fr, w')) :
    (∀ r, fr = .result r → w'.js.depth = w.js.depth ∧ (r.result = .CallTooDeep ↔ w.js.depth > CALL_STACK_LIMIT)) ∧
    (∀ f, fr = .frame f → w'.js.depth = incU64 w.js.depth ∧ ¬ w.js.depth > CALL_STACK_LIMIT) := by
  rcases makeCreateFrame_hist h [] with ⟨hd, rfl, rfl⟩ | ⟨hd, pre, w3, _, d3, he⟩
  · exact ⟨fun r hr => by cases hr; exact ⟨rfl, fun _ => hd, fun _ => rfl⟩, fun f hf => nomatch hf⟩
  · have res : ∀ {x : Interp.IResult}, w'.js.depth = w3.js.depth → x ≠ .CallTooDeep →
        ∀ r, FrameOrResult.result (κ := Journal.Checkpoint) (earlyResult x i.gasLimit) = .result r →
          w'.js.depth = w.js.depth ∧ (r.result = .CallTooDeep ↔ w.js.depth > CALL_STACK_LIMIT) :=
      fun e hx r hr => by cases hr; exact ⟨e.trans d3, fun h => absurd h hx, fun h => absurd h hd⟩
    cases he with
    | early x hx e =>
      exact ⟨res (by rw [e]) (by rintro rfl; simp at hx), fun f hf => nomatch hf⟩
    | refused _ _ x hx s =>
      rcases s.create_depth with ⟨_, e⟩ | ⟨cp, hcp, _⟩
      · exact ⟨res e (by rintro rfl; simp at hx), fun f hf => nomatch hf⟩
      · exact absurd hcp (by simp)
    | frame _ _ cp s =>
      rcases s.create_depth with ⟨hcp, _⟩ | ⟨_, _, e⟩
      · exact absurd hcp (by simp)
      · exact ⟨fun r hr => (nomatch hr), fun f' _ => ⟨e.trans (congrArg incU64 d3), hd⟩⟩

theorem callReturn_depth {w w' : World} {cp : Journal.Checkpoint} {r r' : Interp.ChildResult}
    (h : callReturn journalOps w cp r = .ok (r', w')) : w'.js.depth = decU64 w.js.depth := by
  obtain ⟨op, hop, hh⟩ := callReturn_hist (cps := [cp]) (i := 0) h rfl
  rcases hop with rfl | rfl <;> exact hh.depth rfl

theorem createReturn_depth {cfg : Cfg} {w w' : World} {cp : Journal.Checkpoint} {a : Nat} {r r' : Interp.ChildResult}
    (h : createReturn journalOps cfg w cp a r = .ok (r', w')) : w'.js.depth = decU64 w.js.depth := by
  rcases createReturn_hist (cps := [cp]) (i := 0) h rfl with hh | ⟨hash, code, w2, _, hh, rfl⟩
  · exact hh.depth rfl
  · rw [addCode_js]; exact hh.depth rfl

end Revm.Proofs.EvmLink
