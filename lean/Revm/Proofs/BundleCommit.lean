import Revm.Proofs.BundleStatus
import Revm.Proofs.BundlePlain
/-! One committed account, per address (C16). `P`, `M`, `R` = (info, slots) of the address when the bundle was started,
at the last merge, now. `CInv` ties the cache account to `R`, `GInv` the accumulated transition, if any, to `M → R`
(`TInv`); `BInvAcc` (module BundleMerge) ties the bundle account to `P → M`. `apply_event`: `apply_account_state`
followed by `add_transitions` keeps `CInv` and `GInv`; each event is a `write_event` or a `destroy_event` whose new
status is looked up in a table `T_*` of BundleStatus. -/
namespace Revm.Proofs.Bundle
open Revm.Model.Bundle Revm.Spec.Bundle


abbrev wc := Info.withoutCode

/-- "has a non-zero nonce or non-empty code" -/
def ncO : Option Info → Bool
  | some i => !i.hasNoCodeAndNonce
  | none => false

theorem ncO_wc (i : Option Info) : ncO (i.map wc) = ncO i := by cases i <;> rfl

theorem isSome_wc (i : Option Info) : (i.map wc).isSome = i.isSome := by cases i <;> rfl

theorem map_wc_none (i : Option Info) : i.map wc = none ↔ i = none := by cases i <;> simp

theorem isEmpty_wc (i : Info) (h : i.isEmpty = true) : wc i = wc Info.dflt := by
  obtain ⟨b, n, c, f⟩ := i
  simp only [Info.isEmpty, Bool.and_eq_true, beq_iff_eq] at h
  obtain ⟨⟨h1, h2⟩, h3⟩ := h
  subst h1; subst h2; subst h3; rfl

theorem isEmpty_nc (i : Info) (h : i.isEmpty = true) : ncO (some i) = false := by
  simp only [Info.isEmpty, Bool.and_eq_true, beq_iff_eq] at h
  simp [ncO, Info.hasNoCodeAndNonce, h.1.1, h.2]

theorem optSame_wc (a b : Option Info) (h : optSame a b = true) : a.map wc = b.map wc := by
  cases a with
  | none => cases b with
    | none => rfl
    | some y => simp [optSame] at h
  | some x => cases b with
    | none => simp [optSame] at h
    | some y =>
      simp only [optSame, Info.same, Bool.and_eq_true, beq_iff_eq] at h
      obtain ⟨⟨h1, h2⟩, h3⟩ := h
      cases x; cases y; simp_all [Info.withoutCode]

/-- what a cache status implies about the (info, slots) of the same moment: `R` in `CInv`, `M` in the merge lemmas -/
structure Facts (s : Status) (info : Option Info) (slots : Nat → Nat) : Prop where
  some_iff : info.isSome = hasInfo s
  changed_nc : s = .changed → ncO info = true
  none_zero : info = none → ∀ k, slots k = 0

theorem Facts.wc_iff (s : Status) (info : Option Info) (slots : Nat → Nat) :
    Facts s (info.map wc) slots ↔ Facts s info slots := by
  constructor
  · intro h; exact ⟨by rw [← isSome_wc]; exact h.some_iff, fun hs => by rw [← ncO_wc]; exact h.changed_nc hs,
      fun hn => h.none_zero ((map_wc_none info).mpr hn)⟩
  · intro h; exact ⟨by rw [isSome_wc]; exact h.some_iff, fun hs => by rw [ncO_wc]; exact h.changed_nc hs,
      fun hn => h.none_zero ((map_wc_none info).mp hn)⟩

theorem Facts.none_of {s : Status} {info : Option Info} {slots : Nat → Nat} (h : Facts s info slots)
    (hs : hasInfo s = false) : info = none := by
  have := h.some_iff
  rw [hs] at this
  cases info with
  | none => rfl
  | some i => cases this

theorem Facts.zero_of {s : Status} {info : Option Info} {slots : Nat → Nat} (h : Facts s info slots)
    (hs : hasInfo s = false) (k : Nat) : slots k = 0 :=
  h.none_zero (h.none_of hs) k

/-- cache account vs. current reference account -/
structure CInv (c : CacheAcct) (Ri : Option Info) (Rs : Nat → Nat) : Prop where
  info : c.info.map wc = Ri
  facts : Facts c.status c.info Rs
  emptyEIP : c.status = .loadedEmptyEIP161 → ∀ i, c.info = some i → i.isEmpty = true
  loadedNE : c.status = .loaded → ∀ i, c.info = some i → i.isEmpty = false

/-- accumulated transition vs. (state at last merge → current state) -/
structure TInv (t : Transition) (c : CacheAcct) (Mi : Option Info) (Ms Rs : Nat → Nat) : Prop where
  info : t.info = c.info
  status : t.status = c.status
  prev : t.prevInfo.map wc = Mi
  ok : trOK t.prevStatus t.status (ncO c.info) t.wasDestroyed = true
  stor : SlotsRel t.storage (fun k => if t.wasDestroyed then 0 else Ms k) Rs

theorem TInv.stor_keep {t : Transition} {c : CacheAcct} {Mi : Option Info} {Ms Rs : Nat → Nat}
    (ht : TInv t c Mi Ms Rs) (h : t.wasDestroyed = false ∨ ∀ k, Ms k = 0) : SlotsRel t.storage Ms Rs := by
  have he : (fun k => if t.wasDestroyed = true then 0 else Ms k) = Ms := by
    funext k
    cases h with
    | inl h => simp [h]
    | inr h => simp [h k]
  rw [← he]; exact ht.stor

theorem TInv.stor_zero {t : Transition} {c : CacheAcct} {Mi : Option Info} {Ms Rs : Nat → Nat}
    (ht : TInv t c Mi Ms Rs) (h : t.wasDestroyed = true ∨ ∀ k, Ms k = 0) : SlotsRel t.storage (fun _ => 0) Rs := by
  have he : (fun k => if t.wasDestroyed = true then 0 else Ms k) = fun _ => 0 := by
    funext k
    cases h with
    | inl h => simp [h]
    | inr h => simp [h k]
  rw [← he]; exact ht.stor

/-- transition state of one address: `ms` = cache status at the last merge -/
def GInv (t? : Option Transition) (c : CacheAcct) (ms : Status) (Mi : Option Info) (Ms : Nat → Nat)
    (Ri : Option Info) (Rs : Nat → Nat) : Prop :=
  match t? with
  | none => Mi = Ri ∧ Ms = Rs ∧ ms = c.status
  | some t => TInv t c Mi Ms Rs ∧ ms = t.prevStatus

/-- what `add_transitions` leaves for an address that received `tr` -/
def combine (t? : Option Transition) (tr : Option Transition) : Option Transition :=
  match tr with
  | none => t?
  | some x => match t? with
    | some old => some (old.update x)
    | none => some x

def hasT (t? : Option Transition) : Bool := t?.isSome

def wdOf (t? : Option Transition) : Bool := match t? with | some t => t.wasDestroyed | none => false

theorem GInv.to_gOK {t? : Option Transition} {c : CacheAcct} {ms : Status} {Mi Ms Ri Rs}
    (h : GInv t? c ms Mi Ms Ri Rs) (hc : CInv c Ri Rs) :
    gOK (hasT t?) ms c.status (ncO c.info) (wdOf t?) = true := by
  cases t? with
  | none =>
    obtain ⟨_, _, h3⟩ := h
    simp only [gOK, hasT, wdOf, Option.isSome, h3, Bool.false_eq_true, if_false, beq_self_eq_true, Bool.true_and,
      Bool.not_false, Bool.and_true]
    by_cases hs : c.status = .changed
    · simp [hc.facts.changed_nc hs]
    · simp [hs]
  | some t =>
    obtain ⟨h1, h2⟩ := h
    simp only [gOK, hasT, wdOf, Option.isSome, if_true, h2]
    rw [← h1.status]; exact h1.ok

def addT (ts : BMap Transition) (a : Nat) (tr : Option Transition) : BMap Transition :=
  match tr with
  | none => ts
  | some t => match ts.get a with
    | some old => ts.set a (old.update t)
    | none => ts.set a t

theorem addT_get (ts : BMap Transition) (a : Nat) (tr : Option Transition) (a' : Nat) :
    (addT ts a tr).get a' = if a = a' then combine (ts.get a) tr else ts.get a' := by
  unfold addT combine
  cases tr with
  | none => by_cases h : a = a' <;> simp [h]
  | some t =>
    cases hg : ts.get a with
    | none => by_cases h : a = a' <;> simp [get_set, h]
    | some old => by_cases h : a = a' <;> simp [get_set, h]

theorem addT_WF (ts : BMap Transition) (a : Nat) (tr : Option Transition) (hw : WF ts) : WF (addT ts a tr) := by
  unfold addT
  cases tr with
  | none => exact hw
  | some t => cases ts.get a <;> exact WF_set _ _ _ hw

theorem addTransitions_snoc (ts : BMap Transition) (trs : List (Nat × Transition)) (a : Nat) (t : Transition) :
    addTransitions ts (trs ++ [(a, t)]) = addT (addTransitions ts trs) a (some t) := by
  unfold addTransitions addT
  rw [List.foldl_append]
  simp only [List.foldl]
  cases (List.foldl _ ts trs).get a <;> rfl

/-- info-writing event (`newly_created`, `change`, pre-EIP-161 touch) -/
theorem write_event {c : CacheAcct} {t? : Option Transition} {ms : Status} {Mi : Option Info} {Ms : Nat → Nat}
    {Ri : Option Info} {Rs : Nat → Nat} (ni : Info) (st : Status) (chg : BMap Slot)
    (hc : CInv c Ri Rs) (hg : GInv t? c ms Mi Ms Ri Rs)
    (hok : trOK ms st (ncO (some ni)) (wdOf t?) = true)
    (hshape : hasInfo st = true ∧ st ≠ .destroyed ∧ st ≠ .destroyedAgain)
    (hw : WF chg) (ho : ∀ k s, chg.get k = some s → s.orig = Rs k) :
    CInv ⟨some ni, st⟩ (some (wc ni)) (writeCh chg Rs) ∧
    GInv (combine t? (some ⟨some ni, st, c.info, c.status, chg, false⟩)) ⟨some ni, st⟩ ms Mi Ms
      (some (wc ni)) (writeCh chg Rs) := by
  have hsh := trOK_shape hok
  refine ⟨⟨rfl, ⟨by simp [hshape.1], fun h => hsh.2.1 h, fun h => by cases h⟩,
    fun h => absurd h hsh.2.2.1, fun h => absurd h hsh.2.2.2.1⟩, ?_⟩
  cases t? with
  | none =>
    obtain ⟨h1, h2, h3⟩ := hg
    subst h2
    refine ⟨⟨rfl, rfl, by rw [h1]; exact hc.info, ?_, ?_⟩, h3⟩
    · simp only [wdOf] at hok; rw [← h3]; exact hok
    · simp only [Bool.false_eq_true, if_false]; exact SlotsRel.fresh chg Ms hw ho
  | some t =>
    obtain ⟨h1, h2⟩ := hg
    have hnd : ¬ (st = .destroyed ∨ st = .destroyedAgain) := fun h => h.elim hshape.2.1 hshape.2.2
    simp only [combine, Transition.update, hnd, if_false]
    refine ⟨⟨rfl, rfl, h1.prev, ?_, ?_⟩, h2⟩
    · simp only [wdOf] at hok; rw [← h2]; exact hok
    · exact SlotsRel.write t.storage chg _ Rs h1.stor hw ho

/-- destroying event (`selfdestruct`, post-EIP-161 touch of an empty account) that records a transition -/
theorem destroy_event {c : CacheAcct} {t? : Option Transition} {ms : Status} {Mi : Option Info} {Ms : Nat → Nat}
    {Ri : Option Info} {Rs : Nat → Nat} (st : Status)
    (hc : CInv c Ri Rs) (hg : GInv t? c ms Mi Ms Ri Rs)
    (hok : trOK ms st false true = true)
    (hst : st = .destroyed ∨ st = .destroyedAgain) :
    CInv ⟨none, st⟩ none (fun _ => 0) ∧
    GInv (combine t? (some ⟨none, st, c.info, c.status, [], true⟩)) ⟨none, st⟩ ms Mi Ms none (fun _ => 0) := by
  have hsh := trOK_shape hok
  have hhi : hasInfo st = false := by cases hst with
    | inl h => rw [h]; rfl
    | inr h => rw [h]; rfl
  have hnc : st ≠ .changed := by
    intro h; cases hst with
    | inl h' => rw [h'] at h; cases h
    | inr h' => rw [h'] at h; cases h
  refine ⟨⟨rfl, ⟨by simp [hhi], fun h => absurd h hnc, fun _ _ => rfl⟩,
    fun h => absurd h hsh.2.2.1, fun h => absurd h hsh.2.2.2.1⟩, ?_⟩
  cases t? with
  | none =>
    obtain ⟨h1, h2, h3⟩ := hg
    refine ⟨⟨rfl, rfl, by rw [h1]; exact hc.info, by rw [← h3]; exact hok, ?_⟩, h3⟩
    simp only [if_true]; exact SlotsRel.nil _
  | some t =>
    obtain ⟨h1, h2⟩ := hg
    simp only [combine, Transition.update, hst, if_true]
    refine ⟨⟨rfl, rfl, h1.prev, by rw [← h2]; exact hok, ?_⟩, h2⟩
    simp only [if_true]; exact SlotsRel.nil _

def chgOf (ea : EvmAcct) : BMap Slot := ea.storage.filter (fun e => e.2.isChanged)

/-- reference semantics of one committed account on its (info, slots) (`Spec.applyCommitAcct` at its address) -/
def evInfo (sc : Bool) (Ri : Option Info) (ea : EvmAcct) : Option Info :=
  if !ea.touched then Ri else
  if ea.selfdestructed then none
  else if ea.created then some (wc ea.info)
  else if ea.info.isEmpty then (if sc then none else some (wc Info.dflt))
  else some (wc ea.info)

def evSlots (sc : Bool) (Rs : Nat → Nat) (ea : EvmAcct) : Nat → Nat :=
  if !ea.touched then Rs else
  if ea.selfdestructed then fun _ => 0
  else if ea.created then writeCh (chgOf ea) (fun _ => 0)
  else if ea.info.isEmpty then (if sc then fun _ => 0 else writeCh (chgOf ea) Rs)
  else writeCh (chgOf ea) Rs

/-- the clauses of `Spec.evmOk` that `apply_event` uses, per address (`evOk_of`); what `evmOk` says of self-destruct
targets and of storage writes to codeless accounts is not among them -/
structure EvOk (Ri : Option Info) (Rs : Nat → Nat) (e : EvmAcct) : Prop where
  wf : WF e.storage
  orig : ∀ k s, e.storage.get k = some s → s.orig = if e.created then 0 else Rs k
  created : e.selfdestructed = false → e.created = true →
    (Ri = none ∨ ∃ o, Ri = some o ∧ o.nonce = 0 ∧ o.codeHash = 0 ∧ ∀ k, Rs k = 0)
  empty : e.selfdestructed = false → e.created = false → e.info.isEmpty = true →
    (Ri = none ∨ ∃ o, Ri = some o ∧ o.isEmpty = true) ∧ (∀ k s, e.storage.get k = some s → s.isChanged = false)
  change : e.selfdestructed = false → e.created = false → e.info.isEmpty = false →
    ∀ o, Ri = some o → o.nonce ≤ e.info.nonce ∧ (o.codeHash = e.info.codeHash ∨ e.info.nonce ≥ 1)

theorem chgOf_WF (ea : EvmAcct) (hw : WF ea.storage) : WF (chgOf ea) := WF_filter _ _ hw

theorem chgOf_get (ea : EvmAcct) (hw : WF ea.storage) (k : Nat) (s : Slot) (h : (chgOf ea).get k = some s) :
    ea.storage.get k = some s := by
  unfold chgOf at h
  rw [get_filter _ _ _ hw] at h
  cases hg : ea.storage.get k with
  | none => rw [hg] at h; cases h
  | some v =>
    rw [hg] at h
    simp only [Option.bind] at h
    by_cases hc : v.isChanged = true
    · simp only [hc, if_true] at h; exact h
    · simp only [hc] at h; cases h

theorem chgOf_nil (ea : EvmAcct) (hw : WF ea.storage)
    (h : ∀ k s, ea.storage.get k = some s → s.isChanged = false) : chgOf ea = [] := by
  unfold chgOf
  apply List.filter_eq_nil_iff.mpr
  intro e he
  have := h e.1 e.2 (get_some_of_mem _ hw e.1 e.2 he)
  simp [this]

theorem writeCh_nil (Rs : Nat → Nat) : writeCh [] Rs = Rs := by funext k; rfl

theorem info_of_Ri_none {c : CacheAcct} {Ri Rs} (hc : CInv c Ri Rs) (h : Ri = none) : c.info = none := by
  have := hc.info; rw [h] at this; exact (map_wc_none _).mp this

theorem info_of_Ri_some {c : CacheAcct} {Ri Rs} {o : Info} (hc : CInv c Ri Rs) (h : Ri = some o) :
    ∃ i, c.info = some i ∧ wc i = o := by
  have := hc.info; rw [h] at this
  cases hi : c.info with
  | none => rw [hi] at this; cases this
  | some i => rw [hi] at this; exact ⟨i, rfl, by injection this⟩

theorem CInv.noInfo {c : CacheAcct} {Ri Rs} (hc : CInv c Ri Rs) (h : hasInfo c.status = false) :
    (⟨none, c.status⟩ : CacheAcct) = c ∧ Ri = none ∧ Rs = fun _ => 0 := by
  have hci := hc.facts.none_of h
  refine ⟨?_, by rw [← hc.info, hci]; rfl, funext (hc.facts.none_zero hci)⟩
  cases c; cases hci; rfl

/-- `CacheAccount::change`, the `had_no_nonce_and_code` argument of `on_changed` computed from `hasInfo` and `ncO` -/
theorem change_eq {c : CacheAcct} {Ri Rs} (hc : CInv c Ri Rs) (ni : Info) (chg : BMap Slot) :
    c.change ni chg = (⟨some ni, c.status.onChanged (hasInfo c.status && !ncO c.info)⟩,
      ⟨some ni, c.status.onChanged (hasInfo c.status && !ncO c.info), c.info, c.status, chg, false⟩) := by
  have := hc.facts.some_iff
  cases hi : c.info with
  | none => rw [hi] at this; simp [CacheAcct.change, hi, ← this]
  | some i => rw [hi] at this; simp [CacheAcct.change, hi, ← this, ncO]

section events
variable {c : CacheAcct} {t? : Option Transition} {ms : Status} {Mi : Option Info} {Ms : Nat → Nat}
  {Ri : Option Info} {Rs : Nat → Nat} (hc : CInv c Ri Rs) (hg : GInv t? c ms Mi Ms Ri Rs)
include hc hg

theorem ev_noop {st : Status} (h : hasInfo c.status = false) (hst : st = c.status) :
    CInv ⟨none, st⟩ none (fun _ => 0) ∧ GInv (combine t? none) ⟨none, st⟩ ms Mi Ms none (fun _ => 0) := by
  obtain ⟨hc', hRi, hRs⟩ := hc.noInfo h
  subst hRi; subst hRs
  rw [hst, hc']; exact ⟨hc, hg⟩

theorem ev_selfdestruct : ∃ c' tr, c.selfdestruct = (c', tr) ∧
    CInv c' none (fun _ => 0) ∧ GInv (combine t? tr) c' ms Mi Ms none (fun _ => 0) := by
  have tb := T_sd (hasT t?) ms c.status (ncO c.info) (wdOf t?)
  rw [hg.to_gOK hc] at tb
  have tsh := T_sd_shape c.status
  unfold CacheAcct.selfdestruct
  by_cases hl : c.status = .loadedNotExisting
  · simp only [if_pos hl]; exact ⟨_, _, rfl, ev_noop hc hg (by rw [hl]; rfl) (tsh.2.2 hl)⟩
  · simp only [if_neg hl]
    have hb : (c.status == Status.loadedNotExisting) = false := by simp [hl]
    simp only [Bool.not_true, hb, Bool.false_or] at tb
    exact ⟨_, _, rfl, destroy_event _ hc hg tb (tsh.2.1 hl)⟩

theorem ev_created (ni : Info) (chg : BMap Slot) (hnc : ncO c.info = false) (hw : WF chg)
    (ho : ∀ k s, chg.get k = some s → s.orig = Rs k) :
    CInv (c.newlyCreated ni chg).1 (some (wc ni)) (writeCh chg Rs) ∧
    GInv (combine t? (some (c.newlyCreated ni chg).2)) (c.newlyCreated ni chg).1 ms Mi Ms (some (wc ni)) (writeCh chg Rs) := by
  have tb := T_created (hasT t?) ms c.status (ncO (some ni)) (wdOf t?)
  have g := hg.to_gOK hc
  rw [hnc] at g
  rw [g] at tb
  exact write_event ni c.status.onCreated chg hc hg tb (T_created_shape c.status) hw ho

theorem ev_touchPost (hnc : ncO c.info = false) (hnl : c.status ≠ .loaded) :
    ∃ c' tr, c.touchEmptyEip161 = some (c', tr) ∧
      CInv c' none (fun _ => 0) ∧ GInv (combine t? tr) c' ms Mi Ms none (fun _ => 0) := by
  have tb := T_touchPost (hasT t?) ms c.status (wdOf t?)
  have g := hg.to_gOK hc
  rw [hnc] at g
  have hnlb : (c.status == Status.loaded) = false := by simp [hnl]
  rw [g, hnlb] at tb
  simp only [Bool.not_true, Bool.false_or] at tb
  unfold CacheAcct.touchEmptyEip161
  cases hq : c.status.onTouchedEmptyPostEip161 with
  | none => rw [hq] at tb; cases tb
  | some st =>
    rw [hq] at tb
    simp only at tb
    by_cases h3 : c.status = .loadedNotExisting ∨ c.status = .destroyed ∨ c.status = .destroyedAgain
    · have h3b : (c.status == Status.loadedNotExisting || c.status == Status.destroyed || c.status == Status.destroyedAgain) = true := by
        rcases h3 with h | h | h <;> simp [h]
      simp only [h3b, if_true, beq_iff_eq] at tb
      simp only [if_pos h3]
      exact ⟨_, _, rfl, ev_noop hc hg (by rcases h3 with h | h | h <;> rw [h] <;> rfl) tb⟩
    · have h3b : (c.status == Status.loadedNotExisting || c.status == Status.destroyed || c.status == Status.destroyedAgain) = false := by
        simp only [not_or] at h3
        simp [h3.1, h3.2.1, h3.2.2]
      simp only [h3b, Bool.false_eq_true, if_false, Bool.and_eq_true, Bool.or_eq_true, beq_iff_eq] at tb
      simp only [if_neg h3]
      exact ⟨_, _, rfl, destroy_event st hc hg tb.2 tb.1⟩

theorem ev_touchPre (hnc : ncO c.info = false) (hnl : c.status ≠ .loaded) :
    ∃ c' tr, c.touchCreatePreEip161 [] = some (c', tr) ∧
      CInv c' (some (wc Info.dflt)) Rs ∧ GInv (combine t? tr) c' ms Mi Ms (some (wc Info.dflt)) Rs := by
  have tb := T_touchPre (hasT t?) ms c.status
    (match c.info with | some i => i.isEmpty | none => false) (wdOf t?)
  have g := hg.to_gOK hc
  rw [hnc] at g
  have hnlb : (c.status == Status.loaded) = false := by simp [hnl]
  rw [g, hnlb] at tb
  simp only [Bool.not_true, Bool.false_or] at tb
  unfold CacheAcct.touchCreatePreEip161
  simp only
  cases hq : c.status.onTouchedCreatedPreEip161 (match c.info with | some i => i.isEmpty | none => false) with
  | none => rw [hq] at tb; cases tb
  | some o =>
    rw [hq] at tb
    cases o with
    | none =>
      simp only [Bool.or_eq_true, Bool.and_eq_true, beq_iff_eq] at tb
      have hRi : Ri = some (wc Info.dflt) := by
        have hs := hc.facts.some_iff
        cases hi : c.info with
        | none =>
          rw [hi] at hs tb
          cases tb with
          | inl h => rw [h] at hs; cases hs
          | inr h => cases h.2
        | some i =>
          have hie : i.isEmpty = true := by
            cases tb with
            | inl h => exact hc.emptyEIP h i hi
            | inr h => have := h.2; rw [hi] at this; exact this
          rw [← hc.info, hi]; simp only [Option.map]; rw [isEmpty_wc i hie]
      rw [← hRi]
      exact ⟨_, _, rfl, hc, hg⟩
    | some st =>
      simp only [Bool.and_eq_true, bne_iff_ne, ne_eq] at tb
      obtain ⟨⟨⟨h1, h2⟩, h3⟩, h4⟩ := tb
      have := write_event Info.dflt st [] hc hg h1 ⟨h2, h3, h4⟩ WF_nil (fun k s hk => by cases hk)
      rw [writeCh_nil] at this
      exact ⟨_, _, rfl, this⟩

theorem ev_change (ni : Info) (chg : BMap Slot) (hnc : (ncO c.info && !ncO (some ni)) = false) (hw : WF chg)
    (ho : ∀ k s, chg.get k = some s → s.orig = Rs k) :
    CInv (c.change ni chg).1 (some (wc ni)) (writeCh chg Rs) ∧
    GInv (combine t? (some (c.change ni chg).2)) (c.change ni chg).1 ms Mi Ms (some (wc ni)) (writeCh chg Rs) := by
  have tb := T_change (hasT t?) ms c.status (ncO c.info) (ncO (some ni)) (wdOf t?)
  rw [hg.to_gOK hc, hnc] at tb
  rw [change_eq hc]
  exact write_event ni _ chg hc hg tb (T_change_shape _ _) hw ho

end events

theorem apply_event (sc : Bool) (c : CacheAcct) (t? : Option Transition) (ms : Status) (Mi : Option Info)
    (Ms : Nat → Nat) (Ri : Option Info) (Rs : Nat → Nat) (ea : EvmAcct)
    (hc : CInv c Ri Rs) (hg : GInv t? c ms Mi Ms Ri Rs) (he' : ea.touched = true → EvOk Ri Rs ea) :
    ∃ c' tr, applyAccountState sc c ea = some (c', tr) ∧
      CInv c' (evInfo sc Ri ea) (evSlots sc Rs ea) ∧
      GInv (combine t? tr) c' ms Mi Ms (evInfo sc Ri ea) (evSlots sc Rs ea) := by
  cases ht : ea.touched with
  | false =>
    refine ⟨c, none, by simp [applyAccountState, ht], ?_, ?_⟩
    · simp only [evInfo, evSlots, ht, Bool.not_false, if_true]; exact hc
    · simp only [evInfo, evSlots, ht, Bool.not_false, if_true, combine]; exact hg
  | true =>
  have he := he' ht
  cases hsd : ea.selfdestructed with
  | true =>
    have hap : applyAccountState sc c ea = some c.selfdestruct := by simp [applyAccountState, ht, hsd]
    have hev : evInfo sc Ri ea = none ∧ evSlots sc Rs ea = fun _ => 0 := by
      simp [evInfo, evSlots, ht, hsd]
    rw [hev.1, hev.2, hap]
    obtain ⟨c', tr, h1, h2⟩ := ev_selfdestruct hc hg
    exact ⟨c', tr, by rw [h1], h2⟩
  | false =>
  cases hcr : ea.created with
  | true =>
    have hap : applyAccountState sc c ea = some ((c.newlyCreated ea.info (chgOf ea)).1, some (c.newlyCreated ea.info (chgOf ea)).2) := by
      simp [applyAccountState, ht, hsd, hcr, chgOf]
    -- a creation target has no nonce, no code and no storage
    have hz : Rs = (fun _ => 0) ∧ ncO c.info = false := by
      rw [← ncO_wc, hc.info]
      cases he.created hsd hcr with
      | inl h => exact ⟨funext (hc.facts.none_zero (info_of_Ri_none hc h)), by rw [h]; rfl⟩
      | inr h =>
        obtain ⟨o, ho, h1, h2, h3⟩ := h
        exact ⟨funext h3, by rw [ho]; simp [ncO, Info.hasNoCodeAndNonce, h1, h2]⟩
    have hev : evInfo sc Ri ea = some (wc ea.info) ∧ evSlots sc Rs ea = writeCh (chgOf ea) Rs := by
      simp only [evInfo, evSlots, ht, hsd, hcr, Bool.not_true, Bool.false_eq_true, if_false, if_true, true_and]
      rw [hz.1]
    rw [hev.1, hev.2, hap]
    exact ⟨_, _, rfl, ev_created hc hg ea.info (chgOf ea) hz.2 (chgOf_WF ea he.wf) (fun k s hk => by
      have := he.orig k s (chgOf_get ea he.wf k s hk)
      rw [hcr] at this; simp only [if_true] at this
      rw [this, hz.1])⟩
  | false =>
  cases hem : ea.info.isEmpty with
  | true =>
    -- a touched empty account was absent or empty before, and nothing was written
    obtain ⟨hold, hnoch⟩ := he.empty hsd hcr hem
    have hchg : chgOf ea = [] := chgOf_nil ea he.wf hnoch
    have hnc : ncO c.info = false := by
      rw [← ncO_wc, hc.info]
      cases hold with
      | inl h => rw [h]; rfl
      | inr h => obtain ⟨o, ho, h1⟩ := h; rw [ho]; exact isEmpty_nc o h1
    have hnl : c.status ≠ .loaded := by
      intro hl
      cases hold with
      | inl h =>
        have := hc.facts.some_iff; rw [info_of_Ri_none hc h, hl] at this; cases this
      | inr h =>
        obtain ⟨o, ho, h1⟩ := h
        obtain ⟨i, hi, hio⟩ := info_of_Ri_some hc ho
        have h2 := hc.loadedNE hl i hi
        subst hio
        rw [show (wc i).isEmpty = i.isEmpty from rfl, h2] at h1; cases h1
    cases sc with
    | true =>
      have hap : applyAccountState true c ea = c.touchEmptyEip161 := by
        simp [applyAccountState, ht, hsd, hcr, hem]
      have hev : evInfo true Ri ea = none ∧ evSlots true Rs ea = fun _ => 0 := by
        simp [evInfo, evSlots, ht, hsd, hcr, hem]
      rw [hev.1, hev.2, hap]
      exact ev_touchPost hc hg hnc hnl
    | false =>
      have hap : applyAccountState false c ea = c.touchCreatePreEip161 (chgOf ea) := by
        simp [applyAccountState, ht, hsd, hcr, hem, chgOf]
      have hev : evInfo false Ri ea = some (wc Info.dflt) ∧ evSlots false Rs ea = Rs := by
        simp [evInfo, evSlots, ht, hsd, hcr, hem, hchg, writeCh_nil]
      rw [hev.1, hev.2, hap, hchg]
      exact ev_touchPre hc hg hnc hnl
  | false =>
    have hap : applyAccountState sc c ea = some ((c.change ea.info (chgOf ea)).1, some (c.change ea.info (chgOf ea)).2) := by
      simp [applyAccountState, ht, hsd, hcr, hem, chgOf]
    have hev : evInfo sc Ri ea = some (wc ea.info) ∧ evSlots sc Rs ea = writeCh (chgOf ea) Rs := by
      simp [evInfo, evSlots, ht, hsd, hcr, hem]
    rw [hev.1, hev.2, hap]
    -- a change never removes nonce-or-code
    have hncc : (ncO c.info && !ncO (some ea.info)) = false := by
      cases hi : c.info with
      | none => rfl
      | some i =>
        have hRi : Ri = some (wc i) := by rw [← hc.info, hi]; rfl
        have := he.change hsd hcr hem (wc i) hRi
        simp only [wc, Info.withoutCode] at this
        simp only [ncO, Info.hasNoCodeAndNonce]
        by_cases hn : ea.info.nonce = 0
        · have hin : i.nonce = 0 := by omega
          have hcd : i.codeHash = ea.info.codeHash := by
            cases this.2 with
            | inl h => exact h
            | inr h => omega
          simp [hn, hin, hcd]
        · simp [hn]
    exact ⟨_, _, rfl, ev_change hc hg ea.info (chgOf ea) hncc (chgOf_WF ea he.wf) (fun k s hk => by
      have := he.orig k s (chgOf_get ea he.wf k s hk)
      rw [hcr] at this; simpa using this)⟩

/-! ## `Spec.evmOk` and `Spec.applyCommitAcct` per address -/

theorem distinctKeys_WF {α : Type} (l : List (Nat × α)) (h : distinctKeys l = true) : WF l := by
  induction l with
  | nil => exact WF_nil
  | cons e r ih =>
    simp only [distinctKeys, Bool.and_eq_true, Bool.not_eq_true', List.any_eq_false, beq_iff_eq] at h
    rw [WF_cons]
    refine ⟨?_, ih h.2⟩
    intro hm
    obtain ⟨x, hx, hxe⟩ := List.mem_map.mp hm
    exact h.1 x hx hxe

theorem evOk_of (sc : Bool) (p : Plain) (a : Nat) (e : EvmAcct) (h : evmOk sc p a e = true)
    (ht : e.touched = true) : EvOk (p.acct a) (fun k => p.slot a k) e := by
  simp only [evmOk, ht, Bool.not_true, Bool.false_eq_true, if_false, Bool.and_eq_true] at h
  obtain ⟨⟨hdk, horig⟩, hcase⟩ := h
  have hw := distinctKeys_WF _ hdk
  have horig' : ∀ k s, e.storage.get k = some s → s.orig = if e.created then 0 else p.slot a k := by
    intro k s hg
    have := List.all_eq_true.mp horig (k, s) (mem_of_get _ _ _ hg)
    simpa using this
  refine ⟨hw, horig', ?_, ?_, ?_⟩
  · intro _ hcr
    simp only [hcr, if_true] at hcase
    cases ho : p.acct a with
    | none => exact Or.inl rfl
    | some o =>
      rw [ho] at hcase
      simp only [Bool.and_eq_true, beq_iff_eq, Bool.not_eq_true'] at hcase
      exact Or.inr ⟨o, rfl, hcase.1.1, hcase.1.2, fun k => hasStorage_false p a hcase.2 k⟩
  · intro hsd hcr hem
    simp only [hcr, hsd, hem, Bool.false_eq_true, if_false, if_true, Bool.and_eq_true, Bool.not_eq_true',
      List.any_eq_false] at hcase
    refine ⟨?_, fun k s hg => ?_⟩
    · cases ho : p.acct a with
      | none => exact Or.inl rfl
      | some o => rw [ho] at hcase; exact Or.inr ⟨o, rfl, hcase.1⟩
    · have := hcase.2 (k, s) (mem_of_get _ _ _ hg)
      simpa using this
  · intro hsd hcr hem o ho
    simp only [hcr, hsd, hem, Bool.false_eq_true, if_false, ho, Bool.and_eq_true, Bool.or_eq_true, beq_iff_eq,
      decide_eq_true_eq] at hcase
    exact ⟨hcase.1.1, hcase.1.2⟩

theorem writeSlots_map (chg : BMap Slot) (f : Nat → Nat) (k : Nat) :
    writeSlots (chg.map (fun e => (e.1, e.2.present))) f k = writeCh chg f k := by
  unfold writeSlots writeCh
  rw [get_map_present]
  cases chg.get k <;> rfl

theorem applyCommitAcct_acct (sc : Bool) (p : Plain) (a : Nat) (ea : EvmAcct) (a' : Nat) :
    (applyCommitAcct sc p a ea).acct a' = if a = a' then evInfo sc (p.acct a) ea else p.acct a' := by
  unfold applyCommitAcct evInfo
  cases ea.touched <;> cases ea.selfdestructed <;> cases ea.created <;> cases ea.info.isEmpty <;> cases sc <;>
    by_cases h : a = a' <;>
    simp [acct_setAcct, acct_setSlots, acct_wipe, h]

theorem applyCommitAcct_slot (sc : Bool) (p : Plain) (a : Nat) (ea : EvmAcct) (hw : ea.touched = true → WF ea.storage)
    (a' k : Nat) :
    (applyCommitAcct sc p a ea).slot a' k = if a = a' then evSlots sc (fun k => p.slot a k) ea k else p.slot a' k := by
  cases ht : ea.touched with
  | false => by_cases h : a = a' <;> simp [applyCommitAcct, evSlots, ht, h]
  | true =>
    have hwc : WF ((ea.storage.filter (fun e => e.2.isChanged)).map (fun e => (e.1, e.2.present))) :=
      WF_map_val _ _ (WF_filter _ _ (hw ht))
    unfold applyCommitAcct evSlots
    simp only [ht, Bool.not_true, Bool.false_eq_true, if_false]
    cases ea.selfdestructed <;> cases ea.created <;> cases ea.info.isEmpty <;> cases sc <;>
      by_cases h : a = a' <;>
      simp [slot_setAcct, slot_setSlots _ _ _ hwc, slot_wipe, h, writeSlots_map, chgOf]

end Revm.Proofs.Bundle
