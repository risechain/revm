import Revm.Spec.Ether
import Revm.Proofs.Journal
/-! C08 (ether conservation): the balance machine of `Spec/Ether.lean` on its own. Each operation is a move of ether
(`Moved`) whose entry undoes it; `BInv` is the invariant the operations keep and `BInv.ledger` the conservation law.
C06's abstract undo has this machine's undo as balance component (`undoT_balance`), so its balance entries rest on
`Moved` too. The journal model comes in along the import chain `EtherJournal` → `EtherHistory` → `EtherTx` →
`EtherStatements`. -/
namespace Revm.Proofs.Ether
open Revm Revm.Model.Journal Revm.Spec.JournalAbs Revm.Spec.Ether

theorem upd_same (f : Addr → Nat) (a v) : upd f a v a = v := by simp [upd]
theorem upd_other (f : Addr → Nat) {a x : Addr} (v) (h : x ≠ a) : upd f a v x = f x := by simp [upd, h]

theorem upd_eq : upd = Journal.upd (α := Nat) := rfl

theorem sumOver_congr {L : List Addr} {f g : Addr → Nat} (h : ∀ a ∈ L, f a = g a) :
    sumOver L f = sumOver L g := by
  induction L with
  | nil => rfl
  | cons a L ih =>
    simp only [sumOver]
    rw [h a (List.mem_cons_self), ih (fun x hx => h x (List.mem_cons_of_mem _ hx))]

theorem sumOver_upd_notin {L : List Addr} (f : Addr → Nat) {a : Addr} (v) (h : a ∉ L) :
    sumOver L (upd f a v) = sumOver L f :=
  sumOver_congr (fun _ hx => upd_other f v (fun e => h (e ▸ hx)))

theorem sumOver_upd {L : List Addr} (f : Addr → Nat) {a : Addr} (v) (hn : L.Nodup) (h : a ∈ L) :
    sumOver L (upd f a v) + f a = sumOver L f + v := by
  induction L with
  | nil => cases h
  | cons b L ih =>
    have hb : b ∉ L := (List.nodup_cons.mp hn).1
    have hL : L.Nodup := (List.nodup_cons.mp hn).2
    simp only [sumOver]
    by_cases hab : a = b
    · subst hab
      rw [upd_same, sumOver_upd_notin f v hb]; omega
    · have : a ∈ L := by
        cases h with
        | head => exact absurd rfl hab
        | tail _ h => exact h
      have := ih hL this
      rw [upd_other f v (fun e => hab e.symm)]; omega

theorem le_sumOver {L : List Addr} (f : Addr → Nat) {a : Addr} (h : a ∈ L) : f a ≤ sumOver L f := by
  induction L with
  | nil => cases h
  | cons b L ih =>
    simp only [sumOver]
    cases h with
    | head => omega
    | tail _ h => have := ih h; omega

theorem two_le_sumOver {L : List Addr} (f : Addr → Nat) {a b : Addr} (hn : L.Nodup)
    (ha : a ∈ L) (hb : b ∈ L) (hab : a ≠ b) : f a + f b ≤ sumOver L f := by
  have h := sumOver_upd f 0 hn ha
  have h2 := le_sumOver (upd f a 0) hb
  rw [upd_other f 0 (fun e => hab e.symm)] at h2
  omega

export Revm.Proofs.Journal (wadd_lt bsub_lt bsub_wadd_cancel wadd_zero_left)

export Revm.U256 (wadd_eq)

theorem wadd_wrap {a b : Nat} (ha : a < W) (hb : b < W) (h : W ≤ a + b) : U256.wadd a b = a + b - W := by
  unfold U256.wadd
  rw [Nat.mod_eq_sub_mod h]; exact Nat.mod_eq_of_lt (by omega)

theorem bsub_eq {a b : Nat} (h : b ≤ a) : bsub a b = a - b := by
  unfold bsub; simp [h]

theorem wadd_bsub_cancel {a v : Nat} (ha : a < W) (hv : v < W) : U256.wadd (bsub a v) v = a := by
  unfold bsub; split
  · rw [wadd_eq (by omega)]; omega
  · rw [wadd_wrap (by omega) hv (by omega)]; omega

/-- `FOk (bal db s)` unfolds to `Spec.Ether.BalOk db s`; the two are passed for one another -/
def FOk (f : Addr → Nat) : Prop := ∀ x, f x < W

theorem upd_ok {f : Addr → Nat} (hf : FOk f) (a) {v} (hv : v < W) : FOk (upd f a v) := by
  intro x; unfold upd; split
  · exact hv
  · exact hf x

theorem fun_eq2 {f g : Addr → Nat} (a b : Addr) (ha : g a = f a) (hb : g b = f b)
    (h : ∀ x, x ≠ a → x ≠ b → g x = f x) : g = f := by
  funext x
  by_cases h1 : x = a
  · subst h1; exact ha
  · by_cases h2 : x = b
    · subst h2; exact hb
    · exact h x h1 h2

/-- `f'` is `f` with `v` moved from `x` to `y` (nothing, when they are the same account): what `transfer`, the
endowment of a creation and a self-destruct naming another account do, each with its own order of writes -/
structure Moved (f f' : Addr → Nat) (x y : Addr) (v : Nat) : Prop where
  src : x ≠ y → f' x + v = f x
  dst : x ≠ y → f' y = f y + v
  same : x = y → f' x = f x
  other : ∀ z, z ≠ x → z ≠ y → f' z = f z

theorem Moved.undo {f f' : Addr → Nat} {x y : Addr} {v : Nat} (m : Moved f f' x y v) (hf : FOk f) (hv : v < W)
    (hfit : x ≠ y → f y + v < W) :
    FOk f' ∧ (x = y ∨ (f' x + v < W ∧ v ≤ f' y)) ∧
      upd (upd f' x (U256.wadd (f' x) v)) y (bsub (upd f' x (U256.wadd (f' x) v) y) v) = f := by
  have hx := hf x
  by_cases hxy : x = y
  · subst hxy
    have e : f' = f := fun_eq2 x x (m.same rfl) (m.same rfl) (fun z h1 _ => m.other z h1 h1)
    subst e
    refine ⟨hf, Or.inl rfl, ?_⟩
    rw [upd_same, bsub_wadd_cancel hx hv]
    exact fun_eq2 x x (upd_same _ _ _) (upd_same _ _ _) (fun z h1 _ => by rw [upd_other _ _ h1, upd_other _ _ h1])
  · have hyx : y ≠ x := fun e => hxy e.symm
    have h1 := m.src hxy
    have h2 := m.dst hxy
    have h3 := hfit hxy
    refine ⟨fun z => ?_, Or.inr ⟨by omega, by omega⟩, ?_⟩
    · by_cases hz : z = x
      · subst hz; omega
      · by_cases hz2 : z = y
        · subst hz2; omega
        · rw [m.other z hz hz2]; exact hf z
    · rw [upd_other _ _ hyx, wadd_eq (by omega), h2, bsub_eq (by omega)]
      apply fun_eq2 x y
      · rw [upd_other _ _ hxy, upd_same]; omega
      · rw [upd_same]; omega
      · intro z hz hz2; rw [upd_other _ _ hz2, upd_other _ _ hz, m.other z hz hz2]

theorem Moved.sum {f f' : Addr → Nat} {x y : Addr} {v : Nat} (m : Moved f f' x y v) {L : List Addr}
    (hn : L.Nodup) (hx : x ∈ L) (hy : y ∈ L) : sumOver L f' = sumOver L f := by
  by_cases hxy : x = y
  · exact sumOver_congr fun z _ => by
      by_cases hz : z = x
      · subst hz; exact m.same hxy
      · exact m.other z hz (fun e => hz (e.trans hxy.symm))
  · have h1 := m.src hxy
    have e : sumOver L f' = sumOver L (upd (upd f x (f x - v)) y (f y + v)) := sumOver_congr fun z _ => by
      by_cases hz2 : z = y
      · subst hz2; rw [upd_same]; exact m.dst hxy
      · rw [upd_other _ _ hz2]
        by_cases hz : z = x
        · subst hz; rw [upd_same]; omega
        · rw [upd_other _ _ hz]; exact m.other z hz hz2
    have e1 := sumOver_upd f (f x - v) hn hx
    have e2 := sumOver_upd (upd f x (f x - v)) (f y + v) hn hy
    rw [upd_other _ _ (fun e => hxy e.symm)] at e2
    omega

theorem moved_transfer {f : Addr → Nat} {src dst : Addr} {v : Nat} (h1 : v ≤ f src) :
    Moved f (upd (upd f src (f src - v)) dst (upd f src (f src - v) dst + v)) src dst v where
  src := fun h => by rw [upd_other _ _ h, upd_same]; omega
  dst := fun h => by rw [upd_same, upd_other _ _ (fun e => h e.symm)]
  same := fun h => by subst h; rw [upd_same, upd_same]; omega
  other := fun z h1 h2 => by rw [upd_other _ _ h2, upd_other _ _ h1]

theorem moved_create {f : Addr → Nat} {caller a : Addr} {v : Nat} (hfund : caller = a ∨ v ≤ f caller) :
    Moved f (upd (upd f a (f a + v)) caller (bsub (upd f a (f a + v) caller) v)) caller a v where
  src := fun h => by
    rw [upd_same, upd_other _ _ h, bsub_eq (by rcases hfund with e | e; exact absurd e h; exact e)]
    rcases hfund with e | e
    · exact absurd e h
    · omega
  dst := fun h => by rw [upd_other _ _ (fun e => h e.symm), upd_same]
  same := fun h => by subst h; rw [upd_same, upd_same, bsub_eq (by omega)]; omega
  other := fun z h1 h2 => by rw [upd_other _ _ h1, upd_other _ _ h2]

theorem moved_sweep {f : Addr → Nat} {a t : Addr} (hat : a ≠ t) (hno : f t + f a < W) :
    Moved f (upd (upd f t (U256.wadd (f t) (f a))) a 0) a t (f a) where
  src := fun _ => by rw [upd_same]; omega
  dst := fun _ => by rw [upd_other _ _ (fun e => hat e.symm), upd_same, wadd_eq hno]
  same := fun h => absurd h hat
  other := fun z h1 h2 => by rw [upd_other _ _ h1, upd_other _ _ h2]

theorem moved_back {f : Addr → Nat} {x y : Addr} {v : Nat} (hf : FOk f) (hv : v < W)
    (h : x = y ∨ (f x + v < W ∧ v ≤ f y)) :
    Moved f (upd (upd f x (U256.wadd (f x) v)) y (bsub (upd f x (U256.wadd (f x) v) y) v)) y x v where
  src := fun hyx => by
    rcases h with e | ⟨_, h2⟩
    · exact absurd e.symm hyx
    · rw [upd_same, upd_other _ _ hyx, bsub_eq h2]; omega
  dst := fun hyx => by
    rcases h with e | ⟨h1, _⟩
    · exact absurd e.symm hyx
    · rw [upd_other _ _ (fun e => hyx e.symm), upd_same, wadd_eq h1]
  same := fun e => by subst e; rw [upd_same, upd_same, bsub_wadd_cancel (hf _) hv]
  other := fun z h1 h2 => by rw [upd_other _ _ h1, upd_other _ _ h2]

theorem undoBal_ok {f : Addr → Nat} (hf : FOk f) (e : Entry) : FOk (undoBal f e) := by
  cases e <;> try exact hf
  case accountDestroyed a t wd had =>
    simp only [undoBal]
    have h1 : FOk (upd f a (U256.wadd (f a) had)) := upd_ok hf a (wadd_lt _ _)
    split
    · exact upd_ok h1 t (bsub_lt (h1 t))
    · exact h1
  case balanceTransfer src dst v =>
    simp only [undoBal]
    have h1 : FOk (upd f src (U256.wadd (f src) v)) := upd_ok hf src (wadd_lt _ _)
    exact upd_ok h1 dst (bsub_lt (h1 dst))

theorem undoAll_ok {f : Addr → Nat} (hf : FOk f) (es : List Entry) : FOk (undoAll f es) := by
  induction es generalizing f with
  | nil => exact hf
  | cons e es ih => exact ih (undoBal_ok hf e)

theorem undoT_balance (sd : Bool) (x : Journal.AState) (e : Entry) :
    (Journal.undoT sd x e).balance = undoBal x.balance e := by
  cases e <;> rfl

theorem undoTs_balance (sd : Bool) (x : Journal.AState) (es : List Entry) :
    (Journal.undoTs sd x es).balance = undoAll x.balance es := by
  induction es generalizing x with
  | nil => rfl
  | cons e es ih => simp only [Journal.undoTs, undoAll, ih, undoT_balance]

theorem undoAll_append (f : Addr → Nat) (xs ys : List Entry) :
    undoAll f (xs ++ ys) = undoAll (undoAll f xs) ys := by
  induction xs generalizing f with
  | nil => rfl
  | cons e es ih => exact ih _

theorem good_append {f : Addr → Nat} {xs ys : List Entry} :
    Good f (xs ++ ys) ↔ Good f xs ∧ Good (undoAll f xs) ys := by
  induction xs generalizing f with
  | nil => simp [Good, undoAll]
  | cons e es ih => simp only [List.cons_append, Good, undoAll, ih, and_assoc]

theorem burntJ_append (xs ys : List Entry) : burntJ (xs ++ ys) = burntJ xs + burntJ ys := by
  induction xs with
  | nil => simp [burntJ]
  | cons e es ih => simp only [List.cons_append, burntJ, ih]; omega

/-- the entries' values are words (they are balances or checked transfer values) -/
def ValOk : Entry → Prop
  | .balanceTransfer _ _ v => v < W
  | .accountDestroyed _ _ _ had => had < W
  | _ => True

theorem noWrap_ledger {L : List Addr} (hn : L.Nodup) {f : Addr → Nat} (hf : FOk f) {e : Entry}
    (hin : ∀ a ∈ entryAddrs e, a ∈ L) (hv : ValOk e) (h : NoWrap f e) :
    sumOver L (undoBal f e) = sumOver L f + burntEntry e := by
  cases e
  case balanceTransfer src dst v =>
    have hs : src ∈ L := hin src (by simp [entryAddrs])
    have hd : dst ∈ L := hin dst (by simp [entryAddrs])
    exact (moved_back hf hv h).sum hn hd hs
  case accountDestroyed a t wd had =>
    have ha : a ∈ L := hin a (by simp [entryAddrs])
    have ht : t ∈ L := hin t (by simp [entryAddrs])
    obtain ⟨h1, h2⟩ := h
    by_cases hat : a = t
    · subst hat
      simp only [undoBal, burntEntry, ne_eq, not_true_eq_false, if_false, if_true]
      have e1 := sumOver_upd f (U256.wadd (f a) had) hn ha
      rw [wadd_eq h1] at e1 ⊢
      omega
    · simp only [undoBal, burntEntry, ne_eq, hat, not_false_eq_true, if_true, if_false, Nat.add_zero]
      exact (moved_back hf hv (Or.inr ⟨h1, h2 hat⟩)).sum hn ht ha
  all_goals simp [undoBal, burntEntry]

def ValsOk (es : List Entry) : Prop := ∀ e ∈ es, ValOk e

theorem good_ledger {L : List Addr} (hn : L.Nodup) {f : Addr → Nat} (hf : FOk f) {es : List Entry}
    (hin : EntriesIn L es) (hv : ValsOk es) (hg : Good f es) :
    sumOver L (undoAll f es) = sumOver L f + burntJ es := by
  induction es generalizing f with
  | nil => simp [undoAll, burntJ]
  | cons e es ih =>
    simp only [undoAll, burntJ]
    have h1 := noWrap_ledger hn hf (hin e (List.mem_cons_self)) (hv e (List.mem_cons_self)) hg.1
    have h2 := ih (undoBal_ok hf e) (fun x hx => hin x (List.mem_cons_of_mem _ hx))
      (fun x hx => hv x (List.mem_cons_of_mem _ hx)) hg.2
    omega

/-- invariant of the balance machine: `B` is the balance function that undoing the whole journal
restores (the state of the world when the journal was empty) -/
structure BInv (L : List Addr) (B : Addr → Nat) (b : BState) : Prop where
  ok : FOk b.f
  ein : EntriesIn L b.j
  vok : ValsOk b.j
  good : Good b.f b.j
  base : undoAll b.f b.j = B

/-- the conservation law in ledger form -/
theorem BInv.ledger {L B b} (hn : L.Nodup) (h : BInv L B b) : sumOver L b.f + burntJ b.j = sumOver L B := by
  have := good_ledger hn h.ok h.ein h.vok h.good
  rw [h.base] at this; omega

theorem BInv.push {L B b} (h : BInv L B b) {f' : Addr → Nat} {e : Entry} (hok : FOk f')
    (hin : ∀ a ∈ entryAddrs e, a ∈ L) (hv : ValOk e) (hnw : NoWrap f' e) (hrt : undoBal f' e = b.f) :
    BInv L B { f := f', j := e :: b.j } where
  ok := hok
  ein := fun x hx => by
    cases hx with
    | head => exact hin
    | tail _ hx => exact h.ein x hx
  vok := fun x hx => by
    cases hx with
    | head => exact hv
    | tail _ hx => exact h.vok x hx
  good := ⟨hnw, by rw [hrt]; exact h.good⟩
  base := by simp only [undoAll]; rw [hrt]; exact h.base

theorem BInv.revert {L B b} (h : BInv L B b) (n : Nat) : BInv L B (bRevert b n) where
  ok := undoAll_ok h.ok _
  ein := fun x hx => h.ein x (List.mem_of_mem_drop hx)
  vok := fun x hx => h.vok x (List.mem_of_mem_drop hx)
  good := by
    have := h.good
    rw [← List.take_append_drop n b.j, good_append] at this
    exact this.2
  base := by
    have := h.base
    rw [← List.take_append_drop n b.j, undoAll_append] at this
    exact this


theorem binv_fresh' {L : List Addr} {f : Addr → Nat} (hf : FOk f) : BInv L f ⟨f, []⟩ where
  ok := hf
  ein := fun e he => by cases he
  vok := fun e he => by cases he
  good := trivial
  base := rfl

/-! ## the operations of the balance machine: each keeps the invariant; what each does to the sum -/

theorem BInv.moved {L B b} (h : BInv L B b) {f' : Addr → Nat} {x y : Addr} {v : Nat} (m : Moved b.f f' x y v)
    (hx : x ∈ L) (hy : y ∈ L) (hv : v < W) (hfit : x ≠ y → b.f y + v < W) :
    BInv L B { f := f', j := .balanceTransfer x y v :: b.j } := by
  obtain ⟨hok, hnw, hu⟩ := m.undo h.ok hv hfit
  refine h.push hok ?_ hv hnw hu
  intro z hz; simp [entryAddrs] at hz; rcases hz with rfl | rfl <;> assumption

theorem bSelfdestruct_other {L B b} (h : BInv L B b) {a t : Addr} (created cancun prev : Bool)
    (ha : a ∈ L) (ht : t ∈ L) (hat : a ≠ t) (hno : b.f t + b.f a < W) :
    BInv L B (bSelfdestruct b a t created cancun prev) := by
  have m := moved_sweep hat hno
  have hb1 : (upd b.f t (U256.wadd (b.f t) (b.f a))) a = b.f a := upd_other _ _ hat
  unfold bSelfdestruct
  simp only [ne_eq, hat, not_false_eq_true, if_true, hb1]
  split
  · -- with `a ≠ t` an `AccountDestroyed` entry is undone like the `BalanceTransfer` entry
    obtain ⟨hok, hnw, hu⟩ := m.undo h.ok (h.ok a) (fun _ => by omega)
    refine h.push hok ?_ (h.ok a) ?_ ?_
    · intro z hz; simp [entryAddrs] at hz; rcases hz with rfl | rfl <;> assumption
    · rcases hnw with e | ⟨n1, n2⟩
      · exact absurd e hat
      · exact ⟨n1, fun _ => n2⟩
    · simp only [undoBal, ne_eq, hat, not_false_eq_true, if_true]
      exact hu
  · exact h.moved m ha ht (h.ok a) (fun _ => by omega)

theorem bTransfer_inv {L B b} (h : BInv L B b) {src dst : Addr} (v : Nat) (hs : src ∈ L) (hd : dst ∈ L) :
    BInv L B (bTransfer b src dst v).1 := by
  unfold bTransfer
  split
  · exact h
  · rename_i h1
    simp only []
    split
    · exact h
    · rename_i h2
      have h1' : v ≤ b.f src := by omega
      refine h.moved (moved_transfer h1') hs hd (by have := h.ok src; omega) (fun hsd => ?_)
      rw [upd_other _ _ (fun e => hsd e.symm)] at h2; omega

theorem bTransfer_sum {L : List Addr} (hn : L.Nodup) (b : BState) {src dst : Addr} (v : Nat)
    (hs : src ∈ L) (hd : dst ∈ L) : sumOver L (bTransfer b src dst v).1.f = sumOver L b.f := by
  unfold bTransfer
  split
  · rfl
  · rename_i h1
    simp only []
    split
    · rfl
    · exact (moved_transfer (by omega)).sum hn hs hd

theorem bTransfer_fail {b : BState} {src dst v : Nat} (h : (bTransfer b src dst v).2 ≠ .ok) :
    (bTransfer b src dst v).1 = b := by
  unfold bTransfer at h ⊢
  split
  · rfl
  · simp only [] at h ⊢
    split
    · rfl
    · rename_i h1 h2; simp [h1, h2] at h

theorem bSelfdestruct_self {L B b} (h : BInv L B b) {a : Addr} (created cancun prev : Bool) (ha : a ∈ L) :
    BInv L B (bSelfdestruct b a a created cancun prev) := by
  have hfa := h.ok a
  unfold bSelfdestruct
  simp only [ne_eq, not_true_eq_false, if_false]
  split
  · refine h.push (upd_ok h.ok _ (by rw [W_val]; decide)) ?_ hfa ⟨by rw [upd_same]; omega, fun hh => absurd rfl hh⟩ ?_
    · intro x hx; simp [entryAddrs] at hx; rcases hx with rfl; assumption
    · simp only [undoBal, ne_eq, not_true_eq_false, if_false]
      apply fun_eq2 a a
      · rw [upd_same, upd_same, wadd_zero_left hfa]
      · rw [upd_same, upd_same, wadd_zero_left hfa]
      · intro x h1 _; rw [upd_other _ _ h1, upd_other _ _ h1]
  · exact h

theorem bSelfdestruct_inv {L B b} (h : BInv L B b) {a t : Addr} (created cancun prev : Bool)
    (ha : a ∈ L) (ht : t ∈ L) (hno : a ≠ t → b.f t + b.f a < W) :
    BInv L B (bSelfdestruct b a t created cancun prev) := by
  by_cases hat : a = t
  · subst hat; exact bSelfdestruct_self h created cancun prev ha
  · exact bSelfdestruct_other h created cancun prev ha ht hat (hno hat)

/-- what `selfdestruct` does to the sum, exactly: the self-naming burn of a real destruction, and
2^256 wei lost when the wrapping `+=` on the target overflows -/
theorem bSelfdestruct_sum {L : List Addr} (hn : L.Nodup) {b : BState} (hok : FOk b.f) {a t : Addr}
    (created cancun prev : Bool) (ha : a ∈ L) (ht : t ∈ L) :
    sumOver L (bSelfdestruct b a t created cancun prev).f
      + (if a = t ∧ (created ∨ !cancun) then b.f a else 0)
      + (if a ≠ t ∧ W ≤ b.f t + b.f a then W else 0) = sumOver L b.f := by
  have hfa := hok a
  have hft := hok t
  by_cases hat : a = t
  · subst hat
    unfold bSelfdestruct
    simp only [ne_eq, not_true_eq_false, if_false, false_and, true_and]
    split
    · have := sumOver_upd b.f 0 hn ha
      simp only []; omega
    · simp
  · have hta : t ≠ a := fun e => hat e.symm
    have e1 := sumOver_upd b.f (U256.wadd (b.f t) (b.f a)) hn ht
    have e2 := sumOver_upd (upd b.f t (U256.wadd (b.f t) (b.f a))) 0 hn ha
    rw [upd_other _ _ hat] at e2
    have hf' : (bSelfdestruct b a t created cancun prev).f = upd (upd b.f t (U256.wadd (b.f t) (b.f a))) a 0 := by
      unfold bSelfdestruct
      simp only [ne_eq, hat, not_false_eq_true, if_true]
      split <;> rfl
    rw [hf']
    simp only [hat, false_and, if_false, ne_eq, not_false_eq_true, true_and]
    by_cases hov : W ≤ b.f t + b.f a
    · rw [wadd_wrap hft hfa hov] at e1 e2 ⊢; simp only [hov, if_true]; omega
    · rw [wadd_eq (by omega)] at e1 e2 ⊢; simp only [hov, if_false]; omega

theorem bCreateOk_inv {L B b} (h : BInv L B b) {caller a : Addr} {v : Nat} (hc : caller ∈ L) (ha : a ∈ L)
    (hnew : b.f a + v < W) (hfund : caller = a ∨ v ≤ b.f caller) : BInv L B (bCreateOk b caller a v) :=
  h.moved (moved_create hfund) hc ha (by omega) (fun _ => hnew)

/-! The entries an operation pushes undo what it did to every balance even where its arithmetic wraps: wrapping `+=`
and `-=` are inverse to each other on words, so the ledger (`Good`) needs the no-wrap hypotheses, the undo does not. -/

/-- a self-destruct naming another account — the whole balance of `a` credited to `t` with a wrapping `+=`, `a` emptied —
followed by the undo of its entry -/
theorem sweep_undo {f : Addr → Nat} (hf : FOk f) {a t : Addr} (hat : ¬ a = t) :
    upd (upd (upd (upd f t (U256.wadd (f t) (f a))) a 0) a
          (U256.wadd ((upd (upd f t (U256.wadd (f t) (f a))) a 0) a) (f a))) t
        (bsub ((upd (upd (upd f t (U256.wadd (f t) (f a))) a 0) a
          (U256.wadd ((upd (upd f t (U256.wadd (f t) (f a))) a 0) a) (f a))) t) (f a)) = f := by
  have hta : t ≠ a := fun e => hat e.symm
  rw [upd_same, wadd_zero_left (hf a), upd_other _ _ hta, upd_other _ _ hta, upd_same, bsub_wadd_cancel (hf t) (hf a)]
  apply fun_eq2 a t
  · rw [upd_other _ _ hat, upd_same]
  · rw [upd_same]
  · intro z h1 h2; rw [upd_other _ _ h2, upd_other _ _ h1, upd_other _ _ h1, upd_other _ _ h2]

theorem bSelfdestruct_undo {f : Addr → Nat} (hf : FOk f) (a t : Addr) (created cancun prev : Bool) :
    undoAll (bSelfdestruct ⟨f, []⟩ a t created cancun prev).f (bSelfdestruct ⟨f, []⟩ a t created cancun prev).j = f := by
  by_cases hat : a = t
  · subst hat; exact (bSelfdestruct_self (L := [a]) (binv_fresh' hf) created cancun prev (by simp)).base
  · unfold bSelfdestruct
    simp only [ne_eq, hat, not_false_eq_true, if_true, upd_other _ _ hat]
    split
    · simp only [undoAll, undoBal, ne_eq, hat, not_false_eq_true, if_true]; exact sweep_undo hf hat
    · simp only [undoAll, undoBal]; exact sweep_undo hf hat

theorem bCreateOk_undo {f : Addr → Nat} (hf : FOk f) {caller a : Addr} {v : Nat} (hnew : f a + v < W) :
    undoAll (bCreateOk ⟨f, []⟩ caller a v).f (bCreateOk ⟨f, []⟩ caller a v).j = f := by
  have hv : v < W := by omega
  have h1 : upd f a (f a + v) caller < W := by
    by_cases h : caller = a
    · subst h; rw [upd_same]; exact hnew
    · rw [upd_other _ _ h]; exact hf caller
  simp only [bCreateOk, undoAll, undoBal, upd_same, wadd_bsub_cancel h1 hv]
  by_cases h : caller = a
  · subst h
    rw [upd_same, upd_same, Journal.bsub_add_cancel]
    exact fun_eq2 caller caller (upd_same _ _ _) (upd_same _ _ _)
      (fun z h1 _ => by rw [upd_other _ _ h1, upd_other _ _ h1, upd_other _ _ h1, upd_other _ _ h1])
  · have hac : a ≠ caller := fun e => h e.symm
    rw [upd_other _ _ hac, upd_other _ _ hac, upd_same, Journal.bsub_add_cancel, upd_other _ _ h]
    apply fun_eq2 caller a
    · rw [upd_other _ _ h, upd_same]
    · rw [upd_same]
    · intro z z1 z2; rw [upd_other _ _ z2, upd_other _ _ z1, upd_other _ _ z1, upd_other _ _ z2]

theorem bCreateOk_sum {L : List Addr} (hn : L.Nodup) (b : BState) {caller a : Addr} {v : Nat}
    (hc : caller ∈ L) (ha : a ∈ L) (hfund : caller = a ∨ v ≤ b.f caller) :
    sumOver L (bCreateOk b caller a v).f = sumOver L b.f :=
  (moved_create hfund).sum hn hc ha

/-- the wrapping subtraction on the caller: an endowment the caller cannot pay mints 2^256 wei.
This is why `make_create_frame` checks the caller's balance first. -/
theorem bCreateOk_unfunded_mints {L : List Addr} (hn : L.Nodup) {b : BState} {caller a : Addr} {v : Nat}
    (hc : caller ∈ L) (ha : a ∈ L) (hca : caller ≠ a) (hv : v < W) (hlt : b.f caller < v) :
    sumOver L (bCreateOk b caller a v).f = sumOver L b.f + W := by
  unfold bCreateOk
  simp only []
  have e1 := sumOver_upd b.f (b.f a + v) hn ha
  have e2 := sumOver_upd (upd b.f a (b.f a + v)) (bsub (upd b.f a (b.f a + v) caller) v) hn hc
  rw [upd_other _ _ hca] at e2 ⊢
  have : bsub (b.f caller) v = W - (v - b.f caller) := by unfold bsub; rw [if_neg (by omega)]
  rw [this] at e2 ⊢
  omega

/-! ## the burn ledger, the accounts an operation does not name, a journal that already holds entries -/

theorem bTransfer_burnt (b : BState) (src dst v : Nat) : burntJ (bTransfer b src dst v).1.j = burntJ b.j := by
  unfold bTransfer
  split
  · rfl
  · simp only []
    split
    · rfl
    · simp [burntJ, burntEntry]

theorem bCreateOk_burnt (b : BState) (caller a v : Nat) : burntJ (bCreateOk b caller a v).j = burntJ b.j := by
  simp [bCreateOk, burntJ, burntEntry]

theorem bSelfdestruct_burnt (b : BState) (a t : Addr) (created cancun prev : Bool) :
    burntJ (bSelfdestruct b a t created cancun prev).j
      = burntJ b.j + (if a = t ∧ (created ∨ !cancun) then b.f a else 0) := by
  unfold bSelfdestruct
  by_cases hat : a = t
  · subst hat
    simp only [ne_eq, not_true_eq_false, if_false, true_and]
    split
    · simp [burntJ, burntEntry]; omega
    · simp
  · simp only [ne_eq, hat, not_false_eq_true, if_true, false_and, if_false]
    split
    · simp [burntJ, burntEntry, hat]
    · simp [burntJ, burntEntry]

theorem bTransfer_others (b : BState) {src dst x : Addr} (v : Nat) (h1 : x ≠ src) (h2 : x ≠ dst) :
    (bTransfer b src dst v).1.f x = b.f x := by
  unfold bTransfer
  split
  · rfl
  · simp only []
    split
    · rfl
    · show upd _ dst _ x = _
      rw [upd_other _ _ h2, upd_other _ _ h1]

theorem bCreateOk_others (b : BState) {caller a x : Addr} (v : Nat) (h1 : x ≠ caller) (h2 : x ≠ a) :
    (bCreateOk b caller a v).f x = b.f x := by
  show upd _ caller _ x = _
  rw [upd_other _ _ h1, upd_other _ _ h2]

theorem bSelfdestruct_others (b : BState) {a t x : Addr} (created cancun prev : Bool) (h1 : x ≠ a) (h2 : x ≠ t) :
    (bSelfdestruct b a t created cancun prev).f x = b.f x := by
  unfold bSelfdestruct
  by_cases hat : a = t
  · subst hat
    simp only [ne_eq, not_true_eq_false, if_false]
    split
    · exact upd_other _ _ h1
    · rfl
  · simp only [ne_eq, hat, not_false_eq_true, if_true]
    split <;> exact (upd_other _ _ h1).trans (upd_other _ _ h2)

theorem bTransfer_suffix (f : Addr → Nat) (j : List Entry) (src dst v : Nat) :
    (bTransfer ⟨f, j⟩ src dst v).1 = ⟨(bTransfer ⟨f, []⟩ src dst v).1.f, (bTransfer ⟨f, []⟩ src dst v).1.j ++ j⟩ := by
  unfold bTransfer
  simp only []
  split
  · rfl
  · split <;> rfl

theorem bSelfdestruct_suffix (f : Addr → Nat) (j : List Entry) (a t : Addr) (c k p : Bool) :
    bSelfdestruct ⟨f, j⟩ a t c k p = ⟨(bSelfdestruct ⟨f, []⟩ a t c k p).f, (bSelfdestruct ⟨f, []⟩ a t c k p).j ++ j⟩ := by
  unfold bSelfdestruct
  simp only []
  split
  · rfl
  · split <;> rfl

theorem bCreateOk_suffix (f : Addr → Nat) (j : List Entry) (caller a v : Nat) :
    bCreateOk ⟨f, j⟩ caller a v = ⟨(bCreateOk ⟨f, []⟩ caller a v).f, (bCreateOk ⟨f, []⟩ caller a v).j ++ j⟩ := rfl

end Revm.Proofs.Ether
