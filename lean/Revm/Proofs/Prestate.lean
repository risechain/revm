import Revm.Proofs.StateDb
import Revm.Spec.Prestate
/-! C19: a well-formed bundle account, read through `From<BundleAccount> for CacheAccount`, is `CacheRel`-related to
the merged database's entry. `bundle_rel` and `merged_code` are stated in the shape of the hypotheses `hA`, `hC` of
`StateDb.inv_init_pre` (the fields `Inv.preA`, `Inv.preC`). -/
namespace Revm.Proofs.Prestate
open Revm Revm.Model.StateDb Revm.Spec.StateDb Revm.Spec.Prestate Revm.Proofs.StateDb


theorem merged_code {D : Db} {B BC} {known : Bool} (hw : BundleWf D B BC known) (h : Nat) :
    (merged D B BC known).code h = match BC h with | some c => c | none => D.code h := by
  unfold merged
  simp only
  cases hb : BC h with
  | none => rfl
  | some c =>
    simp only
    by_cases hk : h = KECCAK_EMPTY
    · simp only [hk, if_true]; rw [← hk]; exact hw.2 h c hb hk
    · simp only [hk, if_false]

theorem merged_outside {D : Db} {B BC} {known : Bool} (a : Addr) (hB : B a = none) :
    refOfDb (merged D B BC known) a = refOfDb D a := by
  unfold refOfDb merged
  simp only [hB]

theorem infoEq_sim {T : Nat → Code} {i j : Info} (h : infoEq i j = true)
    (hc : resolveCode T i = resolveCode T j) : Sim T i j := by
  unfold infoEq at h
  simp only [Bool.and_eq_true, beq_iff_eq] at h
  exact ⟨h.1.1, h.1.2, h.2, hc⟩

theorem bundle_rel {D : Db} {B BC} {known : Bool} (hw : BundleWf D B BC known)
    (hz : InMemoryStorageZero D B) (a : Addr) :
    match (B a).map BundleAccount.toCache with
    | some c => CacheRel D (merged D B BC known).code a c (refOfDb (merged D B BC known) a)
    | none => refOfDb (merged D B BC known) a = refOfDb D a := by
  cases hB : B a with
  | none => simp only [Option.map]; exact merged_outside a hB
  | some b =>
    simp only [Option.map]
    obtain ⟨horig, hrest⟩ := hw.1 a b hB
    have hbasic : (merged D B BC known).basic a =
        if !known || !infoOptEq b.info b.originalInfo then b.info.map withoutCode else D.basic a := by
      simp only [merged, hB]
    have hstor : ∀ k, (merged D B BC known).storage a k =
        (match b.storage k with
          | none => if b.status.wasDestroyed then 0 else D.storage a k
          | some op =>
            if !known || (b.status.wasDestroyed && op.2 != 0) || (!b.status.wasDestroyed && op.1 != op.2)
            then op.2 else (if b.status.wasDestroyed then 0 else D.storage a k)) := by
      intro k; simp only [merged, hB]; cases b.storage k <;> rfl
    generalize merged D B BC known = E at *
    -- whether the changeset writes the info or not, the merged entry looks like the bundle's info
    have hlook : infoOptEq b.info (E.basic a) = true := by
      rw [hbasic]
      by_cases hc : (!known || !infoOptEq b.info b.originalInfo) = true
      · rw [if_pos hc]; cases b.info <;> simp [infoOptEq, infoEq, withoutCode]
      · rw [if_neg hc]
        simp only [Bool.or_eq_true, Bool.not_eq_true', not_or, Bool.not_eq_false] at hc
        exact horig hc.1 hc.2
    unfold BundleAccount.toCache CacheRel
    cases hi : b.info with
    | none =>
      rw [hi] at hrest hlook
      simp only [Option.map] at hrest ⊢
      refine ⟨by rcases hrest with h | h | h <;> simp [h], ?_⟩
      unfold refOfDb
      cases hd : E.basic a with
      | none => rfl
      | some j => rw [hd] at hlook; cases hlook
    | some i =>
      rw [hi] at hrest hlook
      simp only [Option.map] at hrest ⊢
      obtain ⟨hwf, hst, hch, hcode, hslots⟩ := hrest
      cases hj1 : E.basic a with
      | none => rw [hj1] at hlook; cases hlook
      | some j =>
      rw [hj1] at hlook
      refine ⟨j, E.storage a, by simp [refOfDb, hj1], infoEq_sim hlook (hcode j hj1), hwf, ?_, ?_⟩
      · intro k
        rw [hstor k]
        simp only [readSlot]
        cases hk : b.storage k with
        | none =>
          -- an unlisted slot: zero if the account was destroyed, else the database's value, which
          -- for `InMemoryChange` (read as "storage known") must be zero
          rcases hst with h | h | h <;> rw [h] <;>
            simp only [Status.wasDestroyed, Status.isStorageKnown, if_true, Bool.false_eq_true, if_false]
          exact hz a b hB h k hk
        | some op =>
          -- a listed slot reads its present value; the changeset skips it only when that is what
          -- the database (or the wipe) already gives
          dsimp only
          by_cases hc : (!known || (b.status.wasDestroyed && op.2 != 0) ||
              (!b.status.wasDestroyed && op.1 != op.2)) = true
          · rw [if_pos hc]
          · rw [if_neg hc]
            cases hd : b.status.wasDestroyed with
            | true =>
              have : known = true ∧ op.2 = 0 := by simpa [hd] using hc
              simp only [if_true]
              exact this.2.symm
            | false =>
              have := hslots hd k
              rw [hk] at this
              simp only [hd, Bool.or_eq_true, Bool.not_eq_true', not_or, Bool.not_eq_false, bne_iff_ne,
                ne_eq, Decidable.not_not, Bool.false_and, Bool.not_false, Bool.true_and] at hc
              simp only [Bool.false_eq_true, if_false]
              exact this hc.1.1 hc.2
      · rcases hst with h | h | h <;> rw [h] <;> simp only [StatusOk]
        exact hch h

end Revm.Proofs.Prestate
