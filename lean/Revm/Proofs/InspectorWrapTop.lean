import Revm.Proofs.InspectorWrapLoop
/-! C28 for the whole `Machine.exec` (first frame, loop, `last_frame_return`): `exec_eq`, stated with `dropW`. Then when
`Respects m rel` holds: for every machine at equality (`respects_eq`), and at `errGas` for machines whose consumers of an
outcome are the mainnet ones, which never read the gas of an error-class result (`respects_of`, the `*_blind` lemmas). -/
namespace Revm.Proofs.InspectorWrap
open Revm Revm.Model.InspectorWrap


variable {T : Ty} {S : Type}

theorem inv_nil (w : WState T S) : Inv ([] : List (Frame T)) w := fun _ => Nat.zero_le _

/-- what `sim_firstFrame` hands to `sim_loop` / `wrap_lastFrameReturn`: the same answer and context, and the inputs of the
first frame on their stack -/
def FirstPost (a : (Frame T ⊕ FrameResult) × T.E) (b : (Frame T ⊕ FrameResult) × (T.E × WState T S)) : Prop :=
  b.1 = a.1 ∧ b.2.1 = a.2 ∧
    (match a.1 with
     | .inl f => Inv [f] b.2.2
     | .inr r => 1 ≤ wlen (kindOf r) b.2.2)

theorem sim_firstFrame {rel : ORel} {obs : Observer T S} (h : Observing obs rel) (ops : EnvOps T)
    (m : Machine T T.E) (inp : FirstInput T) (c : T.E × WState T S) :
    RSim FirstPost (m.firstFrame inp c.1) ((wrap ops obs m).firstFrame inp c) := by
  cases inp with
  | call i =>
    obtain ⟨s', hs⟩ := wrap_call h ops m c i
    show RSim FirstPost ((m.call c.1 i).bind _) (((wrap ops obs m).call c i).bind _)
    rw [hs]
    have hp : InvPlus .call ([] : List (Frame T)) (withObs (pushCall c.2 i) s') :=
      invPlus_of_push (inv_nil c.2) fun k => by cases k <;> rfl
    exact sim_answer _ _ (fun _ _ _ => .ok ⟨rfl, rfl, inv_cons.2 hp⟩)
      fun _ _ => .ok ⟨rfl, rfl, one_le_of_invPlus_nil hp⟩
  | create i =>
    obtain ⟨s', hs⟩ := wrap_create h ops m c i
    show RSim FirstPost ((m.create c.1 i).bind _) (((wrap ops obs m).create c i).bind _)
    rw [hs]
    have hp : InvPlus .create ([] : List (Frame T)) (withObs (pushCreate c.2 i) s') :=
      invPlus_of_push (inv_nil c.2) fun k => by cases k <;> rfl
    exact sim_answer _ _ (fun _ _ _ => .ok ⟨rfl, rfl, inv_cons.2 hp⟩)
      fun _ _ => .ok ⟨rfl, rfl, one_le_of_invPlus_nil hp⟩
  | eofcreate i =>
    obtain ⟨s', hs⟩ := wrap_eofcreate h ops m c i
    show RSim FirstPost ((m.eofcreate c.1 i).bind _) (((wrap ops obs m).eofcreate c i).bind _)
    rw [hs]
    have hp : InvPlus .eofcreate ([] : List (Frame T)) (withObs (pushEof c.2 i) s') :=
      invPlus_of_push (inv_nil c.2) fun k => by cases k <;> rfl
    exact sim_answer _ _ (fun _ _ _ => .ok ⟨rfl, rfl, inv_cons.2 hp⟩)
      fun _ _ => .ok ⟨rfl, rfl, one_le_of_invPlus_nil hp⟩

/-- forget the wrapper state (inspector and input stacks) of a result -/
def dropW : Option (Res T.Err (FrameResult × (T.E × WState T S))) → Option (Res T.Err (FrameResult × T.E)) :=
  Option.map (Res.map (fun x => (x.1, x.2.1)))

theorem dropW_of_rsim {x : Res T.Err (FrameResult × T.E)} {y : Res T.Err (FrameResult × (T.E × WState T S))}
    (hxy : RSim (fun a b => b.1 = a.1 ∧ b.2.1 = a.2) x y) : dropW (some y) = some x := by
  cases hxy with
  | @ok a b hp =>
    obtain ⟨a1, a2⟩ := a; obtain ⟨b1, b2, b3⟩ := b
    simp only at hp
    obtain ⟨h1, h2⟩ := hp; subst h1; subst h2; rfl
  | err => rfl
  | panic => rfl

theorem dropW_of_osim {x : Option (Res T.Err (FrameResult × T.E))}
    {y : Option (Res T.Err (FrameResult × (T.E × WState T S)))}
    (hxy : OSim (fun a b => b.1 = a.1 ∧ b.2.1 = a.2) x y) : dropW y = x := by
  cases x <;> cases y
  · rfl
  · exact hxy.elim
  · exact hxy.elim
  · exact dropW_of_rsim hxy

/-- same `FrameResult`, same context, same error, no additional panic, out of fuel at the same fuel -/
theorem exec_eq {rel : ORel} {obs : Observer T S} (h : Observing obs rel) (ops : EnvOps T)
    (m : Machine T T.E) (hr : Respects m rel) (fuel : Nat) (inp : FirstInput T) (c : T.E × WState T S) :
    dropW ((wrap ops obs m).exec fuel inp c) = m.exec fuel inp c.1 := by
  rw [exec_bind, exec_bind]
  refine dropW_of_osim (RSim.andThen (sim_firstFrame h ops m inp c) fun a b hab => ?_)
  obtain ⟨a1, e1⟩ := a; obtain ⟨b1, c1⟩ := b
  obtain ⟨rfl, rfl, h3⟩ := hab
  cases b1 with
  | inr r => exact wrap_lastFrameReturn h ops m hr c1 r h3
  | inl f =>
    refine (sim_loop h ops m hr fuel [f] (m.newContext m.newMem) c1 h3).bind fun a b hab => ?_
    obtain ⟨r, e2⟩ := a; obtain ⟨r', c2⟩ := b
    obtain ⟨rfl, rfl, g3⟩ := hab
    exact wrap_lastFrameReturn h ops m hr c2 r' g3

theorem gasEndResult_errGasEq (s : GasInsp) (r : InterpreterResult) : errGasEq r (gasEndResult s r).2 := by
  unfold gasEndResult
  by_cases he : r.result.isError = true
  · simp only [he, if_true]; exact ⟨rfl, rfl, fun hf => by rw [he] at hf; cases hf⟩
  · simp only [he]; exact ⟨rfl, rfl, fun _ => rfl⟩

theorem ir_classes (r : IR) :
    (r.isOk = true ∧ r.isRevert = false ∧ r.isError = false) ∨
    (r.isOk = false ∧ r.isRevert = true ∧ r.isError = false) ∨
    (r.isOk = false ∧ r.isRevert = false ∧ r.isError = true) ∨
    (r = .CallOrCreate ∧ r.isOk = false ∧ r.isRevert = false ∧ r.isError = false) := by
  cases r <;> decide

theorem isError_not_ok_revert (r : IR) (h : r.isError = true) : r.isOk = false ∧ r.isRevert = false ∧ r ≠ .ReturnContract := by
  rcases ir_classes r with ⟨_, _, h'⟩ | ⟨_, _, h'⟩ | ⟨h1, h2, _⟩ | ⟨_, _, _, h'⟩
  · rw [h] at h'; cases h'
  · rw [h] at h'; cases h'
  · exact ⟨h1, h2, fun e => by rw [e] at h1; cases h1⟩
  · rw [h] at h'; cases h'

theorem errGasEq_cases {r r' : InterpreterResult} (h : errGasEq r r') :
    r' = r ∨ (r.result.isError = true ∧ r' = { r with gas := r'.gas }) := by
  obtain ⟨h1, h2, h3⟩ := h
  obtain ⟨res, out, g⟩ := r; obtain ⟨res', out', g'⟩ := r'
  simp only at h1 h2 h3; subst h1 h2
  by_cases he : res'.isError = true
  · exact .inr ⟨he, rfl⟩
  · left; rw [h3 (by simpa using he)]

theorem errGas_call {o o' : CallOutcome} (h : ORel.errGas.call o o') :
    o' = o ∨ (o.result.result.isError = true ∧ o' = { o with result := { o.result with gas := o'.result.gas } }) := by
  obtain ⟨hm, hg⟩ := h
  obtain ⟨r, mo⟩ := o; obtain ⟨r', mo'⟩ := o'
  simp only at hm hg; subst hm
  rcases errGasEq_cases hg with rfl | ⟨he, h2⟩
  · exact .inl rfl
  · exact .inr ⟨he, congrArg (CallOutcome.mk · mo') h2⟩

theorem errGas_create {o o' : CreateOutcome} (h : ORel.errGas.create o o') :
    o' = o ∨ (o.result.result.isError = true ∧ o' = { o with result := { o.result with gas := o'.result.gas } }) := by
  obtain ⟨hm, hg⟩ := h
  obtain ⟨r, ad⟩ := o; obtain ⟨r', ad'⟩ := o'
  simp only at hm hg; subst hm
  rcases errGasEq_cases hg with rfl | ⟨he, h2⟩
  · exact .inl rfl
  · exact .inr ⟨he, congrArg (CreateOutcome.mk · ad') h2⟩

theorem insertCallOutcome_blind {T : Ty} (io : InterpOps T) (st : IState T) (sh : T.Mem) (o o' : CallOutcome)
    (h : ORel.errGas.call o o') : insertCallOutcome io st sh o' = insertCallOutcome io st sh o := by
  rcases errGas_call h with rfl | ⟨he, h2⟩
  · rfl
  · obtain ⟨hok, hrev, _⟩ := isError_not_ok_revert _ he
    rw [h2]; unfold insertCallOutcome targetLen
    simp only [hok, hrev, if_false, Bool.false_eq_true]

theorem insertCreateOutcome_blind {T : Ty} (io : InterpOps T) (st : IState T) (o o' : CreateOutcome)
    (h : ORel.errGas.create o o') : insertCreateOutcome io st o' = insertCreateOutcome io st o := by
  rcases errGas_create h with rfl | ⟨he, h2⟩
  · rfl
  · obtain ⟨hok, hrev, _⟩ := isError_not_ok_revert _ he
    rw [h2]; unfold insertCreateOutcome
    simp only [hok, hrev, if_false, Bool.false_eq_true]

theorem insertEofcreateOutcome_blind {T : Ty} (io : InterpOps T) (st : IState T) (o o' : CreateOutcome)
    (h : ORel.errGas.create o o') : insertEofcreateOutcome io st o' = insertEofcreateOutcome io st o := by
  rcases errGas_create h with rfl | ⟨he, h2⟩
  · rfl
  · obtain ⟨_, hrev, hrc⟩ := isError_not_ok_revert _ he
    rw [h2]; unfold insertEofcreateOutcome
    simp only [hrev, hrc, if_false, Bool.false_eq_true]

theorem setGas_result (fr : FrameResult) (g : Gas) :
    (fr.setGas g).interpreterResult.result = fr.interpreterResult.result := by cases fr <;> rfl

theorem setGas_setGas (fr : FrameResult) (g g' : Gas) : (fr.setGas g).setGas g' = fr.setGas g' := by cases fr <;> rfl

/-- a consumer of the last frame's result that ignores the gas of an error-class result cannot tell `errGas`-related
results apart, whatever their kind -/
theorem blind_of_setGas {α : Type} (F : FrameResult → α)
    (hF : ∀ fr g, fr.interpreterResult.result.isError = true → F (fr.setGas g) = F fr) :
    (∀ o o', ORel.errGas.call o o' → F (.call o') = F (.call o)) ∧
    (∀ o o', ORel.errGas.create o o' → F (.create o') = F (.create o)) ∧
    (∀ o o', ORel.errGas.create o o' → F (.eofcreate o') = F (.eofcreate o)) := by
  refine ⟨fun o o' h => ?_, fun o o' h => ?_, fun o o' h => ?_⟩
  · rcases errGas_call h with rfl | ⟨he, h2⟩
    · rfl
    · rw [h2]; exact hF (.call o) _ he
  · rcases errGas_create h with rfl | ⟨he, h2⟩
    · rfl
    · rw [h2]; exact hF (.create o) _ he
  · rcases errGas_create h with rfl | ⟨he, h2⟩
    · rfl
    · rw [h2]; exact hF (.eofcreate o) _ he

/-- an error-class result gets `Gas::new_spent(gas_limit)` whatever gas it carried -/
theorem lastFrameReturn_setGas (lim : Nat) (fr : FrameResult) (g : Gas)
    (he : fr.interpreterResult.result.isError = true) : lastFrameReturn lim (fr.setGas g) = lastFrameReturn lim fr := by
  obtain ⟨hok, hrev, _⟩ := isError_not_ok_revert _ he
  unfold lastFrameReturn
  simp only [setGas_result, hok, hrev, if_false, Bool.false_eq_true, setGas_setGas]

theorem lastFrameReturnOp_setGas (lim : Nat) (dep : Bool) (sys : Option Bool) (reg : Bool) (fr : FrameResult) (g : Gas)
    (he : fr.interpreterResult.result.isError = true) :
    lastFrameReturnOp lim dep sys reg (fr.setGas g) = lastFrameReturnOp lim dep sys reg fr := by
  obtain ⟨hok, hrev, _⟩ := isError_not_ok_revert _ he
  unfold lastFrameReturnOp
  simp only [setGas_result, hok, hrev, if_false, Bool.false_eq_true, setGas_setGas]

theorem respects_eq {T : Ty} (m : Machine T T.E) : Respects m ORel.eq where
  insertCall _ _ _ _ _ h := by cases h; rfl
  insertCreate _ _ _ _ h := by cases h; rfl
  insertEofcreate _ _ _ _ h := by cases h; rfl
  lastCall _ _ _ h := by cases h; rfl
  lastCreate _ _ _ h := by cases h; rfl
  lastEofcreate _ _ _ h := by cases h; rfl

/-- a machine respects `errGas` if its three `insert_*_outcome` consumers do and its `last_frame_return` is a function
`L` of the result that ignores the gas of an error-class result -/
theorem respects_of {T : Ty} {m : Machine T T.E}
    (hIC : ∀ c f sh o o', ORel.errGas.call o o' → m.insertCallOutcome c f sh o' = m.insertCallOutcome c f sh o)
    (hICr : ∀ c f o o', ORel.errGas.create o o' → m.insertCreateOutcome c f o' = m.insertCreateOutcome c f o)
    (hIE : ∀ c f o o', ORel.errGas.create o o' → m.insertEofcreateOutcome c f o' = m.insertEofcreateOutcome c f o)
    (L : T.E → FrameResult → FrameResult) (hlast : ∀ c r, m.lastFrameReturn c r = .ok (L c r, c))
    (hL : ∀ c fr g, fr.interpreterResult.result.isError = true → L c (fr.setGas g) = L c fr) :
    Respects m ORel.errGas where
  insertCall := hIC
  insertCreate := hICr
  insertEofcreate := hIE
  lastCall c o o' h := (blind_of_setGas (m.lastFrameReturn c) fun fr g he => by rw [hlast, hlast, hL c fr g he]).1 o o' h
  lastCreate c o o' h := (blind_of_setGas (m.lastFrameReturn c) fun fr g he => by rw [hlast, hlast, hL c fr g he]).2.1 o o' h
  lastEofcreate c o o' h :=
    (blind_of_setGas (m.lastFrameReturn c) fun fr g he => by rw [hlast, hlast, hL c fr g he]).2.2 o o' h

/-- the same for a machine whose `insert_*_outcome` consumers are the mainnet handlers -/
theorem respects_of_mainnetInserts {T : Ty} {io : InterpOps T} {m : Machine T T.E}
    (hIC : ∀ c f sh o, m.insertCallOutcome c f sh o = mainnetInsertCall io m.takeError c f sh o)
    (hICr : ∀ c f o, m.insertCreateOutcome c f o = mainnetInsertCreate io m.takeError c f o)
    (hIE : ∀ c f o, m.insertEofcreateOutcome c f o = mainnetInsertEofcreate io m.takeError c f o)
    (L : T.E → FrameResult → FrameResult) (hlast : ∀ c r, m.lastFrameReturn c r = .ok (L c r, c))
    (hL : ∀ c fr g, fr.interpreterResult.result.isError = true → L c (fr.setGas g) = L c fr) :
    Respects m ORel.errGas :=
  respects_of
    (fun c f sh o o' h => by
      rw [hIC, hIC]; unfold mainnetInsertCall; rw [insertCallOutcome_blind io f.interp _ o o' h])
    (fun c f o o' h => by
      rw [hICr, hICr]; unfold mainnetInsertCreate; rw [insertCreateOutcome_blind io f.interp o o' h])
    (fun c f o o' h => by
      rw [hIE, hIE]; unfold mainnetInsertEofcreate; rw [insertEofcreateOutcome_blind io f.interp o o' h])
    L hlast hL

end Revm.Proofs.InspectorWrap
