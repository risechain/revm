import Revm.Model.Interp
import Revm.Proofs.Memory
import Revm.Proofs.MemTouch
/-! Memory lemmas for C25: every `SharedMemory` access the interpreter makes after a successful
`resize_memory!` is inside the running context, and `resize_memory!` itself cannot reach the `Vec` capacity
panic while the gas meter and the memory cost together stay below `u64::MAX`. -/
namespace Revm.Proofs.Interp
open Revm Revm.Model Revm.Model.Memory
open Revm.Proofs.Memory (WF ctx WF_le ctx_length len_eq)

/-- length of the running context -/
def clen (m : SharedMemory) : Nat := m.buffer.length - m.lastCheckpoint

/-- same checkpoints, same buffer length: everything the representation invariant and the gas formulas see -/
def Shape (m m' : SharedMemory) : Prop :=
  m'.lastCheckpoint = m.lastCheckpoint ∧ m'.checkpoints = m.checkpoints ∧ m'.buffer.length = m.buffer.length

theorem Shape.refl (m : SharedMemory) : Shape m m := ⟨rfl, rfl, rfl⟩

theorem WF_shape {m m' : SharedMemory} (h : WF m) (hs : Shape m m') : WF m' := by
  obtain ⟨h1, h2, h3⟩ := h
  obtain ⟨s1, s2, s3⟩ := hs
  refine ⟨?_, ?_, ?_⟩
  · rw [s2, s3]; exact h1
  · rw [s1, s2]; exact h2
  · rw [s3]; exact h3

theorem clen_shape {m m' : SharedMemory} (hs : Shape m m') : clen m' = clen m := by
  unfold clen; rw [hs.1, hs.2.2]

theorem len_shape {m m' : SharedMemory} (hs : Shape m m') : len m' = len m := by
  unfold len; rw [hs.1, hs.2.2]

theorem cost_shape {m m' : SharedMemory} (hs : Shape m m') :
    currentExpansionCost m' = currentExpansionCost m := by
  unfold currentExpansionCost; rw [len_shape hs]

theorem ctx_clen (m : SharedMemory) : (ctx m).length = clen m := ctx_length

theorem len_clen {m : SharedMemory} (h : WF m) : len m = clen m := by
  rw [len_eq h, ctx_clen]

theorem clen_lt {m : SharedMemory} (h : WF m) : clen m ≤ ISIZE_MAX := by
  have := h.2.2; unfold clen; omega

theorem shape_replaceCtx {m : SharedMemory} (h : WF m) {x : List Nat} (hx : x.length = (ctx m).length) :
    Shape m (Proofs.Memory.replaceCtx m x) := by
  refine ⟨rfl, rfl, ?_⟩
  have := WF_le h
  rw [Proofs.Memory.replaceCtx_length h, hx, ctx_length]; omega

theorem writeSlice_ok' {m : SharedMemory} {off : Nat} {val : List Nat} (h : WF m)
    (hin : off + val.length ≤ clen m) :
    ∃ m', writeSlice m off val = .ok m' ∧ Shape m m' := by
  rw [← ctx_clen] at hin
  exact ⟨_, Proofs.Memory.writeSlice_ok h hin, shape_replaceCtx h (Proofs.Memory.writeAt_length _ _ _ hin)⟩

theorem set_ok {m : SharedMemory} {off : Nat} {val : List Nat} (h : WF m)
    (hin : val = [] ∨ off + val.length ≤ clen m) :
    ∃ m', Memory.set m off val = .ok m' ∧ Shape m m' := by
  by_cases hv : val = []
  · rw [hv]; exact ⟨m, rfl, Shape.refl m⟩
  · rw [Proofs.Memory.set_nonempty m off hv]
    exact writeSlice_ok' h (hin.resolve_left hv)

theorem setU256_ok {m : SharedMemory} {off v : Nat} (h : WF m) (hin : off + 32 ≤ clen m) :
    ∃ m', setU256 m off v = .ok m' ∧ Shape m m' :=
  set_ok h (Or.inr (by rw [Proofs.Memory.natToBe_length]; exact hin))

theorem setByte_ok {m : SharedMemory} {off b : Nat} (h : WF m) (hin : off + 1 ≤ clen m) :
    ∃ m', setByte m off b = .ok m' ∧ Shape m m' :=
  set_ok h (Or.inr hin)

/-- inside the context `data_offset + len` cannot wrap: both are below 2^63 (`data` is a Rust slice,
`len ≤ clen m ≤ isize::MAX`) -/
theorem setData_ok {m : SharedMemory} {moff dOff len : Nat} {data : List Nat} (h : WF m)
    (hdl : data.length ≤ ISIZE_MAX) (hin : moff + len ≤ clen m) :
    ∃ m', setData m moff dOff len data = .ok m' ∧ Shape m m' := by
  have hcl := clen_lt h
  have hU := U64_val
  unfold ISIZE_MAX at hcl hdl
  rw [Proofs.Memory.setData_eq h (by omega) (by omega) (fun _ => by omega)]
  exact writeSlice_ok' h (by rw [Proofs.Memory.paddedSlice_length]; exact hin)

theorem copy_ok {m : SharedMemory} {dst src len : Nat} (h : WF m)
    (h1 : src + len ≤ clen m) (h2 : dst + len ≤ clen m) :
    ∃ m', copy m dst src len = .ok m' ∧ Shape m m' := by
  have hlt := Proofs.Memory.ctx_length_lt h
  rw [← ctx_clen] at h1 h2
  rw [Proofs.Memory.copy_eq h (by omega) (by omega), if_pos ⟨h1, h2⟩]
  refine ⟨_, rfl, shape_replaceCtx h (Proofs.Memory.writeAt_length _ _ _ ?_)⟩
  rw [Proofs.Memory.readAt_length _ _ _ h1]; exact h2

theorem sliceRange_ok {m : SharedMemory} {start stop : Nat} (h : WF m)
    (h1 : start ≤ stop) (h2 : stop ≤ clen m) :
    ∃ bs, sliceRange m start stop = .ok bs ∧ bs.length = stop - start := by
  have hle := WF_le h
  unfold clen at h2
  refine ⟨readAt m.buffer (m.lastCheckpoint + start) (stop - start), ?_,
    Proofs.Memory.readAt_length _ _ _ (by omega)⟩
  unfold sliceRange
  rw [if_pos hle, if_pos ⟨h1, h2⟩]

theorem slice_ok {m : SharedMemory} {off size : Nat} (h : WF m) (hin : off + size ≤ clen m) :
    ∃ bs, slice m off size = .ok bs ∧ bs.length = size := by
  have hlt := Proofs.Memory.ctx_length_lt h
  rw [← ctx_clen] at hin
  rw [Proofs.Memory.slice_eq h (by omega) (by omega), if_pos hin]
  exact ⟨_, rfl, Proofs.Memory.readAt_length _ _ _ hin⟩

theorem getU256_ok {m : SharedMemory} {off : Nat} (h : WF m) (hin : off + 32 ≤ clen m) :
    ∃ v, getU256 m off = .ok v := by
  obtain ⟨bs, hb, _⟩ := slice_ok (size := 32) h hin
  unfold getU256 getWord
  rw [hb]; exact ⟨_, rfl⟩

open Revm.Spec.EvmRules2 (touch touchCost) in
open Revm.Spec.GasCalc (ceil32 memCost) in
open Revm.Proofs.EvmStep2 in
/-- `resize_memory!(interp, off, len)` while `remaining + C_mem < u64::MAX`: `MemoryOOG` with nothing changed, or the
context covers `off + len` and `remaining + C_mem` is preserved exactly (the charge is the difference of the two
costs); never the `Vec` capacity panic -/
theorem resizeMacro_spec {m : SharedMemory} {rem off len_ : Nat} (h : WF m)
    (hck : m.lastCheckpoint ≤ 2^62)
    (hm : rem + currentExpansionCost m < U64 - 1) :
    resizeMemoryMacro m rem off len_ = .ok (false, m, rem) ∨
    ∃ m' rem', resizeMemoryMacro m rem off len_ = .ok (true, m', rem') ∧ WF m'
      ∧ m'.lastCheckpoint = m.lastCheckpoint ∧ m'.checkpoints = m.checkpoints
      ∧ off + len_ ≤ clen m' ∧ clen m ≤ clen m'
      ∧ rem' + currentExpansionCost m' = rem + currentExpansionCost m := by
  have hU := U64_val
  have hcur := cost_eq h
  have hlt : memCost (ceil32 (ctx m).length) < U64 - 1 := by rw [hcur] at hm; omega
  rw [Nat.min_eq_left (Nat.le_of_lt hlt)] at hcur
  rw [resizeMacro_exact h hck (by rw [← hcur]; exact hm)]
  by_cases hc : rem < touchCost (ctx m) off len_
  · rw [if_pos hc]; exact .inl rfl
  · rw [if_neg hc]
    have hb := touch_budget (ctx m) off len_ rem hc
    have hlen := len_of_cost (n := (touch (ctx m) off len_).length) (by omega)
    have hwf' := Proofs.Memory.replaceCtx_wf h (touch (ctx m) off len_) (by unfold ISIZE_MAX; omega)
    refine .inr ⟨_, _, rfl, hwf', rfl, rfl, ?_, ?_, ?_⟩
    · rw [← ctx_clen, Proofs.Memory.replaceCtx_ctx h]; exact touch_covers _ _ _
    · rw [← ctx_clen, ← ctx_clen, Proofs.Memory.replaceCtx_ctx h]; exact touch_ge _ _ _
    · rw [cost_eq hwf', Proofs.Memory.replaceCtx_ctx h, Nat.min_eq_left (by omega), hcur]; exact hb

end Revm.Proofs.Interp
