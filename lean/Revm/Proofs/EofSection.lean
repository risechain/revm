import Revm.Proofs.EofJumps
import Revm.Proofs.EofTracker
/-! One code section. What one iteration of the loop of `validate_eof_code` has checked about the instruction it
decoded (`Iter`, read off the inversion `StepOk` of `step`); hence, by one induction over the loop (`loop_induct`), what
holds of every instruction of an accepted section (`SectionValid`, `validateEofCode_valid`): the statement that the
container level and the interpreter (C25) consume. -/
namespace Revm.Proofs.EofValidate
open Revm.Model.Eof Revm.Model.EofValidate Revm.Spec.Eof Revm.Proofs.Eof

theorem Reach.le {code : Array Nat} {a b : Nat} (h : Reach code a b) : a ≤ b := by
  induction h with
  | refl => exact Nat.le_refl _
  | step _ _ ih => omega

theorem Reach.snoc {code : Array Nat} {a b : Nat} (h : Reach code a b) (hb : b < code.size) :
    Reach code a (b + 1 + immLen code b) := by
  induction h with
  | refl i => exact Reach.step hb (Reach.refl _)
  | step h1 _ ih => exact Reach.step h1 (ih hb)

/-- the linear decoding is deterministic: two reachable offsets are ordered by whole instructions -/
theorem Reach.next_le {code : Array Nat} {a i j : Nat} (hi : Reach code a i) (hj : Reach code a j)
    (hlt : i < j) : i + 1 + immLen code i ≤ j := by
  induction hi with
  | refl i =>
    cases hj with
    | refl => omega
    | step _ h2 => exact Reach.le h2
  | step h1 h2 ih =>
    cases hj with
    | refl => have := Reach.le h2; omega
    | step _ h2' => exact ih h2' hlt

theorem Reach.lt_next {code : Array Nat} {a i j : Nat} (hi : Reach code a i) (hj : Reach code a j)
    (hlt : j < i + 1 + immLen code i) : j < i ∨ j = i := by
  rcases Nat.lt_trichotomy j i with h | h | h
  · exact Or.inl h
  · exact Or.inr h
  · have := Reach.next_le hi hj h; omega

/-- the opcode at `j` is terminating according to `OPCODE_INFO_JUMPTABLE` -/
def Term (code : Array Nat) (j : Nat) : Prop :=
  ∃ op inf, code[j]? = some op ∧ opInfo op = some inf ∧ inf.terminating = true

def NoRet (types : Array TypesSection) (code : Array Nat) (j : Nat) : Prop :=
  code[j]? ≠ some RETF ∧
  (code[j]? = some JUMPF → ∀ k tt, u16At code (j + 1) = some k → types[k]? = some tt → tt.isNonReturning = true)

/-- No section runs off its end: an instruction is followed by another unless its opcode is terminating
(`is_after_termination` when the loop ends, else `LastInstructionNotTerminating`); and a section typed non-returning
holds neither RETF nor a JUMPF to a returning section (else `NonReturningSectionIsReturning`). -/
structure SectionFlow (code : Array Nat) (types : Array TypesSection) (thisTypes : TypesSection) : Prop where
  noRunOff : ∀ j, IsInstrStart code j → j + 1 + immLen code j < code.size ∨ Term code j
  discipline : thisTypes.isNonReturning = true → ∀ j, IsInstrStart code j → NoRet types code j

/-- sub-container `code[j + 1]` of the EOFCREATE at `j` (if it is one) is recorded in `tr` as an init container -/
def Created (code : Array Nat) (tr : Tracker) (j : Nat) : Prop :=
  code[j]? = some EOFCREATE → ∃ k, code[j + 1]? = some k ∧ tr.subs[k]? = some (some .ReturnContract)

theorem Created.mono {code : Array Nat} {a b : Tracker} {j : Nat} (h : Sticky a b) (hc : Created code a j) :
    Created code b j :=
  fun hop => let ⟨k, hk, hs⟩ := hc hop; ⟨k, hk, h.subs _ _ hs⟩

/-- one iteration of the loop, from `s` to `s'`, read as a statement about the instruction at `s.i` -/
structure Iter (c : Ctx) (s s' : St) : Prop where
  next : s'.i = s.i + 1 + immLen c.code s.i
  ok : InstrOk c.code c.types.size c.nContainers s.i
  /-- the bytes behind the opcode became immediates, some bytes jump destinations, and neither check failed -/
  marks : ∃ J, Marks s.jumps s'.jumps (fun x => s.i < x ∧ x < s'.i) J
  marked : Marked c.code s'.jumps s.i
  term : s'.afterTerm = true → Term c.code s.i
  ret : s'.isReturning = false → s.isReturning = false ∧ NoRet c.types c.code s.i
  tracker : Tracker.Steps s.tracker s'.tracker
  created : Created c.code s'.tracker s.i

section iteration
variable {c : Ctx} {s s' : St} {op : Nat} {inf : OpInfo} {this0 this : InstrInfo} {j1 : Array InstrInfo} {r : OpRes}
  (st : StepOk c s s' op inf this0 this j1 r)
include st

theorem StepOk.at_op {b : Nat} (hc : c.code[s.i]? = some b) : op = b := Option.some.inj (st.code.symm.trans hc)

theorem StepOk.shape : r.extra = 0 ∨ inf.imm = 1 := by
  by_cases hv : op = RJUMPV
  · subst hv; exact Or.inr (rjumpv_imm st.info)
  · exact Or.inl ((opSpecific_frame r st.spec).extra hv)

/-- the instruction length of the validator is that of the linear decoding -/
theorem StepOk.len : immLen c.code s.i = inf.imm + r.extra ∧ s.i + (inf.imm + r.extra) < c.code.size := by
  unfold immLen
  rw [st.code]; dsimp only; rw [st.info]; dsimp only
  by_cases hv : op = RJUMPV
  · subst hv
    obtain ⟨m, hm, he, hlt, _⟩ := opSpecific_rjumpv _ st.spec
    have := rjumpv_imm st.info
    rw [if_pos rfl, hm]; dsimp only
    generalize 2 * (m + 1) = q at he ⊢
    omega
  · rw [if_neg hv, (opSpecific_frame r st.spec).extra hv]
    exact ⟨rfl, by have := st.immIn; have := lt_of_getElem? st.code; omega⟩

/-- the four writes of one iteration: the entry of this instruction (same flags), the table-sized immediates, the
RJUMPV table, the jump targets. Together: the bytes behind the opcode become immediates, the targets jump destinations -/
theorem StepOk.marks :
    Marks s.jumps s'.jumps (fun x => s.i < x ∧ x < s'.i) (fun x => ∃ t, t ∈ r.targets ∧ x = t.toNat) := by
  obtain ⟨ns, nb, hj2⟩ := st.jumps
  have hA := Marks.set (info' := this) (I := False) (J := False) st.entry (by rw [st.flags.1]; simp)
    (by rw [st.flags.2]; simp) (fun h => h.elim) (fun h => h.elim) (fun h => h.elim)
  refine (((hA.trans (markImmRange_rel _ _ _ _ st.marked)).trans
    (markImmRange_rel _ _ _ _ (opSpecific_frame r st.spec).marked)).trans (processJumps_rel _ _ _ hj2).1).congr
    (fun x => ?_) (fun x => ?_)
  · have := st.shape
    rw [st.next]
    simp only [and_false, false_or, Never, or_false]
    omega
  · simp only [and_false, Never, false_or]

theorem StepOk.tgt {t : Int} (hm : t ∈ r.targets) : Tgt c.code s'.jumps t :=
  let ⟨_, _, hj2⟩ := st.jumps
  let ⟨h0, hlt⟩ := (processJumps_rel _ _ _ hj2).2 t hm
  ⟨h0, hlt, (st.marks.jd _).2 (Or.inr ⟨t, hm, rfl⟩)⟩

theorem StepOk.rjump (hc : c.code[s.i]? = some RJUMP ∨ c.code[s.i]? = some RJUMPI) :
    ∃ v, u16At c.code (s.i + 1) = some v ∧ Tgt c.code s'.jumps ((s.i + 3 : Int) + toI16 v) :=
  let ⟨v, hv, ht⟩ := opSpecific_rjump (hc.imp st.at_op st.at_op) _ st.spec
  ⟨v, hv, st.tgt ht⟩

theorem StepOk.rjumpv (hc : c.code[s.i]? = some RJUMPV) : ∃ m, c.code[s.i + 1]? = some m ∧ ∀ k, k ≤ m →
    ∃ v, u16At c.code (s.i + 2 + 2 * k) = some v ∧ Tgt c.code s'.jumps ((s.i + 2 + 2 * (m + 1) : Int) + toI16 v) := by
  have := st.at_op hc; subst this
  obtain ⟨m, hm, _, _, hall⟩ := opSpecific_rjumpv _ st.spec
  exact ⟨m, hm, fun k hk => let ⟨v, hv, hmem⟩ := hall k hk; ⟨v, hv, st.tgt hmem⟩⟩

theorem StepOk.ok : InstrOk c.code c.types.size c.nContainers s.i := by
  have hr := st.spec
  refine ⟨⟨op, inf, st.code, st.info, st.eof⟩, by have := st.len; omega, ?_, ?_, ?_, ?_⟩
  · rintro (hc | hc)
    · have := st.at_op hc; subst this; exact opSpecific_callf _ hr
    · have := st.at_op hc; subst this
      obtain ⟨kk, tt, hk, htt, _⟩ := opSpecific_jumpf _ hr
      exact ⟨kk, hk, lt_of_getElem? htt⟩
  · rintro (hc | hc)
    · have := st.at_op hc; subst this
      obtain ⟨kk, hk, hlt, _⟩ := opSpecific_eofcreate _ hr
      exact ⟨kk, hk, hlt⟩
    · have := st.at_op hc; subst this; exact opSpecific_returncontract _ hr
  · exact fun hc => let ⟨v, hv, t⟩ := st.rjump hc; ⟨v, hv, t.1, t.2.1⟩
  · exact fun hc => let ⟨m, hm, hall⟩ := st.rjumpv hc
      ⟨m, hm, fun k hk => let ⟨v, hv, t⟩ := hall k hk; ⟨v, hv, t.1, t.2.1⟩⟩

theorem StepOk.targets_marked : Marked c.code s'.jumps s.i := by
  constructor
  · intro hc v hv
    obtain ⟨v0, hv0, t⟩ := st.rjump hc
    rw [hv0] at hv; cases hv; exact t
  · intro hc m hm k hk v hv
    obtain ⟨m0, hm0, hall⟩ := st.rjumpv hc
    rw [hm0] at hm; cases hm
    obtain ⟨v0, hv0, t⟩ := hall k hk
    rw [hv0] at hv; cases hv; exact t

/-- only RETF and a JUMPF to a returning section set `is_returning` -/
theorem StepOk.ret (hret : s'.isReturning = false) : s.isReturning = false ∧ NoRet c.types c.code s.i := by
  have hr := st.spec
  rw [st.isReturning] at hret
  have hne : ∀ {b : Nat}, op ≠ b → c.code[s.i]? ≠ some b := fun hb e => hb (st.at_op e)
  by_cases h1 : op = RETF
  · subst h1
    rw [opSpecific_retf _ hr] at hret; cases hret
  by_cases h2 : op = JUMPF
  · subst h2
    obtain ⟨k, tt, hk, htt, hor⟩ := opSpecific_jumpf _ hr
    rcases hor with hor | ⟨hn, hor⟩
    · rw [hor] at hret; cases hret
    · refine ⟨by rw [← hor]; exact hret, hne (by decide), fun _ k' tt' hk' htt' => ?_⟩
      have e1 : k = k' := Option.some.inj (hk.symm.trans hk')
      subst e1
      have e2 : tt = tt' := Option.some.inj (htt.symm.trans htt')
      subst e2
      exact hn
  · exact ⟨by rw [← (opSpecific_frame r hr).ret h1 h2]; exact hret, hne h1, fun e => absurd e (hne h2)⟩

theorem StepOk.created : Created c.code s'.tracker s.i := by
  intro hc
  have hr := st.spec
  have := st.at_op hc; subst this
  rw [st.tracker]
  obtain ⟨k, hk, _, hset⟩ := opSpecific_eofcreate _ hr
  exact ⟨k, hk, (setSub_sticky hset).2⟩

end iteration

theorem step_iter {c : Ctx} {s s' : St} (h : step c s = .ok s') : Iter c s s' :=
  let ⟨op, inf, _, _, _, r, st⟩ := step_eq_ok _ h
  ⟨by rw [st.next, st.len.1]; omega, st.ok, ⟨_, st.marks⟩, st.targets_marked, st.afterTerm ▸ fun ht => ⟨op, inf, st.code, st.info, ht⟩,
    st.ret, st.tracker ▸ (opSpecific_frame r st.spec).tracker, st.created⟩

theorem Iter.inv {c : Ctx} {s s' : St} (h : Iter c s s') (inv : Inv c s) : Inv c s' := by
  obtain ⟨J, hM⟩ := h.marks
  have hi : s.i < c.code.size := Nat.lt_of_le_of_lt (Nat.le_add_right ..) h.ok.imm_in
  refine ⟨by rw [h.next]; exact Reach.snoc inv.reach hi, hM.excl inv.excl, fun x hx => ?_, fun j hj hlt => ?_⟩
  · rcases Nat.lt_trichotomy x s.i with h1 | rfl | h1
    · exact (inv.starts x h1).imp_right fun h => (hM.imm x).2 (Or.inl h)
    · exact Or.inl inv.reach
    · exact Or.inr ((hM.imm x).2 (Or.inr ⟨h1, hx⟩))
  · rcases Reach.lt_next inv.reach hj (h.next ▸ hlt) with h1 | rfl
    · exact Marked.mono (fun x h => (hM.jd x).2 (Or.inl h)) (inv.marked j hj h1)
    · exact h.marked

theorem loop_induct {c : Ctx} {P : St → Prop}
    (hstep : ∀ s s', Reach c.code 0 s.i → s.i < c.code.size → step c s = .ok s' → P s → P s') :
    ∀ (fuel : Nat) (s s' : St), loop c fuel s = .ok s' → Reach c.code 0 s.i → P s →
      Reach c.code 0 s'.i ∧ ¬ s'.i < c.code.size ∧ P s' := by
  intro fuel
  induction fuel with
  | zero =>
    intro s s' h hr inv
    unfold loop at h
    by_cases hi : s.i < c.code.size
    · rw [if_pos hi] at h; cases h
    · rw [if_neg hi] at h; cases h; exact ⟨hr, hi, inv⟩
  | succ fuel ih =>
    intro s s' h hr inv
    unfold loop at h
    by_cases hi : s.i < c.code.size
    · rw [if_pos hi] at h
      dsimp only at h
      rw [bind_eq_ok] at h
      obtain ⟨s1, h1, h2⟩ := h
      exact ih s1 s' h2 (by rw [(step_iter h1).next]; exact Reach.snoc hr hi) (hstep s s1 hr hi h1 inv)
    · rw [if_neg hi] at h; cases h; exact ⟨hr, hi, inv⟩


/-- the iteration before `s` decoded the instruction that ends at `s.i`, and `s.afterTerm` is about that instruction -/
def Last (c : Ctx) (s : St) : Prop :=
  (s.i = 0 ∧ s.afterTerm = false) ∨
    ∃ j, Reach c.code 0 j ∧ j < c.code.size ∧ s.i = j + 1 + immLen c.code j ∧ (s.afterTerm = true → Term c.code j)

/-- what the loop in state `s` has established about the instruction at an offset `j` it has passed, besides the
flags (`Inv`) -/
structure InstrFacts (c : Ctx) (s : St) (j : Nat) : Prop where
  ok : InstrOk c.code c.types.size c.nContainers j
  noRet : s.isReturning = false → NoRet c.types c.code j
  created : Created c.code s.tracker j

theorem Iter.new {c : Ctx} {s s' : St} (h : Iter c s s') : InstrFacts c s' s.i :=
  ⟨h.ok, fun hr => (h.ret hr).2, h.created⟩

theorem Iter.keep {c : Ctx} {s s' : St} {j : Nat} (h : Iter c s s') (f : InstrFacts c s j) : InstrFacts c s' j :=
  ⟨f.ok, fun hr => f.noRet (h.ret hr).1, f.created.mono (Sticky.of_steps h.tracker)⟩

/-- an accepted code section, as `validate_eof_code` leaves it; its EOFCREATEs are recorded in the tracker `tr` -/
structure SectionValid (code : Array Nat) (types : Array TypesSection) (nContainers : Nat) (thisTypes : TypesSection)
    (tr : Tracker) : Prop where
  ok : SectionOk code types.size nContainers
  jumps : JumpsOnStarts code
  flow : SectionFlow code types thisTypes
  created : ∀ j, IsInstrStart code j → Created code tr j

theorem SectionValid.mono {code : Array Nat} {types : Array TypesSection} {nContainers : Nat} {thisTypes : TypesSection}
    {a b : Tracker} (h : Sticky a b) (v : SectionValid code types nContainers thisTypes a) :
    SectionValid code types nContainers thisTypes b :=
  ⟨v.ok, v.jumps, v.flow, fun j hj => (v.created j hj).mono h⟩

theorem validateEofCode_valid {code : Array Nat} {dataSize idx nContainers : Nat}
    {types : Array TypesSection} {tr tr' : Tracker}
    (h : validateEofCode code dataSize idx nContainers types tr = .ok tr') :
    ∃ thisTypes, types[idx]? = some thisTypes ∧ Tracker.Steps tr tr' ∧
      SectionValid code types nContainers thisTypes tr' := by
  obtain ⟨thisTypes, s0, s, hty, hs, h0, hj0, hat0, htr0, hretc, hat', htr⟩ := validateEofCode_eq_ok _ h
  have inv0 : Inv ⟨code, dataSize, nContainers, types, thisTypes⟩ s0 := by
    refine ⟨by rw [h0]; exact Reach.refl 0, ?_, fun x hx => absurd hx (by rw [h0]; exact Nat.not_lt_zero _),
      fun j _ hj => absurd hj (by rw [h0]; exact Nat.not_lt_zero _)⟩
    rintro x ⟨info, h1, h2⟩ _
    rw [hj0, Array.getElem?_replicate] at h1
    split at h1
    · cases h1; cases h2
    · cases h1
  obtain ⟨_, hend, inv, hl, htk, facts⟩ := loop_induct (P := fun s => Inv _ s ∧ Last _ s ∧ Tracker.Steps tr s.tracker ∧
      ∀ j, Reach code 0 j → j < s.i → InstrFacts _ s j)
    (fun s s' hr hi h ⟨inv, _, tk, fs⟩ => let it := step_iter h
      ⟨it.inv inv, Or.inr ⟨s.i, hr, hi, it.next, it.term⟩, tk.trans it.tracker, fun j hj hlt =>
        (Reach.lt_next hr hj (it.next ▸ hlt)).elim (fun h1 => it.keep (fs j hj h1)) fun e => e ▸ it.new⟩)
    _ _ _ hs inv0.reach ⟨inv0, Or.inl ⟨h0, hat0⟩, by rw [htr0]; exact .refl _,
      fun j _ hj => absurd hj (by rw [h0]; exact Nat.not_lt_zero _)⟩
  unfold Last at hl
  dsimp only at inv hend hl facts
  replace facts : ∀ j, IsInstrStart code j → InstrFacts _ s j := fun j hj => facts j hj.1 (by have := hj.2; omega)
  refine ⟨thisTypes, hty, htr ▸ htk, fun j hj => (facts j hj).ok, fun j hj => ?_, ⟨fun j hj => ?_, fun hnr j hj => ?_⟩,
    fun j hj => htr ▸ (facts j hj).created⟩
  · -- a jump destination below the end that is no immediate is an instruction start
    have tgt_start : ∀ t : Int, Tgt code s.jumps t → IsInstrStart code t.toNat := by
      rintro t ⟨h0, hlt, hjd⟩
      have hlt' : t.toNat < code.size := by omega
      exact ⟨(inv.starts t.toNat (by omega)).resolve_right (inv.excl _ hjd), hlt'⟩
    have hm := inv.marked j hj.1 (by have := hj.2; omega)
    exact ⟨fun hc v hv => tgt_start _ (hm.1 hc v hv), fun hc m hm' k hk v hv => tgt_start _ (hm.2 hc m hm' k hk v hv)⟩
  · -- the instruction that reaches the end is the last one the loop decoded, and that one was terminating
    by_cases hn : j + 1 + immLen code j < code.size
    · exact Or.inl hn
    · right
      rcases hl with ⟨_, hf⟩ | ⟨j', hj', hlt', hi', ht'⟩
      · rw [hf] at hat'; cases hat'
      · have hjj : j = j' := by
          rcases Nat.lt_trichotomy j j' with hlt | heq | hgt
          · have := Reach.next_le hj.1 hj' hlt; omega
          · exact heq
          · have := Reach.next_le hj' hj.1 hgt; have := hj.2; omega
        subst hjj
        exact ht' hat'
  · refine (facts j hj).noRet ?_
    cases hsr : s.isReturning with
    | false => rfl
    | true => rw [hsr, hnr] at hretc; exact absurd rfl hretc

end Revm.Proofs.EofValidate
