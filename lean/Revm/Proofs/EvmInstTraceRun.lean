import Revm.Proofs.EvmInstTrace
import Revm.Proofs.EvmMove
/-! The traced loop of `EvmInstTrace` against the loop: it computes the same value (`contTr_fst`, `transactTr_fst`) and is
the events of one `turn` (the loop's `Proofs.Evm.turn`, not the machine's `InspectorHooks.turn`), then the rest
(`contTr_succ`). The events of an iteration depend only on the state it starts from (`turnEvs`). `Run C cfg n evs x` is a
completed run with its trace, one `Moves` per unit of fuel: facts about completed traced runs are inductions over `Run`
(`contTr_run`); `contTr_all` is the rule for the events of ANY run, completed or not. -/
namespace Revm.Proofs.EvmInstHooks
open Revm Revm.Model Revm.Model.Evm
open Revm.Model.InspectorHooks (Spawn)
open Revm.Proofs.EvmInstSd (Resolved)
open Revm.Proofs.Evm (Moves turn_moves turn contOf contOf_succ contOf_zero)

theorem contTr_zero {κ : Type} (C : CpOps κ) (cfg : Cfg) (nx : Next κ) :
    contTr C cfg 0 nx = match nx with
      | .done r w => (pure (r, w), [])
      | _ => (throw .outOfFuel, []) := by
  cases nx with
  | run st w => show runLoopTr C cfg 0 st w = _; rw [runLoopTr]
  | ended t rs r o s w => show runEndedTr C cfg 0 t rs r o s w = _; rw [runEndedTr]
  | done r w => rfl

/-- every induction over the fuel of the traced loop goes through this and `contTr_zero`, beside `contOf_succ` and
`contOf_zero` -/
theorem contTr_succ {κ : Type} (C : CpOps κ) (cfg : Cfg) (fuel : Nat) (nx : Next κ) :
    contTr C cfg (fuel + 1) nx = thenTr C cfg fuel (turnEvs C cfg nx) (turn C cfg nx) := by
  cases nx with
  | run st w =>
    show runLoopTr C cfg (fuel + 1) st w = thenTr C cfg fuel (iterEvs C cfg st w) (iterate C cfg st w)
    rw [runLoopTr]
    cases iterate C cfg st w with
    | error e => rfl
    | ok nx =>
      cases nx with
      | done r w' => show _ = (_, _ ++ []); rw [List.append_nil]; rfl
      | _ => rfl
  | ended t rs r o s w =>
    show runEndedTr C cfg (fuel + 1) t rs r o s w = thenTr C cfg fuel [retEv] (frameEnd C cfg t rs r o s w)
    rw [runEndedTr]
    cases frameEnd C cfg t rs r o s w with
    | error e => rfl
    | ok nx => cases nx <;> rfl
  | done r w => rfl

theorem contTr_fst {κ : Type} (C : CpOps κ) (cfg : Cfg) (fuel : Nat) (nx : Next κ) :
    (contTr C cfg fuel nx).1 = contOf C cfg fuel nx := by
  induction fuel generalizing nx with
  | zero => rw [contTr_zero, contOf_zero]; cases nx <;> rfl
  | succ n ih =>
    rw [contTr_succ, contOf_succ]
    cases turn C cfg nx with
    | error e => rfl
    | ok nx' => exact ih nx'

theorem runLoopTr_fst {κ : Type} (C : CpOps κ) (cfg : Cfg) (fuel : Nat) (stack : List (Frame κ)) (w : World) :
    (runLoopTr C cfg fuel stack w).1 = runLoop C cfg fuel stack w := contTr_fst C cfg fuel (.run stack w)

theorem runEndedTr_fst {κ : Type} (C : CpOps κ) (cfg : Cfg) (fuel : Nat) (top : Frame κ) (rest : List (Frame κ))
    (r : Interp.IResult) (out : List Nat) (s : Interp.IState) (w : World) :
    (runEndedTr C cfg fuel top rest r out s w).1 = runEnded C cfg fuel top rest r out s w :=
  contTr_fst C cfg fuel (.ended top rest r out s w)

theorem runFirstTr_fst {κ : Type} (C : CpOps κ) (cfg : Cfg) (fuel : Nat) (first : FrameOrResult κ) (w : World) :
    (runFirstTr C cfg fuel first w).1 = runFirst C cfg fuel first w := by
  cases first with
  | frame f => exact runLoopTr_fst C cfg fuel [f] w
  | result r => rfl

theorem transactWithTr_fst {κ : Type} (C : CpOps κ) (fuel : Nat) (w : World) (e : Env) (spec : Nat) :
    (transactWithTr C fuel w e spec).1 = transactWith C fuel w e spec := by
  unfold transactWithTr transactWith execute
  simp only [bind, Except.bind]
  cases hp : preverify w e (GasCalc.canon spec) with
  | error err => rfl
  | ok x =>
    cases x with
    | none => rfl
    | some y =>
      obtain ⟨w', initialGas, floorGas⟩ := y
      simp only []
      cases hq : prepare C e (GasCalc.canon spec) initialGas w' with
      | error err => rfl
      | ok z =>
        obtain ⟨first, w1, isCreate, refund⟩ := z
        simp only [runFirstTr_fst]
        cases hr : runFirst C (e.toCfg (GasCalc.canon spec)) fuel first w1 with
        | error err => rfl
        | ok u =>
          obtain ⟨res, w2⟩ := u
          rfl

theorem transactTr_fst (fuel : Nat) (w : World) (e : Env) (spec : Nat) :
    (transactTr fuel w e spec).1 = transact fuel w e spec := transactWithTr_fst journalOps fuel w e spec

theorem transactWithTr_trace {κ : Type} {C : CpOps κ} {fuel : Nat} {w : World} {e : Env} {spec : Nat}
    {r : R (Outcome × World)} {first : Spawn} {evs : List LEv}
    (h : transactWithTr C fuel w e spec = (r, some (first, evs))) :
    ∃ w1 ig fg fr w2 isCreate refund,
      prepare C e (GasCalc.canon spec) ig w1 = .ok (fr, w2, isCreate, refund) ∧ first = firstSpawn e fr ∧
      evs = (runFirstTr C (e.toCfg (GasCalc.canon spec)) fuel fr w2).2 ∧
      r = (do
        let (res, w3) ← (runFirstTr C (e.toCfg (GasCalc.canon spec)) fuel fr w2).1
        let (x, w4) ← finish e (GasCalc.canon spec) fg refund isCreate res w3
        pure (.executed x, w4)) := by
  unfold transactWithTr at h
  cases hp : preverify w e (GasCalc.canon spec) with
  | error err => rw [hp] at h; cases h
  | ok x =>
    rw [hp] at h
    cases x with
    | none => cases h
    | some y =>
      obtain ⟨w1, ig, fg⟩ := y
      simp only at h
      cases hq : prepare C e (GasCalc.canon spec) ig w1 with
      | error err => rw [hq] at h; cases h
      | ok z =>
        rw [hq] at h
        obtain ⟨fr, w2, isCreate, refund⟩ := z
        simp only [Prod.mk.injEq, Option.some.injEq] at h
        exact ⟨w1, ig, fg, fr, w2, isCreate, refund, hq, h.2.1.symm, h.2.2.symm, h.1.symm⟩

theorem transactWithTr_all {κ : Type} {C : CpOps κ} {fuel : Nat} {w : World} {e : Env} {spec : Nat}
    {r : R (Outcome × World)} {first : Spawn} {evs : List LEv} (P : LEv → Prop)
    (h : transactWithTr C fuel w e spec = (r, some (first, evs)))
    (hloop : ∀ ig w1 f w2 isCreate refund, prepare C e (GasCalc.canon spec) ig w1 = .ok (.frame f, w2, isCreate, refund) →
      ∀ ev ∈ (runLoopTr C (e.toCfg (GasCalc.canon spec)) fuel [f] w2).2, P ev) : ∀ ev ∈ evs, P ev := by
  obtain ⟨w1, ig, fg, fr, w2, isCreate, refund, hq, _, rfl, _⟩ := transactWithTr_trace h
  cases fr with
  | result r0 => intro ev hmem; cases hmem
  | frame f => exact hloop ig w1 f w2 isCreate refund hq

variable {κ : Type} {C : CpOps κ} {cfg : Cfg}

def insnEv (s : Interp.IState) (w : World) (d : Interp.Done) (w' : World) : LEv :=
  .insn (insnOf s w.js w'.js d) (truthOf s w d)

def spawnEv (a : Interp.Action) (h : InspectorHooks.HandlerRes) : LEv := .next (.spawn ⟨kindOfAct a, 0, none, h⟩ false)

/-- the events of an iteration are those of the instruction it resolves, whether or not the iteration then completes -/
theorem iterEvs_resolved {top : Frame κ} {rest : List (Frame κ)} {w w1 : World} {d : Interp.Done}
    (hr : Resolved cfg.he top.interp w d w1) : iterEvs C cfg (top :: rest) w = stepEvs C cfg top w d w1 := by
  cases hr with
  | pure _ hs => simp only [iterEvs, hs]
  | host _ _ _ _ hs ha => simp only [iterEvs, hs, ha]

theorem stepEvs_next (top : Frame κ) (w w1 : World) (s : Interp.IState) :
    stepEvs C cfg top w (.next s) w1 = [insnEv top.interp w (.next s) w1] := rfl

theorem stepEvs_halt (top : Frame κ) (w w1 : World) (r : Interp.IResult) (out : List Nat) (s : Interp.IState) :
    stepEvs C cfg top w (.halt r out s) w1 = [insnEv top.interp w (.halt r out s) w1, retEv] := rfl

theorem stepEvs_frame {top : Frame κ} {w w1 w2 : World} {a : Interp.Action} {s : Interp.IState} {f : Frame κ}
    (hmk : makeFrame C cfg w1 a s.mem = .ok (.frame f, w2)) :
    stepEvs C cfg top w (.action a s) w1 = [insnEv top.interp w (.action a s) w1, spawnEv a .frame] := by
  simp only [stepEvs, doneEvs, actionEvs, hmk, insnEv, spawnEv]

theorem stepEvs_result {top : Frame κ} {w w1 w2 : World} {a : Interp.Action} {s : Interp.IState}
    {o : Interp.ChildResult} (hmk : makeFrame C cfg w1 a s.mem = .ok (.result o, w2)) :
    stepEvs C cfg top w (.action a s) w1 = [insnEv top.interp w (.action a s) w1, spawnEv a (.result 0)] := by
  simp only [stepEvs, doneEvs, actionEvs, hmk, insnEv, spawnEv]

inductive Run (C : CpOps κ) (cfg : Cfg) : Next κ → List LEv → Interp.ChildResult × World → Prop
  | done (r w) : Run C cfg (.done r w) [] (r, w)
  | iter {n n' l x} (h : Moves C cfg n n') (t : Run C cfg n' l x) : Run C cfg n (turnEvs C cfg n ++ l) x

theorem contTr_run : ∀ (fuel : Nat) (n : Next κ) (x : Interp.ChildResult × World),
    (contTr C cfg fuel n).1 = .ok x → Run C cfg n (contTr C cfg fuel n).2 x := by
  intro fuel
  induction fuel with
  | zero => intro n x h; rw [contTr_zero] at h ⊢; cases n <;> cases h; exact .done _ _
  | succ k ih =>
    intro n x h
    cases n with
    | done r w => cases h; exact .done r w
    | _ =>
      rw [contTr_succ] at h ⊢
      cases hit : turn C cfg _ with
      | error e => rw [hit] at h; cases h
      | ok n' =>
        rw [hit] at h
        exact .iter ((turn_moves hit).resolve_right (by rintro ⟨_, _, h⟩; cases h)) (ih n' x h)

/-- a property of the events of ANY traced run, completed or not: it holds of the events of every turn from a state in
`J`, and every iteration keeps `J` -/
theorem contTr_all (P : LEv → Prop) (J : Next κ → Prop) (hret : P retEv)
    (hev : ∀ st w, J (.run st w) → ∀ ev ∈ iterEvs C cfg st w, P ev)
    (hstep : ∀ n n', J n → Moves C cfg n n' → J n') :
    ∀ (fuel : Nat) (nx : Next κ), J nx → ∀ ev ∈ (contTr C cfg fuel nx).2, P ev := by
  intro fuel
  induction fuel with
  | zero => intro nx _ ev hmem; rw [contTr_zero] at hmem; cases nx <;> cases hmem
  | succ n ih =>
    intro nx hj ev hmem
    have he : ∀ ev ∈ turnEvs C cfg nx, P ev := by
      cases nx with
      | run st w => exact hev st w hj
      | ended => intro ev h; rw [List.mem_singleton.1 h]; exact hret
      | done => intro ev h; cases h
    rw [contTr_succ] at hmem
    cases hit : turn C cfg nx with
    | error e => rw [hit] at hmem; exact he ev hmem
    | ok nx' =>
      rw [hit] at hmem
      rcases List.mem_append.1 hmem with h | h
      · exact he ev h
      · rcases turn_moves hit with m | ⟨r, w, rfl⟩
        · exact ih nx' (hstep nx nx' hj m) ev h
        · cases hit; exact ih _ hj ev h

theorem doneEvs_next (d : Interp.Done) (w : World) : ∀ ev ∈ doneEvs C cfg d w, ∃ n, ev = .next n := by
  intro ev hev
  cases d with
  | next s => cases hev
  | action a s =>
    simp only [doneEvs, actionEvs] at hev
    split at hev
    · exact ⟨_, List.mem_singleton.1 hev⟩
    · exact ⟨_, List.mem_singleton.1 hev⟩
    · cases hev
  | halt r o s => exact ⟨_, List.mem_singleton.1 hev⟩
  | fault f => cases hev

theorem iterEvs_insn {top : Frame κ} {rest : List (Frame κ)} {w : World} {x : InspectorHooks.Insn} {g : Truth}
    (h : LEv.insn x g ∈ iterEvs C cfg (top :: rest) w) :
    ∃ d w', Resolved cfg.he top.interp w d w' ∧ LEv.insn x g = insnEv top.interp w d w' := by
  have key : ∀ {d w'}, Resolved cfg.he top.interp w d w' → LEv.insn x g ∈ stepEvs C cfg top w d w' →
      ∃ d w', Resolved cfg.he top.interp w d w' ∧ LEv.insn x g = insnEv top.interp w d w' := by
    intro d w' hr hev
    rcases List.mem_cons.1 hev with heq | hev
    · exact ⟨d, w', hr, heq⟩
    · obtain ⟨n, hn⟩ := doneEvs_next d w' _ hev
      cases hn
  simp only [iterEvs] at h
  cases hs : Interp.step top.interp with
  | pure d => rw [hs] at h; exact key (.pure d hs) h
  | host op k =>
    rw [hs] at h
    simp only at h
    cases ha : answer cfg.he w op with
    | error e => rw [ha] at h; cases h
    | ok p =>
      obtain ⟨resp, w'⟩ := p
      rw [ha] at h
      exact key (.host op k resp w' hs ha) h

end Revm.Proofs.EvmInstHooks
