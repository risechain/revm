import Revm.Model.Stack
import Revm.Spec.Stack
/-! Proofs for C12. `abs` reads the `Vec` from its end, and each operation refines the Spec's: `step_refines`,
`abs (step d op) = Spec.Stack.step d.reverse op` under `Op.pre` and the length bound, with `push_slice` brought to its
closed form `pushSlice_eq` first (`dup_eq` / `exchange_eq` are the closed forms the interpreter's rules use). What a step
of the Spec can do is said once, by `Effect`; the bound, no panic / ub and 256-bit words are read off it through the
refinement, and that a failure leaves the buffer unchanged holds of the model with no hypothesis (`step_unchanged_or_ok`). -/
namespace Revm.Proofs.Stack
open Revm Revm.Model.Stack

def abs (p : List Nat × Out) : List Nat × Out := (p.1.reverse, p.2)

theorem reverse_set (l : List Nat) (i : Nat) (a : Nat) (h : i < l.length) :
    (l.set i a).reverse = l.reverse.set (l.length - 1 - i) a := by
  apply List.ext_getElem?
  intro k
  by_cases hk : k < l.length
  · rw [List.getElem?_reverse (by simpa using hk), List.getElem?_set, List.getElem?_set,
      List.getElem?_reverse hk]
    simp only [List.length_set, List.length_reverse]
    by_cases h1 : i = l.length - 1 - k
    · have h2 : l.length - 1 - i = k := by omega
      have h3 : l.length - 1 - k < l.length := by omega
      rw [if_pos h1, if_pos h2, if_pos h, if_pos (by omega)]
    · have h2 : ¬ (l.length - 1 - i = k) := by omega
      rw [if_neg h1, if_neg h2]
  · have h1 : (l.set i a).reverse.length ≤ k := by simp; omega
    have h2 : (l.reverse.set (l.length - 1 - i) a).length ≤ k := by simp; omega
    rw [List.getElem?_eq_none h1, List.getElem?_eq_none h2]

theorem push_refines (d : List Nat) (v : Nat) (hd : d.length ≤ STACK_LIMIT) :
    abs (step d (.push v)) = Spec.Stack.push d.reverse v := by
  simp only [step, abs, push, Spec.Stack.push, Spec.Stack.LIMIT, STACK_LIMIT, List.length_reverse] at *
  by_cases h : d.length = 1024
  · simp [h, Out.ofUnit]
  · have : d.length < 1024 := by omega
    simp [h, this, Out.ofUnit]

theorem pop_refines (d : List Nat) : abs (step d .pop) = Spec.Stack.pop d.reverse := by
  rcases List.eq_nil_or_concat d with rfl | ⟨l, a, rfl⟩
  · simp [step, abs, pop, Spec.Stack.pop, Out.ofWord]
  · simp [step, abs, pop, Spec.Stack.pop, Out.ofWord, List.concat_eq_append]

theorem get_top (d : List Nat) {n : Nat} (h : n < d.length) :
    d[d.length - 1 - n]? = some (d.reverse[n]'(by rw [List.length_reverse]; exact h)) := by
  rw [← List.getElem?_reverse h, List.getElem?_eq_getElem]

theorem set_top (d : List Nat) {n L : Nat} (hL : d.length = L) (h : n < L) (a : Nat) :
    (d.set (L - 1 - n) a).reverse = d.reverse.set n a := by
  subst hL
  rw [reverse_set _ _ _ (by omega)]
  congr 1; omega

theorem peek_refines (d : List Nat) (n : Nat) : abs (step d (.peek n)) = Spec.Stack.peek d.reverse n := by
  show ((peek d n).1.reverse, Out.ofWord (peek d n).2) = _
  unfold peek Spec.Stack.peek
  by_cases h : n < d.length
  · rw [if_pos h, Nat.sub_right_comm, get_top d h, List.getElem?_eq_getElem (by rw [List.length_reverse]; exact h)]
    rfl
  · rw [if_neg h, List.getElem?_eq_none (by rw [List.length_reverse]; omega)]
    rfl

/-- `dup` with the index arithmetic resolved: the word at depth `n - 1`, underflow before overflow -/
theorem dup_eq (d : List Nat) (n : Nat) (hn : 0 < n) :
    dup d n = (match d.reverse[n - 1]? with
      | none => (d, .err .StackUnderflow)
      | some v => if d.length < 1024 then (d ++ [v], .ok ()) else (d, .err .StackOverflow)) := by
  unfold dup STACK_LIMIT
  dsimp only
  rw [if_neg (Nat.ne_of_gt hn)]
  by_cases h : d.length < n
  · rw [if_pos h, List.getElem?_eq_none (by rw [List.length_reverse]; omega)]
  · have h1 : n - 1 < d.length := by omega
    rw [if_neg h, show d.length - n = d.length - 1 - (n - 1) by omega, get_top d h1,
      List.getElem?_eq_getElem (by rw [List.length_reverse]; exact h1)]
    dsimp only
    by_cases h4 : d.length < 1024
    · rw [if_neg (by omega), if_pos h4]
    · rw [if_pos (by omega), if_neg h4]

theorem dup_refines (d : List Nat) (n : Nat) (hn : 0 < n) :
    abs (step d (.dup n)) = Spec.Stack.dup d.reverse n := by
  show ((dup d n).1.reverse, Out.ofUnit (dup d n).2) = _
  rw [dup_eq d n hn]
  unfold Spec.Stack.dup Spec.Stack.LIMIT
  rw [List.length_reverse]
  cases d.reverse[n - 1]? with
  | none => rfl
  | some v =>
    dsimp only
    split
    · rw [List.reverse_append]; rfl
    · rfl

/-- `exchange` with the index arithmetic resolved: the items at depths `n` and `n + m` change places -/
theorem exchange_eq (d : List Nat) (n m : Nat) (hm : 0 < m) (hnm : n + m < U64) :
    exchange d n m = (match d.reverse[n]?, d.reverse[n + m]? with
      | some a, some b => (((d.reverse.set n b).set (n + m) a).reverse, .ok ())
      | _, _ => (d, .err .StackUnderflow)) := by
  unfold exchange
  rw [if_neg (Nat.ne_of_gt hm), if_neg (Nat.not_le.mpr hnm)]
  dsimp only
  by_cases h : n + m ≥ d.length
  · rw [if_pos h, List.getElem?_eq_none (l := d.reverse) (i := n + m) (by rw [List.length_reverse]; exact h)]
    cases d.reverse[n]? <;> rfl
  · have h1 : n < d.length := by omega
    have h2 : n + m < d.length := by omega
    rw [if_neg h, get_top d h1, get_top d h2, List.getElem?_eq_getElem (by rw [List.length_reverse]; exact h1),
      List.getElem?_eq_getElem (by rw [List.length_reverse]; exact h2)]
    dsimp only
    rw [← set_top _ rfl h1, ← set_top _ List.length_set h2, List.reverse_reverse]

theorem exchange_refines (d : List Nat) (n m : Nat) (hm : 0 < m) (hnm : n + m < U64) :
    abs (step d (.exchange n m)) = Spec.Stack.exchange d.reverse n m := by
  show ((exchange d n m).1.reverse, Out.ofUnit (exchange d n m).2) = _
  rw [exchange_eq d n m hm hnm]
  unfold Spec.Stack.exchange
  cases d.reverse[n]? with
  | none => rfl
  | some a =>
    cases d.reverse[n + m]? with
    | none => rfl
    | some b => dsimp only; rw [List.reverse_reverse]; rfl

theorem swap_refines (d : List Nat) (n : Nat) (hn : 0 < n) (hn2 : n < U64) :
    abs (step d (.swap n)) = Spec.Stack.swap d.reverse n := by
  have := exchange_refines d 0 n hn (by omega)
  simpa [step, Model.Stack.swap, Spec.Stack.swap] using this

theorem set_refines (d : List Nat) (n v : Nat) :
    abs (step d (.set n v)) = Spec.Stack.set d.reverse n v := by
  show ((Model.Stack.set d n v).1.reverse, Out.ofUnit (Model.Stack.set d n v).2) = _
  unfold Model.Stack.set Spec.Stack.set
  rw [List.length_reverse]
  by_cases h : n < d.length
  · rw [if_pos h, if_pos h]
    dsimp only
    rw [if_pos (by omega), Nat.sub_right_comm, set_top d rfl h]
    rfl
  · rw [if_neg h, if_neg h]; rfl

theorem foldl_be (bs : List Nat) (a : Nat) :
    bs.foldl (fun a b => a * 256 + b) a = a * 256 ^ bs.length + Spec.Stack.beNat bs := by
  induction bs generalizing a with
  | nil => simp [Spec.Stack.beNat]
  | cons b bs ih =>
    simp only [List.foldl_cons, ih, Spec.Stack.beNat, List.length_cons, Nat.pow_succ]
    rw [Nat.add_mul, Nat.mul_assoc, Nat.mul_comm 256, Nat.add_assoc]

theorem beVal_eq_beNat (bs : List Nat) : beVal bs = Spec.Stack.beNat bs := by
  simp [beVal, foldl_be]

theorem beVal_append (a b : List Nat) : beVal (a ++ b) = beVal a * 256 ^ b.length + beVal b := by
  simp only [beVal, List.foldl_append]
  rw [foldl_be b, foldl_be b 0]; simp

theorem beVal_nil : beVal [] = 0 := rfl

theorem beVal_replicate_zero (k : Nat) : beVal (List.replicate k 0) = 0 := by
  induction k with
  | zero => rfl
  | succ k ih =>
    rw [List.replicate_succ', beVal_append, ih]; simp [beVal]

theorem beVal_zeros_append (k : Nat) (bs : List Nat) : beVal (List.replicate k 0 ++ bs) = beVal bs := by
  rw [beVal_append, beVal_replicate_zero]; simp

theorem leVal_append_zeros (l : List Nat) (k : Nat) : leVal (l ++ List.replicate k 0) = leVal l := by
  induction l with
  | nil =>
    induction k with
    | zero => rfl
    | succ k ih => simp only [List.nil_append] at ih ⊢; rw [List.replicate_succ]; simp only [leVal] at ih ⊢; rw [ih]; simp
  | cons a l ih => simp only [List.cons_append, leVal, ih]

theorem pow8 : 256 ^ 8 = U64 := by rw [U64_val]

/-- limbs written for one (full or partial) chunk, before the zero fill -/
def chunkLimbs (bs : List Nat) : List Nat :=
  (rchunksExact8 bs).1.map beVal ++
    (if !(rchunksExact8 bs).2.isEmpty then
      [beVal (List.replicate (8 - (rchunksExact8 bs).2.length) 0 ++ (rchunksExact8 bs).2)] else [])

theorem rchunks_lt (bs : List Nat) (h : bs.length < 8) : rchunksExact8 bs = ([], bs) := by
  rw [rchunksExact8]; simp [h]

theorem rchunks_ge (bs : List Nat) (h : ¬ bs.length < 8) :
    rchunksExact8 bs = (bs.drop (bs.length - 8) :: (rchunksExact8 (bs.take (bs.length - 8))).1,
      (rchunksExact8 (bs.take (bs.length - 8))).2) := by
  rw [rchunksExact8]; simp [h]

theorem chunkLimbs_lt (bs : List Nat) (h : bs.length < 8) :
    chunkLimbs bs = if bs = [] then [] else [beVal bs] := by
  simp only [chunkLimbs, rchunks_lt bs h, List.map_nil, List.nil_append]
  cases bs with
  | nil => simp
  | cons b bs => simp [beVal_zeros_append]

theorem chunkLimbs_ge (bs : List Nat) (h : ¬ bs.length < 8) :
    chunkLimbs bs = beVal (bs.drop (bs.length - 8)) :: chunkLimbs (bs.take (bs.length - 8)) := by
  simp only [chunkLimbs, rchunks_ge bs h, List.map_cons, List.cons_append]

theorem chunkLimbs_spec (bs : List Nat) :
    leVal (chunkLimbs bs) = beVal bs ∧ (chunkLimbs bs).length = (bs.length + 7) / 8 := by
  induction bs using rchunksExact8.induct with
  | case1 bs h =>
    rw [chunkLimbs_lt bs h]
    cases bs with
    | nil => simp [leVal, beVal_nil]
    | cons b bs =>
      simp only [List.length_cons] at h ⊢
      simp [leVal]; omega
  | case2 bs h ih =>
    rw [chunkLimbs_ge bs h]
    have hl : (bs.take (bs.length - 8)).length = bs.length - 8 := by simp
    refine ⟨?_, ?_⟩
    · rw [leVal, ih.1]
      conv => rhs; rw [← List.take_append_drop (bs.length - 8) bs]
      rw [beVal_append]
      have : (bs.drop (bs.length - 8)).length = 8 := by simp; omega
      rw [this, pow8, Nat.mul_comm, Nat.add_comm]
    · rw [List.length_cons, ih.2, hl]; omega

theorem chunkLimbs_val (bs : List Nat) : leVal (chunkLimbs bs) = beVal bs := (chunkLimbs_spec bs).1
theorem chunkLimbs_length (bs : List Nat) : (chunkLimbs bs).length = (bs.length + 7) / 8 :=
  (chunkLimbs_spec bs).2

theorem rchunks_rem_length (bs : List Nat) : (rchunksExact8 bs).2.length = bs.length % 8 := by
  induction bs using rchunksExact8.induct with
  | case1 bs h => rw [rchunks_lt bs h]; exact (Nat.mod_eq_of_lt h).symm
  | case2 bs h ih =>
    rw [rchunks_ge bs h]
    have hl : (bs.take (bs.length - 8)).length = bs.length - 8 := by simp
    simp only [ih, hl]; omega

theorem limbsOfChunk_full (w : List Nat) (hw : w.length = 32) :
    (limbsOfChunk w).length = 4 ∧ leVal (limbsOfChunk w) = beVal w := by
  have hr : (rchunksExact8 w).2 = [] := by
    apply List.eq_nil_of_length_eq_zero
    rw [rchunks_rem_length w, hw]
  have e : chunkLimbs w = limbsOfChunk w := by simp [chunkLimbs, limbsOfChunk, hr]
  rw [← e, chunkLimbs_val, chunkLimbs_length, hw]; simp

theorem chunksExact_lt (bs : List Nat) (h : bs.length < 32) : chunksExact32 bs = ([], bs) := by
  rw [chunksExact32, chunksExactGo]; simp [h]
theorem chunksExact_ge (bs : List Nat) (h : ¬ bs.length < 32) :
    chunksExact32 bs = (bs.take 32 :: (chunksExact32 (bs.drop 32)).1, (chunksExact32 (bs.drop 32)).2) := by
  rw [chunksExact32, chunksExactGo]; simp [h, chunksExact32]

theorem chunks32_nil : Spec.Stack.chunks32 [] = [] := by rw [Spec.Stack.chunks32]; simp
theorem chunks32_ne (bs : List Nat) (h : bs ≠ []) :
    Spec.Stack.chunks32 bs = bs.take 32 :: Spec.Stack.chunks32 (bs.drop 32) := by
  rw [Spec.Stack.chunks32]; simp [h]

/-- `chunks_exact(32)` + remainder is the plain chunking; full chunks have 32 bytes, the rest < 32 -/
theorem chunksExact_spec (bs : List Nat) :
    Spec.Stack.chunks32 bs = (chunksExact32 bs).1 ++ (if (chunksExact32 bs).2 = [] then [] else [(chunksExact32 bs).2])
    ∧ (∀ w ∈ (chunksExact32 bs).1, w.length = 32) ∧ (chunksExact32 bs).2.length = bs.length % 32 := by
  induction bs using Spec.Stack.chunks32.induct with
  | case1 => rw [chunksExact_lt [] (by decide), chunks32_nil]; exact ⟨rfl, nofun, rfl⟩
  | case2 bs hne ih =>
    by_cases h : bs.length < 32
    · rw [chunksExact_lt bs h, chunks32_ne bs hne, List.drop_eq_nil_of_le (by omega),
        List.take_of_length_le (by omega), chunks32_nil, if_neg hne]
      exact ⟨rfl, nofun, (Nat.mod_eq_of_lt h).symm⟩
    · have hl : (bs.drop 32).length = bs.length - 32 := by simp
      rw [chunksExact_ge bs h, chunks32_ne bs hne, ih.1]
      refine ⟨by simp, ?_, ?_⟩
      · intro w hw
        simp only [List.mem_cons] at hw
        rcases hw with rfl | hw
        · simp; omega
        · exact ih.2.1 w hw
      · simp only [ih.2.2, hl]; omega

theorem chunks32_length (bs : List Nat) : (Spec.Stack.chunks32 bs).length = Spec.Stack.ceil32 bs.length := by
  induction bs using Spec.Stack.chunks32.induct with
  | case1 => rw [chunks32_nil]; rfl
  | case2 bs hne ih =>
    have : 0 < bs.length := List.length_pos_iff.mpr hne
    rw [chunks32_ne bs hne, List.length_cons, ih, List.length_drop]
    unfold Spec.Stack.ceil32; omega

theorem chunks32_get (i : Nat) : ∀ bs : List Nat,
    (Spec.Stack.chunks32 bs)[i]? = if 32 * i < bs.length then some ((bs.drop (32 * i)).take 32) else none := by
  induction i with
  | zero =>
    intro bs
    cases bs with
    | nil => simp [chunks32_nil]
    | cons b bs => rw [chunks32_ne _ (by simp)]; simp
  | succ i ih =>
    intro bs
    cases bs with
    | nil => simp [chunks32_nil]
    | cons b bs =>
      rw [chunks32_ne _ (by simp), List.getElem?_cons_succ, ih, List.drop_drop]
      have e : 32 + 32 * i = 32 * (i + 1) := by omega
      rw [e]
      have : (32 * i < ((b :: bs).drop 32).length) ↔ (32 * (i + 1) < (b :: bs).length) := by
        simp only [List.length_drop]; omega
      by_cases c : 32 * (i + 1) < (b :: bs).length
      · rw [if_pos c, if_pos (this.mpr c)]
      · rw [if_neg c, if_neg (fun h => c (this.mp h))]

theorem chunks32_mem (bs c : List Nat) (hc : c ∈ Spec.Stack.chunks32 bs) :
    c.length ≤ 32 ∧ ∀ b ∈ c, b ∈ bs := by
  obtain ⟨i, hi⟩ := List.getElem?_of_mem hc
  rw [chunks32_get] at hi
  split at hi
  · injection hi with hi
    rw [← hi]
    exact ⟨List.length_take_le _ _, fun b hb => List.mem_of_mem_drop (List.mem_of_mem_take hb)⟩
  · cases hi

/-! ### the limb buffer read back as words -/

theorem wordsOfLimbs_four (l4 rest : List Nat) (h : l4.length = 4) :
    wordsOfLimbs (l4 ++ rest) = (wordsOfLimbs rest).map (leVal l4 :: ·) := by
  match l4, h with
  | [a, b, c, e], _ => simp [wordsOfLimbs]

theorem wordsOfLimbs_full (fulls : List (List Nat)) (hf : ∀ w ∈ fulls, w.length = 32)
    (tail ws : List Nat) (ht : wordsOfLimbs tail = some ws) :
    wordsOfLimbs (fulls.flatMap limbsOfChunk ++ tail) = some (fulls.map beVal ++ ws) := by
  induction fulls with
  | nil => simpa using ht
  | cons w fulls ih =>
    have hw := limbsOfChunk_full w (hf w (by simp))
    have ih' := ih (fun x hx => hf x (by simp [hx]))
    simp only [List.flatMap_cons, List.append_assoc, List.map_cons, List.cons_append]
    rw [wordsOfLimbs_four _ _ hw.1, ih', hw.2]; simp

theorem flatMap_limbs_length (fulls : List (List Nat)) (hf : ∀ w ∈ fulls, w.length = 32) :
    (fulls.flatMap limbsOfChunk).length % 4 = 0 := by
  induction fulls with
  | nil => simp
  | cons w fulls ih =>
    have hw := limbsOfChunk_full w (hf w (by simp))
    have ih' := ih (fun x hx => hf x (by simp [hx]))
    simp only [List.flatMap_cons, List.length_append, hw.1]; omega

theorem words_of_four (t : List Nat) (h : t.length = 4) : wordsOfLimbs t = some [leVal t] := by
  match t, h with
  | [a, b, c, e], _ => simp [wordsOfLimbs]

theorem writePartialLastWord_spec (P rem : List Nat) (hP : P.length % 4 = 0)
    (h0 : 0 < rem.length) (h32 : rem.length < 32) :
    ∃ T, writePartialLastWord P rem = P ++ T ∧ T.length = 4 ∧ leVal T = beVal rem := by
  have hk : 1 ≤ (chunkLimbs rem).length ∧ (chunkLimbs rem).length ≤ 4 := by
    rw [chunkLimbs_length]; omega
  -- the limbs written before the zero fill are `P ++ chunkLimbs rem`
  have hX : (if !(rchunksExact8 rem).2.isEmpty then
        P ++ (rchunksExact8 rem).1.map beVal
          ++ [beVal (List.replicate (8 - (rchunksExact8 rem).2.length) 0 ++ (rchunksExact8 rem).2)]
      else P ++ (rchunksExact8 rem).1.map beVal) = P ++ chunkLimbs rem := by
    unfold chunkLimbs
    by_cases hr : (rchunksExact8 rem).2.isEmpty = true
    · rw [hr]; simp only [Bool.not_true, Bool.false_eq_true, if_false, List.append_nil]
    · rw [Bool.not_eq_true] at hr
      rw [hr]; simp only [Bool.not_false, if_true, List.append_assoc]
  have hw : ∀ X, X = P ++ chunkLimbs rem → writePartialLastWord P rem =
      if X.length % 4 ≠ 0 then X ++ List.replicate (4 - X.length % 4) 0 else X := by
    intro X hX'
    rw [hX', ← hX]
    rfl
  have hm : (P ++ chunkLimbs rem).length % 4 = (chunkLimbs rem).length % 4 := by
    rw [List.length_append, Nat.add_mod, hP, Nat.zero_add, Nat.mod_mod]
  rw [hw _ rfl, hm]
  by_cases hk4 : (chunkLimbs rem).length < 4
  · rw [Nat.mod_eq_of_lt hk4, if_pos (Nat.ne_of_gt hk.1), List.append_assoc]
    exact ⟨_, rfl, by rw [List.length_append, List.length_replicate, Nat.add_sub_cancel' hk.2],
      by rw [leVal_append_zeros, chunkLimbs_val]⟩
  · have e : (chunkLimbs rem).length = 4 := Nat.le_antisymm hk.2 (Nat.not_lt.mp hk4)
    rw [e, if_neg (by decide)]
    exact ⟨_, rfl, e, chunkLimbs_val rem⟩

theorem pushSlice_eq (d bs : List Nat) (hd : d.length ≤ STACK_LIMIT) :
    pushSlice d bs =
      if d.length + Spec.Stack.ceil32 bs.length > STACK_LIMIT then (d, .err .StackOverflow)
      else (d ++ (Spec.Stack.chunks32 bs).map Spec.Stack.beNat, .ok ()) := by
  unfold pushSlice
  cases bs with
  | nil =>
    have : ¬ d.length + Spec.Stack.ceil32 ([] : List Nat).length > STACK_LIMIT := by
      simp [Spec.Stack.ceil32]; omega
    rw [if_neg this]; simp [chunks32_nil]
  | cons b bs =>
    simp only [List.isEmpty_cons, Bool.false_eq_true, if_false]
    by_cases hov : d.length + Spec.Stack.ceil32 (b :: bs).length > STACK_LIMIT
    · have hov' : d.length + ((b :: bs).length + 31) / 32 > STACK_LIMIT := hov
      rw [if_pos hov', if_pos hov]
    · have hov' : ¬ d.length + ((b :: bs).length + 31) / 32 > STACK_LIMIT := hov
      rw [if_neg hov', if_neg hov]
      obtain ⟨hc, hfull, hrem⟩ := chunksExact_spec (b :: bs)
      have hlen := chunks32_length (b :: bs)
      have hmap : (Spec.Stack.chunks32 (b :: bs)).map Spec.Stack.beNat
          = (Spec.Stack.chunks32 (b :: bs)).map beVal := by
        apply List.map_congr_left; intro x _; rw [beVal_eq_beNat]
      have key : wordsOfLimbs
          (if (chunksExact32 (b :: bs)).2.isEmpty then (chunksExact32 (b :: bs)).1.flatMap limbsOfChunk
           else writePartialLastWord ((chunksExact32 (b :: bs)).1.flatMap limbsOfChunk) (chunksExact32 (b :: bs)).2)
          = some ((Spec.Stack.chunks32 (b :: bs)).map beVal) := by
        by_cases hr : (chunksExact32 (b :: bs)).2 = []
        · rw [hc, hr]
          have := wordsOfLimbs_full _ hfull [] [] (by simp [wordsOfLimbs])
          simpa using this
        · have hr' : (chunksExact32 (b :: bs)).2.isEmpty = false := by
            cases h : (chunksExact32 (b :: bs)).2 with
            | nil => exact absurd h hr
            | cons _ _ => rfl
          have h0 : 0 < (chunksExact32 (b :: bs)).2.length := List.length_pos_iff.mpr hr
          obtain ⟨T, hT, hT4, hTv⟩ := writePartialLastWord_spec _ (chunksExact32 (b :: bs)).2
            (flatMap_limbs_length _ hfull) h0 (by rw [hrem]; omega)
          rw [hr', hT, hc, if_neg hr]
          have := wordsOfLimbs_full _ hfull T [leVal T] (words_of_four T hT4)
          simp only [Bool.false_eq_true, if_false]
          rw [this, hTv]; simp
      simp only [key]
      have : ((Spec.Stack.chunks32 (b :: bs)).map beVal).length = ((b :: bs).length + 31) / 32 := by
        rw [List.length_map, hlen]; rfl
      rw [if_pos this, hmap]

theorem pushSlice_refines (d bs : List Nat) (hd : d.length ≤ STACK_LIMIT) :
    abs (step d (.pushSlice bs)) = Spec.Stack.pushSlice d.reverse bs := by
  simp only [step, abs, pushSlice_eq d bs hd, Spec.Stack.pushSlice, Spec.Stack.LIMIT, List.length_reverse]
  by_cases h : d.length + Spec.Stack.ceil32 bs.length > STACK_LIMIT
  · have h' : d.length + Spec.Stack.ceil32 bs.length > 1024 := h
    rw [if_pos h, if_pos h']; simp [Out.ofUnit]
  · have h' : ¬ d.length + Spec.Stack.ceil32 bs.length > 1024 := h
    rw [if_neg h, if_neg h']; simp [Out.ofUnit]

theorem pushB256_refines (d bs : List Nat) (hd : d.length ≤ STACK_LIMIT) :
    abs (step d (.pushB256 bs)) = Spec.Stack.push d.reverse (Spec.Stack.beNat bs) := by
  have := push_refines d (beVal bs) hd
  rw [beVal_eq_beNat] at this
  simpa [step, pushB256, beVal_eq_beNat] using this

theorem popNUnsafe_rev (k : Nat) : ∀ s : List Nat, k ≤ s.length →
    popNUnsafe k s.reverse = ((s.drop k).reverse, .ok (s.take k)) := by
  induction k with
  | zero => intro s _; simp [popNUnsafe]
  | succ k ih =>
    intro s hk
    cases s with
    | nil => simp at hk
    | cons v s =>
      have := ih s (by simpa using hk)
      simp [popNUnsafe, popUnsafe, this]

theorem popN_refines (d : List Nat) (k : Nat) :
    abs (step d (.popN k)) = Spec.Stack.popN d.reverse k := by
  simp only [abs, step, popMacro, Spec.Stack.popN, List.length_reverse]
  by_cases h : d.length < k
  · simp [h, Out.ofWords]
  · have := popNUnsafe_rev k d.reverse (by simp; omega)
    rw [List.reverse_reverse] at this
    simp [h, this, Out.ofWords]

theorem popTop_refines (d : List Nat) (k v : Nat) (hk : 0 < k) :
    abs (step d (.popTop k v)) = Spec.Stack.popTop d.reverse k v := by
  simp only [abs, step, popTopMacro, Spec.Stack.popTop, List.length_reverse]
  by_cases h : d.length < k
  · simp [h, Out.ofWordsTop]
  · have := popNUnsafe_rev (k - 1) d.reverse (by simp; omega)
    rw [List.reverse_reverse] at this
    rw [if_neg h, if_neg h, this]
    have hlen : (d.reverse.drop (k - 1)).length = d.length - (k - 1) := by simp
    cases hs : d.reverse.drop (k - 1) with
    | nil => rw [hs] at hlen; simp at hlen; omega
    | cons t rest =>
      have e1 : (t :: rest).reverse.length - 1 < (t :: rest).reverse.length := by simp
      have e0 : ¬ (t :: rest).reverse.length = 0 := by simp
      simp only [if_neg e0, List.getElem?_eq_getElem e1]
      simp only [Out.ofWordsTop]
      rw [reverse_set _ _ _ e1]
      simp

theorem step_refines (d : List Nat) (op : Op) (hd : d.length ≤ STACK_LIMIT) (hp : op.pre) :
    abs (step d op) = Spec.Stack.step d.reverse op := by
  cases op with
  | push v => exact push_refines d v hd
  | pushB256 bs => exact pushB256_refines d bs hd
  | pop => exact pop_refines d
  | peek n => exact peek_refines d n
  | dup n => exact dup_refines d n hp
  | swap n => exact swap_refines d n hp.1 hp.2
  | exchange n m => exact exchange_refines d n m hp.1 hp.2
  | set n v => exact set_refines d n v
  | pushSlice bs => exact pushSlice_refines d bs hd
  | popN k => exact popN_refines d k
  | popTop k v => exact popTop_refines d k v hp

/-! ### what one step of the Spec can do -/

theorem beNat_lt (bs : List Nat) (hb : ∀ b ∈ bs, b < 256) : Spec.Stack.beNat bs < 256 ^ bs.length := by
  have := foldl_be_lt bs hb 0
  rwa [foldl_be, Nat.zero_mul, Nat.zero_add, Nat.zero_add, Nat.one_mul] at this

theorem beNat_lt_W (bs : List Nat) (hl : bs.length ≤ 32) (hb : ∀ b ∈ bs, b < 256) :
    Spec.Stack.beNat bs < W := by
  have h1 := beNat_lt bs hb
  have h2 : 256 ^ bs.length ≤ 256 ^ 32 := Nat.pow_le_pow_right (by omega) hl
  rw [pow256_32] at h2; omega

/-- the words an operation brings with it -/
def payload : Op → List Nat
  | .push v => [v]
  | .set _ v => [v]
  | .popTop _ v => [v]
  | .pushB256 bs => [Spec.Stack.beNat bs]
  | .pushSlice bs => (Spec.Stack.chunks32 bs).map Spec.Stack.beNat
  | _ => []

theorem payload_lt {op : Op} (hop : op.wf) : ∀ w ∈ payload op, w < W := by
  cases op with
  | pushB256 bs =>
    intro w hw; rw [List.mem_singleton.mp hw]; exact beNat_lt_W bs (Nat.le_of_eq hop.1) hop.2
  | pushSlice bs =>
    intro w hw
    obtain ⟨c, hc, rfl⟩ := List.mem_map.mp hw
    have := chunks32_mem bs c hc
    exact beNat_lt_W c this.1 (fun b hb => hop b (this.2 b hb))
  | push v => intro w hw; rw [List.mem_singleton.mp hw]; exact hop
  | set n v => intro w hw; rw [List.mem_singleton.mp hw]; exact hop
  | popTop k v => intro w hw; rw [List.mem_singleton.mp hw]; exact hop
  | _ => nofun

/-- a list the Spec may reach from `s` by `op`: within the limit if `s` was, and made of words of `s` and words the
operation brought -/
def Within (s : List Nat) (op : Op) (s' : List Nat) : Prop :=
  (s.length ≤ 1024 → s'.length ≤ 1024) ∧ ∀ w ∈ s', w ∈ s ∨ w ∈ payload op

theorem Within.refl (s : List Nat) (op : Op) : Within s op s := ⟨id, fun _ h => .inl h⟩

theorem Within.cons {s : List Nat} {op : Op} {v : Nat} (hv : v ∈ s ∨ v ∈ payload op) (hl : s.length < 1024) :
    Within s op (v :: s) :=
  ⟨fun _ => hl, fun _ hw => (List.mem_cons.mp hw).elim (fun e => e ▸ hv) .inl⟩

theorem Within.set {s s' : List Nat} {op : Op} (h : Within s op s') (i : Nat) {v : Nat}
    (hv : v ∈ s ∨ v ∈ payload op) : Within s op (s'.set i v) :=
  ⟨fun hs => by rw [List.length_set]; exact h.1 hs,
   fun w hw => (List.mem_or_eq_of_mem_set hw).elim (h.2 w) (fun e => e ▸ hv)⟩

theorem Within.sublist {s s' : List Nat} {op : Op} (h : s'.Sublist s) : Within s op s' :=
  ⟨fun hs => Nat.le_trans h.length_le hs, fun _ hw => .inl (h.subset hw)⟩

/-- what one step of the Spec can do: report an error and leave the list as it is, or succeed with a list `Within` -/
inductive Effect (s : List Nat) (op : Op) : List Nat × Out → Prop
  | err (e : Err) : Effect s op (s, .err e)
  | ok {s' : List Nat} {o : Out} : Within s op s' → o.failed = false → Effect s op (s', o)

theorem Effect.within {s : List Nat} {op : Op} {r : List Nat × Out} (h : Effect s op r) : Within s op r.1 := by
  cases h with
  | err e => exact .refl s op
  | ok hw _ => exact hw

theorem Effect.clean {s : List Nat} {op : Op} {r : List Nat × Out} (h : Effect s op r) : r.2 ≠ .panic ∧ r.2 ≠ .ub := by
  cases h with
  | err e => exact ⟨nofun, nofun⟩
  | @ok _ o _ ho =>
    show o ≠ .panic ∧ o ≠ .ub
    exact ⟨fun e => (by subst e; cases ho), fun e => (by subst e; cases ho)⟩

theorem Effect.unchanged_or_ok {s : List Nat} {op : Op} {r : List Nat × Out} (h : Effect s op r) :
    r.1 = s ∨ r.2.failed = false := by
  cases h with
  | err e => exact .inl rfl
  | ok _ ho => exact .inr ho

theorem spec_step_effect (s : List Nat) (op : Op) : Effect s op (Spec.Stack.step s op) := by
  have hpush : ∀ v, v ∈ payload op → Effect s op (Spec.Stack.push s v) := by
    intro v hv
    unfold Spec.Stack.push
    split
    · exact .ok (.cons (.inr hv) ‹_›) rfl
    · exact .err _
  have hex : ∀ n m, Effect s op (Spec.Stack.exchange s n m) := by
    intro n m
    unfold Spec.Stack.exchange
    split
    · rename_i a b ha hb
      exact .ok (((Within.refl s op).set n (.inl (List.mem_of_getElem? hb))).set _ (.inl (List.mem_of_getElem? ha))) rfl
    · exact .err _
  cases op with
  | push v => exact hpush v List.mem_cons_self
  | pushB256 bs => exact hpush _ List.mem_cons_self
  | pop =>
    cases s with
    | nil => exact .err _
    | cons a s => exact .ok (.sublist (List.sublist_cons_self a s)) rfl
  | peek n =>
    show Effect s _ (Spec.Stack.peek s n)
    unfold Spec.Stack.peek
    split
    · exact .ok (.refl s _) rfl
    · exact .err _
  | dup n =>
    show Effect s _ (Spec.Stack.dup s n)
    unfold Spec.Stack.dup
    split
    · exact .err _
    · rename_i v hv
      split
      · exact .ok (.cons (.inl (List.mem_of_getElem? hv)) ‹_›) rfl
      · exact .err _
  | swap n => exact hex 0 n
  | exchange n m => exact hex n m
  | set n v =>
    show Effect s _ (Spec.Stack.set s n v)
    unfold Spec.Stack.set
    split
    · exact .ok ((Within.refl s _).set n (.inr List.mem_cons_self)) rfl
    · exact .err _
  | pushSlice bs =>
    show Effect s _ (Spec.Stack.pushSlice s bs)
    unfold Spec.Stack.pushSlice
    split
    · exact .err _
    · rename_i h
      refine .ok ⟨fun _ => ?_, fun w hw => ?_⟩ rfl
      · rw [List.length_append, List.length_reverse, List.length_map, chunks32_length]
        exact Nat.le_of_not_gt (by rwa [Nat.add_comm] at h)
      · exact (List.mem_append.mp hw).elim (fun h => .inr (List.mem_reverse.mp h)) .inl
  | popN k =>
    show Effect s _ (Spec.Stack.popN s k)
    unfold Spec.Stack.popN
    split
    · exact .err _
    · exact .ok (.sublist (List.drop_sublist k s)) rfl
  | popTop k v =>
    show Effect s _ (Spec.Stack.popTop s k v)
    unfold Spec.Stack.popTop
    split
    · exact .err _
    · split
      · rename_i t rest hdr
        -- `v :: rest` is `s.drop (k - 1)` with its head replaced by `v`
        have := ((Within.sublist (op := .popTop k v) (List.drop_sublist (k - 1) s)).set 0 (.inr List.mem_cons_self))
        rw [hdr] at this
        exact .ok this rfl
      · exact .err _

theorem abs_fst_length (p : List Nat × Out) : (abs p).1.length = p.1.length := by simp [abs]

theorem step_len_le (d : List Nat) (op : Op) (hd : d.length ≤ STACK_LIMIT) (hp : op.pre) :
    (step d op).1.length ≤ STACK_LIMIT := by
  have := (spec_step_effect d.reverse op).within.1 (by simpa [STACK_LIMIT] using hd)
  rw [← step_refines d op hd hp, abs_fst_length] at this
  exact this

theorem step_no_panic_ub (d : List Nat) (op : Op) (hd : d.length ≤ STACK_LIMIT) (hp : op.pre) :
    (step d op).2 ≠ .panic ∧ (step d op).2 ≠ .ub := by
  have := (spec_step_effect d.reverse op).clean
  rw [← step_refines d op hd hp] at this
  exact this

theorem run_refines (ops : List Op) : ∀ (d : List Nat), d.length ≤ STACK_LIMIT → (∀ op ∈ ops, op.pre) →
    ((run d ops).1.reverse, (run d ops).2) = Spec.Stack.run d.reverse ops := by
  induction ops with
  | nil => intro d _ _; rfl
  | cons op ops ih =>
    intro d hd hp
    have h1 := step_refines d op hd (hp op (by simp))
    have h2 := ih (step d op).1 (step_len_le d op hd (hp op (by simp))) (fun o ho => hp o (by simp [ho]))
    simp only [run, Spec.Stack.run]
    rw [← h1]
    simp only [abs]
    rw [← h2]

theorem run_len_le (ops : List Op) : ∀ (d : List Nat), d.length ≤ STACK_LIMIT → (∀ op ∈ ops, op.pre) →
    (run d ops).1.length ≤ STACK_LIMIT := by
  induction ops with
  | nil => intro d hd _; exact hd
  | cons op ops ih =>
    intro d hd hp
    exact ih (step d op).1 (step_len_le d op hd (hp op (by simp))) (fun o ho => hp o (by simp [ho]))

theorem unchanged_or_ok_of_refines {d : List Nat} {op : Op} (h : abs (step d op) = Spec.Stack.step d.reverse op) :
    (step d op).1 = d ∨ (step d op).2.failed = false := by
  have e := (spec_step_effect d.reverse op).unchanged_or_ok
  rw [← h] at e
  exact e.imp_left List.reverse_inj.mp

/-- The Spec's `Effect.unchanged_or_ok`, carried to the model by `unchanged_or_ok_of_refines` wherever an operation
refines the Spec without the length bound (all but the pushes, inside `Op.pre`); the pushes and the calls outside `Op.pre`
(`ub` with the buffer handed back, except `popTop 0 v`, which overwrites the top of a non-empty buffer and succeeds) are
read off the model. `step_fail_unchanged` is this as an implication. -/
theorem step_unchanged_or_ok (d : List Nat) (op : Op) : (step d op).1 = d ∨ (step d op).2.failed = false := by
  have hpush : ∀ v, (push d v).1 = d ∨ (Out.ofUnit (push d v).2).failed = false := by
    intro v
    unfold push
    split
    · exact .inl rfl
    · exact .inr rfl
  have hex : ∀ n m, (exchange d n m).1 = d ∨ (Out.ofUnit (exchange d n m).2).failed = false := by
    intro n m
    by_cases hp : 0 < m ∧ n + m < U64
    · exact unchanged_or_ok_of_refines (op := .exchange n m) (exchange_refines d n m hp.1 hp.2)
    · unfold exchange
      by_cases c0 : m = 0
      · rw [if_pos c0]; exact .inl rfl
      · rw [if_neg c0, if_pos (by omega)]; exact .inl rfl
  cases op with
  | push v => exact hpush v
  | pushB256 bs => exact hpush _
  | pop => exact unchanged_or_ok_of_refines (pop_refines d)
  | peek n => exact unchanged_or_ok_of_refines (peek_refines d n)
  | dup n =>
    by_cases hn : 0 < n
    · exact unchanged_or_ok_of_refines (dup_refines d n hn)
    · show (dup d n).1 = d ∨ _
      unfold dup
      rw [if_pos (by omega)]; exact .inl rfl
  | swap n => exact hex 0 n
  | exchange n m => exact hex n m
  | set n v => exact unchanged_or_ok_of_refines (set_refines d n v)
  | pushSlice bs =>
    show (pushSlice d bs).1 = d ∨ (Out.ofUnit (pushSlice d bs).2).failed = false
    unfold pushSlice
    split
    · exact .inl rfl
    · dsimp only
      split
      · exact .inl rfl
      · split
        · split
          · exact .inr rfl
          · exact .inl rfl
        · exact .inl rfl
  | popN k => exact unchanged_or_ok_of_refines (popN_refines d k)
  | popTop k v =>
    by_cases hk : 0 < k
    · exact unchanged_or_ok_of_refines (popTop_refines d k v hk)
    · -- `pop_top!` with no name: nothing is popped; the top is overwritten, or the buffer is empty
      have hk0 : k = 0 := by omega
      subst hk0
      have e : popNUnsafe (0 - 1) d = (d, .ok []) := rfl
      show (popTopMacro d 0 v).1 = d ∨ (Out.ofWordsTop (popTopMacro d 0 v).2).failed = false
      unfold popTopMacro
      rw [if_neg (Nat.not_lt_zero _), e]
      dsimp only
      by_cases c0 : d.length = 0
      · rw [if_pos c0]; exact .inl rfl
      · rw [if_neg c0, List.getElem?_eq_getElem (by omega)]; exact .inr rfl

theorem step_fail_unchanged (d : List Nat) (op : Op)
    (hf : (step d op).2.failed = true) : (step d op).1 = d :=
  (step_unchanged_or_ok d op).resolve_right (by rw [hf]; exact Bool.noConfusion)

theorem step_words_lt (d : List Nat) (op : Op) (hd : d.length ≤ STACK_LIMIT) (hw : ∀ w ∈ d, w < W)
    (hp : op.pre) (hop : op.wf) : ∀ w ∈ (step d op).1, w < W := by
  have := (spec_step_effect d.reverse op).within.2
  rw [← step_refines d op hd hp] at this
  exact fun w hm => (this w (List.mem_reverse.mpr hm)).elim (fun h => hw w (List.mem_reverse.mp h)) (payload_lt hop w)
/-! The other two LIFO facts of C12, `peek_push` and `push_pop`, are proved in Props/C12.lean. -/

theorem pop_push (d : List Nat) (v : Nat) (h : d.length < STACK_LIMIT) :
    pop (push d v).1 = (d, .ok v) := by
  have : ¬ d.length = STACK_LIMIT := by omega
  simp [push, pop, this]

/-- what `push_slice` does with a one-byte slice: the *value* 0x2a (PUSH1 0x2a pushes 42) -/
theorem pushSlice_2a : pushSlice [] [0x2a] = ([42], .ok ()) := by
  rw [pushSlice_eq _ _ (by simp [STACK_LIMIT])]
  simp [Spec.Stack.ceil32, STACK_LIMIT, chunks32_ne, chunks32_nil, Spec.Stack.beNat]

/-- a 33-byte slice: one full word and a one-byte last chunk -/
theorem pushSlice_33 :
    pushSlice [7] (List.replicate 31 0 ++ [1] ++ [0xab]) = ([7, 1, 0xab], .ok ()) := by
  rw [pushSlice_eq _ _ (by simp [STACK_LIMIT])]
  simp [Spec.Stack.ceil32, STACK_LIMIT, chunks32_ne, chunks32_nil, Spec.Stack.beNat, List.replicate]

/-- the arguments the opcode handlers of `instructions/stack.rs` compute satisfy the preconditions -/
theorem instrOp_pre (opcode : Nat) (imm : List Nat) (op : Op) (hi : ∀ b ∈ imm, b < 256)
    (h : instrOp opcode imm = some op) : op.pre := by
  have hU := U64_val
  unfold instrOp at h
  by_cases h1 : opcode = 0x50
  · rw [if_pos h1] at h; cases h; trivial
  rw [if_neg h1] at h
  by_cases h2 : opcode = 0x5f
  · rw [if_pos h2] at h; cases h; trivial
  rw [if_neg h2] at h
  by_cases h3 : 0x60 ≤ opcode ∧ opcode ≤ 0x7f
  · rw [if_pos h3] at h; cases h; trivial
  rw [if_neg h3] at h
  by_cases h4 : 0x80 ≤ opcode ∧ opcode ≤ 0x8f
  · rw [if_pos h4] at h; cases h; show 0 < _; omega
  rw [if_neg h4] at h
  by_cases h5 : 0x90 ≤ opcode ∧ opcode ≤ 0x9f
  · rw [if_pos h5] at h; cases h; show 0 < _ ∧ _ < U64; omega
  rw [if_neg h5] at h
  split at h
  · cases h; exact Nat.succ_pos _
  · have := hi _ List.mem_cons_self
    cases h; show 0 < _ ∧ _ < U64; omega
  · have := hi _ List.mem_cons_self
    cases h; show 0 < _ ∧ _ < U64; omega
  · cases h

end Revm.Proofs.Stack
