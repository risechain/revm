import Revm.Model.Evm
/-! The frame loop `runLoop` / `runEnded` (a mutual pair over the fuel) as ONE function of a `Next`: `contOf`, which is
`fuel` turns (`turn`) and then out of fuel unless done. An induction over the fuel rewrites with `contOf_succ` /
`contOf_zero` and has one induction hypothesis instead of a conjunction of two; `contOf_rule` is that induction done once,
for a predicate on loop states that every turn keeps up to a set of admitted failures (`TotE`). Termination, generic in
the subroutine discipline: when every turn from a state in `I` keeps `I` and lowers `μ` or stops with an error other than
the fuel (`EvmTerm.Decreasing`), more fuel than the measure is enough (`contOf_fuel`; `runLoop_fuel` is the same for the
mutual pair); the instance for the whole EVM is `EvmLink.loop_decreasing`. `bind_ok` inverts a completed `>>=` of
`Except`; the modules above start from it. -/
namespace Revm.Proofs.Evm
open Revm Revm.Model Revm.Model.Evm

/-- for non-vacuity examples: a run that completes -/
def isOk {ε α} : Except ε α → Bool
  | .ok _ => true
  | .error _ => false

theorem exists_of_isOk {ε α} {x : Except ε α} (h : isOk x = true) : ∃ r, x = .ok r := by
  cases x with
  | ok r => exact ⟨r, rfl⟩
  | error e => exact Bool.noConfusion h

theorem bind_ok {ε α β : Type} {x : Except ε α} {f : α → Except ε β} {b : β} (h : (x >>= f) = .ok b) :
    ∃ a, x = .ok a ∧ f a = .ok b := by
  cases x with
  | error e => cases h
  | ok a => exact ⟨a, rfl, h⟩

def contOf {κ : Type} (C : CpOps κ) (cfg : Cfg) (fuel : Nat) : Next κ → R (Interp.ChildResult × World)
  | .run st w => runLoop C cfg fuel st w
  | .ended t r res o s w => runEnded C cfg fuel t r res o s w
  | .done r w => pure (r, w)

/-- one turn of the loop: an instruction of the top frame, or the return of a frame that ended without one -/
def turn {κ : Type} (C : CpOps κ) (cfg : Cfg) : Next κ → R (Next κ)
  | .run st w => iterate C cfg st w
  | .ended t r res o s w => frameEnd C cfg t r res o s w
  | .done r w => pure (.done r w)

theorem contOf_succ {κ : Type} (C : CpOps κ) (cfg : Cfg) (fuel : Nat) (nx : Next κ) :
    contOf C cfg (fuel + 1) nx = turn C cfg nx >>= contOf C cfg fuel := by
  cases nx with
  | run st w =>
    show runLoop C cfg (fuel + 1) st w = _
    rw [runLoop]
    show (iterate C cfg st w >>= _) = (iterate C cfg st w >>= _)
    cases iterate C cfg st w with
    | error e => rfl
    | ok n => cases n <;> rfl
  | ended t r res o s w =>
    show runEnded C cfg (fuel + 1) t r res o s w = _
    rw [runEnded]
    show (frameEnd C cfg t r res o s w >>= _) = (frameEnd C cfg t r res o s w >>= _)
    cases frameEnd C cfg t r res o s w with
    | error e => rfl
    | ok n => cases n <;> rfl
  | done r w => rfl

theorem contOf_zero {κ : Type} (C : CpOps κ) (cfg : Cfg) (nx : Next κ) :
    contOf C cfg 0 nx = match nx with
      | .done r w => pure (r, w)
      | _ => throw .outOfFuel := by
  cases nx with
  | run st w => show runLoop C cfg 0 st w = _; rw [runLoop]
  | ended t r res o s w => show runEnded C cfg 0 t r res o s w = _; rw [runEnded]
  | done r w => rfl

/-- `x` succeeds with a value satisfying `P`, or fails with an error in `E`. `EvmLink.Tot`, `Tot2`, `Tot3` are this `match`
written out at their set of admitted failures (so `TotE` lemmas apply to them as they stand); `EvmLink.NF` is it for
"all but the fuel" through `nf_iff`. `E := fun _ => True` says what completed runs satisfy. -/
def TotE {α} (E : Err → Prop) (x : R α) (P : α → Prop) : Prop :=
  match x with
  | .ok a => P a
  | .error e => E e

theorem TotE.bind {α β} {E : Err → Prop} {x : R α} {f : α → R β} {P : α → Prop} {Q : β → Prop} (h1 : TotE E x P)
    (h2 : ∀ a, x = .ok a → P a → TotE E (f a) Q) : TotE E (x >>= f) Q := by
  cases x with
  | error e => exact h1
  | ok a => exact h2 a rfl h1

theorem TotE.mono {α} {E E' : Err → Prop} {x : R α} {P Q : α → Prop} (h : TotE E x P) (he : ∀ e, E e → E' e)
    (hq : ∀ a, x = .ok a → P a → Q a) : TotE E' x Q := by
  cases x with
  | error e => exact he e h
  | ok a => exact hq a rfl h

/-- a predicate `J` on loop states that every turn keeps, up to failures in `E`, holds of the result of every run, up to
failures in `E`, the fuel among them -/
theorem contOf_rule {κ : Type} {C : CpOps κ} {cfg : Cfg} {E : Err → Prop} {J : Next κ → Prop} (hfuel : E .outOfFuel)
    (ht : ∀ n, J n → TotE E (turn C cfg n) J) (fuel : Nat) (n : Next κ) (h : J n) :
    TotE E (contOf C cfg fuel n) (fun p => J (.done p.1 p.2)) := by
  induction fuel generalizing n with
  | zero =>
    rw [contOf_zero]
    cases n with
    | done r w => exact h
    | run st w => exact hfuel
    | ended t rs r o s w => exact hfuel
  | succ k ih =>
    rw [contOf_succ]
    exact TotE.bind (ht n h) fun nx _ hnx => ih nx hnx

end Revm.Proofs.Evm

namespace Revm.Proofs.EvmTerm
open Revm Revm.Model Revm.Model.Evm Revm.Proofs.Evm

variable {κ : Type}

/-- `μ` strictly decreases along every turn of the loop from states in `I`, and no turn fails with `outOfFuel`: with
fuel above `μ` the loop then ends for a reason other than the fuel (`contOf_fuel`) -/
structure Decreasing (C : CpOps κ) (cfg : Cfg) (I : Next κ → Prop) (μ : Next κ → Nat) : Prop where
  iter : ∀ st w, I (.run st w) → match iterate C cfg st w with
    | .ok n => I n ∧ μ n < μ (.run st w)
    | .error e => e ≠ .outOfFuel
  fend : ∀ t r res out s w, I (.ended t r res out s w) → match frameEnd C cfg t r res out s w with
    | .ok n => I n ∧ μ n < μ (.ended t r res out s w)
    | .error e => e ≠ .outOfFuel

theorem contOf_fuel {C : CpOps κ} {cfg : Cfg} {I : Next κ → Prop} {μ : Next κ → Nat} (D : Decreasing C cfg I μ)
    (fuel : Nat) (nx : Next κ) (hi : I nx) (hm : μ nx < fuel) : contOf C cfg fuel nx ≠ .error .outOfFuel := by
  induction fuel generalizing nx with
  | zero => exact absurd hm (Nat.not_lt_zero _)
  | succ n ih =>
    -- a turn that lowers the measure leaves enough fuel for the rest; one that stops does not stop for lack of fuel
    have key : ∀ x : R (Next κ), (match x with
          | .ok n' => I n' ∧ μ n' < μ nx
          | .error e => e ≠ .outOfFuel) → (x >>= contOf C cfg n) ≠ .error .outOfFuel := by
      intro x hx
      cases x with
      | error e => intro h; cases h; exact hx rfl
      | ok n' => exact ih n' hx.1 (by omega)
    rw [contOf_succ]
    cases nx with
    | run st w => exact key _ (D.iter st w hi)
    | ended t r res out s w => exact key _ (D.fend t r res out s w hi)
    | done r w => intro h; cases h

theorem runLoop_fuel {C : CpOps κ} {cfg : Cfg} {I : Next κ → Prop} {μ : Next κ → Nat} (D : Decreasing C cfg I μ) :
    ∀ fuel : Nat,
      (∀ st w, I (.run st w) → μ (.run st w) < fuel → runLoop C cfg fuel st w ≠ .error .outOfFuel) ∧
      (∀ t r res out s w, I (.ended t r res out s w) → μ (.ended t r res out s w) < fuel →
        runEnded C cfg fuel t r res out s w ≠ .error .outOfFuel) :=
  fun fuel => ⟨fun st w => contOf_fuel D fuel (.run st w), fun t r res out s w => contOf_fuel D fuel (.ended t r res out s w)⟩

end Revm.Proofs.EvmTerm
