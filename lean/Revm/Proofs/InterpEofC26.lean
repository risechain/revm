import Revm.Proofs.InterpEofC26Table
import Revm.Proofs.EofTop
/-! C25 ↔ C26, the in-range half: C25's scan (`boundaries`) and C26's linear decoding (`IsInstrStart`) visit the same
offsets, so what C26 proves about a validated container (`Spec.Eof.SectionOk` at every instruction start) gives the
in-range half of C25's `wfCtxB` at every boundary (`inRange_of_validated`). -/
namespace Revm.Proofs.Interp
open Revm Revm.Model Revm.Model.Interp

theorem opcode_row {op : Nat} (h : op < 256) :
    eofTag (decode op) = byteTag op ∧ staticLen (decode op) = 1 + immOf op ∧
    ((byteTag op = 8 ∨ byteTag op = 9) → notEofOf op = true) ∧
    (byteTag op = 7 → (EofValidate.opInfo op).isSome = true) ∧
    (termOf op = true → notEofOf op = false → terminating (decode op) = true) := by
  have := List.all_eq_true.mp opcode_tables_agree op (List.mem_range.mpr h)
  simp only [Bool.and_eq_true, beq_iff_eq, Bool.or_eq_true, bne_iff_ne, ne_eq, Bool.not_eq_true'] at this
  obtain ⟨⟨⟨⟨h1, h2⟩, h3⟩, h4⟩, h5⟩ := this
  refine ⟨h1, h2, fun h89 => h3.resolve_left fun h => h89.elim h.1 h.2, fun h7 => h4.resolve_left fun h => h h7,
    fun ht hn => h5.resolve_left fun h => ?_⟩
  rcases h with h | h
  · rw [ht] at h; cases h
  · rw [hn] at h; cases h

theorem instrLenOf_static (I : Instr) (sec : List Nat) (i : Nat) :
    instrLenOf I sec i = staticLen I + (if eofTag I = 7 then 2 + 2 * sec.getD (i + 1) 0 else 0) := by
  cases I
  case rjumpv => exact Nat.add_assoc 2 2 _
  all_goals rfl

/-- an opcode byte and the instruction `decode` makes of it: one of the ten whose immediates refer to the container or
which EOF forbids, under the byte the validator knows it by, or any other (`opView`: one kernel pass over the two
opcode tables, `opTable_agrees`) -/
inductive OpView : Nat → Instr → Prop
  | callf : OpView 0xe3 .callf
  | jumpf : OpView 0xe5 .jumpf
  | eofcreate : OpView 0xec .eofcreate
  | returnContract : OpView 0xee .returnContract
  | rjump : OpView 0xe0 .rjump
  | rjumpi : OpView 0xe1 .rjumpi
  | rjumpv : OpView 0xe2 .rjumpv
  | codesize : OpView 0x38 .codesize
  | codecopy : OpView 0x39 .codecopy
  | retf : OpView 0xe4 .retf
  | other {op : Nat} {I : Instr} (h : eofTag I = 0) (hb : byteTag op = 0) : OpView op I

theorem opView {op : Nat} (h : op < 256) : OpView op (decode op) := by
  have t1 := (opcode_row h).1
  by_cases h1 : op = 0xe3
  · subst h1; exact .callf
  by_cases h2 : op = 0xe5
  · subst h2; exact .jumpf
  by_cases h3 : op = 0xec
  · subst h3; exact .eofcreate
  by_cases h4 : op = 0xee
  · subst h4; exact .returnContract
  by_cases h5 : op = 0xe0
  · subst h5; exact .rjump
  by_cases h6 : op = 0xe1
  · subst h6; exact .rjumpi
  by_cases h7 : op = 0xe2
  · subst h7; exact .rjumpv
  by_cases h8 : op = 0x38
  · subst h8; exact .codesize
  by_cases h9 : op = 0x39
  · subst h9; exact .codecopy
  by_cases h10 : op = 0xe4
  · subst h10; exact .retf
  have h0 : byteTag op = 0 := by
    unfold byteTag
    rw [if_neg h1, if_neg h2, if_neg h3, if_neg h4, if_neg h5, if_neg h6, if_neg h7, if_neg h8, if_neg h9, if_neg h10]
  exact .other (t1.trans h0) h0

/-! ## C25's scan visits only instruction starts of C26's linear decoding -/

theorem getD_of_lt {sec : List Nat} {j : Nat} (hj : j < sec.length) : sec.getD j 0 = sec[j] := by
  rw [List.getD_eq_getElem?_getD, List.getElem?_eq_getElem hj]; rfl

theorem instrLen_split {sec : List Nat} (hb : ∀ b ∈ sec, b < 256) {j : Nat} (hj : j < sec.length) :
    instrLen sec j = 1 + immOf sec[j] + (if sec[j] = 0xe2 then 2 + 2 * sec.getD (j + 1) 0 else 0) := by
  have hop := hb _ (List.getElem_mem hj)
  have hv := opView hop
  unfold instrLen
  rw [instrLenOf_static, getD_of_lt hj, (opcode_row hop).2.1]
  congr 1
  generalize decode sec[j] = I at hv
  generalize sec[j] = b at hv
  cases hv
  case other hb0 h0 =>
    rw [h0, if_neg (by decide), if_neg]
    intro e; subst e; exact absurd hb0 (by decide)
  all_goals rfl

/-- length of an instruction in C25's scan = 1 + C26's `immLen` (except for an RJUMPV whose count byte is missing) -/
theorem instrLen_eq {sec : List Nat} (hb : ∀ b ∈ sec, b < 256) {j : Nat} (hj : j < sec.length)
    (hc : j + 1 < sec.length ∨ sec[j] ≠ 0xe2) :
    instrLen sec j = 1 + Spec.Eof.immLen sec.toArray j := by
  rw [instrLen_split hb hj]
  unfold Spec.Eof.immLen immOf
  rw [List.getElem?_toArray, List.getElem?_eq_getElem hj]
  dsimp only
  by_cases h7 : sec[j] = 0xe2
  · have hj1 : j + 1 < sec.length := hc.resolve_right (not_not_intro h7)
    have hsome := (opcode_row (hb _ (List.getElem_mem hj))).2.2.2.1 (by rw [h7]; rfl)
    rw [if_pos h7, if_pos (show sec[j] = EofValidate.RJUMPV from h7), List.getElem?_toArray, getD_of_lt hj1,
      List.getElem?_eq_getElem hj1]
    cases hinf : EofValidate.opInfo sec[j] with
    | none => rw [hinf] at hsome; cases hsome
    | some inf => simp only []; omega
  · rw [if_neg h7, if_neg (show ¬ sec[j] = EofValidate.RJUMPV from h7)]
    cases EofValidate.opInfo sec[j] <;> rfl

theorem scan_reach {sec : List Nat} (hb : ∀ b ∈ sec, b < 256) :
    ∀ (f j i : Nat), i ∈ scan sec f j → Spec.Eof.Reach sec.toArray j i ∧ i < sec.length := by
  intro f
  induction f with
  | zero => intro j i h; simp [scan] at h
  | succ f ih =>
    intro j i h
    unfold scan at h
    by_cases hj : j < sec.length
    · rw [if_pos hj] at h
      rcases List.mem_cons.mp h with rfl | h
      · exact ⟨.refl _, hj⟩
      · obtain ⟨hr, hi⟩ := ih _ _ h
        refine ⟨?_, hi⟩
        by_cases hc : j + 1 < sec.length ∨ sec[j] ≠ 0xe2
        · rw [instrLen_eq hb hj hc] at hr
          refine .step (by rw [List.size_toArray]; exact hj) ?_
          have e : j + (1 + Spec.Eof.immLen sec.toArray j) = j + 1 + Spec.Eof.immLen sec.toArray j := by omega
          rw [← e]; exact hr
        · -- an RJUMPV in the last byte: the scan ends here
          exfalso
          have h1 : ¬ (j + 1 < sec.length) := fun x => hc (Or.inl x)
          have hle := Proofs.EofValidate.Reach.le hr
          rw [instrLen_split hb hj] at hle
          omega
    · rw [if_neg hj] at h; cases h

theorem boundary_isInstrStart {sec : List Nat} (hb : ∀ b ∈ sec, b < 256) {i : Nat} (h : i ∈ boundaries sec) :
    Spec.Eof.IsInstrStart sec.toArray i := by
  obtain ⟨hr, hi⟩ := scan_reach hb _ _ _ h
  exact ⟨hr, by rw [List.size_toArray]; exact hi⟩

/-! ## the in-range half of `instrOk` from C26's `InstrOk` -/

theorem u16At_of_spec {sec : List Nat} {k v : Nat} (h : Spec.Eof.u16At sec.toArray k = some v) :
    u16At sec k = v := by
  unfold Spec.Eof.u16At at h
  simp only [List.getElem?_toArray] at h
  unfold u16At
  rw [List.getD_eq_getElem?_getD, List.getD_eq_getElem?_getD]
  cases h1 : sec[k]? with
  | none => rw [h1] at h; simp at h
  | some a =>
    cases h2 : sec[k + 1]? with
    | none => rw [h1, h2] at h; simp at h
    | some b =>
      rw [h1, h2] at h
      simp only [Option.some.injEq] at h
      simpa using h

theorem i16At_eq (sec : List Nat) (p : Nat) : i16At sec p = EofValidate.toI16 (u16At sec p) := rfl

theorem getD_of_some {sec : List Nat} {k m : Nat} (h : sec.toArray[k]? = some m) : sec.getD k 0 = m := by
  rw [List.getElem?_toArray] at h
  rw [List.getD_eq_getElem?_getD, h]; rfl

/-- what C26 proves about the instruction at boundary `i`, in the vocabulary of C25's `instrOk` -/
def InRange (nTypes nContainers : Nat) (sec : List Nat) (i : Nat) : Prop :=
  i + instrLen sec i ≤ sec.length ∧
  (match decode (sec.getD i 0) with
   | .callf | .jumpf => u16At sec (i + 1) < nTypes
   | .eofcreate | .returnContract => sec.getD (i + 1) 0 < nContainers
   | .rjump | .rjumpi =>
     0 ≤ (i : Int) + 3 + i16At sec (i + 1) ∧ (i : Int) + 3 + i16At sec (i + 1) < sec.length
   | .rjumpv =>
     ∀ k, k ≤ sec.getD (i + 1) 0 →
       0 ≤ ((i + (4 + 2 * sec.getD (i + 1) 0) : Nat) : Int) + i16At sec (i + 2 + 2 * k) ∧
       ((i + (4 + 2 * sec.getD (i + 1) 0) : Nat) : Int) + i16At sec (i + 2 + 2 * k) < sec.length
   | .codesize | .codecopy => False
   | _ => True)

theorem sectionOk_inRange {sec : List Nat} {nT nC : Nat} (hb : ∀ b ∈ sec, b < 256)
    (h : Spec.Eof.SectionOk sec.toArray nT nC) {i : Nat} (hi : i ∈ boundaries sec) :
    i < sec.length ∧ InRange nT nC sec i := by
  have hs := boundary_isInstrStart hb hi
  have hlt : i < sec.length := by have := hs.2; rw [List.size_toArray] at this; exact this
  have ok := h i hs
  have hop : sec[i] < 256 := hb _ (List.getElem_mem hlt)
  have hcode : sec.toArray[i]? = some sec[i] := by rw [List.getElem?_toArray, List.getElem?_eq_getElem hlt]
  have himm := ok.imm_in
  rw [List.size_toArray] at himm
  -- an RJUMPV at a boundary has its count byte
  have hc : i + 1 < sec.length ∨ sec[i] ≠ 0xe2 := by
    by_cases h7 : sec[i] = 0xe2
    · left
      obtain ⟨m, hm, _⟩ := ok.rjumpv (by rw [hcode, h7]; rfl)
      rw [List.getElem?_toArray] at hm
      rcases Nat.lt_or_ge (i + 1) sec.length with hh | hh
      · exact hh
      · rw [List.getElem?_eq_none hh] at hm; cases hm
    · exact Or.inr h7
  have hlen := instrLen_eq hb hlt hc
  refine ⟨hlt, by omega, ?_⟩
  have target : ∀ {v : Nat} {p : Nat} {base : Int}, Spec.Eof.u16At sec.toArray p = some v →
      0 ≤ base + EofValidate.toI16 v → base + EofValidate.toI16 v < sec.toArray.size →
      0 ≤ base + i16At sec p ∧ base + i16At sec p < sec.length := fun hv h0 h1 => by
    rw [List.size_toArray] at h1
    rw [i16At_eq, u16At_of_spec hv]
    exact ⟨h0, h1⟩
  rw [getD_of_lt hlt]
  have hv := opView hop
  obtain ⟨op, inf, hk1, hk2, hk3⟩ := ok.known
  rw [hcode] at hk1
  generalize decode sec[i] = I at hv
  generalize hb' : sec[i] = b at hv hcode hk1
  cases hv
  case callf => obtain ⟨k, hk, hlt'⟩ := ok.section_idx (.inl hcode); rw [u16At_of_spec hk]; exact hlt'
  case jumpf => obtain ⟨k, hk, hlt'⟩ := ok.section_idx (.inr hcode); rw [u16At_of_spec hk]; exact hlt'
  case eofcreate => obtain ⟨k, hk, hlt'⟩ := ok.container_idx (.inl hcode); rw [getD_of_some hk]; exact hlt'
  case returnContract => obtain ⟨k, hk, hlt'⟩ := ok.container_idx (.inr hcode); rw [getD_of_some hk]; exact hlt'
  case rjump => obtain ⟨v, hv, h0, h1⟩ := ok.rjump (.inl hcode); exact target hv (by omega) (by omega)
  case rjumpi => obtain ⟨v, hv, h0, h1⟩ := ok.rjump (.inr hcode); exact target hv (by omega) (by omega)
  case rjumpv =>
    intro k hk
    obtain ⟨m, hm, hall⟩ := ok.rjumpv hcode
    rw [getD_of_some hm] at hk ⊢
    obtain ⟨v, hv, h0, h1⟩ := hall k hk
    exact target hv (by omega) (by omega)
  case codesize =>
    cases hk1
    have hn : notEofOf 0x38 = true := (opcode_row (by omega)).2.2.1 (.inl rfl)
    unfold notEofOf at hn; rw [hk2] at hn
    exact Bool.noConfusion (hk3.symm.trans hn)
  case codecopy =>
    cases hk1
    have hn : notEofOf 0x39 = true := (opcode_row (by omega)).2.2.1 (.inr rfl)
    unfold notEofOf at hn; rw [hk2] at hn
    exact Bool.noConfusion (hk3.symm.trans hn)
  case retf => trivial
  case other _ h0 => cases I <;> first | (cases h0; done) | trivial

/-- the interpreter's view of a decoded container (`Bytecode::Eof(Arc<Eof>)`) -/
def ctxOf (e : Eof.Eof) : EofCtx :=
  { sections := e.body.codeSection
    types := e.body.typesSection.map fun t => (t.inputs, t.outputs, t.maxStackSize)
    data := e.body.dataSection
    dataSize := e.header.dataSize
    containers := e.body.containerSection }

/-- **C26 ⇒ the in-range half of C25's well-formedness**, for every container `validate_raw_eof_inner` accepts -/
theorem inRange_of_validated {bs : List Nat} {t : Option EofValidate.CodeType} {e : Eof.Eof} (hbs : Eof.IsBytes bs)
    (hlen : bs.length ≤ 49152) (hdec : Eof.Eof.decode bs = .ok e) (hv : Proofs.EofValidate.Validated e t) :
    0 < (ctxOf e).sections.length ∧ (ctxOf e).types.length = (ctxOf e).sections.length ∧
    (ctxOf e).data.length ≤ Memory.ISIZE_MAX ∧
    (∀ (k : Nat) (sec : List Nat), (ctxOf e).sections[k]? = some sec →
      (∀ b ∈ sec, b < 256) ∧
      ∀ i ∈ boundaries sec, i < sec.length ∧ InRange (ctxOf e).types.length (ctxOf e).containers.length sec i) ∧
    (∀ sub ∈ (ctxOf e).containers, ∃ e', Eof.Eof.decode sub = .ok e') := by
  have hdeep := hv.deepOk
  obtain ⟨_, _, _, _, hsz⟩ := Proofs.Eof.decode_ok hdec hbs
  cases hdeep with
  | mk _ hc hsub _ =>
    have htl : (ctxOf e).types.length = e.body.typesSection.length := List.length_map _
    refine ⟨hc.nonempty, by rw [htl]; exact hc.types_len, ?_, ?_, hsub⟩
    · show e.body.dataSection.length ≤ Memory.ISIZE_MAX
      have : e.body.dataSection.length ≤ 49152 := by omega
      exact Nat.le_trans this (by unfold Memory.ISIZE_MAX; omega)
    · intro k sec hk
      have hmem : sec ∈ e.body.codeSection := List.mem_of_getElem? hk
      have hbytes : ∀ b ∈ sec, b < 256 := (Proofs.Eof.decoded_isBytes hdec hbs).1 sec hmem
      refine ⟨hbytes, fun i hi => ?_⟩
      rw [htl]
      exact sectionOk_inRange hbytes (hc.sections k sec hk) hi

/-! ## conversely: every instruction start of C26's decoding is a boundary of C25's scan -/

theorem reach_scan {sec : List Nat} (hb : ∀ b ∈ sec, b < 256) {a b : Nat}
    (hr : Spec.Eof.Reach sec.toArray a b) (hlt : b < sec.length) :
    ∀ f, sec.length + 1 ≤ a + f → b ∈ scan sec f a := by
  induction hr with
  | refl i =>
    intro f hf
    cases f with
    | zero => omega
    | succ f => unfold scan; rw [if_pos hlt]; exact List.mem_cons_self ..
  | @step i j hi hr ih =>
    intro f hf
    rw [List.size_toArray] at hi
    cases f with
    | zero => omega
    | succ f =>
      unfold scan
      rw [if_pos hi]
      refine List.mem_cons_of_mem _ ?_
      by_cases hc : i + 1 < sec.length ∨ sec[i] ≠ 0xe2
      · rw [instrLen_eq hb hi hc]
        have e : i + (1 + Spec.Eof.immLen sec.toArray i) = i + 1 + Spec.Eof.immLen sec.toArray i := by omega
        rw [e]
        exact ih hlt f (by omega)
      · -- RJUMPV in the last byte: nothing is reachable behind it inside the section
        exfalso
        have hle := Proofs.EofValidate.Reach.le hr
        omega

theorem isInstrStart_boundary {sec : List Nat} (hb : ∀ b ∈ sec, b < 256) {i : Nat}
    (h : Spec.Eof.IsInstrStart sec.toArray i) : i ∈ boundaries sec := by
  have hlt : i < sec.length := by have := h.2; rw [List.size_toArray] at this; exact this
  exact reach_scan hb h.1 hlt _ (by omega)

end Revm.Proofs.Interp
