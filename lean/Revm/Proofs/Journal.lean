import Revm.Spec.JournalAbs
import Revm.Spec.AccessSets
/-! What every proof over the journal of `Model/Journal.lean` starts from. The model alone: each operation inverted
(what `f … = some …` says about the states in between) and a step of a history inverted (`Called`), histories appended (`jrun_append`, `adm_append`). Then the observable
state of C06 as independent field maps (`AState`, `absT`; equal `absT` gives `AbsEq`, by `absEq_of_absT`), the undo of a
journal entry as a function on it (`undoT`), and warmth by key (`AState.has`, the component C34 uses). -/
namespace Revm.Proofs.Journal
open Revm Revm.Model.Journal Revm.Spec.JournalAbs
open Revm.Spec.AccessSets (Access)

theorem setAcct_state_same (s : JState) (a : Addr) (acc : Acct) : (setAcct s a acc).state a = some acc := by simp [setAcct]
theorem setAcct_state_ne (s : JState) {a b : Addr} (acc : Acct) (h : ¬ b = a) : (setAcct s a acc).state b = s.state b := by simp [setAcct, h]

theorem pushEntry_eq {s : JState} {e : Entry} {s' : JState} (h : pushEntry s e = some s') :
    ∃ l rest, s.journal = l :: rest ∧ s' = { s with journal := (e :: l) :: rest } := by
  unfold pushEntry at h
  cases hj : s.journal with
  | nil => simp [hj] at h
  | cons l rest => simp only [hj, Option.some.injEq] at h; exact ⟨l, rest, rfl, h.symm⟩

theorem pushEntry_state {s s' : JState} {e : Entry} (h : pushEntry s e = some s') : s'.state = s.state := by
  obtain ⟨_, _, _, rfl⟩ := pushEntry_eq h; rfl

theorem touchAccount_some {s s' : JState} {a : Addr} {acc acc' : Acct}
    (h : touchAccount s a acc = some (s', acc')) :
    acc' = { acc with touched := true } ∧
      if acc.touched then s' = s
      else ∃ s1, pushEntry s (.accountTouched a) = some s1 ∧ s' = setAcct s1 a acc' := by
  unfold touchAccount at h
  cases ht : acc.touched with
  | true =>
    simp only [ht, Bool.not_true, Bool.false_eq_true, if_false, Option.some.injEq, Prod.mk.injEq] at h
    obtain ⟨rfl, rfl⟩ := h
    exact ⟨by cases acc; simp_all, by simp⟩
  | false =>
    simp only [ht, Bool.not_false, if_true, bind, Option.bind_eq_some_iff, Option.some.injEq, Prod.mk.injEq] at h
    obtain ⟨s1, hp, rfl, rfl⟩ := h
    exact ⟨rfl, by simpa using ⟨s1, hp, rfl⟩⟩

theorem touch_some {s s' : JState} {a : Addr} (h : touch s a = some s') :
    (∃ acc acc', s.state a = some acc ∧ touchAccount s a acc = some (s', acc')) ∨ (s.state a = none ∧ s' = s) := by
  unfold touch at h
  split at h
  · rename_i acc hs
    obtain ⟨⟨s1, acc'⟩, ht, rfl⟩ := Option.map_eq_some_iff.1 h
    exact .inl ⟨acc, acc', hs, ht⟩
  · rename_i hs
    cases h; exact .inr ⟨hs, rfl⟩

theorem loadAccount_some {db : Db} {s s' : JState} {a : Addr} {c : Bool}
    (h : loadAccount db s a = some (s', c)) :
    ∃ acc0,
      ((∃ acc, s.state a = some acc ∧ acc0 = { acc with cold := false } ∧ c = acc.cold) ∨
        (s.state a = none ∧ c = !s.preloaded a ∧
          acc0 = match db.basic a with | some i => Acct.ofInfo i | none => Acct.newNotExisting)) ∧
      if c then pushEntry (setAcct s a acc0) (.accountWarmed a) = some s' else s' = setAcct s a acc0 := by
  have key : ∀ (k : Bool) (acc0 : Acct),
      (if k then (pushEntry (setAcct s a acc0) (.accountWarmed a)).map (·, true) else some (setAcct s a acc0, false))
        = some (s', c) →
      c = k ∧ if c then pushEntry (setAcct s a acc0) (.accountWarmed a) = some s' else s' = setAcct s a acc0 := by
    intro k acc0 h
    cases k
    · simp only [Bool.false_eq_true, if_false, Option.some.injEq, Prod.mk.injEq] at h
      obtain ⟨rfl, rfl⟩ := h
      exact ⟨rfl, by simp⟩
    · simp only [if_true, Option.map_eq_some_iff, Prod.mk.injEq] at h
      obtain ⟨s2, hp, rfl, rfl⟩ := h
      exact ⟨rfl, by simpa using hp⟩
  unfold loadAccount at h
  cases hs : s.state a with
  | some acc =>
    simp only [hs] at h
    obtain ⟨hc, hp⟩ := key _ _ h
    exact ⟨_, .inl ⟨acc, rfl, rfl, hc⟩, hp⟩
  | none =>
    simp only [hs] at h
    obtain ⟨hc, hp⟩ := key _ _ h
    exact ⟨_, .inr ⟨rfl, hc, rfl⟩, hp⟩
theorem transfer_some {db : Db} {s s' : JState} {src dst : Addr} {v : Nat} {r : Option TransferErr}
    (h : transfer db s src dst v = some (s', r)) :
    ∃ s1 c1 s2 c2 fa0 s3 fa,
      loadAccount db s src = some (s1, c1) ∧ loadAccount db s1 dst = some (s2, c2) ∧
      s2.state src = some fa0 ∧ touchAccount s2 src fa0 = some (s3, fa) ∧
      if fa.info.balance < v then s' = s3 ∧ r = some .outOfFunds else
      ∃ ta0 s5 ta,
        (setAcct s3 src { fa with info := { fa.info with balance := fa.info.balance - v } }).state dst = some ta0 ∧
        touchAccount (setAcct s3 src { fa with info := { fa.info with balance := fa.info.balance - v } }) dst ta0
          = some (s5, ta) ∧
        if ta.info.balance + v ≥ W then
          ∃ f, s5.state src = some f ∧ r = some .overflowPayment ∧
            s' = setAcct s5 src { f with info := { f.info with balance := U256.wadd f.info.balance v } }
        else
          r = none ∧
          pushEntry (setAcct s5 dst { ta with info := { ta.info with balance := ta.info.balance + v } })
            (.balanceTransfer src dst v) = some s' := by
  simp only [transfer, bind, Option.bind_eq_some_iff] at h
  obtain ⟨⟨s1, c1⟩, h1, ⟨s2, c2⟩, h2, fa0, h3, ⟨s3, fa⟩, h4, h⟩ := h
  refine ⟨s1, c1, s2, c2, fa0, s3, fa, h1, h2, h3, h4, ?_⟩
  simp only [] at h
  by_cases hlt : fa.info.balance < v
  · rw [if_pos hlt] at h ⊢; cases h; exact ⟨rfl, rfl⟩
  · rw [if_neg hlt] at h ⊢
    simp only [Option.bind_eq_some_iff] at h
    obtain ⟨ta0, h5, ⟨s5, ta⟩, h6, h⟩ := h
    refine ⟨ta0, s5, ta, h5, h6, ?_⟩
    simp only [] at h
    by_cases hov : ta.info.balance + v ≥ W
    · rw [if_pos hov] at h ⊢
      simp only [Option.bind_eq_some_iff] at h
      obtain ⟨f, h7, h⟩ := h
      cases h
      exact ⟨f, h7, rfl, rfl⟩
    · rw [if_neg hov] at h ⊢
      simp only [Option.bind_eq_some_iff] at h
      obtain ⟨s7, h7, h⟩ := h
      cases h
      exact ⟨rfl, h7⟩
/-- `selfdestruct`, second stage: the beneficiary is credited (`sd` is selfdestruct here, Spurious Dragon in `sdOf`) -/
def sdCredit (s : JState) (a target : Addr) : Option JState :=
  if a ≠ target then do
    let acc ← s.state a
    let t ← s.state target
    let (s, t) ← touchAccount s target t
    some (setAcct s target { t with info := { t.info with balance := U256.wadd t.info.balance acc.info.balance } })
  else some s

/-- `selfdestruct`, last stage: a real destruction (before Cancun, or of a contract created in this transaction);
otherwise (EIP-6780) the balance only moves, and nothing happens to a contract that names itself -/
def sdFinal (s : JState) (a target : Addr) (acc : Acct) : Option JState :=
  if acc.created ∨ !(decide (s.spec ≥ CANCUN)) then do
    let s := setAcct s a { acc with selfdestructed := true, info := { acc.info with balance := 0 } }
    pushEntry s (.accountDestroyed a target acc.selfdestructed acc.info.balance)
  else if a ≠ target then do
    let s := setAcct s a { acc with info := { acc.info with balance := 0 } }
    pushEntry s (.balanceTransfer a target acc.info.balance)
  else some s

theorem selfdestruct_eq (db : Db) (s : JState) (a target : Addr) :
    selfdestruct db s a target = (do
      let (s1, isCold) ← loadAccount db s target
      let tacc ← s1.state target
      let s2 ← sdCredit s1 a target
      let acc ← s2.state a
      let s3 ← sdFinal s2 a target acc
      some (s3, decide (acc.info.balance ≠ 0), !(tacc.stateClearAwareIsEmpty s1.spec), acc.selfdestructed, isCold)) := rfl

theorem selfdestruct_some {db : Db} {s s' : JState} {a t : Addr} {res : Bool × Bool × Bool × Bool}
    (h : selfdestruct db s a t = some (s', res)) :
    ∃ s1 c1 tacc s2 acc,
      loadAccount db s t = some (s1, c1) ∧ s1.state t = some tacc ∧
      (if a ≠ t then
        ∃ acc0 s1' t1, s1.state a = some acc0 ∧ touchAccount s1 t tacc = some (s1', t1) ∧
          s2 = setAcct s1' t { t1 with info := { t1.info with balance := U256.wadd t1.info.balance acc0.info.balance } }
       else s2 = s1) ∧
      s2.state a = some acc ∧
      (if acc.created ∨ !decide (s2.spec ≥ CANCUN) then
        pushEntry (setAcct s2 a { acc with selfdestructed := true, info := { acc.info with balance := 0 } })
          (.accountDestroyed a t acc.selfdestructed acc.info.balance) = some s'
       else if a ≠ t then
        pushEntry (setAcct s2 a { acc with info := { acc.info with balance := 0 } })
          (.balanceTransfer a t acc.info.balance) = some s'
       else s' = s2) ∧
      res = (decide (acc.info.balance ≠ 0), !tacc.stateClearAwareIsEmpty s1.spec, acc.selfdestructed, c1) := by
  rw [selfdestruct_eq] at h
  simp only [bind, Option.bind_eq_some_iff] at h
  obtain ⟨⟨s1, c1⟩, h1, tacc, h2, s2, h3, acc, h4, s3, h5, h⟩ := h
  simp only [] at h2 h3 h4 h5 h
  cases h
  refine ⟨s1, c1, tacc, s2, acc, h1, h2, ?_, h4, ?_, rfl⟩
  · unfold sdCredit at h3
    by_cases hat : a ≠ t
    · rw [if_pos hat] at h3 ⊢
      simp only [bind, Option.bind_eq_some_iff] at h3
      obtain ⟨acc0, g1, t0, g2, ⟨s1', t1⟩, g3, g4⟩ := h3
      cases h2.symm.trans g2
      cases g4
      exact ⟨acc0, s1', t1, g1, g3, rfl⟩
    · rw [if_neg hat] at h3 ⊢; cases h3; rfl
  · unfold sdFinal at h5
    by_cases hc : acc.created = true ∨ (!decide (s2.spec ≥ CANCUN)) = true
    · rw [if_pos hc] at h5 ⊢; exact h5
    · rw [if_neg hc] at h5 ⊢
      by_cases hat : a ≠ t
      · rw [if_pos hat] at h5 ⊢; exact h5
      · rw [if_neg hat] at h5 ⊢; cases h5; rfl
theorem create_some {s s' : JState} {caller a : Addr} {hs : Bool} {bal specId : Nat}
    {res : Except CreateErr Checkpoint}
    (h : createAccountCheckpoint s caller a hs bal specId = some (s', res)) :
    ∃ acc, (checkpoint s).1.state a = some acc ∧
      if acc.info.codeHash ≠ KECCAK_EMPTY ∨ acc.info.nonce ≠ 0 ∨ hs then
        revert (checkpoint s).1 (checkpoint s).2 = some s' ∧ res = .error .collision
      else ∃ s1 s3 acc3,
        pushEntry (setAcct (checkpoint s).1 a { acc with created := true }) (.accountCreated a) = some s1 ∧
        touchAccount (setAcct s1 a { acc with created := true, info := { acc.info with code := none } }) a
          { acc with created := true, info := { acc.info with code := none } } = some (s3, acc3) ∧
        if acc3.info.balance + bal ≥ W then
          revert s3 (checkpoint s).2 = some s' ∧ res = .error .overflowPayment
        else ∃ c n4, n4 = (if specId ≥ SPURIOUS_DRAGON then 1 else acc3.info.nonce) ∧
          (setAcct s3 a { acc3 with info := { acc3.info with balance := acc3.info.balance + bal, nonce := n4 } }).state
            caller = some c ∧
          pushEntry (setAcct (setAcct s3 a { acc3 with info := { acc3.info with balance := acc3.info.balance + bal, nonce := n4 } })
            caller { c with info := { c.info with balance := bsub c.info.balance bal } })
            (.balanceTransfer caller a bal) = some s' ∧ res = .ok (checkpoint s).2 := by
  simp only [createAccountCheckpoint, bind, Option.bind_eq_some_iff] at h
  obtain ⟨acc, hsa, h⟩ := h
  refine ⟨acc, hsa, ?_⟩
  by_cases hcol : acc.info.codeHash ≠ KECCAK_EMPTY ∨ acc.info.nonce ≠ 0 ∨ hs = true
  · rw [if_pos hcol] at h ⊢
    simp only [Option.bind_eq_some_iff] at h
    obtain ⟨sF, hr, h⟩ := h
    cases h
    exact ⟨hr, rfl⟩
  · rw [if_neg hcol] at h ⊢
    simp only [Option.bind_eq_some_iff] at h
    obtain ⟨s1, hp, ⟨s3, acc3⟩, ht, h⟩ := h
    refine ⟨s1, s3, acc3, hp, ht, ?_⟩
    simp only [] at h
    by_cases hov : acc3.info.balance + bal ≥ W
    · rw [if_pos hov] at h ⊢
      simp only [Option.bind_eq_some_iff] at h
      obtain ⟨sF, hr, h⟩ := h
      cases h
      exact ⟨hr, rfl⟩
    · rw [if_neg hov] at h ⊢
      generalize hA : (ite (specId ≥ SPURIOUS_DRAGON) _ _ : Acct) = A at h
      obtain ⟨n4, hn4⟩ : ∃ n4, n4 = (if specId ≥ SPURIOUS_DRAGON then 1 else acc3.info.nonce) := ⟨_, rfl⟩
      have hA' : A = { acc3 with info := { acc3.info with balance := acc3.info.balance + bal, nonce := n4 } } := by
        rw [← hA, hn4]; split <;> rfl
      subst hA'
      simp only [Option.bind_eq_some_iff] at h
      obtain ⟨c, hc, s6, hp6, h⟩ := h
      cases h
      exact ⟨c, n4, hn4, hc, hp6, rfl⟩

theorem loadCode_some {db : Db} {s s' : JState} {a : Addr} {c : Bool} (h : loadCode db s a = some (s', c)) :
    ∃ s1 acc, loadAccount db s a = some (s1, c) ∧ s1.state a = some acc ∧
      s' = if acc.info.code.isNone then setAcct s1 a { acc with info := { acc.info with code := some acc.info.codeHash } }
           else s1 := by
  simp only [loadCode, bind, Option.bind_eq_some_iff] at h
  obtain ⟨⟨s1, c1⟩, h1, acc, h2, h⟩ := h
  simp only [] at h2 h
  by_cases hc : acc.info.code.isNone = true
  · rw [if_pos hc] at h; cases h; exact ⟨_, acc, h1, h2, (if_pos hc).symm⟩
  · rw [if_neg hc] at h; cases h; exact ⟨_, acc, h1, h2, (if_neg hc).symm⟩

theorem loadAccountDelegated_some {db : Db} {s s' : JState} {a : Addr} {e c : Bool} {d : Option Bool}
    (h : loadAccountDelegated db s a = some (s', e, c, d)) :
    ∃ s1 acc, loadCode db s a = some (s1, c) ∧ s1.state a = some acc ∧ e = acc.stateClearAwareIsEmpty s1.spec ∧
      match acc.info.code.bind db.delegate with
      | some dl => ∃ dc, loadAccount db s1 dl = some (s', dc) ∧ d = some dc
      | none => s' = s1 ∧ d = none := by
  simp only [loadAccountDelegated, bind, Option.bind_eq_some_iff] at h
  obtain ⟨⟨s1, c1⟩, h1, acc, h2, h⟩ := h
  simp only [] at h2 h
  refine ⟨s1, acc, ?_, h2, ?_⟩
  all_goals cases hd : acc.info.code.bind db.delegate <;> simp only [hd, Option.bind_eq_some_iff] at h ⊢
  · cases h; exact h1
  · obtain ⟨⟨s2, dc⟩, h3, h⟩ := h; cases h; exact h1
  · cases h; exact ⟨rfl, rfl, rfl⟩
  · obtain ⟨⟨s2, dc⟩, h3, h⟩ := h; cases h; exact ⟨rfl, dc, h3, rfl⟩

theorem incNonce_some {s s' : JState} {a : Addr} {r : Option Nat} (h : incNonce s a = some (s', r)) :
    ∃ acc, s.state a = some acc ∧
      if acc.info.nonce = U64 - 1 then s' = s ∧ r = none else
      ∃ s1 acc1 s2, touchAccount s a acc = some (s1, acc1) ∧ pushEntry s1 (.nonceChange a) = some s2 ∧
        s' = setAcct s2 a { acc1 with info := { acc1.info with nonce := acc1.info.nonce + 1 } } ∧
        r = some (acc1.info.nonce + 1) := by
  simp only [incNonce, bind, Option.bind_eq_some_iff] at h
  obtain ⟨acc, hs, h⟩ := h
  refine ⟨acc, hs, ?_⟩
  by_cases hn : acc.info.nonce = U64 - 1
  · rw [if_pos hn] at h ⊢; cases h; exact ⟨rfl, rfl⟩
  · rw [if_neg hn] at h ⊢
    simp only [Option.bind_eq_some_iff] at h
    obtain ⟨⟨s1, acc1⟩, ht, s2, hp, h⟩ := h
    cases h; exact ⟨s1, acc1, s2, ht, hp, rfl, rfl⟩

theorem setCode_some {s s' : JState} {a : Addr} {hash : Nat} (h : setCode s a hash = some s') :
    ∃ acc s1 acc1 s2, s.state a = some acc ∧ touchAccount s a acc = some (s1, acc1) ∧
      pushEntry s1 (.codeChange a) = some s2 ∧
      s' = setAcct s2 a { acc1 with info := { acc1.info with codeHash := hash, code := some hash } } := by
  simp only [setCode, bind, Option.bind_eq_some_iff] at h
  obtain ⟨acc, hs, ⟨s1, acc1⟩, ht, s2, hp, h⟩ := h
  cases h; exact ⟨acc, s1, acc1, s2, hs, ht, hp, rfl⟩

theorem sstore_some {db : Db} {s s' : JState} {a : Addr} {k new o p n : Nat} {c : Bool}
    (h : sstore db s a k new = some (s', o, p, n, c)) :
    ∃ s1 acc sl, sload db s a k = some (s1, p, c) ∧ s1.state a = some acc ∧ acc.storage k = some sl ∧
      o = sl.orig ∧ n = new ∧
      if p = new then s' = s1 else
      ∃ s2, pushEntry s1 (.storageChanged a k p) = some s2 ∧ s' = setAcct s2 a (setSlot acc k { sl with present := new }) := by
  simp only [sstore, bind, Option.bind_eq_some_iff] at h
  obtain ⟨⟨s1, v, c1⟩, hl, acc, hs, sl, hk, h⟩ := h
  simp only [] at hs hk h
  split at h
  · rename_i hv
    simp only [Option.some.injEq, Prod.mk.injEq] at h
    obtain ⟨rfl, rfl, rfl, rfl, rfl⟩ := h
    exact ⟨s1, acc, sl, hl, hs, hk, rfl, rfl, by rw [if_pos hv]⟩
  · rename_i hv
    simp only [Option.bind_eq_some_iff, Option.some.injEq, Prod.mk.injEq] at h
    obtain ⟨s2, hp, rfl, rfl, rfl, rfl, rfl⟩ := h
    exact ⟨s1, acc, sl, hl, hs, hk, rfl, rfl, by rw [if_neg hv]; exact ⟨s2, hp, rfl⟩⟩

theorem setTransient_self {s : JState} {a : Addr} {k : Nat} {v : Option Nat} (h : s.transient a k = v) :
    setTransient s a k v = s := by
  have e : (fun x y => if x = a ∧ y = k then v else s.transient x y) = s.transient := by
    funext x y; by_cases hxy : x = a ∧ y = k
    · rw [if_pos hxy, hxy.1, hxy.2, h]
    · rw [if_neg hxy]
  unfold setTransient; rw [e]

def tstoreJournals (s : JState) (a : Addr) (k new : Nat) : Bool :=
  if new = 0 then (s.transient a k).isSome else decide (tload s a k ≠ new)

theorem tstore_eq (s : JState) (a : Addr) (k new : Nat) :
    tstore s a k new =
      if tstoreJournals s a k new then
        pushEntry (setTransient s a k (if new = 0 then none else some new)) (.transientChange a k (tload s a k))
      else some (setTransient s a k (if new = 0 then none else some new)) := by
  unfold tstore tstoreJournals tload
  by_cases hn : new = 0
  · simp only [hn, if_true]
    cases ht : s.transient a k with
    | none => simp only [Option.isSome_none, Bool.false_eq_true, if_false]; rw [setTransient_self ht]
    | some had => simp only [Option.isSome_some, if_true, Option.getD_some]
  · simp only [hn, if_false]
    by_cases hp : (s.transient a k).getD 0 ≠ new
    · simp only [hp, ne_eq, not_false_eq_true, if_true, decide_true]
    · simp only [hp, if_false, decide_false, Bool.false_eq_true]

/-- what `tstore` writes reads back as the value stored -/
theorem tstored_getD (new : Nat) : (if new = 0 then none else some new : Option Nat).getD 0 = new := by
  by_cases hn : new = 0 <;> simp [hn]

theorem tload_of_not_journals {s : JState} {a : Addr} {k new : Nat} (h : ¬ tstoreJournals s a k new = true) :
    tload s a k = new := by
  unfold tstoreJournals at h
  by_cases hn : new = 0
  · rw [if_pos hn] at h
    cases ht : s.transient a k with
    | none => simp [tload, ht, hn]
    | some v => simp [ht] at h
  · rw [if_neg hn] at h; simpa using h

theorem loadAccount_state {db : Db} {s s' : JState} {a : Addr} {c : Bool} (h : loadAccount db s a = some (s', c)) :
    s'.state = (setAcct s a (match s.state a with
      | some x => { x with cold := false }
      | none => match db.basic a with | some i => Acct.ofInfo i | none => Acct.newNotExisting)).state ∧
    c = (match s.state a with
      | some x => x.cold
      | none => !s.preloaded a) := by
  obtain ⟨acc0, hcase, hs⟩ := loadAccount_some h
  have hst : s'.state = (setAcct s a acc0).state := by
    split at hs
    · obtain ⟨_, _, _, rfl⟩ := pushEntry_eq hs; rfl
    · rw [hs]
  rcases hcase with ⟨acc, ha, rfl, rfl⟩ | ⟨ha, rfl, rfl⟩ <;> rw [ha] <;> exact ⟨hst, rfl⟩

theorem loadAccount_congr {db db' : Db} (hb : db'.basic = db.basic) (s : JState) (a : Addr) :
    loadAccount db' s a = loadAccount db s a := by
  unfold loadAccount; rw [hb]

theorem revert_spec {s : JState} {cp : Checkpoint} {js' : JState} (h : revert s cp = some js') :
    cp.journalI ≤ s.journal.length ∧ ∃ s'', undoLevels (decide (s.spec ≥ SPURIOUS_DRAGON)) s
        (s.journal.take (s.journal.length - cp.journalI)) = some s'' ∧
      js' = { s'' with depth := decU64 s.depth, logs := s.logs.take cp.logI,
                       journal := s.journal.drop (s.journal.length - cp.journalI) } := by
  unfold revert at h
  by_cases hlen : s.journal.length < cp.journalI
  · rw [if_pos hlen] at h; cases h
  · rw [if_neg hlen] at h
    cases hu : undoLevels (decide (s.spec ≥ SPURIOUS_DRAGON)) s (s.journal.take (s.journal.length - cp.journalI)) with
    | none => simp only [hu] at h; cases h
    | some s'' =>
      simp only [hu, Option.some.injEq] at h
      exact ⟨Nat.le_of_not_lt hlen, s'', rfl, h.symm⟩

/-- `Called db r op r'`: the step `op` of a history (`Spec.JournalAbs.step`) from `r` to `r'` is a call of the
`JournaledState` method the operation names that did not panic. A case analysis of a step is `cases step_called h`:
one case per method, with that method's equation in hand. -/
inductive Called (db : Db) (r : Run) : Op → Run → Prop
  | load {a js c} : loadAccount db r.js a = some (js, c) → Called db r (.load a) { r with js := js }
  | loadCode {a js c} : loadCode db r.js a = some (js, c) → Called db r (.loadCode a) { r with js := js }
  | loadDelegated {a js x} : loadAccountDelegated db r.js a = some (js, x) →
      Called db r (.loadDelegated a) { r with js := js }
  | initLoad (a ks) : Called db r (.initLoad a ks) { r with js := initialAccountLoad db r.js a ks }
  | touch {a js} : touch r.js a = some js → Called db r (.touch a) { r with js := js }
  | transfer {f t v js x} : transfer db r.js f t v = some (js, x) → Called db r (.transfer f t v) { r with js := js }
  | incNonce {a js x} : incNonce r.js a = some (js, x) → Called db r (.incNonce a) { r with js := js }
  | setCode {a h js} : setCode r.js a h = some js → Called db r (.setCode a h) { r with js := js }
  | sload {a k js x} : sload db r.js a k = some (js, x) → Called db r (.sload a k) { r with js := js }
  | sstore {a k v js x} : sstore db r.js a k v = some (js, x) → Called db r (.sstore a k v) { r with js := js }
  | tload (a k) : Called db r (.tload a k) r
  | tstore {a k v js} : tstore r.js a k v = some js → Called db r (.tstore a k v) { r with js := js }
  | log (l) : Called db r (.log l) { r with js := Model.Journal.log r.js l }
  | selfdestruct {a t js x} : selfdestruct db r.js a t = some (js, x) →
      Called db r (.selfdestruct a t) { r with js := js }
  | created {c a hs b sp js cp} : createAccountCheckpoint r.js c a hs b sp = some (js, .ok cp) →
      Called db r (.create c a hs b sp) { js := js, cps := r.cps ++ [cp] }
  | notCreated {c a hs b sp js e} : createAccountCheckpoint r.js c a hs b sp = some (js, .error e) →
      Called db r (.create c a hs b sp) { r with js := js }
  | checkpoint : Called db r .checkpoint { js := (checkpoint r.js).1, cps := r.cps ++ [(checkpoint r.js).2] }
  | commit : Called db r .commit { r with js := commit r.js }
  | revert {i cp js} : r.cps[i]? = some cp → revert r.js cp = some js → Called db r (.revert i) { r with js := js }

theorem step_called {db : Db} {r r' : Run} {op : Op} (h : step db r op = some r') : Called db r op r' := by
  cases op <;> simp only [step, Option.map_eq_some_iff, Option.some.injEq] at h
  case create c a hs b sp =>
    split at h
    · cases h; exact .created ‹_›
    · cases h; exact .notCreated ‹_›
    · cases h
  case revert i =>
    split at h
    · obtain ⟨js, h1, rfl⟩ := Option.map_eq_some_iff.1 h; exact .revert ‹_› h1
    · cases h
  -- the other operations: `Option.map` over a method returning a pair or a state, or no method at all
  all_goals first
    | (obtain ⟨⟨js, x⟩, h1, rfl⟩ := h; constructor; exact h1)
    | (obtain ⟨js, h1, rfl⟩ := h; constructor; exact h1)
    | (subst h; constructor)

abbrev jrun := Spec.JournalAbs.run

theorem jrun_append {db : Db} (p q : List Op) : ∀ {r r1 : Run}, jrun db r p = some r1 → jrun db r (p ++ q) = jrun db r1 q := by
  induction p with
  | nil => intro r r1 h; simp [jrun, Spec.JournalAbs.run] at h; subst h; rfl
  | cons op rest ih =>
    intro r r1 h
    simp only [jrun, Spec.JournalAbs.run, List.cons_append] at h ⊢
    cases hs : Spec.JournalAbs.step db r op with
    | none => simp [hs] at h
    | some r' => simp only [hs] at h ⊢; exact ih h

theorem adm_append {db : Db} {hs : Addr → Bool} {b : Nat} (p q : List Op) : ∀ {r r1 : Run},
    admissibleRun db hs b r p = true → jrun db r p = some r1 → admissibleRun db hs b r1 q = true →
    admissibleRun db hs b r (p ++ q) = true := by
  induction p with
  | nil => intro r r1 _ h hq; simp [jrun, Spec.JournalAbs.run] at h; subst h; exact hq
  | cons op rest ih =>
    intro r r1 hp h hq
    simp only [jrun, Spec.JournalAbs.run, List.cons_append, admissibleRun, Bool.and_eq_true] at h hp ⊢
    cases hst : Spec.JournalAbs.step db r op with
    | none => simp [hst] at h
    | some r' =>
      simp only [hst] at h hp ⊢
      exact ⟨hp.1, ih hp.2 h hq⟩

theorem adm_single {db : Db} {hs : Addr → Bool} {b : Nat} {r : Run} {op : Op} (h : admissible db hs b r op = true) :
    admissibleRun db hs b r [op] = true := by
  simp only [admissibleRun, h, Bool.true_and]
  cases Spec.JournalAbs.step db r op <;> rfl

/-- one iteration of the slot-preloading loop of `initial_account_load` -/
def preloadSlot (db : Db) (a : Addr) (acc : Acct) (k : Nat) : Acct :=
  match acc.storage k with
  | some _ => acc
  | none => let v := db.storage a k; setSlot acc k { orig := v, present := v, cold := false }

def preloadSlots (db : Db) (a : Addr) (acc : Acct) (ks : List Nat) : Acct := ks.foldl (preloadSlot db a) acc

/-- the entry `initial_account_load` works on: the one in the state map, or what the database says -/
def loadedAcct (db : Db) (s : JState) (a : Addr) : Acct :=
  match s.state a with
  | some acc => acc
  | none => match db.basic a with
    | some i => Acct.ofInfo i
    | none => Acct.newNotExisting

theorem initialAccountLoad_eq (db : Db) (s : JState) (a : Addr) (ks : List Nat) :
    initialAccountLoad db s a ks = setAcct s a (preloadSlots db a (loadedAcct db s a) ks) := rfl

/-- the storage map after `initial_account_load` of the keys `ks`: `ial_eq` is the closed form to reach for,
`initialAccountLoad_eq` the one that keeps the fold -/
def ialSt (db : Db) (a : Addr) : List Nat → (Nat → Option Slot) → (Nat → Option Slot)
  | [], st => st
  | k :: ks, st =>
    ialSt db a ks (match st k with
      | some _ => st
      | none => fun x => if x = k then some { orig := db.storage a k, present := db.storage a k, cold := false } else st x)

theorem ial_fold (db : Db) (a : Addr) (ks : List Nat) (acc : Acct) :
    ks.foldl (preloadSlot db a) acc = { acc with storage := ialSt db a ks acc.storage } := by
  induction ks generalizing acc with
  | nil => rfl
  | cons k ks ih =>
    simp only [List.foldl_cons, ialSt]
    rw [ih]
    unfold preloadSlot
    cases hk : acc.storage k with
    | some sl => dsimp only
    | none => simp only [setSlot]

theorem ialSt_mono (db : Db) (a : Addr) (ks : List Nat) (st : Nat → Option Slot) (k : Nat) (h : (st k).isSome) :
    (ialSt db a ks st k).isSome := by
  induction ks generalizing st with
  | nil => exact h
  | cons k' ks ih =>
    simp only [ialSt]
    apply ih
    cases hk : st k' with
    | some sl => exact h
    | none =>
      by_cases e : k = k'
      · simp [e]
      · simp [e]; exact h

theorem ial_eq (db : Db) (s : JState) (a : Addr) (ks : List Nat) :
    initialAccountLoad db s a ks =
      setAcct s a { loadedAcct db s a with storage := ialSt db a ks (loadedAcct db s a).storage } := by
  rw [initialAccountLoad_eq]; unfold preloadSlots; rw [ial_fold]

theorem wadd_sub_cancel {b v : Nat} (hb : b < W) (hv : v ≤ b) : U256.wadd (b - v) v = b := by
  unfold U256.wadd; rw [Nat.sub_add_cancel hv]; exact Nat.mod_eq_of_lt hb

theorem bsub_add_cancel (t v : Nat) : bsub (t + v) v = t := by
  unfold bsub; simp

theorem bsub_wadd_cancel {t v : Nat} (ht : t < W) (hv : v < W) : bsub (U256.wadd t v) v = t := by
  unfold bsub U256.wadd
  by_cases h : t + v < W
  · rw [Nat.mod_eq_of_lt h]; simp
  · have e : (t + v) % W = t + v - W := by
      rw [Nat.mod_eq_sub_mod (by omega)]; exact Nat.mod_eq_of_lt (by omega)
    rw [e, if_neg (by omega)]; omega

theorem wadd_zero_left {v : Nat} (hv : v < W) : U256.wadd 0 v = v := by
  unfold U256.wadd; simp; exact Nat.mod_eq_of_lt hv

theorem wadd_lt (a b : Nat) : U256.wadd a b < W := by
  unfold U256.wadd; exact Nat.mod_lt _ (by rw [W_val]; decide)

theorem bsub_lt {a b : Nat} (ha : a < W) : bsub a b < W := by
  unfold bsub; by_cases h : b ≤ a <;> simp [h] <;> omega

def upd {α : Type} (g : Addr → α) (a : Addr) (v : α) : Addr → α := fun b => if b = a then v else g b

@[simp] theorem upd_same {α : Type} (g : Addr → α) (a : Addr) (v : α) : upd g a v a = v := by simp [upd]
theorem upd_ne {α : Type} (g : Addr → α) {a b : Addr} (v : α) (h : b ≠ a) : upd g a v b = g b := by simp [upd, h]
theorem upd_self {α : Type} {g : Addr → α} {a : Addr} {v : α} (h : g a = v) : upd g a v = g := by
  funext b; unfold upd; by_cases hb : b = a
  · subst hb; simp [h]
  · simp [hb]

/-- the observable state of C06, one map per field of `AbsAcct` and one for transient storage: an undo entry then
rewrites a few maps at one or two addresses -/
structure AState where
  balance : Addr → Nat
  nonce : Addr → Nat
  codeHash : Addr → Nat
  created : Addr → Bool
  selfdestructed : Addr → Bool
  touched : Addr → Bool
  notExisting : Addr → Bool
  warm : Addr → Bool
  slot : Addr → Nat → AbsSlot
  tr : Addr → Nat → Nat

theorem AState.ext' {x y : AState} (h1 : x.balance = y.balance) (h2 : x.nonce = y.nonce)
    (h3 : x.codeHash = y.codeHash) (h4 : x.created = y.created) (h5 : x.selfdestructed = y.selfdestructed)
    (h6 : x.touched = y.touched) (h7 : x.notExisting = y.notExisting) (h8 : x.warm = y.warm)
    (h9 : x.slot = y.slot) (h10 : x.tr = y.tr) : x = y := by
  cases x; cases y; simp_all

/-- `absSlot` as a function of the created flag and the storage map (`absSlot_some`) -/
def slotsOf (db : Db) (a : Addr) (created : Bool) (st : Nat → Option Slot) : Nat → AbsSlot := fun k =>
  match st k with
  | some sl => { orig := sl.orig, present := sl.present, warm := !sl.cold }
  | none => let v := if created then 0 else db.storage a k; { orig := v, present := v, warm := false }

theorem absSlot_some (db : Db) (a : Addr) (acc : Acct) :
    absSlot db a (some acc) = slotsOf db a acc.created acc.storage := by
  funext k; unfold absSlot slotsOf; rfl

theorem absSlot_none (db : Db) (a : Addr) :
    absSlot db a none = slotsOf db a false (fun _ => none) := by
  funext k; unfold absSlot slotsOf; rfl

theorem tload_def (s : JState) : tload s = fun a k => (s.transient a k).getD 0 := rfl

/-- the Spurious-Dragon switch of a state, as the Bool the code computes in `checkpoint_revert` -/
def sdOf (s : JState) : Bool := decide (s.spec ≥ SPURIOUS_DRAGON)

/-- the touched mark of 0x03 is not observable from Spurious Dragon on (DESIGN section 8) -/
def maskT (sd : Bool) (a : Addr) (t : Bool) : Bool := if sd ∧ a = PRECOMPILE3 then false else t

/-- `absAcct` as a function of the map entry only -/
def absOf (db : Db) (sd : Bool) (pre : Bool) (a : Addr) : Option Acct → AbsAcct
  | some acc =>
    { balance := acc.info.balance, nonce := acc.info.nonce, codeHash := acc.info.codeHash,
      created := acc.created, selfdestructed := acc.selfdestructed,
      touched := maskT sd a acc.touched,
      notExisting := acc.notExisting, warm := !acc.cold,
      slot := absSlot db a (some acc) }
  | none =>
    let i := (db.basic a).getD Info.default
    { balance := i.balance, nonce := i.nonce, codeHash := i.codeHash,
      created := false, selfdestructed := false, touched := false,
      notExisting := (db.basic a).isNone, warm := pre,
      slot := absSlot db a none }

theorem absAcct_eq (db : Db) (s : JState) (a : Addr) :
    absAcct db s a = absOf db (sdOf s) (s.preloaded a) a (s.state a) := by
  unfold absAcct absOf maskT sdOf; cases s.state a <;> rfl

/-- `absAcct` read field by field, and `tload`: what C06 compares before and after a revert -/
def absT (db : Db) (s : JState) : AState :=
  { balance := fun a => (absAcct db s a).balance
    nonce := fun a => (absAcct db s a).nonce
    codeHash := fun a => (absAcct db s a).codeHash
    created := fun a => (absAcct db s a).created
    selfdestructed := fun a => (absAcct db s a).selfdestructed
    touched := fun a => (absAcct db s a).touched
    notExisting := fun a => (absAcct db s a).notExisting
    warm := fun a => (absAcct db s a).warm
    slot := fun a => (absAcct db s a).slot
    tr := tload s }

theorem absEq_of_absT {db : Db} {s t : JState} (h : absT db s = absT db t) (hl : s.logs = t.logs) :
    AbsEq db s t := by
  refine ⟨fun a => ?_, fun a k => ?_, hl⟩
  · have e := fun (f : AState → Addr → Nat) => congrFun (congrArg f h) a
    have eb := fun (f : AState → Addr → Bool) => congrFun (congrArg f h) a
    exact ⟨e AState.balance, e AState.nonce, e AState.codeHash, eb AState.created, eb AState.selfdestructed,
      eb AState.touched, eb AState.notExisting, eb AState.warm,
      fun k => congrFun (congrFun (congrArg AState.slot h) a) k⟩
  · exact congrFun (congrFun (congrArg AState.tr h) a) k

theorem upd_upd_same {α : Type} (g : Addr → α) (a : Addr) (v w : α) : upd (upd g a v) a w = upd g a w := by
  funext b; unfold upd; by_cases hb : b = a <;> simp [hb]

/-- overwrite all account observables at `a`: what `setAcct` does to `absT` (`absT_setAcct`) -/
def putA (x : AState) (a : Addr) (c : AbsAcct) : AState :=
  { balance := upd x.balance a c.balance, nonce := upd x.nonce a c.nonce, codeHash := upd x.codeHash a c.codeHash,
    created := upd x.created a c.created, selfdestructed := upd x.selfdestructed a c.selfdestructed,
    touched := upd x.touched a c.touched, notExisting := upd x.notExisting a c.notExisting,
    warm := upd x.warm a c.warm, slot := upd x.slot a c.slot, tr := x.tr }

theorem absAcct_setAcct_same (db : Db) (s : JState) (a : Addr) (acc : Acct) :
    absAcct db (setAcct s a acc) a = absOf db (sdOf s) (s.preloaded a) a (some acc) := by
  rw [absAcct_eq]; simp [setAcct, sdOf]
theorem absAcct_setAcct_ne (db : Db) (s : JState) {a b : Addr} (acc : Acct) (h : ¬ b = a) :
    absAcct db (setAcct s a acc) b = absAcct db s b := by
  rw [absAcct_eq, absAcct_eq]; simp [setAcct, sdOf, h]
theorem absAcct_some (db : Db) (s : JState) {a : Addr} {acc : Acct} (h : s.state a = some acc) :
    absAcct db s a = absOf db (sdOf s) (s.preloaded a) a (some acc) := by
  rw [absAcct_eq, h]
theorem absAcct_none (db : Db) (s : JState) {a : Addr} (h : s.state a = none) :
    absAcct db s a = absOf db (sdOf s) (s.preloaded a) a none := by
  rw [absAcct_eq, h]

theorem absT_setAcct (db : Db) (s : JState) (a : Addr) (acc : Acct) :
    absT db (setAcct s a acc) = putA (absT db s) a (absOf db (sdOf s) (s.preloaded a) a (some acc)) := by
  have h : ∀ b, absAcct db (setAcct s a acc) b =
      if b = a then absOf db (sdOf s) (s.preloaded a) a (some acc) else absAcct db s b := by
    intro b; by_cases hb : b = a
    · subst hb; rw [if_pos rfl]; exact absAcct_setAcct_same db s b acc
    · rw [if_neg hb]; exact absAcct_setAcct_ne db s acc hb
  unfold absT putA upd
  simp only [h, apply_ite]
  rfl

theorem absT_congr (db : Db) {s t : JState} (h1 : t.state = s.state) (h2 : t.spec = s.spec)
    (h3 : t.preloaded = s.preloaded) (h4 : t.transient = s.transient) : absT db t = absT db s := by
  have h : ∀ a, absAcct db t a = absAcct db s a := fun a => by unfold absAcct; rw [h1, h2, h3]
  have ht : tload t = tload s := by unfold tload; rw [h4]
  unfold absT
  simp only [h, ht]

section proj
variable (db : Db) (s : JState) (a : Addr)
@[simp] theorem absT_balance : (absT db s).balance a = (absAcct db s a).balance := rfl
@[simp] theorem absT_nonce : (absT db s).nonce a = (absAcct db s a).nonce := rfl
@[simp] theorem absT_codeHash : (absT db s).codeHash a = (absAcct db s a).codeHash := rfl
@[simp] theorem absT_created : (absT db s).created a = (absAcct db s a).created := rfl
@[simp] theorem absT_selfdestructed : (absT db s).selfdestructed a = (absAcct db s a).selfdestructed := rfl
@[simp] theorem absT_touched : (absT db s).touched a = (absAcct db s a).touched := rfl
@[simp] theorem absT_notExisting : (absT db s).notExisting a = (absAcct db s a).notExisting := rfl
@[simp] theorem absT_warm : (absT db s).warm a = (absAcct db s a).warm := rfl
@[simp] theorem absT_slot : (absT db s).slot a = (absAcct db s a).slot := rfl
theorem absT_tr : (absT db s).tr = tload s := rfl
end proj

@[simp] theorem sdOf_setAcct (s : JState) (a : Addr) (acc : Acct) : sdOf (setAcct s a acc) = sdOf s := rfl
@[simp] theorem preloaded_setAcct (s : JState) (a : Addr) (acc : Acct) : (setAcct s a acc).preloaded = s.preloaded := rfl
@[simp] theorem spec_setAcct (s : JState) (a : Addr) (acc : Acct) : (setAcct s a acc).spec = s.spec := rfl
@[simp] theorem journal_setAcct (s : JState) (a : Addr) (acc : Acct) : (setAcct s a acc).journal = s.journal := rfl
@[simp] theorem logs_setAcct (s : JState) (a : Addr) (acc : Acct) : (setAcct s a acc).logs = s.logs := rfl
@[simp] theorem tload_setAcct (s : JState) (a : Addr) (acc : Acct) : tload (setAcct s a acc) = tload s := rfl
def updK (g : Nat → AbsSlot) (k : Nat) (v : AbsSlot) : Nat → AbsSlot := fun j => if j = k then v else g j

@[simp] theorem updK_same (g : Nat → AbsSlot) (k : Nat) (v : AbsSlot) : updK g k v k = v := by simp [updK]
theorem updK_self {g : Nat → AbsSlot} {k : Nat} {v : AbsSlot} (h : g k = v) : updK g k v = g := by
  funext j; unfold updK; by_cases hj : j = k
  · subst hj; simp [h]
  · simp [hj]
theorem updK_updK_same (g : Nat → AbsSlot) (k : Nat) (v w : AbsSlot) : updK (updK g k v) k w = updK g k w := by
  funext j; unfold updK; by_cases hj : j = k <;> simp [hj]

theorem slotsOf_setSlot (db : Db) (a : Addr) (c : Bool) (acc : Acct) (k : Nat) (sl : Slot) :
    slotsOf db a c (setSlot acc k sl).storage =
      updK (slotsOf db a c acc.storage) k { orig := sl.orig, present := sl.present, warm := !sl.cold } := by
  funext j; unfold slotsOf updK setSlot; by_cases hj : j = k <;> simp [hj]

theorem slotsOf_some (db : Db) (a : Addr) (c : Bool) {st : Nat → Option Slot} {k : Nat} {sl : Slot}
    (h : st k = some sl) : slotsOf db a c st k = { orig := sl.orig, present := sl.present, warm := !sl.cold } := by
  simp [slotsOf, h]

theorem slotsOf_none (db : Db) (a : Addr) (c : Bool) {st : Nat → Option Slot} {k : Nat}
    (h : st k = none) : slotsOf db a c st k =
      { orig := if c then 0 else db.storage a k, present := if c then 0 else db.storage a k, warm := false } := by
  simp [slotsOf, h]

/-- `sload` inverted; it stands here, not with the other operations, because it is stated over `slotsOf` -/
theorem sload_eq (db : Db) (s : JState) (a : Addr) (k : Nat) (acc : Acct) (hs : s.state a = some acc) :
    sload db s a k =
      (let A := slotsOf db a acc.created acc.storage k
       let s1 := setAcct s a (setSlot acc k ⟨A.orig, A.present, false⟩)
       if (!A.warm) = true then (pushEntry s1 (.storageWarmed a k)).map (·, A.present, true)
       else some (s1, A.present, false)) := by
  simp only [sload, bind, Option.bind, hs]
  cases hk : acc.storage k with
  | some sl =>
    simp only [slotsOf, hk, Bool.not_not]
  | none =>
    simp only [slotsOf, hk]
    simp

@[simp] theorem setSlot_created (acc : Acct) (k : Nat) (sl : Slot) : (setSlot acc k sl).created = acc.created := rfl
@[simp] theorem setSlot_info (acc : Acct) (k : Nat) (sl : Slot) : (setSlot acc k sl).info = acc.info := rfl
@[simp] theorem setSlot_selfdestructed (acc : Acct) (k : Nat) (sl : Slot) : (setSlot acc k sl).selfdestructed = acc.selfdestructed := rfl
@[simp] theorem setSlot_touched (acc : Acct) (k : Nat) (sl : Slot) : (setSlot acc k sl).touched = acc.touched := rfl
@[simp] theorem setSlot_notExisting (acc : Acct) (k : Nat) (sl : Slot) : (setSlot acc k sl).notExisting = acc.notExisting := rfl
@[simp] theorem setSlot_cold (acc : Acct) (k : Nat) (sl : Slot) : (setSlot acc k sl).cold = acc.cold := rfl

theorem tload_setTransient (s : JState) (a : Addr) (k : Nat) (v : Option Nat) :
    tload (setTransient s a k v) = fun b j => if b = a ∧ j = k then v.getD 0 else tload s b j := by
  funext b j; simp only [tload, setTransient]; by_cases h : b = a ∧ j = k <;> simp [h]

section present
variable (db : Db) {s : JState} {a : Addr} {acc : Acct}

theorem putA_self (hs : s.state a = some acc) :
    putA (absT db s) a (absOf db (sdOf s) (s.preloaded a) a (some acc)) = absT db s := by
  rw [← absAcct_some db s hs]
  apply AState.ext' <;> first | rfl | exact upd_self rfl

/-! Rewriting fields of a present entry changes the field maps at `a` in those fields only: `putA` of the new
entry and the update of `putA_self` are the same term after unfolding. -/

theorem absT_set_cold (hs : s.state a = some acc) (c : Bool) :
    absT db (setAcct s a { acc with cold := c }) = { absT db s with warm := upd (absT db s).warm a (!c) } := by
  rw [absT_setAcct]
  exact congrArg (fun y : AState => { y with warm := upd (absT db s).warm a (!c) }) (putA_self db hs)

theorem absT_set_touched (hs : s.state a = some acc) (t : Bool) :
    absT db (setAcct s a { acc with touched := t }) =
      { absT db s with touched := upd (absT db s).touched a (maskT (sdOf s) a t) } := by
  rw [absT_setAcct]
  exact congrArg (fun y : AState => { y with touched := upd (absT db s).touched a (maskT (sdOf s) a t) }) (putA_self db hs)

theorem absT_set_balance (hs : s.state a = some acc) (n : Nat) :
    absT db (setAcct s a { acc with info := { acc.info with balance := n } }) =
      { absT db s with balance := upd (absT db s).balance a n } := by
  rw [absT_setAcct]
  exact congrArg (fun y : AState => { y with balance := upd (absT db s).balance a n }) (putA_self db hs)

theorem absT_set_nonce (hs : s.state a = some acc) (n : Nat) :
    absT db (setAcct s a { acc with info := { acc.info with nonce := n } }) =
      { absT db s with nonce := upd (absT db s).nonce a n } := by
  rw [absT_setAcct]
  exact congrArg (fun y : AState => { y with nonce := upd (absT db s).nonce a n }) (putA_self db hs)

theorem absT_set_balance_nonce (hs : s.state a = some acc) (b n : Nat) :
    absT db (setAcct s a { acc with info := { acc.info with balance := b, nonce := n } }) =
      { absT db s with balance := upd (absT db s).balance a b, nonce := upd (absT db s).nonce a n } := by
  rw [absT_setAcct]
  exact congrArg (fun y : AState =>
    { y with balance := upd (absT db s).balance a b, nonce := upd (absT db s).nonce a n }) (putA_self db hs)

theorem absT_set_code (hs : s.state a = some acc) (h : Nat) (c : Option Nat) :
    absT db (setAcct s a { acc with info := { acc.info with codeHash := h, code := c } }) =
      { absT db s with codeHash := upd (absT db s).codeHash a h } := by
  rw [absT_setAcct]
  exact congrArg (fun y : AState => { y with codeHash := upd (absT db s).codeHash a h }) (putA_self db hs)

theorem absT_set_cache (hs : s.state a = some acc) (c : Option Nat) :
    absT db (setAcct s a { acc with info := { acc.info with code := c } }) = absT db s := by
  rw [absT_setAcct]
  exact putA_self db (acc := acc) hs

theorem absT_set_destroyed (hs : s.state a = some acc) (d : Bool) (n : Nat) :
    absT db (setAcct s a { acc with selfdestructed := d, info := { acc.info with balance := n } }) =
      { absT db s with selfdestructed := upd (absT db s).selfdestructed a d, balance := upd (absT db s).balance a n } := by
  rw [absT_setAcct]
  exact congrArg (fun y : AState =>
    { y with selfdestructed := upd (absT db s).selfdestructed a d, balance := upd (absT db s).balance a n }) (putA_self db hs)

theorem absT_set_slot (hs : s.state a = some acc) (k : Nat) (sl : Slot) :
    absT db (setAcct s a (setSlot acc k sl)) =
      { absT db s with
        slot := upd (absT db s).slot a
          (updK ((absT db s).slot a) k { orig := sl.orig, present := sl.present, warm := !sl.cold }) } := by
  have e : absSlot db a (some (setSlot acc k sl)) =
      updK ((absT db s).slot a) k { orig := sl.orig, present := sl.present, warm := !sl.cold } := by
    rw [absSlot_some, slotsOf_setSlot, absT_slot, absAcct_some db s hs]; rfl
  rw [absT_setAcct, ← e]
  exact congrArg (fun y : AState => { y with slot := upd (absT db s).slot a (absSlot db a (some (setSlot acc k sl))) })
    (putA_self db hs)

theorem slotsOf_created_irrel (a : Addr) (hz : ∀ k, db.storage a k = 0) (c : Bool)
    (st : Nat → Option Slot) : slotsOf db a c st = slotsOf db a false st := by
  funext k; unfold slotsOf; cases st k <;> simp [hz]

theorem absT_set_created (hs : s.state a = some acc) (hz : ∀ k, db.storage a k = 0) (c : Bool) (n : Nat) :
    absT db (setAcct s a { acc with created := c, info := { acc.info with nonce := n } }) =
      { absT db s with created := upd (absT db s).created a c, nonce := upd (absT db s).nonce a n } := by
  have e : absSlot db a (some { acc with created := c, info := { acc.info with nonce := n } }) =
      absSlot db a (some acc) := by
    rw [absSlot_some, absSlot_some, slotsOf_created_irrel db a hz c, slotsOf_created_irrel db a hz acc.created]
  have hsl : (absT db s).slot a = absSlot db a (some acc) := by rw [absT_slot, absAcct_some db s hs]; rfl
  rw [absT_setAcct]
  exact (congrArg (fun y : AState =>
      { y with
        created := upd (absT db s).created a c
        nonce := upd (absT db s).nonce a n
        slot := upd (absT db s).slot a
          (absSlot db a (some { acc with created := c, info := { acc.info with nonce := n } })) })
    (putA_self db hs)).trans (by rw [e, upd_self hsl])

theorem absT_insert (hs : s.state a = none) :
    absT db (setAcct s a (match db.basic a with | some i => Acct.ofInfo i | none => Acct.newNotExisting)) =
      { absT db s with warm := upd (absT db s).warm a true } := by
  have h0 : absOf db (sdOf s) (s.preloaded a) a
        (some (match db.basic a with | some i => Acct.ofInfo i | none => Acct.newNotExisting)) =
      { absOf db (sdOf s) (s.preloaded a) a none with warm := true } := by
    cases hd : db.basic a <;> simp [absOf, hd, Acct.ofInfo, Acct.newNotExisting, maskT, absSlot_some, absSlot_none]
  have self : putA (absT db s) a (absOf db (sdOf s) (s.preloaded a) a none) = absT db s := by
    rw [← absAcct_none db s hs]
    apply AState.ext' <;> first | rfl | exact upd_self rfl
  rw [absT_setAcct, h0]
  exact congrArg (fun y : AState => { y with warm := upd (absT db s).warm a true }) self

theorem absT_at (hs : s.state a = some acc) :
    (absT db s).balance a = acc.info.balance ∧ (absT db s).nonce a = acc.info.nonce ∧
    (absT db s).touched a = maskT (sdOf s) a acc.touched ∧ (absT db s).warm a = !acc.cold ∧
    (absT db s).slot a = slotsOf db a acc.created acc.storage := by
  simp only [absT_balance, absT_nonce, absT_touched, absT_warm, absT_slot, absAcct_some db s hs, absOf, absSlot_some,
    and_self]
end present

theorem absT_setTransient (db : Db) (s : JState) (a : Addr) (k : Nat) (v : Option Nat) :
    absT db (setTransient s a k v) =
      { absT db s with tr := fun b j => if b = a ∧ j = k then v.getD 0 else tload s b j } := by
  apply AState.ext' <;> try rfl
  exact tload_setTransient s a k v

/-- undo of a touch on the observable mark: cleared, except that 0x03 keeps it from Spurious Dragon on -/
def unT (sd : Bool) (a : Addr) (t : Bool) : Bool := if sd ∧ a = PRECOMPILE3 then t else false

theorem unT_maskT (sd : Bool) (a : Addr) (t : Bool) : unT sd a (maskT sd a t) = maskT sd a false := by
  unfold unT maskT; by_cases h : sd = true ∧ a = PRECOMPILE3 <;> simp [h]

/-- the undo of an entry as a function on the observable state: the specification `undoEntry` refines -/
def undoT (sd : Bool) (x : AState) : Entry → AState
  | .accountWarmed a => { x with warm := upd x.warm a false }
  | .accountTouched a => { x with touched := upd x.touched a (unT sd a (x.touched a)) }
  | .accountDestroyed a t was had =>
    let b1 := upd x.balance a (U256.wadd (x.balance a) had)
    { x with selfdestructed := upd x.selfdestructed a was
             balance := if a ≠ t then upd b1 t (bsub (b1 t) had) else b1 }
  | .balanceTransfer src dst bal =>
    let b1 := upd x.balance src (U256.wadd (x.balance src) bal)
    { x with balance := upd b1 dst (bsub (b1 dst) bal) }
  | .nonceChange a => { x with nonce := upd x.nonce a (decU64 (x.nonce a)) }
  | .accountCreated a => { x with created := upd x.created a false, nonce := upd x.nonce a 0 }
  | .storageWarmed a k => { x with slot := upd x.slot a (updK (x.slot a) k { (x.slot a k) with warm := false }) }
  | .storageChanged a k had => { x with slot := upd x.slot a (updK (x.slot a) k { (x.slot a k) with present := had }) }
  | .transientChange a k had => { x with tr := fun b j => if b = a ∧ j = k then had else x.tr b j }
  | .codeChange a => { x with codeHash := upd x.codeHash a KECCAK_EMPTY }

/-- `undoT` along a list, newest entry first: a reverted checkpoint's entries above it (`revert_abs`) -/
def undoTs (sd : Bool) (x : AState) : List Entry → AState
  | [] => x
  | e :: es => undoTs sd (undoT sd x e) es

theorem undoTs_append (sd : Bool) (x : AState) (es fs : List Entry) :
    undoTs sd x (es ++ fs) = undoTs sd (undoTs sd x es) fs := by
  induction es generalizing x with
  | nil => rfl
  | cons e es ih => simp [undoTs, ih]


/-! Warmth by key. A key is an `Access` of the specification of C34: an address or a storage slot. -/

/-- is the key warm in the observable state? -/
def AState.has (x : AState) : Access → Bool
  | .addr a => x.warm a
  | .slot a k => (x.slot a k).warm

/-- the journal entry under which the warming of a key is recorded -/
def warmEntry : Access → Entry
  | .addr a => .accountWarmed a
  | .slot a k => .storageWarmed a k

theorem warmEntry_inj {k j : Access} (h : warmEntry k = warmEntry j) : k = j := by
  cases k <;> cases j <;> cases h <;> rfl

theorem undoT_has (sd : Bool) (x : AState) (e : Entry) (k : Access) :
    (undoT sd x e).has k = (x.has k && !(e == warmEntry k)) := by
  by_cases he : e = warmEntry k
  · subst he; cases k <;> simp [undoT, AState.has, warmEntry]
  · have hne : (e == warmEntry k) = false := by simp [he]
    rw [hne, Bool.not_false, Bool.and_true]
    cases k with
    | addr b =>
      cases e <;> try rfl
      case accountWarmed a => exact upd_ne _ _ (fun hb => he (hb ▸ rfl))
    | slot b j =>
      -- only entries about a slot of `b` rewrite `x.slot b`, and `storageChanged` keeps the warm bit
      cases e <;> try rfl
      case storageWarmed a i =>
        show (upd x.slot a _ b j).warm = _
        by_cases hb : b = a
        · subst hb
          have hj : ¬ j = i := fun hj => he (hj ▸ rfl)
          simp [updK, hj]; rfl
        · rw [upd_ne _ _ hb]; rfl
      case storageChanged a i had =>
        show (upd x.slot a _ b j).warm = _
        by_cases hb : b = a
        · subst hb
          by_cases hj : j = i
          · subst hj; simp; rfl
          · simp [updK, hj]; rfl
        · rw [upd_ne _ _ hb]; rfl

theorem undoTs_has (sd : Bool) (es : List Entry) (x : AState) (k : Access) :
    (undoTs sd x es).has k = (x.has k && !(es.contains (warmEntry k))) := by
  induction es generalizing x with
  | nil => simp [undoTs]
  | cons e es ih =>
    rw [undoTs, ih, undoT_has, List.contains_cons, Bool.and_assoc, Bool.not_or, BEq.comm]

end Revm.Proofs.Journal
