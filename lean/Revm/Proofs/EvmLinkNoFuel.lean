import Revm.Proofs.EvmFrame
import Revm.Proofs.EvmLinkValidate
import Revm.Proofs.EvmMove
/-! Termination: nothing but the fuel-indexed loop itself ever answers "out of fuel" — every other function of the
whole-EVM model fails, if at all, with a panic, a fatal database error or a missing oracle answer (`Fail.nf` for an
iteration of the loop, `nf_preverify` / `nf_prepare` / `nf_finish` for the handler). -/
namespace Revm.Proofs.EvmLink
open Revm Revm.Model Revm.Model.Evm
open Revm.Proofs.EvmFrame

/-- `x` does not answer "out of fuel": `TotE (· ≠ .outOfFuel)` with no postcondition (`nf_iff`). Unrelated to the
`NF` of `EvmLifecycle`, C31's normal form. -/
def NF {α} (x : R α) : Prop := x ≠ .error .outOfFuel

theorem nf_iff {α} {x : R α} : NF x ↔ Proofs.Evm.TotE (· ≠ .outOfFuel) x (fun _ => True) := by
  cases x with
  | ok a => exact ⟨fun _ => trivial, fun _ h => nomatch h⟩
  | error e => exact ⟨fun h he => h (he ▸ rfl), fun h he => h (by cases he; rfl)⟩

theorem nf_ok {α} (a : α) : NF (.ok a : R α) := fun h => nomatch h
theorem nf_pure {α} (a : α) : NF (pure a : R α) := fun h => nomatch h
theorem nf_err {α} (e : Err) (he : e ≠ .outOfFuel) : NF (.error e : R α) := fun h => he (by cases h; rfl)
theorem nf_throw {α} (e : Err) (he : e ≠ .outOfFuel) : NF (throw e : R α) := nf_err e he
theorem nf_ofOpt {α} (msg : String) (o : Option α) : NF (ofOpt msg o) := by
  cases o with
  | some a => exact nf_ok a
  | none => exact nf_err _ (fun h => nomatch h)
theorem nf_bind' {α β} {x : R α} {f : α → R β} (h1 : NF x) (h2 : ∀ a, x = .ok a → NF (f a)) : NF (x >>= f) := by
  cases x with
  | error e => exact fun h => h1 (by cases h; rfl)
  | ok a => exact h2 a rfl
theorem nf_bind {α β} {x : R α} {f : α → R β} (h1 : NF x) (h2 : ∀ a, NF (f a)) : NF (x >>= f) :=
  nf_bind' h1 fun a _ => h2 a
theorem nf_ite {α} {c : Prop} [Decidable c] {x y : R α} (hx : NF x) (hy : NF y) : NF (if c then x else y) := by
  split
  · exact hx
  · exact hy

theorem nf_loadAccount (w : World) (a : Nat) : NF (w.loadAccount a) :=
  nf_bind (nf_ofOpt _ _) fun _ => nf_pure _
theorem nf_loadCode (w : World) (a : Nat) : NF (w.loadCode a) :=
  nf_bind (nf_ofOpt _ _) fun _ => nf_pure _
theorem nf_loadAccountDelegated (w : World) (a : Nat) : NF (w.loadAccountDelegated a) :=
  nf_bind (nf_ofOpt _ _) fun _ => nf_pure _
theorem nf_touch (w : World) (a : Nat) : NF (w.touch a) := nf_bind (nf_ofOpt _ _) fun _ => nf_pure _
theorem nf_transfer (w : World) (a b v : Nat) : NF (w.transfer a b v) := nf_bind (nf_ofOpt _ _) fun _ => nf_pure _
theorem nf_revert (w : World) (cp : Journal.Checkpoint) : NF (journalOps.revert w cp) :=
  nf_bind (nf_ofOpt _ _) fun _ => nf_pure _
theorem nf_createCheckpoint (w : World) (c a : Nat) (hs : Bool) (v sp : Nat) :
    NF (journalOps.createCheckpoint w c a hs v sp) := nf_bind (nf_ofOpt _ _) fun _ => nf_pure _
theorem nf_setCode (w : World) (a h : Nat) : NF (journalOps.setCode w a h) :=
  nf_bind (nf_ofOpt _ _) fun _ => nf_pure _

theorem nf_answer (he : HostEnv) (w : World) (op : Interp.HostOp) : NF (answer he w op) := by
  cases op with
  | keccak d => exact nf_pure _
  | blockHash n => exact nf_pure _
  | tload a k => exact nf_pure _
  | log a t d => exact nf_pure _
  | create2Address d s c => exact nf_pure _
  | balance a => exact nf_bind (nf_loadAccount _ _) fun _ => nf_bind (nf_ofOpt _ _) fun _ => nf_pure _
  | code a =>
    exact nf_bind (nf_loadCode _ _) fun _ => nf_bind (nf_ofOpt _ _) fun _ => nf_bind (nf_ofOpt _ _) fun _ =>
      nf_bind (nf_ofOpt _ _) fun _ => nf_pure _
  | codeHash a =>
    exact nf_bind (nf_loadCode _ _) fun _ => nf_bind (nf_ofOpt _ _) fun _ => nf_ite (nf_pure _) (nf_pure _)
  | sload a k => exact nf_bind (nf_ofOpt _ _) fun _ => nf_pure _
  | sstore a k v => exact nf_bind (nf_ofOpt _ _) fun _ => nf_pure _
  | tstore a k v => exact nf_bind (nf_ofOpt _ _) fun _ => nf_pure _
  | selfdestruct a t => exact nf_bind (nf_ofOpt _ _) fun _ => nf_pure _
  | loadAccountDelegated a => exact nf_bind (nf_loadAccountDelegated _ _) fun _ => nf_pure _

theorem nf_runPrecompile (w : World) (spec a : Nat) (input : List Nat) (gl : Nat) :
    NF (runPrecompile w spec a input gl) := by
  unfold runPrecompile
  refine nf_ite (nf_pure _) (nf_ite ?_ (nf_pure _))
  split
  · exact nf_ite (nf_pure _) (nf_ite (nf_pure _) (nf_ite (nf_pure _) (nf_err _ fun h => nomatch h)))
  · exact nf_err _ fun h => nomatch h

theorem nf_callValueStep (w : World) (i : Interp.CallInputs) : NF (callValueStep w i) := by
  unfold callValueStep
  refine nf_ite (nf_ite ?_ ?_) (nf_pure _)
  · exact nf_bind (nf_loadAccount _ _) fun _ => nf_bind (nf_touch _ _) fun _ => nf_pure _
  · refine nf_bind (nf_transfer _ _ _ _) fun p => ?_
    obtain ⟨w1, e⟩ := p
    dsimp only
    split <;> exact nf_pure _

theorem nf_callTail (cfg : Cfg) (w : World) (cp : Journal.Checkpoint) (i : Interp.CallInputs)
    (mem : Memory.SharedMemory) : NF (callTail journalOps cfg w cp i mem) := by
  unfold callTail
  refine nf_bind (nf_loadCode _ _) fun _ => nf_bind (nf_ofOpt _ _) fun _ => nf_bind (nf_ofOpt _ _) fun _ =>
    nf_bind (nf_ofOpt _ _) fun _ => nf_ite (nf_pure _) (nf_bind ?_ fun _ => nf_pure _)
  split
  · exact nf_bind (nf_loadCode _ _) fun _ => nf_bind (nf_ofOpt _ _) fun _ => nf_bind (nf_ofOpt _ _) fun _ =>
      nf_bind (nf_ofOpt _ _) fun _ => nf_pure _
  · exact nf_pure _

theorem nf_callPrecompile (cfg : Cfg) (w : World) (cp : Journal.Checkpoint) (i : Interp.CallInputs)
    (mem : Memory.SharedMemory) : NF (callPrecompile journalOps cfg w cp i mem) := by
  unfold callPrecompile
  refine nf_bind (nf_runPrecompile _ _ _ _ _) fun pc => ?_
  have hrev : ∀ x : Interp.ChildResult, NF (do
      let w ← journalOps.revert w cp
      pure (FrameOrResult.result x, w) : R (FrameOrResult Journal.Checkpoint × World)) :=
    fun x => nf_bind (nf_revert _ _) fun _ => nf_pure _
  cases pc with
  | none => exact nf_callTail cfg w cp i mem
  | some res =>
    cases res with
    | ok gasUsed out => exact nf_ite (nf_pure _) (hrev _)
    | err e => exact hrev _
    | panic => exact nf_err _ fun h => nomatch h

theorem nf_makeCallFrame (cfg : Cfg) (w : World) (i : Interp.CallInputs) (mem : Memory.SharedMemory) :
    NF (makeCallFrame journalOps cfg w i mem) := by
  rw [makeCallFrame_staged]
  unfold makeCallFrameS
  refine nf_ite (nf_pure _) (nf_bind (nf_loadAccountDelegated _ _) fun p => ?_)
  obtain ⟨w1, x⟩ := p
  refine nf_bind (nf_callValueStep _ _) fun q => ?_
  obtain ⟨w2, failed⟩ := q
  cases failed with
  | some r0 => exact nf_bind (nf_revert _ _) fun _ => nf_pure _
  | none => exact nf_callPrecompile cfg w2 _ i mem

theorem nf_createTail (cfg : Cfg) (w : World) (i : Interp.CreateInputs) (mem : Memory.SharedMemory) (created : Nat) :
    NF (createTail journalOps cfg w i mem created) := by
  unfold createTail
  refine nf_ite (nf_pure _) (nf_bind (nf_loadAccount _ _) fun p => nf_bind (nf_createCheckpoint _ _ _ _ _ _) fun q => ?_)
  obtain ⟨w2, r⟩ := q
  dsimp only
  split <;> exact nf_pure _

theorem nf_makeCreateFrame (cfg : Cfg) (w : World) (i : Interp.CreateInputs) (mem : Memory.SharedMemory) :
    NF (makeCreateFrame journalOps cfg w i mem) := by
  rw [makeCreateFrame_staged]
  unfold makeCreateFrameS
  refine nf_ite (nf_pure _) (nf_bind (nf_loadAccount _ _) fun p => nf_bind (nf_ofOpt _ _) fun cacc =>
    nf_ite (nf_pure _) (nf_bind (nf_ofOpt _ _) fun q => ?_))
  obtain ⟨js, nn⟩ := q
  cases nn with
  | none => exact nf_pure _
  | some n => exact nf_createTail _ _ _ _ _

theorem nf_frameReturn (cfg : Cfg) (top : Frame Journal.Checkpoint) (w : World) (res : Interp.ChildResult) :
    NF (frameReturn journalOps cfg top w res) := by
  unfold frameReturn
  split
  · exact nf_ite (nf_pure _) (nf_bind (nf_revert _ _) fun _ => nf_pure _)
  · rw [createReturn_eq]
    generalize createVerdict cfg _ res = v
    obtain ⟨x, _ | ⟨hash, code⟩⟩ := v
    · exact nf_bind (nf_revert _ _) fun _ => nf_pure _
    · exact nf_bind (nf_setCode _ _ _) fun _ => nf_pure _

theorem nf_makeFrame (cfg : Cfg) (w : World) (a : Interp.Action) (mem : Memory.SharedMemory) :
    NF (makeFrame journalOps cfg w a mem) := by
  unfold makeFrame
  cases a with
  | call i => exact nf_makeCallFrame _ _ _ _
  | create i => exact nf_makeCreateFrame _ _ _ _
  | eofCreate i => exact fun he => nomatch he

theorem _root_.Revm.Proofs.Evm.Fail.nf {cfg : Cfg} {n : Next Journal.Checkpoint} {e : Err}
    (h : Revm.Proofs.Evm.Fail journalOps cfg n e) : e ≠ .outOfFuel := by
  induction h with
  | empty => exact fun he => nomatch he
  | answer _ ha => intro he; subst he; exact nf_answer _ _ _ ha
  | fault => exact fun he => nomatch he
  | make _ hmk => intro he; subst he; exact nf_makeFrame _ _ _ _ hmk
  | early _ _ hdl => intro he; subst he; obtain ⟨_, h⟩ := Revm.Proofs.Evm.deliver_err hdl; cases h
  | halt _ _ ih => exact ih
  | free hm => intro he; subst he; unfold freeCtx at hm; split at hm <;> cases hm
  | ret _ hret => intro he; subst he; exact nf_frameReturn _ _ _ _ hret
  | deliver _ _ hdl => intro he; subst he; obtain ⟨_, h⟩ := Revm.Proofs.Evm.deliver_err hdl; cases h

theorem nf_forIn {α σ : Type} (f : α → σ → R (ForInStep σ)) (hf : ∀ a s, NF (f a s)) :
    ∀ (l : List α) (s : σ), NF (forIn (m := R) l s f) := by
  intro l
  induction l with
  | nil => intro s; exact nf_pure _
  | cons a l ih =>
    intro s
    rw [List.forIn_cons]
    refine nf_bind (hf a s) (fun st => ?_)
    cases st with
    | done x => exact nf_pure _
    | yield x => exact ih x

theorem nf_validateEnv (e : Evm.Env) (spec : Nat) : NF (validateEnv e spec) := by
  rw [validateEnv_link]
  generalize TxValidate.validateEnv spec (tvCfg e) (tvBlock e) (tvTx e) = r
  cases r
  · exact nf_pure _
  · exact nf_pure _
  · exact nf_err _ fun h => nomatch h

theorem nf_preverify (w : World) (e : Evm.Env) (spec : Nat) : NF (preverify w e spec) := by
  unfold preverify
  refine nf_bind (nf_validateEnv _ _) fun v => nf_ite (nf_pure _) (nf_bind (nf_ofOpt _ _) fun g => ?_)
  obtain ⟨ig, fg⟩ := g
  exact nf_ite (nf_pure _) (nf_ite (nf_pure _) (nf_bind (nf_loadCode _ _) fun _ => nf_bind (nf_ofOpt _ _) fun _ =>
    nf_bind (nf_ofOpt _ _) fun _ => nf_bind (nf_ofOpt _ _) fun _ => nf_ite (nf_pure _) (nf_pure _)))

theorem nf_deductCaller (e : Evm.Env) (spec : Nat) (w : World) : NF (deductCaller e spec w) := by
  unfold deductCaller
  refine nf_bind (nf_loadAccount _ _) fun _ => nf_bind (nf_ofOpt _ _) fun _ => nf_bind ?_ fun _ => nf_pure _
  exact nf_ite (nf_bind (nf_ofOpt _ _) fun _ => nf_pure _) (nf_pure _)

theorem nf_applyAuth (e : Evm.Env) (w : World) (a : Auth) : NF (applyAuth e w a) := by
  unfold applyAuth
  refine nf_ite (nf_pure _) (nf_ite (nf_pure _) ?_)
  cases a.authority with
  | none => exact nf_pure _
  | some authority =>
    exact nf_bind (nf_loadCode _ _) fun _ => nf_bind (nf_ofOpt _ _) fun _ => nf_bind (nf_ofOpt _ _) fun _ =>
      nf_bind (nf_ofOpt _ _) fun _ => nf_ite (nf_pure _) (nf_ite (nf_pure _) (nf_pure _))

theorem nf_applyAuthList (e : Evm.Env) (spec : Nat) (w : World) : NF (applyAuthList e spec w) := by
  unfold applyAuthList
  refine nf_ite (nf_pure _) ?_
  cases e.tx.authList with
  | none => exact nf_pure _
  | some l =>
    refine nf_bind (nf_forIn _ (fun a s => nf_bind (nf_applyAuth _ _ _) fun p => ?_) _ _) fun _ => nf_pure _
    obtain ⟨w', r⟩ := p
    exact nf_ite (nf_pure _) (nf_pure _)

theorem nf_prepare (e : Evm.Env) (spec ig : Nat) (w : World) : NF (prepare journalOps e spec ig w) := by
  rw [Revm.Proofs.EvmFrame.prepare_eq]
  exact nf_bind (nf_deductCaller _ _ _) fun _ => nf_bind (nf_applyAuthList _ _ _) fun _ =>
    nf_bind (nf_makeFrame _ _ _ _) fun _ => nf_pure _

theorem nf_finish (e : Evm.Env) (spec fg r7 : Nat) (ic : Bool) (res : Interp.ChildResult) (w : World) :
    NF (finish e spec fg r7 ic res w) := by
  unfold finish
  exact nf_bind (nf_loadAccount _ _) fun _ => nf_bind (nf_ofOpt _ _) fun _ => nf_bind (nf_loadAccount _ _) fun _ =>
    nf_bind (nf_ofOpt _ _) fun _ => nf_bind (nf_ofOpt _ _) fun _ => nf_pure _

end Revm.Proofs.EvmLink
