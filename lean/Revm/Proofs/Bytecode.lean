import Revm.Model.Bytecode
/-! Proofs for C27: the EIP-7702 decoder `newRaw` and the encoder `new` are inverse, with the decoder's exact error
conditions; every constructor and `toAnalysed` keep the original bytes, from which length and hash are read. The EOF
decoder `dec` and `keccak` are parameters of the lemmas that meet them. -/
namespace Revm.Proofs.Bytecode
open Revm.Model.Bytecode

variable {ε : Type}

theorem new_raw_len (a : List Nat) (ha : a.length = 20) : (Eip7702Bytecode.new a).raw.length = 23 := by
  simp [Eip7702Bytecode.new, EIP7702_MAGIC_BYTES, ha]

theorem new_raw_bytes (a : List Nat) : (Eip7702Bytecode.new a).raw = 0xef :: 0x01 :: 0x00 :: a := by
  simp [Eip7702Bytecode.new, EIP7702_MAGIC_BYTES, EIP7702_VERSION]

theorem newRaw_new (a : List Nat) (ha : a.length = 20) :
    Eip7702Bytecode.newRaw (Eip7702Bytecode.new a).raw = .ok (Eip7702Bytecode.new a) := by
  have hl := new_raw_len a ha
  rw [new_raw_bytes] at hl ⊢
  unfold Eip7702Bytecode.newRaw
  simp only [hl, ne_eq, not_true_eq_false, if_false, and_self, EIP7702_VERSION]
  simp [Eip7702Bytecode.new, EIP7702_MAGIC_BYTES, EIP7702_VERSION]

theorem newRaw_ok (raw : List Nat) (e : Eip7702Bytecode) (h : Eip7702Bytecode.newRaw raw = .ok e) :
    raw.length = 23 ∧ e.raw = raw ∧ e.version = 0 ∧ e.delegatedAddress.length = 20 ∧
    raw = 0xef :: 0x01 :: 0x00 :: e.delegatedAddress := by
  unfold Eip7702Bytecode.newRaw at h
  by_cases hl : raw.length = 23
  · simp only [hl, ne_eq, not_true_eq_false, if_false] at h
    match raw, hl with
    | m0 :: m1 :: v :: addr, hl =>
      simp only at h
      by_cases hm : m0 = 0xef ∧ m1 = 0x01
      · by_cases hv : v = EIP7702_VERSION
        · simp only [hm, and_self, not_true_eq_false, if_false, hv] at h
          cases h
          simp only [EIP7702_VERSION] at hv
          obtain ⟨h0, h1⟩ := hm
          subst h0 h1 hv
          simp only [List.length_cons] at hl
          refine ⟨by simp only [List.length_cons]; omega, rfl, rfl, ?_, rfl⟩
          show addr.length = 20
          omega
        · simp [hm, hv] at h
      · simp [hm] at h
  · simp [hl] at h

theorem new_of_newRaw (raw : List Nat) (e : Eip7702Bytecode) (h : Eip7702Bytecode.newRaw raw = .ok e) :
    Eip7702Bytecode.new e.address = e := by
  obtain ⟨_, h2, h3, _, h5⟩ := newRaw_ok raw e h
  cases e with
  | mk a v r =>
    simp only at h2 h3 h5
    subst h2 h3
    simp only [Eip7702Bytecode.new, Eip7702Bytecode.address, EIP7702_MAGIC_BYTES, EIP7702_VERSION]
    rw [h5]; rfl

theorem newRaw_err_length (raw : List Nat) :
    Eip7702Bytecode.newRaw raw = .error .InvalidLength ↔ raw.length ≠ 23 := by
  unfold Eip7702Bytecode.newRaw
  by_cases hl : raw.length = 23
  · simp only [hl, ne_eq, not_true_eq_false, if_false, iff_false]
    match raw, hl with
    | m0 :: m1 :: v :: addr, hl =>
      simp only
      by_cases hm : m0 = 0xef ∧ m1 = 0x01
      · by_cases hv : v = EIP7702_VERSION <;> simp [hm, hv]
      · simp [hm]
  · simp [hl]

theorem newRaw_err_magic (raw : List Nat) :
    Eip7702Bytecode.newRaw raw = .error .InvalidMagic ↔
      raw.length = 23 ∧ raw.take 2 ≠ [0xef, 0x01] := by
  unfold Eip7702Bytecode.newRaw
  by_cases hl : raw.length = 23
  · simp only [hl, ne_eq, not_true_eq_false, if_false, true_and]
    match raw, hl with
    | m0 :: m1 :: v :: addr, hl =>
      simp only
      by_cases hm : m0 = 0xef ∧ m1 = 0x01
      · by_cases hv : v = EIP7702_VERSION <;> simp [hm, hv]
      · simp [hm]
  · simp [hl]

theorem newRaw_err_version (raw : List Nat) :
    Eip7702Bytecode.newRaw raw = .error .UnsupportedVersion ↔
      raw.length = 23 ∧ raw.take 2 = [0xef, 0x01] ∧ raw[2]? ≠ some 0 := by
  unfold Eip7702Bytecode.newRaw
  by_cases hl : raw.length = 23
  · simp only [hl, ne_eq, not_true_eq_false, if_false, true_and]
    match raw, hl with
    | m0 :: m1 :: v :: addr, hl =>
      simp only
      by_cases hm : m0 = 0xef ∧ m1 = 0x01
      · by_cases hv : v = EIP7702_VERSION
        · simp [hm, hv, EIP7702_VERSION]
        · simp only [EIP7702_VERSION] at hv; simp [hm, hv, EIP7702_VERSION]
      · simp [hm]
  · simp [hl]

theorem newRawChecked_kind (dec : List Nat → Except EofErr ε) (bs : List Nat) :
    Bytecode.newRawChecked dec bs =
      if bs.take 2 = [0xef, 0x00] then
        (match dec bs with
         | .ok p => .ok (.eof ⟨p, bs⟩)
         | .error e => .error (.eof e))
      else if bs.take 2 = [0xef, 0x01] then
        (match Eip7702Bytecode.newRaw bs with
         | .ok e => .ok (.eip7702 e)
         | .error e => .error (.eip7702 e))
      else .ok (.legacyRaw bs) := by
  unfold Bytecode.newRawChecked
  match bs with
  | [] => simp
  | [x] => simp
  | p0 :: p1 :: rest =>
    simp only [List.take_succ_cons, List.take_zero, List.cons.injEq, and_true]
    by_cases h0 : p0 = 0xef ∧ p1 = 0x00
    · obtain ⟨a, b⟩ := h0; subst a b
      simp only [and_self, if_true, Eof.decode]
      cases dec (0xef :: 0x00 :: rest) <;> rfl
    · by_cases h1 : p0 = 0xef ∧ p1 = 0x01
      · obtain ⟨a, b⟩ := h1; subst a b
        simp
        cases Eip7702Bytecode.newRaw (0xef :: 0x01 :: rest) <;> rfl
      · simp only [h0, h1, if_false]

theorem newRawChecked_original (dec : List Nat → Except EofErr ε) (bs : List Nat) (bc : Bytecode ε)
    (h : Bytecode.newRawChecked dec bs = .ok bc) : bc.originalBytes = .ok bs := by
  rw [newRawChecked_kind] at h
  split at h
  · split at h
    · cases h; rfl
    · cases h
  · split at h
    · split at h
      · rename_i e he
        cases h
        exact congrArg Res.ok (newRaw_ok _ e he).2.1
      · cases h
    · cases h; rfl

theorem len_of_original (bc : Bytecode ε) (bs : List Nat) (h : bc.originalBytes = .ok bs) :
    bc.len = .ok bs.length ∧ bc.isEmpty = .ok (bs.length == 0) := by
  simp [Bytecode.len, Bytecode.isEmpty, h]

theorem hash_of_original (keccak : List Nat → Nat) (bc : Bytecode ε) (bs : List Nat)
    (h : bc.originalBytes = .ok bs) :
    bc.hashSlow keccak = .ok (if bs = [] then KECCAK_EMPTY else keccak bs) := by
  unfold Bytecode.hashSlow
  simp only [(len_of_original bc bs h).2, h]
  cases bs with
  | nil => simp
  | cons x xs => simp

theorem take_append_replicate (bs : List Nat) (k : Nat) : (bs ++ List.replicate k 0).take bs.length = bs := by
  simp

theorem toAnalysed_original (bc : Bytecode ε) : (toAnalysed bc).originalBytes = bc.originalBytes := by
  cases bc with
  | legacyRaw b =>
    simp only [toAnalysed, Bytecode.originalBytes, LegacyAnalyzed.originalBytes]
    simp
  | legacyAnalyzed a => rfl
  | eof e => rfl
  | eip7702 e => rfl

theorem toAnalysed_idem (bc : Bytecode ε) : toAnalysed (toAnalysed bc) = toAnalysed bc := by
  cases bc <;> rfl

theorem toAnalysed_ready (bc : Bytecode ε) : (toAnalysed bc).isExecutionReady = true := by
  cases bc <;> rfl

theorem toAnalysed_bytes_legacy (b : List Nat) :
    (toAnalysed (.legacyRaw b : Bytecode ε)).bytes = .ok (b ++ List.replicate 33 0) := rfl

theorem analyze_length : ∀ (code : List Nat) (skip : Nat), (analyze code skip).length = code.length := by
  intro code
  induction code with
  | nil => intro skip; simp [analyze]
  | cons op rest ih =>
    intro skip
    cases skip with
    | succ s => simp [analyze, ih]
    | zero =>
      unfold analyze
      by_cases h1 : op = 0x5b
      · simp [h1, ih]
      · by_cases h2 : 0x60 ≤ op ∧ op ≤ 0x7f <;> simp [h1, h2, ih]

end Revm.Proofs.Bytecode
