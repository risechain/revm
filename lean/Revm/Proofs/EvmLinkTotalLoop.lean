import Revm.Proofs.EvmLinkLoop
import Revm.Proofs.EvmLinkTotalFrames
import Revm.Proofs.EvmInstLoaded
/-! Panic-freedom of the loop (what C07's `run_total` says of `Model.Frame`, on `Model.EvmLoop`). The frame functions keep results free of internal flags
(`RGood` of `FrameKept`: `frameReturn_rgood`, `makeFrame_rgood`; the instruction side is `Resolved.strict` and
`hg_insertBy`), so `output` never meets its `panic!` arm. From a world that is `WOk` and whose open frames hold nested
checkpoints inside the journal (`NInv`), no run of `run_the_loop` hits a journal / frame-machine `unwrap` (`tot2_contOf`):
what can stop it is a `Soft` failure, a failure of the interpreter side (`Resid`) or the fuel. `move_ninv` keeps the
invariant, `fail_resid` reads the failures off `Fail`; `sload` / `sstore` / `selfdestruct` carry the frame's own address
(`step_addr`), which `EvmInstLoaded.Inv` keeps loaded. -/
namespace Revm.Proofs.EvmLink
open Revm Revm.Model Revm.Model.Evm
open Revm.Proofs.Journal (Grows)
open Revm.Proofs.Evm (TotE contOf contOf_moves_fail Move Fail deliver_err)
open Revm.Proofs.EvmInstSd (Resolved)

theorem createReturn_rgood {κ : Type} {C : CpOps κ} {cfg : Cfg} {w w' : World} {cp : κ} {a : Nat}
    {r r' : Interp.ChildResult} (hr : RGood r.result) (h : createReturn C cfg w cp a r = .ok (r', w')) :
    RGood r'.result := by
  rw [(createReturn_ok h).1]
  unfold createVerdict
  dsimp only
  split
  · exact hr
  split
  · exact (by decide : RGood Interp.IResult.CreateContractStartingWithEF)
  split
  · exact (by decide : RGood Interp.IResult.CreateContractSizeLimit)
  split
  · exact (by decide : RGood Interp.IResult.Return)
  split
  · exact (by decide : RGood Interp.IResult.OutOfGas)
  · exact (by decide : RGood Interp.IResult.Return)

theorem frameReturn_rgood {cfg : Cfg} {top : JFrame} {w w' : World} {res res' : Interp.ChildResult}
    (hr : RGood res.result) (h : frameReturn journalOps cfg top w res = .ok (res', w')) : RGood res'.result := by
  rcases frameReturn_cases h with ⟨_, _, _, h⟩ | ⟨_, _, h⟩
  · rw [(callReturn_ok h).1]; exact hr
  · exact createReturn_rgood hr h

theorem makeCallFrame_rgood {cfg : Cfg} {w w' : World} {i : Interp.CallInputs} {mem} {o : Interp.ChildResult}
    (h : makeCallFrame journalOps cfg w i mem = .ok (.result o, w')) : RGood o.result := by
  rcases makeCallFrame_hist h [] with ⟨_, hfr, _⟩ | ⟨_, _, _, _, _, _, he⟩
  · cases hfr; exact (by decide : RGood Interp.IResult.CallTooDeep)
  · cases he with
    | reverted x hx =>
      exact (by decide : ∀ x ∈ [Interp.IResult.OutOfFunds, .OverflowPayment, .PrecompileOOG, .PrecompileError],
        RGood x) x hx
    | committed => exact (by decide : RGood Interp.IResult.Return)
    | empty => exact (by decide : RGood Interp.IResult.Stop)

theorem makeCreateFrame_rgood {cfg : Cfg} {w w' : World} {i : Interp.CreateInputs} {mem} {o : Interp.ChildResult}
    (h : makeCreateFrame journalOps cfg w i mem = .ok (.result o, w')) : RGood o.result := by
  rcases makeCreateFrame_hist h [] with ⟨_, hfr, _⟩ | ⟨_, _, _, _, _, he⟩
  · cases hfr; exact (by decide : RGood Interp.IResult.CallTooDeep)
  · cases he with
    | early x hx => exact (by decide : ∀ x ∈ [Interp.IResult.OutOfFunds, .Return, .CreateCollision], RGood x) x hx
    | refused _ _ x hx => exact (by decide : ∀ x ∈ [Interp.IResult.CreateCollision, .OverflowPayment], RGood x) x hx

theorem makeFrame_rgood {cfg : Cfg} {w w' : World} {a : Interp.Action} {mem} {o : Interp.ChildResult}
    (h : makeFrame journalOps cfg w a mem = .ok (.result o, w')) : RGood o.result := by
  rcases makeFrame_cases h with ⟨i, rfl, hm⟩ | ⟨i, rfl, hm⟩
  · exact makeCallFrame_rgood hm
  · exact makeCreateFrame_rgood hm

/-- the failures that are NOT excluded here: those of the interpreter side (`fail_soft` of `EvmLinkInterpLoop` excludes
them, threading C25's per-frame invariant through `makeFrame` / `insert_*_outcome`), and the fuel -/
def Resid (e : Err) : Prop :=
  (∃ f : Interp.Fault, e = .panic s!"interpreter: {f.name}") ∨
  (∃ f : Interp.Fault, e = .panic s!"insert outcome: {f.name}") ∨
  e = .panic "free_context" ∨
  e = .panic "unsupported: Action.eofCreate (EOF frames are not modelled)" ∨
  e = .outOfFuel

/-- `TotE (fun e => Soft e ∨ Resid e)` written out -/
def Tot2 {α} (x : R α) (P : α → Prop) : Prop :=
  match x with
  | .ok a => P a
  | .error e => Soft e ∨ Resid e

theorem tot2_mono {α} {x : R α} {P Q : α → Prop} (h : Tot2 x P) (hq : ∀ a, P a → Q a) : Tot2 x Q :=
  TotE.mono (E := fun e => Soft e ∨ Resid e) h (fun _ h => h) fun a _ => hq a

/-- checkpoints of the open frames: journal indices strictly increasing inwards, at least 1, the innermost below `n` -/
def ChainJ : List JFrame → Nat → Prop
  | [], _ => True
  | f :: rest, n => 1 ≤ f.checkpoint.journalI ∧ f.checkpoint.journalI < n ∧ ChainJ rest f.checkpoint.journalI

theorem ChainJ.mono {st : List JFrame} {n m : Nat} (h : ChainJ st n) (hnm : n ≤ m) : ChainJ st m := by
  cases st with
  | nil => trivial
  | cons f rest => exact ⟨h.1, by have := h.2.1; omega, h.2.2⟩

/-- the created address of a create frame is loaded (`set_code` dereferences it) -/
def AddrsOk (js : Journal.JState) (stack : List JFrame) : Prop :=
  ∀ f ∈ stack, ∀ a, f.kind = .create a → (js.state a).isSome

/-- C07's `LInv` on the whole-EVM loop: what `frameReturn` and `makeFrame` need of the world and the open frames to
hit no `unwrap` -/
structure LI (stack : List JFrame) (w : World) : Prop where
  ok : WOk w
  chain : ChainJ stack w.js.journal.length
  addrs : AddrsOk w.js stack

theorem AddrsOk.mono {js js' : Journal.JState} {stack : List JFrame} (h : AddrsOk js stack) (g : Grows js js') :
    AddrsOk js' stack := fun f hf a ha => g.acct _ (h f hf a ha)

theorem LI.step {stack : List JFrame} {w w1 : World} (h : LI stack w) (hs : WS w w1) : LI stack w1 :=
  ⟨hs.ok, by rw [hs.len]; exact h.chain, h.addrs.mono hs.grows⟩

theorem LI.updTop {top : JFrame} {rest : List JFrame} {w : World} (h : LI (top :: rest) w) (s : Interp.IState) :
    LI ({ top with interp := s } :: rest) w :=
  ⟨h.ok, h.chain, fun f hf a ha => by
    cases hf with
    | head => exact h.addrs top (List.mem_cons_self ..) a ha
    | tail _ hf => exact h.addrs f (List.mem_cons_of_mem _ hf) a ha⟩

/-- `LI` on each shape of `Next`; a frame that ended carries no internal result flag (`RGood`), so `output` never
panics -/
def NInv : Next Journal.Checkpoint → Prop
  | .run stack w => stack ≠ [] ∧ LI stack w
  | .ended top rest r _ _ w => LI (top :: rest) w ∧ RGood r
  | .done r w => WOk w ∧ RGood r.result

theorem hok_of_step {top : JFrame} {w : World} {op k} (hs : Interp.step top.interp = .host op k)
    (hin : Proofs.EvmInstLoaded.In w top.interp.target) : HOk w.js op := by
  have haddr := step_addr top.interp hs
  have hin : (w.js.state top.interp.target).isSome := isSome_of_ne_none hin
  cases op <;> first | trivial | (show (w.js.state _).isSome = true; rw [show _ = top.interp.target from haddr]; exact hin)

theorem LI.resolved {he : HostEnv} {top : JFrame} {stack : List JFrame} {w w1 : World} {d : Interp.Done}
    (h : LI stack w) (hin : Proofs.EvmInstLoaded.In w top.interp.target) (hr : Resolved he top.interp w d w1) :
    LI stack w1 := by
  cases hr with
  | pure => exact h
  | host op _ _ _ hs ha =>
    have := tot_answer h.ok he op (hok_of_step hs hin)
    rw [ha] at this
    exact h.step this

theorem deliver_ninv {kind : FrameKind} {o : Interp.ChildResult} {parent : JFrame} {rest : List JFrame}
    {mem : Memory.SharedMemory} {w : World} {nx} (h : LI (parent :: rest) w)
    (hd : deliver kind o parent rest mem w = .ok nx) : NInv nx := by
  rcases deliver_ok hd with ⟨s, _, rfl⟩ | ⟨r, out, s, heq, rfl⟩
  · exact ⟨List.cons_ne_nil _ _, h.updTop _⟩
  · exact ⟨h, hg_insertBy kind o _ _ _ _ heq⟩

theorem tot_frameReturn {cfg : Cfg} {top : JFrame} {rest : List JFrame} {w : World} (h : LI (top :: rest) w)
    (res : Interp.ChildResult) : Tot (frameReturn journalOps cfg top w res) (fun p => LI rest p.2) := by
  obtain ⟨c1, c2, c3⟩ := h.chain
  have below : ∀ p : Interp.ChildResult × World, Closed w top.checkpoint p.2 → LI rest p.2 :=
    fun p hp => ⟨hp.ok, c3.mono hp.reach, fun f hf a ha => hp.grows.acct _ (h.addrs f (List.mem_cons_of_mem _ hf) a ha)⟩
  unfold frameReturn
  split
  · exact tot_mono (tot_callReturn h.ok top.checkpoint _ c1 c2) below
  · rename_i a hk
    exact tot_mono (tot_createReturn h.ok cfg top.checkpoint a _ c1 c2 (h.addrs top (List.mem_cons_self ..) a hk)) below

def FrAddr (w1 : World) (fr : FrameOrResult Journal.Checkpoint) : Prop :=
  ∀ f, fr = .frame f → ∀ a, f.kind = .create a → (w1.js.state a).isSome

theorem tot_makeFrame {cfg : Cfg} {w : World} (h : WOk w) (a : Interp.Action) (mem : Memory.SharedMemory)
    (hne : ∀ i, a ≠ .eofCreate i) :
    Tot (makeFrame journalOps cfg w a mem) (fun p => FOut w p.2 p.1 ∧ FrAddr p.2 p.1) := by
  unfold makeFrame
  cases a with
  | call i =>
    refine tot_mono (tot_makeCallFrame h cfg i mem) (fun p hp => ⟨hp.1, fun f hf a ha => ?_⟩)
    obtain ⟨⟨rs, re, hk⟩, _⟩ := hp.2 f hf
    rw [hk] at ha; cases ha
  | create i =>
    refine tot_mono (tot_makeCreateFrame h cfg i mem) (fun p hp => ⟨hp.1, fun f hf a ha => ?_⟩)
    obtain ⟨a', hk, _, hl⟩ := hp.2 f hf
    rw [hk] at ha; cases ha; exact hl
  | eofCreate i => exact absurd rfl (hne i)

theorem tot2_makeFrame {cfg : Cfg} {w : World} (h : WOk w) (a : Interp.Action) (mem : Memory.SharedMemory) :
    Tot2 (makeFrame journalOps cfg w a mem) (fun p => FOut w p.2 p.1 ∧ FrAddr p.2 p.1) := by
  cases a with
  | call i => exact (tot_makeFrame h (.call i) mem fun _ hx => nomatch hx).toE fun _ => Or.inl
  | create i => exact (tot_makeFrame h (.create i) mem fun _ hx => nomatch hx).toE fun _ => Or.inl
  | eofCreate i => exact Or.inr (Or.inr (Or.inr (Or.inr (Or.inl rfl))))

/-- the waiting stack under the frame that asked, after `make_*_frame` -/
theorem LI.made {cfg : Cfg} {stack : List JFrame} {w w1 : World} {a : Interp.Action} {mem fr} (h : LI stack w)
    (hmk : makeFrame journalOps cfg w a mem = .ok (fr, w1)) : (FOut w w1 fr ∧ FrAddr w1 fr) ∧ LI stack w1 := by
  have hp := tot2_makeFrame (cfg := cfg) h.ok a mem
  rw [hmk] at hp
  exact ⟨hp, hp.1.ok, h.chain.mono hp.1.len, h.addrs.mono hp.1.grows⟩

/-- a frame that `make_*_frame` opened on top of the waiting stack -/
theorem LI.push {stack : List JFrame} {w w1 : World} {f : JFrame} (h : LI stack w) (fo : FOut w w1 (.frame f))
    (fa : FrAddr w1 (.frame f)) : LI (f :: stack) w1 := by
  obtain ⟨k1, k2⟩ := fo.cp f rfl
  refine ⟨fo.ok, ⟨Nat.le_trans (wok_len_pos h.ok) k1, k2, h.chain.mono k1⟩, fun g hg a ha => ?_⟩
  cases hg with
  | head => exact fa f rfl a ha
  | tail _ hg => exact h.addrs.mono fo.grows g hg a ha

theorem move_ninv {cfg : Cfg} {b : Bool} {n m : Next Journal.Checkpoint} (h : Move journalOps cfg b n m)
    (hj : NInv n ∧ Proofs.EvmInstLoaded.InvN n) : NInv m ∧ Proofs.EvmInstLoaded.InvN m := by
  refine ⟨?_, Proofs.EvmInstLoaded.move_inv h hj.2⟩
  obtain ⟨hn, hi⟩ := hj
  cases h with
  | next hr => exact ⟨List.cons_ne_nil _ _, (hn.2.resolved hi.head hr).updTop _⟩
  | halt hr => exact ⟨hn.2.resolved hi.head hr, by cases hr.strict with | halt _ hrg => exact hrg⟩
  | @push top rest _ a s _ f _ hr hmk =>
    have hl1 := (hn.2.resolved hi.head hr).updTop s
    obtain ⟨fo, fa⟩ := (hl1.made hmk).1
    exact ⟨List.cons_ne_nil _ _, hl1.push fo fa⟩
  | early hr hmk hdl => exact deliver_ninv (((hn.2.resolved hi.head hr).updTop _).made hmk).2 hdl
  | @done top r out s _ _ _ _ hm hret =>
    have hp := tot_frameReturn (cfg := cfg) hn.1 (resultOf r out s)
    rw [hret] at hp
    exact ⟨hp.ok, frameReturn_rgood (res := resultOf r out s) hn.2 hret⟩
  | @ret top _ _ r out s _ _ _ _ _ hm hret hdl =>
    have hp := tot_frameReturn (cfg := cfg) hn.1 (resultOf r out s)
    rw [hret] at hp
    exact deliver_ninv hp hdl

theorem fail_resid {cfg : Cfg} {n : Next Journal.Checkpoint} {e : Err} (h : Fail journalOps cfg n e)
    (hj : NInv n ∧ Proofs.EvmInstLoaded.InvN n) : Soft e ∨ Resid e := by
  induction h with
  | empty => exact absurd rfl hj.1.1
  | answer hs ha =>
    have := tot_answer hj.1.2.ok cfg.he _ (hok_of_step hs hj.2.head)
    rw [ha] at this
    exact .inl this
  | fault => exact .inr (.inl ⟨_, rfl⟩)
  | @make _ _ _ a s _ _ hr hmk =>
    have := tot2_makeFrame (cfg := cfg) (hj.1.2.resolved hj.2.head hr).ok a s.mem
    rw [hmk] at this
    exact this
  | early _ _ hdl => exact .inr (.inr (.inl (deliver_err hdl)))
  | halt hr _ ih => exact ih (move_ninv (.halt hr) hj)
  | free hm =>
    unfold freeCtx at hm
    split at hm
    · cases hm
    · cases hm; exact .inr (.inr (.inr (.inl rfl)))
  | @ret _ _ r out s _ _ _ _ hret =>
    have := tot_frameReturn (cfg := cfg) hj.1.1 (resultOf r out s)
    rw [hret] at this
    exact .inl this
  | deliver _ _ hdl => exact .inr (.inr (.inl (deliver_err hdl)))

/-- C07 `run_total` on EvmLoop: `run_the_loop` hits no journal / frame-machine `unwrap`, for every fuel -/
theorem tot2_contOf (cfg : Cfg) (fuel : Nat) (n : Next Journal.Checkpoint) (h : NInv n)
    (hi : Proofs.EvmInstLoaded.InvN n) :
    Tot2 (contOf journalOps cfg fuel n) (fun p => WOk p.2 ∧ RGood p.1.result) :=
  TotE.mono (contOf_moves_fail (E := fun e => Soft e ∨ Resid e) (Or.inr (Or.inr (Or.inr (Or.inr (Or.inr rfl)))))
    move_ninv fail_resid fuel n ⟨h, hi⟩) (fun _ h => h) fun _ _ h => h.1

end Revm.Proofs.EvmLink
