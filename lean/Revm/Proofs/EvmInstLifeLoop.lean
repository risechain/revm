import Revm.Proofs.EvmInstLife
import Revm.Proofs.EvmLifecycle
/-! C31 instance: the abstract `run_the_loop` of `Model.EvmLifecycle` over `evmHandler` answers as `Evm.runLoop` /
`Evm.runEnded` over `journalOps` do with the same fuel (`loop_sim`, stated with the relation `LoopRel`). -/
namespace Revm.Proofs.EvmInstLife
open Revm Revm.Model Revm.Model.Evm Revm.Proofs.EvmInst
open Revm.Proofs.Evm (contOf contOf_succ turn)

theorem canon_eq (s : Nat) : EvmLifecycle.canon s = GasCalc.canon s := rfl

theorem work_error_none_eta (w : LWork) (h : w.error = none) : ({ w with error := none } : LWork) = w := by
  cases w; simp only at h; subst h; rfl

/-- the concrete answer of the loop against the abstract one; `w` is the work the abstract loop started from (only its
`error` and `l1` fields survive in the answer) -/
inductive LoopRel (w : LWork) : R (Interp.ChildResult × World) → Option (Except LErr FRes × LWork) → Prop
  | ok (r : Interp.ChildResult) (x : World) : LoopRel w (.ok (r, x)) (some (.ok (r, noGas), setWorld w x))
  | fuel : LoopRel w (.error .outOfFuel) none
  | err (e : Evm.Err) (w1 : LWork) : w1.error = none → LoopRel w (.error e) (some (.error (.err e), w1))

theorem LoopRel.rebase {w : LWork} {x : World} {c : R (Interp.ChildResult × World)}
    {l : Option (Except LErr FRes × LWork)} (h : LoopRel (setWorld w x) c l) : LoopRel w c l := by
  cases h with
  | ok r y => exact .ok r y
  | fuel => exact .fuel
  | err e w1 h1 => exact .err e w1 h1

section
variable (spec : Nat) (e : Env) (pre : Nat)

theorem h_executeFrame (ls : LS) :
    (evmHandler spec).executeFrame pre ls e = liftStage (execFrame (e.toCfg (GasCalc.canon spec)) ls) := rfl

theorem h_frameAction (ls : LS) (a : Act) :
    (evmHandler spec).frameAction pre ls a e = liftStage (fun x =>
      (actFrame (e.toCfg (GasCalc.canon spec)) ls a x).map (fun p =>
        (match p.1 with
         | .inl ls' => Sum.inl ls'
         | .inr r => Sum.inr (r, noGas), p.2))) := rfl

theorem lloop_step (n : Nat) (ls : LS) (w : LWork) (hw : w.error = none) :
    EvmLifecycle.runLoop (evmHandler spec) pre e (n + 1) ls w =
      match execFrame (e.toCfg (GasCalc.canon spec)) ls (workWorld w) with
      | .error err => some (.error (.err err), w)
      | .ok (a, x) =>
        match actFrame (e.toCfg (GasCalc.canon spec)) ls a x with
        | .error err => some (.error (.err err), setWorld w x)
        | .ok (.inl ls', x') => EvmLifecycle.runLoop (evmHandler spec) pre e n ls' (setWorld w x')
        | .ok (.inr r, x') => some (.ok (r, noGas), setWorld w x') := by
  rw [EvmLifecycle.runLoop, h_executeFrame]
  simp only [h_frameAction]
  unfold liftStage
  cases hx : execFrame (e.toCfg (GasCalc.canon spec)) ls (workWorld w) with
  | error err => rfl
  | ok p =>
    obtain ⟨a, x⟩ := p
    simp only [EvmLifecycle.takeError, setWorld_error, hw]
    rw [work_error_none_eta _ (by rw [setWorld_error]; exact hw)]
    simp only [setWorld_world, setWorld_setWorld]
    cases hy : actFrame (e.toCfg (GasCalc.canon spec)) ls a x with
    | error err => rfl
    | ok q =>
      obtain ⟨nx, x'⟩ := q
      cases nx with
      | inl ls' => rfl
      | inr r => rfl

theorem loop_sim : ∀ (n : Nat) (w : LWork), w.error = none →
    (∀ stack, LoopRel w (runLoop journalOps (e.toCfg (GasCalc.canon spec)) n stack (workWorld w))
      (EvmLifecycle.runLoop (evmHandler spec) pre e n (.run stack) w)) ∧
    (∀ top rest r out s, LoopRel w (runEnded journalOps (e.toCfg (GasCalc.canon spec)) n top rest r out s (workWorld w))
      (EvmLifecycle.runLoop (evmHandler spec) pre e n (.ended top rest r out s) w)) := by
  intro n
  induction n with
  | zero =>
    intro w _
    refine ⟨fun stack => ?_, fun top rest r out s => ?_⟩
    · rw [runLoop]; exact .fuel
    · rw [runEnded]; exact .fuel
  | succ n ih =>
    intro w hw
    -- what happens after a `Next`, on both sides
    have hcont : ∀ (nx : Next Journal.Checkpoint),
        LoopRel w (contOf journalOps (e.toCfg (GasCalc.canon spec)) n nx)
          (match ofNext nx with
           | (.inl ls', x') => EvmLifecycle.runLoop (evmHandler spec) pre e n ls' (setWorld w x')
           | (.inr r, x') => some (.ok (r, noGas), setWorld w x')) := by
      intro nx
      cases nx with
      | run st x =>
        exact ((ih (setWorld w x) (by rw [setWorld_error]; exact hw)).1 st).rebase
      | ended t rs res o s x =>
        exact ((ih (setWorld w x) (by rw [setWorld_error]; exact hw)).2 t rs res o s).rebase
      | done r x => exact .ok r x
    refine ⟨fun stack => ?_, fun top rest r out s => ?_⟩
    · show LoopRel w (contOf journalOps _ (n + 1) (.run stack (workWorld w))) _
      rw [lloop_step spec e pre n _ w hw, contOf_succ, turn]
      cases stack with
      | nil => exact .err _ w hw
      | cons top rest =>
        rw [iterate_eq]
        simp only [execFrame, bind, Except.bind]
        cases hst : stepTop (e.toCfg (GasCalc.canon spec)) top (workWorld w) with
        | error err => exact .err _ w hw
        | ok p =>
          obtain ⟨d, x⟩ := p
          simp only [pure, Except.pure, actFrame, bind, Except.bind]
          cases hy : afterStep journalOps (e.toCfg (GasCalc.canon spec)) top rest d x with
          | error err => exact .err _ _ (by rw [setWorld_error]; exact hw)
          | ok nx =>
            simp only []
            have := hcont nx
            revert this
            cases hnx : ofNext nx with
            | mk a x' => cases a <;> exact id
    · show LoopRel w (contOf journalOps _ (n + 1) (.ended top rest r out s (workWorld w))) _
      rw [lloop_step spec e pre n _ w hw, contOf_succ, turn]
      simp only [execFrame, pure, Except.pure, actFrame, bind, Except.bind]
      cases hy : frameEnd journalOps (e.toCfg (GasCalc.canon spec)) top rest r out s (workWorld w) with
      | error err => exact .err _ _ (by rw [setWorld_error]; exact hw)
      | ok nx =>
        simp only []
        have := hcont nx
        revert this
        cases hnx : ofNext nx with
        | mk a x' => cases a <;> exact id

end

end Revm.Proofs.EvmInstLife
