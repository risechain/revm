import Revm.Proofs.Bundle
/-! The status machine of one account (C16), as finite tables checked by evaluation. "One cache event" is written twice:
`Event` / `stepStatus` / `evolve` serve only the stand-alone no-panic theorems of Props/C16 (against `panicPair`); the
proofs against the model use `trOK` / `gOK` (what an accumulated transition can look like, on `reach` and `inv`) with
one table per event (`T_*`, for `BundleCommit`) and one per transition status (`tab_*`, for `uacr_step`). -/
namespace Revm.Proofs.Bundle
open Revm.Model.Bundle Revm.Spec.Bundle


def allStatuses : List Status :=
  [.loadedNotExisting, .loaded, .loadedEmptyEIP161, .inMemoryChange, .changed, .destroyed, .destroyedChanged,
   .destroyedAgain]

theorem mem_allStatuses (s : Status) : s ∈ allStatuses := by cases s <;> decide

instance {P : Status → Prop} [DecidablePred P] : Decidable (∀ s, P s) :=
  decidable_of_iff (∀ s ∈ allStatuses, P s) ⟨fun h s => h s (mem_allStatuses s), fun h s _ => h s⟩

/-- (bundle status, transition status) pairs on which `update_and_create_revert` panics -/
def panicPair : Status → Status → Bool
  | .inMemoryChange, .changed | .loadedNotExisting, .changed | .destroyed, .changed
  | .destroyedChanged, .changed | .destroyedAgain, .changed => true
  | .changed, .inMemoryChange | .destroyed, .inMemoryChange | .destroyedChanged, .inMemoryChange
  | .destroyedAgain, .inMemoryChange => true
  | .destroyed, .destroyed | .destroyedChanged, .destroyed | .destroyedAgain, .destroyed => true
  | _, _ => false

/-- what a commit can do to one cache account, abstracted by hand (no lemma relates `Event` to the model). `nc` = "the
cached info has a non-zero nonce or non-empty code". EVM facts built into `stepStatus`: an account with nonce or code is
never a creation target and never empty; a change never removes nonce-or-code (nonces do not decrease, code goes only
by self-destruct, EIP-7702 clearing leaves nonce ≥ 1). -/
inductive Event
  | selfdestruct | create (nc' : Bool) | touchEmptyPost | touchEmptyPre (hadNoInfo : Bool) | change (nc' : Bool)
deriving DecidableEq

instance {P : Event → Prop} [DecidablePred P] : Decidable (∀ e, P e) :=
  decidable_of_iff (P .selfdestruct ∧ (∀ b, P (.create b)) ∧ P .touchEmptyPost ∧ (∀ b, P (.touchEmptyPre b)) ∧
      ∀ b, P (.change b))
    ⟨fun h e => by
      cases e with
      | selfdestruct => exact h.1
      | create b => exact h.2.1 b
      | touchEmptyPost => exact h.2.2.1
      | touchEmptyPre b => exact h.2.2.2.1 b
      | change b => exact h.2.2.2.2 b,
     fun h => ⟨h _, fun _ => h _, h _, fun _ => h _, fun _ => h _⟩⟩

/-- status and bit after one event; `none` = the event is impossible for the EVM in this state, or
the cache-level status function hits its own `unreachable!` -/
def stepStatus (s : Status) (nc : Bool) : Event → Option (Status × Bool)
  | .selfdestruct => some (s.onSelfdestructed, false)
  | .create nc' => if nc then none else some (s.onCreated, nc')
  | .touchEmptyPost => if nc then none else s.onTouchedEmptyPostEip161.map (fun s' => (s', false))
  | .touchEmptyPre h => if nc then none else (s.onTouchedCreatedPreEip161 h).map (fun o => (o.getD s, false))
  | .change nc' => if nc && !nc' then none else some (s.onChanged (!nc), nc')

def evolve (s : Status) (nc : Bool) : List Event → Option (Status × Bool)
  | [] => some (s, nc)
  | e :: es => (stepStatus s nc e).bind (fun r => evolve r.1 r.2 es)

/-- closed over-approximation of "status `s` is reachable from status `s0` by cache events" -/
def reach (s0 s : Status) : Bool :=
  s0 == s ||
  match s0 with
  | .loadedNotExisting => s != .loaded && s != .loadedEmptyEIP161 && s != .changed
  | .loaded => s != .loadedNotExisting && s != .loadedEmptyEIP161
  | .loadedEmptyEIP161 => s != .loadedNotExisting && s != .loaded && s != .changed
  | .inMemoryChange => s.wasDestroyed
  | .changed => s.wasDestroyed
  | .destroyed => s == .destroyedChanged || s == .destroyedAgain
  | .destroyedChanged => s == .destroyedAgain
  | .destroyedAgain => s == .destroyedChanged

/-- invariant of the event machine started in `s0` (`inv_step`); a clause of `trOK` -/
def inv (s0 s : Status) (nc : Bool) : Bool := reach s0 s && (s != .changed || nc)

theorem inv_step (s0 s : Status) (nc : Bool) (e : Event) (s' : Status) (nc' : Bool)
    (h : inv s0 s nc = true) (hs : stepStatus s nc e = some (s', nc')) : inv s0 s' nc' = true :=
  (by decide +kernel : ∀ (s0 s : Status) (nc : Bool) (e : Event), inv s0 s nc = true →
    ∀ r ∈ stepStatus s nc e, inv s0 r.1 r.2 = true) s0 s nc e h _ hs

theorem inv_evolve (s0 s : Status) (nc : Bool) (es : List Event) (s' : Status) (nc' : Bool)
    (h : inv s0 s nc = true) (he : evolve s nc es = some (s', nc')) : inv s0 s' nc' = true := by
  induction es generalizing s nc with
  | nil => simp [evolve] at he; obtain ⟨h1, h2⟩ := he; subst h1; subst h2; exact h
  | cons e es ih =>
    simp only [evolve] at he
    cases hs : stepStatus s nc e with
    | none => simp [hs] at he
    | some r => obtain ⟨s1, nc1⟩ := r; simp [hs] at he; exact ih s1 nc1 (inv_step s0 s nc e s1 nc1 h hs) he

theorem inv_refl : ∀ (s : Status) (nc : Bool), (s = .changed → nc = true) → inv s s nc = true := by
  decide +kernel

theorem reach_no_panic : ∀ s0 s : Status, reach s0 s = true → s0 ≠ s → panicPair s0 s = false := by
  decide +kernel

/-- statuses whose cache info is `Some` -/
def hasInfo : Status → Bool
  | .destroyed | .destroyedAgain | .loadedNotExisting => false
  | _ => true

/-- statuses a transition (and hence a bundle account) can carry -/
def st5 : Status → Bool
  | .inMemoryChange | .changed | .destroyed | .destroyedChanged | .destroyedAgain => true
  | _ => false

/-- (prev status, status, nonce-or-code, was_destroyed flag) of an accumulated transition -/
def trOK (s0 s : Status) (nc wd : Bool) : Bool :=
  inv s0 s nc && st5 s && !(s0.wasDestroyed && s == .destroyed) && (s.wasDestroyed == (wd || s0.wasDestroyed))

/-- the same when there may be no transition yet (`has = false`: status unchanged since the merge) -/
def gOK (has : Bool) (s0 s : Status) (nc wd : Bool) : Bool :=
  if has then trOK s0 s nc wd else (s0 == s && (s != .changed || nc) && !wd)

/-! ## one table per cache event: `gOK` before gives `trOK` of what the status function returns, written as the Bool
`!hypothesis || excluded case || conclusion` for `decide`; `T_*_shape`: what the new status can be -/

theorem T_sd : ∀ (has : Bool) (s0 s : Status) (nc wd : Bool),
    (!gOK has s0 s nc wd || s == .loadedNotExisting || trOK s0 s.onSelfdestructed false true) = true := by
  decide +kernel

theorem T_sd_shape : ∀ s : Status,
    (hasInfo s.onSelfdestructed = false ∧ s.onSelfdestructed ≠ .changed ∧ s.onSelfdestructed ≠ .loadedEmptyEIP161
      ∧ s.onSelfdestructed ≠ .loaded) ∧
    (s ≠ .loadedNotExisting → (s.onSelfdestructed = .destroyed ∨ s.onSelfdestructed = .destroyedAgain)) ∧
    (s = .loadedNotExisting → s.onSelfdestructed = s) := by
  decide +kernel

theorem T_created : ∀ (has : Bool) (s0 s : Status) (nc' wd : Bool),
    (!gOK has s0 s false wd || trOK s0 s.onCreated nc' wd) = true := by
  decide +kernel

theorem T_created_shape : ∀ s : Status,
    hasInfo s.onCreated = true ∧ s.onCreated ≠ .destroyed ∧ s.onCreated ≠ .destroyedAgain := by
  decide +kernel

theorem T_change : ∀ (has : Bool) (s0 s : Status) (nc nc' wd : Bool),
    (!gOK has s0 s nc wd || (nc && !nc') || trOK s0 (s.onChanged (hasInfo s && !nc)) nc' wd) = true := by
  decide +kernel

theorem T_change_shape : ∀ (s : Status) (h : Bool),
    hasInfo (s.onChanged h) = true ∧ s.onChanged h ≠ .destroyed ∧ s.onChanged h ≠ .destroyedAgain := by
  decide +kernel

theorem T_touchPost : ∀ (has : Bool) (s0 s : Status) (wd : Bool),
    (!gOK has s0 s false wd || s == .loaded ||
      match s.onTouchedEmptyPostEip161 with
      | none => false
      | some st =>
        if s == .loadedNotExisting || s == .destroyed || s == .destroyedAgain then st == s
        else (st == .destroyed || st == .destroyedAgain) && trOK s0 st false true) = true := by
  decide +kernel

theorem T_touchPre : ∀ (has : Bool) (s0 s : Status) (h wd : Bool),
    (!gOK has s0 s false wd || s == .loaded ||
      match s.onTouchedCreatedPreEip161 h with
      | none => false
      | some none => s == .loadedEmptyEIP161 || (s == .destroyedChanged && h)
      | some (some st) => trOK s0 st false wd && hasInfo st && st != .destroyed && st != .destroyedAgain) = true := by
  decide +kernel

theorem trOK_wd {s0 s : Status} {nc wd : Bool} (h : trOK s0 s nc wd = true) :
    s.wasDestroyed = (wd || s0.wasDestroyed) := by
  simp only [trOK, Bool.and_eq_true, beq_iff_eq] at h
  exact h.2

theorem trOK_shape {s0 s : Status} {nc wd : Bool} (h : trOK s0 s nc wd = true) :
    st5 s = true ∧ (s = .changed → nc = true) ∧ s ≠ .loadedEmptyEIP161 ∧ s ≠ .loaded ∧ s ≠ .loadedNotExisting := by
  simp only [trOK, inv, Bool.and_eq_true, Bool.or_eq_true, bne_iff_ne] at h
  obtain ⟨⟨⟨⟨_, hc⟩, h5⟩, _⟩, _⟩ := h
  refine ⟨h5, fun hs => hc.resolve_left (fun hn => hn hs), ?_, ?_, ?_⟩ <;> (intro hs; rw [hs] at h5; cases h5)

theorem trOK_wd_mono {s0 s : Status} {nc wd : Bool} (h : trOK s0 s nc wd = true) (h0 : s0.wasDestroyed = true) :
    s.wasDestroyed = true := by
  rw [trOK_wd h, h0, Bool.or_true]

/-- statuses of an account that exists and was not destroyed since the bundle was started; the two outside `st5` occur
only on `original_bundle_account` (address not yet in the bundle) -/
abbrev live (s : Status) : Prop := s = .inMemoryChange ∨ s = .changed ∨ s = .loadedEmptyEIP161 ∨ s = .loaded

theorem live_status (s : Status) (h : live s) : s.wasDestroyed = false ∧ hasInfo s = true := by
  rcases h with h | h | h | h <;> rw [h] <;> exact ⟨rfl, rfl⟩

theorem hasInfo_of_destroyed : ∀ s : Status, s.wasDestroyed = true → s ≠ .destroyedChanged → hasInfo s = false := by
  decide +kernel

theorem hasInfo_false_nd : ∀ s : Status, hasInfo s = false → s.wasDestroyed = false → s = .loadedNotExisting := by
  decide +kernel

theorem hasInfo_false_st5 : ∀ s : Status, hasInfo s = false → st5 s = true → s.wasDestroyed = true := by
  decide +kernel

theorem transition_wd : ∀ s o : Status, (s.transition o).wasDestroyed = (s.wasDestroyed || o.wasDestroyed) := by
  decide +kernel

/-! ## `tab_<t>` enumerates `trOK _ <t>`: the (previous status, flag) a transition of status `<t>` can have -/

theorem tab_changed : ∀ (s0 : Status) (nc wd : Bool), trOK s0 .changed nc wd = true →
    (s0 = .changed ∨ s0 = .loaded) ∧ wd = false := by
  decide +kernel

theorem tab_imc : ∀ (s0 : Status) (nc wd : Bool), trOK s0 .inMemoryChange nc wd = true →
    ((s0 = .loaded ∨ s0 = .inMemoryChange) ∨ s0 = .loadedEmptyEIP161 ∨ s0 = .loadedNotExisting) ∧ wd = false := by
  decide +kernel

theorem tab_destroyed : ∀ (s0 : Status) (nc wd : Bool), trOK s0 .destroyed nc wd = true →
    (live s0 ∨ s0 = .loadedNotExisting) ∧ wd = true := by
  decide +kernel

theorem tab_dc : ∀ (s0 : Status) (nc wd : Bool), trOK s0 .destroyedChanged nc wd = true →
    (live s0 ∧ wd = true) ∨ (s0 = .destroyed ∨ s0 = .loadedNotExisting) ∨ s0 = .destroyedChanged ∨ s0 = .destroyedAgain := by
  decide +kernel

theorem tab_da : ∀ (s0 : Status) (nc wd : Bool), trOK s0 .destroyedAgain nc wd = true →
    (live s0 ∧ wd = true) ∨ (s0 = .destroyed ∨ s0 = .destroyedAgain ∨ s0 = .loadedNotExisting) ∨ s0 = .destroyedChanged := by
  decide +kernel

end Revm.Proofs.Bundle
