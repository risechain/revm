import Revm.Proofs.EvmRefineOps
import Revm.Proofs.FrameTotalJournal
/-! The open checkpoints of the journal machine as C06 histories (`Chain`): forward steps extend them, a commit folds the
frame's history into the enclosing one, a revert does not panic and restores observably (C06 `revert_restores`). Then the
forward journal operations as admissible history steps (`Fwd`), one `X_fwd` per operation from its C06 `Pushes`. -/
namespace Revm.Proofs.EvmRefine
open Revm Revm.Model Revm.Model.Journal Revm.Spec.JournalAbs Revm.Proofs.Journal Revm.Proofs.Frame

/-- the journal state `r'` is reached from `r` by history operations that are admissible at every base up to the number
of checkpoints handed out so far, and they keep the journal well formed -/
def TransAt (db : Db) (hs : Addr → Bool) (r r' : Run) : Prop :=
  ∃ ops, run db r ops = some r' ∧ (∀ base, base ≤ r.cps.length → admissibleRun db hs base r ops = true) ∧
    (Good r.js → Good r'.js)

/-- the same for every list of checkpoints: a forward operation of the frame machine -/
def Trans (db : Db) (hs : Addr → Bool) (j j' : JState) : Prop := ∀ cps, TransAt db hs ⟨j, cps⟩ ⟨j', cps⟩

theorem TransAt.refl (db : Db) (hs : Addr → Bool) (r : Run) : TransAt db hs r r :=
  ⟨[], rfl, fun _ _ => rfl, id⟩

theorem run_cps_le {db : Db} {r r' : Run} {ops : List Op} (h : run db r ops = some r') : r.cps.length ≤ r'.cps.length := by
  obtain ⟨t, ht⟩ := run_cps_prefix (db := db) ops h
  rw [ht]; simp

theorem TransAt.trans {db : Db} {hs : Addr → Bool} {r1 r2 r3 : Run} (h1 : TransAt db hs r1 r2)
    (h2 : TransAt db hs r2 r3) : TransAt db hs r1 r3 := by
  obtain ⟨o1, a1, b1, c1⟩ := h1
  obtain ⟨o2, a2, b2, c2⟩ := h2
  refine ⟨o1 ++ o2, ?_, ?_, fun g => c2 (c1 g)⟩
  · have := jrun_append (db := db) o1 o2 a1
    show jrun db r1 (o1 ++ o2) = some r3
    rw [this]; exact a2
  · intro base hb
    exact adm_append o1 o2 (b1 base hb) a1 (b2 base (Nat.le_trans hb (run_cps_le a1)))

theorem Trans.refl (db : Db) (hs : Addr → Bool) (j : JState) : Trans db hs j j := fun _ => TransAt.refl _ _ _
theorem Trans.trans {db : Db} {hs : Addr → Bool} {j1 j2 j3 : JState} (h1 : Trans db hs j1 j2) (h2 : Trans db hs j2 j3) :
    Trans db hs j1 j3 := fun cps => (h1 cps).trans (h2 cps)

theorem TransAt.single {db : Db} {hs : Addr → Bool} {r r' : Run} {op : Op} (hst : step db r op = some r')
    (hadm : ∀ base, admissible db hs base r op = true) (hg : Good r.js → Good r'.js) : TransAt db hs r r' := by
  refine ⟨[op], ?_, fun base _ => adm_single (hadm base), hg⟩
  simp [run, hst]

/-- the open checkpoints (innermost first), each with the state the specification saved for it: the journal state is
reached by an admissible history from the state the checkpoint was taken in (the hypotheses of C06's `revert_restores`),
that state is `JRel`-related to the saved one and is itself the end of the history of the next outer checkpoint -/
inductive Chain (db : Db) (hs : Addr → Bool) : Run → List (Checkpoint × JState) → Prop
  | nil (r : Run) : Good r.js → Chain db hs r []
  | cons (rpre r0 r : Run) (op : Op) (ops : List Op) (cp : Checkpoint) (snap : JState)
      (rest : List (Checkpoint × JState)) :
      Chain db hs rpre rest → admissible db hs 0 rpre op = true → step db rpre op = some r0 →
      r0.cps = rpre.cps ++ [cp] → admissibleRun db hs (rpre.cps.length + 1) r0 ops = true →
      run db r0 ops = some r → JRel db rpre.js snap → Chain db hs r ((cp, snap) :: rest)

variable {db : Db} {hs : Addr → Bool}

theorem Chain.good (hdb : DbOk db hs) (hbal : DbBal db) {r : Run} {ks : List (Checkpoint × JState)}
    (h : Chain db hs r ks) : Good r.js := by
  induction h with
  | nil r g => exact g
  | cons rpre r0 r op ops cp snap rest hc hadm0 hst hcp hadm hrun hrel ih =>
    have hb := balOk_of hbal ih.bal
    obtain ⟨_, i0⟩ := inv_init hdb hb hadm0 hst hcp
    have i := inv_run hdb ops i0 hadm hrun
    have j0 : JRefs r0.js := jrefs_step hdb hb ih.ne ih.refs hadm0 hst
    have j := jrefs_run hdb ops i0 j0 hadm hrun
    refine ⟨j, ?_, cbal_of i.bal⟩
    intro e; have := i.len; rw [e] at this; simp at this

/-- a forward step of the innermost frame (or of the transaction level) -/
theorem Chain.fwd {r r' : Run} {ks : List (Checkpoint × JState)} (h : Chain db hs r ks) (t : TransAt db hs r r') :
    Chain db hs r' ks := by
  cases h with
  | nil _ g =>
    obtain ⟨_, _, _, c⟩ := t
    exact .nil r' (c g)
  | cons rpre r0 _ op ops cp snap rest hc hadm0 hst hcp hadm hrun hrel =>
    obtain ⟨o2, a2, b2, c2⟩ := t
    refine .cons rpre r0 r' op (ops ++ o2) cp snap rest hc hadm0 hst hcp ?_ ?_ hrel
    · have hlen : rpre.cps.length + 1 ≤ r.cps.length := by
        have := run_cps_le hrun; rw [hcp] at this; simpa using this
      exact adm_append ops o2 hadm hrun (b2 _ hlen)
    · have := jrun_append (db := db) ops o2 hrun
      show jrun db r0 (ops ++ o2) = some r'
      rw [this]; exact a2

/-- a frame opens with `checkpoint`; for `create_account_checkpoint` see `Chain.open_create` at the end of the file -/
theorem Chain.open_ {r : Run} {ks : List (Checkpoint × JState)} (h : Chain db hs r ks) (snap : JState)
    (hrel : JRel db r.js snap) :
    Chain db hs ⟨(checkpoint r.js).1, r.cps ++ [(checkpoint r.js).2]⟩ (((checkpoint r.js).2, snap) :: ks) :=
  .cons r ⟨(checkpoint r.js).1, r.cps ++ [(checkpoint r.js).2]⟩ _ .checkpoint [] _ snap ks h rfl rfl rfl rfl rfl hrel


theorem admissible_mono {r : Run} {op : Op} {b b' : Nat} (hb : b ≤ b') (h : admissible db hs b' r op = true) :
    admissible db hs b r op = true := by
  cases op <;> simp only [admissible] at h ⊢ <;> try exact h
  case revert i => simp only [decide_eq_true_eq] at h ⊢; omega

theorem admRun_mono {b b' : Nat} (hb : b ≤ b') : ∀ (ops : List Op) (r : Run),
    admissibleRun db hs b' r ops = true → admissibleRun db hs b r ops = true := by
  intro ops
  induction ops with
  | nil => intro r _; rfl
  | cons op rest ih =>
    intro r h
    simp only [admissibleRun, Bool.and_eq_true] at h ⊢
    refine ⟨admissible_mono hb h.1, ?_⟩
    cases hst : step db r op with
    | none => rfl
    | some r' => simp only [hst] at h ⊢; exact ih r' h.2

/-- an operation that hands out a checkpoint is not a `revert`, the one operation whose admissibility depends on the base -/
theorem admissible_opener {rpre r0 : Run} {op : Op} {cp : Checkpoint} (hst : step db rpre op = some r0)
    (hcp : r0.cps = rpre.cps ++ [cp]) (h0 : admissible db hs 0 rpre op = true) (base : Nat) :
    admissible db hs base rpre op = true := by
  cases op <;> simp only [admissible] at h0 ⊢ <;> try exact h0
  case revert i =>
    exfalso
    have hl := congrArg List.length hcp
    rcases step_cps (db := db) hst with h | ⟨h, _⟩
    · rw [h] at hl; simp at hl
    · rcases h with h | ⟨_, _, _, _, _, h⟩ <;> cases h


/-- the whole life of a frame, as a transition of the enclosing history -/
theorem frame_life {rpre r0 r r' : Run} {op last : Op} {ops : List Op} {cp : Checkpoint}
    (hadm0 : admissible db hs 0 rpre op = true) (hst : step db rpre op = some r0) (hcp : r0.cps = rpre.cps ++ [cp])
    (hadm : admissibleRun db hs (rpre.cps.length + 1) r0 ops = true) (hrun : run db r0 ops = some r)
    (hlast : step db r last = some r') (hal : ∀ base, base ≤ rpre.cps.length → admissible db hs base r last = true)
    (hg : Good r'.js) : TransAt db hs rpre r' := by
  refine ⟨op :: (ops ++ [last]), ?_, ?_, fun _ => hg⟩
  · simp only [run, hst]
    have := jrun_append (db := db) ops [last] hrun
    show jrun db r0 (ops ++ [last]) = some r'
    rw [this]; simp [jrun, run, hlast]
  · intro base hb
    simp only [admissibleRun, Bool.and_eq_true, hst]
    refine ⟨admissible_opener hst hcp hadm0 base, ?_⟩
    exact adm_append ops [last] (admRun_mono (Nat.le_succ_of_le hb) ops r0 hadm) hrun (adm_single (hal base hb))

/-- a frame closes with `checkpoint_commit` -/
theorem Chain.close_commit (hdb : DbOk db hs) (hbal : DbBal db) {r : Run} {cp : Checkpoint} {snap : JState}
    {rest : List (Checkpoint × JState)} (h : Chain db hs r ((cp, snap) :: rest)) :
    Chain db hs ⟨commit r.js, r.cps⟩ rest := by
  have hg := h.good hdb hbal
  cases h with
  | cons rpre r0 _ op ops _ _ _ hc hadm0 hst hcp hadm hrun hrel =>
    exact hc.fwd (frame_life (last := .commit) hadm0 hst hcp hadm hrun rfl (fun _ _ => rfl) (good_commit hg))

/-- a frame closes with `checkpoint_revert`: no panic (`revert_good`), and the reverted state is observably the state the
checkpoint was taken in (C06's `revert_restores_core`) -/
theorem Chain.close_revert (hdb : DbOk db hs) (hbal : DbBal db) {r : Run} {cp : Checkpoint} {snap : JState}
    {rest : List (Checkpoint × JState)} (h : Chain db hs r ((cp, snap) :: rest)) :
    ∃ j' jpre, Journal.revert r.js cp = some j' ∧ AbsEq db j' jpre ∧ JRel db jpre snap ∧ j'.journal ≠ [] ∧
      Chain db hs ⟨j', r.cps⟩ rest := by
  have hg := h.good hdb hbal
  cases h with
  | cons rpre r0 _ op ops _ _ _ hc hadm0 hst hcp hadm hrun hrel =>
    have gpre := hc.good hdb hbal
    have hb := balOk_of hbal gpre.bal
    obtain ⟨hcpe, i0⟩ := inv_init hdb hb hadm0 hst hcp
    have i := inv_run hdb ops i0 hadm hrun
    have hJ : cp.journalI = rpre.js.journal.length := by rw [hcpe]; rfl
    have h1 : 1 ≤ cp.journalI := by
      rw [hJ]; cases hj : rpre.js.journal with
      | nil => exact absurd hj gpre.ne
      | cons _ _ => simp
    have h2 : cp.journalI ≤ r.js.journal.length := by rw [hJ]; exact Nat.le_of_lt i.len
    obtain ⟨j', hrev, gj', _, hlen⟩ := revert_good hg h1 h2
    have habs := revert_restores_core hdb hb hadm0 hst hcp hadm hrun hrev
    refine ⟨j', rpre.js, hrev, habs, hrel, gj'.ne, ?_⟩
    have hidx : r.cps[rpre.cps.length]? = some cp := by
      obtain ⟨t, ht⟩ := run_cps_prefix (db := db) ops hrun
      rw [ht, hcp]; simp
    have hlast : step db r (.revert rpre.cps.length) = some ⟨j', r.cps⟩ := by
      simp only [step, hidx, hrev, Option.map_some]
    exact hc.fwd (frame_life (last := .revert rpre.cps.length) hadm0 hst hcp hadm hrun hlast
      (fun base hbase => by simp only [admissible, decide_eq_true_eq]; exact hbase) gj')


/-- a forward operation of the journal machine: a history transition under any open checkpoints (`Chain.fwd` extends the
innermost history by it) that keeps the plain fields and `Good` -/
structure Fwd (db : Db) (hs : Addr → Bool) (j j' : JState) : Prop where
  tr : Trans db hs j j'
  depth : j'.depth = j.depth
  spec : j'.spec = j.spec
  pre : j'.preloaded = j.preloaded
  good : Good j'

theorem Fwd.refl (db : Db) (hs : Addr → Bool) {j : JState} (g : Good j) : Fwd db hs j j :=
  ⟨Trans.refl db hs j, rfl, rfl, rfl, g⟩

theorem Fwd.trans {db : Db} {hs : Addr → Bool} {j1 j2 j3 : JState} (h1 : Fwd db hs j1 j2) (h2 : Fwd db hs j2 j3) :
    Fwd db hs j1 j3 :=
  ⟨h1.tr.trans h2.tr, h2.depth.trans h1.depth, h2.spec.trans h1.spec, h2.pre.trans h1.pre, h2.good⟩

/-- one history operation that pushes entries (C06 `Pushes`) -/
theorem Fwd.of_pushes {db : Db} {hs : Addr → Bool} {j j' : JState} {es : List Entry} (hbal : DbBal db) (g : Good j)
    (op : Op) (hst : ∀ cps, step db ⟨j, cps⟩ op = some ⟨j', cps⟩)
    (hadm : ∀ base cps, admissible db hs base ⟨j, cps⟩ op = true)
    (p : Pushes db j j' es) (hd : j'.depth = j.depth) : Fwd db hs j j' := by
  have g' := (Good.of_pushes hbal g p).1
  exact ⟨fun cps => TransAt.single (hst cps) (fun base => hadm base cps) (fun _ => g'), hd, p.spec, p.pre, g'⟩

variable {db : Db} {hs : Addr → Bool}

theorem loadAccount_fwd (hbal : DbBal db) {j j' : JState} {a : Addr} {c : Bool} (g : Good j)
    (h : loadAccount db j a = some (j', c)) : Fwd db hs j j' :=
  Fwd.of_pushes hbal g (.load a) (fun cps => by simp [step, h]) (fun _ _ => rfl) (loadAccount_pushes h).1
    ((lvl_loadAccount h).depth)

theorem loadCode_fwd (hbal : DbBal db) {j j' : JState} {a : Addr} {c : Bool} (g : Good j)
    (h : loadCode db j a = some (j', c)) : Fwd db hs j j' :=
  Fwd.of_pushes hbal g (.loadCode a) (fun cps => by simp [step, h]) (fun _ _ => rfl) (loadCode_pushes h).1
    ((lvl_loadCode h).depth)

theorem touch_fwd (hbal : DbBal db) {j j' : JState} {a : Addr} (g : Good j)
    (h : touch j a = some j') : Fwd db hs j j' := by
  obtain ⟨es, p, _⟩ := touch_pushes (db := db) h
  exact Fwd.of_pushes hbal g (.touch a) (fun cps => by simp [step, h]) (fun _ _ => rfl) p ((lvl_touch h).depth)

theorem transfer_fwd (hbal : DbBal db) {j j' : JState} {a b : Addr} {v : Nat} {r} (g : Good j)
    (h : transfer db j a b v = some (j', r)) : Fwd db hs j j' := by
  obtain ⟨⟨es, p⟩, _⟩ := transfer_pushes (balOk_of hbal g.bal) h
  exact Fwd.of_pushes hbal g (.transfer a b v) (fun cps => by simp [step, h]) (fun _ _ => rfl) p ((lvl_transfer h).depth)

theorem incNonce_fwd (hbal : DbBal db) {j j' : JState} {a : Addr} {r} (g : Good j)
    (h : incNonce j a = some (j', r)) : Fwd db hs j j' := by
  obtain ⟨es, p, _⟩ := incNonce_pushes (db := db) h
  exact Fwd.of_pushes hbal g (.incNonce a) (fun cps => by simp [step, h]) (fun _ _ => rfl) p ((lvl_incNonce h).depth)

theorem sload_fwd (hbal : DbBal db) {j j' : JState} {a k : Nat} {v : Nat} {c : Bool} (g : Good j)
    (h : sload db j a k = some (j', v, c)) : Fwd db hs j j' :=
  Fwd.of_pushes hbal g (.sload a k) (fun cps => by simp [step, h]) (fun _ _ => rfl) (sload_pushes h).1 ((lvl_sload h).depth)

theorem sstore_fwd (hbal : DbBal db) {j j' : JState} {a k v : Nat} {r} (g : Good j)
    (h : sstore db j a k v = some (j', r)) : Fwd db hs j j' := by
  obtain ⟨o, p, n, c⟩ := r
  obtain ⟨⟨es, pp⟩, _⟩ := sstore_pushes h
  exact Fwd.of_pushes hbal g (.sstore a k v) (fun cps => by simp [step, h]) (fun _ _ => rfl) pp ((lvl_sstore h).depth)

theorem tstore_fwd (hbal : DbBal db) {j j' : JState} {a k v : Nat} (g : Good j)
    (h : tstore j a k v = some j') : Fwd db hs j j' := by
  obtain ⟨es, p, _⟩ := tstore_pushes (db := db) h
  exact Fwd.of_pushes hbal g (.tstore a k v) (fun cps => by simp [step, h]) (fun _ _ => rfl) p ((lvl_tstore h).depth)

theorem selfdestruct_fwd (hbal : DbBal db) {j j' : JState} {a t : Nat} {r} (g : Good j)
    (h : selfdestruct db j a t = some (j', r)) : Fwd db hs j j' := by
  obtain ⟨⟨es, p⟩, _⟩ := selfdestruct_pushes (balOk_of hbal g.bal) h
  exact Fwd.of_pushes hbal g (.selfdestruct a t) (fun cps => by simp [step, h]) (fun _ _ => rfl) p ((lvl_selfdestruct h).1.depth)

theorem log_fwd {j : JState} (l : Nat) (g : Good j) : Fwd db hs j (Journal.log j l) := by
  have g' : Good (Journal.log j l) :=
    ⟨Revm.Proofs.Frame.JRefs.mono g.refs (Grows.of_state_eq rfl) rfl, g.ne, fun a acc h => g.bal a acc h⟩
  exact ⟨fun cps => TransAt.single (op := .log l) rfl (fun _ => rfl) (fun _ => g'), rfl, rfl, rfl, g'⟩

theorem loadAccountDelegated_fwd (hbal : DbBal db) {dbw : Db} (hb : dbw.basic = db.basic) {j j' : JState} {a : Addr} {r}
    (g : Good j) (h : loadAccountDelegated dbw j a = some (j', r)) : Fwd db hs j j' := by
  obtain ⟨e, c, d⟩ := r
  obtain ⟨j1, x, h1, _, _, h⟩ := loadAccountDelegated_some h
  rw [loadCode_congr hb] at h1
  have f1 : Fwd db hs j j1 := loadCode_fwd hbal g h1
  cases hd : Option.bind x.info.code dbw.delegate with
  | none =>
    simp only [hd] at h
    rw [h.1]
    exact f1
  | some dl =>
    simp only [hd] at h
    obtain ⟨dc, h2, _⟩ := h
    rw [loadAccount_congr hb] at h2
    exact f1.trans (loadAccount_fwd hbal f1.good h2)

/-- a creation frame opens with `create_account_checkpoint` -/
theorem Chain.open_create {db : Db} {hs : Addr → Bool} {r : Run} {ks : List (Checkpoint × JState)} {j' : JState}
    {cp : Checkpoint} {caller a : Addr} {hsa : Bool} {bal spec : Nat} (h : Chain db hs r ks) (snap : JState)
    (hrel : JRel db r.js snap) (hadm : admissible db hs 0 r (.create caller a hsa bal spec) = true)
    (hc : createAccountCheckpoint r.js caller a hsa bal spec = some (j', .ok cp)) :
    Chain db hs ⟨j', r.cps ++ [cp]⟩ ((cp, snap) :: ks) :=
  .cons r ⟨j', r.cps ++ [cp]⟩ _ (.create caller a hsa bal spec) [] cp snap ks h hadm (by simp [step, hc]) rfl rfl rfl hrel

theorem setCode_fwd {db : Db} {hs : Addr → Bool} (hbal : DbBal db) {j j' : JState} {a : Addr} {hash : Nat} (g : Good j)
    (hadm : ∀ acc, j.state a = some acc → acc.info.codeHash = Journal.KECCAK_EMPTY)
    (h : Journal.setCode j a hash = some j') : Fwd db hs j j' := by
  obtain ⟨es, p, _⟩ := setCode_pushes (db := db) hadm h
  refine Fwd.of_pushes hbal g (.setCode a hash) (fun cps => by simp [step, h]) (fun base cps => ?_) p ((lvl_setCode h).depth)
  simp only [admissible]
  cases hx : j.state a with
  | none => rfl
  | some acc => simp [hadm acc hx]

end Revm.Proofs.EvmRefine
