import Revm.Model.Precompile
import Revm.Spec.Precompile
import Revm.Proofs.Gas
/-! Lemmas for C23 (precompiles): `modPow` correctness, the linear price, the two gate shapes behind the out-of-gas
characterisations (`oog_gate`, `lenGate_oog_iff`), `Ok` for what a success satisfies, the normal form of ecrecover, the
BLS12-381 MSM price, the modexp prices (EIP-198 / EIP-2565), padding and big-endian lemmas, the modexp output format. -/
namespace Revm.Proofs.Precompile
open Revm Revm.Model.Precompile Revm.Model.PrecompileHash
open Revm.Spec.Precompile (highBit adjExpLen multComplexity198 eip198Gas eip2565Gas ceilDiv slice byteAt)


theorem modPowFuel_eq (f : Nat) : ∀ (b e m : Nat), e < 2 ^ f → modPowFuel f b e m = b ^ e % m := by
  induction f with
  | zero => intro b e m h; have : e = 0 := by omega
            subst this; simp [modPowFuel]
  | succ f ih =>
    intro b e m h
    unfold modPowFuel
    by_cases he : e = 0
    · subst he; simp
    · simp only [he, if_false]
      have h2 : e / 2 < 2 ^ f := by
        have : 2 ^ (f + 1) = 2 * 2 ^ f := by rw [Nat.pow_succ]; omega
        omega
      rw [ih b (e / 2) m h2]
      have hsq : b ^ (e / 2) % m * (b ^ (e / 2) % m) % m = b ^ (2 * (e / 2)) % m := by
        rw [← Nat.mul_mod, ← Nat.pow_add]; congr 2; omega
      rw [hsq]
      by_cases hodd : e % 2 = 1
      · simp only [hodd, if_true]
        rw [Nat.mod_mul_mod, ← Nat.pow_succ]; congr 2; omega
      · simp only [hodd, if_false]
        congr 2; omega

theorem modPow_eq (b e m : Nat) : modPow b e m = b ^ e % m :=
  modPowFuel_eq _ b e m Nat.lt_log2_self


theorem divCeil32 (len : Nat) : divCeil len 32 = Spec.Precompile.ceilDiv len 32 := by
  unfold divCeil Spec.Precompile.ceilDiv; split <;> omega

theorem wmul_wadd (k c b : Nat) (h : k * c + b < U64) : U64ops.wadd (U64ops.wmul k c) b = k * c + b := by
  rw [Proofs.Gas.wmul_of_lt _ _ (Nat.lt_of_le_of_lt (Nat.le_add_right _ _) h), U64ops.wadd_of_lt _ _ h]

theorem calcLinearCost_eq (len base word : Nat)
    (h : Spec.Precompile.linearCost len base word < U64) :
    calcLinearCost len base word = Spec.Precompile.linearCost len base word := by
  unfold calcLinearCost Spec.Precompile.linearCost at *
  rw [Nat.add_comm, Nat.mul_comm] at h
  rw [divCeil32, wmul_wadd _ _ _ h, Nat.add_comm, Nat.mul_comm]

theorem linearCost_lt (len base word : Nat) (hl : len < 2 ^ 40) (hb : base ≤ 600) (hw : word ≤ 120) :
    Spec.Precompile.linearCost len base word < U64 := by
  unfold Spec.Precompile.linearCost Spec.Precompile.ceilDiv
  have hc : (len + 32 - 1) / 32 ≤ 2 ^ 35 := by omega
  have : word * ((len + 32 - 1) / 32) ≤ 120 * 2 ^ 35 := Nat.mul_le_mul hw hc
  rw [U64_val]
  omega

theorem identityRun_eq (input : Bytes) (gas : Nat) (hl : input.length < 2 ^ 40) :
    identityRun input gas = Spec.Precompile.identity input gas := by
  unfold identityRun Spec.Precompile.identity
  rw [calcLinearCost_eq _ _ _ (linearCost_lt _ _ _ hl (by omega) (by omega))]
theorem sha256Run_eq (input : Bytes) (gas : Nat) (hl : input.length < 2 ^ 40) :
    sha256Run input gas = Spec.Precompile.sha256 input gas := by
  unfold sha256Run Spec.Precompile.sha256
  rw [calcLinearCost_eq _ _ _ (linearCost_lt _ _ _ hl (by omega) (by omega))]
theorem ripemd160Run_eq (input : Bytes) (gas : Nat) (hl : input.length < 2 ^ 40) :
    ripemd160Run input gas = Spec.Precompile.ripemd160 input gas := by
  unfold ripemd160Run Spec.Precompile.ripemd160
  rw [calcLinearCost_eq _ _ _ (linearCost_lt _ _ _ hl (by omega) (by omega))]

theorem guard_ne {c : Prop} [Decidable c] {a b x : Res} (h : a ≠ x) : (if c then a else b) = x ↔ ¬ c ∧ b = x := by
  by_cases hc : c <;> simp [hc, h]

theorem guard_eq {c : Prop} [Decidable c] {b x : Res} : (if c then x else b) = x ↔ c ∨ b = x := by
  by_cases hc : c <;> simp [hc]

theorem oog_gate {c : Prop} [Decidable c] {r : Res} (hr : r ≠ .err .OutOfGas) :
    (if c then .err .OutOfGas else r) = .err .OutOfGas ↔ c :=
  guard_eq.trans (or_iff_left hr)

/-- `req` is the code's `u64` price, `price` what it equals once the length rule has passed -/
theorem lenGate_oog_iff (n len gas req price : Nat) (rest : Res)
    (hreq : len ≠ 0 → len % n = 0 → req = price) (hrest : rest ≠ .err .OutOfGas) :
    (if len = 0 ∨ len % n ≠ 0 then Res.err .Other else if req > gas then .err .OutOfGas else rest)
      = .err .OutOfGas ↔ (len ≠ 0 ∧ len % n = 0 ∧ price > gas) := by
  rw [guard_ne, oog_gate hrest, not_or, Decidable.not_not, and_assoc]
  · exact ⟨fun ⟨a, b, h⟩ => ⟨a, b, hreq a b ▸ h⟩, fun ⟨a, b, h⟩ => ⟨a, b, (hreq a b).symm ▸ h⟩⟩
  · nofun

/-- every success `.ok g out` of the precompile run `r` satisfies `P g out` (errors and the panic satisfy it vacuously);
the four rules follow the ways a precompile function is built, so a proof about its successes has the function's shape -/
def Ok (P : Nat → Bytes → Prop) (r : Res) : Prop := ∀ g out, r = .ok g out → P g out

theorem Ok.err {P : Nat → Bytes → Prop} {e : Err} : Ok P (.err e) := nofun
theorem Ok.panic {P : Nat → Bytes → Prop} : Ok P .panic := nofun
theorem Ok.ok {P : Nat → Bytes → Prop} {g : Nat} {out : Bytes} (h : P g out) : Ok P (.ok g out) :=
  fun _ _ he => by cases he; exact h
theorem Ok.ite {P : Nat → Bytes → Prop} {c : Prop} [Decidable c] {a b : Res} (ha : c → Ok P a) (hb : ¬ c → Ok P b) :
    Ok P (if c then a else b) := by
  split
  · exact ha ‹_›
  · exact hb ‹_›

theorem sha256_length (msg : Bytes) : (sha256 msg).length = 32 := by
  simp [sha256, Sha256.stBytes, Sha256.be4]
theorem ripemd160_length (msg : Bytes) : (ripemd160 msg).length = 20 := by
  simp [ripemd160, Ripemd.stBytes, Ripemd.le4]

theorem toLE_length : ∀ (w v : Nat), (toLE w v).length = w := by
  intro w
  induction w with
  | zero => intro v; rfl
  | succ n ih => intro v; simp only [toLE, List.length_cons, ih]

theorem flatMap_toLE_length (l : List UInt64) : (l.flatMap (fun w => toLE 8 w.toNat)).length = 8 * l.length := by
  induction l with
  | nil => rfl
  | cons a l ih => simp only [List.flatMap_cons, List.length_append, toLE_length, ih, List.length_cons]; omega

theorem blake2f_length (input : Bytes) (f : Bool) : (blake2f input f).length = 64 := by
  unfold blake2f
  simp only []
  rw [flatMap_toLE_length]
  unfold Blake2.compress
  simp only [Array.length_toList, Array.size_map, Array.size_range]

/-- BLAKE2F: a success charges the rounds, on a 213-byte input, and returns the 64-byte state -/
theorem blake2_ok (input : Bytes) (gas : Nat) :
    Ok (fun g out => g = beNat (input.take 4) ∧ input.length = 213 ∧ out.length = 64) (blake2Run input gas) := by
  unfold blake2Run
  refine .ite (fun _ => .err) fun hl => .ite (fun _ => .err) fun _ => ?_
  split
  · exact .ok ⟨Nat.mul_one _, Decidable.not_not.mp hl, blake2f_length _ _⟩
  · exact .ok ⟨Nat.mul_one _, Decidable.not_not.mp hl, blake2f_length _ _⟩
  · exact .err


theorem readPoint_not_oog (b : Bytes) : readPoint b ≠ .error .OutOfGas := by
  unfold readPoint
  simp only
  split; · simp
  split; · simp
  split; · simp
  split <;> simp

theorem bnPairElem_not_oog (core : BnPairCore) (i : Nat) (e : Bytes) :
    bnPairElem core i e ≠ .error .OutOfGas := by
  unfold bnPairElem
  simp only
  split; · simp
  split
  · next err he => intro hc; injection hc with hc; subst hc; exact readPoint_not_oog _ he
  · split; · simp
    split <;> simp

theorem bnPairElems_not_oog (core : BnPairCore) (n : Nat) : ∀ (i : Nat) (inp : Bytes),
    bnPairElems core n i inp ≠ .error .OutOfGas := by
  induction n with
  | zero => intro i inp; simp [bnPairElems]
  | succ n ih =>
    intro i inp
    unfold bnPairElems
    split
    · next e he => intro hc; injection hc with hc; subst hc; exact bnPairElem_not_oog _ _ _ he
    · exact ih _ _

theorem bnPair_oog_iff (core : BnPairCore) (perPoint base : Nat) (input : Bytes) (gas : Nat)
    (hl : input.length < 2 ^ 40) (hp : perPoint ≤ 80000) (hb : base ≤ 100000) :
    bnPairRun core perPoint base input gas = .err .OutOfGas ↔ base + perPoint * (input.length / 192) > gas := by
  unfold bnPairRun
  have hm : input.length / 192 * perPoint ≤ 2 ^ 33 * 80000 := Nat.mul_le_mul (by omega) hp
  rw [wmul_wadd _ _ _ (by rw [U64_val]; omega), Nat.add_comm, Nat.mul_comm]
  refine oog_gate ?_
  split; · simp
  split; · simp
  split
  · next e he => intro hc; injection hc with hc; subst hc; exact bnPairElems_not_oog _ _ _ _ he
  · simp


/-- EIP-2537 MSM price over `Nat`: `k * mulCost * discount(k) / 1000`, discount capped at the last entry -/
def msmSpecGas (k : Nat) (table : List Nat) (mulCost : Nat) : Nat :=
  k * mulCost * (table[min (k - 1) (table.length - 1)]?).getD 0 / 1000

theorem table_le (table : List Nat) (hb : ∀ d ∈ table, d ≤ 1000) (i : Nat) (d : Nat)
    (h : table[i]? = some d) : d ≤ 1000 := hb d (List.mem_of_getElem? h)

theorem msmRequiredGas_eq (k : Nat) (table : List Nat) (mulCost : Nat)
    (hk : 0 < k) (hk2 : k < 2 ^ 33) (hm : mulCost ≤ 22500) (hb : ∀ d ∈ table, d ≤ 1000) (hne : table ≠ []) :
    msmRequiredGas k table mulCost = msmSpecGas k table mulCost := by
  unfold msmRequiredGas msmSpecGas
  have hk0 : k ≠ 0 := by omega
  simp only [hk0, if_false]
  have hidx : min (k - 1) (table.length - 1) < table.length := by
    have : 0 < table.length := List.length_pos_iff.mpr hne
    omega
  rw [List.getElem?_eq_getElem hidx]
  simp only [Option.getD_some]
  have hd : table[min (k - 1) (table.length - 1)] ≤ 1000 := hb _ (List.getElem_mem hidx)
  generalize table[min (k - 1) (table.length - 1)] = d at *
  unfold U64ops.wmul
  have h1 : k * d ≤ 2 ^ 33 * 1000 := Nat.mul_le_mul (by omega) hd
  have h1' : k * d < U64 := by rw [U64_val]; omega
  rw [Nat.mod_eq_of_lt h1']
  have h2 : k * d * mulCost ≤ 2 ^ 33 * 1000 * 22500 := Nat.mul_le_mul h1 hm
  have h2' : k * d * mulCost < U64 := by rw [U64_val]; omega
  rw [Nat.mod_eq_of_lt h2']
  congr 1
  rw [Nat.mul_assoc, Nat.mul_comm d mulCost, ← Nat.mul_assoc]

theorem forall_mem_of_all {p : Nat → Prop} [DecidablePred p] (t : List Nat)
    (h : t.all (fun d => decide (p d)) = true) : ∀ d ∈ t, p d :=
  fun d hd => of_decide_eq_true (List.all_eq_true.mp h d hd)

theorem g1Table_le : ∀ d ∈ g1DiscountTable, d ≤ 1000 := forall_mem_of_all _ (by decide +kernel)
theorem g2Table_le : ∀ d ∈ g2DiscountTable, d ≤ 1000 := forall_mem_of_all _ (by decide +kernel)
theorem g1Table_ne : g1DiscountTable ≠ [] := by unfold g1DiscountTable; exact List.cons_ne_nil _ _
theorem g2Table_ne : g2DiscountTable ≠ [] := by unfold g2DiscountTable; exact List.cons_ne_nil _ _



theorem bitLen_pred (hp : Nat) : bitLen hp - 1 = highBit hp := by
  unfold bitLen highBit; split <;> omega
theorem max1_bitLen (hp : Nat) : max 1 (bitLen hp) - 1 = highBit hp := by
  unfold bitLen highBit; split <;> omega
theorem highBit_lt (hp : Nat) (h : hp < W) : highBit hp < 256 := by
  unfold highBit; split
  · omega
  · next h0 => exact (Nat.log2_lt h0).mpr (by unfold W at h; exact h)

/-- no saturation of the `u64` iteration count: `8 * (exp_len - 32) + 255 < 2^64` -/
def NoIterSat (expLen : Nat) : Prop := 8 * (expLen - 32) + 255 < U64

theorem iterCount_eq (el hp : Nat) (hhp : hp < W) (hns : NoIterSat el) :
    calculateIterationCount el hp = max (adjExpLen el hp) 1 := by
  unfold calculateIterationCount adjExpLen
  unfold NoIterSat at hns
  have hb := highBit_lt hp hhp
  by_cases h1 : el ≤ 32
  · by_cases h0 : hp = 0
    · simp [h1, h0, highBit]
    · simp only [h1, h0, and_false, if_false, if_true]; rw [bitLen_pred]
  · simp only [h1, false_and, if_false]
    rw [max1_bitLen]
    unfold U64ops.saturatingAdd U64ops.saturatingMul
    rw [U64_val] at *
    have a1 : 8 * (el - 32) < 18446744073709551616 := by omega
    simp only [a1, if_true]
    have a2 : 8 * (el - 32) + highBit hp < 18446744073709551616 := by omega
    simp only [a2, if_true]


theorem iter_lt (el hp : Nat) (hhp : hp < W) (hns : NoIterSat el) : max (adjExpLen el hp) 1 < U64 := by
  unfold adjExpLen NoIterSat at *
  have := highBit_lt hp hhp
  split <;> omega

theorem sq_lt (x : Nat) (h : x < U64) : x * x < 2 ^ 128 := by
  have : x * x < U64 * U64 := Nat.mul_lt_mul'' h h
  rw [U64_val] at this; omega

theorem byzMulComplexity_eq (x : Nat) (h : x < U64) : byzMulComplexity x = multComplexity198 x := by
  unfold byzMulComplexity multComplexity198
  rw [Nat.pow_two]
  by_cases h1 : x ≤ 64
  · simp [h1]
  · by_cases h2 : x ≤ 1024
    · simp [h1, h2]
    · simp only [h1, h2, if_false]
      have hs := sq_lt x h
      have hlo : 1025 * 1025 ≤ x * x := Nat.mul_le_mul (by omega) (by omega)
      unfold U256.wsub U256.wadd U256.wmul
      generalize x * x = s at *
      rw [U64_val] at h
      rw [W_val]
      omega

theorem multComplexity198_lt (x : Nat) (h : x < U64) : multComplexity198 x < 2 ^ 126 := by
  unfold multComplexity198
  rw [Nat.pow_two]
  have hs := sq_lt x h
  have hsmall : x ≤ 1024 → x * x ≤ 1024 * 1024 := fun h => Nat.mul_le_mul h h
  generalize x * x = s at *
  rw [U64_val] at h
  split
  · omega
  · split <;> omega

theorem satToU64_eq (x : Nat) : satToU64 x = min x (U64 - 1) := by
  unfold satToU64; rw [U64_val]; split <;> omega

theorem byzantiumGasCalc_eq (bl el ml hp : Nat) (hbl : bl < U64) (hml : ml < U64) (hhp : hp < W)
    (hns : NoIterSat el) :
    byzantiumGasCalc bl el ml hp = min (eip198Gas bl el ml hp) (U64 - 1) := by
  unfold byzantiumGasCalc eip198Gas
  have hx : max ml bl < U64 := by omega
  rw [byzMulComplexity_eq _ hx, iterCount_eq el hp hhp hns, satToU64_eq]
  have hm := multComplexity198_lt _ hx
  have hi := iter_lt el hp hhp hns
  have hprod : multComplexity198 (max ml bl) * max (adjExpLen el hp) 1 < 2 ^ 126 * U64 :=
    Nat.mul_lt_mul'' hm hi
  unfold U256.wmul
  have : multComplexity198 (max ml bl) * max (adjExpLen el hp) 1 < W := by
    rw [W_val]; rw [U64_val] at hprod; omega
  rw [Nat.mod_eq_of_lt this]

theorem berlinWords_eq (m : Nat) : (if m % 8 > 0 then m / 8 + 1 else m / 8) = ceilDiv m 8 := by
  unfold ceilDiv; split <;> omega

theorem berlinGasCalc_eq (bl el ml hp : Nat) (hbl : bl < U64) (hml : ml < U64) (hhp : hp < W)
    (hns : NoIterSat el) :
    berlinGasCalc bl el ml hp = min (eip2565Gas bl el ml hp) (U64 - 1) := by
  unfold berlinGasCalc eip2565Gas
  simp only [berlinWords_eq]
  rw [iterCount_eq el hp hhp hns, satToU64_eq, Nat.pow_two]
  have hw : ceilDiv (max bl ml) 8 < U64 := by unfold ceilDiv; rw [U64_val] at *; omega
  have hs := sq_lt _ hw
  have hi := iter_lt el hp hhp hns
  have hprod : ceilDiv (max bl ml) 8 * ceilDiv (max bl ml) 8 * max (adjExpLen el hp) 1 < 2 ^ 128 * U64 :=
    Nat.mul_lt_mul'' hs hi
  unfold U256.wmul
  have h1 : ceilDiv (max bl ml) 8 * ceilDiv (max bl ml) 8 < W := by rw [W_val]; omega
  rw [Nat.mod_eq_of_lt h1]
  have h2 : ceilDiv (max bl ml) 8 * ceilDiv (max bl ml) 8 * max (adjExpLen el hp) 1 < W := by
    rw [W_val]; rw [U64_val] at hprod; omega
  rw [Nat.mod_eq_of_lt h2]
  generalize ceilDiv (max bl ml) 8 * ceilDiv (max bl ml) 8 * max (adjExpLen el hp) 1 / 3 = g
  rw [U64_val]; omega


theorem rightPad_length (n : Nat) (d : Bytes) : (rightPad n d).length = n := by
  simp [rightPad]; omega
theorem leftPad_length (n : Nat) (d : Bytes) : (leftPad n d).length = n := by
  unfold leftPad; split <;> simp <;> omega
theorem rightPad_of_le (n : Nat) (d : Bytes) (h : n ≤ d.length) : rightPad n d = d.take n := by
  simp [rightPad, Nat.sub_eq_zero_of_le h]
theorem rightPad_of_ge (n : Nat) (d : Bytes) (h : d.length ≤ n) :
    rightPad n d = d ++ List.replicate (n - d.length) 0 := by
  simp [rightPad, List.take_of_length_le h]
theorem leftPad_of_le (n : Nat) (d : Bytes) (h : d.length ≤ n) :
    leftPad n d = List.replicate (n - d.length) 0 ++ d := by
  unfold leftPad; split
  · have : d.length = n := by omega
    subst this; simp
  · rfl

theorem rightPad_getElem? (n : Nat) (d : Bytes) (i : Nat) :
    (rightPad n d)[i]? = if i < n then some ((d[i]?).getD 0) else none := by
  unfold rightPad
  have hlen : (List.take n d).length = min n d.length := List.length_take
  by_cases h2 : i < min n d.length
  · rw [List.getElem?_append_left (by omega), List.getElem?_take]
    have h3 : i < n := by omega
    have h4 : i < d.length := by omega
    simp [h3, h4]
  · rw [List.getElem?_append_right (by omega), List.getElem?_replicate, hlen]
    by_cases h1 : i < n
    · have hd : d.length ≤ i := by omega
      have h5 : i - min n d.length < n - d.length := by omega
      simp [h5, h1, List.getElem?_eq_none hd]
    · have h5 : ¬ (i - min n d.length < n - d.length) := by omega
      simp [h5, h1]

theorem slice_eq (input : Bytes) (off len : Nat) : slice input off len = rightPad len (input.drop off) := by
  apply List.ext_getElem?
  intro i
  rw [rightPad_getElem?]
  unfold slice byteAt
  by_cases h : i < len
  · simp [h, List.getElem?_drop]
  · simp [h]

theorem take_rightPad (k n : Nat) (d : Bytes) (h : k ≤ n) : (rightPad n d).take k = rightPad k d := by
  apply List.ext_getElem?
  intro i
  rw [List.getElem?_take, rightPad_getElem?, rightPad_getElem?]
  by_cases h1 : i < k
  · have : i < n := by omega
    simp [h1, this]
  · simp [h1]

theorem rightPad_idem (n : Nat) (d : Bytes) : rightPad n (rightPad n d) = rightPad n d := by
  have h := take_rightPad n n d (Nat.le_refl _)
  have hl := rightPad_length n d
  unfold rightPad at h hl ⊢
  rw [h, hl]; simp

theorem drop_rightPad (a b : Nat) (d : Bytes) : (rightPad (a + b) d).drop a = rightPad b (d.drop a) := by
  apply List.ext_getElem?
  intro i
  rw [List.getElem?_drop, rightPad_getElem?, rightPad_getElem?, List.getElem?_drop]
  by_cases h1 : i < b
  · have : a + i < a + b := by omega
    simp [h1, this]
  · have : ¬ a + i < a + b := by omega
    simp [h1, this]

theorem rightPad128_drop63 (input : Bytes) : ∃ v rest, (rightPad 128 input).drop 63 = v :: rest := by
  cases h : (rightPad 128 input).drop 63 with
  | nil => have := congrArg List.length h; simp [rightPad_length] at this
  | cons v rest => exact ⟨v, rest, rfl⟩

/-- C23's normal form of `Model.Precompile.ecRecoverRun`, with the `v` byte named. `Proofs.Backend.ecRecoverRun_eq` (C24)
is about another function, `Model.Backend.ecRecoverRun`. -/
theorem ecRecoverRun_eq (rec : Bytes → Nat → Bytes → Option Bytes) (input : Bytes) (gas : Nat) {v : Nat} {rest : Bytes}
    (hv : (rightPad 128 input).drop 63 = v :: rest) :
    ecRecoverRun rec input gas = if 3000 > gas then .err .OutOfGas else
      .ok 3000 (if (((rightPad 128 input).drop 32).take 31).all (· == 0) && (v == 27 || v == 28) then
        (rec (((rightPad 128 input).drop 64).take 64) (v - 27) ((rightPad 128 input).take 32)).getD [] else []) := by
  unfold ecRecoverRun
  simp only [hv]
  cases (((rightPad 128 input).drop 32).take 31).all (· == 0) && (v == 27 || v == 28)
  · rfl
  · cases rec (((rightPad 128 input).drop 64).take 64) (v - 27) ((rightPad 128 input).take 32) <;> rfl

theorem beNat_foldl (bs : Bytes) (acc : Nat) :
    bs.foldl (fun a b => a * 256 + b) acc = acc * 256 ^ bs.length + beNat bs := by
  induction bs generalizing acc with
  | nil => simp [beNat]
  | cons x xs ih =>
    simp only [List.foldl_cons, List.length_cons, beNat]
    rw [ih, ih (0 * 256 + x)]
    rw [Nat.pow_succ]
    generalize 256 ^ xs.length = p
    generalize beNat xs = r
    rw [Nat.add_mul, Nat.zero_mul, Nat.zero_add, Nat.mul_assoc, Nat.mul_comm 256 p]
    omega

theorem beNat_append (a b : Bytes) : beNat (a ++ b) = beNat a * 256 ^ b.length + beNat b := by
  unfold beNat
  rw [List.foldl_append, beNat_foldl]
  rfl

theorem beNat_zeros (n : Nat) : beNat (List.replicate n 0) = 0 := by
  induction n with
  | zero => rfl
  | succ n ih =>
    rw [List.replicate_succ]
    have := beNat_append [0] (List.replicate n 0)
    simp only [List.singleton_append] at this
    rw [this, ih]; simp [beNat]

theorem beNat_leftPad (n : Nat) (d : Bytes) (h : d.length ≤ n) : beNat (leftPad n d) = beNat d := by
  rw [leftPad_of_le n d h, beNat_append, beNat_zeros]; simp
theorem beNat_lt (bs : Bytes) (hb : ∀ b ∈ bs, b < 256) : beNat bs < 256 ^ bs.length := by
  have := foldl_be_lt bs hb 0
  simpa [beNat] using this

theorem toBEAux_eq (w : Nat) : ∀ (v : Nat) (acc : Bytes), toBEAux w v acc = toBEAux w v [] ++ acc := by
  induction w with
  | zero => intro v acc; simp [toBEAux]
  | succ w ih =>
    intro v acc
    unfold toBEAux
    rw [ih (v / 256) ((v % 256) :: acc), ih (v / 256) [v % 256]]
    simp

theorem toBE_succ (w v : Nat) : toBE (w + 1) v = toBE w (v / 256) ++ [v % 256] := by
  unfold toBE; rw [toBEAux, toBEAux_eq]

theorem toBE_length (w : Nat) : ∀ v, (toBE w v).length = w := by
  induction w with
  | zero => intro v; rfl
  | succ w ih => intro v; rw [toBE_succ]; simp [ih]

theorem beNat_toBE (w : Nat) : ∀ v, beNat (toBE w v) = v % 256 ^ w := by
  induction w with
  | zero => intro v; simp [toBE, toBEAux, beNat, Nat.mod_one]
  | succ w ih =>
    intro v
    rw [toBE_succ, beNat_append, ih]
    have h1 : beNat [v % 256] = v % 256 := by simp [beNat]
    rw [h1, Nat.pow_succ, Nat.mul_comm (256 ^ w) 256, Nat.mod_mul]
    simp only [List.length_singleton, Nat.pow_one]
    rw [Nat.mul_comm]
    omega

theorem lt_pow_byteLen (v : Nat) : v < 256 ^ byteLen v := by
  unfold byteLen
  split
  · next h => subst h; simp
  · have h1 : v < 2 ^ (v.log2 + 1) := Nat.lt_log2_self
    have h2 : 2 ^ (v.log2 + 1) ≤ 2 ^ (8 * (v.log2 / 8 + 1)) := Nat.pow_le_pow_right (by omega) (by omega)
    have h3 : (256 : Nat) ^ (v.log2 / 8 + 1) = 2 ^ (8 * (v.log2 / 8 + 1)) := by
      rw [Nat.pow_mul]
    omega

theorem byteLen_le (v n : Nat) (h : v < 256 ^ n) : byteLen v ≤ n := by
  unfold byteLen
  split
  · omega
  · next h0 =>
    have h3 : (256 : Nat) ^ n = 2 ^ (8 * n) := by rw [Nat.pow_mul]
    rw [h3] at h
    have := (Nat.log2_lt h0).mpr h
    omega

theorem modexpLib_padded (base exponent modulus : Bytes) (ml : Nat) (hm : beNat modulus < 256 ^ ml) :
    (leftPad ml (modexpLib base exponent modulus)).length = ml ∧
    beNat (leftPad ml (modexpLib base exponent modulus)) =
      Spec.Precompile.modexpValue (beNat base) (beNat exponent) (beNat modulus) := by
  unfold modexpLib Spec.Precompile.modexpValue
  by_cases h0 : beNat modulus = 0
  · simp only [h0, if_true]
    rw [leftPad_of_le ml [] (by simp)]
    simp [beNat_zeros]
  · simp only [h0, if_false]
    rw [modPow_eq]
    have hv : beNat base ^ beNat exponent % beNat modulus < beNat modulus := Nat.mod_lt _ (by omega)
    generalize beNat base ^ beNat exponent % beNat modulus = v at *
    have hk : byteLen v ≤ ml := byteLen_le v ml (by omega)
    rw [leftPad_of_le ml _ (by rw [toBE_length]; exact hk)]
    constructor
    · simp [toBE_length]; omega
    · rw [beNat_append, beNat_zeros, beNat_toBE, Nat.mod_eq_of_lt (lt_pow_byteLen v)]; simp

end Revm.Proofs.Precompile
