import Revm.Proofs.EvmStep2
/-! Running a handler forward on a symbolic state. A handler is `prim₁ >>= fun a₁ => prim₂ >>= …`, its rule is written in
continuation style (`if <prim₁ fails> then <halt> else …`). For each primitive, `prim_run` states under an arbitrary observer
`E` of the result (`Exec.toDone`, `hostRun post`, …) that `E ((prim >>= f) s) = if <prim fails on s> then E (.halt …) else d`
given `E (f a s') = d`, and hands to the proof of that premise what is known of `s'`: `Inv`, the bound checked, the range made
addressable, the words popped `< W`. `d` unifies with the text of the rule, so the term that names a handler's primitives in
order proves that the handler is its rule. -/
namespace Revm.Proofs.EvmStep2
open Revm Revm.Model Revm.Model.Interp
open Revm.Model.GasCalc (enabled)
open Revm.Spec.EvmRules Revm.Spec.EvmRules2
open Revm.Proofs.EvmStep

/-- what every `…_run` lemma assumes of the state before its primitive and hands on for the state after it: `WF` without the
stack depth (which a handler changes), and `MemOK` for the handlers that reach `shared_memory` (`b = true`, from `WFM`) -/
structure Inv (b : Bool) (s : IState) : Prop where
  gas : s.gas.remaining < U64
  words : ∀ w ∈ s.stack, w < W
  memOK : b = true → MemOK s

theorem _root_.Revm.Spec.EvmRules.WF.inv {s : IState} (h : WF s) : Inv false (adv s) :=
  ⟨h.gas, h.words, fun hb => nomatch hb⟩

theorem WFM.inv {s : IState} (h : WFM s) : Inv true (adv s) := ⟨h.gas, h.words, fun _ => h.memOK.adv⟩

namespace Inv
variable {b : Bool} {s : IState}

theorem wf (h : Inv true s) : Proofs.Memory.WF s.mem := (h.memOK rfl).mem

theorem bound (h : Inv true s) : s.gas.remaining < GAS_BOUND := (h.memOK rfl).bound

theorem charge (h : Inv b s) (c : Nat) : Inv b (charge s c) :=
  ⟨by show s.gas.remaining - c < U64; have := h.gas; omega, h.words, fun hb => (h.memOK hb).charge c⟩

theorem stack (h : Inv b s) {st : List Nat} (hst : ∀ w ∈ st, w < W) : Inv b { s with stack := st } :=
  ⟨h.gas, hst, fun hb => (h.memOK hb).stack st⟩

theorem touch (h : Inv true s) (off len : Nat) (hc : ¬ s.gas.remaining < touchCost (memOf s) off len) :
    Inv true (setMem (Spec.EvmRules.charge s (touchCost (memOf s) off len)) (Spec.EvmRules2.touch (memOf s) off len)) :=
  ⟨((h.memOK rfl).touch off len hc).gas, h.words, fun _ => (h.memOK rfl).touch off len hc⟩

theorem split (h : Inv b s) {pre rest : List Nat} (hrev : s.stack.reverse = pre ++ rest) :
    (∀ w ∈ pre, w < W) ∧ Inv b { s with stack := rest.reverse } :=
  ⟨fun w hw => lt_W_of_mem h.words hrev hw,
   h.stack fun w hw => h.words w (by rw [stack_of_reverse hrev]; exact List.mem_append_left _ hw)⟩

end Inv

section
variable {α β γ : Type} {E : Exec β → γ} {mb : Bool} {s : IState} {d : γ}

theorem ok_run {m : M α} {f : α → M β} {a : α} {s' : IState} (h : m s = .ok a s') (hk : E (f a s') = d) :
    E ((m >>= f) s) = d :=
  (congrArg E (bind_ok m f s s' a h)).trans hk

theorem halt_run {m : M α} {f : α → M β} {r : IResult} {o : List Nat} {s' : IState} (h : m s = .halt r o s') :
    E ((m >>= f) s) = E (.halt r o s') :=
  congrArg E (bind_halt m f s s' r o h)

theorem fail_run {m : M α} {f : α → M β} {c : Prop} [Decidable c] {r : IResult} {o : List Nat} {s1 : IState} {a : α}
    {s2 : IState} (h : m s = if c then .halt r o s1 else .ok a s2) (hk : ¬ c → E (f a s2) = d) :
    E ((m >>= f) s) = if c then E (.halt r o s1) else d :=
  (bind_ite E h f).trans (ite_else hk)

theorem assoc_run {α' : Type} {m : M α} {g : α → M α'} {f : α' → M β} (hk : E ((m >>= fun a => g a >>= f) s) = d) :
    E (((m >>= g) >>= f) s) = d :=
  (congrArg E (bind_assoc' m g f s)).trans hk

theorem getS_run {f : IState → M β} (hk : E (f s s) = d) : E ((getS >>= f) s) = d := hk

theorem ite_run {c : Prop} [Decidable c] {x y : M β} {a b : γ} (h1 : c → E (x s) = a) (h2 : ¬ c → E (y s) = b) :
    E ((if c then x else y) s) = if c then a else b := by
  by_cases hc : c
  · rw [if_pos hc, if_pos hc]; exact h1 hc
  · rw [if_neg hc, if_neg hc]; exact h2 hc

theorem ite_bind_run {c : Prop} [Decidable c] {x y : M α} {g : α → M β} {a b : γ} (h1 : c → E ((x >>= g) s) = a)
    (h2 : ¬ c → E ((y >>= g) s) = b) : E (((if c then x else y) >>= g) s) = if c then a else b := by
  by_cases hc : c
  · rw [if_pos hc, if_pos hc]; exact h1 hc
  · rw [if_neg hc, if_neg hc]; exact h2 hc

theorem ite_not_bind_run {c : Prop} [Decidable c] {x y : M α} {g : α → M β} {a b : γ}
    (h1 : ¬ c → E ((x >>= g) s) = a) (h2 : c → E ((y >>= g) s) = b) :
    E (((if ¬ c then x else y) >>= g) s) = if c then b else a := by
  by_cases hc : c
  · rw [if_neg (not_not_intro hc), if_pos hc]; exact h2 hc
  · rw [if_pos hc, if_neg hc]; exact h1 hc

theorem ite_not_run {c : Prop} [Decidable c] {x y : M β} {a b : γ} (h1 : ¬ c → E (x s) = a) (h2 : c → E (y s) = b) :
    E ((if ¬ c then x else y) s) = if c then b else a := by
  by_cases hc : c
  · rw [if_neg (not_not_intro hc), if_pos hc]; exact h2 hc
  · rw [if_pos hc, if_neg hc]; exact h1 hc

/-- the handler tests `c`, the rule the equivalent `c'` -/
theorem ite_iff_run {c c' : Prop} [Decidable c] [Decidable c'] {x y : M β} {a b : γ} (hcc : c ↔ c')
    (h1 : c' → E (x s) = a) (h2 : ¬ c' → E (y s) = b) : E ((if c then x else y) s) = if c' then a else b := by
  by_cases hc : c'
  · rw [if_pos (hcc.mpr hc), if_pos hc]; exact h1 hc
  · rw [if_neg (fun h => hc (hcc.mp h)), if_neg hc]; exact h2 hc

/-- a rule that tests two operands at once against a handler that tests them one after the other -/
theorem ite_or {α : Sort _} {a b : Prop} [Decidable a] [Decidable b] (x y : α) :
    (if a ∨ b then x else y) = if a then x else if b then x else y := by
  by_cases ha : a <;> by_cases hb : b <;> simp [ha, hb]

theorem check_run {fork : Nat} {f : Unit → M β} (hk : E (f () s) = d) :
    E ((check fork >>= f) s) = if !enabled s.spec fork then E (.halt .NotActivated [] s) else d :=
  fail_run (check_eq fork s) fun _ => hk

/-- `check!` against a rule that tests the flag `b` of the named fork -/
theorem checkFork_run {fork : Nat} {b : Bool} {f : Unit → M β} (hb : enabled s.spec fork = b) (hk : E (f () s) = d) :
    E ((check fork >>= f) s) = if !b then E (.halt .NotActivated [] s) else d :=
  hb ▸ check_run hk

theorem nonStatic_run {f : Unit → M β} (hk : E (f () s) = d) :
    E ((requireNonStatic >>= f) s) = if s.isStatic then E (.halt .StateChangeDuringStaticCall [] s) else d :=
  fail_run (requireNonStatic_eq s) fun _ => hk

theorem requireSome_run {r : HostResp} {f : Unit → M β} (hk : E (f () s) = d) :
    E ((requireSome r >>= f) s) = if !r.ok then E (.halt .FatalExternalError [] s) else d :=
  fail_run (requireSome_eq r s) fun _ => hk

theorem gas_run {c : Nat} {f : Unit → M β} (h : Inv mb s) (hk : Inv mb (charge s c) → E (f () (charge s c)) = d) :
    E ((gasCharge c >>= f) s) = if s.gas.remaining < c then E (.halt .OutOfGas [] s) else d :=
  fail_run (gasCharge_eq s c h.gas) fun _ => hk (h.charge c)

/-- `gas_or_fail!` on a 64-bit cost `cost` whose true value is `c` (`hc`: one of the `…Charge_eq` lemmas) -/
theorem gasOrFail_run {cost : Option Nat} {c : Nat} {f : Unit → M β} (h : Inv mb s)
    (hc : gasOrFail cost s = if s.gas.remaining < c then .halt .OutOfGas [] s else .ok () (charge s c))
    (hk : Inv mb (charge s c) → E (f () (charge s c)) = d) :
    E ((gasOrFail cost >>= f) s) = if s.gas.remaining < c then E (.halt .OutOfGas [] s) else d :=
  fail_run hc fun _ => hk (h.charge c)

theorem usize_run {v : Nat} {reason : IResult} {f : Nat → M β} (hv : v < W) (hk : v < U64 → E (f v s) = d) :
    E ((asUsizeOrFail v reason >>= f) s) = if U64 ≤ v then E (.halt reason [] s) else d :=
  fail_run (asUsizeOrFail_eq v reason s hv) fun h => hk (Nat.lt_of_not_le h)

theorem resize_run {off len : Nat} {f : Unit → M β} (h : Inv true s)
    (hk : Inv true (setMem (charge s (touchCost (memOf s) off len)) (touch (memOf s) off len)) →
      off + len ≤ (memOf (setMem (charge s (touchCost (memOf s) off len)) (touch (memOf s) off len))).length →
      E (f () (setMem (charge s (touchCost (memOf s) off len)) (touch (memOf s) off len))) = d) :
    E ((resizeMem off len >>= f) s) =
      if s.gas.remaining < touchCost (memOf s) off len then E (.halt .MemoryOOG [] s) else d :=
  fail_run (resizeMem_eq s off len (h.memOK rfl)) fun hc =>
    hk (h.touch off len hc) (by rw [memOf_setMem ((h.memOK rfl).charge _).mem]; exact touch_covers (memOf s) off len)

theorem slice_run {off len : Nat} {f : List Nat → M β} (h : Inv true s) (hin : off + len ≤ (memOf s).length)
    (hk : E (f (load (memOf s) off len) s) = d) : E ((memSlice off len >>= f) s) = d :=
  ok_run (memSlice_eq s off len h.wf hin) hk

theorem short_of_reverse {l : List Nat} (hrev : s.stack.reverse = l) {k : Nat} (h : l.length < k) :
    s.stack.length < k := by
  rw [← List.length_reverse, hrev]; exact h

theorem popN_short_run {l : List Nat} (hrev : s.stack.reverse = l) {k : Nat} (h : l.length < k) {f : List Nat → M β} :
    E ((popN k >>= f) s) = E (.halt .StackUnderflow [] s) :=
  halt_run (popN_underflow s k (short_of_reverse hrev h))

theorem popTop_short_run {l : List Nat} (hrev : s.stack.reverse = l) {k : Nat} (h : l.length < k)
    {f : List Nat × Nat → M β} : E ((popTop k >>= f) s) = E (.halt .StackUnderflow [] s) :=
  halt_run (popTop_underflow s k (short_of_reverse hrev h))

theorem popN_rev (vs rest : List Nat) (hrev : s.stack.reverse = vs ++ rest) :
    popN vs.length s = .ok vs { s with stack := rest.reverse } :=
  popN_ok s _ vs (stack_of_reverse hrev)

theorem popTop_rev (vs : List Nat) (t : Nat) (rest : List Nat) (hrev : s.stack.reverse = vs ++ t :: rest) :
    popTop (vs.length + 1) s = .ok (vs, t) { s with stack := (t :: rest).reverse } := by
  rw [List.reverse_cons]
  exact popTop_ok s _ vs t (by rw [stack_of_reverse hrev, List.reverse_cons])

theorem pop1_run {f : Nat → M β} {k : Nat → List Nat → γ} (h : Inv mb s)
    (hk : ∀ a rest, s.stack.reverse = a :: rest → a < W → Inv mb { s with stack := rest.reverse } →
      E (f a { s with stack := rest.reverse }) = k a rest) :
    E ((pop1 >>= f) s) = match s.stack.reverse with
      | a :: rest => k a rest
      | [] => E (.halt .StackUnderflow [] s) := by
  refine assoc_run ?_
  rcases hrev : s.stack.reverse with _ | ⟨a, rest⟩
  · exact popN_short_run hrev (by simp)
  · obtain ⟨hp, hr⟩ := h.split (pre := [a]) hrev
    exact ok_run (popN_rev [a] rest hrev) (hk a rest hrev (hp a (by simp)) hr)

theorem pop2_run {f : Nat × Nat → M β} {k : Nat → Nat → List Nat → γ} (h : Inv mb s)
    (hk : ∀ a b rest, s.stack.reverse = a :: b :: rest → a < W → b < W → Inv mb { s with stack := rest.reverse } →
      E (f (a, b) { s with stack := rest.reverse }) = k a b rest) :
    E ((pop2 >>= f) s) = match s.stack.reverse with
      | a :: b :: rest => k a b rest
      | _ => E (.halt .StackUnderflow [] s) := by
  refine assoc_run ?_
  rcases hrev : s.stack.reverse with _ | ⟨a, _ | ⟨b, rest⟩⟩
  · exact popN_short_run hrev (by simp)
  · exact popN_short_run hrev (by simp)
  · obtain ⟨hp, hr⟩ := h.split (pre := [a, b]) hrev
    exact ok_run (popN_rev [a, b] rest hrev) (hk a b rest hrev (hp a (by simp)) (hp b (by simp)) hr)

theorem pop3_run {f : Nat × Nat × Nat → M β} {k : Nat → Nat → Nat → List Nat → γ} (h : Inv mb s)
    (hk : ∀ a b c rest, s.stack.reverse = a :: b :: c :: rest → a < W → b < W → c < W →
      Inv mb { s with stack := rest.reverse } → E (f (a, b, c) { s with stack := rest.reverse }) = k a b c rest) :
    E ((pop3 >>= f) s) = match s.stack.reverse with
      | a :: b :: c :: rest => k a b c rest
      | _ => E (.halt .StackUnderflow [] s) := by
  refine assoc_run ?_
  rcases hrev : s.stack.reverse with _ | ⟨a, _ | ⟨b, _ | ⟨c, rest⟩⟩⟩
  · exact popN_short_run hrev (by simp)
  · exact popN_short_run hrev (by simp)
  · exact popN_short_run hrev (by simp)
  · obtain ⟨hp, hr⟩ := h.split (pre := [a, b, c]) hrev
    exact ok_run (popN_rev [a, b, c] rest hrev)
      (hk a b c rest hrev (hp a (by simp)) (hp b (by simp)) (hp c (by simp)) hr)

theorem pop4_run {f : Nat × Nat × Nat × Nat → M β} {k : Nat → Nat → Nat → Nat → List Nat → γ} (h : Inv mb s)
    (hk : ∀ a b c e rest, s.stack.reverse = a :: b :: c :: e :: rest → a < W → b < W → c < W → e < W →
      Inv mb { s with stack := rest.reverse } → E (f (a, b, c, e) { s with stack := rest.reverse }) = k a b c e rest) :
    E ((pop4 >>= f) s) = match s.stack.reverse with
      | a :: b :: c :: e :: rest => k a b c e rest
      | _ => E (.halt .StackUnderflow [] s) := by
  refine assoc_run ?_
  rcases hrev : s.stack.reverse with _ | ⟨a, _ | ⟨b, _ | ⟨c, _ | ⟨e, rest⟩⟩⟩⟩
  · exact popN_short_run hrev (by simp)
  · exact popN_short_run hrev (by simp)
  · exact popN_short_run hrev (by simp)
  · exact popN_short_run hrev (by simp)
  · obtain ⟨hp, hr⟩ := h.split (pre := [a, b, c, e]) hrev
    exact ok_run (popN_rev [a, b, c, e] rest hrev)
      (hk a b c e rest hrev (hp a (by simp)) (hp b (by simp)) (hp c (by simp)) (hp e (by simp)) hr)

theorem popAddress_run {f : Nat → M β} {k : Nat → List Nat → γ} (h : Inv mb s)
    (hk : ∀ a rest, s.stack.reverse = a :: rest → Inv mb { s with stack := rest.reverse } →
      E (f (addrOf a) { s with stack := rest.reverse }) = k a rest) :
    E ((popAddress >>= f) s) = match s.stack.reverse with
      | a :: rest => k a rest
      | [] => E (.halt .StackUnderflow [] s) :=
  assoc_run (pop1_run h fun a rest hrev _ hr => hk a rest hrev hr)

theorem popTop1_run {f : Nat → M β} {k : Nat → List Nat → γ} (h : Inv mb s)
    (hk : ∀ a rest, s.stack.reverse = a :: rest → a < W → E (f a s) = k a rest) :
    E ((popTop1 >>= f) s) = match s.stack.reverse with
      | a :: rest => k a rest
      | [] => E (.halt .StackUnderflow [] s) := by
  refine assoc_run ?_
  rcases hrev : s.stack.reverse with _ | ⟨a, rest⟩
  · exact popTop_short_run hrev (by simp)
  · have e : ({ s with stack := (a :: rest).reverse } : IState) = s := by rw [← hrev, List.reverse_reverse]
    exact ok_run (popTop_rev [] a rest hrev) (e ▸ hk a rest hrev ((h.split (pre := [a]) hrev).1 a (by simp)))

theorem popTop2_run {f : Nat × Nat → M β} {k : Nat → Nat → List Nat → γ} (h : Inv mb s)
    (hk : ∀ a b rest, s.stack.reverse = a :: b :: rest → a < W → b < W →
      Inv mb { s with stack := (b :: rest).reverse } →
      E (f (a, b) { s with stack := (b :: rest).reverse }) = k a b rest) :
    E ((popTop2 >>= f) s) = match s.stack.reverse with
      | a :: b :: rest => k a b rest
      | _ => E (.halt .StackUnderflow [] s) := by
  refine assoc_run ?_
  rcases hrev : s.stack.reverse with _ | ⟨a, _ | ⟨b, rest⟩⟩
  · exact popTop_short_run hrev (by simp)
  · exact popTop_short_run hrev (by simp)
  · obtain ⟨hp, hr⟩ := h.split (pre := [a]) (rest := b :: rest) hrev
    exact ok_run (popTop_rev [a] b rest hrev)
      (hk a b rest hrev (hp a (by simp)) ((h.split (pre := [a, b]) hrev).1 b (by simp)) hr)

theorem popTop3_run {f : Nat × Nat × Nat → M β} {k : Nat → Nat → Nat → List Nat → γ} (h : Inv mb s)
    (hk : ∀ a b c rest, s.stack.reverse = a :: b :: c :: rest → a < W → b < W → c < W →
      Inv mb { s with stack := (c :: rest).reverse } →
      E (f (a, b, c) { s with stack := (c :: rest).reverse }) = k a b c rest) :
    E ((popTop3 >>= f) s) = match s.stack.reverse with
      | a :: b :: c :: rest => k a b c rest
      | _ => E (.halt .StackUnderflow [] s) := by
  refine assoc_run ?_
  rcases hrev : s.stack.reverse with _ | ⟨a, _ | ⟨b, _ | ⟨c, rest⟩⟩⟩
  · exact popTop_short_run hrev (by simp)
  · exact popTop_short_run hrev (by simp)
  · exact popTop_short_run hrev (by simp)
  · obtain ⟨hp, hr⟩ := h.split (pre := [a, b]) (rest := c :: rest) hrev
    exact ok_run (popTop_rev [a, b] c rest hrev)
      (hk a b c rest hrev (hp a (by simp)) (hp b (by simp)) ((h.split (pre := [a, b, c]) hrev).1 c (by simp)) hr)

/-- `gas!; pop_top!(a); *a = v(a)`, where `body` computes `v a` from the state (UNOP, CALLDATALOAD, BLOBHASH) -/
theorem unop_run (g : Nat) (v : Nat → Nat) (body : Nat → M Unit) (s : IState) (h : Inv mb (adv s))
    (hbody : ∀ a, body a (charge (adv s) g) = setTop (v a) (charge (adv s) g)) :
    ((gasCharge g >>= fun _ => popTop1 >>= body) (adv s)).toDone = unopRule g v s := by
  unfold unopRule
  refine gas_run h fun h1 => (popTop1_run h1 fun a rest hrev _ => congrArg Exec.toDone
    ((hbody a).trans (setTop_cons _ (charge (adv s) g) a rest (List.reverse_eq_iff.mp hrev)))).trans ?_
  -- the rule ends its match with `| _`, the rule of `pop_top!` with `| []`
  rw [charge_stack, adv_stack]
  cases s.stack.reverse <;> rfl

/-! the end of the `pre` part of a host instruction: the question, and the `post` part on every answer -/

theorem host_run {β' : Type} {post : β' → HostResp → M Unit} {op : HostOp} {b : β'} {k : HostResp → Done}
    (hk : ∀ r, (post b r s).toDone = k r) : hostRun post ((pure (op, b) : M (HostOp × β')) s) = .host op k :=
  congrArg _ (funext hk)

theorem action_run {β' : Type} {post : β' → HostResp → M Action} {op : HostOp} {b : β'} {k : HostResp → Done}
    (hk : ∀ r, (post b r s).toDoneAction = k r) : actionRun post ((pure (op, b) : M (HostOp × β')) s) = .host op k :=
  congrArg _ (funext hk)

end

end Revm.Proofs.EvmStep2
