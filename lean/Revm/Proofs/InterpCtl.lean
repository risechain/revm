import Revm.Proofs.InterpInstr
import Revm.Proofs.InterpOutcome
/-! C25: what one resolved instruction may do (`DoneGoodP`, `GoodP`), the instructions that move the instruction
pointer (PUSHn, JUMP, JUMPI, for any post-condition and for legacy code), and the pure instructions as a whole
(`execOrd_tr` in any code format, `execPure_tr` in legacy code). -/
namespace Revm.Proofs.Interp
open Revm Revm.Model Revm.Model.Interp

/-- the host's answers are Rust values: a `Bytes` is at most `isize::MAX` long -/
def RespOk (r : HostResp) : Prop := r.bytes.length ≤ Memory.ISIZE_MAX

/-- the return-data window of a call lies inside the memory of the caller (or is empty) -/
def RetOk (a : Action) (L : Nat) : Prop :=
  match a with
  | .call i => i.retEnd - i.retStart = 0 ∨ (i.retStart ≤ i.retEnd ∧ i.retEnd ≤ L)
  | .create _ => True
  | .eofCreate _ => True

theorem RetOk.mono {a : Action} {L L' : Nat} (h : RetOk a L) (hL : L ≤ L') : RetOk a L' := by
  cases a with
  | call i => exact h.imp_right fun h1 => ⟨h1.1, Nat.le_trans h1.2 hL⟩
  | create i => trivial
  | eofCreate i => trivial

/-- an action leaves the instruction: invariant, gas for the child (and at least 1 more) consumed -/
structure ActOk (s0 : IState) (a : Action) (s' : IState) : Prop where
  core : Core 1 true false 0 s0 s'
  pcOk : s'.pc < s'.code.length
  gas : measure s' + a.gasLimit + 1 ≤ measure s0
  ret : RetOk a (clen s'.mem)

/-- what one resolved instruction may do, for given post-conditions of halting (`H`), continuing (`N`) and
handing out an action (`A`) (inductive predicates: looking at a statement never evaluates the instruction) -/
inductive DoneGoodP (H N : IState → Prop) (A : Action → IState → Prop) : Done → Prop
  | next {s' : IState} (h : N s') : DoneGoodP H N A (.next s')
  | action {a : Action} {s' : IState} (h : A a s') : DoneGoodP H N A (.action a s')
  | halt {r : IResult} {o : List Nat} {s' : IState} (h : H s') : DoneGoodP H N A (.halt r o s')

/-- the same of an `Outcome`: of the `Done` it is, or of every `Done` a good answer of the host leads to -/
abbrev GoodP (H N : IState → Prop) (A : Action → IState → Prop) : Outcome → Prop :=
  OutAll (fun _ => True) RespOk (DoneGoodP H N A)

theorem DoneGoodP.mono {H H' N N' : IState → Prop} {A A' : Action → IState → Prop} {d : Done}
    (h : DoneGoodP H N A d) (hH : ∀ s', H s' → H' s') (hN : ∀ s', N s' → N' s') (hA : ∀ a s', A a s' → A' a s') :
    DoneGoodP H' N' A' d := by
  cases h with
  | next h => exact .next (hN _ h)
  | action h => exact .action (hA _ _ h)
  | halt h => exact .halt (hH _ h)

theorem GoodP.mono {H H' N N' : IState → Prop} {A A' : Action → IState → Prop} {o : Outcome}
    (h : GoodP H N A o) (hH : ∀ s', H s' → H' s') (hN : ∀ s', N s' → N' s') (hA : ∀ a s', A a s' → A' a s') :
    GoodP H' N' A' o :=
  h.imp (fun _ h => h) (fun _ h => h) fun _ hd => hd.mono hH hN hA

/-- legacy code: what one instruction may do, started in `s0` (after the opcode fetch) -/
abbrev DoneGood (s0 : IState) : Done → Prop := DoneGoodP (Halt s0) (Next s0) (ActOk s0)

section ctl
variable {s0 s : IState}

theorem toDoneP {N : IState → Prop} {A : Action → IState → Prop} {Q : IState → Prop} {e : Exec Unit}
    (hN : ∀ s', Q s' → N s') (h : Exec.Sat e (Halt s0) (fun _ s' => Q s')) :
    DoneGoodP (Halt s0) N A e.toDone := by
  cases h with
  | ok h => exact .next (hN _ h)
  | halt h => exact .halt h

theorem toDone_good (hs : Start s0) {e : Exec Unit}
    (h : Exec.Sat e (Halt s0) (fun _ s' => Done1 s0 s')) : DoneGood s0 e.toDone :=
  toDoneP (fun _ hq => Done1.next hs hq) h

/-- the action post-condition before the instruction pointer is looked at -/
def ActRel (s0 : IState) (a : Action) (s' : IState) : Prop :=
  ∃ k st ne L, Rel k st ne L s0 s' ∧ a.gasLimit + 1 ≤ k ∧ RetOk a L

theorem ActRel.ok (hs : Start s0) {a : Action} {s' : IState} (h : ActRel s0 a s') : ActOk s0 a s' := by
  obtain ⟨k, st, ne, L, hr, hk, hret⟩ := h
  refine ⟨hr.core1 (by omega), ?_, ?_, hret.mono hr.memL⟩
  · rw [hr.pc, hr.code, hs.codeLen]; have := hs.pc; omega
  · have := hr.meas; omega

/-- what goes out with an action, on the index: the gas consumed covers the child's limit and one more, the return
window lies in the memory the index knows of, the calldata / initcode is a Rust `Bytes` -/
abbrev ActIdx (a : Action) (j : Idx) : Prop := a.gasLimit + 1 ≤ j.k ∧ RetOk a j.L ∧ EvmLink.ActOk2 a

theorem TrS.act {i : Idx} {m : M Action} (h : Tr s0 i m ActIdx) :
    TrS s0 i m fun a s' => ActRel s0 a s' ∧ EvmLink.ActOk2 a :=
  h.mono fun _ _ ⟨j, ⟨h1, h2, h3⟩, hr⟩ => ⟨⟨j.k, j.st, j.ne, j.L, hr, h1, h2⟩, h3⟩

theorem toDoneActionP {N : IState → Prop} {A QA : Action → IState → Prop} {e : Exec Action}
    (hA : ∀ a s', QA a s' → A a s') (h : Exec.Sat e (Halt s0) QA) :
    DoneGoodP (Halt s0) N A e.toDoneAction := by
  cases h with
  | ok h => exact .action (hA _ _ h)
  | halt h => exact .halt h

/-! ### PUSHn, JUMP, JUMPI for any post-condition `R`: legacy code instantiates it with `Next`; in EOF code the jump
table is empty, so `hR` of the jumps holds vacuously -/

theorem Core.withPc {k : Nat} {st ne : Bool} {L : Nat} {s' : IState} (h : Core k st ne L s0 s') (p : Nat) :
    Core k st ne L s0 { s' with pc := p } := { h with }

theorem Rel.toNext {k : Nat} {st ne : Bool} {L : Nat} {s' : IState} (hs : Start s0)
    (hr : Rel k st ne L s0 s') (hk : 1 ≤ k) : Next s0 s' := Done1.next hs (done1_of hr hk)

theorem Step.codeSlice {i : Idx} {n : Nat} (hpc : s0.pc + n ≤ s0.code.length) :
    Step s0 i (Interp.codeSlice n) i fun _ => True :=
  .ofRead fun s hs => by
    unfold Interp.codeSlice
    rw [if_pos (by rw [hs.pc, hs.code]; exact hpc)]
    exact sat_ok ⟨rfl, trivial⟩

theorem pushI_to {R : Unit → IState → Prop} (n : Nat) (hpc : s0.pc + n ≤ s0.code.length)
    (hR : ∀ s2, Rel (0 + GasCalc.VERYLOW) true false 0 s0 s2 → R () { s2 with pc := s2.pc + n }) :
    TrS s0 .zero (pushI n) R :=
  .seq (.gas _ (by decide)) fun _ _ => .seq (.codeSlice hpc) fun bs _ =>
    .seq (.stackUnit _ (.pushSlice bs) trivial fun _ => rfl) fun _ _ => .modify _ hR

theorem jumpInner_to {i : Idx} {R : Unit → IState → Prop} (target : Nat)
    (hR : ∀ s t, RelI s0 i s → Jump.isValid s0.jumpTable t = true → R () { s with pc := t }) :
    TrS s0 i (jumpInner target) R :=
  .seq (.asUsize target _) fun t _ => .seq .getS fun s hs => by
    cases hv : Jump.isValid s.jumpTable t with
    | false =>
      simp only [Bool.not_false, if_true]
      exact .halt _
    | true =>
      simp only [Bool.not_true, Bool.false_eq_true, if_false]
      exact .modify _ fun s2 h2 => hR s2 t h2 (by rw [← hs.jt]; exact hv)

theorem jumpI_to {R : Unit → IState → Prop}
    (hR : ∀ s2 t, Rel (0 + GasCalc.MID) true false 0 s0 s2 → Jump.isValid s0.jumpTable t = true →
      R () { s2 with pc := t }) :
    TrS s0 .zero jumpI R :=
  .seq (.gas _ (by decide)) fun _ _ => .seq .pop1 fun target _ => jumpInner_to target hR

theorem jumpiI_to {R : Unit → IState → Prop}
    (hR : ∀ s2 t, Rel (0 + GasCalc.HIGH) true false 0 s0 s2 → Jump.isValid s0.jumpTable t = true →
      R () { s2 with pc := t })
    (hfall : ∀ s2, Rel (0 + GasCalc.HIGH) true false 0 s0 s2 → R () s2) :
    TrS s0 .zero jumpiI R :=
  .seq (.gas _ (by decide)) fun _ _ => .seq .pop2 fun (target, cond) _ => by
    show TrS s0 _ (if cond ≠ 0 then jumpInner target else pure ()) R
    split
    · exact jumpInner_to target hR
    · exact .pureS hfall

theorem Start.withPc {k : Nat} {st ne : Bool} {L : Nat} {s' : IState} (hs : Start s0)
    (hr : Rel k st ne L s0 s') (hk : 1 ≤ k) {p : Nat} (hp : p ≤ s0.origLen + 32) :
    Next s0 { s' with pc := p } := by
  refine ⟨(hr.core1 hk).withPc p, ?_⟩
  show p < s'.code.length
  rw [hr.code, hs.codeLen]; omega

theorem pushI_tr (hs : Start s0) (n : Nat) (hn : n ≤ 32) : TrS s0 .zero (pushI n) fun _ s' => Next s0 s' := by
  have := hs.pc
  refine pushI_to n (by rw [hs.codeLen]; omega) fun s2 h2 => hs.withPc h2 (by decide) ?_
  rw [h2.pc]; omega

theorem jumpI_tr (hs : Start s0) : TrS s0 .zero jumpI fun _ s' => Next s0 s' :=
  jumpI_to fun s2 t h2 hv => hs.withPc h2 (by decide) (by have := hs.jt t hv; omega)

theorem jumpiI_tr (hs : Start s0) : TrS s0 .zero jumpiI fun _ s' => Next s0 s' :=
  jumpiI_to (fun s2 t h2 hv => hs.withPc h2 (by decide) (by have := hs.jt t hv; omega))
    (fun s2 h2 => h2.toNext hs (by decide))

/-- an EOF-only handler in legacy code stops at `require_eof!` -/
theorem eofGuard_tr {α} (hs : Start s0) (k : Unit → M α) {R : α → IState → Prop} :
    TrS s0 .zero (requireEof >>= k) R := fun s h => by
  refine sat_bind (m := requireEof) (Q := fun _ _ => False) ?_ (fun _ _ hf => hf.elim)
  unfold requireEof
  rw [h.isEof, hs.legacy]
  exact sat_halt h.toCore.toHalt

/-- the instructions whose handler neither moves the instruction pointer nor looks at the code format -/
def isOrd : Instr → Bool
  | .stop | .invalid | .unknown | .unop _ _ | .binop _ _ _ | .terop _ _ | .exp | .pushVal _ _ _ | .difficulty
  | .calldataload | .calldatacopy | .returndatacopy | .blobhash | .pop | .push0 | .dup _ | .swap _
  | .mload | .mstore | .mstore8 | .mcopy | .jumpdest | .ret | .revert => true
  | _ => false

theorem execOrd_tr (hb : Base s0) (i : Instr) (m : M Unit) (hm : execPure i = some m) (ho : isOrd i = true) :
    Tr s0 .zero m Paid := by
  cases i with
  | stop => cases hm; exact .halt _
  | invalid => cases hm; exact .halt _
  | unknown => cases hm; exact .halt _
  | unop g f => cases hm; exact unopI_tr _ f (Tier.cost_pos g)
  | binop g k f => cases hm; exact binopI_tr _ k f (Tier.cost_pos g)
  | terop g f => cases hm; exact teropI_tr _ f (Tier.cost_pos g)
  | exp => cases hm; exact expI_tr
  | pushVal g k v => cases hm; exact pushValI_tr _ k v (Tier.cost_pos g)
  | difficulty => cases hm; exact difficultyI_tr hb.envOk
  | calldataload => cases hm; exact calldataloadI_tr
  | calldatacopy =>
    cases hm
    exact copyToMem_tr _ (fun s' hi _ _ => by rw [hi]; exact hb.inLen) _ fun _ => .pure ⟨rfl, trivial⟩
  | returndatacopy => cases hm; exact returndatacopyI_tr
  | blobhash => cases hm; exact blobhashI_tr
  | pop => cases hm; exact popI_tr
  | push0 => cases hm; exact push0I_tr
  | dup n => cases hm; exact dupI_tr _ (by omega)
  | swap n => cases hm; exact swapI_tr _ (by omega) (by have := n.isLt; omega)
  | mload => cases hm; exact mloadI_tr
  | mstore => cases hm; exact mstoreI_tr
  | mstore8 => cases hm; exact mstore8I_tr
  | mcopy => cases hm; exact mcopyI_tr
  | jumpdest => cases hm; exact jumpdest_tr
  | ret => cases hm; exact returnInner_tr _
  | revert => cases hm; exact revertI_tr
  | _ => cases ho

theorem TrS.next (hs : Start s0) {m : M Unit} (h : Tr s0 .zero m Paid) : TrS s0 .zero m fun _ s' => Next s0 s' :=
  h.mono fun _ _ ⟨_, hk, hr⟩ => hr.toNext hs hk

theorem execPure_tr (hs : Start s0) (i : Instr) (m : M Unit) (hm : execPure i = some m) :
    TrS s0 .zero m fun _ s' => Next s0 s' := by
  cases i with
  | rjump => cases hm; exact eofGuard_tr hs _
  | rjumpi => cases hm; exact eofGuard_tr hs _
  | rjumpv => cases hm; exact eofGuard_tr hs _
  | callf => cases hm; exact eofGuard_tr hs _
  | retf => cases hm; exact eofGuard_tr hs _
  | jumpf => cases hm; exact eofGuard_tr hs _
  | dupn => cases hm; exact eofGuard_tr hs _
  | swapn => cases hm; exact eofGuard_tr hs _
  | exchange => cases hm; exact eofGuard_tr hs _
  | dataload => cases hm; exact eofGuard_tr hs _
  | dataloadn => cases hm; exact eofGuard_tr hs _
  | datasize => cases hm; exact eofGuard_tr hs _
  | datacopy => cases hm; exact eofGuard_tr hs _
  | returndataload => cases hm; exact eofGuard_tr hs _
  | returnContract =>
    cases hm
    intro s h
    refine sat_bind (m := requireInitEof) (Q := fun _ _ => False) ?_ (fun _ _ hf => hf.elim)
    unfold requireInitEof
    rw [h.isEofInit, hs.notInit]
    exact sat_halt h.toCore.toHalt
  | codesize => cases hm; exact .next hs (codesizeI_tr hs.legacy)
  | codecopy =>
    cases hm
    refine .next hs (copyToMem_tr _ (fun s' _ hc ho => ?_) _ (Step.assumeNotEof hs.legacy))
    have := hs.origLe
    simp only [List.length_take]
    rw [ho]; omega
  | push n => cases hm; exact pushI_tr hs _ (by have := n.isLt; omega)
  | jump => cases hm; exact jumpI_tr hs
  | jumpi => cases hm; exact jumpiI_tr hs
  -- what is left is not a pure instruction (`hm` is absurd) or an ordinary one
  | _ => first | (cases hm; done) | exact .next hs (execOrd_tr hs.toBase _ m hm rfl)

end ctl

end Revm.Proofs.Interp
