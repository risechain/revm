import Revm.Model.HandlerCfg
/-! C22: whether rewards are on (`Handler.reward`) is kept by every reconfiguration that is not an explicit reset
(`run_disabled`, `run_enabled`, both instances of `run_inv`), and what the fee stages do to accounts other than the
beneficiary / the caller (`rewardStage_other`, `reimburse_other`). -/
namespace Revm.Proofs.HandlerCfg
open Revm Revm.Model.HandlerCfg

def KeepsDisabled (r : Register) : Prop := r.eff none = none
def KeepsEnabled (r : Register) : Prop := ∀ k, (r.eff (some k)).isSome = true
/-- registers that neither enable nor disable rewards -/
def Neutral (r : Register) : Prop := KeepsDisabled r ∧ KeepsEnabled r

theorem neutral_is_neutral (t : Nat) : Neutral (.neutral t) := ⟨rfl, fun _ => rfl⟩
theorem optimism_false_is_neutral : Neutral (.optimism false) := ⟨rfl, fun _ => rfl⟩
theorem optimism_keepsEnabled (b : Bool) : KeepsEnabled (.optimism b) := by
  intro k; cases b <;> rfl
theorem optimism_true_not_keepsDisabled : ¬ KeepsDisabled (.optimism true) := by
  intro h; simp [KeepsDisabled, Register.eff] at h

/-- which operations a theorem's alphabet contains: appended registers satisfy `P`; explicit resets are
not in the alphabet -/
def Admissible (P : Register → Prop) : Op → Prop
  | .append r => P r
  | .builderAppend r => P r
  | .resetHandler => False
  | .builderMainnet => False
  | .builderOptimism => False
  | _ => True

theorem reapply_nil (b : Handler) : reapply b [] = b := rfl
theorem reapply_cons (b : Handler) (r : Register) (rs : List Register) :
    reapply b (r :: rs) = reapply (appendRegister b r) rs := rfl

theorem reapply_registers (b : Handler) (rs : List Register) :
    (reapply b rs).registers = b.registers ++ rs := by
  induction rs generalizing b with
  | nil => simp [reapply_nil]
  | cons r rs ih => rw [reapply_cons, ih]; simp [appendRegister]

theorem mainnet_registers (s : Spec) (b : Bool) : (mainnetWithSpec s b).registers = [] := rfl
theorem mainnet_reward_false (s : Spec) : (mainnetWithSpec s false).reward = none := rfl
theorem mainnet_reward_true (s : Spec) : (mainnetWithSpec s true).reward = some .mainnet := rfl

theorem run_nil (h : Handler) : run h [] = h := rfl
theorem run_cons (h : Handler) (op : Op) (ops : List Op) : run h (op :: ops) = run (step h op) ops := rfl

/-- `Disabled` and `Enabled` are this at two choices of `S` / `K`, and one argument proves both: `S` is a property of the
reward slot that registers of the class `K` keep (`hK`) and that survives restoring the slot from
`reward_beneficiary.is_some()`, which is all a rebuild remembers of it (`hS`) -/
def Inv (S : Reward → Prop) (K : Register → Prop) (h : Handler) : Prop :=
  S h.reward ∧ ∀ r ∈ h.registers, K r

theorem append_inv {S : Reward → Prop} {K : Register → Prop} (hK : ∀ r, K r → ∀ k, S k → S (r.eff k))
    (h : Handler) (r : Register) (hd : Inv S K h) (hr : K r) : Inv S K (appendRegister h r) := by
  refine ⟨hK r hr _ hd.1, fun r' h' => ?_⟩
  rcases List.mem_append.mp (show r' ∈ h.registers ++ [r] from h') with h1 | h1
  · exact hd.2 r' h1
  · rw [List.mem_singleton.mp h1]; exact hr

theorem reapply_inv {S : Reward → Prop} {K : Register → Prop} (hK : ∀ r, K r → ∀ k, S k → S (r.eff k))
    (b : Handler) (rs : List Register) (hb : Inv S K b) (hr : ∀ r ∈ rs, K r) : Inv S K (reapply b rs) := by
  induction rs generalizing b with
  | nil => exact hb
  | cons r rs ih =>
    rw [reapply_cons]
    exact ih _ (append_inv hK b r hb (hr r (List.mem_cons_self ..))) (fun r' h' => hr r' (List.mem_cons_of_mem _ h'))

theorem rebuild_inv {S : Reward → Prop} {K : Register → Prop} (hK : ∀ r, K r → ∀ k, S k → S (r.eff k))
    (hS : ∀ k : Reward, S k → S (if k.isSome then some .mainnet else none))
    (h : Handler) (s : Spec) (rs : List Register) (hd : Inv S K h) (hsub : ∀ r ∈ rs, r ∈ h.registers) :
    Inv S K (reapply (mainnetWithSpec s h.reward.isSome) rs) :=
  reapply_inv hK _ rs ⟨hS _ hd.1, fun _ h' => nomatch h'⟩ (fun r hr => hd.2 r (hsub r hr))

theorem step_inv {S : Reward → Prop} {K : Register → Prop} (hK : ∀ r, K r → ∀ k, S k → S (r.eff k))
    (hS : ∀ k : Reward, S k → S (if k.isSome then some .mainnet else none))
    (h : Handler) (op : Op) (hd : Inv S K h) (ha : Admissible K op) : Inv S K (step h op) := by
  cases op with
  | modifySpecId s | builderSpecId s =>
    show Inv S K (modifySpecId h s)
    unfold modifySpecId
    split
    · exact hd
    · exact rebuild_inv hK hS h s h.registers hd (fun _ x => x)
  | append r | builderAppend r => exact append_inv hK h r hd ha
  | pop =>
    show Inv S K (popHandleRegister h)
    unfold popHandleRegister
    split
    · exact hd
    · exact rebuild_inv hK hS h h.spec _ hd (fun _ x => List.dropLast_subset _ x)
  | createGeneric s => exact rebuild_inv hK hS h s h.registers hd (fun _ x => x)
  | createGenericDrop s => exact ⟨hd.1, fun _ h' => nomatch h'⟩
  | rebuild => exact hd
  | resetHandler | builderMainnet | builderOptimism => exact ha.elim

theorem run_inv {S : Reward → Prop} {K : Register → Prop} (hK : ∀ r, K r → ∀ k, S k → S (r.eff k))
    (hS : ∀ k : Reward, S k → S (if k.isSome then some .mainnet else none))
    (h : Handler) (ops : List Op) (hd : Inv S K h) (ha : ∀ op ∈ ops, Admissible K op) :
    Inv S K (run h ops) := by
  induction ops generalizing h with
  | nil => exact hd
  | cons op ops ih =>
    rw [run_cons]
    exact ih _ (step_inv hK hS h op hd (ha op (List.mem_cons_self ..))) (fun o ho => ha o (List.mem_cons_of_mem _ ho))

def Disabled (h : Handler) : Prop := Inv (· = none) KeepsDisabled h
def Enabled (h : Handler) : Prop := Inv (·.isSome = true) KeepsEnabled h

theorem mainnet_disabled (s : Spec) : Disabled (mainnetWithSpec s false) :=
  ⟨rfl, by intro r h; cases h⟩
theorem optimism_disabled (s : Spec) : Disabled (optimismWithSpec s false) :=
  ⟨rfl, by
    intro r h
    have : r = .optimism false := by simpa [optimismWithSpec, appendRegister, mainnetWithSpec] using h
    subst this; rfl⟩
theorem mainnet_enabled (s : Spec) : Enabled (mainnetWithSpec s true) :=
  ⟨rfl, by intro r h; cases h⟩
theorem optimism_enabled (s : Spec) : Enabled (optimismWithSpec s true) :=
  ⟨rfl, by
    intro r h
    have : r = .optimism true := by simpa [optimismWithSpec, appendRegister, mainnetWithSpec] using h
    subst this; exact optimism_keepsEnabled true⟩

theorem run_disabled (h : Handler) (ops : List Op) (hd : Disabled h)
    (ha : ∀ op ∈ ops, Admissible KeepsDisabled op) : Disabled (run h ops) :=
  run_inv (fun _ hr _ hk => by subst hk; exact hr) (fun _ hk => by subst hk; rfl) h ops hd ha

theorem run_enabled (h : Handler) (ops : List Op) (hd : Enabled h)
    (ha : ∀ op ∈ ops, Admissible KeepsEnabled op) : Enabled (run h ops) :=
  run_inv (fun _ hr k hk => by cases k with | none => cases hk | some k => exact hr k)
    (fun _ hk => by rw [hk]; rfl) h ops hd ha

theorem admissible_mono {P Q : Register → Prop} (hpq : ∀ r, P r → Q r) {op : Op}
    (h : Admissible P op) : Admissible Q op := by
  cases op <;> first | exact hpq _ h | exact h

theorem load_other (db : Db) (st : JState) (a x : Addr) (h : x ≠ a) : load db st a x = st x := by
  simp [load, h]
theorem modify_other (st : JState) (a x : Addr) (f : Acct → Acct) (h : x ≠ a) : modifyAcct st a f x = st x := by
  simp [modifyAcct, h]
theorem creditSat_other (db : Db) (st : JState) (a x : Addr) (v : Nat) (h : x ≠ a) :
    creditSat db st a v x = st x := by
  unfold creditSat; rw [modify_other _ _ _ _ h, load_other _ _ _ _ h]
theorem creditWrap_other (db : Db) (st : JState) (a x : Addr) (v : Nat) (h : x ≠ a) :
    creditWrap db st a v x = st x := by
  unfold creditWrap; rw [modify_other _ _ _ _ h, load_other _ _ _ _ h]

theorem load_self (db : Db) (st : JState) (a : Addr) : load db st a a = some (loaded db st a) := by
  unfold load loaded; simp only [if_true]; cases st a <;> rfl

theorem creditSat_self (db : Db) (st : JState) (a : Addr) (v : Nat) :
    creditSat db st a v a =
      some { loaded db st a with touched := true, bal := U256.saturatingAdd (loaded db st a).bal v } := by
  unfold creditSat modifyAcct; simp only [if_true]; rw [load_self]; rfl

theorem rewardStage_none (db : Db) (e : FeeEnv) (used : Nat) (st : JState) :
    rewardStage none db e used st = some st := rfl

theorem rewardStage_other (rw : Reward) (db : Db) (e : FeeEnv) (used : Nat) (st st' : JState)
    (h : rewardStage rw db e used st = some st') (x : Addr) (hx : x ∉ feeRecipients e rw) :
    st' x = st x := by
  cases rw with
  | none => cases h; rfl
  | some k =>
    cases k with
    | mainnet =>
      have hx' : x ≠ e.coinbase := by simpa [feeRecipients] using hx
      simp only [rewardStage, Option.some.injEq] at h
      subst h
      exact creditSat_other _ _ _ _ _ hx'
    | optimism =>
      have hx' : x ≠ e.coinbase ∧ x ≠ L1_FEE_RECIPIENT ∧ x ≠ BASE_FEE_RECIPIENT ∧ x ≠ OPERATOR_FEE_RECIPIENT := by
        simpa [feeRecipients] using hx
      simp only [rewardStage, rewardOptimism] at h
      cases hl : e.l1 with
      | none => rw [hl] at h; cases h
      | some p =>
        rw [hl] at h
        obtain ⟨l1c, opf⟩ := p
        simp only [Option.some.injEq] at h
        subst h
        rw [creditWrap_other _ _ _ _ _ hx'.2.2.2, creditWrap_other _ _ _ _ _ hx'.2.2.1,
          creditWrap_other _ _ _ _ _ hx'.2.1]
        exact creditSat_other _ _ _ _ _ hx'.1

theorem reimburse_other (db : Db) (e : FeeEnv) (back : Nat) (st : JState) (x : Addr) (h : x ≠ e.caller) :
    reimburseCaller db e back st x = st x := by
  unfold reimburseCaller; rw [modify_other _ _ _ _ h, load_other _ _ _ _ h]

end Revm.Proofs.HandlerCfg
