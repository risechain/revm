import Revm.Proofs.EvmLinkNoted
import Revm.Proofs.EtherJournal
import Revm.Proofs.Frame
import Revm.Proofs.EvmLoop
/-! C06 / C07 / C08 / C10 / C34 are theorems about histories of journal operations (`Spec.JournalAbs.run`); this module
puts the whole-EVM model under them. `WStep`: one `World` operation is one `JournalAbs.step` on the world's journal
(`opFunded`, `opLoads`: what it assumes, what it leaves present; one `w_*_wstep` lemma per operation). `Hist`: a sequence
of them. `WRun`: what happens between two states of `run_the_loop`, i.e. histories, code entering the store, and writes
the ledger does not see (`Quiet`). Which history a frame function or a `Host` answer runs is said in
`EvmLinkFrameStages` and `EvmLinkHost`. -/
namespace Revm.Proofs.EvmLink
open Revm Revm.Model Revm.Model.Evm
open Revm.Spec.JournalAbs (Op step run)
open Revm.Spec.Ether Revm.Proofs.Ether
open Revm.Model.Journal (incU64)
open Revm.Proofs.Evm (bind_ok)
open Revm.Proofs.Frame (depthAfter isCreate run_depth)

/-- what the frame machine guarantees when it issues `op` on `w`: `create_account_checkpoint` comes with an endowment
the caller's balance covers (the `OutOfFunds` check of `make_create_frame`) and on two loaded accounts. It is C08's
`Funded` plus the presence C08 asks of the accounts an operation names. -/
def opFunded (w : World) : Op → Prop
  | .create caller a _ v _ => v ≤ bal w.db w.js caller ∧ w.js.state caller ≠ none ∧ w.js.state a ≠ none
  | _ => True

/-- the accounts an operation leaves present in the journal: those it loads and those whose balance it moves -/
def opLoads : Op → List Nat
  | .load a | .loadCode a => [a]
  | op => opAddrs op

theorem opAddrs_sub {op : Op} {a : Nat} (h : a ∈ opAddrs op) : a ∈ opLoads op := by
  cases op <;> first | exact h | exact nomatch h

/-- One call of a `JournaledState` method by `EvmContext` / `InnerEvmContext`: it is the step `op` of the journal model
on the world's journal (`cps` = the checkpoints handed out so far, what C06 / C10 / C34 quantify over) and leaves the
database view alone (`only`: every history runs over ONE database, and the invariant on stored code survives). `ng`,
`kle`, `named`, `funded` are what C08's law needs; `World.addrs` is the address list it sums over. -/
structure WStep (w : World) (cps : List Journal.Checkpoint) (op : Op) (w' : World) (cps' : List Journal.Checkpoint) :
    Prop where
  step : step w.db { js := w.js, cps := cps } op = some { js := w'.js, cps := cps' }
  only : JOnly w w' []
  ng : NGrow w w'
  kle : KLe w.js w'.js
  named : ∀ a ∈ opLoads op, w'.js.state a ≠ none
  funded : opFunded w op

theorem JOnly.weaken {w w1 : World} {l : List Nat} (n : JOnly w w1 l) : JOnly w w1 [] :=
  ⟨n.pre, n.codes, n.pcOracle, n.addrs, nofun⟩

theorem JOnly.trans0 {a b c : World} (h1 : JOnly a b []) (h2 : JOnly b c []) : JOnly a c [] :=
  ⟨h2.pre.trans h1.pre, h2.codes.trans h1.codes, h2.pcOracle.trans h1.pcOracle,
   fun x hx => h2.addrs x (h1.addrs x hx), nofun⟩

/-- a step from its journal equation: the addresses `l` the journal function may add are the ones the `World`
operation notes -/
theorem WStep.of_op {w w1 : World} {l : List Nat} {op : Op} {cps cps' : List Journal.Checkpoint}
    (hs : Spec.JournalAbs.step w.db { js := w.js, cps := cps } op = some { js := w1.js, cps := cps' })
    (n : JOnly w w1 l) (d : Dom w.js w1.js l)
    (hnamed : ∀ a ∈ opLoads op, w1.js.state a ≠ none) (hf : opFunded w op) : WStep w cps op w1 cps' :=
  ⟨hs, n.weaken, NGrow.of_dom d n.addrs n.noted, d.kle, hnamed, hf⟩

/-- a sequence of `WStep`s, the checkpoints handed out growing from `cps` to `cps'`. By `Hist.run` it is a
`JournalAbs.run`, the object of C06 (`revert_restores`), C10 (`inv_run`), C34 (`is_cold_iff`) and C08 (`run_inv`). -/
inductive Hist : World → List Journal.Checkpoint → List Op → World → List Journal.Checkpoint → Prop
  | nil (w cps) : Hist w cps [] w cps
  | cons {w cps op w1 cps1 ops w2 cps2} : WStep w cps op w1 cps1 → Hist w1 cps1 ops w2 cps2 →
      Hist w cps (op :: ops) w2 cps2

theorem WStep.hist {w cps op w' cps'} (s : WStep w cps op w' cps') : Hist w cps [op] w' cps' := .cons s (.nil _ _)

theorem Hist.append {w cps ops w1 cps1 ops' w2 cps2} (h1 : Hist w cps ops w1 cps1) (h2 : Hist w1 cps1 ops' w2 cps2) :
    Hist w cps (ops ++ ops') w2 cps2 := by
  induction h1 with
  | nil => exact h2
  | cons s _ ih => exact .cons s (ih h2)

theorem Hist.only {w cps ops w' cps'} (h : Hist w cps ops w' cps') : JOnly w w' [] := by
  induction h with
  | nil w _ => exact JOnly.js w w.js
  | cons s _ ih => exact s.only.trans0 ih

theorem Hist.run {w cps ops w' cps'} (h : Hist w cps ops w' cps') :
    run w.db { js := w.js, cps := cps } ops = some { js := w'.js, cps := cps' } := by
  induction h with
  | nil => rfl
  | cons s _ ih => simp only [Spec.JournalAbs.run, s.step]; rw [← s.only.db]; exact ih

theorem Hist.kle {w cps ops w' cps'} (h : Hist w cps ops w' cps') : KLe w.js w'.js := by
  induction h with
  | nil => exact KLe.refl _
  | cons s _ ih => exact s.kle.trans ih

theorem Hist.ng {w cps ops w' cps'} (h : Hist w cps ops w' cps') : NGrow w w' := by
  induction h with
  | nil => exact NGrow.refl _
  | cons s _ ih => exact s.ng.trans ih

theorem Hist.present {w cps ops w' cps'} (h : Hist w cps ops w' cps') {op : Op} {a : Nat} (ho : op ∈ ops)
    (ha : a ∈ opLoads op) : w'.js.state a ≠ none := by
  induction h with
  | nil => exact nomatch ho
  | cons s t ih =>
    rcases List.mem_cons.mp ho with rfl | ho
    · exact t.kle a (s.named a ha)
    · exact ih ho

/-- nothing the ledger reads has changed, and no account was removed -/
structure Quiet (w w' : World) : Prop where
  same : Same w.db w.js w'.js
  db : w'.db = w.db
  kle : KLe w.js w'.js
  ng : NGrow w w'

theorem Quiet.refl (w : World) : Quiet w w := ⟨Same.refl _ _, rfl, KLe.refl _, NGrow.refl _⟩
theorem Quiet.trans {a b c : World} (h1 : Quiet a b) (h2 : Quiet b c) : Quiet a c :=
  ⟨h1.same.trans (by have := h2.same; rw [h1.db] at this; exact this), h2.db.trans h1.db, h1.kle.trans h2.kle,
   h1.ng.trans h2.ng⟩

/-- what `run_the_loop` and the handler's stages between `deduct_caller` and the fee credits do to the world: journal
histories; `World.addCode` (`create_return`, an EIP-7702 authorization), which is no journal operation and changes the
database view (`Db.delegate` reads the store), so that it ends a history; and writes the ledger does not see (`Quiet`:
the rewrite of an authority's nonce and code hash). -/
inductive WRun : World → World → Prop
  | refl (w) : WRun w w
  | hist {w cps ops w1 cps1 w2} : Hist w cps ops w1 cps1 → WRun w1 w2 → WRun w w2
  | code {w w2} (h : Nat) (c : List Nat) : WRun (w.addCode h c) w2 → WRun w w2
  | quiet {w w1 w2} : Quiet w w1 → WRun w1 w2 → WRun w w2

theorem Hist.wrun {w cps ops w1 cps1} (h : Hist w cps ops w1 cps1) : WRun w w1 := .hist h (.refl _)

theorem WRun.trans {a b c : World} (h1 : WRun a b) (h2 : WRun b c) : WRun a c := by
  induction h1 with
  | refl => exact h2
  | hist h _ ih => exact .hist h (ih h2)
  | code h c _ ih => exact .code h c (ih h2)
  | quiet q _ ih => exact .quiet q (ih h2)

theorem WRun.kle {w w' : World} (h : WRun w w') : KLe w.js w'.js := by
  induction h with
  | refl => exact KLe.refl _
  | hist h _ ih => exact h.kle.trans ih
  | code h c _ ih => exact (KLe.of_state_eq (by rw [Proofs.EvmHost.addCode_js])).trans ih
  | quiet q _ ih => exact q.kle.trans ih

theorem WRun.ng {w w' : World} (h : WRun w w') : NGrow w w' := by
  induction h with
  | refl => exact NGrow.refl _
  | hist h _ ih => exact h.ng.trans ih
  | code h c _ ih => exact (ng_addCode _ _ _).trans ih
  | quiet q _ ih => exact q.ng.trans ih

theorem Hist.depth {w cps ops w' cps'} (h : Hist w cps ops w' cps') (hc : ops.all (fun o => !isCreate o) = true) :
    w'.js.depth = depthAfter ops w.js.depth := run_depth h.run hc

/-! ## each `World` operation is one step

Where the `World` operation can fail, the lemma gives the journal equation (with the values the journal function
returned) besides the step. -/

section ops
variable {w w1 : World}

theorem w_loadAccount_wstep {a : Nat} {c : Bool} (h : w.loadAccount a = .ok (w1, c)) :
    Journal.loadAccount w.db w.js a = some (w1.js, c) ∧ ∀ cps, WStep w cps (.load a) w1 cps := by
  obtain ⟨t1, hw⟩ := Proofs.EvmHost.loadAccount_ok h
  exact ⟨t1, fun cps => .of_op (by simp only [Spec.JournalAbs.step, t1, Option.map_some])
    (hw ▸ (JOnly.js w w1.js).noteAddr a) (lvl_loadAccount t1).dom (fun x hx => (lvl_loadAccount t1).dom.present hx) trivial⟩

theorem w_loadCode_wstep {a : Nat} {c : Bool} (h : w.loadCode a = .ok (w1, c)) :
    Journal.loadCode w.db w.js a = some (w1.js, c) ∧ ∀ cps, WStep w cps (.loadCode a) w1 cps := by
  obtain ⟨t1, hw⟩ := Proofs.EvmHost.loadCode_ok h
  exact ⟨t1, fun cps => .of_op (by simp only [Spec.JournalAbs.step, t1, Option.map_some])
    (hw ▸ (JOnly.js w w1.js).noteAddr a) (lvl_loadCode t1).dom (fun x hx => (lvl_loadCode t1).dom.present hx) trivial⟩

/-- the delegate, when the loaded account has one, is noted too -/
theorem w_loadAccountDelegated_wstep {a : Nat} {r} (h : w.loadAccountDelegated a = .ok (w1, r)) :
    Journal.loadAccountDelegated w.db w.js a = some (w1.js, r) ∧ ∀ cps, WStep w cps (.loadDelegated a) w1 cps := by
  unfold World.loadAccountDelegated at h
  obtain ⟨⟨js, r'⟩, h1, h2⟩ := bind_ok h
  have h1' := Proofs.EvmHost.ofOpt_ok h1
  have n := (JOnly.js w js).noteAddr a
  have hdb : ({ w with js := js }.noteAddr a).db = w.db := n.db
  dsimp only at h2
  rw [hdb] at h2
  obtain ⟨ie, c, dc⟩ := r'
  have fin : ∀ {w2 : World} {l : List Nat}, w2.js = js → JOnly w w2 l →
      (∀ x, x ∈ l ↔ x ∈ (a :: (match (js.state a).bind (fun acc => acc.info.code.bind w.db.delegate) with
        | some t => [t] | none => []))) →
      Journal.loadAccountDelegated w.db w.js a = some (w2.js, ie, c, dc) ∧
        ∀ cps, WStep w cps (.loadDelegated a) w2 cps := by
    intro w2 l hjs n2 hl
    have t1 : Journal.loadAccountDelegated w.db w.js a = some (w2.js, ie, c, dc) := by rw [hjs]; exact h1'
    exact ⟨t1, fun cps => .of_op (by simp only [Spec.JournalAbs.step, t1, Option.map_some]) n2
      ((lvl_loadAccountDelegated t1).dom.change (fun x hx => .inr ((hl x).2 (hjs ▸ hx)))
        (fun x hx => .inr (hjs ▸ (hl x).1 hx))) nofun trivial⟩
  split at h2
  · rename_i d hd
    cases h2
    refine fin (by rw [Proofs.EvmHost.noteAddr_js, Proofs.EvmHost.noteAddr_js]) (n.noteAddr d) ?_
    rw [show (({ w with js := js } : World).js.state a).bind _ = some d from hd]
    intro x
    simp only [List.mem_cons, List.not_mem_nil, or_false]
    exact or_comm
  · rename_i hd
    cases h2
    refine fin (by rw [Proofs.EvmHost.noteAddr_js]) n ?_
    rw [show (({ w with js := js } : World).js.state a).bind _ = none from hd]
    exact fun x => Iff.rfl

theorem w_touch_wstep {a : Nat} (h : w.touch a = .ok w1) :
    Journal.touch w.js a = some w1.js ∧ ∀ cps, WStep w cps (.touch a) w1 cps := by
  unfold World.touch at h
  obtain ⟨js, t1, h2⟩ := Proofs.EvmHost.ofOpt_bind_ok h
  cases h2
  exact ⟨t1, fun cps => .of_op (by simp only [Spec.JournalAbs.step, t1, Option.map_some]) (JOnly.js w js)
    (lvl_touch t1).dom nofun trivial⟩

theorem w_transfer_wstep {src dst v : Nat} {r} (h : w.transfer src dst v = .ok (w1, r)) :
    Journal.transfer w.db w.js src dst v = some (w1.js, r) ∧ ∀ cps, WStep w cps (.transfer src dst v) w1 cps := by
  unfold World.transfer at h
  obtain ⟨⟨js, e⟩, h1, h2⟩ := bind_ok h
  cases h2
  have t1 : Journal.transfer w.db w.js src dst v = some ((({ w with js := js }.noteAddr src).noteAddr dst).js, r) := by
    rw [Proofs.EvmHost.noteAddr_js, Proofs.EvmHost.noteAddr_js]; exact Proofs.EvmHost.ofOpt_ok h1
  have d := (lvl_transfer t1).dom.change (l' := [dst, src]) (fun x hx => .inr (by simpa [or_comm] using hx))
    (fun x hx => .inr (by simpa [or_comm] using hx))
  exact ⟨t1, fun cps => .of_op (by simp only [Spec.JournalAbs.step, t1, Option.map_some])
    (((JOnly.js w js).noteAddr src).noteAddr dst) d (fun x hx => (lvl_transfer t1).dom.present hx) trivial⟩

theorem w_checkpoint_wstep (w : World) (cps) : WStep w cps .checkpoint w.checkpoint.1 (cps ++ [w.checkpoint.2]) :=
  ⟨by simp only [Spec.JournalAbs.step]; rfl, JOnly.js w _, NGrow.of_js (.of_state_eq rfl), KLe.of_state_eq rfl, nofun,
   trivial⟩

theorem w_commit_wstep (w : World) (cps) : WStep w cps .commit w.commit cps :=
  ⟨by simp only [Spec.JournalAbs.step]; rfl, JOnly.js w _, NGrow.of_js (.of_state_eq rfl), KLe.of_state_eq rfl, nofun,
   trivial⟩

/-- `checkpoint_revert` of the `i`-th checkpoint handed out -/
theorem w_revert_wstep {cp : Journal.Checkpoint} (h : w.revert cp = .ok w1) :
    Journal.revert w.js cp = some w1.js ∧ ∀ cps i, cps[i]? = some cp → WStep w cps (.revert i) w1 cps := by
  unfold World.revert at h
  obtain ⟨js, t1, h2⟩ := Proofs.EvmHost.ofOpt_bind_ok h
  cases h2
  exact ⟨t1, fun cps i hi => .of_op (by simp only [Spec.JournalAbs.step, hi, t1, Option.map_some]) (JOnly.js w js)
    (dom_revert t1) nofun trivial⟩

/-- a handed-out checkpoint is the next one of the history -/
theorem w_createCheckpoint_wstep {caller a : Nat} {hs : Bool} {v spec : Nat}
    {r : Except Journal.CreateErr Journal.Checkpoint}
    (h : journalOps.createCheckpoint w caller a hs v spec = .ok (w1, r)) :
    Journal.createAccountCheckpoint w.js caller a hs v spec = some (w1.js, r) ∧
      ∀ cps, opFunded w (.create caller a hs v spec) →
        WStep w cps (.create caller a hs v spec) w1 (match r with | .ok cp => cps ++ [cp] | .error _ => cps) := by
  obtain ⟨⟨js, r'⟩, t1, h2⟩ := Proofs.EvmHost.ofOpt_bind_ok
    (show (ofOpt "create_account_checkpoint" (Journal.createAccountCheckpoint w.js caller a hs v spec) >>= _) = _ from h)
  cases h2
  refine ⟨t1, fun cps hf => ?_⟩
  have k := (dom_createAccountCheckpoint t1).1.kle
  have hnamed : ∀ x ∈ opLoads (.create caller a hs v spec), js.state x ≠ none := by
    intro x hx
    simp only [opLoads, opAddrs, List.mem_cons, List.not_mem_nil, or_false] at hx
    rcases hx with rfl | rfl
    · exact k _ hf.2.1
    · exact k _ hf.2.2
  cases r with
  | ok cp =>
    exact .of_op (by simp only [Spec.JournalAbs.step, t1]) (JOnly.js w js) (dom_createAccountCheckpoint t1).1 hnamed hf
  | error e =>
    exact .of_op (by simp only [Spec.JournalAbs.step, t1]) (JOnly.js w js) (dom_createAccountCheckpoint t1).1 hnamed hf

theorem w_setCode_wstep {a hash : Nat} (h : journalOps.setCode w a hash = .ok w1) :
    Journal.setCode w.js a hash = some w1.js ∧ ∀ cps, WStep w cps (.setCode a hash) w1 cps := by
  obtain ⟨js, t1, h2⟩ := Proofs.EvmHost.ofOpt_bind_ok (show (ofOpt "set_code" (Journal.setCode w.js a hash) >>= _) = _ from h)
  cases h2
  exact ⟨t1, fun cps => .of_op (by simp only [Spec.JournalAbs.step, t1, Option.map_some]) (JOnly.js w js)
    (lvl_setCode t1).dom nofun trivial⟩

/-- `inc_nonce`, which `make_create_frame` calls on the journal directly -/
theorem w_incNonce_wstep {a : Nat} {js : Journal.JState} {r : Option Nat} (t1 : Journal.incNonce w.js a = some (js, r))
    (cps) : WStep w cps (.incNonce a) { w with js := js } cps :=
  .of_op (by simp only [Spec.JournalAbs.step, t1, Option.map_some]) (JOnly.js w js) (lvl_incNonce t1).dom nofun trivial

end ops

theorem WStep.create_depth {w w' : World} {cps cps' : List Journal.Checkpoint} {c a : Nat} {hs : Bool} {v sp : Nat}
    (s : WStep w cps (.create c a hs v sp) w' cps') :
    (cps' = cps ∧ w'.js.depth = w.js.depth) ∨ (∃ cp, cps' = cps ++ [cp] ∧ w'.js.depth = incU64 w.js.depth) := by
  have h := s.step
  simp only [Spec.JournalAbs.step] at h
  split at h
  · rename_i js cp heq
    cases h
    exact .inr ⟨cp, rfl, Proofs.Frame.createAccountCheckpoint_depth heq⟩
  · rename_i js e heq
    cases h
    exact .inl ⟨rfl, Proofs.Frame.createAccountCheckpoint_depth heq⟩
  · cases h

end Revm.Proofs.EvmLink
