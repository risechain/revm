import Revm.Proofs.EvmInstWrapMachine
import Revm.Proofs.EvmInstStages
import Revm.Proofs.InspectorWrapTop
/-! "Error outcomes return no gas" on the concrete functions: `Interp.insertCallOutcome`, `Interp.insertCreateOutcome` and the
`last_frame_return` stage `EvmInst.lastFrameGas` never read `gasRemaining` / `gasRefunded` of an outcome whose result is
error-class (neither `return_ok!` nor `return_revert!`). Hence `evmMachine_respects`: the frame machine of the concrete model
respects `ORel.errGas`, the relation up to which `GasInspector` and the EIP-3155 tracer are observing. Also
`lastFrameReturn_frameResultOf`: the abstract `last_frame_return` computes the concrete `lastFrameGas`. -/
namespace Revm.Proofs.EvmInstWrap
open Revm Revm.Model

variable {κ : Type}

/-- `Interpreter::insert_call_outcome` of the concrete model: for an error-class result the two gas fields are dead -/
theorem insert_call_outcome_blind_concrete (rs re : Nat) (o : Interp.ChildResult) (g : Nat) (r : Int)
    (h : isErr o.result = true) :
    Interp.insertCallOutcome rs re { o with gasRemaining := g, gasRefunded := r } =
      Interp.insertCallOutcome rs re o := by
  obtain ⟨hok, hrev⟩ := isErr_not_ok_revert h
  obtain ⟨res, out, gr, gf, addr⟩ := o
  simp only at hok hrev
  unfold Interp.insertCallOutcome
  simp only [hok, hrev, Bool.false_eq_true, if_false]

theorem insert_create_outcome_blind_concrete (o : Interp.ChildResult) (g : Nat) (r : Int)
    (h : isErr o.result = true) :
    Interp.insertCreateOutcome { o with gasRemaining := g, gasRefunded := r } = Interp.insertCreateOutcome o := by
  obtain ⟨hok, hrev⟩ := isErr_not_ok_revert h
  obtain ⟨res, out, gr, gf, addr⟩ := o
  simp only at hok hrev
  unfold Interp.insertCreateOutcome
  simp only [hok, hrev, Bool.false_eq_true, if_false]

/-- `last_frame_return` of the concrete model (`EvmInst.lastFrameGas`, the first stage of `Evm.finalGas`) -/
theorem last_frame_gas_blind_concrete (e : Evm.Env) (o : Interp.ChildResult) (g : Nat) (r : Int)
    (h : isErr o.result = true) :
    EvmInst.lastFrameGas e { o with gasRemaining := g, gasRefunded := r } = EvmInst.lastFrameGas e o := by
  obtain ⟨hok, hrev⟩ := isErr_not_ok_revert h
  obtain ⟨res, out, gr, gf, addr⟩ := o
  simp only at hok hrev
  unfold EvmInst.lastFrameGas
  simp only [hok, hrev, Bool.false_eq_true, if_false]

theorem final_gas_blind_concrete (e : Evm.Env) (spec floorGas refund : Nat) (o : Interp.ChildResult) (g : Nat)
    (r : Int) (h : isErr o.result = true) :
    Evm.finalGas e spec floorGas refund { o with gasRemaining := g, gasRefunded := r } =
      Evm.finalGas e spec floorGas refund o := by
  rw [EvmInst.finalGas_eq, EvmInst.finalGas_eq, last_frame_gas_blind_concrete e o g r h]

-- the hypothesis is satisfiable
example : isErr ({ result := .InvalidJump, output := [], gasRemaining := 40, gasRefunded := 7 } :
    Interp.ChildResult).result = true := rfl

/-- the concrete reading of `errGas`-related results: equal, or error-class and equal up to the two gas fields -/
theorem childOf_errGas {r r' : InspectorWrap.InterpreterResult} (h : InspectorWrap.errGasEq r r') (a : Option Nat) :
    childOf r' a = childOf r a ∨
    (isErr (childOf r a).result = true ∧
      childOf r' a = { childOf r a with gasRemaining := r'.gas.remaining, gasRefunded := r'.gas.refunded }) := by
  rcases Proofs.InspectorWrap.errGasEq_cases h with heq | ⟨he, heq⟩
  · left; rw [heq]
  · right
    refine ⟨?_, ?_⟩
    · show isErr (ofIR r.result) = true
      rw [ofIR_isErr]; exact he
    · rw [heq]; rfl

theorem insertCall_childOf_errGas (rs re : Nat) {r r' : InspectorWrap.InterpreterResult}
    (h : InspectorWrap.errGasEq r r') (a : Option Nat) :
    Interp.insertCallOutcome rs re (childOf r' a) = Interp.insertCallOutcome rs re (childOf r a) := by
  rcases childOf_errGas h a with heq | ⟨he, heq⟩
  · rw [heq]
  · rw [heq]; exact insert_call_outcome_blind_concrete rs re _ _ _ he

theorem insertCreate_childOf_errGas {r r' : InspectorWrap.InterpreterResult}
    (h : InspectorWrap.errGasEq r r') (a : Option Nat) :
    Interp.insertCreateOutcome (childOf r' a) = Interp.insertCreateOutcome (childOf r a) := by
  rcases childOf_errGas h a with heq | ⟨he, heq⟩
  · rw [heq]
  · rw [heq]; exact insert_create_outcome_blind_concrete _ _ _ he

/-- the consumers of an outcome (`insert_*_outcome`, `last_frame_return`) cannot tell apart outcomes that differ in the gas
of an error-class result -/
theorem evmMachine_respects (C : Evm.CpOps κ) (cfg : Evm.Cfg) (lim : Nat) :
    InspectorWrap.Respects (evmMachine C cfg lim) InspectorWrap.ORel.errGas :=
  Proofs.InspectorWrap.respects_of
    (fun c f sh o o' h => by
      obtain ⟨hm, hg⟩ := h
      show evmInsertCall c f sh o' = evmInsertCall c f sh o
      unfold evmInsertCall
      rw [hm, insertCall_childOf_errGas _ _ hg])
    (fun c f o o' h => by
      obtain ⟨ha, hg⟩ := h
      show evmInsertCreate c f o' = evmInsertCreate c f o
      unfold evmInsertCreate
      rw [ha, insertCreate_childOf_errGas hg])
    (fun _ _ _ _ _ => rfl) (fun _ => InspectorWrap.lastFrameReturn lim) (fun _ _ => rfl)
    (fun _ => Proofs.InspectorWrap.lastFrameReturn_setGas lim)

theorem lastFrameReturn_frameResultOf (e : Evm.Env) (isCreate : Bool) (lim0 : Nat) (res : Interp.ChildResult) :
    InspectorWrap.lastFrameReturn e.tx.gasLimit (frameResultOf isCreate lim0 res) =
      (frameResultOf isCreate lim0 res).setGas (EvmInst.lastFrameGas e res) := by
  unfold InspectorWrap.lastFrameReturn EvmInst.lastFrameGas
  cases isCreate <;>
    simp only [frameResultOf, InspectorWrap.FrameResult.interpreterResult, callOutcomeOf, createOutcomeOf, resOfChild,
      toIR_isOk, toIR_isRevert, Bool.false_eq_true, if_false, if_true] <;>
    (by_cases hok : res.result.isOk = true
     · simp only [hok, if_true]
     · simp only [hok, if_false, Bool.false_eq_true]
       by_cases hrev : res.result.isRevert = true
       · simp only [hrev, if_true]
       · simp only [hrev, if_false, Bool.false_eq_true])

end Revm.Proofs.EvmInstWrap
