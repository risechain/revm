import Revm.Proofs.EvmInstWrapMem
import Revm.Proofs.EvmMove
/-! The simulation relation `NRel` between what the concrete frame loop does next (`Evm.Next κ`: the shared memory sits
inside the TOP frame's `interp.mem`) and the verdict of the abstract `handle_action` (`LoopNext`: the interpreters own
`EMPTY_SHARED_MEMORY`, the shared memory is a separate value), and one lemma per group of handlers of `evmMachine` saying
that the handler answers a verdict related to where the concrete function leads (`deliver_sim`, `frameReturn_sim`,
`frameEnd_sim`, `frameAction_sim`). -/
namespace Revm.Proofs.EvmInstWrap
open Revm Revm.Model Revm.Model.Evm
open Revm.Model.InspectorWrap (Machine LoopNext FrameResult)
open Revm.Proofs.Evm (Move)

variable {κ : Type}

/-- not `InspectorWrap.kindOf`, which reads the kind off a `FrameResult` -/
def kindOf : FrameKind → InspectorWrap.Kind
  | .call _ _ => .call
  | .create _ => .create

/-- the abstract frame carries the concrete frame's kind and checkpoint -/
structure KindRel (a : AFrame κ) (cf : Frame κ) : Prop where
  kind : a.kind = kindOf cf.kind
  data : a.data = (cf.kind, cf.checkpoint)

/-- … and its interpreter, read on the concrete frame's memory, is the concrete interpreter -/
structure FrameRel (a : AFrame κ) (cf : Frame κ) : Prop extends KindRel a cf where
  interp : sync a.interp cf.interp.mem = cf.interp

def StackRel : List (AFrame κ) → List (Frame κ) → Prop
  | [], [] => True
  | a :: as, c :: cs => FrameRel a c ∧ StackRel as cs
  | _, _ => False

/-- the kind of the first frame of the transaction (the bottom of the stack) -/
def bottomKind : Frame κ → List (Frame κ) → FrameKind
  | top, [] => top.kind
  | _, p :: rest => bottomKind p rest

theorem bottomKind_interp (top : Frame κ) (rest : List (Frame κ)) (s : Interp.IState) :
    bottomKind { top with interp := s } rest = bottomKind top rest := by
  cases rest <;> rfl

/-- the `FrameResult` a frame of kind `k` returns (`l`: the `gas.limit` of its interpreter) -/
def frOfKind (k : FrameKind) (l : Nat) (res : Interp.ChildResult) : FrameResult :=
  match k with
  | .call rs re => .call (callOutcomeOf l res rs re)
  | .create _ => .create (createOutcomeOf l res)

/-- where the concrete loop stands, against the verdict of the abstract `handle_action` that leads there. The abstract
top frame's `mem` and `next_action` are irrelevant (`run` overwrites both); its mirrored fields read on the shared memory
give the concrete interpreter. A concrete `.ended` state (an insertion's `push!` failed) is an abstract top frame whose
`instruction_result` is set. A finished run is the result as a `FrameResult` of kind `bk`, the kind of the transaction's
first frame (the bottom of the stack). -/
inductive NRel (bk : FrameKind) : Next κ → LoopNext (evmTy κ) ECtx → Prop
  | run {f : AFrame κ} {arest : List (AFrame κ)} {top : Frame κ} {crest : List (Frame κ)}
      {shared : Memory.SharedMemory} {w : World} (hk : KindRel f top) (hs : sync f.interp shared = top.interp)
      (hc : f.interp.instructionResult = .Continue) (hr : StackRel arest crest) (hb : bottomKind top crest = bk) :
      NRel bk (.run (top :: crest) w) (.continue (f :: arest) shared { w := w, err := none })
  | ended {f : AFrame κ} {arest : List (AFrame κ)} {top : Frame κ} {crest : List (Frame κ)}
      {r : Interp.IResult} {s : Interp.IState} {shared : Memory.SharedMemory} {w : World} (hk : KindRel f top)
      (hs : sync f.interp shared = s) (hc : f.interp.instructionResult = toIR r) (hne : r ≠ .Continue)
      (hr : StackRel arest crest) (hb : bottomKind top crest = bk) :
      NRel bk (.ended top crest r [] s w) (.continue (f :: arest) shared { w := w, err := none })
  | done (res : Interp.ChildResult) (w : World) (l : Nat) :
      NRel bk (.done res w) (.done (frOfKind bk l res) { w := w, err := none })

variable (C : CpOps κ) (cfg : Cfg) (lim : Nat)

theorem deliver_sim (kind : FrameKind) (res : Interp.ChildResult) (l : Nat) (parent : Frame κ)
    (crest : List (Frame κ)) (mem : Memory.SharedMemory) (w : World) (p : AFrame κ) (arest : List (AFrame κ))
    (hp : FrameRel p parent) (hr : StackRel arest crest) (next' : Next κ)
    (h : deliver kind res parent crest mem w = .ok next') :
    ∃ ln', (evmMachine C cfg lim).insertResult (frOfKind kind l res) (p :: arest) mem { w := w, err := none } = .ok ln' ∧
      NRel (bottomKind parent crest) next' ln' := by
  have hsync : sync p.interp mem = { parent.interp with mem := mem } := by rw [← hp.interp]; rfl
  cases kind with
  | call rs re =>
    have habs : (evmMachine C cfg lim).insertResult (frOfKind (.call rs re) l res) (p :: arest) mem
        { w := w, err := none } =
        (ofInsertCall { w := w, err := none } p
          (Interp.insertCallOutcome rs re res { parent.interp with mem := mem })).bind
          (fun x => .ok (.continue ({ p with interp := x.1 } :: arest) x.2.1 x.2.2)) := by
      simp only [Machine.insertResult, frOfKind, evmMachine]
      unfold evmInsertCall
      simp only [callOutcomeOf, insertCall_childOf, hsync]
      rfl
    rw [habs]
    rcases EvmLink.deliver_ok h with ⟨s, hi, rfl⟩ | ⟨r, out, s, hi, rfl⟩
    · rw [show Interp.insertCallOutcome rs re res { parent.interp with mem := mem } = .ok () s from hi]
      exact ⟨_, rfl, .run ⟨hp.kind, hp.data⟩ rfl rfl hr (bottomKind_interp parent crest s)⟩
    · obtain ⟨rfl, hne⟩ := insertBy_halt hi
      rw [show Interp.insertCallOutcome rs re res { parent.interp with mem := mem } = .halt r [] s from hi]
      exact ⟨_, rfl, .ended ⟨hp.kind, hp.data⟩ rfl rfl hne hr rfl⟩
  | create a =>
    have hpar : insertBy (.create a) res { parent.interp with mem := mem } =
        withMem mem (Interp.insertCreateOutcome res (sync p.interp p.interp.mem)) := by
      rw [← insertCreate_mem]
      show Interp.insertCreateOutcome res _ = Interp.insertCreateOutcome res (sync p.interp mem)
      rw [hsync]
    have habs : (evmMachine C cfg lim).insertResult (frOfKind (.create a) l res) (p :: arest) mem
        { w := w, err := none } =
        (ofInsertCreate { w := w, err := none } p
          (Interp.insertCreateOutcome res (sync p.interp p.interp.mem))).bind
          (fun x => .ok (.continue ({ p with interp := x.1 } :: arest) mem x.2)) := by
      simp only [Machine.insertResult, frOfKind, evmMachine]
      unfold evmInsertCreate
      simp only [createOutcomeOf, childOf_resOfChild]
      rfl
    rw [habs]
    rcases EvmLink.deliver_ok h with ⟨s, hi, rfl⟩ | ⟨r, out, s, hi, rfl⟩
    · rw [hpar] at hi
      obtain ⟨s', hx, rfl⟩ := withMem_ok hi
      rw [hx]
      exact ⟨_, rfl, .run ⟨hp.kind, hp.data⟩ rfl rfl hr (bottomKind_interp parent crest _)⟩
    · obtain ⟨rfl, hne⟩ := insertBy_halt hi
      rw [hpar] at hi
      obtain ⟨s', hx, rfl⟩ := withMem_halt hi
      rw [hx]
      exact ⟨_, rfl, .ended ⟨hp.kind, hp.data⟩ rfl rfl hne hr rfl⟩

/-- `call_return` / `create_return` of the abstract machine on a related frame -/
theorem frameReturn_sim (f' : AFrame κ) (top : Frame κ) (hk : KindRel f' top) (arest : List (AFrame κ))
    (sh : Memory.SharedMemory) (r : Interp.IResult) (out : List Nat) (s : Interp.IState) (w w1 : World)
    (res : Interp.ChildResult) (hc : frameReturn C cfg top w (resultOf r out s) = .ok (res, w1)) :
    (evmMachine C cfg lim).handleAction (.ret { result := toIR r, output := out, gas := s.gas }) f' arest sh
        { w := w, err := none } =
      (evmMachine C cfg lim).insertResult (frOfKind top.kind s.gas.limit res) arest (freeContextT sh)
        { w := w1, err := none } := by
  unfold frameReturn at hc
  have hkind := hk.kind
  have hdata := hk.data
  cases hkd : top.kind with
  | call rs re =>
    rw [hkd] at hc hkind hdata
    simp only [Machine.handleAction, kindOf] at hkind ⊢
    rw [hkind]
    simp only [evmMachine, evmCallReturn, hdata, childOf_ret, hc, ofCallReturn, InspectorWrap.Res.bind, frOfKind]
  | create a =>
    rw [hkd] at hc hkind hdata
    simp only [Machine.handleAction, kindOf] at hkind ⊢
    rw [hkind]
    simp only [evmMachine, evmCreateReturn, hdata, childOf_ret, hc, ofCreateReturn, InspectorWrap.Res.bind, frOfKind]

theorem stackRel_nil_left {crest : List (Frame κ)} (h : StackRel ([] : List (AFrame κ)) crest) : crest = [] := by
  cases crest with
  | nil => rfl
  | cons a b => exact absurd h (by simp [StackRel])

theorem frameEnd_sim (f' : AFrame κ) (top : Frame κ) (crest : List (Frame κ)) (arest : List (AFrame κ))
    (r : Interp.IResult) (out : List Nat) (s : Interp.IState) (w : World) (hk : KindRel f' top)
    (hr : StackRel arest crest) (next' : Next κ) (h : Move C cfg true (.ended top crest r out s w) next') :
    ∃ ln', (evmMachine C cfg lim).handleAction (.ret { result := toIR r, output := out, gas := s.gas }) f' arest
      s.mem { w := w, err := none } = .ok ln' ∧ NRel (bottomKind top crest) next' ln' := by
  cases h with
  | @done _ _ _ _ _ mem res w1 hm hc =>
    rw [frameReturn_sim C cfg lim f' top hk arest s.mem r out s w w1 res hc, freeCtx_ok hm]
    cases arest with
    | nil => exact ⟨_, rfl, .done res w1 s.gas.limit⟩
    | cons a b => exact absurd hr (by simp [StackRel])
  | @ret _ parent crest' _ _ _ _ mem res w1 _ hm hc hd =>
    rw [frameReturn_sim C cfg lim f' top hk arest s.mem r out s w w1 res hc, freeCtx_ok hm]
    cases arest with
    | nil => exact absurd hr (by simp [StackRel])
    | cons p arest' => exact deliver_sim C cfg lim top.kind res s.gas.limit parent crest' mem w1 p arest' hr.1 hr.2 next' hd

/-- the abstract frame `ofCallFrame` / `ofCreateFrame` make of a new concrete frame is related to it -/
theorem newFrame_rel {k : FrameKind} {m : Memory.SharedMemory} {nf : Frame κ}
    (h : frFix k (Memory.newContext m) (.frame nf) = .frame nf) (m0 : Memory.SharedMemory) :
    KindRel ({ kind := kindOf k, interp := newInterp { nf.interp with mem := m0 }, data := (k, nf.checkpoint) } : AFrame κ)
      nf ∧
    sync (newInterp (κ := κ) { nf.interp with mem := m0 }) (Memory.newContext m) = nf.interp := by
  obtain ⟨hkind, hmem⟩ := frFix_frame_eq h
  refine ⟨⟨by rw [hkind], by rw [hkind]⟩, ?_⟩
  show ({ nf.interp with mem := Memory.newContext m } : Interp.IState) = nf.interp
  rw [← hmem]

theorem frameAction_sim (f' : AFrame κ) (top : Frame κ) (crest : List (Frame κ)) (arest : List (AFrame κ))
    (a : Interp.Action) (s : Interp.IState) (w : World) (hk : KindRel f' top)
    (hs : ∀ X, sync f'.interp X = { s with mem := X }) (hr : StackRel arest crest) (next' : Next κ)
    {fr : FrameOrResult κ} {w1 : World} (hm : makeFrame C cfg w a s.mem = .ok (fr, w1))
    (hnx : (∃ f, fr = .frame f ∧ next' = .run (f :: { top with interp := s } :: crest) w1) ∨
      ∃ o, fr = .result o ∧ deliver (kindOfAction a) o { top with interp := s } crest s.mem w1 = .ok next') :
    ∃ ln', (evmMachine C cfg lim).handleAction (actionOf a) f' arest s.mem { w := w, err := none } = .ok ln' ∧
      NRel (bottomKind top crest) next' ln' := by
  have hf' : FrameRel f' { top with interp := s } := ⟨⟨hk.kind, hk.data⟩, hs s.mem⟩
  rw [← bottomKind_interp top crest s]
  unfold makeFrame at hm
  cases a with
  | call i =>
    obtain ⟨h1, h2⟩ := makeCallFrame_ok hm
    have habs : (evmMachine C cfg lim).call { w := w, err := none } i =
        ofCallFrame { w := w, err := none } i
          (.ok (frFix (.call i.retStart i.retEnd) (Memory.newContext Memory.new) fr, w1)) := by
      show evmCall C cfg _ i = _
      unfold evmCall
      rw [h1]
    simp only [actionOf, Machine.handleAction, habs]
    rcases hnx with ⟨nf, rfl, rfl⟩ | ⟨o, rfl, hd⟩
    · obtain ⟨hk', hs'⟩ := newFrame_rel h2 (Memory.newContext Memory.new)
      exact ⟨_, rfl, .run hk' hs' rfl ⟨hf', hr⟩ rfl⟩
    · exact deliver_sim C cfg lim (.call i.retStart i.retEnd) o i.gasLimit { top with interp := s } crest s.mem w1 f'
        arest hf' hr next' hd
  | create i =>
    obtain ⟨h1, h2⟩ := makeCreateFrame_ok hm
    have habs : (evmMachine C cfg lim).create { w := w, err := none } i =
        ofCreateFrame { w := w, err := none } i (.ok (frFixCreate (Memory.newContext Memory.new) fr, w1)) := by
      show evmCreate C cfg _ i = _
      unfold evmCreate
      rw [h1]
    simp only [actionOf, Machine.handleAction, habs]
    rcases hnx with ⟨nf, rfl, rfl⟩ | ⟨o, rfl, hd⟩
    · obtain ⟨hk', hs'⟩ := newFrame_rel (k := .create nf.interp.target) h2 (Memory.newContext Memory.new)
      exact ⟨_, rfl, .run hk' hs' rfl ⟨hf', hr⟩ rfl⟩
    · exact deliver_sim C cfg lim (.create 0) o i.gasLimit { top with interp := s } crest s.mem w1 f' arest hf' hr
        next' hd
  | eofCreate i => cases hm

end Revm.Proofs.EvmInstWrap
