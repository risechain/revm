import Revm.Spec.EvmRules
import Revm.Proofs.Gas
import Revm.Proofs.Stack
import Revm.Proofs.InterpOutcome
/-! The handler primitives of `Model.Interp` (stack macros, `gas!`, `check!`, `push!`, the `Stack` methods behind DUP / SWAP /
PUSH) as equations on one state, `bind` on a known result, and `step` as `execInstr` of the decoded opcode: what the
proofs of `step s = rule s` (`Proofs/EvmStep2Run.lean` and the modules above it) start from. -/
namespace Revm.Proofs.EvmStep
open Revm Revm.Model Revm.Model.Interp
open Revm.Model.GasCalc (enabled)
open Revm.Spec.EvmRules
export Revm.Proofs.Interp (bind_ok)

theorem popNUnsafe_append (l vs : List Nat) : Stack.popNUnsafe vs.length (l ++ vs.reverse) = (l, .ok vs) := by
  have := Proofs.Stack.popNUnsafe_rev vs.length (vs ++ l.reverse) (by simp)
  simpa using this

theorem peek_concat (l : List Nat) (v : Nat) : Stack.peek (l ++ [v]) 0 = (l ++ [v], .ok v) := by
  simp [Stack.peek]

theorem set_concat (l : List Nat) (v x : Nat) : Stack.set (l ++ [v]) 0 x = (l ++ [x], .ok ()) := by
  simp [Stack.set]

theorem gasCharge_ok (s : IState) (c : Nat) (hr : s.gas.remaining < U64) (h : c ≤ s.gas.remaining) :
    gasCharge c s = .ok () { s with gas := { s.gas with remaining := s.gas.remaining - c } } := by
  simp only [gasCharge, Proofs.Gas.recordCost_ok s.gas c hr h]
  rfl

theorem gasCharge_fail (s : IState) (c : Nat) (h : s.gas.remaining < c) :
    gasCharge c s = .halt .OutOfGas [] s := by
  simp only [gasCharge, Proofs.Gas.recordCost_fail s.gas c h]
  rfl


theorem gasCharge_eq (s : IState) (c : Nat) (hr : s.gas.remaining < U64) :
    gasCharge c s = if s.gas.remaining < c then .halt .OutOfGas [] s else .ok () (charge s c) := by
  by_cases h : s.gas.remaining < c
  · rw [if_pos h, gasCharge_fail s c h]
  · rw [if_neg h, gasCharge_ok s c hr (Nat.le_of_not_lt h)]
    rfl

theorem bind_halt {α β} (m : M α) (f : α → M β) (s s' : IState) (r o) (h : m s = .halt r o s') :
    (m >>= f) s = .halt r o s' := by
  show M.bind m f s = _
  simp only [M.bind, h]

theorem ite_else {α : Sort _} {c : Prop} {i₁ i₂ : Decidable c} {a b b' : α} (h : ¬ c → b = b') :
    @ite α c i₁ a b = @ite α c i₂ a b' :=
  ite_congr rfl (fun _ => rfl) h

theorem bind_assoc' {α β γ} (m : M α) (f : α → M β) (g : β → M γ) (s : IState) :
    ((m >>= f) >>= g) s = (m >>= fun a => f a >>= g) s := by
  show M.bind (M.bind m f) g s = M.bind m (fun a => M.bind (f a) g) s
  unfold M.bind
  cases m s <;> rfl

theorem step_eq (s : IState) (op : Nat) (hcode : s.code[s.pc]? = some op) :
    step s = execInstr (decode op) (adv s) := by
  unfold step
  rw [hcode]
  rfl

/-- `Instr` carries functions, so equality of two PUSH / DUP / SWAP / LOG handlers is tested on their indices -/
def sameIndexed : Instr → Instr → Bool
  | .push a, .push b => a == b
  | .dup a, .dup b => a == b
  | .swap a, .swap b => a == b
  | .log a, .log b => a == b
  | _, _ => false

theorem eq_of_sameIndexed {i j : Instr} (h : sameIndexed i j = true) : i = j := by
  unfold sameIndexed at h
  split at h
  · rw [eq_of_beq h]
  · rw [eq_of_beq h]
  · rw [eq_of_beq h]
  · rw [eq_of_beq h]
  · cases h

theorem decode_push (n : Fin 32) : decode (0x60 + n.val) = .push n :=
  eq_of_sameIndexed (by revert n; decide +kernel)

theorem decode_dup (n : Fin 16) : decode (0x80 + n.val) = .dup n :=
  eq_of_sameIndexed (by revert n; decide +kernel)

theorem decode_swap (n : Fin 16) : decode (0x90 + n.val) = .swap n :=
  eq_of_sameIndexed (by revert n; decide +kernel)

theorem decode_log (n : Fin 5) : decode (0xa0 + n.val) = .log n :=
  eq_of_sameIndexed (by revert n; decide +kernel)

theorem stack_of_reverse {st pre rest : List Nat} (h : st.reverse = pre ++ rest) : st = rest.reverse ++ pre.reverse := by
  have := congrArg List.reverse h
  simpa using this

theorem popN_ok (s : IState) (l vs : List Nat) (h : s.stack = l ++ vs.reverse) :
    popN vs.length s = .ok vs { s with stack := l } := by
  unfold popN Stack.popMacro
  have hl : ¬ s.stack.length < vs.length := by rw [h]; simp
  rw [if_neg hl, h, popNUnsafe_append]

theorem popN_underflow (s : IState) (k : Nat) (h : s.stack.length < k) :
    popN k s = .halt .StackUnderflow [] s := by
  unfold popN Stack.popMacro; rw [if_pos h]; rfl

theorem pop1_ok (s : IState) (l : List Nat) (a : Nat) (h : s.stack = l ++ [a]) :
    pop1 s = .ok a { s with stack := l } := by
  unfold pop1
  have hk : popN 1 s = .ok [a] { s with stack := l } := popN_ok s l [a] h
  rw [bind_ok _ _ _ _ _ hk]
  rfl

theorem pop1_underflow (s : IState) (h : s.stack.length < 1) : pop1 s = .halt .StackUnderflow [] s := by
  unfold pop1; rw [bind_halt _ _ _ _ _ _ (popN_underflow s 1 h)]

theorem popTop_ok (s : IState) (l vs : List Nat) (t : Nat) (h : s.stack = (l ++ [t]) ++ vs.reverse) :
    popTop (vs.length + 1) s = .ok (vs, t) { s with stack := l ++ [t] } := by
  unfold popTop
  have hl : ¬ s.stack.length < vs.length + 1 := by rw [h]; simp
  rw [if_neg hl, Nat.add_sub_cancel, h, popNUnsafe_append]
  simp only [peek_concat]

theorem popTop_underflow (s : IState) (k : Nat) (h : s.stack.length < k) :
    popTop k s = .halt .StackUnderflow [] s := by
  unfold popTop; rw [if_pos h]

theorem setTop_ok (s : IState) (l : List Nat) (v x : Nat) (h : s.stack = l ++ [v]) :
    setTop x s = .ok () { s with stack := l ++ [x] } := by
  unfold setTop
  simp only [h, set_concat]

theorem setTop_cons (x : Nat) (s : IState) (v : Nat) (rest : List Nat) (h : s.stack = (v :: rest).reverse) :
    setTop x s = .ok () { s with stack := (x :: rest).reverse } := by
  rw [List.reverse_cons] at h
  rw [setTop_ok s _ v x h, List.reverse_cons]

theorem push_eq (v : Nat) (s : IState) :
    push v s = if s.stack.length = 1024 then .halt .StackOverflow [] s
      else .ok () { s with stack := s.stack ++ [v] } := by
  unfold push Stack.push Stack.STACK_LIMIT
  by_cases h : s.stack.length = 1024
  · rw [if_pos h, if_pos h]; rfl
  · rw [if_neg h, if_neg h]

theorem stackCall_eq (f : List Nat → List Nat × Stack.Res Unit) (s : IState) :
    stackCall f s = (match f s.stack with
      | (d, .ok _) => Exec.ok () { s with stack := d }
      | (_, .err e) => .halt (stackErr e) [] s
      | (_, _) => .fault .oobStack) := rfl

theorem charge_stack (s : IState) (c : Nat) : (charge s c).stack = s.stack := rfl
theorem adv_stack (s : IState) : (adv s).stack = s.stack := rfl


/-- a primitive that fails exactly when `c`, followed by the rest of the handler, under an observer `E` of the result -/
theorem bind_ite {α β γ : Type} (E : Exec β → γ) {m : M α} {s : IState} {c : Prop} [Decidable c]
    {r : IResult} {o : List Nat} {s1 : IState} {a : α} {s2 : IState}
    (h : m s = if c then .halt r o s1 else .ok a s2) (f : α → M β) :
    E ((m >>= f) s) = if c then E (.halt r o s1) else E (f a s2) := by
  show E (M.bind m f s) = _
  unfold M.bind
  rw [h]
  by_cases hc : c
  · rw [if_pos hc, if_pos hc]
  · rw [if_neg hc, if_neg hc]

theorem check_eq (fork : Nat) (s : IState) :
    check fork s = if !enabled s.spec fork then .halt .NotActivated [] s else .ok () s := by
  unfold check
  cases enabled s.spec fork <;> rfl

theorem push_toDone (v : Nat) (s : IState) :
    (push v s).toDone = if s.stack.length = 1024 then .halt .StackOverflow [] s
      else .next { s with stack := s.stack ++ [v] } := by
  rw [push_eq, apply_ite Exec.toDone]
  rfl

theorem step_pure {s : IState} {op : Nat} {m : M Unit} {d : Done} (hcode : s.code[s.pc]? = some op)
    (hdec : execInstr (decode op) = fun s => .pure (m s).toDone) (h : (m (adv s)).toDone = d) : step s = .pure d := by
  rw [step_eq s op hcode, hdec]
  exact congrArg Outcome.pure h

theorem chunks32_short (bs : List Nat) (h0 : bs ≠ []) (h : bs.length ≤ 32) : Spec.Stack.chunks32 bs = [bs] := by
  rw [Spec.Stack.chunks32]
  simp only [h0, dite_false]
  have h1 : bs.take 32 = bs := List.take_of_length_le h
  have h2 : bs.drop 32 = [] := List.drop_eq_nil_of_le h
  rw [h1, h2, Spec.Stack.chunks32]
  simp

theorem pushSlice_word (d bs : List Nat) (hd : d.length ≤ 1024) (h0 : bs ≠ []) (h : bs.length ≤ 32) :
    Stack.pushSlice d bs = Stack.push d (Spec.Stack.beNat bs) := by
  have hps := Proofs.Stack.pushSlice_eq d bs hd
  have hceil : Spec.Stack.ceil32 bs.length = 1 := by
    have : 0 < bs.length := List.length_pos_iff.mpr h0
    unfold Spec.Stack.ceil32; omega
  rw [hceil, chunks32_short bs h0 h] at hps
  rw [hps]
  unfold Stack.push Stack.STACK_LIMIT at *
  by_cases hl : d.length = 1024
  · rw [if_pos hl, if_pos (by omega)]
  · rw [if_neg hl, if_neg (by omega)]
    rfl

/-- `hostCall pre post s` is `hostRun post (pre s)` by definition: the observer under which the `…_run` lemmas walk the `pre`
part of a host instruction (`actionRun` for `hostCallAction`, `keccakRun` for KECCAK256). `EvmLink.hostWith`
(`Proofs/InterpOutcome.lean`) is the same reading as a function of `pre`, used by the C25 proofs (`InterpHost`). -/
def hostRun {β : Type} (post : β → HostResp → M Unit) : Exec (HostOp × β) → Outcome
  | .ok (op, b) s' => .host op (fun r => (post b r s').toDone)
  | .halt r o s' => .halt r o s'
  | .fault f => .fault f

def actionRun {β : Type} (post : β → HostResp → M Action) : Exec (HostOp × β) → Outcome
  | .ok (op, b) s' => .host op (fun r => (post b r s').toDoneAction)
  | .halt r o s' => .halt r o s'
  | .fault f => .fault f

theorem requireSome_eq (r : HostResp) (s : IState) :
    requireSome r s = if !r.ok then .halt .FatalExternalError [] s else .ok () s := by
  unfold requireSome
  cases r.ok <;> rfl

end Revm.Proofs.EvmStep
