import Revm.Model.Interp
/-! The instructions of `Model.Interp` seen from outside: the three host combinators `hostCall`, `hostCallAction`,
`hostCallOptAction` are one (`hostWith`); a property of what an `Outcome` asks and of every `Done` it leads to
(`OutAll`) is proved of `execInstr` instruction by instruction (`execInstr_cases`). In front of them `ActOk2`, in
the namespace `EvmLink` of its users, and the inversions of `>>=` in `M`. -/
namespace Revm.Proofs.EvmLink
open Revm Revm.Model Revm.Model.Interp

/-- the bytes an action hands to the frame machine: calldata / initcode -/
def dataLen : Interp.Action → Nat
  | .call i => i.input.length
  | .create i => i.initCode.length
  | .eofCreate _ => 0

/-- an action legacy code hands out: calldata / initcode a Rust `Bytes`, never EOFCREATE -/
def ActOk2 (a : Action) : Prop := dataLen a ≤ Memory.ISIZE_MAX ∧ ∀ i, a ≠ .eofCreate i

end Revm.Proofs.EvmLink

namespace Revm.Proofs.Interp
open Revm Revm.Model Revm.Model.Interp

theorem bind_ok {α β} (m : M α) (f : α → M β) (s s' : IState) (a : α) (h : m s = .ok a s') :
    (m >>= f) s = f a s' := by
  show M.bind m f s = _
  simp only [M.bind, h]

theorem bind_ok_inv {α β} {m : M α} {f : α → M β} {s s' : IState} {b : β} (h : (m >>= f) s = .ok b s') :
    ∃ a s1, m s = .ok a s1 ∧ f a s1 = .ok b s' := by
  change M.bind m f s = _ at h
  unfold M.bind at h
  cases hm : m s with
  | ok a s1 => rw [hm] at h; exact ⟨a, s1, rfl, h⟩
  | halt r o s1 => rw [hm] at h; cases h
  | fault f => rw [hm] at h; cases h

theorem bind_halt_inv {α β} {m : M α} {f : α → M β} {s s' : IState} {r : IResult} {o : List Nat}
    (h : (m >>= f) s = .halt r o s') : m s = .halt r o s' ∨ ∃ a s1, m s = .ok a s1 ∧ f a s1 = .halt r o s' := by
  change M.bind m f s = _ at h
  unfold M.bind at h
  cases hm : m s with
  | ok a s1 => rw [hm] at h; exact .inr ⟨a, s1, rfl, h⟩
  | halt r1 o1 s1 => rw [hm] at h; cases h; exact .inl rfl
  | fault f => rw [hm] at h; cases h

/-- the `Done` of a handler result, `okc` saying what an ok result becomes -/
def doneWith {γ} (okc : γ → IState → Done) : Exec γ → Done
  | .ok c s => okc c s
  | .halt r o s => .halt r o s
  | .fault f => .fault f

def optAction (a : Option Action) (s : IState) : Done :=
  match a with
  | some a => .action a s
  | none => .next s

theorem toDone_eq (e : Exec Unit) : e.toDone = doneWith (fun _ s => .next s) e := by cases e <;> rfl
theorem toDoneAction_eq (e : Exec Action) : e.toDoneAction = doneWith .action e := by cases e <;> rfl
theorem toDoneOptAction_eq (e : Exec (Option Action)) : e.toDoneOptAction = doneWith optAction e := by
  cases e with
  | ok a s => cases a <;> rfl
  | halt => rfl
  | fault => rfl

/-- `hostCall`, `hostCallAction` and `hostCallOptAction` differ only in what an ok result of the epilogue becomes -/
def hostWith {β γ} (okc : γ → IState → Done) (pre : M (HostOp × β)) (post : β → HostResp → M γ) (s : IState) :
    Outcome :=
  match pre s with
  | .ok (op, b) s' => .host op (fun r => doneWith okc (post b r s'))
  | .halt r o s' => .halt r o s'
  | .fault f => .fault f

theorem hostCall_eq {β} (pre : M (HostOp × β)) (post : β → HostResp → M Unit) (s : IState) :
    hostCall pre post s = hostWith (fun _ s => .next s) pre post s := by
  unfold hostCall hostWith
  rcases pre s with ⟨⟨op, b⟩, s'⟩ | _ | _ <;> simp only [toDone_eq]
theorem hostCallAction_eq {β} (pre : M (HostOp × β)) (post : β → HostResp → M Action) (s : IState) :
    hostCallAction pre post s = hostWith .action pre post s := by
  unfold hostCallAction hostWith
  rcases pre s with ⟨⟨op, b⟩, s'⟩ | _ | _ <;> simp only [toDoneAction_eq]
theorem hostCallOptAction_eq {β} (pre : M (HostOp × β)) (post : β → HostResp → M (Option Action)) (s : IState) :
    hostCallOptAction pre post s = hostWith optAction pre post s := by
  unfold hostCallOptAction hostWith
  rcases pre s with ⟨⟨op, b⟩, s'⟩ | _ | _ <;> simp only [toDoneOptAction_eq]

/-- the question an outcome asks satisfies `R`, and every `Done` it leads to, after an answer that satisfies `A`,
satisfies `D` -/
inductive OutAll (R : HostOp → Prop) (A : HostResp → Prop) (D : Done → Prop) : Outcome → Prop
  | pure {d} (h : D d) : OutAll R A D (.pure d)
  | host {op k} (hop : R op) (hk : ∀ r, A r → D (k r)) : OutAll R A D (.host op k)

theorem OutAll.imp {R R' : HostOp → Prop} {A A' : HostResp → Prop} {D D' : Done → Prop} {o : Outcome}
    (h : OutAll R A D o) (hR : ∀ op, R op → R' op) (hA : ∀ r, A' r → A r) (hD : ∀ d, D d → D' d) :
    OutAll R' A' D' o := by
  cases h with
  | pure h => exact .pure (hD _ h)
  | host hop hk => exact .host (hR _ hop) (fun r hr => hD _ (hk r (hA r hr)))

theorem OutAll.op {R A D} {o : Outcome} (h : OutAll R A D o) {op k} (e : o = .host op k) : R op := by
  cases h with
  | pure h => cases e
  | host hop _ => cases e; exact hop

attribute [local irreducible] keccak256I balanceI selfbalanceI extcodesizeI extcodehashI extcodecopyI blockhashI
  sloadI sstoreI tloadI tstoreI logI selfdestructI createI callI callcodeI delegatecallI staticcallI eofcreateI
  extcallI extdelegatecallI extstaticcallI

theorem execInstr_cases {P : Outcome → Prop} (i : Instr) (s : IState)
    (pure : ∀ m, execPure i = some m → P (.pure (m s).toDone))
    (keccak256 : P (keccak256I s)) (balance : P (balanceI s)) (selfbalance : P (selfbalanceI s))
    (extcodesize : P (extcodesizeI s)) (extcodehash : P (extcodehashI s)) (extcodecopy : P (extcodecopyI s))
    (blockhash : P (blockhashI s)) (sload : P (sloadI s)) (sstore : P (sstoreI s)) (tload : P (tloadI s))
    (tstore : P (tstoreI s)) (log : ∀ n, P (logI n s)) (selfdestruct : P (selfdestructI s))
    (create : ∀ c2, P (.pure (createI c2 s).toDoneAction)) (call : P (callI s)) (callcode : P (callcodeI s))
    (delegatecall : P (delegatecallI s)) (staticcall : P (staticcallI s)) (eofcreate : P (eofcreateI s))
    (extcall : P (extcallI s)) (extdelegatecall : P (extdelegatecallI s)) (extstaticcall : P (extstaticcallI s))
    (fault : P (.fault .panic)) : P (execInstr i s) := by
  unfold execInstr
  cases hp : execPure i with
  | some m => exact pure m hp
  | none =>
    dsimp only
    cases i <;> first | assumption | exact log _ | exact create _

theorem step_cases {P : Outcome → Prop} (s : IState) (fault : P (.fault .oobCode))
    (instr : ∀ i, P (execInstr i { s with pc := s.pc + 1 })) : P (step s) := by
  unfold step
  cases s.code[s.pc]? with
  | none => exact fault
  | some op => exact instr _

end Revm.Proofs.Interp
