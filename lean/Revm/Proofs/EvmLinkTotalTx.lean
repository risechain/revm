import Revm.Proofs.EvmLinkTotalLoop
import Revm.Proofs.EvmLinkHandler
/-! Panic-freedom of the transaction: the handler around the loop (validation, `load_accounts`, `deduct_caller`, the
EIP-7702 list, the first frame, `reimburse_caller`, `reward_beneficiary`, `output`) fails softly if at all, so
`Evm.transact` is as total as its loop for every failure class that contains `Soft` (`transact_totE`);
`transact_tot2` is the instance at `Tot2`. -/
namespace Revm.Proofs.EvmLink
open Revm Revm.Model Revm.Model.Evm
open Revm.Proofs.Frame (Good)
open Revm.Proofs.Journal (Grows)
open Revm.Proofs.EvmInstLife (loadAccessList)

theorem good_meta {s : Journal.JState} (g : Good s) (spec : Nat) (pre : Nat → Bool) :
    Good { s with spec := spec, preloaded := pre } :=
  ⟨Proofs.Frame.JRefs.mono g.refs (Grows.of_state_eq rfl) rfl, g.ne, fun a acc h => g.bal a acc h⟩

theorem wok_setMetaW {w : World} (h : WOk w) (spec : Nat) (pre : Nat → Bool) : WOk (setMetaW w spec pre) :=
  ⟨good_meta h.good spec pre, h.dbal⟩

theorem wok_loadAccessList (e : Evm.Env) : ∀ (w : World), WOk w → WOk (loadAccessList e w) := by
  unfold loadAccessList
  generalize e.tx.accessList = l
  induction l with
  | nil => intro w h; exact h
  | cons it l ih =>
    intro w h
    simp only [List.foldl_cons]
    apply ih
    have h1 : WOk ({ w with js := Journal.initialAccountLoad w.db w.js it.addr it.keys }.noteAddr it.addr) :=
      wok_noteAddr (wok_js h (Proofs.Frame.ial_good h.dbal h.good _ _)) _
    generalize ({ w with js := Journal.initialAccountLoad w.db w.js it.addr it.keys }.noteAddr it.addr) = w1 at h1
    generalize it.keys = ks
    induction ks generalizing w1 with
    | nil => exact h1
    | cons k ks ih2 => simp only [List.foldl_cons]; exact ih2 _ (wok_noteSlot h1 _ _)

theorem wok_loadAccounts (e : Evm.Env) (spec : Nat) {w : World} (h : WOk w) : WOk (loadAccounts e spec w) := by
  rw [loadAccounts_eq]
  exact wok_setMetaW (wok_loadAccessList e _ (wok_setMetaW h _ _)) _ _

theorem wok_setInfo {w : World} (h : WOk w) {a : Nat} {acc acc' : Journal.Acct} (hs : w.js.state a = some acc)
    (hst : acc'.storage = acc.storage) (hb : acc'.info.balance < W) :
    WS w { w with js := Journal.setAcct w.js a acc' } :=
  ⟨⟨h.good.upd hs hst hb, h.dbal⟩, Grows.upd hs hst, rfl⟩

theorem tot_leg {w : World} (h : WOk w) (a : Nat) {f : Journal.Acct → R Journal.Acct}
    (hf : ∀ acc, acc.info.balance < W →
      Tot (f acc) (fun acc' => acc'.storage = acc.storage ∧ acc'.info.balance < W)) :
    Tot (leg w a f) (fun w' => WS w w') := by
  unfold leg
  refine tot_bind (tot_loadAccount h _) (fun r hr => ?_)
  obtain ⟨w1, c⟩ := r
  refine tot_bind (tot_acct hr.2) (fun acc hacc => ?_)
  refine tot_bind (hf acc (hr.1.ok.good.bal _ _ hacc)) (fun acc' hacc' => ?_)
  exact tot_pure (hr.1.trans (wok_setInfo hr.1.ok hacc hacc'.1 hacc'.2))

theorem tot_deductCaller {w : World} (h : WOk w) (e : Evm.Env) (spec : Nat)
    (hfee : GasCalc.enabled spec GasCalc.SpecId.CANCUN = true → e.block.blobGasPrice.isSome) :
    Tot (deductCaller e spec w) (fun w1 => WS w w1) := by
  rw [deductCaller_eq_leg]
  refine tot_leg h _ (fun acc hb => tot_bind (P := fun _ => True) ?_ (fun d _ => tot_pure ⟨?_, ?_⟩))
  · unfold debitAmount
    split
    · rename_i hc
      unfold Evm.Env.calcDataFee
      obtain ⟨p, hp⟩ := Proofs.Journal.isSome_cases (hfee hc)
      rw [hp]
      exact tot_pure trivial
    · exact tot_pure trivial
  · unfold debited; split <;> rfl
  · rw [debited_balance]
    exact Nat.lt_of_le_of_lt (by unfold TxGas.deductCaller U256.saturatingSub; omega) hb

theorem tot_applyAuth {w : World} (h : WOk w) (e : Evm.Env) (a : Auth) :
    Tot (applyAuth e w a) (fun r => WS w r.1) := by
  unfold applyAuth
  split
  · exact tot_pure (WS.refl h)
  split
  · exact tot_pure (WS.refl h)
  split
  · rename_i authority _
    refine tot_bind' (tot_loadCode h authority) (fun r hl hr => ?_)
    obtain ⟨w1, c⟩ := r
    refine tot_bytes hl hr.2 (fun acc code hacc => ?_)
    split
    · exact tot_pure hr.1
    split
    · exact tot_pure hr.1
    have hbal := hr.1.ok.good.bal _ _ hacc
    by_cases hz : a.address = 0
    · simp only [hz, if_true]
      exact tot_pure (hr.1.trans (wok_setInfo hr.1.ok hacc rfl hbal))
    · simp only [hz, if_false]
      have h2 := (WS.refl hr.1.ok).addCode (Keccak.keccak256w (designator a.address)) (designator a.address)
      exact tot_pure ((hr.1.trans h2).trans (wok_setInfo (acc := acc) h2.ok (by rw [addCode_js]; exact hacc) rfl hbal))
  · exact tot_pure (WS.refl h)

theorem tot_forIn {α σ : Type} (f : α → σ → R (ForInStep σ)) (Inv : σ → Prop)
    (hf : ∀ a s, Inv s → Tot (f a s) (fun st => ∃ s', st = .yield s' ∧ Inv s')) :
    ∀ (l : List α) (s : σ), Inv s → Tot (forIn (m := R) l s f) Inv := by
  intro l
  induction l with
  | nil => intro s hs; exact tot_pure hs
  | cons a l ih =>
    intro s hs
    rw [List.forIn_cons]
    refine tot_bind (hf a s hs) (fun st hst => ?_)
    obtain ⟨s', rfl, hs'⟩ := hst
    exact ih s' hs'

theorem tot_applyAuthList {w : World} (h : WOk w) (e : Evm.Env) (spec : Nat) :
    Tot (applyAuthList e spec w) (fun r => WS w r.1) := by
  unfold applyAuthList
  split
  · exact tot_pure (WS.refl h)
  · split
    · rename_i l _
      refine tot_bind (tot_forIn _ (fun r : World × Nat => WS w r.1) (fun a r hr => ?_) l (w, 0) (WS.refl h))
        (fun r hr => tot_pure hr)
      refine tot_bind (tot_applyAuth hr.ok e a) (fun p hp => ?_)
      obtain ⟨w', b⟩ := p
      dsimp only at hp ⊢
      split
      · exact tot_pure ⟨_, rfl, hr.trans hp⟩
      · exact tot_pure ⟨_, rfl, hr.trans hp⟩
    · exact tot_pure (WS.refl h)

theorem tot_preverify {w : World} (h : WOk w) (e : Evm.Env) (spec : Nat) :
    Tot (preverify w e spec) (fun o => ∀ p, o = some p → WS w p.1) := by
  unfold preverify
  have hv : Tot (validateEnv e spec) (fun _ => True) := by
    rw [validateEnv_link]
    generalize hr : TxValidate.validateEnv spec (tvCfg e) (tvBlock e) (tvTx e) = r
    cases r with
    | ok => exact trivial
    | err x => exact trivial
    | panic => exact absurd hr (Proofs.TxValidate.tv_validateEnv_ne_panic _ _ _ _)
  refine tot_bind hv (fun b _ => ?_)
  split
  · exact tot_pure (fun p hp => nomatch hp)
  · refine tot_bind (P := fun _ => True) ?_ (fun g _ => ?_)
    · generalize ho : GasCalc.calculateInitialTxGas spec e.tx.data e.tx.to.isNone _ _ = o
      cases o with
      | none => exact absurd ho (Proofs.GasCalc.initialTxGas_ne_none _ _ _ _ _)
      | some x => exact tot_pure trivial
    · obtain ⟨ig, fg⟩ := g
      dsimp only
      split
      · exact tot_pure (fun p hp => nomatch hp)
      · split
        · exact tot_pure (fun p hp => nomatch hp)
        · refine tot_bind' (tot_loadCode h e.tx.caller) (fun r hl hr => ?_)
          obtain ⟨w1, c⟩ := r
          refine tot_bytes hl hr.2 (fun acc code hacc => ?_)
          split
          · exact tot_pure (fun p hp => nomatch hp)
          · exact tot_pure (fun p hp => by cases hp; exact hr.1)

theorem classOf_some {r : Interp.IResult} (h : RGood r) : ∃ c, classOf r = some c := by
  obtain ⟨h1, h2, h3, h4⟩ := h
  cases r <;> first | exact ⟨_, rfl⟩ | contradiction

/-- a credit keeps the storage and saturates at 2^256 − 1 -/
theorem tot_credited (t : Bool) (amt : Nat) (acc : Journal.Acct) :
    Tot (pure (credited acc t amt) : R Journal.Acct) (fun acc' => acc'.storage = acc.storage ∧ acc'.info.balance < W) :=
  tot_pure ⟨rfl, U256.satAdd_lt _ _⟩

theorem tot_finish {w : World} (h : WOk w) (e : Evm.Env) (spec fg r7 : Nat) (ic : Bool) (res : Interp.ChildResult)
    (hres : RGood res.result) : Tot (finish e spec fg r7 ic res w) (fun p => WOk p.2) := by
  rw [EvmInst.finish_eq, ← EvmInst.finalGas_eq]
  refine tot_bind (?_ : Tot _ (WS w)) (fun w2 h2 => tot_bind (?_ : Tot _ (WS w2)) (fun w3 h3 => ?_))
  · rw [reimburse_eq_leg e spec]; exact tot_leg h _ (fun acc _ => tot_credited _ _ acc)
  · rw [reward_eq_leg]; exact tot_leg h2.ok _ (fun acc _ => tot_credited _ _ acc)
  · obtain ⟨c, hc⟩ := classOf_some hres
    unfold EvmInst.output
    rw [hc]
    exact h3.ok

/-- what `prepare` hands to the loop: one frame with its checkpoint inside the journal, or an immediate result -/
def FirstOk (p : FrameOrResult Journal.Checkpoint × World × Bool × Nat) : Prop :=
  match p.1 with
  | .frame f => LI [f] p.2.1
  | .result r => WOk p.2.1 ∧ RGood r.result

theorem first_of_fout {w w1 : World} {fr : FrameOrResult Journal.Checkpoint} (h : WOk w) (fo : FOut w w1 fr)
    (fa : FrAddr w1 fr) (hrg : ∀ r, fr = .result r → RGood r.result) (b : Bool) (k : Nat) : FirstOk (fr, w1, b, k) := by
  unfold FirstOk
  cases fr with
  | result r => exact ⟨fo.ok, hrg r rfl⟩
  | frame f => exact LI.push ⟨h, trivial, fun _ hf => nomatch hf⟩ fo fa

theorem tot_prepare {w : World} (h : WOk w) (e : Evm.Env) (spec ig : Nat)
    (hfee : GasCalc.enabled spec GasCalc.SpecId.CANCUN = true → e.block.blobGasPrice.isSome) :
    Tot (prepare journalOps e spec ig w) FirstOk := by
  unfold prepare
  dsimp only
  refine tot_bind (tot_deductCaller (wok_loadAccounts e spec h) e spec hfee) (fun wd hd => ?_)
  refine tot_bind (tot_applyAuthList hd.ok e spec) (fun p hp => ?_)
  obtain ⟨wa, rf⟩ := p
  dsimp only at hp ⊢
  split
  · refine tot_bind' (tot_makeFrame (cfg := e.toCfg spec) hp.ok (.call _) Memory.new (fun _ hx => nomatch hx)) (fun q heq hq => ?_)
    obtain ⟨f, wf⟩ := q
    exact tot_pure (first_of_fout hp.ok hq.1 hq.2 (fun r hr => by subst hr; exact makeCallFrame_rgood heq) _ _)
  · refine tot_bind' (tot_makeFrame (cfg := e.toCfg spec) hp.ok (.create _) Memory.new (fun _ hx => nomatch hx)) (fun q heq hq => ?_)
    obtain ⟨f, wf⟩ := q
    exact tot_pure (first_of_fout hp.ok hq.1 hq.2 (fun r hr => by subst hr; exact makeCreateFrame_rgood heq) _ _)

/-- `Evm.transact` is as total as its loop: if the loop started on the first frame ends on a well-formed world without
an internal result flag or fails within `E ⊇ Soft`, so does the transaction -/
theorem transact_totE {E : Err → Prop} (hE : ∀ e, Soft e → E e) (fuel : Nat) (w : World) (e : Evm.Env) (spec : Nat)
    (h : WOk w)
    (hloop : ∀ w1 ig fg f w2 ic rf, preverify w e (GasCalc.canon spec) = .ok (some (w1, ig, fg)) →
      prepare journalOps e (GasCalc.canon spec) ig w1 = .ok (.frame f, w2, ic, rf) → LI [f] w2 →
      Proofs.Evm.TotE E (runLoop journalOps (e.toCfg (GasCalc.canon spec)) fuel [f] w2)
        (fun p => WOk p.2 ∧ RGood p.1.result)) :
    Proofs.Evm.TotE E (Evm.transact fuel w e spec) (fun p => WOk p.2) := by
  refine transactWith_rule (P1 := fun p => WOk p.1) (P2 := FirstOk)
    (P3 := fun p => WOk p.2 ∧ RGood p.1.result)
    (Proofs.Evm.TotE.mono (E := Soft) (tot_preverify h e _) hE fun o _ ho p hp => (ho p hp).ok) h
    (fun w1 ig fg hp h1 => ?_) (fun w1 ig fg first w2 ic rf hp hprep _ hq => ?_)
    (fun fg rf ic res w3 hp => (tot_finish hp.1 e _ fg rf ic res hp.2).toE hE)
  · obtain ⟨hvE, _, _, _, _⟩ := preverify_some_inv w w1 e _ ig fg hp
    exact (tot_prepare h1 e _ ig (Proofs.TxGas.validateEnv_none _ _ (txgas_validateEnv_of_evm e _ hvE)).1).toE hE
  · unfold FirstOk at hq
    cases first with
    | frame f => exact hloop w1 ig fg f w2 ic rf hp hprep hq
    | result r => exact hq

/-- `Evm.transact` hits no journal / frame-machine `unwrap`: on a well-formed world, for every environment, fork and
fuel, the answer is a result, a soft failure, or a residual failure (`Resid`: interpreter side / fuel) -/
theorem transact_tot2 (fuel : Nat) (w : World) (e : Evm.Env) (spec : Nat) (h : WOk w) :
    Tot2 (Evm.transact fuel w e spec) (fun p => WOk p.2) :=
  transact_totE (fun _ => Or.inl) fuel w e spec h fun _ _ _ f w2 _ _ _ hprep hq =>
    tot2_contOf _ fuel (.run [f] w2) ⟨List.cons_ne_nil _ _, hq⟩ (Proofs.EvmInstLoaded.prepare_inv hprep)

theorem wok_fresh (w : World) (spec : Nat) (pre : Nat → Bool) (hjs : w.js = Journal.JState.new spec pre)
    (hbal : ∀ p ∈ w.pre, p.balance < W) : WOk w := by
  refine ⟨by rw [hjs]; exact Proofs.Frame.good_new spec pre, fun a => ?_⟩
  show (((w.preAcct a).map _).getD Journal.Info.default).balance < W
  cases hp : w.preAcct a with
  | none => show (0 : Nat) < W; rw [W_val]; decide
  | some p =>
    have : p ∈ w.pre := List.mem_of_find?_eq_some hp
    exact hbal p this

end Revm.Proofs.EvmLink
