import Revm.Proofs.EvmLoop
import Revm.Proofs.FrameTotalJournal
import Revm.Proofs.EvmLinkNoted
import Revm.Proofs.EvmLinkHist
/-! Panic-freedom on the world and the host (C07 `*_total` on EvmHost): under `WOk` (C07's `Good` journal, 256-bit
balances in the database) no `World` operation and no `Host` answer (`tot_answer`) hits an `unwrap` on a vacant entry,
and `WOk` is kept. The failures left are the `Soft` ones; `Tot` is success or a soft failure. -/
namespace Revm.Proofs.EvmLink
open Revm Revm.Model Revm.Model.Evm
open Revm.Proofs.Frame (Good DbBal)
open Revm.Proofs.Journal (Grows)

/-- failures that are not Rust panics of the journal / frame / interpreter code: the code store (database) does not
know a hash, an executable precompile panics (C23: MODEXP on a huge length with a huge gas limit does), the precompile
/ authority oracle has no answer, the database reports a fatal error -/
def Soft (e : Err) : Prop :=
  e = .panic "code_by_hash" ∨ e = .panic "precompile" ∨ (∃ m, e = .oracleMiss m) ∨ (∃ m, e = .fatal m)

/-- `x` succeeds with a value satisfying `P`, or fails softly: `TotE Soft` written out (definitionally equal; `Tot.toE`
leads to the other failure classes) -/
def Tot {α} (x : R α) (P : α → Prop) : Prop :=
  match x with
  | .ok a => P a
  | .error e => Soft e

theorem tot_ok {α} {a : α} {P : α → Prop} (h : P a) : Tot (.ok a : R α) P := h
theorem tot_pure {α} {a : α} {P : α → Prop} (h : P a) : Tot (pure a : R α) P := h
theorem tot_bind {α β} {x : R α} {f : α → R β} {P : α → Prop} {Q : β → Prop} (h1 : Tot x P)
    (h2 : ∀ a, P a → Tot (f a) Q) : Tot (x >>= f) Q := Proofs.Evm.TotE.bind (E := Soft) h1 fun a _ => h2 a
theorem tot_bind' {α β} {x : R α} {f : α → R β} {P : α → Prop} {Q : β → Prop} (h1 : Tot x P)
    (h2 : ∀ a, x = .ok a → P a → Tot (f a) Q) : Tot (x >>= f) Q := Proofs.Evm.TotE.bind (E := Soft) h1 h2
theorem tot_mono {α} {x : R α} {P Q : α → Prop} (h : Tot x P) (hq : ∀ a, P a → Q a) : Tot x Q :=
  Proofs.Evm.TotE.mono (E := Soft) h (fun _ h => h) fun a _ => hq a
theorem Tot.toE {α} {E : Err → Prop} {x : R α} {P : α → Prop} (h : Tot x P) (hE : ∀ e, Soft e → E e) :
    Proofs.Evm.TotE E x P :=
  Proofs.Evm.TotE.mono (E := Soft) h hE fun _ _ h => h
theorem tot_ofOpt {α} {msg : String} {o : Option α} {a : α} {P : α → Prop} (h : o = some a) (hp : P a) :
    Tot (ofOpt msg o) P := by subst h; exact hp
/-- the code store may not know the hash: a database miss -/
theorem tot_codeOf {α} (o : Option α) : Tot (ofOpt "code_by_hash" o) (fun _ => True) := by
  cases o with
  | some a => exact trivial
  | none => exact Or.inl rfl
theorem Tot.no_panic {α} {x : R α} {P : α → Prop} (h : Tot x P) (m : String) (hx : x = .error (.panic m)) :
    m = "code_by_hash" ∨ m = "precompile" := by
  subst hx
  rcases h with h | h | ⟨m', h⟩ | ⟨m', h⟩
  · cases h; exact Or.inl rfl
  · cases h; exact Or.inr rfl
  · cases h
  · cases h

/-- what the totality lemmas assume of a world: C07's `Good` journal over a database with 256-bit balances -/
structure WOk (w : World) : Prop where
  good : Good w.js
  dbal : DbBal w.db

/-- a step that keeps well-formedness, never removes an account and keeps the number of journal levels -/
structure WS (w w1 : World) : Prop where
  ok : WOk w1
  grows : Grows w.js w1.js
  len : w1.js.journal.length = w.js.journal.length

theorem WS.refl {w : World} (h : WOk w) : WS w w := ⟨h, Grows.refl _, rfl⟩
theorem WS.trans {a b c : World} (h1 : WS a b) (h2 : WS b c) : WS a c :=
  ⟨h2.ok, h1.grows.trans h2.grows, h2.len.trans h1.len⟩

theorem wok_js {w : World} (h : WOk w) {js : Journal.JState} (g : Good js) : WOk { w with js := js } := ⟨g, h.dbal⟩
theorem wok_noteAddr {w : World} (h : WOk w) (a : Nat) : WOk (w.noteAddr a) :=
  ⟨by rw [Proofs.EvmHost.noteAddr_js]; exact h.good, by rw [Proofs.EvmHost.noteAddr_db]; exact h.dbal⟩
theorem wok_noteSlot {w : World} (h : WOk w) (a k : Nat) : WOk (w.noteSlot a k) :=
  ⟨by rw [Proofs.EvmHost.noteSlot_js]; exact h.good, by rw [noteSlot_db]; exact h.dbal⟩

theorem ws_js {w : World} (h : WOk w) {s' : Journal.JState} (g : Good s') (gr : Grows w.js s')
    (hl : s'.journal.length = w.js.journal.length) : WS w { w with js := s' } := ⟨wok_js h g, gr, hl⟩

theorem WS.noteAddr {w w1 : World} (h : WS w w1) (a : Nat) : WS w (w1.noteAddr a) :=
  ⟨wok_noteAddr h.ok a, by rw [Proofs.EvmHost.noteAddr_js]; exact h.grows, by rw [Proofs.EvmHost.noteAddr_js]; exact h.len⟩

theorem WS.noteSlot {w w1 : World} (h : WS w w1) (a k : Nat) : WS w (w1.noteSlot a k) :=
  ⟨wok_noteSlot h.ok a k, by rw [Proofs.EvmHost.noteSlot_js]; exact h.grows, by rw [Proofs.EvmHost.noteSlot_js]; exact h.len⟩

theorem WS.addCode {w w1 : World} (h : WS w w1) (hash : Nat) (c : List Nat) : WS w (w1.addCode hash c) := by
  have e1 : (w1.addCode hash c).js = w1.js := Proofs.EvmHost.addCode_js _ _ _
  have hb := Proofs.EvmHost.addCode_db_basic w1 hash c
  exact ⟨⟨by rw [e1]; exact h.ok.good, fun x => by
    show ((((w1.addCode hash c).db.basic x).getD Journal.Info.default).balance < W)
    rw [hb]; exact h.ok.dbal x⟩, by rw [e1]; exact h.grows, by rw [e1]; exact h.len⟩

theorem tot_loadAccount {w : World} (h : WOk w) (a : Nat) :
    Tot (w.loadAccount a) (fun r => WS w r.1 ∧ (r.1.js.state a).isSome) := by
  obtain ⟨s', c, h1, g', gr, hl, hp⟩ := Proofs.Frame.loadAccount_good h.dbal h.good a
  unfold World.loadAccount
  rw [h1]
  exact ⟨(ws_js h g' gr hl).noteAddr a, by rw [Proofs.EvmHost.noteAddr_js]; exact hp⟩

theorem tot_loadCode {w : World} (h : WOk w) (a : Nat) :
    Tot (w.loadCode a) (fun r => WS w r.1 ∧ (r.1.js.state a).isSome) := by
  obtain ⟨s', c, h1, g', gr, hl, hp⟩ := Proofs.Frame.loadCode_good h.dbal h.good a
  unfold World.loadCode
  rw [h1]
  exact ⟨(ws_js h g' gr hl).noteAddr a, by rw [Proofs.EvmHost.noteAddr_js]; exact hp⟩

theorem tot_loadAccountDelegated {w : World} (h : WOk w) (a : Nat) :
    Tot (w.loadAccountDelegated a) (fun r => WS w r.1) := by
  obtain ⟨s', ⟨ie, c, dc⟩, h1, g', gr, hl⟩ := Proofs.Frame.loadAccountDelegated_good h.dbal h.good a
  have h0 := (ws_js h g' gr hl).noteAddr a
  unfold World.loadAccountDelegated
  rw [h1]
  show WS w _
  split
  · exact h0.noteAddr _
  · exact h0

theorem tot_touch {w : World} (h : WOk w) (a : Nat) : Tot (w.touch a) (fun w1 => WS w w1) := by
  obtain ⟨s', h1, g', gr, hl⟩ := Proofs.Frame.touch_good h.dbal h.good a
  unfold World.touch
  rw [h1]
  exact ws_js h g' gr hl

theorem isSome_of_ne_none {α} {o : Option α} (h : o ≠ none) : o.isSome = true := by
  cases o with
  | none => exact absurd rfl h
  | some a => rfl

theorem tot_transfer {w : World} (h : WOk w) (src dst v : Nat) :
    Tot (w.transfer src dst v) (fun r => WS w r.1 ∧ (r.1.js.state src).isSome ∧ (r.1.js.state dst).isSome) := by
  obtain ⟨s', r, h1, g', gr, hl⟩ := Proofs.Frame.transfer_good h.dbal h.good src dst v
  have ps := (lvl_transfer h1).dom.present (x := src) (by simp)
  have pd := (lvl_transfer h1).dom.present (x := dst) (by simp)
  unfold World.transfer
  rw [h1]
  refine ⟨((ws_js h g' gr hl).noteAddr src).noteAddr dst, ?_⟩
  show ((({ w with js := s' }.noteAddr src).noteAddr dst).js.state src).isSome ∧ _
  rw [Proofs.EvmHost.noteAddr_js, Proofs.EvmHost.noteAddr_js]
  exact ⟨isSome_of_ne_none ps, isSome_of_ne_none pd⟩

theorem tot_revert {w : World} (h : WOk w) (cp : Journal.Checkpoint) (h1 : 1 ≤ cp.journalI)
    (hlen : cp.journalI ≤ w.js.journal.length) :
    Tot (w.revert cp) (fun w1 => WOk w1 ∧ Grows w.js w1.js ∧ w1.js.journal.length = cp.journalI) := by
  obtain ⟨s', hr, g', gr, hl⟩ := Proofs.Frame.revert_good h.good h1 hlen
  unfold World.revert
  rw [hr]
  exact ⟨wok_js h g', gr, hl⟩

theorem tot_acct {w : World} {a : Nat} (hp : (w.js.state a).isSome) :
    Tot (w.acct a) (fun acc => w.js.state a = some acc) := by
  obtain ⟨acc, hacc⟩ := Proofs.Journal.isSome_cases hp
  unfold World.acct
  rw [hacc]
  exact rfl

/-- what a `Host` request needs: the account whose storage is read / written, or which is destroyed, is loaded (it is
the running frame's own) -/
def HOk (js : Journal.JState) : Interp.HostOp → Prop
  | .sload a _ => (js.state a).isSome
  | .sstore a _ _ => (js.state a).isSome
  | .selfdestruct a _ => (js.state a).isSome
  | _ => True

theorem w_loadCode_cached {w w1 : World} {a : Nat} {c : Bool} (h : w.loadCode a = .ok (w1, c)) :
    ∀ acc, w1.js.state a = some acc → acc.info.code.isSome := fun acc hacc => by
  obtain ⟨x, hh, hx, hc⟩ := Proofs.Journal.loadCode_cached (w_loadCode_wstep h).1
  cases hx.symm.trans hacc
  rw [hc]; rfl

/-- after `load_code` the account is there and its code hash is cached; only the code store may not know the hash -/
theorem tot_bytes {β} {w w1 : World} {a : Nat} {c : Bool} (hl : w.loadCode a = .ok (w1, c))
    (hp : (w1.js.state a).isSome) {f : Journal.Acct → List Nat → R β} {Q : β → Prop}
    (hf : ∀ acc code, w1.js.state a = some acc → Tot (f acc code) Q) :
    Tot (do
      let acc ← w1.acct a
      let hh ← ofOpt "code not cached" acc.info.code
      let code ← ofOpt "code_by_hash" (w1.codeOf hh)
      f acc code) Q := by
  refine tot_bind (tot_acct hp) (fun acc hacc => ?_)
  obtain ⟨hh, hhh⟩ := Proofs.Journal.isSome_cases (w_loadCode_cached hl acc hacc)
  refine tot_bind (tot_ofOpt (P := fun _ => True) hhh trivial) (fun _ _ => ?_)
  exact tot_bind (tot_codeOf _) (fun code _ => hf acc code hacc)

/-- C07 `hostStep_total` on EvmHost: under well-formedness, with the frame's own account loaded, every `Host` answer
is a value — or the code store does not know a code hash -/
theorem tot_answer {w : World} (h : WOk w) (he : HostEnv) (op : Interp.HostOp) (hok : HOk w.js op) :
    Tot (answer he w op) (fun r => WS w r.2) := by
  cases op with
  | keccak d => exact WS.refl h
  | blockHash n => exact WS.refl h
  | tload a k => exact WS.refl h
  | create2Address d sl c => exact WS.refl h
  | balance a =>
    simp only [answer]
    refine tot_bind (tot_loadAccount h a) (fun r hr => ?_)
    exact tot_bind (tot_acct hr.2) (fun acc _ => tot_pure hr.1)
  | code a =>
    simp only [answer]
    refine tot_bind' (tot_loadCode h a) (fun r hl hr => ?_)
    obtain ⟨w1, c⟩ := r
    exact tot_bytes hl hr.2 (fun _ _ _ => tot_pure hr.1)
  | codeHash a =>
    simp only [answer]
    refine tot_bind (tot_loadCode h a) (fun r hr => ?_)
    refine tot_bind (tot_acct hr.2) (fun acc _ => ?_)
    split <;> exact tot_pure hr.1
  | loadAccountDelegated a =>
    simp only [answer]
    exact tot_bind (tot_loadAccountDelegated h a) (fun r hr => tot_pure hr)
  | sload a k =>
    obtain ⟨s', hs, g', gr, hl⟩ := Proofs.Frame.hostStep_total h.dbal h.good (.sload a k) hok
    simp only [Frame.hostStep, Option.map_eq_some_iff] at hs
    obtain ⟨⟨s'', v, c⟩, hs, rfl⟩ := hs
    simp only [answer]
    rw [hs]
    exact (ws_js h g' gr hl).noteSlot a k
  | sstore a k v =>
    obtain ⟨s', hs, g', gr, hl⟩ := Proofs.Frame.hostStep_total h.dbal h.good (.sstore a k v) hok
    simp only [Frame.hostStep, Option.map_eq_some_iff] at hs
    obtain ⟨⟨s'', o, p, n, c⟩, hs, rfl⟩ := hs
    simp only [answer]
    rw [hs]
    exact (ws_js h g' gr hl).noteSlot a k
  | tstore a k v =>
    obtain ⟨s', hs, g', gr, hl⟩ := Proofs.Frame.hostStep_total h.dbal h.good (.tstore a k v) trivial
    simp only [Frame.hostStep] at hs
    simp only [answer]
    rw [hs]
    exact ws_js h g' gr hl
  | log a t d =>
    obtain ⟨s', hs, g', gr, hl⟩ := Proofs.Frame.hostStep_total h.dbal h.good (.log w.logs.length) trivial
    simp only [Frame.hostStep, Option.some.injEq] at hs
    subst hs
    simp only [answer]
    exact ⟨⟨g', h.dbal⟩, gr, hl⟩
  | selfdestruct a t =>
    obtain ⟨s', hs, g', gr, hl⟩ := Proofs.Frame.hostStep_total h.dbal h.good (.selfdestruct a t) hok
    simp only [Frame.hostStep, Option.map_eq_some_iff] at hs
    obtain ⟨⟨s'', hv, te, pd, c⟩, hs, rfl⟩ := hs
    simp only [answer]
    rw [hs]
    exact (ws_js h g' gr hl).noteAddr t

end Revm.Proofs.EvmLink
