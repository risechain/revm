import Revm.Model.EvmLoop
import Revm.Proofs.FrameKept
import Revm.Proofs.MemoryOutcome
/-! What handing a child's result back does to the waiting frame (`insert_call_outcome`, `insert_create_outcome`,
`insert_eofcreate_outcome`; `Evm.insertBy` dispatches the first two), in any state: the gas meter keeps its limit and
gets back at most the child's remaining gas, `is_static`, `target`, `caller`, `spec` stay (`Back`), and the frame stops
only through a failed `push!`, a stack error with the empty output (`ReAll`). Gas comes back, so this is no `Kept` step;
it is read off the closed forms of the three functions in `MemoryOutcome`. -/
namespace Revm.Proofs.EvmLink
open Revm Revm.Model Revm.Model.Interp Revm.Model.Evm
open Revm.Proofs.EvmInstTgt (KeptT)
open Revm.Proofs.MemoryOutcome (gasBack_le insertCallOutcome_eq insertCreateOutcome_eq insertEofCreateOutcome_eq pushThen_eq)

/-- the state `s` with `g` more gas: the base against which a re-entry is `Kept` -/
def plusGas (s : IState) (g : Nat) : IState := { s with gas := { s.gas with remaining := s.gas.remaining + g } }

/-- `x` is the frame `s` after (part of) handing back a child: `is_static`, the limit of the meter, `target`, `caller`
and `spec` as in `s`, at most `g` more gas -/
structure Back (g : Nat) (s x : IState) : Prop where
  kept : Kept (plusGas s g) x
  keptT : KeptT s x

theorem Back.refl (s : IState) : Back 0 s s := ⟨⟨rfl, rfl, Nat.le_refl _⟩, .refl s⟩

theorem Back.upd {g : Nat} {s x y : IState} (h : Back g s x) (h1 : y.isStatic = x.isStatic) (h2 : y.gas = x.gas)
    (h3 : y.target = x.target) (h4 : y.caller = x.caller) (h5 : y.spec = x.spec) : Back g s y :=
  ⟨h.kept.trans (kept_of_eq h1 h2), h.keptT.trans ⟨h3, h4, h5⟩⟩

/-- the one write that gives gas back: a meter with the same limit and at most `g` more gas -/
theorem Back.gas {g : Nat} {s x y : IState} (h : Back 0 s x) (h1 : y.isStatic = x.isStatic)
    (hg : y.gas.limit = x.gas.limit ∧ y.gas.remaining ≤ x.gas.remaining + g) (h3 : y.target = x.target)
    (h4 : y.caller = x.caller) (h5 : y.spec = x.spec) : Back g s y :=
  ⟨⟨h1.trans h.kept.st, hg.1.trans h.kept.lim, Nat.le_trans hg.2 (Nat.add_le_add_right h.kept.rem g)⟩,
    h.keptT.trans ⟨h3, h4, h5⟩⟩

theorem Back.mono {g : Nat} {s x : IState} (h : Back 0 s x) : Back g s x :=
  ⟨⟨h.kept.st, h.kept.lim, Nat.le_trans h.kept.rem (Nat.add_le_add_left (Nat.zero_le g) _)⟩, h.keptT⟩

/-- the result of a re-entry: the frame continues or stops in a `Back` state, and it stops with a stack error and the
empty output only -/
inductive ReAll (g : Nat) (s : IState) : Exec Unit → Prop
  | ok {s'} (h : Back g s s') : ReAll g s (.ok () s')
  | halt {e s'} (h : Back g s s') : ReAll g s (.halt (stackErr e) [] s')
  | fault {f} : ReAll g s (.fault f)

variable {g : Nat} {s x : IState}

theorem reAll_push (v : Nat) (hx : Back g s x) : ReAll g s (push v x) := by
  unfold push
  generalize Stack.push x.stack v = p
  obtain ⟨d, r⟩ := p
  cases r with
  | ok u => exact .ok (hx.upd rfl rfl rfl rfl rfl)
  | err e => exact .halt hx
  | _ => exact .fault

/-- `push!`, then the gas comes back (`k`; the create re-entries): on a full stack it does not -/
theorem reAll_push_gas (v : Nat) (k : IState → IState) (hx : Back 0 s x) (hk : ∀ y, Back 0 s y → Back g s (k y)) :
    ReAll g s ((push v >>= fun _ => modifyS k) x) := by
  rw [pushThen_eq]
  split
  · exact .halt (e := .StackOverflow) hx.mono
  · exact .ok (hk _ (hx.upd rfl rfl rfl rfl rfl))

theorem reAll_write_push (w : Memory.SharedMemory → Memory.Res Memory.SharedMemory) (v : Nat) (hx : Back g s x) :
    ReAll g s ((liftMemWrite w >>= fun _ => push v) x) := by
  show ReAll g s (M.bind (liftMemWrite w) _ x)
  unfold M.bind liftMemWrite
  cases w x.mem with
  | ok m => exact reAll_push v (hx.upd rfl rfl rfl rfl rfl)
  | panic => exact .fault
  | ub => exact .fault

theorem back_returnData (s : IState) (rd : List Nat) : Back 0 s { s with returnData := rd } :=
  (Back.refl s).upd rfl rfl rfl rfl rfl

theorem insertCall_all (rs re : Nat) (o : ChildResult) (s : IState) :
    ReAll o.gasRemaining s (insertCallOutcome rs re o s) := by
  rw [insertCallOutcome_eq]
  split
  · exact reAll_write_push _ _ ((back_returnData s _).gas rfl (gasBack_le o _) rfl rfl rfl)
  · split
    · exact .fault
    · exact reAll_push _ (back_returnData s _).mono

theorem insertCreate_all (o : ChildResult) (s : IState) : ReAll o.gasRemaining s (insertCreateOutcome o s) := by
  rw [insertCreateOutcome_eq]
  split
  · exact .fault
  · exact reAll_push_gas _ _ (back_returnData s _) fun _ h => h.gas rfl (gasBack_le o _) rfl rfl rfl

theorem insertEofCreate_all (o : ChildResult) (s : IState) : ReAll o.gasRemaining s (insertEofCreateOutcome o s) := by
  rw [insertEofCreateOutcome_eq]
  split
  · cases o.address with
    | none => exact .fault
    | some a => exact reAll_push_gas _ _ (back_returnData s _) fun _ h => h.gas rfl ⟨rfl, Nat.mod_le _ _⟩ rfl rfl rfl
  · split
    · exact reAll_push_gas _ _ (back_returnData s _) fun _ h => h.gas rfl ⟨rfl, Nat.mod_le _ _⟩ rfl rfl rfl
    · split
      · exact .fault
      · exact reAll_push _ (back_returnData s _).mono

theorem insertBy_all (kind : FrameKind) (o : ChildResult) (s : IState) : ReAll o.gasRemaining s (insertBy kind o s) := by
  unfold insertBy
  cases kind with
  | call rs re => exact insertCall_all rs re o s
  | create a => exact insertCreate_all o s

theorem ReAll.halt_inv {e : Exec Unit} (h : ReAll g s e) {r o s'} (he : e = .halt r o s') : RGood r ∧ o = [] := by
  cases h with
  | ok => cases he
  | halt => cases he; exact ⟨rgood_stackErr _, rfl⟩
  | fault => cases he

end Revm.Proofs.EvmLink
