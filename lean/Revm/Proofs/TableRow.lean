/-! A table dumped from the compiled code is a row with one entry per opcode byte, checked in one pass with the opcode
as running index (`row.zipIdx.all p`); `row.getD op` for every opcode is a walk of the row per opcode for the kernel.
These lemmas read a single entry out of a row checked that way. -/
namespace Revm.Proofs

theorem getD_mem_zipIdx {α : Type} {row : List α} {i : Nat} (hi : i < row.length) (d : α) :
    (row.getD i d, i) ∈ row.zipIdx := by
  rw [List.getD_eq_getElem?_getD, List.getElem?_eq_getElem hi]
  exact List.mem_zipIdx_iff_getElem?.mpr (List.getElem?_eq_getElem hi)

theorem zipIdx_all_getD {α : Type} {p : α × Nat → Bool} {row : List α} (h : row.zipIdx.all p = true) {i : Nat}
    (hi : i < row.length) (d : α) : p (row.getD i d, i) = true :=
  List.all_eq_true.mp h _ (getD_mem_zipIdx hi d)

end Revm.Proofs
