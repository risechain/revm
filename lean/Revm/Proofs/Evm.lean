import Revm.Proofs.EvmLoop
import Revm.Proofs.TxGas
import Revm.Proofs.EvmLinkEnv
/-! The handler pipeline of `Revm.Model.Evm` (C01) read as a whole: `transactWith_ok` takes a completed `transactWith` apart
into its four stages and `transactWith_rule` is its dual on the error side; the result does not depend on the fuel
(`transactWith_mono`), the gas of the result is within its bounds (`finalGas_bounds`). -/
namespace Revm.Proofs.Evm
open Revm Revm.Model Revm.Model.Evm

theorem contOf_mono {κ : Type} (C : CpOps κ) (cfg : Cfg) {n m : Nat} (h : n ≤ m) {nx : Next κ} {r}
    (hr : contOf C cfg n nx = .ok r) : contOf C cfg m nx = .ok r := by
  -- one more unit of fuel: the same turns, and whatever they hand on has one more unit too
  have one : ∀ n (nx : Next κ), contOf C cfg n nx = .ok r → contOf C cfg (n + 1) nx = .ok r := by
    intro n
    induction n with
    | zero =>
      intro nx h0
      rw [contOf_zero] at h0
      cases nx with
      | done r' w' => exact h0
      | run st w => cases h0
      | ended t rs res o s w => cases h0
    | succ n ih =>
      intro nx hs
      rw [contOf_succ] at hs ⊢
      obtain ⟨nx', ht, hs⟩ := bind_ok hs
      rw [ht]
      exact ih nx' hs
  induction h with
  | refl => exact hr
  | step _ ih => exact one _ _ ih

theorem runLoop_mono {κ : Type} (C : CpOps κ) (cfg : Cfg) {n m : Nat} (h : n ≤ m) {stack w r}
    (hr : runLoop C cfg n stack w = .ok r) : runLoop C cfg m stack w = .ok r :=
  contOf_mono C cfg h (nx := .run stack w) hr

theorem runFirst_mono {κ : Type} (C : CpOps κ) (cfg : Cfg) {n m : Nat} (h : n ≤ m) {first : FrameOrResult κ} {w r}
    (hr : runFirst C cfg n first w = .ok r) : runFirst C cfg m first w = .ok r := by
  cases first with
  | frame f => exact runLoop_mono C cfg h hr
  | result r' => exact hr

theorem execute_mono {κ : Type} (C : CpOps κ) {n m : Nat} (h : n ≤ m) {e spec ig fg w r}
    (hr : execute C n e spec ig fg w = .ok r) : execute C m e spec ig fg w = .ok r := by
  unfold execute at hr ⊢
  obtain ⟨⟨first, w1, isCreate, refund⟩, hp, hr⟩ := bind_ok hr
  obtain ⟨q, hf, hr⟩ := bind_ok hr
  rw [hp]
  show (runFirst C (e.toCfg spec) m first w1 >>= _) = _
  rw [runFirst_mono C _ h hf]
  exact hr

theorem transactWith_mono {κ : Type} (C : CpOps κ) {n m : Nat} (h : n ≤ m) {w e spec r}
    (hr : transactWith C n w e spec = .ok r) : transactWith C m w e spec = .ok r := by
  unfold transactWith at hr ⊢
  obtain ⟨o, hp, hr⟩ := bind_ok hr
  show (preverify w e (GasCalc.canon spec) >>= _) = _
  rw [hp]
  cases o with
  | none => exact hr
  | some p =>
    obtain ⟨q, he, hr⟩ := bind_ok hr
    show (execute C m e (GasCalc.canon spec) p.2.1 p.2.2 p.1 >>= _) = _
    rw [execute_mono C h he]
    exact hr

section pipeline
variable {κ : Type} {C : CpOps κ} {fuel : Nat} {w : World} {e : Evm.Env} {spec : Nat}

theorem transactWith_pre {o : Outcome} {w' : World} (h : transactWith C fuel w e spec = .ok (o, w')) :
    (preverify w e (GasCalc.canon spec) = .ok none ∧ o = .rejected ∧ w' = w) ∨
    ∃ w1 ig fg r, preverify w e (GasCalc.canon spec) = .ok (some (w1, ig, fg)) ∧
      execute C fuel e (GasCalc.canon spec) ig fg w1 = .ok (r, w') ∧ o = .executed r := by
  unfold transactWith at h
  obtain ⟨v, hp, h⟩ := bind_ok h
  cases v with
  | none => cases h; exact .inl ⟨hp, rfl, rfl⟩
  | some t =>
    obtain ⟨w1, ig, fg⟩ := t
    obtain ⟨⟨r, w2⟩, hx, h⟩ := bind_ok h
    cases h
    exact .inr ⟨w1, ig, fg, r, hp, hx, rfl⟩

/-- `execute` is `transact_preverified_inner`; `refund` is the EIP-7702 refund -/
theorem execute_ok {ig fg : Nat} {w1 w' : World} {r : TxResult} (h : execute C fuel e spec ig fg w1 = .ok (r, w')) :
    ∃ first w2 isCreate refund res w3, prepare C e spec ig w1 = .ok (first, w2, isCreate, refund) ∧
      runFirst C (e.toCfg spec) fuel first w2 = .ok (res, w3) ∧ finish e spec fg refund isCreate res w3 = .ok (r, w') := by
  unfold execute at h
  obtain ⟨⟨first, w2, isCreate, refund⟩, hpr, h⟩ := bind_ok h
  obtain ⟨⟨res, w3⟩, hrf, hfin⟩ := bind_ok h
  exact ⟨first, w2, isCreate, refund, res, w3, hpr, hrf, hfin⟩

/-- `Evm::transact` = `preverify_transaction_inner` then `transact_preverified_inner`, down to its four stages -/
theorem transactWith_ok {o : Outcome} {w' : World} (h : transactWith C fuel w e spec = .ok (o, w')) :
    (preverify w e (GasCalc.canon spec) = .ok none ∧ o = .rejected ∧ w' = w) ∨
    ∃ w1 ig fg first w2 isCreate refund res w3 r,
      preverify w e (GasCalc.canon spec) = .ok (some (w1, ig, fg)) ∧
      prepare C e (GasCalc.canon spec) ig w1 = .ok (first, w2, isCreate, refund) ∧
      runFirst C (e.toCfg (GasCalc.canon spec)) fuel first w2 = .ok (res, w3) ∧
      finish e (GasCalc.canon spec) fg refund isCreate res w3 = .ok (r, w') ∧ o = .executed r := by
  rcases transactWith_pre h with h0 | ⟨w1, ig, fg, r, hp, hx, ho⟩
  · exact .inl h0
  · obtain ⟨first, w2, isCreate, refund, res, w3, hpr, hrf, hfin⟩ := execute_ok hx
    exact .inr ⟨w1, ig, fg, first, w2, isCreate, refund, res, w3, r, hp, hpr, hrf, hfin, ho⟩

/-- the dual of `transactWith_ok` on the error side: each stage succeeds with what the next one needs (`P1`, `P2`, `P3`)
or fails in `E` -/
theorem transactWith_rule {E : Err → Prop} {P1 : World × Nat × Nat → Prop}
    {P2 : FrameOrResult κ × World × Bool × Nat → Prop} {P3 : Interp.ChildResult × World → Prop}
    {Q : Outcome × World → Prop}
    (hpre : TotE E (preverify w e (GasCalc.canon spec)) (fun o => ∀ p, o = some p → P1 p))
    (hrej : Q (.rejected, w))
    (hprep : ∀ w1 ig fg, preverify w e (GasCalc.canon spec) = .ok (some (w1, ig, fg)) → P1 (w1, ig, fg) →
      TotE E (prepare C e (GasCalc.canon spec) ig w1) P2)
    (hrun : ∀ w1 ig fg first w2 ic rf, preverify w e (GasCalc.canon spec) = .ok (some (w1, ig, fg)) →
      prepare C e (GasCalc.canon spec) ig w1 = .ok (first, w2, ic, rf) → P1 (w1, ig, fg) → P2 (first, w2, ic, rf) →
      TotE E (runFirst C (e.toCfg (GasCalc.canon spec)) fuel first w2) P3)
    (hfin : ∀ fg rf ic res w3, P3 (res, w3) →
      TotE E (finish e (GasCalc.canon spec) fg rf ic res w3) (fun x => Q (.executed x.1, x.2))) :
    TotE E (transactWith C fuel w e spec) Q := by
  unfold transactWith
  refine TotE.bind hpre (fun o hp ho => ?_)
  cases o with
  | none => exact hrej
  | some t =>
    obtain ⟨w1, ig, fg⟩ := t
    refine TotE.bind (P := fun x : TxResult × World => Q (.executed x.1, x.2)) ?_ (fun x _ hx => hx)
    unfold execute
    refine TotE.bind (hprep w1 ig fg hp (ho _ rfl)) (fun q hq hP2 => ?_)
    obtain ⟨first, w2, ic, rf⟩ := q
    exact TotE.bind (hrun w1 ig fg first w2 ic rf hp hq (ho _ rfl) hP2) (fun x _ hP3 => hfin fg rf ic x.1 x.2 hP3)

end pipeline

theorem transactWith_rejected {κ : Type} (C : CpOps κ) {fuel : Nat} {w w' : World} {e : Evm.Env} {spec : Nat}
    (h : transactWith C fuel w e spec = .ok (.rejected, w')) : w' = w := by
  rcases transactWith_ok h with ⟨_, _, hw⟩ | ⟨_, _, _, _, _, _, _, _, _, _, _, _, _, _, ho⟩
  · exact hw
  · cases ho

open Revm.Model.Gas
open Revm.Proofs.Gas
open Revm.Proofs.EvmLink (gasEnv frameRes finalGas_eq_stages)
open Revm.Proofs.TxGas (settled_refund)

/-- gas accounting of the handler after the first frame returned (`last_frame_return`, `refund`, the EIP-7623 floor,
`output`). `Evm.finalGas` is the fee pipeline of `TxGas` (`finalGas_eq_stages`), whose meter is settled after `refund`
whatever the two refund counters hold, and stays settled under the floor. -/
theorem finalGas_bounds (e : Env) (spec floorGas r7 : Nat) (res : Interp.ChildResult) (g : Gas)
    (hg : g = finalGas e spec floorGas r7 res)
    (hL : e.tx.gasLimit < U64) (hrem : res.gasRemaining ≤ e.tx.gasLimit) (hfl : floorGas ≤ e.tx.gasLimit) :
    U64ops.wsub (spent g) (i64AsU64 g.refunded) ≤ e.tx.gasLimit ∧
    floorGas ≤ U64ops.wsub (spent g) (i64AsU64 g.refunded) ∧
    0 ≤ g.refunded ∧
    g.refunded ≤ ((spent g / (if GasCalc.enabled spec GasCalc.SpecId.LONDON then 5 else 2) : Nat) : Int) ∧
    U64ops.wsub (spent g) (i64AsU64 g.refunded) + i64AsU64 g.refunded + g.remaining = e.tx.gasLimit := by
  rw [finalGas_eq_stages e spec floorGas r7 res 0] at hg
  obtain ⟨s, _⟩ := settled_refund (e := gasEnv e spec) (fr := frameRes res 0) (u64AsI64 r7) hL hrem
  generalize TxGas.refund (gasEnv e spec) (TxGas.lastFrameReturn (gasEnv e spec) (frameRes res 0)) (u64AsI64 r7) = x at *
  have hg' : g = floor x floorGas := hg
  subst hg'
  have sf := s.floor floorGas
  have hmax : U64ops.wsub (spent (floor x floorGas)) (i64AsU64 (floor x floorGas).refunded) = max (used x) floorGas :=
    (s.toClosed.floor floorGas).2.2 (s.limit ▸ hfl)
  have htot : U64ops.wsub (spent (floor x floorGas)) (i64AsU64 (floor x floorGas).refunded) +
      i64AsU64 (floor x floorGas).refunded + (floor x floorGas).remaining = e.tx.gasLimit := sf.total
  refine ⟨by omega, by rw [hmax]; exact Nat.le_max_right _ _, sf.ref0, ?_, htot⟩
  rw [sf.spent_eq]; exact sf.ref_cap

theorem txResultOf_fields (cls : ResultClass) (res : Interp.ChildResult) (isCreate : Bool) (gas : Gas.Gas)
    (logs : List LogRec) :
    (txResultOf cls res isCreate gas logs).cls = cls ∧ (txResultOf cls res isCreate gas logs).reason = res.result ∧
    (txResultOf cls res isCreate gas logs).gasUsed = U64ops.wsub (Gas.spent gas) (Gas.i64AsU64 gas.refunded) := by
  cases cls <;> exact ⟨rfl, rfl, rfl⟩

/-- the result handed out by `finish`: its class is the class of the first frame's `InstructionResult`
(`SuccessOrHalt::from`), its gas is `spent - refunded` of the final meter -/
theorem finish_result (e : Evm.Env) (spec floorGas r7 : Nat) (isCreate : Bool) (res : Interp.ChildResult)
    (w w' : World) (r : TxResult) (h : finish e spec floorGas r7 isCreate res w = .ok (r, w')) :
    classOf res.result = some r.cls ∧ r.reason = res.result ∧
    r.gasUsed = U64ops.wsub (Gas.spent (finalGas e spec floorGas r7 res))
                  (Gas.i64AsU64 (finalGas e spec floorGas r7 res).refunded) := by
  unfold finish at h
  obtain ⟨p1, _, h⟩ := bind_ok h
  obtain ⟨cacc, _, h⟩ := bind_ok h
  obtain ⟨p3, _, h⟩ := bind_ok h
  obtain ⟨bacc, _, h⟩ := bind_ok h
  obtain ⟨cls, h5, h⟩ := bind_ok h
  cases hc : classOf res.result with
  | none => rw [hc] at h5; cases h5
  | some c =>
    rw [hc] at h5
    have hcls : c = cls := by injection h5
    subst hcls
    cases h
    obtain ⟨a, b, c'⟩ := txResultOf_fields c res isCreate (finalGas e spec floorGas r7 res) _
    exact ⟨by rw [a], b, c'⟩

/-- the `finish` equation of a completed, executed transaction (all four stages: `transactWith_ok`) -/
theorem transactWith_executed_inv {κ : Type} (C : CpOps κ) (fuel : Nat) (w w' : World) (e : Evm.Env) (spec : Nat)
    (r : TxResult) (h : transactWith C fuel w e spec = .ok (.executed r, w')) :
    ∃ (res : Interp.ChildResult) (floorGas refund : Nat) (isCreate : Bool) (w2 : World),
      finish e (GasCalc.canon spec) floorGas refund isCreate res w2 = .ok (r, w') := by
  rcases transactWith_ok h with ⟨_, ho, _⟩ | ⟨_, _, fg, _, _, ic, rf, res, w3, _, _, _, _, hfin, ho⟩
  · cases ho
  · cases ho; exact ⟨res, fg, rf, ic, w3, hfin⟩

end Revm.Proofs.Evm
