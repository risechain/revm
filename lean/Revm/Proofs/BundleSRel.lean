import Revm.Proofs.Bundle
/-! Storage maps as deltas. `SRel o st bs r`: the slot map `st` (of a transition, of a bundle account) gives the slots
`r` as a delta over the slots `bs`; with `o` its entries also keep the value of `bs` as their original value.
`SlotsRel` is `SRel true` (`sRel_true`); `StorageInv`, the form the statements of C16 use, is `SRel` over `baseOf`
(`storageInv_iff`): a lemma about deltas assumes `SRel`. Among slot arguments `P`/`Ps` are the slots when the bundle was
started, `M`/`Ms` those at the last merge, `R`/`Rs` those now. -/
namespace Revm.Proofs.Bundle
open Revm.Model.Bundle Revm.Spec.Bundle


/-- meaning of one `PlainStorageChangeset` row on the slots of its address -/
def applyRow (wipe : Bool) (row : List (Nat × Nat)) (base : Nat → Nat) (k : Nat) : Nat :=
  match BMap.get row k with
  | some v => v
  | none => if wipe then 0 else base k

/-- DESIGN A.3, storage part: `p` = slots of this address when the bundle was started, `c` = now. Once the account
was destroyed the delta is over the empty storage and the originals mean nothing. -/
def StorageInv (acc : BAcct) (p c : Nat → Nat) : Prop :=
  WF acc.storage ∧
  (acc.status.wasDestroyed = false → ∀ k, match acc.storage.get k with
      | some s => s.present = c k ∧ s.orig = p k
      | none => c k = p k) ∧
  (acc.status.wasDestroyed = true → ∀ k, match acc.storage.get k with
      | some s => s.present = c k
      | none => c k = 0)

/-- `SRel true`: the storage of a transition against the slots `bs` it started from -/
def SlotsRel (st : BMap Slot) (bs r : Nat → Nat) : Prop :=
  WF st ∧ ∀ k, match st.get k with
    | some s => s.present = r k ∧ s.orig = bs k
    | none => r k = bs k

theorem SlotsRel.get_some {st : BMap Slot} {bs r : Nat → Nat} (h : SlotsRel st bs r) {k : Nat} {s : Slot}
    (hg : st.get k = some s) : s.present = r k ∧ s.orig = bs k := by
  have := h.2 k; rw [hg] at this; exact this

theorem SlotsRel.get_none {st : BMap Slot} {bs r : Nat → Nat} (h : SlotsRel st bs r) {k : Nat}
    (hg : st.get k = none) : r k = bs k := by
  have := h.2 k; rw [hg] at this; exact this

theorem SlotsRel.nil (r : Nat → Nat) : SlotsRel [] r r := ⟨WF_nil, fun _ => rfl⟩

/-- `applyRow false` for a `BMap Slot` -/
def writeCh (chg : BMap Slot) (base : Nat → Nat) (k : Nat) : Nat :=
  match chg.get k with
  | some s => s.present
  | none => base k

theorem SlotsRel.fresh (chg : BMap Slot) (Rs : Nat → Nat) (hw : WF chg)
    (ho : ∀ k s, chg.get k = some s → s.orig = Rs k) : SlotsRel chg Rs (writeCh chg Rs) := by
  refine ⟨hw, fun k => ?_⟩
  cases hg : chg.get k with
  | none => simp [writeCh, hg]
  | some s => simp [writeCh, hg, ho k s hg]

theorem SlotsRel.write (st chg : BMap Slot) (bs Rs : Nat → Nat) (h : SlotsRel st bs Rs) (hw : WF chg)
    (ho : ∀ k s, chg.get k = some s → s.orig = Rs k) :
    SlotsRel (chg.foldl upStep st) bs (writeCh chg Rs) := by
  refine ⟨foldl_WF upStep_WF chg st h.1, fun k => ?_⟩
  rw [foldl_get upStep_get chg hw st k]
  cases hg : chg.get k with
  | none =>
    simp only [Option.elim, writeCh, hg]
    exact h.2 k
  | some x =>
    simp only [Option.elim, writeCh, hg, upF]
    cases hs : st.get k with
    | none =>
      simp only [true_and]
      rw [ho k x hg, h.get_none hs]
    | some v =>
      have hv := h.get_some hs
      by_cases he : v.orig = x.present
      · simp only [he, if_true]; rw [← he]; exact hv.2
      · simp only [he, if_false, true_and]; exact hv.2

/-- `st` gives `r` as a delta over `bs`; `o = false` for a bundle account once destroyed, whose `orig`s are stale -/
def SRel (o : Bool) (st : BMap Slot) (bs r : Nat → Nat) : Prop :=
  WF st ∧ ∀ k, match st.get k with
    | some s => s.present = r k ∧ (o = true → s.orig = bs k)
    | none => r k = bs k

section
variable {o : Bool} {st : BMap Slot} {bs r : Nat → Nat}

theorem SRel.get_some (h : SRel o st bs r) {k : Nat} {s : Slot} (hg : st.get k = some s) :
    s.present = r k ∧ (o = true → s.orig = bs k) := by
  have := h.2 k; rw [hg] at this; exact this

theorem SRel.get_none (h : SRel o st bs r) {k : Nat} (hg : st.get k = none) : r k = bs k := by
  have := h.2 k; rw [hg] at this; exact this

theorem sRel_true : SRel true st bs r ↔ SlotsRel st bs r := by
  refine and_congr_right fun _ => forall_congr' fun k => ?_
  cases st.get k <;> simp

theorem SRel.nil (h : ∀ k, r k = bs k) : SRel o [] bs r := ⟨WF_nil, h⟩

theorem SRel.weaken (h : SlotsRel st bs r) : SRel o st bs r :=
  ⟨h.1, fun k => by
    cases hg : st.get k with
    | none => exact h.get_none hg
    | some s => exact ⟨(h.get_some hg).1, fun _ => (h.get_some hg).2⟩⟩

theorem SRel.congr {bs' r' : Nat → Nat} (h : SRel o st bs r) (hb : ∀ k, bs k = bs' k) (hr : ∀ k, r k = r' k) :
    SRel o st bs' r' := by
  rw [← show bs = bs' from funext hb, ← show r = r' from funext hr]; exact h

end

/-- the slots a bundle account's storage is a delta over: those when the bundle was started, or none once the
account was destroyed -/
def baseOf (wd : Bool) (p : Nat → Nat) : Nat → Nat := fun k => if wd then 0 else p k

theorem baseOf_true (p : Nat → Nat) : baseOf true p = fun _ => 0 := rfl

theorem storageInv_iff (acc : BAcct) (p c : Nat → Nat) :
    StorageInv acc p c ↔ SRel (!acc.status.wasDestroyed) acc.storage (baseOf acc.status.wasDestroyed p) c := by
  unfold StorageInv SRel baseOf
  refine and_congr_right fun _ => ?_
  cases acc.status.wasDestroyed with
  | false =>
    refine ⟨fun h k => ?_, fun h => ⟨fun _ k => ?_, fun h' => (by cases h')⟩⟩
    · have := h.1 rfl k; cases hg : acc.storage.get k <;> simp_all
    · have := h k; cases hg : acc.storage.get k <;> simp_all
  | true =>
    refine ⟨fun h k => ?_, fun h => ⟨fun h' => (by cases h'), fun _ k => ?_⟩⟩
    · have := h.2 rfl k; cases hg : acc.storage.get k <;> simp_all
    · have := h k; cases hg : acc.storage.get k <;> simp_all

theorem storageInv_mk {i oi : Option Info} {X : BMap Slot} {s : Status} {p c : Nat → Nat} :
    StorageInv ⟨i, oi, X, s⟩ p c ↔ SRel (!s.wasDestroyed) X (baseOf s.wasDestroyed p) c :=
  storageInv_iff _ _ _

theorem StorageInv.present {acc : BAcct} {p c : Nat → Nat} (h : StorageInv acc p c) {k : Nat} {s : Slot}
    (hg : acc.storage.get k = some s) : s.present = c k :=
  (((storageInv_iff _ _ _).mp h).get_some hg).1

theorem StorageInv.absent {acc : BAcct} {p c : Nat → Nat} (h : StorageInv acc p c) {k : Nat}
    (hg : acc.storage.get k = none) : c k = if acc.status.wasDestroyed then 0 else p k :=
  ((storageInv_iff _ _ _).mp h).get_none hg

/-- composition: a delta `P → M` extended by a delta `M → R` (of a transition, or of a newer bundle account) is a
delta `P → R`; `extend_storage` keeps the older original values -/
theorem SRel.extend {o : Bool} {a us : BMap Slot} {P M R : Nat → Nat} (ha : SRel o a P M) (hu : SlotsRel us M R) :
    SRel o (extendStorage a us) P R := by
  refine ⟨extendStorage_WF _ _ ha.1, fun k => ?_⟩
  rw [extendStorage_get _ _ hu.1]
  cases hg : us.get k with
  | none =>
    simp only [Option.elim]
    rw [hu.get_none hg]
    exact ha.2 k
  | some x =>
    have hx := hu.get_some hg
    simp only [Option.elim, esF]
    cases hs : a.get k with
    | none => exact ⟨hx.1, fun _ => by rw [hx.2]; exact ha.get_none hs⟩
    | some s => exact ⟨hx.1, (ha.get_some hs).2⟩

/-! ## `to_plain_state` of one account -/

/-- the storage row that `to_plain_state` emits turns the pre-bundle slots into the current slots, for both
`OriginalValuesKnown` settings; emitting no row is the empty non-wiping row (`no_row_means_unchanged`) -/
theorem storage_row_correct (acc : BAcct) (known : Bool) (p c : Nat → Nat) (h : StorageInv acc p c) (k : Nat) :
    applyRow acc.status.wasDestroyed (acc.plainStorage known) p k = c k := by
  obtain ⟨hw, hnd, hd⟩ := h
  unfold applyRow BAcct.plainStorage
  rw [get_map_present, get_filter _ _ _ hw]
  cases hwd : acc.status.wasDestroyed with
  | false =>
    have h1 := hnd hwd k
    cases hg : acc.storage.get k with
    | none => simp [hg] at h1 ⊢; exact h1.symm
    | some s =>
      simp only [hg] at h1
      obtain ⟨hp, ho⟩ := h1
      cases known with
      | false => simp [hp]
      | true =>
        by_cases hch : s.orig = s.present
        · simp [Slot.isChanged, hch]; rw [← ho, hch, hp]
        · have hch' : ¬ s.orig = c k := hp ▸ hch
          simp [Slot.isChanged, hch', hp]
  | true =>
    have h1 := hd hwd k
    cases hg : acc.storage.get k with
    | none => simp [hg] at h1 ⊢; exact h1.symm
    | some s =>
      simp only [hg] at h1
      cases known with
      | false => simp [h1]
      | true =>
        by_cases hz : s.present = 0
        · simp [hz]; rw [← h1, hz]
        · have hz' : ¬ c k = 0 := h1 ▸ hz
          simp [hz', h1]

theorem no_row_means_unchanged (acc : BAcct) (known : Bool) (p c : Nat → Nat) (h : StorageInv acc p c)
    (hrow : ((!(acc.plainStorage known).isEmpty) || acc.status.wasDestroyed) = false) (k : Nat) : c k = p k := by
  have hwd : acc.status.wasDestroyed = false := by
    cases h1 : acc.status.wasDestroyed <;> simp_all
  have hemp : acc.plainStorage known = [] := by
    cases h2 : acc.plainStorage known with
    | nil => rfl
    | cons _ _ => simp [h2, hwd] at hrow
  have := storage_row_correct acc known p c h k
  rw [hemp, hwd] at this
  simpa [applyRow, BMap.get] using this.symm

theorem account_row_correct (acc : BAcct) (known : Bool) (pInfo cInfo : Option Info)
    (hc : cInfo = acc.info.map Info.withoutCode) (hp : pInfo = acc.origInfo.map Info.withoutCode) :
    (if !known || acc.isInfoChanged then acc.info.map Info.withoutCode else pInfo) = cInfo := by
  cases known with
  | false => simp [hc]
  | true =>
    by_cases hch : acc.isInfoChanged = true
    · simp [hch, hc]
    · have hs : optSame acc.info acc.origInfo = true := by
        simpa [BAcct.isInfoChanged] using hch
      simp only [Bool.not_true, Bool.false_or, hch]
      rw [hc, hp]
      cases hi : acc.info with
      | none => cases ho : acc.origInfo with
        | none => rfl
        | some o => simp [hi, ho, optSame] at hs
      | some i => cases ho : acc.origInfo with
        | none => simp [hi, ho, optSame] at hs
        | some o =>
          simp only [hi, ho, optSame, Info.same, Bool.and_eq_true, beq_iff_eq] at hs
          obtain ⟨⟨h1, h2⟩, h3⟩ := hs
          cases i; cases o; simp_all [Info.withoutCode]

/-! ## slot values given by the recorded storage reverts -/

/-- value a recorded revert gives to slot `k`. `dbr` is Spec's `dbReading`: in a wiping revert `Destroyed` reads as the
pre-bundle value, not as 0 (F1 of Props/C17). -/
def revSlotV (dbr : Bool) (st : BMap RevSlot) (wipe : Bool) (Ps Rs : Nat → Nat) (k : Nat) : Nat :=
  match st.get k with
  | some (.some v) => v
  | some .destroyed => if dbr && wipe then Ps k else 0
  | none => if wipe then Ps k else Rs k

/-! `rs_prev`: the revert lists `previous_storage_from_update`; `rs_md_wipe` / `rs_md_nowipe`: it lists the bundle
account's present values plus `Destroyed` marks (`new_selfdestructed_again`), with and without `wipe_storage`. -/

theorem rs_prev (dbr : Bool) {us : BMap Slot} (Ps : Nat → Nat) {Ms Rs : Nat → Nat} (h : SlotsRel us Ms Rs) (k : Nat) :
    revSlotV dbr (prevStorageFromUpdate us) false Ps Rs k = Ms k := by
  unfold revSlotV
  rw [prevStorage_get us h.1 k]
  cases hg : us.get k with
  | none => simp only [Option.bind, Bool.false_eq_true, if_false]; exact h.get_none hg
  | some s =>
    have hs := h.get_some hg
    by_cases hc : s.isChanged = true
    · simp only [Option.bind, hc, if_true]; exact hs.2
    · simp only [Option.bind, hc, Bool.false_eq_true, if_false]
      have : s.orig = s.present := by simpa [Slot.isChanged] using hc
      rw [← hs.1, ← this]; exact hs.2

theorem rs_md_wipe {o : Bool} {accS us : BMap Slot} {Ps Ms Rs : Nat → Nat} (h : SRel o accS Ps Ms) (hw : WF us) (k : Nat) :
    revSlotV true (markDestroyed us (presentAsRevert accS)) true Ps Rs k = Ms k := by
  unfold revSlotV
  rw [markDestroyed_get _ _ hw, presentAsRevert_get]
  cases hg : accS.get k with
  | none =>
    simp only [Option.map]
    cases us.get k <;> simp [(h.get_none hg).symm]
  | some s => simp only [Option.map]; exact (h.get_some hg).1

theorem rs_md_nowipe {o : Bool} (dbr : Bool) {accS us : BMap Slot} (Ps : Nat → Nat) {Ms Rs : Nat → Nat}
    (hd : SRel o accS (fun _ => 0) Ms) (hu : SlotsRel us (fun _ => 0) Rs) (k : Nat) :
    revSlotV dbr (markDestroyed us (presentAsRevert accS)) false Ps Rs k = Ms k := by
  unfold revSlotV
  rw [markDestroyed_get _ _ hu.1, presentAsRevert_get]
  cases hg : accS.get k with
  | none =>
    simp only [Option.map]
    cases hu' : us.get k with
    | none => simp [hd.get_none hg, hu.get_none hu']
    | some s => simp [hd.get_none hg]
  | some s => simp only [Option.map]; exact (hd.get_some hg).1

/-- the storage loop of `BundleAccount::revert` undoes a delta `M → R` recorded by a non-wiping revert. A `Destroyed`
mark removes the entry (`hd`: then the base is zero); a value for a key the account does not hold makes an entry whose
original is that value (`hf`: does not happen where originals are tracked). -/
theorem SRel.revert {o : Bool} {st : BMap Slot} {B Rs : Nat → Nat} (hs : SRel o st B Rs) (rs : BMap RevSlot)
    (Ps Ms : Nat → Nat) (hw : WF rs) (hv : ∀ k, revSlotV true rs false Ps Rs k = Ms k)
    (hd : ∀ k, rs.get k = some .destroyed → B k = 0)
    (hf : o = true → ∀ k v, rs.get k = some (.some v) → (st.get k).isSome = true) :
    SRel o (revStorage rs st) B Ms := by
  refine ⟨revStorage_WF rs st hs.1, fun k => ?_⟩
  rw [revStorage_get rs hw]
  have h := hv k
  unfold revSlotV at h
  cases hg : rs.get k with
  | none =>
    rw [hg] at h
    simp only [Bool.false_eq_true, if_false] at h
    simp only [Option.elim]
    rw [← h]; exact hs.2 k
  | some x =>
    rw [hg] at h
    cases x with
    | some v =>
      simp only at h
      simp only [Option.elim, rvF]
      cases hst : st.get k with
      | none => exact ⟨h, fun ho => by have := hf ho k v hg; rw [hst] at this; cases this⟩
      | some s => exact ⟨h, (hs.get_some hst).2⟩
    | destroyed =>
      simp only [Bool.and_false, Bool.false_eq_true, if_false] at h
      simp only [Option.elim, rvF]
      rw [← h]; exact (hd k hg).symm

theorem zeroed_d (st : BMap Slot) (hw : WF st) (Ms : Nat → Nat) (hz : ∀ k, Ms k = 0) :
    SRel false (zeroed st) (fun _ => 0) Ms := by
  refine ⟨WF_map_val st _ hw, fun k => ?_⟩
  unfold zeroed
  rw [get_map_val st (fun e => ({ e.2 with present := 0 } : Slot)) k]
  cases st.get k with
  | none => exact hz k
  | some s => exact ⟨(hz k).symm, fun h => by cases h⟩

end Revm.Proofs.Bundle
