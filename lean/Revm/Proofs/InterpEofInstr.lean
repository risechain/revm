import Revm.Proofs.InterpEofWf
/-! C25 for EOF code: the EOF primitives, the state right after the opcode fetch at a boundary of a well-formed
container (`StartE`), and the EOF instructions, each under exactly the facts about immediates and targets that
well-formedness provides: those that stay inside the running section, those that leave it (CALLF, RETF, JUMPF), and
PUSHn / JUMP / JUMPI inside EOF code. -/
namespace Revm.Proofs.Interp
open Revm Revm.Model Revm.Model.Interp

/-- the handler continues, having consumed at least 1 gas, in the same section, with the instruction pointer at
a position satisfying `T` -/
def DoneT (T : Nat → Prop) (s0 s' : IState) : Prop :=
  ∃ k st ne L, 1 ≤ k ∧ Core k st ne L s0 s' ∧ T s'.pc

theorem Done1.toT {T : Nat → Prop} {s0 s' : IState} (h : Done1 s0 s') (ht : T s0.pc) : DoneT T s0 s' := by
  obtain ⟨k, st, ne, L, hk, hr⟩ := h
  exact ⟨k, st, ne, L, hk, hr.toCore, by rw [hr.pc]; exact ht⟩

/-! ## the EOF primitives that stay in `Rel`: what they read is fixed by the start state -/

namespace Step
variable {s0 : IState} {i : Idx}

theorem requireEof (hE : s0.isEof = true) : Step s0 i Interp.requireEof i fun _ => True :=
  .ofRead fun s h => by
    unfold Interp.requireEof
    rw [h.isEof, hE]
    exact sat_ok ⟨rfl, trivial⟩

theorem requireInitEof : Step s0 i Interp.requireInitEof i fun _ => True :=
  .ofRead fun s h => by
    unfold Interp.requireInitEof
    split
    · exact sat_halt h.toCore.toHalt
    · exact sat_ok ⟨rfl, trivial⟩

theorem codeByte (off : Nat) (hin : s0.pc + off < s0.code.length) :
    Step s0 i (Interp.codeByte off) i (· = s0.code.getD (s0.pc + off) 0) :=
  .ofRead fun s h => by
    unfold Interp.codeByte
    rw [h.pc, h.code, List.getElem?_eq_getElem hin]
    refine sat_ok ⟨rfl, ?_⟩
    rw [List.getD_eq_getElem?_getD, List.getElem?_eq_getElem hin]; rfl

theorem readU16 (off : Nat) (hin : s0.pc + off + 1 < s0.code.length) :
    Step s0 i (Interp.readU16 off) i (· = u16At s0.code (s0.pc + off)) :=
  .seq (codeByte off (by omega)) fun a ha => .seq (codeByte (off + 1) (by omega)) fun b hb =>
    .pure ⟨rfl, by rw [ha, hb, ← Nat.add_assoc]; rfl⟩

theorem readI16 (off : Nat) (hin : s0.pc + off + 1 < s0.code.length) :
    Step s0 i (Interp.readI16 off) i (· = i16At s0.code (s0.pc + off)) :=
  .seq (readU16 off hin) fun v hv => .pure ⟨rfl, by rw [hv]; rfl⟩

theorem getEof {c : EofCtx} (hc : s0.eof = some c) : Step s0 i Interp.getEof i (· = c) :=
  .ofRead fun s h => by
    unfold Interp.getEof
    rw [h.eofc, hc]
    exact sat_ok ⟨rfl, rfl⟩

end Step

/-- the state right after the opcode fetch at boundary `i` of the running section `sec` of a well-formed
container `c` -/
structure StartE (K : EofCtx) (s0 : IState) (c : EofCtx) (sec : List Nat) (i : Nat) : Prop extends Base s0 where
  isEof : s0.isEof = true
  jt : s0.jumpTable = []
  eof : s0.eof = some c
  ok : CtxOk c
  hsec : c.sections[c.curIdx]? = some sec
  code : s0.code = sec
  bdry : i ∈ boundaries sec
  pc : s0.pc = i + 1
  static : StaticEq K c

/-- the frame continues with the invariant of EOF code, at least 1 gas poorer -/
def NextE (K : EofCtx) (s0 s' : IState) : Prop := InvE K s' ∧ measure s' + 1 ≤ measure s0

/-- the frame waits in `s'` for the result of action `a` (EXTCALL family, EOFCREATE): `InvE` holds of it, the child's gas
limit and 1 more have been paid, and the return window lies in memory -/
def ActE (K : EofCtx) (s0 : IState) (a : Action) (s' : IState) : Prop :=
  InvE K s' ∧ measure s' + a.gasLimit + 1 ≤ measure s0 ∧ RetOk a (clen s'.mem)

section eof
variable {K : EofCtx} {s0 : IState} {c : EofCtx} {sec : List Nat} {i : Nat}

theorem StartE.rel (hs : StartE K s0 c sec i) : Rel 0 false false 0 s0 s0 := hs.toBase.rel

theorem StartE.invE (hs : StartE K s0 c sec i) {k : Nat} {st ne : Bool} {L : Nat} {s' : IState}
    (hc : Core k st ne L s0 s') (hpc : s'.pc ∈ boundaries sec) : InvE K s' :=
  { toBase := hs.toBase.ofRes hc.toRes
    isEof := by rw [hc.isEof]; exact hs.isEof
    jt := by rw [hc.jt]; exact hs.jt
    ctx := ⟨c, sec, by rw [hc.eofc]; exact hs.eof, hs.ok, hs.hsec, by rw [hc.code]; exact hs.code, hpc⟩
    static := hs.static.of_eof (by rw [hc.eofc]; exact hs.eof) }

theorem StartE.nextT (hs : StartE K s0 c sec i) {s' : IState} (h : DoneT (· ∈ boundaries sec) s0 s') :
    NextE K s0 s' := by
  obtain ⟨k, st, ne, L, hk, hc, hpc⟩ := h
  exact ⟨hs.invE hc hpc, by have := hc.meas; omega⟩

theorem StartE.next1 (hs : StartE K s0 c sec i) (hb : i + 1 ∈ boundaries sec) {s' : IState}
    (h : Done1 s0 s') : NextE K s0 s' :=
  hs.nextT (h.toT (by rw [hs.pc]; exact hb))

theorem StartE.act (hs : StartE K s0 c sec i) (hb : i + 1 ∈ boundaries sec) {a : Action} {s' : IState}
    (h : ActRel s0 a s') : ActE K s0 a s' := by
  obtain ⟨k, st, ne, L, hr, hk, hret⟩ := h
  exact ⟨hs.invE hr.toCore (by rw [hr.pc, hs.pc]; exact hb), by have := hr.meas; omega, hret.mono hr.memL⟩

theorem StartE.lt (hs : StartE K s0 c sec i) : i < sec.length := ((hs.ok.wf.secs _ _ hs.hsec).2.2 _ hs.bdry).1

theorem StartE.bytes (hs : StartE K s0 c sec i) : ∀ b ∈ sec, b < 256 := (hs.ok.wf.secs _ _ hs.hsec).1

theorem StartE.instrOk (hs : StartE K s0 c sec i) :
    instrOk (boundaries sec) c.types c.containers c.curIdx sec i = true :=
  ((hs.ok.wf.secs _ _ hs.hsec).2.2 _ hs.bdry).2

section ends
variable {x : Idx}

theorem StartE.byteAt (hs : StartE K s0 c sec i) (off : Nat) {p : Nat} (hp : i + 1 + off = p) (hin : p < sec.length) :
    Step s0 x (codeByte off) x (· = sec.getD p 0) := by
  have := Step.codeByte (s0 := s0) (i := x) off (by rw [hs.pc, hs.code, hp]; exact hin)
  rwa [hs.pc, hs.code, hp] at this

theorem StartE.u16At (hs : StartE K s0 c sec i) (off : Nat) {p : Nat} (hp : i + 1 + off = p)
    (hin : p + 1 < sec.length) : Step s0 x (readU16 off) x (· = Interp.u16At sec p) := by
  have := Step.readU16 (s0 := s0) (i := x) off (by rw [hs.pc, hs.code, hp]; exact hin)
  rwa [hs.pc, hs.code, hp] at this

theorem StartE.i16At (hs : StartE K s0 c sec i) (off : Nat) {p : Nat} (hp : i + 1 + off = p)
    (hin : p + 1 < sec.length) : Step s0 x (readI16 off) x (· = Interp.i16At sec p) := by
  have := Step.readI16 (s0 := s0) (i := x) off (by rw [hs.pc, hs.code, hp]; exact hin)
  rwa [hs.pc, hs.code, hp] at this

theorem targetOk_elim {B : List Nat} {t : Int} (h : targetOk B t = true) : 0 ≤ t ∧ t.toNat ∈ B := by
  unfold targetOk at h
  simp only [Bool.and_eq_true, decide_eq_true_eq, List.contains_iff_mem] at h
  exact h

/-- a handler ends with `instruction_pointer.offset(d)` to a boundary of the running section -/
theorem StartE.jump (hs : StartE K s0 c sec i) (hk : 1 ≤ x.k) (d : Int) {t : Int}
    (ht : 0 ≤ t ∧ t.toNat ∈ boundaries sec) (e : ((i + 1 : Nat) : Int) + d = t) :
    TrS s0 x (jumpRel d) fun _ s' => NextE K s0 s' := fun s h => by
  have hpc : (s.pc : Int) + d = t := by rw [h.pc, hs.pc]; exact e
  unfold jumpRel
  simp only []
  rw [if_neg (by omega), hpc]
  exact sat_ok (hs.nextT ⟨_, _, _, _, hk, h.toCore.withPc _, ht.2⟩)

/-- … or with `instruction_pointer += n` -/
theorem StartE.advance (hs : StartE K s0 c sec i) (hk : 1 ≤ x.k) (n : Nat) (hn : i + 1 + n ∈ boundaries sec) :
    TrS s0 x (advancePc n) fun _ s' => NextE K s0 s' :=
  .modify _ fun s h => hs.nextT ⟨_, _, _, _, hk, h.toCore.withPc _, by show s.pc + n ∈ _; rw [h.pc, hs.pc]; exact hn⟩

theorem StartE.nextAt {n : Nat} (hn : i + n ∈ boundaries sec) : 0 ≤ ((i + n : Nat) : Int) ∧
    ((i + n : Nat) : Int).toNat ∈ boundaries sec := ⟨Int.natCast_nonneg _, by rw [Int.toNat_natCast]; exact hn⟩

/-- … or with `if let Err(r) = stack.f(..) { result = r }; ip += n` -/
theorem StartE.stackAdv (hs : StartE K s0 c sec i) {k : Nat} {ne : Bool} {L : Nat} (hk : 1 ≤ k)
    (f : List Nat → List Nat × Stack.Res Unit) (n : Nat) (op : Stack.Op) (hp : op.pre)
    (hf : ∀ d, Stack.step d op = ((f d).1, Stack.Out.ofUnit (f d).2)) (hn : i + 1 + n ∈ boundaries sec) :
    TrS s0 ⟨k, true, ne, L⟩ (stackCallAdv f n) fun _ s' => NextE K s0 s' := fun s h => by
  have hstk := h.stack
  have hlen := Proofs.Stack.step_len_le s.stack op (by simpa [Stack.STACK_LIMIT] using hstk) hp
  have hnp := Proofs.Stack.step_no_panic_ub s.stack op (by simpa [Stack.STACK_LIMIT] using hstk) hp
  obtain ⟨h1, h2, h3⟩ := stackUnit_hf f op hf s.stack
  rw [h1] at hlen
  unfold stackCallAdv
  cases hfs : f s.stack with
  | mk d r =>
    rw [hfs] at hlen h2 h3
    cases r with
    | ok u =>
      refine sat_ok (hs.nextT ⟨k, true, false, L, hk, ?_, by show s.pc + n ∈ _; rw [h.pc, hs.pc]; exact hn⟩)
      show Core k true false L s0 { s with stack := d, pc := s.pc + n }
      exact
        { h.toCore with
          stack := by simpa [Stack.STACK_LIMIT] using hlen
          safe := Or.inl (h.strict rfl)
          nonempty := fun e => by cases e }
    | err e =>
      refine sat_halt ?_
      show Halt s0 { s with pc := s.pc + n }
      exact { h.toCore.toHalt with }
    | panic => exact absurd (h2 rfl) hnp.1
    | ub => exact absurd (h3 rfl) hnp.2

end ends

theorem rjumpI_tr (hs : StartE K s0 c sec i) (himm : i + 3 ≤ sec.length)
    (ht : targetOk (boundaries sec) ((i : Int) + 3 + i16At sec (i + 1)) = true) :
    TrS s0 .zero rjumpI fun _ s' => NextE K s0 s' :=
  .seq (.requireEof hs.isEof) fun _ _ => .seq (.gas _ (by decide)) fun _ _ =>
    .seq (hs.i16At 0 (p := i + 1) rfl (by omega)) fun d hd =>
      hs.jump (by decide) _ (targetOk_elim ht) (by rw [hd]; omega)

theorem rjumpiI_tr (hs : StartE K s0 c sec i) (himm : i + 3 ≤ sec.length)
    (ht : targetOk (boundaries sec) ((i : Int) + 3 + i16At sec (i + 1)) = true)
    (hnext : i + 3 ∈ boundaries sec) : TrS s0 .zero rjumpiI fun _ s' => NextE K s0 s' :=
  .seq (.requireEof hs.isEof) fun _ _ => .seq (.gas _ (by decide)) fun _ _ => .seq .pop1 fun cond _ => by
    split
    · exact .seq (hs.i16At 0 (p := i + 1) rfl (by omega)) fun d hd =>
        hs.jump (by decide) _ (targetOk_elim ht) (by rw [hd]; omega)
    · exact hs.jump (by decide) 2 (StartE.nextAt hnext) (by omega)

theorem rjumpvI_tr (hs : StartE K s0 c sec i) (himm : i + (4 + 2 * sec.getD (i + 1) 0) ≤ sec.length)
    (ht : ((List.range (sec.getD (i + 1) 0 + 1)).all fun k =>
      targetOk (boundaries sec) (((i + (4 + 2 * sec.getD (i + 1) 0) : Nat) : Int) + i16At sec (i + 2 + 2 * k))) = true)
    (hnext : i + (4 + 2 * sec.getD (i + 1) 0) ∈ boundaries sec) :
    TrS s0 .zero rjumpvI fun _ s' => NextE K s0 s' :=
  .seq (.requireEof hs.isEof) fun _ _ => .seq (.gas _ (by decide)) fun _ _ => .seq .pop1 fun case _ =>
    .seq (hs.byteAt 0 (p := i + 1) rfl (by omega)) fun mx hmx => by
      subst hmx
      dsimp only []
      split
      · rename_i hcase
        exact .seq (hs.i16At _ (by omega : _ = i + 2 + 2 * asIsizeSat case) (by omega)) fun d hd =>
          hs.jump (by decide) _
            (targetOk_elim (List.all_eq_true.mp ht (asIsizeSat case) (List.mem_range.mpr (by omega))))
            (by rw [hd]; omega)
      · exact hs.jump (by decide) _ (StartE.nextAt hnext) (by omega)

/-- DUPN, SWAPN, EXCHANGE -/
theorem immStackOp_tr (hs : StartE K s0 c sec i) (himm : i + 2 ≤ sec.length) (hnext : i + 2 ∈ boundaries sec)
    (f : Nat → List Nat → List Nat × Stack.Res Unit) (op : Nat → Stack.Op)
    (hf : ∀ imm d, Stack.step d (op imm) = ((f imm d).1, Stack.Out.ofUnit (f imm d).2))
    (hp : (op (sec.getD (i + 1) 0)).pre) :
    TrS s0 .zero (do requireEof; gasCharge GasCalc.VERYLOW; let imm ← codeByte 0; stackCallAdv (f imm) 1)
      fun _ s' => NextE K s0 s' :=
  .seq (.requireEof hs.isEof) fun _ _ => .seq (.gas _ (by decide)) fun _ _ =>
    .seq (hs.byteAt 0 (p := i + 1) rfl (by omega)) fun imm himm' =>
      hs.stackAdv (by decide) _ 1 (op imm) (himm' ▸ hp) (hf imm) hnext

theorem byte_lt_of_mem {code : List Nat} (hb : ∀ b ∈ code, b < 256) (i : Nat) : code.getD i 0 < 256 := by
  rw [List.getD_eq_getElem?_getD]
  cases h : code[i]? with
  | none => simp
  | some b => exact hb b (List.mem_of_getElem? h)

theorem dupnI_tr (hs : StartE K s0 c sec i) (himm : i + 2 ≤ sec.length) (hnext : i + 2 ∈ boundaries sec) :
    TrS s0 .zero dupnI fun _ s' => NextE K s0 s' :=
  immStackOp_tr hs himm hnext (fun imm d => Stack.dup d (imm + 1)) (fun imm => .dup (imm + 1)) (fun _ _ => rfl)
    (Nat.succ_pos _)

theorem swapnI_tr (hs : StartE K s0 c sec i) (himm : i + 2 ≤ sec.length) (hnext : i + 2 ∈ boundaries sec) :
    TrS s0 .zero swapnI fun _ s' => NextE K s0 s' := by
  refine immStackOp_tr hs himm hnext (fun imm d => Stack.swap d (imm + 1)) (fun imm => .swap (imm + 1))
    (fun _ _ => rfl) ⟨Nat.succ_pos _, ?_⟩
  have := byte_lt_of_mem hs.bytes (i + 1)
  unfold U64
  omega

theorem exchangeI_tr (hs : StartE K s0 c sec i) (himm : i + 2 ≤ sec.length) (hnext : i + 2 ∈ boundaries sec) :
    TrS s0 .zero exchangeI fun _ s' => NextE K s0 s' := by
  refine immStackOp_tr hs himm hnext (fun imm d => Stack.exchange d (imm / 16 + 1) (imm % 16 + 1))
    (fun imm => .exchange (imm / 16 + 1) (imm % 16 + 1)) (fun _ _ => rfl) ⟨Nat.succ_pos _, ?_⟩
  have := byte_lt_of_mem hs.bytes (i + 1)
  have : sec.getD (i + 1) 0 / 16 ≤ sec.getD (i + 1) 0 := Nat.div_le_self _ _
  have : sec.getD (i + 1) 0 % 16 < 16 := Nat.mod_lt _ (by decide)
  unfold U64
  omega

theorem dataloadnI_tr (hs : StartE K s0 c sec i) (himm : i + 3 ≤ sec.length) (hnext : i + 3 ∈ boundaries sec) :
    TrS s0 .zero dataloadnI fun _ s' => NextE K s0 s' :=
  .seq (.requireEof hs.isEof) fun _ _ => .seq (.gas _ (by decide)) fun _ _ =>
    .seq (hs.u16At 0 (p := i + 1) rfl (by omega)) fun off _ => .seq (.getEof hs.eof) fun _ _ =>
      .seq (.push _) fun _ _ => hs.advance (by decide) 2 hnext

/-! ### the data instructions: they do not look at the section -/

theorem dataloadI_tr (hE : s0.isEof = true) (hc : s0.eof = some c) : Tr s0 .zero dataloadI Paid :=
  .seq (.requireEof hE) fun _ _ => .seq (.gas _ (by decide)) fun _ _ => .seq .popTop1 fun off _ =>
    .seq (.getEof hc) fun _ _ => .last (.setTop _) fun _ _ => paid (by decide)

theorem datasizeI_tr (hE : s0.isEof = true) (hc : s0.eof = some c) : Tr s0 .zero datasizeI Paid :=
  .seq (.requireEof hE) fun _ _ => .seq (.gas _ (by decide)) fun _ _ => .seq (.getEof hc) fun _ _ =>
    .last (.push _) fun _ _ => paid (by decide)

theorem datacopyI_tr (hE : s0.isEof = true) (hc : s0.eof = some c) (hdl : c.data.length ≤ Memory.ISIZE_MAX) :
    Tr s0 .zero datacopyI Paid :=
  .seq (.requireEof hE) fun _ _ => .seq (.gas _ (by decide)) fun _ _ => .seq .pop3 fun (memOff, off, size) _ =>
    .seq (.asUsize size _) fun size' _ => by
      split
      · exact .pure (paid (by decide))
      · exact .seq (.asUsize memOff _) fun memOff' _ => .seq (.resizeMem memOff' size') fun _ _ =>
          .gasOrFailPaid fun g => .seq (.getEof hc) fun c' hc' =>
            .last (.memSetData _ (hc' ▸ hdl) (Nat.le_max_right _ _)) fun _ _ =>
              Nat.le_trans (by decide : 1 ≤ 0 + GasCalc.VERYLOW) (Nat.le_add_right _ _)

theorem returndataloadI_tr (hE : s0.isEof = true) : Tr s0 .zero returndataloadI Paid :=
  .seq (.requireEof hE) fun _ _ => .seq (.gas _ (by decide)) fun _ _ => .seq .popTop1 fun off _ =>
    .seq .getS fun _ _ => .last (.setTop _) fun _ _ => paid (by decide)

theorem pushI_trE (hs : StartE K s0 c sec i) (n : Nat) (himm : i + 1 + n ≤ sec.length)
    (hnext : i + 1 + n ∈ boundaries sec) : TrS s0 .zero (pushI n) fun _ s' => NextE K s0 s' :=
  pushI_to n (by rw [hs.pc, hs.code]; exact himm) fun s2 h2 =>
    hs.nextT ⟨_, _, _, _, by decide, h2.toCore.withPc _, by show s2.pc + n ∈ _; rw [h2.pc, hs.pc]; exact hnext⟩

/-- without a jump table (EOF code) a legacy jump never succeeds -/
theorem no_jump (hs : StartE K s0 c sec i) (t : Nat) : ¬ Jump.isValid s0.jumpTable t = true := by
  rw [hs.jt]; unfold Jump.isValid; simp

theorem jumpI_halts {R : Unit → IState → Prop} (hs : StartE K s0 c sec i) : TrS s0 .zero jumpI R :=
  jumpI_to fun _ t _ ht => absurd ht (no_jump hs t)

theorem jumpiI_trE (hs : StartE K s0 c sec i) : TrS s0 .zero jumpiI fun _ s' => Done1 s0 s' :=
  jumpiI_to (fun _ t _ ht => absurd ht (no_jump hs t)) fun _ h2 => done1_of h2 (by decide)

/-- a handler ends with a change of section: `function_stack` becomes that of `g c`, then
`load_eof_code((g c).curIdx, p)` -/
theorem StartE.loadSection (hs : StartE K s0 c sec i) {x : Idx} (hk : 1 ≤ x.k) (g : EofCtx → EofCtx) (p : Nat)
    {sec' : List Nat}
    (e : (g c).sections = c.sections ∧ (g c).types = c.types ∧ (g c).containers = c.containers ∧
      (g c).data = c.data)
    (hdepth : (g c).retStack.length ≤ 1024)
    (hframes : FramesOk c.sections c.types (g c).curIdx (g c).retStack)
    (hsec : c.sections[(g c).curIdx]? = some sec') (hp : p ∈ boundaries sec') :
    TrS s0 x (do setEof g; loadEofCode (g c).curIdx p) fun _ s' => NextE K s0 s' := fun s1 h1 => by
  obtain ⟨e1, e2, e3, e4⟩ := e
  refine sat_bind (m := setEof g) (Q := fun _ x => x = { s1 with eof := some (g c) }) ?_ ?_
  · refine sat_ok ?_
    show { s1 with eof := s1.eof.map g } = _
    rw [h1.eofc, hs.eof]; rfl
  rintro _ _ rfl
  unfold loadEofCode
  simp only []
  rw [e1, hsec]
  refine sat_ok ⟨?_, ?_⟩
  · exact
      { toBase := { (hs.toBase.ofRes h1.toRes) with }
        isEof := by show s1.isEof = true; rw [h1.isEof]; exact hs.isEof
        jt := by show s1.jumpTable = []; rw [h1.jt]; exact hs.jt
        ctx := ⟨g c, sec', rfl,
          { wf := by
              show WfStatic (g c).sections (g c).types (g c).containers (g c).data
              rw [e1, e2, e3, e4]; exact hs.ok.wf
            cur := by
              rw [e1]
              rcases Nat.lt_or_ge (g c).curIdx c.sections.length with hh | hh
              · exact hh
              · rw [List.getElem?_eq_none hh] at hsec; cases hsec
            depth := hdepth
            frames := by rw [e1, e2]; exact hframes }, by rw [e1]; exact hsec, rfl, hp⟩
        static := StaticEq.of_eof ⟨e1.trans hs.static.sections, e2.trans hs.static.types,
          e3.trans hs.static.containers, e4.trans hs.static.data⟩ rfl }
  · have := h1.meas
    show measure s1 + 1 ≤ measure s0
    omega

theorem StartE.sectionAt (hs : StartE K s0 c sec i) {idx : Nat} (hidx : idx < c.types.length) :
    ∃ sec', c.sections[idx]? = some sec' ∧ 0 ∈ boundaries sec' := by
  have hidx' : idx < c.sections.length := by rw [← hs.ok.wf.typesLen]; exact hidx
  have hsec' := List.getElem?_eq_getElem hidx'
  exact ⟨_, hsec', (hs.ok.wf.secs _ _ hsec').2.1⟩

theorem callfI_tr (hs : StartE K s0 c sec i) (himm : i + 3 ≤ sec.length)
    (hnext : i + 3 ∈ boundaries sec) (hidx : u16At sec (i + 1) < c.types.length) :
    TrS s0 .zero callfI fun _ s' => NextE K s0 s' :=
  .seq (.requireEof hs.isEof) fun _ _ => .seq (.gas _ (by decide)) fun _ _ =>
    .seq (hs.u16At 0 (p := i + 1) rfl (by omega)) fun idx e1 => .seq (.getEof hs.eof) fun c' e2 => by
      subst e1 e2
      split
      · exact .halt _
      rename_i hdepth
      rw [List.getElem?_eq_getElem hidx]
      refine .seq .getS fun s1 h1 => ?_
      split
      · exact .halt _
      -- `function_stack.push(pc + 2, idx)`, then `load_eof_code(idx, 0)`
      obtain ⟨sec', hsec', h0⟩ := hs.sectionAt hidx
      refine hs.loadSection (by decide)
        (fun c => { c with retStack := (c.curIdx, s1.pc + 2) :: c.retStack, curIdx := u16At sec (i + 1) }) 0
        ⟨rfl, rfl, rfl, rfl⟩ ?_ ⟨⟨sec, hs.hsec, ?_⟩, hs.ok.frames⟩ hsec' h0
      · show c'.retStack.length + 1 ≤ 1024
        omega
      · rw [h1.pc, hs.pc]
        exact hnext

theorem retfI_tr (hs : StartE K s0 c sec i) (hret : returning (typeOf c.types c.curIdx) = true) :
    TrS s0 .zero retfI fun _ s' => NextE K s0 s' :=
  .seq (.requireEof hs.isEof) fun _ _ => .seq (.gas _ (by decide)) fun _ _ => .seq (.getEof hs.eof) fun c' e => by
    subst e
    have hfr := hs.ok.frames
    have hd := hs.ok.depth
    cases hrs : c'.retStack with
    | nil =>
      rw [hrs] at hfr
      have : returning (typeOf c'.types c'.curIdx) = false := hfr
      rw [this] at hret; cases hret
    | cons f rest =>
      obtain ⟨idx, pc⟩ := f
      rw [hrs] at hfr hd
      obtain ⟨⟨sec', hsec', hpc'⟩, hrest⟩ := hfr
      exact hs.loadSection (by decide) (fun c => { c with retStack := rest, curIdx := idx }) pc
        ⟨rfl, rfl, rfl, rfl⟩ (Nat.le_of_succ_le hd) hrest hsec' hpc'

theorem jumpfI_tr (hs : StartE K s0 c sec i) (himm : i + 3 ≤ sec.length)
    (hidx : u16At sec (i + 1) < c.types.length)
    (hty : returning (typeOf c.types (u16At sec (i + 1))) = true → returning (typeOf c.types c.curIdx) = true) :
    TrS s0 .zero jumpfI fun _ s' => NextE K s0 s' :=
  .seq (.requireEof hs.isEof) fun _ _ => .seq (.gas _ (by decide)) fun _ _ =>
    .seq (hs.u16At 0 (p := i + 1) rfl (by omega)) fun idx e1 => .seq (.getEof hs.eof) fun c' e2 => by
      subst e1 e2
      rw [List.getElem?_eq_getElem hidx]
      refine .seq .getS fun s1 _ => ?_
      split
      · exact .halt _
      obtain ⟨sec', hsec', h0⟩ := hs.sectionAt hidx
      refine hs.loadSection (by decide) (fun c => { c with curIdx := u16At sec (i + 1) }) 0
        ⟨rfl, rfl, rfl, rfl⟩ hs.ok.depth ?_ hsec' h0
      -- an empty return stack: the new section must not return either
      show FramesOk c'.sections c'.types (u16At sec (i + 1)) c'.retStack
      have hfr := hs.ok.frames
      cases hrs : c'.retStack with
      | nil =>
        rw [hrs] at hfr
        have hcur : returning (typeOf c'.types c'.curIdx) = false := hfr
        show returning (typeOf c'.types (u16At sec (i + 1))) = false
        cases ht : returning (typeOf c'.types (u16At sec (i + 1))) with
        | false => rfl
        | true => rw [hty ht] at hcur; cases hcur
      | cons f rest =>
        rw [hrs] at hfr
        exact hfr

end eof

end Revm.Proofs.Interp
