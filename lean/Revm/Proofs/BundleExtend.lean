import Revm.Proofs.BundleRevert
import Revm.Proofs.BundleRevertBlock
/-! C18: `BundleState::extend` of two bundles built by fresh `State`s over consecutive halves of a history. The
revert-rewriting loop in closed form (`modRev`, `Drained`); `extend_state` composes two bundles that each describe their
half (`extState_bundleOK`, also for `prepend_state`); the rewritten reverts read against the first bundle's pre-state
(`modRev_sem`). `revert(j)` after `extend`, outside finding F5 (`extend_revert_proof`): the history of the second bundle
(`Hist`, recorded over its own pre-state) is reused with the first bundle's pre-state on the reverted side. -/
namespace Revm.Proofs.Bundle
open Revm.Model.Bundle Revm.Spec.Bundle


/-! ## the revert-rewriting loop of `extend`, named -/

def erStepAcc (state : BMap BAcct) (e : Nat × ARevert) : BMap BAcct × (Nat × ARevert) :=
  if e.2.wipe then
    match state.get e.1 with
    | some ta =>
      (state.set e.1 { ta with storage := [] },
       (e.1, { e.2 with storage := erMergeStorage ta.storage e.2.storage,
                        wipe := if ta.status.wasDestroyed then false else e.2.wipe }))
    | none => (state, e)
  else (state, e)

def erStepBlk (state : BMap BAcct) (blk : BMap ARevert) : BMap BAcct × BMap ARevert :=
  blk.foldl (fun (acc : BMap BAcct × BMap ARevert) e => ((erStepAcc acc.1 e).1, acc.2 ++ [(erStepAcc acc.1 e).2])) (state, [])

theorem extendReverts_eq (state : BMap BAcct) (revs : List (BMap ARevert)) :
    extendReverts state revs = revs.foldl (fun (acc : BMap BAcct × List (BMap ARevert)) blk =>
      ((erStepBlk acc.1 blk).1, acc.2 ++ [(erStepBlk acc.1 blk).2])) (state, []) := rfl

theorem extend_state_eq (this other : BState) :
    (extend this other).state = extendState (extendReverts this.state other.reverts).1 other.state := by
  unfold extend
  generalize extendReverts this.state other.reverts = p
  obtain ⟨st, revs⟩ := p
  rfl

theorem extend_reverts_eq (this other : BState) :
    (extend this other).reverts = this.reverts ++ (extendReverts this.state other.reverts).2 := by
  unfold extend
  generalize extendReverts this.state other.reverts = p
  obtain ⟨st, revs⟩ := p
  rfl

def drainOf (ta : BAcct) : BAcct := { ta with storage := [] }

/-- `st` is `this` but for drained copies at some addresses in `W`: the state half of the loop only empties the storage
of accounts that have a wiping revert -/
def Drained (this st : BMap BAcct) (W : Nat → Prop) : Prop :=
  WF st ∧ ∀ a, st.get a = this.get a ∨ (W a ∧ ∃ ta, this.get a = some ta ∧ st.get a = some (drainOf ta))

theorem Drained.refl (this : BMap BAcct) (W : Nat → Prop) (hw : WF this) : Drained this this W :=
  ⟨hw, fun _ => Or.inl rfl⟩

theorem Drained.status {this st : BMap BAcct} {W : Nat → Prop} (h : Drained this st W) {a : Nat} {t : BAcct}
    (hg : st.get a = some t) : ∃ t1, this.get a = some t1 ∧ t.status = t1.status := by
  cases h.2 a with
  | inl h1 => exact ⟨t, by rw [← h1]; exact hg, rfl⟩
  | inr h1 =>
    obtain ⟨_, ta, h2, h3⟩ := h1
    rw [hg] at h3; injection h3 with h3
    exact ⟨ta, h2, by rw [h3]; rfl⟩

theorem erStepAcc_drained (this st : BMap BAcct) (W : Nat → Prop) (e : Nat × ARevert) (h : Drained this st W)
    (hW : e.2.wipe = true → W e.1) : Drained this (erStepAcc st e).1 W := by
  unfold erStepAcc
  cases hwp : e.2.wipe with
  | false => simp only [Bool.false_eq_true, if_false]; exact h
  | true =>
    simp only [if_true]
    cases hg : st.get e.1 with
    | none => exact h
    | some ta' =>
      refine ⟨WF_set _ _ _ h.1, fun a => ?_⟩
      simp only [get_set]
      by_cases ha : e.1 = a
      · subst ha
        simp only [if_true]
        refine Or.inr ⟨hW hwp, ?_⟩
        cases h.2 e.1 with
        | inl h1 => exact ⟨ta', by rw [← h1]; exact hg, rfl⟩
        | inr h1 =>
          obtain ⟨_, ta, h2, h3⟩ := h1
          rw [hg] at h3
          injection h3 with h3
          exact ⟨ta, h2, by rw [h3]; rfl⟩
      · simp only [ha, if_false]; exact h.2 a

/-! ## the rewritten reverts of the second bundle, and the drained state, in closed form -/

/-- what `extend` makes of one revert of the second bundle, given the first bundle's entry of its address -/
def modRev (t? : Option BAcct) (r : ARevert) : ARevert :=
  if r.wipe then
    match t? with
    | some ta => { r with storage := erMergeStorage ta.storage r.storage,
                          wipe := if ta.status.wasDestroyed then false else r.wipe }
    | none => r
  else r

theorem erStepAcc_snd (st : BMap BAcct) (e : Nat × ARevert) :
    (erStepAcc st e).2 = (e.1, modRev (st.get e.1) e.2) := by
  unfold erStepAcc modRev
  cases e.2.wipe with
  | false => rfl
  | true => simp only [if_true]; cases st.get e.1 <;> rfl

theorem Drained.mono {this st : BMap BAcct} {W W' : Nat → Prop} (h : Drained this st W) (hi : ∀ a, W a → W' a) :
    Drained this st W' :=
  ⟨h.1, fun a => (h.2 a).elim Or.inl (fun ⟨w, x⟩ => Or.inr ⟨hi a w, x⟩)⟩

theorem erStepBlk_snd (this : BMap BAcct) (blk : BMap ARevert) (st : BMap BAcct) (W : Nat → Prop) (l : BMap ARevert)
    (hD : Drained this st W) (hnw : ∀ e, e ∈ blk → e.2.wipe = true → ¬ W e.1) (hwf : WF blk) :
    (blk.foldl (fun (acc : BMap BAcct × BMap ARevert) e => ((erStepAcc acc.1 e).1, acc.2 ++ [(erStepAcc acc.1 e).2])) (st, l)).2 =
      l ++ blk.map (fun e => (e.1, modRev (this.get e.1) e.2)) ∧
    Drained this (blk.foldl (fun (acc : BMap BAcct × BMap ARevert) e => ((erStepAcc acc.1 e).1, acc.2 ++ [(erStepAcc acc.1 e).2])) (st, l)).1
      (fun a => W a ∨ ∃ r, (a, r) ∈ blk ∧ r.wipe = true) := by
  induction blk generalizing st W l with
  | nil => exact ⟨by simp, hD.mono (fun a h => Or.inl h)⟩
  | cons e r ih =>
    rw [WF_cons] at hwf
    simp only [List.foldl]
    have hentry : (erStepAcc st e).2 = (e.1, modRev (this.get e.1) e.2) := by
      rw [erStepAcc_snd]
      cases hwp : e.2.wipe with
      | false => simp [modRev, hwp]
      | true =>
        have hnW := hnw e List.mem_cons_self hwp
        cases hD.2 e.1 with
        | inl h => rw [h]
        | inr h => exact absurd h.1 hnW
    have hD1 : Drained this (erStepAcc st e).1 (fun a => W a ∨ (a = e.1 ∧ e.2.wipe = true)) :=
      erStepAcc_drained this st _ e (hD.mono (fun a h => Or.inl h)) (fun hw => Or.inr ⟨rfl, hw⟩)
    obtain ⟨i1, i2⟩ := ih (erStepAcc st e).1 (fun a => W a ∨ (a = e.1 ∧ e.2.wipe = true)) (l ++ [(erStepAcc st e).2]) hD1
      (fun e' he' hw' hW' => by
        cases hW' with
        | inl h => exact hnw e' (List.mem_cons_of_mem _ he') hw' h
        | inr h => exact hwf.1 (h.1 ▸ List.mem_map_of_mem (f := (·.1)) he'))
      hwf.2
    refine ⟨by rw [i1, hentry]; simp, i2.mono (fun a h => ?_)⟩
    rcases h with (h | ⟨h1, h2⟩) | ⟨r', h1, h2⟩
    · exact Or.inl h
    · exact Or.inr ⟨e.2, by rw [h1]; exact List.mem_cons_self, h2⟩
    · exact Or.inr ⟨r', List.mem_cons_of_mem _ h1, h2⟩

/-- two blocks never both wipe the storage of one address: the relation `WipeOnce` asks pairwise -/
def DisjWipes (blk1 blk2 : BMap ARevert) : Prop :=
  ∀ a r1 r2, (a, r1) ∈ blk1 → r1.wipe = true → (a, r2) ∈ blk2 → r2.wipe = true → False

def Wiped (revs : List (BMap ARevert)) (a : Nat) : Prop :=
  ∃ blk, blk ∈ revs ∧ ∃ r, (a, r) ∈ blk ∧ r.wipe = true

theorem extendReverts_spec (this : BMap BAcct) (revs : List (BMap ARevert)) (hw : WF this)
    (hwf : ∀ blk, blk ∈ revs → WF blk) (hpw : revs.Pairwise DisjWipes) :
    (extendReverts this revs).2 = revs.map (fun blk => blk.map (fun e => (e.1, modRev (this.get e.1) e.2))) ∧
    Drained this (extendReverts this revs).1 (Wiped revs) := by
  rw [extendReverts_eq]
  have gen : ∀ (rs : List (BMap ARevert)) (st : BMap BAcct) (W : Nat → Prop) (l : List (BMap ARevert)),
      Drained this st W → (∀ blk, blk ∈ rs → ∀ e, e ∈ blk → e.2.wipe = true → ¬ W e.1) →
      (∀ blk, blk ∈ rs → WF blk) → rs.Pairwise DisjWipes →
      (rs.foldl (fun (acc : BMap BAcct × List (BMap ARevert)) blk =>
        ((erStepBlk acc.1 blk).1, acc.2 ++ [(erStepBlk acc.1 blk).2])) (st, l)).2 =
        l ++ rs.map (fun blk => blk.map (fun e => (e.1, modRev (this.get e.1) e.2))) ∧
      Drained this (rs.foldl (fun (acc : BMap BAcct × List (BMap ARevert)) blk =>
        ((erStepBlk acc.1 blk).1, acc.2 ++ [(erStepBlk acc.1 blk).2])) (st, l)).1 (fun a => W a ∨ Wiped rs a) := by
    intro rs
    induction rs with
    | nil => intro st W l hD _ _ _; exact ⟨by simp, hD.mono (fun a h => Or.inl h)⟩
    | cons blk r ih =>
      intro st W l hD hnw hwf hpw
      simp only [List.foldl]
      rw [List.pairwise_cons] at hpw
      obtain ⟨i1, i2⟩ := erStepBlk_snd this blk st W [] hD (hnw blk List.mem_cons_self) (hwf blk List.mem_cons_self)
      have hb : (erStepBlk st blk).2 = blk.map (fun e => (e.1, modRev (this.get e.1) e.2)) := by
        unfold erStepBlk; rw [i1]; simp
      obtain ⟨j1, j2⟩ := ih (erStepBlk st blk).1 _ (l ++ [(erStepBlk st blk).2]) i2
        (fun blk' hb' e' he' hw' hW' => by
          cases hW' with
          | inl h => exact hnw blk' (List.mem_cons_of_mem _ hb') e' he' hw' h
          | inr h =>
            obtain ⟨r1, h1, h2⟩ := h
            exact hpw.1 blk' hb' e'.1 r1 e'.2 h1 h2 he' hw')
        (fun b hb' => hwf b (List.mem_cons_of_mem _ hb')) hpw.2
      refine ⟨by rw [j1, hb]; simp, j2.mono (fun a h => ?_)⟩
      rcases h with (h | ⟨r1, h1, h2⟩) | ⟨b, hb', hr⟩
      · exact Or.inl h
      · exact Or.inr ⟨blk, List.mem_cons_self, r1, h1, h2⟩
      · exact Or.inr ⟨b, List.mem_cons_of_mem _ hb', hr⟩
  obtain ⟨g1, g2⟩ := gen revs this (fun _ => False) [] (Drained.refl this _ hw) (fun _ _ _ _ _ h => h) hwf hpw
  exact ⟨by simpa using g1, g2.mono (fun a h => h.resolve_left id)⟩

/-! ## the post-state of `extend_state` and `prepend_state` -/

/-- the storage `extend_state` leaves for an account of both bundles; the older account matters only when the newer
one was not destroyed -/
theorem ext_storage {t o : BAcct} {P M R : Nat → Nat} (hos : StorageInv o M R)
    (hts : o.status.wasDestroyed = false → StorageInv t P M) :
    StorageInv { t with storage := if o.status.wasDestroyed then o.storage else extendStorage t.storage o.storage,
                        info := o.info, status := t.status.transition o.status } P R := by
  rw [storageInv_iff] at hos
  refine storageInv_mk.mpr ?_
  rw [transition_wd]
  cases howd : o.status.wasDestroyed with
  | true => rw [howd] at hos; simpa [baseOf_true] using hos
  | false =>
    rw [howd] at hos
    simp only [Bool.or_false, Bool.false_eq_true, if_false]
    exact ((storageInv_iff _ _ _).mp (hts howd)).extend (sRel_true.mp hos)

theorem drained_cases {b1 b2 : BState} {st : BMap BAcct} (hd : Drained b1.state st (Wiped b2.reverts))
    (hwi : WipeInv b2) (a : Nat) :
    st.get a = b1.state.get a ∨ ∃ ta o, b1.state.get a = some ta ∧ st.get a = some (drainOf ta) ∧
      b2.state.get a = some o ∧ o.status.wasDestroyed = true := by
  cases hd.2 a with
  | inl h => exact Or.inl h
  | inr h =>
    obtain ⟨⟨blk, hblk, r, hm, hwp⟩, ta, h2, h3⟩ := h
    obtain ⟨o, ho, hwd⟩ := hwi blk hblk a r hm hwp
    exact Or.inr ⟨ta, o, h2, h3, ho, hwd⟩

/-- `extend_state` of the first bundle's state, drained or not where the second bundle has a wiping revert, by the
second bundle's state describes the step from the first bundle's pre-state to the second bundle's post-state -/
theorem extState_bundleOK {b1 b2 : BState} {p0 r1 r2 : Plain} (h1 : BundleOK b1.state p0 r1)
    (h2 : BundleOK b2.state r1 r2) (hwi : WipeInv b2) (st : BMap BAcct) (hd : Drained b1.state st (Wiped b2.reverts)) :
    BundleOK (extendState st b2.state) p0 r2 := by
  refine ⟨extendState_WF _ _ hd.1, fun a => ?_⟩
  rw [extendState_get _ _ h2.1]
  have hb1 := h1.2 a
  have hb2 := h2.2 a
  rcases drained_cases hd hwi a with hst | ⟨ta, o, hta, hst, ho, hwd⟩
  · rw [hst]
    cases ho : b2.state.get a with
    | none =>
      rw [ho] at hb2
      simp only [Option.elim]
      cases hb : b1.state.get a with
      | none => rw [hb] at hb1; exact ⟨by rw [hb2.1]; exact hb1.1, fun k => by rw [hb2.2, hb1.2]⟩
      | some t =>
        rw [hb] at hb1
        rw [hb2.1, show (fun k => r2.slot a k) = fun k => r1.slot a k from funext hb2.2]
        exact hb1
    | some o =>
      rw [ho] at hb2
      obtain ⟨hoi, hoo, hos⟩ := hb2
      simp only [Option.elim, extF]
      cases hb : b1.state.get a with
      | none =>
        rw [hb] at hb1
        rw [show (fun k => r1.slot a k) = fun k => p0.slot a k from funext hb1.2] at hos
        exact ⟨hoi, by rw [hoo]; exact hb1.1, hos⟩
      | some t =>
        rw [hb] at hb1
        exact ⟨hoi, hb1.2.1, ext_storage hos (fun _ => hb1.2.2)⟩
  · rw [hst, ho]
    rw [ho] at hb2
    rw [hta] at hb1
    simp only [Option.elim, extF]
    exact ⟨hb2.1, hb1.2.1, ext_storage hb2.2.2 (fun h => by rw [hwd] at h; cases h)⟩

theorem extend_bundleOK {b1 b2 : BState} {p0 r1 r2 : Plain} (h1 : BundleOK b1.state p0 r1)
    (h2 : BundleOK b2.state r1 r2) (hwi : WipeInv b2) (hon : WipeOnce b2) : BundleOK (extend b1 b2).state p0 r2 := by
  rw [extend_state_eq]
  exact extState_bundleOK h1 h2 hwi _ (extendReverts_spec b1.state b2.reverts h1.1 hon.1 hon.2).2

theorem prepend_bundleOK {b1 b2 : BState} {p0 r1 r2 : Plain} (h1 : BundleOK b1.state p0 r1)
    (h2 : BundleOK b2.state r1 r2) (hwi : WipeInv b2) : BundleOK (prependState b2 b1).state p0 r2 :=
  extState_bundleOK h1 h2 hwi _ (Drained.refl b1.state _ h1.1)

/-- post-state half of `Spec.ExtendStatement` -/
def ExtendPostStatement : Prop :=
  ∀ (db db2 : BMap Info) (sc : Bool) (p0 : Plain) (h1 h2 : List Group) (known : Bool),
    dbMatches db p0 → plainWF p0 → reachHistory sc p0 (h1 ++ h2) = true →
    ∃ l1 l2, runHistory { db := db, sc := sc } p0 h1 = some l1 ∧
      ∀ s1 r1, l1.getLast? = some (s1, r1) → dbMatches db2 r1 →
        runHistory { db := db2, sc := sc } r1 h2 = some l2 ∧
        ∀ s2 r2, l2.getLast? = some (s2, r2) →
          PlainEq (applyChangeset (toPlainState (extend s1.bundle s2.bundle) known) p0) r2

/-- post-state of `prepend_state`: the newer bundle `B` (second half), prepended with the older `A`, describes
the step from A's pre-state to B's post-state -/
def PrependPostStatement : Prop :=
  ∀ (db db2 : BMap Info) (sc : Bool) (p0 : Plain) (h1 h2 : List Group) (known : Bool),
    dbMatches db p0 → plainWF p0 → reachHistory sc p0 (h1 ++ h2) = true →
    ∃ l1 l2, runHistory { db := db, sc := sc } p0 h1 = some l1 ∧
      ∀ s1 r1, l1.getLast? = some (s1, r1) → dbMatches db2 r1 →
        runHistory { db := db2, sc := sc } r1 h2 = some l2 ∧
        ∀ s2 r2, l2.getLast? = some (s2, r2) →
          PlainEq (applyChangeset (toPlainState (prependState s2.bundle s1.bundle) known) p0) r2 ∧
          (prependState s2.bundle s1.bundle).reverts = s1.bundle.reverts

/-! ## the rewritten reverts against the first bundle's pre-state -/

/-- the rewritten revert, read against the FIRST bundle's pre-state, still leads back to the same state,
provided no `Destroyed` slot of a wiping revert is held by the first bundle's account (finding F4) -/
theorem modRev_sem {t? : Option BAcct} {r : ARevert} {ms : Status} {p0s r1s : Nat → Nat}
    {Mi : Option Info} {Ms : Nat → Nat} {Ri : Option Info} {Rs : Nat → Nat}
    (h : RevSem (some r) ms r1s Mi Ms Ri Rs)
    (hb1 : match t? with | none => r1s = p0s | some ta => StorageInv ta p0s r1s)
    (hok : r.wipe = true → ∀ ta, t? = some ta → ∀ k, r.storage.get k = some RevSlot.destroyed → ta.storage.get k = none) :
    RevSem (some (modRev t? r)) ms p0s Mi Ms Ri Rs := by
  obtain ⟨g1, g2, g3, g4, g5⟩ := h
  cases hwp : r.wipe with
  | false =>
    have hm : modRev t? r = r := by simp [modRev, hwp]
    rw [hm]
    exact RevSem.of_nowipe ⟨g1, g2, g3, g4, g5⟩ hwp
  | true =>
    cases t? with
    | none =>
      have hm : modRev none r = r := by simp [modRev, hwp]
      rw [hm]
      simp only at hb1
      rw [← hb1]
      exact ⟨g1, g2, g3, g4, g5⟩
    | some ta =>
      simp only at hb1
      have hm : modRev (some ta) r = ⟨r.account, erMergeStorage ta.storage r.storage, r.prevStatus,
          if ta.status.wasDestroyed then false else r.wipe⟩ := by simp [modRev, hwp]
      rw [hm]
      have hok' := hok hwp ta rfl
      refine ⟨g1, erMergeStorage_WF _ _ g2, g3, fun k => ?_, ?_⟩
      · have hk := g4 k
        rw [hwp] at hk
        rw [← hk]
        show revSlotV true (erMergeStorage ta.storage r.storage) (if ta.status.wasDestroyed then false else r.wipe) p0s Rs k = _
        unfold revSlotV
        rw [erMergeStorage_get _ _ hb1.1]
        cases hg : r.storage.get k with
        | some v =>
          cases v with
          | some x => rfl
          | destroyed =>
            simp only [hwp, Bool.and_self, if_true]
            rw [hb1.absent (hok' k hg)]
            cases ta.status.wasDestroyed <;> simp
        | none =>
          simp only [if_true]
          cases htk : ta.storage.get k with
          | some s => exact hb1.present htk
          | none =>
            rw [hb1.absent htk]
            cases ta.status.wasDestroyed <;> simp [hwp, g5 hwp k hg]
      · intro hw' k hk
        show Rs k = 0
        have hk' : (erMergeStorage ta.storage r.storage).get k = none := hk
        rw [erMergeStorage_get _ _ hb1.1] at hk'
        cases hg : r.storage.get k with
        | some v => rw [hg] at hk'; cases hk'
        | none => exact g5 hwp k hg

theorem extendOk_spec (b1 b2 : BState) (h : extendOk b1 b2 = true) (blk : BMap ARevert) (hblk : blk ∈ b2.reverts)
    (a : Nat) (r : ARevert) (hm : (a, r) ∈ blk) (hw : r.wipe = true) (ta : BAcct) (hta : b1.state.get a = some ta)
    (k : Nat) (hk : r.storage.get k = some RevSlot.destroyed) : ta.storage.get k = none := by
  have h1 := List.all_eq_true.mp (List.all_eq_true.mp h blk hblk) (a, r) hm
  simp only [hw, Bool.not_true, Bool.false_or, hta] at h1
  have h2 := List.all_eq_true.mp h1 (k, RevSlot.destroyed) (mem_of_get _ _ _ hk)
  simpa using h2

theorem modBlock_sem {b1 : BState} {blk : BMap ARevert} {p0 r1 before after : Plain}
    (h1 : BundleOK b1.state p0 r1) (hs : BlockSem blk r1 before after)
    (hok : ∀ a r, (a, r) ∈ blk → r.wipe = true → ∀ ta, b1.state.get a = some ta →
      ∀ k, r.storage.get k = some RevSlot.destroyed → ta.storage.get k = none) :
    BlockSem (blk.map (fun e => (e.1, modRev (b1.state.get e.1) e.2))) p0 before after := by
  obtain ⟨hw, hall⟩ := hs
  refine ⟨WF_map_val blk (fun e => modRev (b1.state.get e.1) e.2) hw, fun a => ?_⟩
  rw [get_map_val blk (fun e => modRev (b1.state.get e.1) e.2)]
  obtain ⟨ms, hr⟩ := hall a
  refine ⟨ms, ?_⟩
  cases hg : blk.get a with
  | none => rw [hg] at hr; exact hr
  | some r =>
    rw [hg] at hr
    simp only [Option.map]
    refine modRev_sem hr ?_ (fun hw' ta hta => hok a r (mem_of_get _ _ _ hg) hw' ta hta)
    have hb := h1.2 a
    cases hb1 : b1.state.get a with
    | none => rw [hb1] at hb; simp only; exact funext hb.2
    | some ta => rw [hb1] at hb; simp only; exact hb.2.2

theorem extend_partial_proof (db db2 : BMap Info) (sc : Bool) (p0 : Plain) (h1 h2 : List Group) (known : Bool)
    (hdb : dbMatches db p0) (hwf : plainWF p0) (hr : reachHistory sc p0 (h1 ++ h2) = true) :
    ∃ l1 l2, runHistory { db := db, sc := sc } p0 h1 = some l1 ∧
      ∀ s1 r1, l1.getLast? = some (s1, r1) → dbMatches db2 r1 →
        runHistory { db := db2, sc := sc } r1 h2 = some l2 ∧
        ∀ s2 r2, l2.getLast? = some (s2, r2) →
          PlainEq (applyChangeset (toPlainState (extend s1.bundle s2.bundle) known) p0) r2 ∧
          (extendOk s1.bundle s2.bundle = true →
            ∀ (k : Nat) blk before after, (toPlainStateReverts (extend s1.bundle s2.bundle))[k]? = some blk →
              ((p0 :: (l1 ++ l2).map (·.2))[k]? = some before) → (((l1 ++ l2).map (·.2))[k]? = some after) →
              PlainEq (applyRevertBlock true p0 blk after) before) := by
  obtain ⟨l1, l2, q1, q2⟩ := split_run db db2 sc p0 h1 h2 hdb hwf hr
  refine ⟨l1, l2, q1, fun s1 r1 hl1 hdb2 => ?_⟩
  obtain ⟨w1, _, hF1, w3⟩ := q2 s1 r1 hl1 hdb2
  refine ⟨w1, fun s2 r2 hl2 => ?_⟩
  have hF2 := w3 s2 r2 hl2
  have hok1 := bundleOK_of_inv hF1.inv hF1.ts
  refine ⟨changeset_of_bundleOK _ known p0 r2
    (extend_bundleOK hok1 (bundleOK_of_inv hF2.inv hF2.ts) hF2.inv.wipe hF2.inv.once), ?_⟩
  intro hext k blk before after hb hbe haf
  have hrev : (extend s1.bundle s2.bundle).reverts = s1.bundle.reverts ++
      s2.bundle.reverts.map (fun blk => blk.map (fun e => (e.1, modRev (s1.bundle.state.get e.1) e.2))) := by
    rw [extend_reverts_eq, (extendReverts_spec _ _ hF1.inv.wfb hF2.inv.once.1 hF2.inv.once.2).1]
  -- blocks of the second half, read against p0
  have bs2' : BlocksSem p0 (s2.bundle.reverts.map (fun blk => blk.map (fun e => (e.1, modRev (s1.bundle.state.get e.1) e.2))))
      r1 (l2.map (·.2)) := by
    refine ⟨by simp [hF2.blocks.1], fun k' blk' before' after' hb' hbe' haf' => ?_⟩
    rw [List.getElem?_map] at hb'
    cases hbk : s2.bundle.reverts[k']? with
    | none => rw [hbk] at hb'; cases hb'
    | some b =>
      rw [hbk] at hb'; injection hb' with hb'; subst hb'
      exact modBlock_sem hok1 (hF2.blocks.2 k' b before' after' hbk hbe' haf')
        (fun a r hm hw ta hta k hk => extendOk_spec _ _ hext b (List.mem_of_getElem? hbk) a r hm hw ta hta k hk)
  have hlast : (p0 :: l1.map (·.2)).getLast? = some r1 := by
    cases l1 with
    | nil => simp at hl1
    | cons y ys =>
      rw [List.map_cons, List.getLast?_cons_cons, ← List.map_cons, List.getLast?_map, hl1]; rfl
  have hall := BlocksSem_append p0 _ _ p0 r1 (l1.map (·.2)) (l2.map (·.2)) hF1.blocks bs2' hlast
  simp only [toPlainStateReverts, hrev, List.getElem?_map] at hb
  rw [List.map_append] at hbe haf
  cases hbk : (s1.bundle.reverts ++
      s2.bundle.reverts.map (fun blk => blk.map (fun e => (e.1, modRev (s1.bundle.state.get e.1) e.2))))[k]? with
  | none => rw [hbk] at hb; cases hb
  | some b =>
    rw [hbk] at hb; injection hb with hb; subst hb
    exact revert_block_correct true b p0 before after (hall.2 k b before after hbk hbe haf) (Or.inl rfl)

/-! ## `revert(j)` on an extended bundle -/

theorem extendReverts_nowipe_suffix (st : BMap BAcct) (pre suf : List (BMap ARevert)) (hw : WF st)
    (hwf : ∀ blk, blk ∈ pre ++ suf → WF blk) (hpw : (pre ++ suf).Pairwise DisjWipes)
    (h : ∀ blk, blk ∈ suf → ∀ e, e ∈ blk → e.2.wipe = false) :
    ∃ Y, (extendReverts st (pre ++ suf)).2 = Y ++ suf := by
  rw [(extendReverts_spec st _ hw hwf hpw).1, List.map_append]
  refine ⟨_, congrArg _ ?_⟩
  have hblk : ∀ blk, blk ∈ suf → blk.map (fun e => (e.1, modRev (st.get e.1) e.2)) = blk := by
    intro blk hb
    conv => rhs; rw [← List.map_id blk]
    exact List.map_congr_left (fun e he => by simp [modRev, h blk hb e he])
  conv => rhs; rw [← List.map_id suf]
  exact List.map_congr_left (fun blk hb => hblk blk hb)

theorem extend_rstate {b1 b2 : BState} {p0 r1 r2 : Plain} (h1 : BundleOK b1.state p0 r1)
    (h2 : BundleOK b2.state r1 r2) (hwi : WipeInv b2) (hon : WipeOnce b2)
    (hreg : ∀ a t, b1.state.get a = some t → t.status.wasDestroyed = true → b2.state.get a = none) :
    RState (extend b1 b2) b2.state p0 r2 := by
  have hE := extend_bundleOK h1 h2 hwi hon
  have hd := (extendReverts_spec b1.state b2.reverts h1.1 hon.1 hon.2).2
  refine ⟨hE.1, fun a => ?_⟩
  have hEa := hE.2 a
  have hget : (extend b1 b2).state.get a = (b2.state.get a).elim ((extendReverts b1.state b2.reverts).1.get a)
      (fun o => extF o ((extendReverts b1.state b2.reverts).1.get a)) := by
    rw [extend_state_eq, extendState_get _ _ h2.1]
  cases ho : b2.state.get a with
  | none =>
    cases he : (extend b1 b2).state.get a with
    | none => rw [he] at hEa; exact ⟨hEa.1, hEa.2⟩
    | some e => rw [he] at hEa; exact ⟨hEa.1, hEa.2.1, hEa.2.2⟩
  | some o =>
    rw [ho] at hget
    simp only [Option.elim, extF] at hget
    have hos : StorageInv o (fun k => r1.slot a k) (fun k => r2.slot a k) := by
      have := h2.2 a; rw [ho] at this; exact this.2.2
    cases hst : (extendReverts b1.state b2.reverts).1.get a with
    | none =>
      rw [hst] at hget
      simp only at hget
      rw [hget] at hEa ⊢
      exact ⟨⟨hEa.1, hEa.2.1, hEa.2.2⟩, rfl, fun _ k hk => hk⟩
    | some t =>
      rw [hst] at hget
      simp only at hget
      rw [hget] at hEa ⊢
      have htnd : t.status.wasDestroyed = false := by
        obtain ⟨t1, hg1, hs1⟩ := hd.status hst
        cases hwd : t1.status.wasDestroyed with
        | false => rw [hs1]; exact hwd
        | true => have := hreg a t1 hg1 hwd; rw [ho] at this; cases this
      refine ⟨⟨hEa.1, hEa.2.1, hEa.2.2⟩, ?_, fun hwa k hk => ?_⟩
      · show (t.status.transition o.status).wasDestroyed = o.status.wasDestroyed
        rw [transition_wd, htnd]; simp
      · show ((if o.status.wasDestroyed then o.storage else extendStorage t.storage o.storage).get k).isSome = true
        simp only [hwa, Bool.false_eq_true, if_false]
        exact extendStorage_keys _ _ hos.1 k (Or.inr hk)

theorem destroyed_of_noinfo {s : SState} {p0 r : Plain} (hinv : SInv s p0 r r) (hts : s.ts = []) (a : Nat) (t1 : BAcct)
    (hg : s.bundle.state.get a = some t1) (hn : r.acct a = none) : t1.status.wasDestroyed = true := by
  obtain ⟨_, _, hrest⟩ := hinv.acct a
  have htn : s.ts.get a = none := by rw [hts]; rfl
  cases hc : s.cache.get a with
  | none => rw [hc] at hrest; rw [hrest.2.1] at hg; cases hg
  | some c =>
    rw [hc] at hrest
    obtain ⟨_, ms, _, hF, hB⟩ := hrest
    rw [hg] at hB
    obtain ⟨hB1, hB2⟩ := hB
    have hhi : hasInfo ms = false := by
      have := hF.some_iff; rw [hn] at this; exact this.symm
    rw [hB1.status]
    exact hasInfo_false_st5 _ hhi hB2

theorem extend_revert_proof (db db2 : BMap Info) (sc : Bool) (p0 : Plain) (h1 h2 : List Group) (j : Nat) (known : Bool)
    (hdb : dbMatches db p0) (hwf : plainWF p0) (hr : reachHistory sc p0 (h1 ++ h2) = true) :
    ∃ l1 l2, runHistory { db := db, sc := sc } p0 h1 = some l1 ∧
      ∀ s1 r1, l1.getLast? = some (s1, r1) → dbMatches db2 r1 →
        runHistory { db := db2, sc := sc } r1 h2 = some l2 ∧
        ∀ s2 r2, l2.getLast? = some (s2, r2) → extRevertOk s1.bundle s2.bundle j = true →
          ∀ tgt, (r1 :: l2.map (·.2))[h2.length - j]? = some tgt →
            PlainEq (applyChangeset (toPlainState (revertN (extend s1.bundle s2.bundle) j) known) p0) tgt := by
  obtain ⟨l1, l2, q1, q2⟩ := split_run db db2 sc p0 h1 h2 hdb hwf hr
  refine ⟨l1, l2, q1, fun s1 r1 hl1 hdb2 => ?_⟩
  obtain ⟨w1, w2, hF1, w3⟩ := q2 s1 r1 hl1 hdb2
  refine ⟨w1, fun s2 r2 hl2 hreg tgt htgt => ?_⟩
  have hF2 := w3 s2 r2 hl2
  have hh := hF2.hist
  obtain ⟨fs, hfs⟩ := frames_snoc (([] : BMap BAcct), r1) hl2
  rw [hfs] at hh
  have hOK1 := bundleOK_of_inv hF1.inv hF1.ts
  have hOK2 := bundleOK_of_inv hF2.inv hF2.ts
  simp only [extRevertOk, Bool.and_eq_true, decide_eq_true_eq, List.all_eq_true] at hreg
  obtain ⟨⟨hjle, hnw⟩, hdes⟩ := hreg
  have hrevlen : s2.bundle.reverts.length = h2.length := by rw [hF2.blocks.1, List.length_map, w2]
  have hregion : ∀ a t, s1.bundle.state.get a = some t → t.status.wasDestroyed = true →
      s2.bundle.state.get a = none := by
    intro a t hg hwd
    have := hdes (a, t) (mem_of_get _ _ _ hg)
    simp only [hwd, Bool.not_true, Bool.false_or, Option.isNone_iff_eq_none] at this
    exact this
  have hR0 := extend_rstate hOK1 hOK2 hF2.inv.wipe hF2.inv.once hregion
  have habs : ∀ a, (s2.bundle.state.get a).isSome = true → r1.acct a = none → p0.acct a = none := by
    intro a hs hn
    cases hg : s1.bundle.state.get a with
    | none => have := hOK1.2 a; rw [hg] at this; rw [← this.1]; exact hn
    | some t =>
      have hwd := destroyed_of_noinfo hF1.inv hF1.ts a t hg hn
      rw [hregion a t hg hwd] at hs; cases hs
  -- the reverts of the extended bundle end with the last j blocks of the second bundle
  have hnw' : ∀ blk, blk ∈ s2.bundle.reverts.drop (s2.bundle.reverts.length - j) → ∀ e, e ∈ blk → e.2.wipe = false := by
    intro blk hblk e he
    simp only [noWipeInLast, List.all_eq_true] at hnw
    have := hnw blk hblk e he
    simpa using this
  obtain ⟨Y, hY⟩ := extendReverts_nowipe_suffix s1.bundle.state
    (s2.bundle.reverts.take (s2.bundle.reverts.length - j)) (s2.bundle.reverts.drop (s2.bundle.reverts.length - j))
    hF1.inv.wfb (by rw [List.take_append_drop]; exact hF2.inv.once.1) (by rw [List.take_append_drop]; exact hF2.inv.once.2) hnw'
  rw [List.take_append_drop] at hY
  have hrevE : (extend s1.bundle s2.bundle).reverts =
      (s1.bundle.reverts ++ Y) ++ s2.bundle.reverts.drop (s2.bundle.reverts.length - j) := by
    rw [extend_reverts_eq, hY, List.append_assoc]
  have hokE : revertOk (extend s1.bundle s2.bundle) j = true := by
    refine noWipe_revertOk j _ ?_
    have hS : (s2.bundle.reverts.drop (s2.bundle.reverts.length - j)).length = j := by
      rw [List.length_drop]; omega
    rw [noWipeInLast, hrevE, List.length_append, hS, Nat.add_sub_cancel, List.drop_left]
    exact hnw
  obtain ⟨f', g1, g2⟩ := revertN_hist r1 p0 hwf j fs (s2.bundle.state, r2) (extend s1.bundle s2.bundle)
    s2.bundle.reverts (s1.bundle.reverts ++ Y) hh (Or.inr hjle) hrevE
    (fun blk hblk a r hr hw => by rw [hnw' blk hblk (a, r) (mem_of_get _ _ _ hr)] at hw; cases hw) hR0 hokE habs
  have hsnd : (fs ++ [(s2.bundle.state, r2)]).map (·.2) = r1 :: l2.map (·.2) := by
    rw [← hfs, List.map_cons, map_frameOf_snd]
  rw [← hsnd, List.getElem?_map, ← hrevlen, g1] at htgt
  injection htgt with htgt
  rw [← htgt]
  exact changeset_of_bundleOK _ known p0 f'.2 g2.bundleOK

end Revm.Proofs.Bundle
