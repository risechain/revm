import Revm.Proofs.FrameKeptStep
/-! `step_all` and `insertBy_all` read on the predicates the properties are stated with, one aspect at a time: gas and
`is_static` (`KDone` / `step_kept`, any host; `SDone` / `step_strict`, a host whose answers are not errors;
`insertBy_kept`), static mode (`StaticDone` / `step_static`: C10 on the interpreter that `Evm.runLoop` runs, where
Props/C10 proves it on its own opcode-level model), `target` / `caller` / `spec` (`TDone` / `DoneAll.target`). Each reading
is a case split on `DoneAll`; `Keep`, `KS`, `KeepT` are the same conditions on a handler result. -/

namespace Revm.Proofs.EvmLink
open Revm Revm.Model Revm.Model.Interp

/-- a handler result whose state (ok or halt) is `Kept` after `s0`; `Q` holds of an ok result -/
inductive Keep (s0 : IState) {α} (Q : α → IState → Prop) : Exec α → Prop
  | ok {a s} (h : Kept s0 s) (hq : Q a s) : Keep s0 Q (.ok a s)
  | halt {r o s} (h : Kept s0 s) : Keep s0 Q (.halt r o s)
  | fault {f} : Keep s0 Q (.fault f)

theorem keep_bind {s0 s : IState} {α β} {m : M α} {f : α → M β} {Q : α → IState → Prop} {Q' : β → IState → Prop}
    (h1 : Keep s0 Q (m s)) (h2 : ∀ a s', Kept s0 s' → Q a s' → Keep s0 Q' (f a s')) : Keep s0 Q' ((m >>= f) s) := by
  show Keep s0 Q' (M.bind m f s)
  unfold M.bind
  cases hm : m s with
  | ok a s' => rw [hm] at h1; cases h1 with | ok h hq => exact h2 a s' h hq
  | halt r o s' => rw [hm] at h1; cases h1 with | halt h => exact .halt h
  | fault f => exact .fault

theorem keep_modifyS_gas {s0 s : IState} (h : Kept s0 s) (f : IState → IState) (hst : (f s).isStatic = s.isStatic)
    (hg : (f s).gas = s.gas) : Keep s0 (fun _ s' => s'.gas = s.gas) (modifyS f s) :=
  .ok (h.trans (kept_of_eq hst hg)) hg

/-- what one resolved instruction does to its frame: `is_static` and the gas limit stay, gas is only spent, and an
action has paid for the gas it gives the child -/
inductive KDone (s : IState) : Done → Prop
  | next {s'} (h : Kept s s') : KDone s (.next s')
  | halt {r o s'} (h : Kept s s') : KDone s (.halt r o s')
  | fault {f} : KDone s (.fault f)
  | action {a s'} (h : Kept s s') (hg : s'.gas.remaining + a.gasLimit ≤ s.gas.remaining) : KDone s (.action a s')

/-- `KDone` of a step, whatever the host answers -/
inductive KOutcome (s : IState) : Outcome → Prop
  | pure {d} (h : KDone s d) : KOutcome s (.pure d)
  | host {op k} (h : ∀ r, KDone s (k r)) : KOutcome s (.host op k)

theorem DoneAll.kept {E : Prop} {s : IState} {d : Done} (h : DoneAll E s d) : KDone s d := by
  cases h with
  | next h => exact .next h.toKept
  | halt h _ => exact .halt h.toKept
  | fault => exact .fault
  | action h hg _ _ => exact .action h.toKept (Nat.le_of_succ_le hg)

theorem step_kept (s : IState) : KOutcome s (step s) := by
  have h := step_all (E := True) s
  generalize step s = o at h
  cases h with
  | pure hd => exact .pure hd.kept
  | host _ hk => exact .host (fun r => (hk r (.inr trivial)).kept)

/-- what one resolved instruction does to its frame, strictly: `is_static` and the gas limit stay, at least one unit of
gas is spent where the frame continues, an action has paid for the gas it gives the child and one more, and a halt
carries a result that is not an internal flag (`RGood`) -/
inductive SDone (s : IState) : Done → Prop
  | next {s'} (h : Kept s s') (hg : s'.gas.remaining + 1 ≤ s.gas.remaining) : SDone s (.next s')
  | halt {r o s'} (h : Kept s s') (hr : RGood r) : SDone s (.halt r o s')
  | fault {f} : SDone s (.fault f)
  | action {a s'} (h : Kept s s') (hg : s'.gas.remaining + a.gasLimit + 1 ≤ s.gas.remaining) : SDone s (.action a s')

/-- `SDone` of a step, for the answers of the host that are not errors -/
inductive SOutcome (s : IState) : Outcome → Prop
  | pure {d} (h : SDone s d) : SOutcome s (.pure d)
  | host {op k} (h : ∀ r : HostResp, r.ok = true → SDone s (k r)) : SOutcome s (.host op k)

theorem DoneAll.strict {s : IState} {d : Done} (h : DoneAll False s d) : SDone s d := by
  cases h with
  | next h => exact .next h.toKept (h.strict rfl)
  | halt h hr => exact .halt h.toKept hr.rgood
  | fault => exact .fault
  | action h hg _ _ => exact .action h.toKept hg

theorem step_strict (s : IState) : SOutcome s (step s) := by
  have h := step_all (E := False) s
  generalize step s = o at h
  cases h with
  | pure hd => exact .pure hd.strict
  | host _ hk => exact .host (fun r hr => (hk r (.inl hr)).strict)

theorem ReAll.keep {g : Nat} {s : IState} {e : Exec Unit} (h : ReAll g s e) : Keep (plusGas s g) T e := by
  cases h with
  | ok h => exact .ok h.kept trivial
  | halt h => exact .halt h.kept
  | fault => exact .fault

/-- re-entry gives the frame back at most `o.gas_remaining` -/
theorem insertBy_kept (kind : Evm.FrameKind) (o : ChildResult) (s : IState) :
    Keep (plusGas s o.gasRemaining) T (Evm.insertBy kind o s) := (insertBy_all kind o s).keep

open Revm Revm.Model Revm.Model.Interp Revm.Proofs.Interp

/-- what an instruction of a static frame may end in: no create, and only calls that are `StaticCall` -/
inductive StaticDone : Done → Prop
  | next {s} : StaticDone (.next s)
  | halt {r o s} : StaticDone (.halt r o s)
  | fault {f} : StaticDone (.fault f)
  | call {i s} (h : StaticCall i) : StaticDone (.action (.call i) s)

/-- … and the host is asked for no mutation -/
inductive StaticOutcome : Outcome → Prop
  | pure {d} (h : StaticDone d) : StaticOutcome (.pure d)
  | host {op k} (hop : mutating op = false) (hk : ∀ r, StaticDone (k r)) : StaticOutcome (.host op k)

/-- a handler result in a frame whose `is_static` is `b`: the flag is kept, the value satisfies `Q` -/
inductive KS (b : Bool) {α} (Q : α → Prop) : Exec α → Prop
  | ok {a s} (hs : s.isStatic = b) (hq : Q a) : KS b Q (.ok a s)
  | halt {r o s} : KS b Q (.halt r o s)
  | fault {f} : KS b Q (.fault f)

theorem ks_mono {b : Bool} {α} {e : Exec α} {Q Q' : α → Prop} (h : KS b Q e) (hq : ∀ a, Q a → Q' a) : KS b Q' e := by
  cases h with
  | ok hs h => exact .ok hs (hq _ h)
  | halt => exact .halt
  | fault => exact .fault

section prims
variable {b : Bool} {s : IState}

theorem ks_haltWith {α} (r : IResult) {Q : α → Prop} : KS b Q ((haltWith r : M α) s) := .halt

end prims

/-- in a static frame, what `DoneAll` says of an action (`ActStatic`) leaves a static call only -/
theorem DoneAll.static {E : Prop} {s : IState} {d : Done} (hs : s.isStatic = true) (h : DoneAll E s d) :
    StaticDone d := by
  cases h with
  | next => exact .next
  | halt => exact .halt
  | fault => exact .fault
  | @action a _ _ _ _ _ ha =>
    cases a with
    | call i => exact .call (ha hs)
    | create i => exact absurd (ha.symm.trans hs) (by decide)
    | eofCreate i => exact absurd (ha.symm.trans hs) (by decide)

/-- `static_step_no_mutation` and `static_inherited` (C10) on the interpreter of the whole-EVM model, for every machine
state of a static frame (any code, pc, stack, memory, gas, fork) -/
theorem step_static (s : IState) (hs : s.isStatic = true) : StaticOutcome (step s) := by
  have h := step_all (E := True) s
  generalize step s = o at h
  cases h with
  | pure hd => exact .pure (hd.static hs)
  | host hop hk => exact .host (hop.2 hs) (fun r => (hk r (.inr trivial)).static hs)

end Revm.Proofs.EvmLink

namespace Revm.Proofs.EvmInstTgt
open Revm Revm.Model Revm.Model.Interp
open Revm.Proofs.EvmLink (DoneAll)

/-- a handler result whose state (ok or halt) is `KeptT` after `s0`; `Q` holds of an ok result -/
inductive KeepT (s0 : IState) {α} (Q : α → IState → Prop) : Exec α → Prop
  | ok {a s} (h : KeptT s0 s) (hq : Q a s) : KeepT s0 Q (.ok a s)
  | halt {r o s} (h : KeptT s0 s) : KeepT s0 Q (.halt r o s)
  | fault {f} : KeepT s0 Q (.fault f)

abbrev T {α} : α → IState → Prop := fun _ _ => True

theorem keepT_bind {s0 s : IState} {α β} {m : M α} {f : α → M β} {Q : α → IState → Prop} {Q' : β → IState → Prop}
    (h1 : KeepT s0 Q (m s)) (h2 : ∀ a s', KeptT s0 s' → Q a s' → KeepT s0 Q' (f a s')) :
    KeepT s0 Q' ((m >>= f) s) := by
  show KeepT s0 Q' (M.bind m f s)
  unfold M.bind
  cases hm : m s with
  | ok a s' => rw [hm] at h1; cases h1 with | ok h hq => exact h2 a s' h hq
  | halt r o s' => rw [hm] at h1; cases h1 with | halt h => exact .halt h
  | fault f => exact .fault

theorem keepT_rebase {s0 s : IState} {α} {Q : α → IState → Prop} {e : Exec α} (h : KeptT s0 s) (hk : KeepT s Q e) :
    KeepT s0 Q e := by
  cases hk with
  | ok h' hq => exact .ok (h.trans h') hq
  | halt h' => exact .halt (h.trans h')
  | fault => exact .fault

/-- what one resolved instruction does to its frame: `target`, `caller` and `spec` stay; a call action without value
transfer has the frame's own target as its target address -/
inductive TDone (s : IState) : Done → Prop
  | next {s'} (h : KeptT s s') : TDone s (.next s')
  | halt {r o s'} (h : KeptT s s') : TDone s (.halt r o s')
  | fault {f} : TDone s (.fault f)
  | action {a s'} (h : KeptT s s')
      (hq : ∀ i, a = .call i → i.valueTransfer = false → i.targetAddress = s.target) : TDone s (.action a s')

theorem _root_.Revm.Proofs.EvmLink.DoneAll.target {E : Prop} {s : IState} {d : Done} (h : DoneAll E s d) :
    TDone s d := by
  cases h with
  | next h => exact .next h.toKeptT
  | halt h _ => exact .halt h.toKeptT
  | fault => exact .fault
  | action h _ ht _ => exact .action h.toKeptT ht

theorem _root_.Revm.Proofs.EvmLink.ReAll.keepT {g : Nat} {s : IState} {e : Exec Unit}
    (h : Revm.Proofs.EvmLink.ReAll g s e) : KeepT s T e := by
  cases h with
  | ok h => exact .ok h.keptT trivial
  | halt h => exact .halt h.keptT
  | fault => exact .fault

theorem insertEofCreate_target (o : ChildResult) (s0 : IState) : KeepT s0 T (insertEofCreateOutcome o s0) :=
  (Revm.Proofs.EvmLink.insertEofCreate_all o s0).keepT

end Revm.Proofs.EvmInstTgt
