import Revm.Spec.EvmRules2
import Revm.Proofs.Memory
/-! `resize_memory!` against the abstract memory of `Spec/EvmRules2.lean` (`touch μ off len`: `μ` zero-extended to the word
boundary that covers the range; `touchCost`: what that adds to `C_mem`): `resizeMacro_exact` while `remaining + C_mem` fits a
`u64`, and what a paid expansion leaves. Used by the rule proofs (`EvmStep2*`, C01) and by the memory safety of the
interpreter (`InterpMem`, C25). -/
namespace Revm.Proofs.EvmStep2
open Revm Revm.Model
open Revm.Spec.EvmRules2
open Revm.Spec.GasCalc (ceil32 memCost)
open Revm.Proofs.Memory (ctx replaceCtx)

theorem touch_covers (μ : List Nat) (off len : Nat) : off + len ≤ (touch μ off len).length := by
  unfold touch
  by_cases h : off + len ≤ μ.length
  · rw [if_pos h]; exact h
  · rw [if_neg h]; simp only [List.length_append, List.length_replicate]; unfold ceil32; omega

theorem touch_ge (μ : List Nat) (off len : Nat) : μ.length ≤ (touch μ off len).length := by
  unfold touch
  split
  · exact Nat.le_refl _
  · simp only [List.length_append, List.length_replicate]; omega

theorem ceil32_touch (μ : List Nat) (off len : Nat) :
    ceil32 (touch μ off len).length = max (ceil32 μ.length) (ceil32 (off + len)) := by
  unfold touch
  by_cases hc : off + len ≤ μ.length
  · rw [if_pos hc, Nat.max_eq_left (Proofs.GasCalc.ceil32_mono _ _ hc)]
  · rw [if_neg hc, Nat.max_eq_right (Proofs.GasCalc.ceil32_mono _ _ (by omega))]
    simp only [List.length_append, List.length_replicate]
    unfold ceil32; omega

/-- the budget `remaining + C_mem` is exactly preserved by a paid expansion -/
theorem touch_budget (μ : List Nat) (off len rem : Nat) (h : ¬ rem < touchCost μ off len) :
    rem - touchCost μ off len + memCost (ceil32 (touch μ off len).length) = rem + memCost (ceil32 μ.length) := by
  unfold touchCost at h ⊢
  rw [ceil32_touch]
  have := Proofs.GasCalc.memCost_mono _ _ (Nat.le_max_left (ceil32 μ.length) (ceil32 (off + len)))
  omega

/-- a byte list whose memory cost fits a `u64` is far shorter than `isize::MAX` -/
theorem len_of_cost {n : Nat} (h : memCost (ceil32 n) < U64) : n ≤ 2^42 := by
  have hU := U64_val
  by_cases hn : n ≤ 2^42
  · exact hn
  · exfalso
    have h1 : 2^37 ≤ ceil32 n := by unfold ceil32; omega
    have := Proofs.GasCalc.memCost_mono _ _ h1
    have h2 : U64 ≤ memCost (2^37) := by rw [hU]; decide
    omega

theorem replaceCtx_self {m : Memory.SharedMemory} : replaceCtx m (ctx m) = m := by
  unfold replaceCtx ctx
  rw [List.take_append_drop]

open Revm.Model.Memory in
/-- `C_mem` of the running context as the meter computes it: the formula, clamped to `u64::MAX` -/
theorem cost_eq {m : SharedMemory} (h : Proofs.Memory.WF m) :
    currentExpansionCost m = min (memCost (ceil32 (ctx m).length)) (U64 - 1) := by
  have hU := U64_val
  have hcl : (ctx m).length + 31 < U64 - 1 := by
    have := h.2.2
    unfold ISIZE_MAX at this
    rw [Proofs.Memory.ctx_length]; omega
  unfold currentExpansionCost
  rw [Proofs.Memory.len_eq h, Proofs.Memory.numWords_eq _ (by omega), Proofs.Memory.memoryGas_full]
  rfl

open Revm.Model.Memory in
/-- `resize_memory!(interp, off, len)` while `remaining + C_mem(current) < u64::MAX`: `MemoryOOG` exactly when the
Yellow-Paper expansion cost exceeds the gas left; otherwise that cost is taken and the running context is `touch`ed -/
theorem resizeMacro_exact {m : SharedMemory} {rem off len_ : Nat} (h : Proofs.Memory.WF m)
    (hck : m.lastCheckpoint ≤ 2^62) (hm : rem + memCost (ceil32 (ctx m).length) < U64 - 1) :
    resizeMemoryMacro m rem off len_ =
      if rem < touchCost (ctx m) off len_ then .ok (false, m, rem)
      else .ok (true, replaceCtx m (touch (ctx m) off len_), rem - touchCost (ctx m) off len_) := by
  have hcur : currentExpansionCost m = memCost (ceil32 (ctx m).length) := by
    rw [cost_eq h]; omega
  rw [Proofs.Memory.resizeMacro_eq h hck (by rw [hcur]; exact hm), hcur]
  unfold touch touchCost
  by_cases hs : off + len_ ≤ (ctx m).length
  · rw [if_pos hs, if_pos hs, Nat.max_eq_left (Proofs.GasCalc.ceil32_mono _ _ hs), Nat.sub_self,
      if_neg (Nat.not_lt_zero _), replaceCtx_self]
    rfl
  · rw [if_neg hs, if_neg hs, Nat.max_eq_right (Proofs.GasCalc.ceil32_mono _ _ (by omega))]
    rfl

end Revm.Proofs.EvmStep2
