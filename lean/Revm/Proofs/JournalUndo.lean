import Revm.Proofs.Journal
/-! C06: the undo of a `JournalEntry` — inverted (`undoEntry_some`), as `undoT` on the observable state
(`undoEntry_abs`), never removing a map entry (`Grows`) and not panicking while its references are present —
lifted to levels and to `checkpoint_revert`. -/
namespace Revm.Proofs.Journal
open Revm Revm.Model.Journal Revm.Spec.JournalAbs

/-- undoing `e` is `undoT` on the observable state and leaves spec, preload set, journal and logs alone; `UndoneBy` says
the same of a list -/
def UndoOk (db : Db) (sd : Bool) (s s' : JState) (e : Entry) : Prop :=
  absT db s' = undoT sd (absT db s) e ∧ s'.spec = s.spec ∧
      s'.preloaded = s.preloaded ∧ s'.journal = s.journal ∧ s'.logs = s.logs

theorem undoEntry_some {sd : Bool} {s s' : JState} {e : Entry} (h : undoEntry sd s e = some s') :
    match (generalizing := false) e with
    | .accountWarmed a => ∃ acc, s.state a = some acc ∧ s' = setAcct s a { acc with cold := true }
    | .accountTouched a =>
      if sd ∧ a = PRECOMPILE3 then s' = s
      else ∃ acc, s.state a = some acc ∧ s' = setAcct s a { acc with touched := false }
    | .accountDestroyed a t was had => ∃ acc s1, s.state a = some acc ∧
      s1 = setAcct s a { acc with selfdestructed := was,
                                  info := { acc.info with balance := U256.wadd acc.info.balance had } } ∧
      if a ≠ t then ∃ tacc, s1.state t = some tacc ∧
        s' = setAcct s1 t { tacc with info := { tacc.info with balance := bsub tacc.info.balance had } }
      else s' = s1
    | .balanceTransfer src dst bal => ∃ f s1 t, s.state src = some f ∧
      s1 = setAcct s src { f with info := { f.info with balance := U256.wadd f.info.balance bal } } ∧
      s1.state dst = some t ∧
      s' = setAcct s1 dst { t with info := { t.info with balance := bsub t.info.balance bal } }
    | .nonceChange a => ∃ acc, s.state a = some acc ∧
      s' = setAcct s a { acc with info := { acc.info with nonce := decU64 acc.info.nonce } }
    | .accountCreated a => ∃ acc, s.state a = some acc ∧
      s' = setAcct s a { acc with created := false, info := { acc.info with nonce := 0 } }
    | .storageWarmed a k => ∃ acc sl, s.state a = some acc ∧ acc.storage k = some sl ∧
      s' = setAcct s a (setSlot acc k { sl with cold := true })
    | .storageChanged a k had => ∃ acc sl, s.state a = some acc ∧ acc.storage k = some sl ∧
      s' = setAcct s a (setSlot acc k { sl with present := had })
    | .transientChange a k had => s' = setTransient s a k (if had = 0 then none else some had)
    | .codeChange a => ∃ acc, s.state a = some acc ∧
      s' = setAcct s a { acc with info := { acc.info with codeHash := KECCAK_EMPTY, code := none } } := by
  cases e <;> simp only [undoEntry, bind, Option.bind_eq_some_iff] at h ⊢
  case accountWarmed a | nonceChange a | accountCreated a | codeChange a =>
    obtain ⟨acc, hs, h⟩ := h; cases h; exact ⟨acc, hs, rfl⟩
  case accountTouched a =>
    split at h
    · rename_i hp; rw [if_pos hp]; cases h; rfl
    · rename_i hp; rw [if_neg hp]
      simp only [Option.bind_eq_some_iff] at h
      obtain ⟨acc, hs, h⟩ := h; cases h; exact ⟨acc, hs, rfl⟩
  case accountDestroyed a t was had =>
    obtain ⟨acc, hs, h⟩ := h
    refine ⟨acc, _, hs, rfl, ?_⟩
    split at h
    · rename_i hat; rw [if_pos hat]
      simp only [Option.bind_eq_some_iff] at h
      obtain ⟨tacc, ht, h⟩ := h; cases h; exact ⟨tacc, ht, rfl⟩
    · rename_i hat; rw [if_neg hat]; cases h; rfl
  case balanceTransfer src dst bal =>
    obtain ⟨f, hs, t, ht, h⟩ := h; cases h; exact ⟨f, _, t, hs, rfl, ht, rfl⟩
  case storageWarmed a k | storageChanged a k had =>
    obtain ⟨acc, hs, sl, hk, h⟩ := h; cases h; exact ⟨acc, sl, hs, hk, rfl⟩
  case transientChange a k had => cases h; rfl
/-- the concrete undo refines `undoT`, whatever switch it is run with (`checkpoint_revert` passes the state's own) -/
theorem undoEntry_abs (db : Db) {sd : Bool} (s s' : JState) (e : Entry)
    (h : undoEntry sd s e = some s')
    (hz : ∀ a, e = .accountCreated a → ∀ k, db.storage a k = 0) : UndoOk db sd s s' e := by
  have hb {a acc} (hs : s.state a = some acc) := (absT_at db hs).1
  replace h := undoEntry_some h
  cases e
  case accountWarmed a =>
    obtain ⟨acc, hs, rfl⟩ := h
    exact ⟨absT_set_cold db hs true, rfl, rfl, rfl, rfl⟩
  case accountTouched a =>
    dsimp only at h
    split at h
    · rename_i hp
      rw [h]
      refine ⟨?_, rfl, rfl, rfl, rfl⟩
      simp only [undoT, unT, hp, and_self, if_true]
      rw [upd_self rfl]
    · rename_i hp
      obtain ⟨acc, hs, rfl⟩ := h
      refine ⟨(absT_set_touched db hs false).trans ?_, rfl, rfl, rfl, rfl⟩
      simp only [undoT, unT, maskT, hp, if_false, ite_self]
  case accountDestroyed a t was had =>
    obtain ⟨acc, s1, hs, rfl, h⟩ := h
    have e1 := absT_set_destroyed db hs was (U256.wadd acc.info.balance had)
    split at h
    · rename_i hat
      obtain ⟨tacc, ht, rfl⟩ := h
      refine ⟨?_, rfl, rfl, rfl, rfl⟩
      rw [absT_set_balance db ht, ← (absT_at db ht).1, e1]
      simp only [undoT, hb hs]
      rw [if_pos hat]
    · rename_i hat
      rw [h]
      refine ⟨e1.trans ?_, rfl, rfl, rfl, rfl⟩
      simp only [undoT, hb hs]
      rw [if_neg hat]
  case balanceTransfer src dst v =>
    obtain ⟨f, s1, t, hs, rfl, ht, rfl⟩ := h
    refine ⟨?_, rfl, rfl, rfl, rfl⟩
    rw [absT_set_balance db ht, ← (absT_at db ht).1, absT_set_balance db hs]
    simp only [undoT, hb hs]
  case nonceChange a =>
    obtain ⟨acc, hs, rfl⟩ := h
    refine ⟨(absT_set_nonce db hs _).trans ?_, rfl, rfl, rfl, rfl⟩
    simp only [undoT, (absT_at db hs).2.1]
  case accountCreated a =>
    obtain ⟨acc, hs, rfl⟩ := h
    exact ⟨absT_set_created db hs (hz a rfl) false 0, rfl, rfl, rfl, rfl⟩
  case storageWarmed a k =>
    obtain ⟨acc, sl, hs, hk, rfl⟩ := h
    refine ⟨(absT_set_slot db hs k _).trans ?_, rfl, rfl, rfl, rfl⟩
    simp only [undoT, (absT_at db hs).2.2.2.2, slotsOf_some db a acc.created hk, Bool.not_true]
  case storageChanged a k had =>
    obtain ⟨acc, sl, hs, hk, rfl⟩ := h
    refine ⟨(absT_set_slot db hs k _).trans ?_, rfl, rfl, rfl, rfl⟩
    simp only [undoT, (absT_at db hs).2.2.2.2, slotsOf_some db a acc.created hk]
  case transientChange a k had =>
    dsimp only at h
    rw [h]
    have e : (if had = 0 then none else some had : Option Nat).getD 0 = had := by
      by_cases h0 : had = 0 <;> simp [h0]
    refine ⟨?_, rfl, rfl, rfl, rfl⟩
    rw [absT_setTransient, e]; rfl
  case codeChange a =>
    obtain ⟨acc, hs, rfl⟩ := h
    exact ⟨absT_set_code db hs _ _, rfl, rfl, rfl, rfl⟩


theorem sdOf_eq {s s' : JState} (h : s'.spec = s.spec) : sdOf s' = sdOf s := by simp [sdOf, h]

theorem undoLevel_append (sd : Bool) (s : JState) (l1 l2 : List Entry) :
    undoLevel sd s (l1 ++ l2) = (undoLevel sd s l1).bind fun s1 => undoLevel sd s1 l2 := by
  induction l1 generalizing s with
  | nil => rfl
  | cons e es ih =>
    simp only [List.cons_append, undoLevel, bind]
    cases undoEntry sd s e with
    | none => rfl
    | some s1 => exact ih s1

theorem undoLevels_flatten (sd : Bool) (s : JState) (ls : List (List Entry)) :
    undoLevels sd s ls = undoLevel sd s ls.flatten := by
  induction ls generalizing s with
  | nil => rfl
  | cons l rest ih =>
    rw [List.flatten_cons, undoLevel_append]
    simp only [undoLevels, bind]
    cases undoLevel sd s l with
    | none => rfl
    | some s1 => exact ih s1

structure UndoneBy (db : Db) (s s' : JState) (es : List Entry) : Prop where
  abs : absT db s' = undoTs (sdOf s) (absT db s) es
  spec : s'.spec = s.spec
  pre : s'.preloaded = s.preloaded
  journal : s'.journal = s.journal
  logs : s'.logs = s.logs

theorem undoLevel_abs (db : Db) (l : List Entry) (s s' : JState)
    (h : undoLevel (sdOf s) s l = some s')
    (hz : ∀ a, Entry.accountCreated a ∈ l → ∀ k, db.storage a k = 0) : UndoneBy db s s' l := by
  induction l generalizing s with
  | nil => simp [undoLevel] at h; subst h; exact ⟨rfl, rfl, rfl, rfl, rfl⟩
  | cons e es ih =>
    simp only [undoLevel, bind, Option.bind] at h
    cases h1 : undoEntry (sdOf s) s e with
    | none => simp [h1] at h
    | some s1 =>
      simp [h1] at h
      obtain ⟨a1, a2, a3, a4, a5⟩ := undoEntry_abs db s s1 e h1 (fun a ha => hz a (by simp [ha]))
      have esd : sdOf s1 = sdOf s := sdOf_eq a2
      rw [← esd] at h
      have r := ih s1 h (fun a ha => hz a (by simp [ha]))
      exact ⟨by rw [r.abs, esd, a1]; rfl, r.spec.trans a2, r.pre.trans a3, r.journal.trans a4, r.logs.trans a5⟩

/-- the entries in the journal levels with index `≥ j` (newest first) -/
def above (j : Nat) (journal : List (List Entry)) : List Entry := (journal.take (journal.length - j)).flatten

/-- `revert_spec` with the levels flattened (`above`) and the switch as `sdOf`: the form the proofs of C06 use -/
theorem revert_some {s s' : JState} {cp : Checkpoint} (h : revert s cp = some s') :
    cp.journalI ≤ s.journal.length ∧
    ∃ s1, undoLevel (sdOf s) s (above cp.journalI s.journal) = some s1 ∧
      s' = { s1 with depth := decU64 s.depth, logs := s.logs.take cp.logI,
                     journal := s.journal.drop (s.journal.length - cp.journalI) } := by
  obtain ⟨hl, s1, hu, rfl⟩ := revert_spec h
  exact ⟨hl, s1, (undoLevels_flatten _ _ _).symm.trans hu, rfl⟩

theorem revert_abs (db : Db) (s s' : JState) (cp : Checkpoint) (h : revert s cp = some s')
    (hz : ∀ a, Entry.accountCreated a ∈ above cp.journalI s.journal → ∀ k, db.storage a k = 0) :
    cp.journalI ≤ s.journal.length ∧
    absT db s' = undoTs (sdOf s) (absT db s) (above cp.journalI s.journal) ∧
    s'.spec = s.spec ∧ s'.preloaded = s.preloaded ∧
    s'.journal = s.journal.drop (s.journal.length - cp.journalI) ∧ s'.logs = s.logs.take cp.logI := by
  obtain ⟨hle, s1, hu, rfl⟩ := revert_some h
  have r := undoLevel_abs db _ s s1 hu hz
  exact ⟨hle, r.abs, r.spec, r.pre, rfl, rfl⟩

/-! ## journal entries refer to entries of the state map that are present (no `unwrap` panic on revert) -/

/-- entries of the state map and of the storage maps are never removed (for accounts alone: `Dom.mono` in
`JournalDom`, `EvmRefine.Keeps`) -/
structure Grows (s s' : JState) : Prop where
  acct : ∀ a, (s.state a).isSome → (s'.state a).isSome
  slot : ∀ a acc k, s.state a = some acc → (acc.storage k).isSome →
    ∃ acc', s'.state a = some acc' ∧ (acc'.storage k).isSome

theorem Grows.refl (s : JState) : Grows s s := ⟨fun _ h => h, fun _ acc _ h1 h2 => ⟨acc, h1, h2⟩⟩

theorem Grows.trans {s s1 s2 : JState} (h1 : Grows s s1) (h2 : Grows s1 s2) : Grows s s2 :=
  ⟨fun a h => h2.acct a (h1.acct a h),
   fun a acc k ha hk => by
     obtain ⟨acc1, e1, k1⟩ := h1.slot a acc k ha hk
     exact h2.slot a acc1 k e1 k1⟩

theorem Grows.of_state_eq {s s' : JState} (h : s'.state = s.state) : Grows s s' :=
  ⟨fun a ha => by rw [h]; exact ha, fun a acc k ha hk => ⟨acc, by rw [h]; exact ha, hk⟩⟩

theorem Grows.setAcct {s : JState} {a : Addr} {acc' : Acct}
    (h : ∀ acc, s.state a = some acc → ∀ k, (acc.storage k).isSome → (acc'.storage k).isSome) :
    Grows s (setAcct s a acc') := by
  refine ⟨fun b hb => ?_, fun b acc k hb hk => ?_⟩
  · by_cases e : b = a
    · subst e; simp [setAcct_state_same]
    · rw [setAcct_state_ne _ _ e]; exact hb
  · by_cases e : b = a
    · subst e; exact ⟨acc', setAcct_state_same _ _ _, h acc hb k hk⟩
    · exact ⟨acc, by rw [setAcct_state_ne _ _ e]; exact hb, hk⟩

theorem refsOk_mono {s s' : JState} (g : Grows s s') {e : Entry} (h : refsOk s e) : refsOk s' e := by
  cases e <;> simp only [refsOk] at h ⊢
  case accountWarmed a => exact g.acct a h
  case accountTouched a => exact g.acct a h
  case accountDestroyed a t _ _ => exact ⟨g.acct a h.1, g.acct t h.2⟩
  case balanceTransfer a t _ => exact ⟨g.acct a h.1, g.acct t h.2⟩
  case nonceChange a => exact g.acct a h
  case accountCreated a => exact g.acct a h
  case codeChange a => exact g.acct a h
  case storageWarmed a k => obtain ⟨acc, h1, h2⟩ := h; exact g.slot a acc k h1 h2
  case storageChanged a k _ => obtain ⟨acc, h1, h2⟩ := h; exact g.slot a acc k h1 h2


theorem Grows.congr_right {s t t' : JState} (h : t'.state = t.state) (g : Grows s t) : Grows s t' :=
  Grows.trans g (Grows.of_state_eq h)

theorem Grows.congr_left {s s0 t : JState} (h : s.state = s0.state) (g : Grows s0 t) : Grows s t :=
  Grows.trans (Grows.of_state_eq h.symm) g

theorem refsOk_congr {s s' : JState} (h : s'.state = s.state) {e : Entry} (r : refsOk s e) : refsOk s' e :=
  refsOk_mono (Grows.of_state_eq h) r

theorem Grows.upd {s : JState} {a : Addr} {acc acc' : Acct} (hs : s.state a = some acc)
    (h : acc'.storage = acc.storage) : Grows s (Model.Journal.setAcct s a acc') :=
  Grows.setAcct (fun acc0 h0 k hk => by rw [hs] at h0; cases h0; rw [h]; exact hk)

theorem Grows.ins {s : JState} {a : Addr} {acc' : Acct} (hs : s.state a = none) :
    Grows s (Model.Journal.setAcct s a acc') :=
  Grows.setAcct (fun acc0 h0 => by rw [hs] at h0; cases h0)

theorem Grows.slot' {s : JState} {a : Addr} {acc : Acct} (hs : s.state a = some acc) (k : Nat) (sl : Slot) :
    Grows s (Model.Journal.setAcct s a (setSlot acc k sl)) :=
  Grows.setAcct (fun acc0 h0 j hj => by
    rw [hs] at h0; cases h0
    by_cases e : j = k
    · subst e; simp [setSlot]
    · simpa [setSlot, e] using hj)

theorem isSome_cases {α : Type} {o : Option α} (h : o.isSome) : ∃ x, o = some x := by
  cases o with
  | none => cases h
  | some x => exact ⟨x, rfl⟩

theorem undoEntry_grows {sd : Bool} {s s' : JState} {e : Entry} (h : undoEntry sd s e = some s') : Grows s s' := by
  replace h := undoEntry_some h
  cases e
  case accountWarmed a | nonceChange a | accountCreated a | codeChange a =>
    obtain ⟨acc, hs, rfl⟩ := h
    exact Grows.upd hs rfl
  case accountTouched a =>
    dsimp only at h
    split at h
    · rw [h]; exact Grows.refl _
    · obtain ⟨acc, hs, rfl⟩ := h
      exact Grows.upd hs rfl
  case accountDestroyed a t was had =>
    obtain ⟨acc, s1, hs, rfl, h⟩ := h
    split at h
    · obtain ⟨tacc, ht, rfl⟩ := h
      refine Grows.trans ?_ (Grows.upd ht rfl)
      exact Grows.upd hs rfl
    · rw [h]; exact Grows.upd hs rfl
  case balanceTransfer src dst v =>
    obtain ⟨f, s1, t, hs, rfl, ht, rfl⟩ := h
    refine Grows.trans ?_ (Grows.upd ht rfl)
    exact Grows.upd hs rfl
  case storageWarmed a k | storageChanged a k had =>
    obtain ⟨acc, sl, hs, hk, rfl⟩ := h
    exact Grows.slot' hs k _
  case transientChange a k had => dsimp only at h; rw [h]; exact Grows.of_state_eq rfl

theorem undoEntry_isSome {sd : Bool} {s : JState} {e : Entry} (h : refsOk s e) : (undoEntry sd s e).isSome := by
  cases e <;> simp only [refsOk] at h <;> simp only [undoEntry, bind, Option.bind]
  case accountWarmed a | nonceChange a | accountCreated a | codeChange a =>
    obtain ⟨acc, hs⟩ := isSome_cases h; simp [hs]
  case accountTouched a =>
    obtain ⟨acc, hs⟩ := isSome_cases h
    by_cases hp : sd = true ∧ a = PRECOMPILE3 <;> simp [hp, hs]
  case accountDestroyed a t was had =>
    obtain ⟨acc, hs⟩ := isSome_cases h.1
    obtain ⟨tacc, ht⟩ := isSome_cases h.2
    by_cases hat : a = t
    · subst hat; simp [hs]
    · have hta : ¬ t = a := fun e => hat e.symm
      simp [hs, hat, setAcct_state_ne _ _ hta, ht]
  case balanceTransfer a t had =>
    obtain ⟨acc, hs⟩ := isSome_cases h.1
    obtain ⟨tacc, ht⟩ := isSome_cases h.2
    by_cases hat : a = t
    · subst hat; simp [hs, setAcct_state_same]
    · have hta : ¬ t = a := fun e => hat e.symm
      simp [hs, setAcct_state_ne _ _ hta, ht]
  case storageWarmed a k | storageChanged a k had =>
    obtain ⟨acc, hs, hk⟩ := h
    obtain ⟨sl, hk⟩ := isSome_cases hk
    simp [hs, hk]
  case transientChange a k had => simp

theorem undoLevel_isSome {sd : Bool} (l : List Entry) (s : JState) (h : ∀ e, e ∈ l → refsOk s e) :
    ∃ s', undoLevel sd s l = some s' ∧ Grows s s' := by
  induction l generalizing s with
  | nil => exact ⟨s, rfl, Grows.refl _⟩
  | cons e es ih =>
    obtain ⟨s1, h1⟩ := isSome_cases (undoEntry_isSome (sd := sd) (h e (by simp)))
    have g1 := undoEntry_grows h1
    obtain ⟨s2, h2, g2⟩ := ih s1 (fun e' he' => refsOk_mono g1 (h e' (by simp [he'])))
    exact ⟨s2, by simp [undoLevel, bind, Option.bind, h1, h2], Grows.trans g1 g2⟩

theorem _root_.Revm.Spec.JournalAbs.JRefs.new (spec : Nat) (pre : Addr → Bool) : JRefs (JState.new spec pre) := by
  intro l hl e he; simp [JState.new] at hl; subst hl; cases he

theorem revert_isSome {s : JState} {cp : Checkpoint} (h : JRefs s) (hlen : cp.journalI ≤ s.journal.length) :
    ∃ s', revert s cp = some s' ∧ Grows s s' ∧ JRefs s' := by
  have hnl : ¬ s.journal.length < cp.journalI := Nat.not_lt.2 hlen
  obtain ⟨s1, h1, g1⟩ := undoLevel_isSome (sd := decide (s.spec ≥ SPURIOUS_DRAGON)) (above cp.journalI s.journal) s
    (fun e he => by
      obtain ⟨l, hl, hel⟩ := List.mem_flatten.1 he
      exact h l (List.mem_of_mem_take hl) e hel)
  refine ⟨{ s1 with depth := decU64 s.depth, logs := s.logs.take cp.logI,
                      journal := s.journal.drop (s.journal.length - cp.journalI) }, ?_, ?_, ?_⟩
  · rw [above, ← undoLevels_flatten] at h1
    simp [revert, hnl, h1]
  · exact Grows.trans g1 (Grows.of_state_eq rfl)
  · intro l hl e he
    exact refsOk_mono (Grows.trans g1 (Grows.of_state_eq rfl)) (h l (List.mem_of_mem_drop hl) e he)


theorem undoLevel_grows {sd : Bool} (l : List Entry) {s s' : JState} (h : undoLevel sd s l = some s') : Grows s s' := by
  induction l generalizing s with
  | nil => simp [undoLevel] at h; subst h; exact Grows.refl _
  | cons e es ih =>
    simp only [undoLevel, bind, Option.bind] at h
    cases h1 : undoEntry sd s e with
    | none => simp [h1] at h
    | some s1 => simp [h1] at h; exact Grows.trans (undoEntry_grows h1) (ih h)

theorem revert_grows {s s' : JState} {cp : Checkpoint} (h : revert s cp = some s') : Grows s s' := by
  obtain ⟨_, s1, hu, rfl⟩ := revert_some h
  exact Grows.trans (undoLevel_grows _ hu) (Grows.of_state_eq rfl)

end Revm.Proofs.Journal
