import Revm.Proofs.EvmLinkLoop
/-! Ether conservation (C08) along the loop. Every `WStep` is one `JournalAbs.step` to which C08's `step_inv` applies (its
proviso, a funded creation, is part of the step), so the ledger invariant survives every `WRun` (`WRun.pres`). Every
`Move` of `run_the_loop` takes the world along a `WRun` (`move_wrun`, `steps_wrun`, `runFirst_wrun`); hence `pres_steps`:
conservation along any run of the loop, with no fuel in the statement. -/
namespace Revm.Proofs.EvmLink
open Revm Revm.Model Revm.Model.Evm
open Revm.Spec.JournalAbs (Op)
open Revm.Spec.Ether Revm.Proofs.Ether
open Revm.Proofs.Evm (Move)
open Revm.Proofs.EvmInstSd (Resolved)

/-- C08's ledger invariant `BInv` on a world: undoing the whole journal restores the balances `B`, so that the balances
over `L` plus what self-destructs burnt sum to `sumOver L B` (`BInv.ledger`) -/
def EI (L : List Nat) (B : Nat → Nat) (w : World) : Prop := BInv L B (absB w.db w.js)

/-- the proviso of `EI`: the list `L` the ledger sums over names every account the journal has loaded -/
def KeysIn (L : List Nat) (w : World) : Prop := ∀ a, w.js.state a ≠ none → a ∈ L

/-- what a stretch of a transaction keeps: the ledger invariant survives if `L` covers the accounts at its END (`kle`
carries the cover back to every earlier world, so it is asked once) -/
structure Pres (L : List Nat) (B : Nat → Nat) (w w' : World) : Prop where
  kle : KLe w.js w'.js
  ei : KeysIn L w' → EI L B w → EI L B w'
  /-- the backing store's accounts are never written during a transaction -/
  dbb : w'.db.basic = w.db.basic

theorem Pres.refl (L B) (w : World) : Pres L B w w := ⟨KLe.refl _, fun _ h => h, rfl⟩

theorem Pres.trans {L B} {w w1 w2 : World} (p1 : Pres L B w w1) (p2 : Pres L B w1 w2) : Pres L B w w2 :=
  ⟨p1.kle.trans p2.kle, fun hK h => p2.ei hK (p1.ei (fun a ha => hK a (p2.kle a ha)) h),
   p2.dbb.trans p1.dbb⟩

theorem absB_db {db db' : Journal.Db} (h : db'.basic = db.basic) (s : Journal.JState) : absB db' s = absB db s := by
  have : bal db' s = bal db s := by
    funext x
    cases hs : s.state x with
    | none => rw [bal_none hs, bal_none hs, h]
    | some acc => rw [bal_some hs, bal_some hs]
  simp only [absB, this]

theorem opFunded.funded {w : World} {cps} {op : Op} (h : opFunded w op) : Funded w.db { js := w.js, cps := cps } op := by
  cases op <;> first | trivial | exact h.1

theorem pres_addCode {L B} (w : World) (h : Nat) (c : List Nat) : Pres L B w (w.addCode h c) :=
  ⟨KLe.of_state_eq (by rw [addCode_js]), fun _ hi => by
    unfold EI at *; rw [addCode_js, absB_db (Proofs.EvmHost.addCode_db_basic w h c)]; exact hi, Proofs.EvmHost.addCode_db_basic w h c⟩

theorem Pres.of_quiet {L B} {w w' : World} (q : Quiet w w') : Pres L B w w' :=
  ⟨q.kle, fun _ h => by unfold EI at *; rw [q.db, q.same.absB]; exact h, by rw [q.db]⟩

section
variable {L : List Nat} {B : Nat → Nat} (hn : L.Nodup) (hB : sumOver L B < W)
include hn hB

/-- one step of a history: C08's `step_inv` -/
theorem WStep.pres {w cps op w' cps'} (s : WStep w cps op w' cps') : Pres L B w w' :=
  ⟨s.kle, fun hK h => by
    unfold EI at *
    rw [s.only.db]
    exact step_inv hn hB h (fun a ha => hK a (s.named a (opAddrs_sub ha))) s.funded.funded s.step, by rw [s.only.db]⟩

theorem Hist.pres {w cps ops w' cps'} (h : Hist w cps ops w' cps') : Pres L B w w' := by
  induction h with
  | nil => exact Pres.refl _ _ _
  | cons s _ ih => exact (s.pres hn hB).trans ih

theorem WRun.pres {w w' : World} (h : WRun w w') : Pres L B w w' := by
  induction h with
  | refl => exact Pres.refl _ _ _
  | hist h _ ih => exact (h.pres hn hB).trans ih
  | code h c _ ih => exact (pres_addCode _ _ _).trans ih
  | quiet q _ ih => exact (Pres.of_quiet q).trans ih

end

def nextWorld : Next Journal.Checkpoint → World
  | .run _ w => w
  | .ended _ _ _ _ _ w => w
  | .done _ w => w

theorem deliver_world {kind : FrameKind} {o : Interp.ChildResult} {parent : JFrame} {rest : List JFrame}
    {mem : Memory.SharedMemory} {w : World} {nx} (h : deliver kind o parent rest mem w = .ok nx) : nextWorld nx = w := by
  rcases deliver_ok h with ⟨s, _, rfl⟩ | ⟨r, out, s, _, rfl⟩ <;> rfl

theorem _root_.Revm.Proofs.EvmInstSd.Resolved.wrun {he : HostEnv} {s : Interp.IState} {w w1 : World} {d : Interp.Done}
    (h : Resolved he s w d w1) : WRun w w1 := by
  cases h with
  | pure d _ => exact .refl _
  | host op k resp w' _ ha => exact (answer_hist ha []).wrun

theorem frameReturn_wrun {cfg : Cfg} {top : JFrame} {w w1 : World} {res res'}
    (h : frameReturn journalOps cfg top w res = .ok (res', w1)) : WRun w w1 := by
  rcases frameReturn_cases h with ⟨_, _, _, h⟩ | ⟨_, _, h⟩
  · obtain ⟨_, _, hh⟩ := callReturn_hist (cps := [top.checkpoint]) (i := 0) h rfl
    exact hh.wrun
  · rcases createReturn_hist (cps := [top.checkpoint]) (i := 0) h rfl with hh | ⟨hash, code, w2, _, hh, rfl⟩
    · exact hh.wrun
    · exact .hist hh (.code hash code (.refl _))

theorem makeFrame_wrun {cfg : Cfg} {w w1 : World} {a : Interp.Action} {mem fr}
    (h : makeFrame journalOps cfg w a mem = .ok (fr, w1)) : WRun w w1 := by
  rcases makeFrame_cases h with ⟨i, rfl, hm⟩ | ⟨i, rfl, hm⟩
  · rcases makeCallFrame_hist hm [] with ⟨_, _, rfl⟩ | ⟨_, _, _, _, hh, _⟩
    · exact .refl _
    · exact hh.wrun
  · rcases makeCreateFrame_hist hm [] with ⟨_, _, rfl⟩ | ⟨_, _, _, hh, _, he⟩
    · exact .refl _
    · obtain ⟨_, _, h2⟩ := he.hist
      exact .hist hh h2.wrun

/-- a `WRun` and not a `Hist`: `create_return` may add code to the store between two histories -/
theorem move_wrun {cfg : Cfg} {b : Bool} {n m : Next Journal.Checkpoint} (h : Move journalOps cfg b n m) :
    WRun (nextWorld n) (nextWorld m) := by
  cases h with
  | next hr => exact hr.wrun
  | halt hr => exact hr.wrun
  | push hr hmk => exact hr.wrun.trans (makeFrame_wrun hmk)
  | early hr hmk hdl => rw [deliver_world hdl]; exact hr.wrun.trans (makeFrame_wrun hmk)
  | done hm hret => exact frameReturn_wrun hret
  | ret hm hret hdl => rw [deliver_world hdl]; exact frameReturn_wrun hret

theorem steps_wrun {cfg : Cfg} {n m : Next Journal.Checkpoint} (t : Steps cfg n m) : WRun (nextWorld n) (nextWorld m) :=
  t.inv (P := fun m => WRun (nextWorld n) (nextWorld m)) (fun hm hp => hp.trans (move_wrun hm)) (.refl _)

section loop
variable {L : List Nat} {B : Nat → Nat} (hn : L.Nodup) (hB : sumOver L B < W)
include hn hB

/-- C08 on the loop: the ledger invariant along every run, whatever the fuel -/
theorem pres_steps {cfg : Cfg} {n m : Next Journal.Checkpoint} (t : Steps cfg n m) :
    Pres L B (nextWorld n) (nextWorld m) := (steps_wrun t).pres hn hB

end loop

theorem runFirst_wrun {cfg : Cfg} {fuel : Nat} {first : FrameOrResult Journal.Checkpoint} {w w' : World} {res}
    (h : runFirst journalOps cfg fuel first w = .ok (res, w')) : WRun w w' := by
  cases first with
  | frame f => exact steps_wrun (contOf_steps fuel (.run [f] w) h)
  | result r =>
    simp only [runFirst, pure, Except.pure, Except.ok.injEq, Prod.mk.injEq] at h
    rw [← h.2]; exact .refl _

end Revm.Proofs.EvmLink
