import Revm.Proofs.BundleMerge
/-! Per address: what `BundleAccount::revert` does with the `AccountRevert` recorded by `update_and_create_revert`
(C17, second sentence), and everything one merge leaves at an address (`AddrPost` / `oneAcct_post`; C16's `merge_acct`
is a projection of it). `rev_core_some`: the recorded revert leads from an account that describes the state after the
merge group (`OKAcc`), possibly itself the result of earlier reverts, to one that describes the state before it;
`RevTriple`: the same for bundle entries as `revert_latest` treats them (absent entry = fresh account). -/
namespace Revm.Proofs.Bundle
open Revm.Model.Bundle Revm.Spec.Bundle


theorem revert_eq (b : BAcct) (r : ARevert) : b.revert r =
    match r.account with
    | .doNothing => (⟨b.info, b.origInfo, revStorage r.storage b.storage, r.prevStatus⟩, false)
    | .deleteIt => if b.origInfo.isNone then (⟨none, b.origInfo, [], r.prevStatus⟩, true)
        else (⟨none, b.origInfo, zeroed b.storage, r.prevStatus⟩, false)
    | .revertTo i => (⟨some i, b.origInfo, revStorage r.storage b.storage, r.prevStatus⟩, false) := by
  unfold BAcct.revert
  cases r.account <;> rfl

theorem revert_status (b : BAcct) (s : Status) (r : ARevert) :
    (⟨b.info, b.origInfo, b.storage, s⟩ : BAcct).revert r = b.revert r := by
  rw [revert_eq, revert_eq]

def keysSub (a b : BMap Slot) : Prop := ∀ k, (a.get k).isSome = true → (b.get k).isSome = true

theorem keysSub_nil (b : BMap Slot) : keysSub [] b := fun k h => by simp [BMap.get] at h

theorem keysSub_trans {a b c : BMap Slot} (h1 : keysSub a b) (h2 : keysSub b c) : keysSub a c :=
  fun k h => h2 k (h1 k h)

theorem revStorage_keys (rs : BMap RevSlot) (st : BMap Slot) (hw : WF rs)
    (hsh : ∀ k x, rs.get k = some x → ∃ v, x = RevSlot.some v) : keysSub st (revStorage rs st) := by
  intro k hk
  rw [revStorage_get rs hw]
  cases hg : rs.get k with
  | none => simpa [Option.elim] using hk
  | some x => obtain ⟨v, hx⟩ := hsh k x hg; subst hx; simp [Option.elim, rvF]

/-! ## accounts that describe a plain state -/

/-- `to_plain_state` of `b` turns the pre-bundle (info, slots) `P` into `M` (what `BundleOK` asks per address) -/
structure OKAcc (b : BAcct) (Pi : Option Info) (Ps : Nat → Nat) (Mi : Option Info) (Ms : Nat → Nat) : Prop where
  info : b.info.map wc = Mi
  orig : b.origInfo.map wc = Pi
  stor : StorageInv b Ps Ms

theorem OKAcc.congr {b : BAcct} {Pi : Option Info} {Ps : Nat → Nat} {Mi Ri : Option Info} {Ms Rs : Nat → Nat}
    (h : OKAcc b Pi Ps Ri Rs) (hi : Mi = Ri) (hs : ∀ k, Ms k = Rs k) : OKAcc b Pi Ps Mi Ms := by
  have : Ms = Rs := funext hs
  subst hi; subst this; exact h

/-- reverted entry `b'?` of an address vs. the entry `b?` the forward-built bundle had at that time; `P` = pre-bundle,
`M` = reference (info, slots) at that time. `none, some b`: no entry (`revert` removes it on `DeleteIt` with no original
info) where the forward bundle keeps a destroyed one; the address is absent before the bundle and at that time. -/
def RInv (b'? b? : Option BAcct) (Pi : Option Info) (Ps : Nat → Nat) (Mi : Option Info) (Ms : Nat → Nat) : Prop :=
  match b'?, b? with
  | none, none => Mi = Pi ∧ ∀ k, Ms k = Ps k
  | none, some b => b.status.wasDestroyed = true ∧ Pi = none ∧ Mi = none ∧ (∀ k, Ms k = 0) ∧ (∀ k, Ps k = 0)
  | some b', none => OKAcc b' Pi Ps Mi Ms
  | some b', some b => OKAcc b' Pi Ps Mi Ms ∧ b'.status.wasDestroyed = b.status.wasDestroyed ∧
      (b.status.wasDestroyed = false → keysSub b.storage b'.storage)

/-- storage of `BundleAccount::revert` (`DoNothing` / `RevertTo`) for a non-wiping revert -/
theorem stor_after (b' : BAcct) (r : ARevert) (i : Option Info) (Ps Ms Rs : Nat → Nat) (ms : Status)
    (hps : r.prevStatus = ms) (hw : WF r.storage) (hst : StorageInv b' Ps Rs)
    (hfam : b'.status.wasDestroyed = ms.wasDestroyed)
    (hv : ∀ k, revSlotV true r.storage false Ps Rs k = Ms k)
    (hsh : ms.wasDestroyed = false → ∀ k x, r.storage.get k = some x →
      (∃ v, x = RevSlot.some v) ∧ (b'.storage.get k).isSome = true) :
    StorageInv ⟨i, b'.origInfo, revStorage r.storage b'.storage, r.prevStatus⟩ Ps Ms ∧
    (ms.wasDestroyed = false → keysSub b'.storage (revStorage r.storage b'.storage)) := by
  subst hps
  have h1 := (storageInv_iff _ _ _).mp hst
  rw [hfam] at h1
  refine ⟨storageInv_mk.mpr (h1.revert r.storage Ps Ms hw hv (fun k hk => ?_) (fun ho k v hk => ?_)),
    fun hnd => revStorage_keys _ _ hw (fun k x hg => (hsh hnd k x hg).1)⟩
  · cases hwd : r.prevStatus.wasDestroyed with
    | true => rfl
    | false => obtain ⟨⟨v, hx⟩, _⟩ := hsh hwd k _ hk; cases hx
  · exact (hsh (by simpa using ho) k _ hk).2

/-- the `InfoRevert` cases of `BundleAccount::revert`; `S`: what else the caller needs of the resulting storage -/
theorem revert_cases {r : ARevert} {b' : BAcct} {Pi Mi Ri : Option Info} {Ps Ms : Nat → Nat} (S : BMap Slot → Prop)
    (hio : revInfoOK r.account Mi Ri) (hi : b'.info.map wc = Ri) (ho : b'.origInfo.map wc = Pi)
    (hkeep : r.account ≠ .deleteIt → ∀ i,
      StorageInv ⟨i, b'.origInfo, revStorage r.storage b'.storage, r.prevStatus⟩ Ps Ms ∧
      S (revStorage r.storage b'.storage))
    (hdel : r.account = .deleteIt → b'.origInfo ≠ none →
      StorageInv ⟨none, b'.origInfo, zeroed b'.storage, r.prevStatus⟩ Ps Ms ∧ S (zeroed b'.storage)) :
    ((b'.revert r).2 = true → Pi = none ∧ Mi = none) ∧
    ((b'.revert r).2 = false → OKAcc (b'.revert r).1 Pi Ps Mi Ms ∧ (b'.revert r).1.status = r.prevStatus ∧
      S (b'.revert r).1.storage) := by
  rw [revert_eq]
  cases hra : r.account with
  | doNothing =>
    rw [hra] at hio
    obtain ⟨s1, s2⟩ := hkeep (by rw [hra]; simp) b'.info
    exact ⟨fun h => (by cases h), fun _ => ⟨⟨by rw [show Mi = Ri from hio]; exact hi, ho, s1⟩, rfl, s2⟩⟩
  | revertTo i =>
    rw [hra] at hio
    obtain ⟨s1, s2⟩ := hkeep (by rw [hra]; simp) (some i)
    exact ⟨fun h => (by cases h), fun _ => ⟨⟨by rw [show Mi = some (wc i) from hio]; rfl, ho, s1⟩, rfl, s2⟩⟩
  | deleteIt =>
    rw [hra] at hio
    have hMn : Mi = none := hio
    simp only
    cases hon : b'.origInfo with
    | none =>
      simp only [Option.isNone, if_true]
      exact ⟨fun _ => ⟨by rw [← ho, hon]; rfl, hMn⟩, fun h => (by cases h)⟩
    | some o =>
      simp only [Option.isNone, Bool.false_eq_true, if_false]
      obtain ⟨s1, s2⟩ := hdel hra (by rw [hon]; simp)
      rw [hon] at s1
      exact ⟨fun h => (by cases h), fun _ => ⟨⟨by rw [hMn]; rfl, by rw [← ho, hon], s1⟩, trivial, s2⟩⟩

/-- a non-wiping revert that satisfies the plain-state reading `RevSem`, applied to an account that describes
the state after the group, gives an account that describes the state before the group — or removes the account,
and then the address did not exist before the bundle nor before the group -/
theorem revert_okacc (r : ARevert) (ms : Status) (Pi : Option Info) (Ps : Nat → Nat) (Mi : Option Info)
    (Ms : Nat → Nat) (Ri : Option Info) (Rs : Nat → Nat)
    (hsem : RevSem (some r) ms Ps Mi Ms Ri Rs) (hm : Facts ms Mi Ms) (b' : BAcct) (hOK : OKAcc b' Pi Ps Ri Rs)
    (hnw : r.wipe = false)
    (hfam : r.account ≠ .deleteIt → b'.status.wasDestroyed = ms.wasDestroyed)
    (hsh : r.account ≠ .deleteIt → ms.wasDestroyed = false → ∀ k x, r.storage.get k = some x →
      (∃ v, x = RevSlot.some v) ∧ (b'.storage.get k).isSome = true)
    (hdel : r.account = .deleteIt → ms.wasDestroyed = false → Pi = none) :
    ((b'.revert r).2 = true → Pi = none ∧ Mi = none) ∧
    ((b'.revert r).2 = false → OKAcc (b'.revert r).1 Pi Ps Mi Ms ∧ (b'.revert r).1.status = ms ∧
      (ms.wasDestroyed = false → keysSub b'.storage (b'.revert r).1.storage)) := by
  obtain ⟨hps, hwr, hio, hsl, _⟩ := hsem
  rw [hnw] at hsl
  rw [← hps]
  refine revert_cases (fun st => r.prevStatus.wasDestroyed = false → keysSub b'.storage st) hio hOK.info hOK.orig
    (fun hnd i => stor_after b' r i Ps Ms Rs r.prevStatus rfl hwr hOK.stor (by rw [hps]; exact hfam hnd) hsl
      (by rw [hps]; exact hsh hnd))
    (fun hd hon => ?_)
  -- `DeleteIt` on an account with original info: the address did not exist at the last merge, so it was destroyed
  have hMn : Mi = none := by rw [hd] at hio; exact hio
  cases hwd : r.prevStatus.wasDestroyed with
  | false =>
    have := hdel hd (by rw [← hps]; exact hwd)
    rw [← hOK.orig] at this
    exact absurd ((map_wc_none _).mp this) hon
  | true =>
    exact ⟨storageInv_mk.mpr (by rw [hwd]; exact zeroed_d _ hOK.stor.1 Ms (hm.none_zero hMn)), fun h => by cases h⟩

/-! ## the recorded revert undoes the step that recorded it -/

section path
variable {acc : BAcct} {t : Transition} {c : CacheAcct} {Pi : Option Info} {Ps : Nat → Nat} {Mi : Option Info}
  {Ms : Nat → Nat} {Ri : Option Info} {Rs : Nat → Nat}
  (hb : BInvAcc acc t.prevStatus Pi Ps Mi Ms) (hm : Facts t.prevStatus Mi Ms)
  (ht : TInv t c Mi Ms Rs) (hc : CInv c Ri Rs)
include hb hm ht hc

omit hm hc in
theorem nd_keys {acc' : BAcct} {rev : Option ARevert} (hs : UStep acc t acc' rev) (hnd : t.status.wasDestroyed = false)
    (k : Nat) (hk : (acc.storage.get k).isSome = true ∨ (t.storage.get k).isSome = true) :
    (acc'.storage.get k).isSome = true := by
  obtain ⟨_, ir, X, e, _, hX⟩ := hs.of_nd (trOK_shape ht.ok).1 hnd
  rw [e]
  rcases hX with hX | ⟨hX, h5⟩
  · rw [hX]; exact extendStorage_keys _ _ ht.stor.1 k hk
  · rw [hX]; rw [hb.loadedNil h5] at hk; exact hk.resolve_left (by simp [BMap.get])

omit hc in
/-- `revert` with the recorded revert leads from an account that describes the state after the group to one that
describes the state before it. The account may describe its states over another pre-state `P'` (bundles joined by
`extend`): `hdelP`, an address that did not exist at the last merge and is not in the bundle did not exist at `P'`
either; `hwP`, a wiping revert needs the same pre-bundle slots. -/
theorem rev_core_some (Pi' : Option Info) (Ps' : Nat → Nat) (hdelP : t.prevStatus = .loadedNotExisting → Pi' = none)
    {acc' : BAcct} {r : ARevert} (hs : UStep acc t acc' (some r)) (hsem : RevSem (some r) t.prevStatus Ps Mi Ms Ri Rs)
    (hwP : r.wipe = true → ∀ k, Ps' k = Ps k)
    (b' : BAcct) (hOK : OKAcc b' Pi' Ps' Ri Rs)
    (hwd : b'.status.wasDestroyed = t.status.wasDestroyed)
    (hk : t.status.wasDestroyed = false → ∀ k, ((acc.storage.get k).isSome = true ∨ (t.storage.get k).isSome = true) →
      (b'.storage.get k).isSome = true)
    (hwo : wipeOk (some b') r = true) :
    ((b'.revert r).2 = true → Pi' = none ∧ Mi = none ∧ ∀ k, Ms k = 0) ∧
    ((b'.revert r).2 = false → OKAcc (b'.revert r).1 Pi' Ps' Mi Ms ∧
      (b'.revert r).1.status.wasDestroyed = acc.status.wasDestroyed ∧
      (acc.status.wasDestroyed = false → keysSub acc.storage (b'.revert r).1.storage)) := by
  have h5 := (trOK_shape ht.ok).1
  have hbs := hb.status
  cases hw : r.wipe with
  | false =>
    have hfam' : r.account ≠ .deleteIt → t.status.wasDestroyed = acc.status.wasDestroyed := fun hnd =>
      hs.fam h5 (fun _ => ⟨r, rfl, hnd⟩) (fun r' hr' => by injection hr' with e; rw [← e]; exact hw)
    have hfam : r.account ≠ .deleteIt → b'.status.wasDestroyed = t.prevStatus.wasDestroyed := by
      intro hnd; rw [hwd, hfam' hnd, hbs]
    have hsh : r.account ≠ .deleteIt → t.prevStatus.wasDestroyed = false → ∀ k x, r.storage.get k = some x →
        (∃ v, x = RevSlot.some v) ∧ (b'.storage.get k).isSome = true := by
      intro hnd hpw k x hg
      rw [← hbs] at hpw
      have htn : t.status.wasDestroyed = false := by rw [hfam' hnd]; exact hpw
      obtain ⟨_, ir, X, _, e2, _⟩ := hs.of_nd h5 htn
      rw [filterEmpty_eq_some _ _ e2.symm] at hg
      obtain ⟨s, hu, hx⟩ := prevStorage_listed ht.stor.1 hg
      exact ⟨⟨s.orig, hx⟩, hk htn k (Or.inr (by rw [hu]; rfl))⟩
    have hdel : r.account = .deleteIt → t.prevStatus.wasDestroyed = false → Pi' = none := by
      intro hd hpw
      have hMn : Mi = none := by have := hsem.2.2.1; rw [hd] at this; exact this
      have hhi : hasInfo t.prevStatus = false := by
        have := hm.some_iff; rw [hMn] at this; exact this.symm
      exact hdelP (hasInfo_false_nd _ hhi hpw)
    obtain ⟨g1, g2⟩ := revert_okacc r t.prevStatus Pi' Ps' Mi Ms Ri Rs (hsem.of_nowipe hw) hm b' hOK hw hfam hsh hdel
    refine ⟨fun hf => ?_, fun hf => ?_⟩
    · obtain ⟨q1, q2⟩ := g1 hf
      exact ⟨q1, q2, hm.none_zero q2⟩
    · obtain ⟨q1, q2, q3⟩ := g2 hf
      refine ⟨q1, by rw [q2, hbs], fun hwa => ?_⟩
      have hpw : t.prevStatus.wasDestroyed = false := by rw [← hbs]; exact hwa
      have hnd : r.account ≠ .deleteIt := by
        intro hd
        have hPn := hdel hd hpw
        -- `DeleteIt` with no original info removes the account
        have hon : b'.origInfo = none := by
          have := hOK.orig; rw [hPn] at this; exact (map_wc_none _).mp this
        rw [revert_eq, hd] at hf
        simp [hon] at hf
      have htn : t.status.wasDestroyed = false := by rw [hfam' hnd]; exact hwa
      exact keysSub_trans (fun k hk' => hk htn k (Or.inl hk')) (q3 hpw)
  | true =>
    obtain ⟨hlive, w1, hn⟩ := hs.of_wipe rfl hw
    have w2 := (live_status _ hlive).1
    have hnil : r.storage = [] ∧ b'.storage = [] := by
      simp only [wipeOk, hw, Bool.not_true, Bool.false_or, Bool.and_eq_true, List.isEmpty_iff] at hwo
      exact hwo
    have haccnil : acc.storage = [] := hn hnil.1
    obtain ⟨hps, hwr, hio, hsl, _⟩ := hsem
    have hMP : ∀ k, Ms k = Ps' k := by
      intro k
      have := hsl k
      rw [hnil.1, hw] at this
      rw [hwP hw k]
      simpa [revSlotV, BMap.get] using this.symm
    have hpw : r.prevStatus.wasDestroyed = false := by rw [hps, ← hbs]; exact w2
    have hstor : ∀ i : Option Info, StorageInv ⟨i, b'.origInfo, [], r.prevStatus⟩ Ps' Ms := fun i =>
      storageInv_mk.mpr (by rw [hpw]; exact SRel.nil hMP)
    have hwda : r.prevStatus.wasDestroyed = acc.status.wasDestroyed := by rw [hps, ← hbs]
    have hS : ∀ st : BMap Slot, acc.status.wasDestroyed = false → keysSub acc.storage st :=
      fun st _ => by rw [haccnil]; exact keysSub_nil _
    obtain ⟨g1, g2⟩ := revert_cases (fun st => acc.status.wasDestroyed = false → keysSub acc.storage st)
      hio hOK.info hOK.orig
      (fun _ i => by rw [hnil.1, hnil.2]; exact ⟨hstor i, hS _⟩)
      (fun _ _ => by rw [hnil.2]; exact ⟨hstor none, hS _⟩)
    refine ⟨fun hf => ?_, fun hf => ?_⟩
    · obtain ⟨q1, q2⟩ := g1 hf
      exact ⟨q1, q2, hm.none_zero q2⟩
    · obtain ⟨q1, q2, q3⟩ := g2 hf
      exact ⟨q1, by rw [q2]; exact hwda, q3⟩

end path

/-! ## bundle entries under `revert_latest` -/

/-- the account `revert_latest` starts from when the address is not in the bundle -/
def freshAcct : BAcct := ⟨none, none, [], .loadedNotExisting⟩

/-- what `revert_latest` does to the bundle entry of one address (`none` = not in the bundle) -/
def revApply (b? : Option BAcct) (r : ARevert) : Option BAcct :=
  if ((b?.getD freshAcct).revert r).2 then none else some ((b?.getD freshAcct).revert r).1

/-- `revApply`, and below `wipeOk`, for an address that may have no revert in the block -/
def revApplyO (b? : Option BAcct) (rev : Option ARevert) : Option BAcct :=
  match rev with | none => b? | some r => revApply b? r

def wipeOkO (b? : Option BAcct) (rev : Option ARevert) : Bool :=
  match rev with | none => true | some r => wipeOk b? r

/-- one iteration of the loop of `revert_latest` -/
def rlStep (st : BMap BAcct) (e : Nat × ARevert) : BMap BAcct :=
  match st.get e.1 with
  | some acc => if (acc.revert e.2).2 then st.del e.1 else st.set e.1 (acc.revert e.2).1
  | none => if (freshAcct.revert e.2).2 then st else st.set e.1 (freshAcct.revert e.2).1

theorem rlStep_get (st : BMap BAcct) (e : Nat × ARevert) (k : Nat) :
    (rlStep st e).get k = if e.1 = k then revApply (st.get k) e.2 else st.get k := by
  by_cases hk : e.1 = k
  · subst hk
    simp only [if_true, rlStep, revApply]
    cases hg : st.get e.1 with
    | none =>
      simp only [Option.getD]
      by_cases hf : (freshAcct.revert e.2).2 = true
      · simp only [hf, if_true]; exact hg
      · simp only [hf, Bool.false_eq_true, if_false, get_set, if_true]
    | some acc =>
      simp only [Option.getD]
      by_cases hf : (acc.revert e.2).2 = true
      · simp only [hf, if_true, get_del]
      · simp only [hf, Bool.false_eq_true, if_false, get_set, if_true]
  · simp only [hk, if_false, rlStep]
    cases hg : st.get e.1 with
    | none =>
      simp only
      by_cases hf : (freshAcct.revert e.2).2 = true
      · simp only [hf, if_true]
      · simp only [hf, Bool.false_eq_true, if_false, get_set, hk]
    | some acc =>
      simp only
      by_cases hf : (acc.revert e.2).2 = true
      · simp only [hf, if_true, get_del, hk, if_false]
      · simp only [hf, Bool.false_eq_true, if_false, get_set, hk]

theorem rlStep_WF (st : BMap BAcct) (e : Nat × ARevert) (hw : WF st) : WF (rlStep st e) := by
  unfold rlStep
  cases st.get e.1 with
  | none =>
    simp only
    by_cases hf : (freshAcct.revert e.2).2 = true
    · simp only [hf, if_true]; exact hw
    · simp only [hf, Bool.false_eq_true, if_false]; exact WF_set _ _ _ hw
  | some acc =>
    simp only
    by_cases hf : (acc.revert e.2).2 = true
    · simp only [hf, if_true]; exact WF_del _ _ hw
    · simp only [hf, Bool.false_eq_true, if_false]; exact WF_set _ _ _ hw

theorem rl_get (blk : BMap ARevert) (hw : WF blk) (st : BMap BAcct) (a : Nat) :
    (blk.foldl rlStep st).get a = revApplyO (st.get a) (blk.get a) := by
  rw [foldl_get (F := fun r o => revApply o r) rlStep_get blk hw st a]
  cases blk.get a <;> rfl

/-- what the pre-state `P'` of the bundle the revert is applied to must share with the pre-state `P` of the bundle
that recorded it (`P' = P` for `revert` on the recording bundle itself; differs after `extend`) -/
def RevCompat (rev : Option ARevert) (b0? : Option BAcct) (Ps : Nat → Nat) (Pi' : Option Info) (Ps' : Nat → Nat)
    (Mi : Option Info) : Prop :=
  ∀ r, rev = some r → (b0? = none → Mi = none → Pi' = none) ∧ (Pi' = none → ∀ k, Ps' k = 0) ∧
    (r.wipe = true → ∀ k, Ps' k = Ps k)

/-- `rev` leads from (a reverted entry matching) `b1?` / reference `R` back to `b0?` / reference `M` -/
def RevTriple (rev : Option ARevert) (b0? b1? : Option BAcct) (Ps : Nat → Nat)
    (Mi : Option Info) (Ms : Nat → Nat) (Ri : Option Info) (Rs : Nat → Nat) : Prop :=
  ∀ (Pi' : Option Info) (Ps' : Nat → Nat) b'?, RevCompat rev b0? Ps Pi' Ps' Mi → RInv b'? b1? Pi' Ps' Ri Rs →
    wipeOkO b'? rev = true → RInv (revApplyO b'? rev) b0? Pi' Ps' Mi Ms

theorem RInv.congr {b'? b? : Option BAcct} {Pi : Option Info} {Ps : Nat → Nat} {Mi Ri : Option Info}
    {Ms Rs : Nat → Nat} (h : RInv b'? b? Pi Ps Ri Rs) (hi : Mi = Ri) (hs : ∀ k, Ms k = Rs k) :
    RInv b'? b? Pi Ps Mi Ms := by
  have : Ms = Rs := funext hs
  subst hi; subst this; exact h

theorem revTriple_same (b? : Option BAcct) (Ps : Nat → Nat) {Mi : Option Info} {Ms : Nat → Nat}
    {Ri : Option Info} {Rs : Nat → Nat} (hi : Mi = Ri) (hs : ∀ k, Ms k = Rs k) :
    RevTriple none b? b? Ps Mi Ms Ri Rs :=
  fun _ _ _ _ hR _ => hR.congr hi hs

/-- conclusion of `rev_core_some`, for every account the revert may be applied to -/
def CoreSome (acc : BAcct) (t : Transition) (r : ARevert) (Pi : Option Info) (Ps : Nat → Nat) (Mi : Option Info)
    (Ms : Nat → Nat) (Ri : Option Info) (Rs : Nat → Nat) : Prop :=
  ∀ b' : BAcct, OKAcc b' Pi Ps Ri Rs → b'.status.wasDestroyed = t.status.wasDestroyed →
    (t.status.wasDestroyed = false → ∀ k, ((acc.storage.get k).isSome = true ∨ (t.storage.get k).isSome = true) →
      (b'.storage.get k).isSome = true) →
    wipeOk (some b') r = true →
    ((b'.revert r).2 = true → Pi = none ∧ Mi = none ∧ ∀ k, Ms k = 0) ∧
    ((b'.revert r).2 = false → OKAcc (b'.revert r).1 Pi Ps Mi Ms ∧
      (b'.revert r).1.status.wasDestroyed = acc.status.wasDestroyed ∧
      (acc.status.wasDestroyed = false → keysSub acc.storage (b'.revert r).1.storage))

/-- from accounts to bundle entries: the reverted entry may be absent (then `revert_latest` starts from a fresh
account) -/
theorem lift_some (acc : BAcct) (t : Transition) (r : ARevert) (Pi : Option Info) (Ps : Nat → Nat)
    (Mi : Option Info) (Ms : Nat → Nat) (Ri : Option Info) (Rs : Nat → Nat)
    (hcore : CoreSome acc t r Pi Ps Mi Ms Ri Rs) (b1 : BAcct)
    (hb1s : b1.status.wasDestroyed = t.status.wasDestroyed)
    (hb1k : t.status.wasDestroyed = false → ∀ k, ((acc.storage.get k).isSome = true ∨ (t.storage.get k).isSome = true) →
      (b1.storage.get k).isSome = true)
    (b'? : Option BAcct) (hR : RInv b'? (some b1) Pi Ps Ri Rs) (hwo : wipeOk b'? r = true) :
    match revApply b'? r with
    | none => Pi = none ∧ Mi = none ∧ ∀ k, Ms k = 0
    | some b'' => OKAcc b'' Pi Ps Mi Ms ∧ b''.status.wasDestroyed = acc.status.wasDestroyed ∧
        (acc.status.wasDestroyed = false → keysSub acc.storage b''.storage) := by
  cases b'? with
  | some b' =>
    obtain ⟨hOK, hwd, hks⟩ := hR
    obtain ⟨g1, g2⟩ := hcore b' hOK (hwd.trans hb1s)
      (fun htn k hk => hks (by rw [hb1s]; exact htn) k (hb1k htn k hk)) hwo
    simp only [revApply, Option.getD]
    by_cases hf : (b'.revert r).2 = true
    · simp only [hf, if_true]; exact g1 hf
    · have hf' : (b'.revert r).2 = false := by simpa using hf
      simp only [hf', Bool.false_eq_true, if_false]; exact g2 hf'
  | none =>
    obtain ⟨hwd, hPi, hRi, hRs, hPs⟩ := hR
    have hb0 : OKAcc ⟨none, none, [], b1.status⟩ Pi Ps Ri Rs :=
      ⟨by rw [hRi]; rfl, by rw [hPi]; rfl,
        storageInv_mk.mpr (by rw [hwd]; exact SRel.nil hRs)⟩
    have hwo' : wipeOk (some ⟨none, none, [], b1.status⟩) r = true := by
      simp only [wipeOk] at hwo ⊢
      simpa using hwo
    obtain ⟨g1, g2⟩ := hcore ⟨none, none, [], b1.status⟩ hb0 hb1s
      (fun htn => by rw [← hb1s, hwd] at htn; cases htn) hwo'
    have hrs : (⟨none, none, [], b1.status⟩ : BAcct).revert r = freshAcct.revert r :=
      revert_status freshAcct b1.status r
    rw [hrs] at g1 g2
    simp only [revApply, Option.getD]
    by_cases hf : (freshAcct.revert r).2 = true
    · simp only [hf, if_true]; exact g1 hf
    · have hf' : (freshAcct.revert r).2 = false := by simpa using hf
      simp only [hf', Bool.false_eq_true, if_false]; exact g2 hf'

/-! ## what one merge leaves at an address -/

/-- what `merge_transitions` leaves at one address: `b?'` its bundle entry afterwards, `rev` its revert in the appended
block, given the cache entry `c?` and the bundle entry `b?` before. Holds of every address: one without a pending
transition has `b?' = b?`, `rev = none` (`AddrPost.idle`). -/
structure AddrPost (c? : Option CacheAcct) (b? : Option BAcct) (ms : Status) (Pi : Option Info) (Ps : Nat → Nat)
    (Mi : Option Info) (Ms : Nat → Nat) (Ri : Option Info) (Rs : Nat → Nat) (b?' : Option BAcct) (rev : Option ARevert) :
    Prop where
  binv : ∀ c, c? = some c → BInv b?' c.status Pi Ps Ri Rs
  sem : RevSem rev ms Ps Mi Ms Ri Rs
  /-- a wiping revert leaves a destroyed-family account and is recorded only for an address that was absent or not
  destroyed -/
  wipe : ∀ r, rev = some r → r.wipe = true → (∃ o', b?' = some o' ∧ o'.status.wasDestroyed = true) ∧
    (∀ o, b? = some o → o.status.wasDestroyed = false)
  keep : ∀ o, b? = some o → o.status.wasDestroyed = true → ∃ o', b?' = some o' ∧ o'.status.wasDestroyed = true
  triple : RevTriple rev b? b?' Ps Mi Ms Ri Rs
  selfc : rev.isSome = true → b? = none → Mi = Pi
  mono : b?.isSome = true → b?'.isSome = true
  pres : rev.isSome = true → b?'.isSome = true

/-- one iteration of the loop of `apply_transitions_and_create_reverts` reaches no `unreachable!`,
re-establishes the bundle invariant, and the revert it records leads back on the reference state (`sem`) and from the
entry after the group to the entry before it (`triple`) -/
theorem oneAcct_post {b? : Option BAcct} {t : Transition} {c : CacheAcct} {Pi : Option Info} {Ps : Nat → Nat}
    {Mi : Option Info} {Ms : Nat → Nat} {Ri : Option Info} {Rs : Nat → Nat}
    (hb : BInv b? t.prevStatus Pi Ps Mi Ms) (hm : Facts t.prevStatus Mi Ms)
    (ht : TInv t c Mi Ms Rs) (hc : CInv c Ri Rs) :
    ∃ b?' rev, oneAcct b? t = some (b?', rev) ∧ AddrPost (some c) b? t.prevStatus Pi Ps Mi Ms Ri Rs b?' rev := by
  have h5 : st5 t.status = true := (trOK_shape ht.ok).1
  have h5c : st5 c.status = true := by rw [← ht.status]; exact h5
  cases b? with
  | some acc =>
    obtain ⟨hb1, hb2⟩ := hb
    have h5a : st5 acc.status = true := by rw [hb1.status]; exact hb2
    obtain ⟨acc', rev, e, hs, hsem, hbi⟩ := merge_step hb1 hm ht hc
    have hbi := hbi h5a
    have hst' : acc'.status = t.status := by rw [hbi.status, ht.status]
    refine ⟨some acc', rev, by simp [oneAcct, e],
      fun c' hc' => by injection hc' with hc'; subst hc'; exact ⟨hbi, h5c⟩, hsem, fun r hr hw => ?_,
      fun o ho hwd => ?_, ?_, fun _ hn => (by cases hn), fun _ => rfl, fun _ => rfl⟩
    · subst hr
      obtain ⟨w2, w1, _⟩ := hs.of_wipe rfl hw
      exact ⟨⟨acc', rfl, by rw [hst']; exact w1⟩, fun o ho => by injection ho with ho; rw [← ho]; exact (live_status _ w2).1⟩
    · injection ho with ho; subst ho
      exact ⟨acc', rfl, by rw [hst']; exact trOK_wd_mono ht.ok (by rw [← hb1.status]; exact hwd)⟩
    · intro Pi' Ps' b'? hcmp hR hwo
      have hkeys : t.status.wasDestroyed = false → ∀ k,
          ((acc.storage.get k).isSome = true ∨ (t.storage.get k).isSome = true) → (acc'.storage.get k).isSome = true :=
        fun htn => nd_keys hb1 ht hs htn
      cases rev with
      | none =>
        obtain ⟨g1, g2⟩ := hsem
        have hfam : acc'.status.wasDestroyed = acc.status.wasDestroyed := by
          rw [hst']
          exact hs.fam h5 (fun hl => by rw [hl] at h5a; cases h5a) (fun r hr => by cases hr)
        simp only [revApplyO]
        cases b'? with
        | none =>
          obtain ⟨w1, w2, w3, w4, w5⟩ := hR
          exact ⟨by rw [← hfam]; exact w1, w2, by rw [g1]; exact w3, fun k => by rw [g2]; exact w4 k, w5⟩
        | some b' =>
          obtain ⟨w1, w2, w3⟩ := hR
          refine ⟨w1.congr g1 g2, by rw [w2]; exact hfam, fun hwa => ?_⟩
          have htn : t.status.wasDestroyed = false := by rw [← hst', hfam]; exact hwa
          exact keysSub_trans (fun k hk => hkeys htn k (Or.inl hk)) (w3 (by rw [hfam]; exact hwa))
      | some r =>
        obtain ⟨_, hPz', hwP⟩ := hcmp r rfl
        have hdelP : t.prevStatus = .loadedNotExisting → Pi' = none := by
          intro hl; rw [hl] at hb2; cases hb2
        have hcore : CoreSome acc t r Pi' Ps' Mi Ms Ri Rs := fun b' a1 a2 a3 a4 =>
          rev_core_some hb1 hm ht Pi' Ps' hdelP hs hsem hwP b' a1 a2 a3 a4
        have := lift_some acc t r Pi' Ps' Mi Ms Ri Rs hcore acc' (by rw [hst']) hkeys b'? hR hwo
        simp only [revApplyO]
        cases hx : revApply b'? r with
        | none =>
          rw [hx] at this
          obtain ⟨w1, w2, w3⟩ := this
          have hhi : hasInfo t.prevStatus = false := by
            have := hm.some_iff; rw [w2] at this; exact this.symm
          exact ⟨by rw [hb1.status]; exact hasInfo_false_st5 _ hhi hb2, w1, w2, w3, hPz' w1⟩
        | some b'' => rw [hx] at this; exact this
  | none =>
    obtain ⟨hMP, hMsP, hndc⟩ := hb
    subst hMP; subst hMsP
    have hb0 := orig_binv t c Mi Ms Rs hm ht hndc
    obtain ⟨acc', rev, e, hs, hsem, _⟩ := merge_step hb0 hm ht hc
    cases rev with
    | none =>
      -- no revert: nothing changed at this address, and it stays out of the bundle
      obtain ⟨hMR, hMsR⟩ := hsem
      have hb' : BInv none c.status Mi Ms Ri Rs :=
        ⟨hMR.symm, (funext hMsR).symm, fun hcs => hs.dc_some (by rw [ht.status]; exact hcs) hndc rfl⟩
      exact ⟨none, none, by simp [oneAcct, e], fun c' hc' => by injection hc' with hc'; subst hc'; exact hb',
        ⟨hMR, hMsR⟩, fun _ hr => (by cases hr), fun _ ho => (by cases ho), fun _ _ _ _ hR _ => hR.congr hMR hMsR,
        fun _ _ => rfl, id, fun hr => (by cases hr)⟩
    | some r =>
      have hpres := present_binv t c Mi Ms Ri Rs hm ht hc hndc
      refine ⟨some t.presentBundleAccount, some r, by simp [oneAcct, e],
        fun c' hc' => by injection hc' with hc'; subst hc'; exact ⟨hpres, h5c⟩,
        hsem, fun r' hr hw => ?_, fun _ ho => (by cases ho), ?_, fun _ _ => rfl, fun _ => rfl, fun _ => rfl⟩
      · injection hr with hr; subst hr
        obtain ⟨_, w1, _⟩ := hs.of_wipe rfl hw
        exact ⟨⟨t.presentBundleAccount, rfl, w1⟩, fun o ho => by cases ho⟩
      · intro Pi' Ps' b'? hcmp hR hwo
        obtain ⟨hc1, hPz', hwP⟩ := hcmp r rfl
        have hdelP : t.prevStatus = .loadedNotExisting → Pi' = none :=
          fun hl => hc1 rfl (hm.none_of (by rw [hl]; rfl))
        have hcore : CoreSome t.originalBundleAccount t r Pi' Ps' Mi Ms Ri Rs := fun b' a1 a2 a3 a4 =>
          rev_core_some hb0 hm ht Pi' Ps' hdelP hs hsem hwP b' a1 a2 a3 a4
        have := lift_some _ t r Pi' Ps' Mi Ms Ri Rs hcore t.presentBundleAccount rfl
          (fun _ k hk => by
            cases hk with
            | inl h => simp [Transition.originalBundleAccount, BMap.get] at h
            | inr h => exact h) b'? hR hwo
        simp only [revApplyO]
        cases hx : revApply b'? r with
        | none =>
          rw [hx] at this
          obtain ⟨w1, w2, w3⟩ := this
          exact ⟨by rw [w1, w2], fun k => by rw [w3, hPz' w1]⟩
        | some b'' => rw [hx] at this; exact this.1

theorem merge_acct {b? : Option BAcct} {t : Transition} {c : CacheAcct} {Pi : Option Info} {Ps : Nat → Nat}
    {Mi : Option Info} {Ms : Nat → Nat} {Ri : Option Info} {Rs : Nat → Nat}
    (hb : BInv b? t.prevStatus Pi Ps Mi Ms) (hm : Facts t.prevStatus Mi Ms)
    (ht : TInv t c Mi Ms Rs) (hc : CInv c Ri Rs) :
    ∃ b?' rev, oneAcct b? t = some (b?', rev) ∧ BInv b?' c.status Pi Ps Ri Rs ∧
      RevSem rev t.prevStatus Ps Mi Ms Ri Rs := by
  obtain ⟨b?', rev, h1, hp⟩ := oneAcct_post hb hm ht hc
  exact ⟨b?', rev, h1, hp.binv c rfl, hp.sem⟩

end Revm.Proofs.Bundle
