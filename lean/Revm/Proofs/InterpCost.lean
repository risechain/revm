import Revm.Model.Interp
import Revm.Proofs.GasCalc
/-! Lower bounds of the dynamic gas formulas used by C25's `gas_decreases`: every instruction that can continue
charges at least 1 gas. For termination (namespace `EvmLink`, `*_pos`): every dynamic gas cost but SELFDESTRUCT's (which
may be 0) is at least 1 when it is defined; each weakens the bound proved here of the same formula. -/
namespace Revm.Proofs.Interp
open Revm Revm.Model Revm.Model.GasCalc
open Revm.Proofs.GasCalc (mulAdd_iff logCost_iff)

/-- a per-word cost `base + m · words` that fits is at least its base -/
theorem verylowcopyCost_ge {len c : Nat} (h : verylowcopyCost len = some c) : 3 ≤ c :=
  ((mulAdd_iff 3 _ _ c).1 h).1 ▸ Nat.le_add_right 3 _

theorem expCost_ge {spec b c : Nat} (h : expCost spec b = some c) : 1 ≤ c := by
  unfold expCost Arith.expCost at h
  by_cases hp : b = 0
  · rw [if_pos hp] at h; injection h with h; omega
  rw [if_neg hp] at h
  dsimp only at h
  split at h
  · cases h
  split at h
  · cases h
  -- `10 + m = g` was computed without overflow, so `10 ≤ g`
  rename_i g hg
  unfold U256.checkedAdd at hg
  by_cases hw : g < U64
  · rw [if_pos hw] at h
    injection h with h
    split at hg
    · injection hg with hg; omega
    · cases hg
  · rw [if_neg hw] at h; cases h

theorem keccak256Cost_ge {len c : Nat} (h : keccak256Cost len = some c) : 30 ≤ c :=
  ((mulAdd_iff 30 _ _ c).1 h).1 ▸ Nat.le_add_right 30 _

theorem create2Cost_ge {len c : Nat} (h : create2Cost len = some c) : 32000 ≤ c :=
  ((mulAdd_iff 32000 _ _ c).1 h).1 ▸ Nat.le_add_right 32000 _

theorem logCost_ge {n len c : Nat} (h : logCost n len = some c) : 375 ≤ c := by
  have := ((logCost_iff n len c).1 h).1
  unfold Spec.GasCalc.logCost at this; omega

theorem le_ite {c : Prop} [Decidable c] {k a b : Nat} (ha : k ≤ a) (hb : k ≤ b) :
    k ≤ if c then a else b := by
  split <;> assumption

theorem warmColdCost_ge (c : Bool) : 100 ≤ warmColdCost c :=
  le_ite (by decide) (by decide)

theorem extcodecopyCost_ge {spec len c : Nat} {cold : Bool} (h : extcodecopyCost spec len cold = some c) :
    20 ≤ c := by
  exact ((mulAdd_iff _ _ _ c).1 h).1 ▸ Nat.le_trans
    (le_ite (Nat.le_trans (by decide) (warmColdCost_ge cold)) (le_ite (by decide) (Nat.le_refl 20)))
    (Nat.le_add_right _ _)

theorem sloadCost_ge (spec : Nat) (cold : Bool) : 50 ≤ sloadCost spec cold :=
  le_ite (le_ite (by decide) (by decide)) (le_ite (by decide) (le_ite (by decide) (by decide)))

theorem istanbulSstoreCost_ge (a b o p n : Nat) (ha : 100 ≤ a) (hb : 100 ≤ b) :
    100 ≤ istanbulSstoreCost a b o p n :=
  le_ite ha (le_ite (by decide) (le_ite hb ha))

theorem sstoreCost_ge {spec o p n gas c : Nat} {cold : Bool} (h : sstoreCost spec o p n gas cold = some c) :
    100 ≤ c := by
  have hw := istanbulSstoreCost_ge WARM_STORAGE_READ_COST WARM_SSTORE_RESET o p n (by decide) (by decide)
  have hi := istanbulSstoreCost_ge INSTANBUL_SLOAD_GAS SSTORE_RESET o p n (by decide) (by decide)
  have hf : 100 ≤ frontierSstoreCost p n := le_ite (by decide) (by decide)
  unfold sstoreCost at h
  by_cases c0 : enabled spec SpecId.ISTANBUL = true ∧ gas ≤ CALL_STIPEND
  · rw [if_pos c0] at h; cases h
  rw [if_neg c0] at h
  by_cases c1 : enabled spec SpecId.BERLIN = true
  · rw [if_pos c1] at h
    injection h with h
    rw [← h]
    exact le_ite (Nat.le_trans hw (Nat.le_add_right _ _)) hw
  rw [if_neg c1] at h
  by_cases c2 : enabled spec SpecId.ISTANBUL = true
  · rw [if_pos c2] at h; injection h with h; rw [← h]; exact hi
  · rw [if_neg c2] at h; injection h with h; rw [← h]; exact hf

theorem callCost_ge (spec : Nat) (tv cold : Bool) (deleg : Option Bool) (empty : Bool) :
    40 ≤ callCost spec tv cold deleg empty ∧ (tv = true → 9040 ≤ callCost spec tv cold deleg empty) := by
  have hw := warmColdCost_ge cold
  have hd : 40 ≤ warmColdCostWithDelegation cold deleg := by
    unfold warmColdCostWithDelegation
    cases deleg with
    | none => exact Nat.le_trans (by decide) hw
    | some c => exact Nat.le_trans (by decide) (Nat.le_trans hw (Nat.le_add_right _ _))
  unfold callCost
  simp only []
  generalize hg0 : (if enabled spec SpecId.BERLIN = true then warmColdCostWithDelegation cold deleg
      else if enabled spec SpecId.TANGERINE = true then 700 else 40) = g0
  have h0 : 40 ≤ g0 := hg0 ▸ le_ite hd (le_ite (by decide) (Nat.le_refl 40))
  -- NEWACCOUNT is only ever added on top of `gas1`
  generalize hg1 : (if tv = true then g0 + CALLVALUE else g0) = g1
  have h1 : 40 ≤ g1 := hg1 ▸ le_ite (Nat.le_trans h0 (Nat.le_add_right _ _)) h0
  have hle : ∀ k, k ≤ g1 → k ≤ (if empty = true then
      if enabled spec SpecId.SPURIOUS_DRAGON = true then if tv = true then g1 + NEWACCOUNT else g1
      else g1 + NEWACCOUNT else g1) := fun k hk =>
    le_ite (le_ite (le_ite (Nat.le_trans hk (Nat.le_add_right _ _)) hk) (Nat.le_trans hk (Nat.le_add_right _ _))) hk
  refine ⟨hle 40 h1, fun htv => hle 9040 ?_⟩
  rw [← hg1, if_pos htv]
  exact Nat.add_le_add h0 (by decide : 9000 ≤ CALLVALUE)

theorem balanceGas_ge (spec : Nat) (cold : Bool) :
    20 ≤ (if enabled spec SpecId.BERLIN = true then warmColdCost cold
      else if enabled spec SpecId.ISTANBUL = true then 700
      else if enabled spec SpecId.TANGERINE = true then 400 else 20) :=
  le_ite (Nat.le_trans (by decide) (warmColdCost_ge cold)) (le_ite (by decide) (le_ite (by decide) (Nat.le_refl 20)))

theorem extcodesizeGas_ge (spec : Nat) (cold : Bool) :
    20 ≤ (if enabled spec SpecId.BERLIN = true then warmColdCost cold
      else if enabled spec SpecId.TANGERINE = true then 700 else 20) :=
  le_ite (Nat.le_trans (by decide) (warmColdCost_ge cold)) (le_ite (by decide) (Nat.le_refl 20))

theorem extcodehashGas_ge (spec : Nat) (cold : Bool) :
    20 ≤ (if enabled spec SpecId.BERLIN = true then warmColdCost cold
      else if enabled spec SpecId.ISTANBUL = true then 700 else 400) :=
  le_ite (Nat.le_trans (by decide) (warmColdCost_ge cold)) (le_ite (by decide) (by decide))

theorem Tier.cost_pos (t : Interp.Tier) : 1 ≤ t.cost := by cases t <;> decide

end Revm.Proofs.Interp

namespace Revm.Proofs.EvmLink
open Revm Revm.Model
open Revm.Proofs.Interp (verylowcopyCost_ge keccak256Cost_ge create2Cost_ge logCost_ge warmColdCost_ge
  extcodecopyCost_ge sloadCost_ge sstoreCost_ge)

theorem copyCost_pos (len : Nat) : ∀ x, GasCalc.verylowcopyCost len = some x → 1 ≤ x := fun _ h =>
  Nat.le_trans (by decide) (verylowcopyCost_ge h)

theorem keccakCost_pos (len : Nat) : ∀ x, GasCalc.keccak256Cost len = some x → 1 ≤ x := fun _ h =>
  Nat.le_trans (by decide) (keccak256Cost_ge h)

theorem create2Cost_pos (len : Nat) : ∀ x, GasCalc.create2Cost len = some x → 1 ≤ x := fun _ h =>
  Nat.le_trans (by decide) (create2Cost_ge h)

theorem logCost_pos (n len : Nat) : ∀ x, GasCalc.logCost n len = some x → 1 ≤ x := fun _ h =>
  Nat.le_trans (by decide) (logCost_ge h)

theorem warmColdCost_pos (c : Bool) : 1 ≤ GasCalc.warmColdCost c := Nat.le_trans (by decide) (warmColdCost_ge c)

theorem extcodecopyCost_pos (spec len : Nat) (c : Bool) : ∀ x, GasCalc.extcodecopyCost spec len c = some x → 1 ≤ x :=
  fun _ h => Nat.le_trans (by decide) (extcodecopyCost_ge h)

theorem sloadCost_pos (spec : Nat) (c : Bool) : 1 ≤ GasCalc.sloadCost spec c :=
  Nat.le_trans (by decide) (sloadCost_ge spec c)

theorem sstoreCost_pos (spec o p n gas : Nat) (c : Bool) : ∀ x, GasCalc.sstoreCost spec o p n gas c = some x → 1 ≤ x :=
  fun _ h => Nat.le_trans (by decide) (sstoreCost_ge h)

theorem callCost_pos (spec : Nat) (tv c : Bool) (d : Option Bool) (e : Bool) : 1 ≤ GasCalc.callCost spec tv c d e :=
  Nat.le_trans (by decide) (Interp.callCost_ge spec tv c d e).1

/-- with a value transfer the surcharge covers the stipend and one more -/
theorem callCost_transfer1 (spec : Nat) (c : Bool) (d : Option Bool) (e : Bool) :
    GasCalc.CALL_STIPEND + 1 ≤ GasCalc.callCost spec true c d e :=
  Nat.le_trans (by decide) ((Interp.callCost_ge spec true c d e).2 rfl)

theorem selfdestructCost_any (spec : Nat) (a b c : Bool) : 0 ≤ GasCalc.selfdestructCost spec a b c := Nat.zero_le _

end Revm.Proofs.EvmLink
