import Revm.Proofs.JournalUndo
/-! What `checkpoint_revert` keeps besides the observable state of C06 (`revert_keeps`): the part of `JRel` that C06 does
not see — the domain of the state map, the code caches, the touched mark of 0x03, fork and pre-warmed set. -/
namespace Revm.Proofs.EvmRefine
open Revm Revm.Model Revm.Model.Journal Revm.Spec.JournalAbs Revm.Proofs.Journal

/-- what undoing an entry leaves of an account: its code cache is kept with the hash or emptied, and from Spurious Dragon on
(`sd`) the touched mark of 0x03 stays -/
def KeepA (sd : Bool) (a : Addr) (x y : Acct) : Prop :=
  ((y.info.code = x.info.code ∧ y.info.codeHash = x.info.codeHash) ∨ y.info.code = none) ∧
  (sd = true → a = PRECOMPILE3 → y.touched = x.touched)

/-- no address enters or leaves the state map, and `KeepA` at each -/
def Keeps (sd : Bool) (s s' : JState) : Prop :=
  ∀ a, match s.state a, s'.state a with
    | none, none => True
    | some x, some y => KeepA sd a x y
    | _, _ => False

theorem KeepA.refl (sd : Bool) (a : Addr) (x : Acct) : KeepA sd a x x := ⟨.inl ⟨rfl, rfl⟩, fun _ _ => rfl⟩

theorem KeepA.trans {sd : Bool} {a : Addr} {x y z : Acct} (h1 : KeepA sd a x y) (h2 : KeepA sd a y z) :
    KeepA sd a x z := by
  refine ⟨?_, fun hs ha => (h2.2 hs ha).trans (h1.2 hs ha)⟩
  rcases h2.1 with ⟨c2, d2⟩ | c2
  · rcases h1.1 with ⟨c1, d1⟩ | c1
    · exact .inl ⟨c2.trans c1, d2.trans d1⟩
    · exact .inr (c2.trans c1)
  · exact .inr c2

theorem Keeps.refl (sd : Bool) (s : JState) : Keeps sd s s := by
  intro a; cases s.state a with
  | none => trivial
  | some x => exact KeepA.refl sd a x

theorem Keeps.trans {sd : Bool} {s s1 s2 : JState} (h1 : Keeps sd s s1) (h2 : Keeps sd s1 s2) : Keeps sd s s2 := by
  intro a
  have a1 := h1 a; have a2 := h2 a
  cases hs : s.state a <;> cases hs1 : s1.state a <;> cases hs2 : s2.state a <;> simp only [hs, hs1, hs2] at a1 a2 ⊢
  all_goals first | trivial | exact a1.elim | exact a2.elim | exact KeepA.trans a1 a2

theorem Keeps.of_state_eq {sd : Bool} {s s' : JState} (h : s'.state = s.state) : Keeps sd s s' := by
  intro a; rw [h]; cases s.state a with
  | none => trivial
  | some x => exact KeepA.refl sd a x

theorem Keeps.setAcct {sd : Bool} {s : JState} {a : Addr} {x y : Acct} (hs : s.state a = some x)
    (h : KeepA sd a x y) : Keeps sd s (Journal.setAcct s a y) := by
  intro b
  by_cases hb : b = a
  · subst hb; simp only [hs, Journal.setAcct, if_true]; exact h
  · simp only [Journal.setAcct, hb, if_false]
    cases s.state b with
    | none => trivial
    | some z => exact KeepA.refl sd b z

/-- the invariant of `undoEntry` from which `revert_keeps` follows -/
structure Undone (sd : Bool) (s s' : JState) : Prop where
  keeps : Keeps sd s s'
  spec : s'.spec = s.spec
  pre : s'.preloaded = s.preloaded

theorem Undone.refl (sd : Bool) (s : JState) : Undone sd s s := ⟨Keeps.refl sd s, rfl, rfl⟩

theorem Undone.trans {sd : Bool} {s s1 s2 : JState} (h1 : Undone sd s s1) (h2 : Undone sd s1 s2) : Undone sd s s2 :=
  ⟨h1.keeps.trans h2.keeps, h2.spec.trans h1.spec, h2.pre.trans h1.pre⟩

theorem Undone.setAcct {sd : Bool} {s : JState} {a : Addr} {x y : Acct} (hs : s.state a = some x)
    (h : KeepA sd a x y) : Undone sd s (Journal.setAcct s a y) := ⟨Keeps.setAcct hs h, rfl, rfl⟩

theorem undoEntry_undone {sd : Bool} {s s' : JState} {e : Entry} (h : undoEntry sd s e = some s') : Undone sd s s' := by
  replace h := undoEntry_some h
  cases e <;> simp only at h
  case accountWarmed a | nonceChange a | accountCreated a =>
    obtain ⟨acc, hs, rfl⟩ := h; exact Undone.setAcct hs ⟨.inl ⟨rfl, rfl⟩, fun _ _ => rfl⟩
  case codeChange a =>
    obtain ⟨acc, hs, rfl⟩ := h; exact Undone.setAcct hs ⟨.inr rfl, fun _ _ => rfl⟩
  case accountTouched a =>
    split at h
    · subst h; exact Undone.refl _ _
    · rename_i hc
      obtain ⟨acc, hs, rfl⟩ := h
      exact Undone.setAcct hs ⟨.inl ⟨rfl, rfl⟩, fun h1 h2 => absurd ⟨h1, h2⟩ hc⟩
  case accountDestroyed a t wd had =>
    obtain ⟨acc, s1, hs, rfl, h⟩ := h
    have k1 := Undone.setAcct (sd := sd) hs (y := { acc with selfdestructed := wd, info := { acc.info with balance := U256.wadd acc.info.balance had } })
      ⟨.inl ⟨rfl, rfl⟩, fun _ _ => rfl⟩
    split at h
    · obtain ⟨tacc, ht, rfl⟩ := h
      exact k1.trans (Undone.setAcct ht ⟨.inl ⟨rfl, rfl⟩, fun _ _ => rfl⟩)
    · subst h; exact k1
  case balanceTransfer src dst bal =>
    obtain ⟨f, s1, t, hs, rfl, ht, rfl⟩ := h
    have k1 := Undone.setAcct (sd := sd) hs (y := { f with info := { f.info with balance := U256.wadd f.info.balance bal } })
      ⟨.inl ⟨rfl, rfl⟩, fun _ _ => rfl⟩
    exact k1.trans (Undone.setAcct ht ⟨.inl ⟨rfl, rfl⟩, fun _ _ => rfl⟩)
  case storageWarmed a k | storageChanged a k had =>
    obtain ⟨acc, sl, hs, _, rfl⟩ := h; exact Undone.setAcct hs ⟨.inl ⟨rfl, rfl⟩, fun _ _ => rfl⟩
  case transientChange a k had =>
    subst h; exact ⟨Keeps.of_state_eq rfl, rfl, rfl⟩

theorem undoLevel_undone {sd : Bool} (l : List Entry) {s s' : JState} (h : undoLevel sd s l = some s') :
    Undone sd s s' := by
  induction l generalizing s with
  | nil => simp [undoLevel] at h; subst h; exact Undone.refl _ _
  | cons e es ih =>
    simp only [undoLevel, bind, Option.bind] at h
    cases h1 : undoEntry sd s e with
    | none => simp [h1] at h
    | some s1 => simp only [h1] at h; exact (undoEntry_undone h1).trans (ih h)

theorem undoLevels_undone {sd : Bool} (ls : List (List Entry)) {s s' : JState} (h : undoLevels sd s ls = some s') :
    Undone sd s s' :=
  undoLevel_undone _ ((undoLevels_flatten sd s ls).symm.trans h)

theorem revert_keeps {s s' : JState} {cp : Checkpoint} (h : Journal.revert s cp = some s') :
    Keeps (decide (s.spec ≥ SPURIOUS_DRAGON)) s s' ∧ s'.depth = decU64 s.depth ∧ s'.spec = s.spec ∧
    s'.preloaded = s.preloaded ∧ s'.journal = s.journal.drop (s.journal.length - cp.journalI) := by
  obtain ⟨_, s1, h1, rfl⟩ := revert_spec h
  have k := undoLevels_undone _ h1
  exact ⟨k.keeps.trans (Keeps.of_state_eq rfl), rfl, k.spec, k.pre, rfl⟩

end Revm.Proofs.EvmRefine
