import Revm.Proofs.EvmStep2
import Revm.Proofs.InterpOutcome
import Revm.Proofs.EvmInstTrace
import Revm.Proofs.EvmLinkHost
import Revm.Spec.InspectorHooks
import Revm.Proofs.EvmMove
/-! C29 / C30 instance: what ONE resolved instruction (`EvmInstSd.Resolved`, declared in `EvmMove`) does, against what the
inspector's wrappers read of it. A SELFDESTRUCT that ends as `.halt .SelfDestruct` ran `Journal.selfdestruct` on the
executing contract and the popped beneficiary, so the wrapper's note `sdNote` is the ground truth `sdTruth`
(`sd_consistent`). A LOG0..4 that reaches the host appends exactly one id, `w.logs.length`, and one that stops before
appends nothing, so `insnLog` is `logTruth` (`log_consistent`). Both: `insn_consistent` (namespace `EvmInstHooks`). -/
namespace Revm.Proofs.EvmInstSd
open Revm Revm.Model Revm.Model.Evm Revm.Model.Interp
open Revm.Model.GasCalc (enabled)
open Revm.Spec.EvmRules (adv)
open Revm.Proofs.EvmStep Revm.Proofs.EvmStep2
open Revm.Proofs.EvmInstHooks
open Revm.Model.SelfdestructNotify (balanceOf)
open Revm.Proofs.SelfdestructNotify


/-- the part of `host::selfdestruct` after the host's answer -/
def sdPost (r : HostResp) : M Unit := do
  requireSome r
  let s ← getS
  if !enabled s.spec GasCalc.SpecId.LONDON && !r.previouslyDestroyed then refund GasCalc.SELFDESTRUCT
  else pure ()
  gasCharge (GasCalc.selfdestructCost s.spec r.hadValue r.targetExists r.isCold)
  haltWith .SelfDestruct

theorem list_snoc_cases (l : List Nat) : l = [] ∨ ∃ rest t0, l = rest ++ [t0] := by
  rcases List.eq_nil_or_concat l with h | ⟨rest, t0, h⟩
  · exact Or.inl h
  · exact Or.inr ⟨rest, t0, by simpa using h⟩

/-- `Interp.step` at SELFDESTRUCT: static guard, `pop_address!`, the host question, then `sdPost` -/
theorem step_sd (s : IState) (hcode : s.code[s.pc]? = some 0xff) :
    (s.isStatic = true ∧ step s = .halt .StateChangeDuringStaticCall [] (adv s)) ∨
    (s.isStatic = false ∧ s.stack = [] ∧ step s = .halt .StackUnderflow [] (adv s)) ∨
    (s.isStatic = false ∧ ∃ rest t0, s.stack = rest ++ [t0] ∧
      step s = .host (.selfdestruct s.target (addrOfWord t0))
        (fun r => (sdPost r { adv s with stack := rest }).toDone)) := by
  rw [show step s = selfdestructI (adv s) from step_eq s 0xff hcode]
  unfold selfdestructI
  by_cases hstc : s.isStatic = true
  · left
    exact ⟨hstc, hostCall_halt _ _ _ _ _ _ _ (requireNonStatic_fail (adv s) hstc)⟩
  · have hstf : s.isStatic = false := by simpa using hstc
    right
    rw [hostCall_ok _ _ _ _ _ _ (requireNonStatic_ok (adv s) hstf)]
    rcases list_snoc_cases s.stack with hnil | ⟨rest, t0, hst⟩
    · left
      have : (adv s).stack.length < 1 := by show s.stack.length < 1; rw [hnil]; decide
      exact ⟨hstf, hnil, hostCall_halt _ _ _ _ _ _ _ (popAddress_underflow (adv s) this)⟩
    · right
      refine ⟨hstf, rest, t0, hst, ?_⟩
      have hs : (adv s).stack = rest ++ [t0] := hst
      rw [hostCall_ok _ _ _ _ _ _ (popAddress_ok (adv s) _ t0 hs), hostCall_ok _ _ _ _ _ _ (getS_ok _), hostCall_pure]
      rfl

theorem resolved_sd {he : HostEnv} {s : IState} {w w' : World} {d : Done} (hcode : s.code[s.pc]? = some 0xff)
    (hr : Resolved he s w d w') :
    (s.isStatic = true ∧ d = .halt .StateChangeDuringStaticCall [] (adv s) ∧ w' = w) ∨
    (s.isStatic = false ∧ s.stack = [] ∧ d = .halt .StackUnderflow [] (adv s) ∧ w' = w) ∨
    (s.isStatic = false ∧ ∃ rest t0 resp, s.stack = rest ++ [t0] ∧
      answer he w (.selfdestruct s.target (addrOfWord t0)) = .ok (resp, w') ∧
      d = (sdPost resp { adv s with stack := rest }).toDone) := by
  rcases step_sd s hcode with ⟨hst, hstep⟩ | ⟨hst, hnil, hstep⟩ | ⟨hst, rest, t0, hstk, hstep⟩
  · cases hr with
    | pure d hs => rw [hstep] at hs; injection hs with hs; exact .inl ⟨hst, hs.symm, rfl⟩
    | host op k resp w' hs _ => rw [hstep] at hs; cases hs
  · cases hr with
    | pure d hs => rw [hstep] at hs; injection hs with hs; exact .inr (.inl ⟨hst, hnil, hs.symm, rfl⟩)
    | host op k resp w' hs _ => rw [hstep] at hs; cases hs
  · cases hr with
    | pure d hs => rw [hstep] at hs; cases hs
    | host op k resp w' hs ha =>
      rw [hstep] at hs
      injection hs with hop hk
      subst hop hk
      exact .inr (.inr ⟨hst, rest, t0, resp, hstk, ha, rfl⟩)

theorem movedValue_same {acc acc1 : Journal.Acct} (h : Same acc acc1) (spec a t : Nat) :
    movedValue acc1 spec a t = movedValue acc spec a t := by
  obtain ⟨hi, hc, _⟩ := h
  simp [movedValue, hi, hc]

/-- for a contract that is in the journal, `contractAcct` agrees with that account on what SELFDESTRUCT looks at -/
theorem contractAcct_loaded {w : World} {a t : Nat} {acc acc1 : Journal.Acct} (ha : w.js.state a = some acc)
    (h : contractAcct w a t = some acc1) : Same acc acc1 := by
  unfold contractAcct at h
  cases hl : Journal.loadAccount w.db w.js t with
  | none => rw [hl] at h; cases h
  | some p =>
    obtain ⟨s1, c⟩ := p
    rw [hl] at h
    simp only at h
    obtain ⟨_, _, _, _, hst⟩ := loadAccount_spec hl
    obtain ⟨acc', h', hs⟩ := hst a acc ha
    rw [h'] at h
    injection h with h
    subst h
    exact hs

/-- a SELFDESTRUCT that ends as `.halt .SelfDestruct` ran `Journal.selfdestruct` on the executing contract and the popped
beneficiary, and the wrapper's note names them with the value `movedValue` gives for the account that function reads -/
theorem sd_step_completed {he : HostEnv} {s : IState} {w w' : World} {d : Done} {out : List Nat} {s' : IState}
    (hcode : s.code[s.pc]? = some 0xff) (hr : Resolved he s w d w') (hd : d = .halt .SelfDestruct out s') :
    s.isStatic = false ∧ ∃ rest t0 r acc1, s.stack = rest ++ [t0] ∧
      Journal.selfdestruct w.db w.js s.target (addrOfWord t0) = some (w'.js, r) ∧
      contractAcct w s.target (addrOfWord t0) = some acc1 ∧
      sdNote s w.js w'.js d =
        some (s.target, addrOfWord t0, movedValue acc1 w.js.spec s.target (addrOfWord t0)) := by
  rcases resolved_sd hcode hr with ⟨_, hd', _⟩ | ⟨_, _, hd', _⟩ | ⟨hstf, rest, t0, resp, hst, ha, _⟩
  · rw [hd'] at hd; cases hd
  · rw [hd'] at hd; cases hd
  · have hj := (Revm.Proofs.EvmLink.answer_inv ha).2.2.1
    obtain ⟨s1, c1, acc1, hload, hacc1, hnote, _⟩ := selfdestruct_moved_gen hj
    refine ⟨hstf, rest, t0, _, acc1, hst, hj, ?_, ?_⟩
    · simp only [contractAcct, hload, hacc1]
    · rw [hd]
      simp only [sdNote, if_true]
      rw [hnote]

/-- the same with the contract's account as it is in the journal before the instruction (revm loads the executing
contract before any of its code runs) -/
theorem sd_step_completed_loaded {he : HostEnv} {s : IState} {w w' : World} {d : Done} {out : List Nat}
    {s' : IState} {acc : Journal.Acct} (hcode : s.code[s.pc]? = some 0xff) (hr : Resolved he s w d w')
    (hd : d = .halt .SelfDestruct out s') (hloaded : w.js.state s.target = some acc) :
    ∃ rest t0, s.stack = rest ++ [t0] ∧
      sdNote s w.js w'.js d = some (s.target, addrOfWord t0, movedValue acc w.js.spec s.target (addrOfWord t0)) ∧
      balanceOf w.js s.target =
        balanceOf w'.js s.target + movedValue acc w.js.spec s.target (addrOfWord t0) := by
  obtain ⟨_, rest, t0, r, acc1, hst, hj, hca, hn⟩ := sd_step_completed hcode hr hd
  have hsame := contractAcct_loaded hloaded hca
  refine ⟨rest, t0, hst, ?_, ?_⟩
  · rw [hn, movedValue_same hsame]
  · have := (selfdestruct_moved hj hloaded).2
    simp only [balanceOf, hloaded] at this ⊢
    omega

/-- at every resolved SELFDESTRUCT the wrapper's note IS the ground truth computed from the pre-state -/
theorem sd_consistent {he : HostEnv} {s : IState} {w w' : World} {d : Done}
    (hcode : s.code[s.pc]? = some 0xff) (hr : Resolved he s w d w') : sdNote s w.js w'.js d = sdTruth s w d := by
  cases hdd : d with
  | halt r out s' =>
    by_cases hrs : r = .SelfDestruct
    · subst hrs
      obtain ⟨_, rest, t0, _, acc1, hst, _, hca, hn⟩ := sd_step_completed hcode hr hdd
      rw [← hdd, hn, hdd]
      simp [sdTruth, hst, hca]
    · simp [sdNote, sdTruth, hrs]
  | next _ => rfl
  | action _ _ => rfl
  | fault _ => rfl

/-- what an entry of `completedSelfdestructs` is: its instruction ended `.halt .SelfDestruct` with the beneficiary on top
of the stack; `acc` is the contract's account as `JournaledState::selfdestruct` reads it -/
theorem sdTruth_some {s : Interp.IState} {w : World} {d : Interp.Done} {x : Nat × Nat × Nat}
    (h : sdTruth s w d = some x) :
    ∃ out s' rest t0 acc, d = .halt .SelfDestruct out s' ∧ s.stack = rest ++ [t0] ∧
      contractAcct w s.target (Interp.addrOfWord t0) = some acc ∧
      x = (s.target, Interp.addrOfWord t0,
        Revm.Proofs.SelfdestructNotify.movedValue acc w.js.spec s.target (Interp.addrOfWord t0)) := by
  cases d with
  | next _ => cases h
  | action _ _ => cases h
  | fault _ => cases h
  | halt r out s' =>
    simp only [sdTruth] at h
    by_cases hr : r = .SelfDestruct
    · subst hr
      simp only [if_true] at h
      rcases list_snoc_cases s.stack with hnil | ⟨rest, t0, hst⟩
      · simp [hnil] at h
      · simp only [hst, List.getLast?_append, List.getLast?_singleton, Option.some_or] at h
        cases hc : contractAcct w s.target (Interp.addrOfWord t0) with
        | none => simp [hc] at h
        | some acc =>
          simp only [hc, Option.some.injEq] at h
          exact ⟨out, s', rest, t0, acc, rfl, hst, hc, h.symm⟩
    · simp [hr] at h

/-- per instruction: for a completed SELFDESTRUCT whose executing contract is in the journal when the instruction starts,
the entry of `completedSelfdestructs` names the contract, and its value is what left the contract's journal balance.
`hloaded` is C30's own assumption (revm loads the executing contract before any of its code runs); along a run of
`Evm.transact` it holds by `EvmInstLoaded.contract_loaded`. -/
theorem evm_selfdestruct_balance_left_partial {he : HostEnv} {s : Interp.IState} {w w' : World} {d : Interp.Done}
    {acc : Journal.Acct} {x : Nat × Nat × Nat} (hcode : s.code[s.pc]? = some 0xff) (hr : Resolved he s w d w')
    (hloaded : w.js.state s.target = some acc) (hx : sdTruth s w d = some x) :
    x.1 = s.target ∧
    x.2.2 = Revm.Proofs.SelfdestructNotify.movedValue acc w.js.spec s.target x.2.1 ∧
    SelfdestructNotify.balanceOf w.js s.target = SelfdestructNotify.balanceOf w'.js s.target + x.2.2 := by
  obtain ⟨out, s', _, _, _, hd, _, _, _⟩ := sdTruth_some hx
  obtain ⟨rest, t0, _, hn, hbal⟩ := sd_step_completed_loaded hcode hr hd hloaded
  rw [sd_consistent hcode hr, hx] at hn
  injection hn with hn
  subst hn
  exact ⟨rfl, rfl, hbal⟩

end Revm.Proofs.EvmInstSd

namespace Revm.Proofs.EvmInstHooks
open Revm Revm.Model Revm.Model.Evm Revm.Model.Interp
open Revm.Spec.EvmRules (adv)
open Revm.Proofs.EvmStep Revm.Proofs.EvmStep2
open Revm.Proofs.EvmInstSd (Resolved)
open Revm.Spec.InspectorHooks (insnLog insnSd)


theorem hostCall_pure_inv {β} (pre : M (HostOp × β)) (post : β → HostResp → M Unit) (s : IState) (d : Done)
    (h : hostCall pre post s = .pure d) : (∃ r o s', d = .halt r o s') ∨ ∃ f, d = .fault f := by
  unfold hostCall at h
  cases hp : pre s with
  | ok x s1 => rw [hp] at h; cases h
  | halt r o s1 => rw [hp] at h; injection h with h; exact Or.inl ⟨r, o, s1, h.symm⟩
  | fault f => rw [hp] at h; injection h with h; exact Or.inr ⟨f, h.symm⟩

theorem hostCall_host_inv {β} (pre : M (HostOp × β)) (post : β → HostResp → M Unit) (s : IState) (op : HostOp)
    (k : HostResp → Done) (h : hostCall pre post s = .host op k) :
    ∃ b s1, pre s = .ok (op, b) s1 ∧ k = fun r => (post b r s1).toDone := by
  unfold hostCall at h
  cases hp : pre s with
  | ok x s1 =>
    rw [hp] at h
    obtain ⟨op', b⟩ := x
    simp only at h
    injection h with h1 h2
    subst h1
    exact ⟨b, s1, rfl, h2.symm⟩
  | halt r o s1 => rw [hp] at h; cases h
  | fault f => rw [hp] at h; cases h

theorem step_log (s : IState) (op : Nat) (hcode : s.code[s.pc]? = some op) (hop : isLogOp op) :
    step s = logI (op - 0xa0) (adv s) := by
  unfold isLogOp at hop
  have : op = 0xa0 ∨ op = 0xa1 ∨ op = 0xa2 ∨ op = 0xa3 ∨ op = 0xa4 := by omega
  rw [step_eq s op hcode]
  rcases this with rfl | rfl | rfl | rfl | rfl <;> rfl

theorem logI_host_inv (n : Nat) (s : IState) (op : HostOp) (k : HostResp → Done) (h : logI n s = .host op k) :
    ∃ a topics data s1, op = .log a topics data ∧ k = fun _ => .next s1 := by
  unfold logI at h
  obtain ⟨b, s1, hpre, hk⟩ := hostCall_host_inv _ _ _ _ _ h
  obtain ⟨_, sa, _, hpre⟩ := Proofs.Interp.bind_ok_inv hpre
  obtain ⟨⟨offset, len⟩, sb, _, hpre⟩ := Proofs.Interp.bind_ok_inv hpre
  simp only at hpre
  obtain ⟨len', sc, _, hpre⟩ := Proofs.Interp.bind_ok_inv hpre
  obtain ⟨_, sd, _, hpre⟩ := Proofs.Interp.bind_ok_inv hpre
  obtain ⟨data, se, _, hpre⟩ := Proofs.Interp.bind_ok_inv hpre
  obtain ⟨topics, sf, _, hpre⟩ := Proofs.Interp.bind_ok_inv hpre
  obtain ⟨sg, sh, _, hpre⟩ := Proofs.Interp.bind_ok_inv hpre
  have hp : (Exec.ok (HostOp.log sg.target topics data, ()) sh : Exec (HostOp × Unit)) = .ok (op, b) s1 := hpre
  injection hp with hp1 hp2
  injection hp1 with hop hb
  refine ⟨sg.target, topics, data, s1, hop.symm, ?_⟩
  rw [hk]
  rfl

theorem answer_log {he : HostEnv} {w w' : World} {a : Nat} {topics data : List Nat} {resp : HostResp}
    (h : answer he w (.log a topics data) = .ok (resp, w')) : w'.js.logs = w.js.logs ++ [w.logs.length] := by
  rw [(Revm.Proofs.EvmLink.answer_inv h).2.2.1]; rfl

/-- at every resolved LOG0..4 what the wrapper reports is the id of the record the instruction appended -/
theorem log_consistent {he : HostEnv} {s : IState} {w w' : World} {d : Done} {op : Nat}
    (hcode : s.code[s.pc]? = some op) (hop : isLogOp op) (hr : Resolved he s w d w') :
    insnLog (.logOp w.js.logs.length w'.js.logs) = logTruth w d := by
  have hstep := step_log s op hcode hop
  cases hr with
  | pure d hs =>
    rw [hstep] at hs
    unfold logI at hs
    rcases hostCall_pure_inv _ _ _ _ hs with ⟨r, o, s', rfl⟩ | ⟨f, rfl⟩
    · simp [insnLog, logTruth]
    · simp [insnLog, logTruth]
  | host hop' k resp w' hs ha =>
    rw [hstep] at hs
    obtain ⟨a, topics, data, s1, rfl, rfl⟩ := logI_host_inv _ _ _ _ hs
    have hl := answer_log ha
    simp [insnLog, logTruth, hl]

/-- the wrappers' reports on an event's instruction (`insnSd`, `insnLog`) are its ground truth -/
def Consistent : LEv → Prop
  | .insn x g => insnSd x = g.sd ∧ insnLog x = g.log
  | .next _ => True

theorem insn_consistent {he : HostEnv} {s : IState} {w w' : World} {d : Done} (hr : Resolved he s w d w') :
    Consistent (.insn (insnOf s w.js w'.js d) (truthOf s w d)) := by
  unfold Consistent insnOf truthOf
  cases hc : s.code[s.pc]? with
  | none => exact ⟨rfl, rfl⟩
  | some op =>
    simp only
    by_cases hlog : isLogOp op
    · simp only [if_pos hlog]
      exact ⟨rfl, log_consistent hc hlog hr⟩
    · simp only [if_neg hlog]
      by_cases hsd : op = 0xff
      · subst hsd
        simp only [if_true]
        exact ⟨Revm.Proofs.EvmInstSd.sd_consistent hc hr, rfl⟩
      · simp only [if_neg hsd]
        exact ⟨rfl, rfl⟩

end Revm.Proofs.EvmInstHooks
