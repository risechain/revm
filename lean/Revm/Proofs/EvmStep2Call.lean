import Revm.Proofs.EvmStep2Run
import Revm.Spec.EvmRules2Call
/-! CALL, CALLCODE, DELEGATECALL, STATICCALL: `Interp.step` is the rule of `Spec/EvmRules2Call.lean`. -/
namespace Revm.Proofs.EvmStep2
open Revm Revm.Model Revm.Model.Interp
open Revm.Model.GasCalc (enabled)
open Revm.Spec.EvmRules Revm.Spec.EvmRules2
open Revm.Spec.GasCalc (Fork)
open Revm.Proofs.EvmStep

theorem gasWord_lt (v : Nat) : gasWord v < U64 := by
  have hU := U64_val
  unfold gasWord; omega

/-- the frame's memory stays short: its cost is below the gas bound -/
theorem MemOK.memLen {s : IState} (h : MemOK s) : (memOf s).length ≤ 2^42 := by
  apply len_of_cost
  have := h.budget
  have hG := GAS_BOUND_val
  have hU := U64_val
  omega

/-- `call_helpers::resize_memory` followed by the rest of the `pre` part is `rangeAccess`; the rest runs on a state that
differs from `s` in gas and memory only, satisfies the invariant again and has the range addressable -/
theorem range_run {β} (off len : Nat) (gk : Nat × Nat → M (HostOp × β)) (post : β → HostResp → M Action)
    (s : IState) (K : IState → Outcome) (h : Inv true s) (hoff : off < W) (hlen : len < W)
    (hK : ∀ (g : Gas.Gas) (m : Memory.SharedMemory), Inv true { s with gas := g, mem := m } →
        (len ≠ 0 → off + len ≤ (memOf { s with gas := g, mem := m }).length) →
        actionRun post (gk (retWindow off len) { s with gas := g, mem := m }) = K { s with gas := g, mem := m }) :
    actionRun post ((resizeMemRange off len >>= gk) s) = rangeAccess s off len K := by
  have hU := U64_val
  unfold resizeMemRange rangeAccess memAccessO
  refine assoc_run <| usize_run hlen fun hl => ite_not_bind_run (fun hz => ?_) fun hz => ?_
  · refine assoc_run <| usize_run hoff fun ho => assoc_run <| resize_run h fun h3 hcov => ?_
    have hlen3 := (h3.memOK rfl).memLen
    have hk := hK _ _ h3 (fun _ => hcov)
    unfold retWindow at hk
    rw [if_neg hz] at hk
    show actionRun post (gk (off, (off + len) % U64) _) = _
    rw [Nat.mod_eq_of_lt (by omega)]
    exact hk
  · have hk := hK s.gas s.mem h (fun hne => absurd hz hne)
    unfold retWindow at hk
    rw [if_pos hz] at hk
    exact hk

theorem memSliceRange_eq (s : IState) (off len : Nat) (h : Proofs.Memory.WF s.mem)
    (hin : off + len ≤ (memOf s).length) (hlt : off + len < U64) :
    memSliceRange off (off + len) s = .ok (load (memOf s) off len) s := by
  have := memSlice_eq s off len h hin
  unfold memSlice Memory.slice at this
  rw [Nat.mod_eq_of_lt hlt] at this
  exact this

/-- the part of the `pre` part common to the four calls: the four memory operands, the two ranges, the call input; `k`
is its end: what is handed to `post` -/
theorem callBody_run {β : Type} (f : Fork) (s1 : IState) (ops : List Nat) (to lgl : Nat) (ht ce : Bool)
    (k : List Nat × Nat × Nat → M (HostOp × β)) (post : β → HostResp → M Action)
    (mk : List Nat → Nat × Nat → Nat → CallInputs) (h1 : Inv true s1) (hst : s1.stack.reverse = ops)
    (hk : ∀ (g : Gas.Gas) (m : Memory.SharedMemory) (input : List Nat) (win : Nat × Nat),
      Inv true { s1 with stack := (ops.drop 4).reverse, gas := g, mem := m } →
      actionRun post (k (input, win.1, win.2) { s1 with stack := (ops.drop 4).reverse, gas := g, mem := m })
        = .host (.loadAccountDelegated to)
            (callAfter f { s1 with stack := (ops.drop 4).reverse, gas := g, mem := m } lgl ht ce (mk input win))) :
    actionRun post ((getMemoryInputAndOutRanges >>= k) s1) = callBody f s1 ops to lgl ht ce mk := by
  have hU := U64_val
  subst hst
  unfold callBody getMemoryInputAndOutRanges callMem
  refine assoc_run <| pop4_run h1 fun inOff inLen outOff outLen rest hrev hio hil hoo hol h2 => assoc_run <|
    range_run _ _ _ _ _ _ h2 hio hil fun g m hm hcov => ?_
  have hlen := (hm.memOK rfl).memLen
  have hk' := fun g' m' input win hm' => hk g' m' input win (by rw [hrev]; exact hm')
  rw [hrev] at hk
  unfold retWindow
  by_cases hz : inLen = 0
  · rw [if_pos hz, if_pos hz]
    simp only []
    rw [if_neg (Nat.lt_irrefl _)]
    exact assoc_run <| ok_run (a := ([] : List Nat)) rfl <| assoc_run <|
      range_run _ _ _ _ _ _ hm hoo hol fun g' m' hm' _ => hk g' m' [] _ hm'
  · rw [if_neg hz, if_neg hz]
    simp only []
    have hcov' := hcov hz
    rw [if_pos (by omega)]
    exact assoc_run <| ok_run (memSliceRange_eq _ inOff inLen hm.wf hcov' (by omega)) <| assoc_run <|
      range_run _ _ _ _ _ _ hm hoo hol fun g' m' hm' _ => hk g' m' _ _ hm'

theorem calcCallGas_eq (f : Fork) (r : HostResp) (e ht : Bool) (lgl : Nat) (s : IState) (hf : s.spec = f.id)
    (hg : s.gas.remaining < U64) :
    calcCallGas r e ht lgl s =
      if s.gas.remaining < Spec.GasCalc.callCost f ht r.isCold r.delegCold e then .halt .OutOfGas [] s
      else .ok (forwardedGas f (charge s (Spec.GasCalc.callCost f ht r.isCold r.delegCold e)).gas lgl)
             (charge s (Spec.GasCalc.callCost f ht r.isCold r.delegCold e)) := by
  have hU := U64_val
  unfold calcCallGas
  rw [bind_ok _ _ _ _ _ (getS_ok s)]
  rw [hf, Proofs.GasCalc.callCost_eq]
  by_cases hc : s.gas.remaining < Spec.GasCalc.callCost f ht r.isCold r.delegCold e
  · rw [bind_halt _ _ _ _ _ _ (gasCharge_fail s _ hc), if_pos hc]
  · rw [bind_ok _ _ _ _ _ (gasCharge_ok s _ hg (by omega)), if_neg hc, bind_ok _ _ _ _ _ (getS_ok _)]
    show Exec.ok _ _ = Exec.ok _ _
    congr 1
    unfold forwardedGas
    show (if enabled s.spec GasCalc.SpecId.TANGERINE = true then _ else _) = _
    rw [hf, Proofs.GasCalc.en_tangerine, Proofs.Gas.remaining63of64_eq _ (by show s.gas.remaining - _ < U64; omega)]
    rfl

/-- the `post` part of the four calls: `requireSome`, `calc_call_gas`, `gas!(gas_limit)`, and the rest `k` (stipend and
inputs), which sees a state that differs from `s` in the gas meter only -/
theorem callPost_run (f : Fork) (r : HostResp) (e ht ce : Bool) (lgl : Nat) (k : Nat → M Action) (mk : Nat → CallInputs)
    (s : IState) (hf : s.spec = f.id) (h : Inv true s) (he : e = (ce && r.isEmpty))
    (hk : ∀ (g : Gas.Gas) (fwd : Nat), fwd + g.remaining < GAS_BOUND →
        (k fwd { s with gas := g }).toDoneAction
          = .action (.call (mk (if ht then fwd + 2300 else fwd))) { s with gas := g }) :
    ((requireSome r >>= fun _ => calcCallGas r e ht lgl >>= fun g => gasCharge g >>= fun _ => k g) s).toDoneAction
      = callAfter f s lgl ht ce mk r := by
  have hU := U64_val
  have hG := GAS_BOUND_val
  subst he
  unfold callAfter needGas
  exact requireSome_run <| fail_run (calcCallGas_eq f r (ce && r.isEmpty) ht lgl s hf h.gas) fun _ =>
    fail_run (gasCharge_eq _ _ (h.charge _).gas) fun hc2 => hk _ _ (by
      have hb1 := (h.charge (Spec.GasCalc.callCost f ht r.isCold r.delegCold (ce && r.isEmpty))).bound
      show _ + ((charge s (Spec.GasCalc.callCost f ht r.isCold r.delegCold (ce && r.isEmpty))).gas.remaining - _)
        < GAS_BOUND
      omega)

theorem call_stack_nil {s : IState} (h : s.stack.reverse = []) : ({ s with stack := [] } : IState) = s := by
  have hs : s.stack = [] := by simpa using h
  rw [← hs]

section
variable {β γ : Type} {E : Exec β → γ} {mb : Bool} {s : IState}

/-- gas word and address: the rules name both at once and leave an empty stack on underflow -/
theorem popGasTo_run {f : Nat → Nat → M β} {k : Nat → Nat → List Nat → γ} (h : Inv mb s)
    (hk : ∀ g to ops, Inv mb { s with stack := ops.reverse } →
      E (f g (addrOf to) { s with stack := ops.reverse }) = k g to ops) :
    E ((pop1 >>= fun g => popAddress >>= fun to => f g to) s) =
      match s.stack.reverse with
      | g :: to :: ops => k g to ops
      | _ => E (.halt .StackUnderflow [] { s with stack := [] }) := by
  rcases hrev : s.stack.reverse with _ | ⟨g, _ | ⟨to, ops⟩⟩
  · exact (halt_run (pop1_underflow s (short_of_reverse hrev (by simp)))).trans (by rw [call_stack_nil hrev])
  · exact ok_run (pop1_ok s _ g (stack_of_reverse (pre := [g]) hrev)) (halt_run (popAddress_underflow _ (by simp)))
  · exact ok_run (pop1_ok s _ g (stack_of_reverse (pre := [g]) hrev)) <|
      ok_run (popAddress_ok _ ops.reverse to (by simp)) (hk g to ops (h.split (pre := [g, to]) hrev).2)

theorem popGasToValue_run {f : Nat → Nat → Nat → M β} {k : Nat → Nat → Nat → List Nat → γ} (h : Inv mb s)
    (hk : ∀ g to value ops, Inv mb { s with stack := ops.reverse } →
      E (f g (addrOf to) value { s with stack := ops.reverse }) = k g to value ops) :
    E ((pop1 >>= fun g => popAddress >>= fun to => pop1 >>= fun value => f g to value) s) =
      match s.stack.reverse with
      | g :: to :: value :: ops => k g to value ops
      | _ => E (.halt .StackUnderflow [] { s with stack := [] }) := by
  rcases hrev : s.stack.reverse with _ | ⟨g, _ | ⟨to, _ | ⟨value, ops⟩⟩⟩
  · exact (halt_run (pop1_underflow s (short_of_reverse hrev (by simp)))).trans (by rw [call_stack_nil hrev])
  · exact ok_run (pop1_ok s _ g (stack_of_reverse (pre := [g]) hrev)) (halt_run (popAddress_underflow _ (by simp)))
  · exact ok_run (pop1_ok s _ g (stack_of_reverse (pre := [g]) hrev)) <|
      ok_run (popAddress_ok _ [] to rfl) (halt_run (pop1_underflow _ (by simp)))
  · exact ok_run (pop1_ok s _ g (stack_of_reverse (pre := [g]) hrev)) <|
      ok_run (popAddress_ok _ (value :: ops).reverse to (by simp)) <|
        ok_run (pop1_ok _ ops.reverse value (by simp)) (hk g to value ops (h.split (pre := [g, to, value]) hrev).2)

end

/-- `if has_transfer { gas_limit.saturating_add(CALL_STIPEND) }` below the gas bound -/
theorem stipend_eq (fwd value : Nat) (h : fwd < GAS_BOUND) :
    (if value ≠ 0 then U64ops.saturatingAdd fwd GasCalc.CALL_STIPEND else fwd) =
      if decide (value ≠ 0) = true then fwd + 2300 else fwd := by
  have hU := U64_val
  have hG := GAS_BOUND_val
  unfold U64ops.saturatingAdd GasCalc.CALL_STIPEND
  by_cases hv : value = 0
  · simp [hv]
  · simp [hv]; omega

theorem step_call (f : Fork) (s : IState) (hcode : s.code[s.pc]? = some 0xf1) (hwf : WFM s) (hf : s.spec = f.id) :
    step s = callRule f s := by
  rw [step_eq s _ hcode]
  unfold callRule
  show actionRun _ (_ : Exec _) = _
  refine popGasToValue_run hwf.inv fun g to value ops h1 => getS_run <| ite_run (fun _ => rfl) fun _ =>
    callBody_run f _ ops _ _ _ _ _ _ _ h1 (List.reverse_reverse _) fun gm m input win hm =>
      action_run fun r => ?_
  simp only []
  rw [asUsizeSat_min]
  refine callPost_run f r _ _ true _ _ _ _ hf hm rfl fun g' fwd hb => ?_
  rw [stipend_eq fwd value (by omega)]
  rfl

theorem step_callcode (f : Fork) (s : IState) (hcode : s.code[s.pc]? = some 0xf2) (hwf : WFM s)
    (hf : s.spec = f.id) : step s = callcodeRule f s := by
  rw [step_eq s _ hcode]
  unfold callcodeRule
  show actionRun _ (_ : Exec _) = _
  refine popGasToValue_run hwf.inv fun g to value ops h1 =>
    callBody_run f _ ops _ _ _ _ _ _ _ h1 (List.reverse_reverse _) fun gm m input win hm =>
      action_run fun r => ?_
  simp only []
  rw [asUsizeSat_min]
  refine callPost_run f r _ _ false _ _ _ _ hf hm rfl fun g' fwd hb => ?_
  rw [stipend_eq fwd value (by omega)]
  rfl

theorem call_en_byzantium (f : Fork) : enabled f.id GasCalc.SpecId.BYZANTIUM = hasEIP214 f := by cases f <;> rfl

theorem step_delegatecall (f : Fork) (s : IState) (hcode : s.code[s.pc]? = some 0xf4) (hwf : WFM s)
    (hf : s.spec = f.id) : step s = delegatecallRule f s := by
  rw [step_eq s _ hcode]
  unfold delegatecallRule
  show actionRun _ (_ : Exec _) = _
  refine checkFork_run (by rw [show (adv s).spec = f.id from hf, Proofs.GasCalc.en_homestead]) <|
    popGasTo_run hwf.inv fun g to ops h1 =>
      callBody_run f _ ops _ _ _ _ _ _ _ h1 (List.reverse_reverse _) fun gm m input win hm =>
        action_run fun r => ?_
  simp only []
  rw [asUsizeSat_min]
  exact callPost_run f r _ _ false _ _ _ _ hf hm rfl fun g' fwd hb => rfl

theorem step_staticcall (f : Fork) (s : IState) (hcode : s.code[s.pc]? = some 0xfa) (hwf : WFM s)
    (hf : s.spec = f.id) : step s = staticcallRule f s := by
  rw [step_eq s _ hcode]
  unfold staticcallRule
  show actionRun _ (_ : Exec _) = _
  refine checkFork_run (by rw [show (adv s).spec = f.id from hf, call_en_byzantium]) <|
    popGasTo_run hwf.inv fun g to ops h1 =>
      callBody_run f _ ops _ _ _ _ _ _ _ h1 (List.reverse_reverse _) fun gm m input win hm =>
        action_run fun r => ?_
  simp only []
  rw [asUsizeSat_min]
  exact callPost_run f r _ _ false _ _ _ _ hf hm rfl fun g' fwd hb => rfl

end Revm.Proofs.EvmStep2
