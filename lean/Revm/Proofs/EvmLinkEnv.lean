import Revm.Model.Evm
import Revm.Model.TxGas
import Revm.Model.TxFeeLegs
/-! The translations from the whole-transaction model `Revm.Model.Evm` (C01) to the component models of the fee pipeline
`Revm.Model.TxGas` (C09: `gasEnv`, `toIR`, `frameRes`) and of the fee legs `Revm.Model.TxFeeLegs` (C08: `feeEnv`). Under
them the gas and fee computations of `EvmTx` are the functions of `TxGas` on every input (`finalGas_eq_txgas`,
`txResultOf_gas`), so the C09 theorems transport to `Evm.transact`. The translations to `Model.TxValidate` (C02) stand
in `EvmLinkValidate`. -/
namespace Revm.Proofs.EvmLink
open Revm Revm.Model Revm.Model.Evm

/-- `Interp.IResult` and `TxGas.IR` are two transcriptions of `InstructionResult`: the same 40 variants -/
def toIR : Interp.IResult → TxGas.IR
  | .Continue => .Continue | .Stop => .Stop | .Return => .Return | .SelfDestruct => .SelfDestruct
  | .ReturnContract => .ReturnContract | .Revert => .Revert | .CallTooDeep => .CallTooDeep
  | .OutOfFunds => .OutOfFunds | .CreateInitCodeStartingEF00 => .CreateInitCodeStartingEF00
  | .InvalidEOFInitCode => .InvalidEOFInitCode | .InvalidExtDelegateCallTarget => .InvalidExtDelegateCallTarget
  | .CallOrCreate => .CallOrCreate | .OutOfGas => .OutOfGas | .MemoryOOG => .MemoryOOG
  | .MemoryLimitOOG => .MemoryLimitOOG | .PrecompileOOG => .PrecompileOOG | .InvalidOperandOOG => .InvalidOperandOOG
  | .OpcodeNotFound => .OpcodeNotFound | .CallNotAllowedInsideStatic => .CallNotAllowedInsideStatic
  | .StateChangeDuringStaticCall => .StateChangeDuringStaticCall | .InvalidFEOpcode => .InvalidFEOpcode
  | .InvalidJump => .InvalidJump | .NotActivated => .NotActivated | .StackUnderflow => .StackUnderflow
  | .StackOverflow => .StackOverflow | .OutOfOffset => .OutOfOffset | .CreateCollision => .CreateCollision
  | .OverflowPayment => .OverflowPayment | .PrecompileError => .PrecompileError | .NonceOverflow => .NonceOverflow
  | .CreateContractSizeLimit => .CreateContractSizeLimit | .CreateContractStartingWithEF => .CreateContractStartingWithEF
  | .CreateInitCodeSizeLimit => .CreateInitCodeSizeLimit | .FatalExternalError => .FatalExternalError
  | .ReturnContractInNotInitEOF => .ReturnContractInNotInitEOF | .EOFOpcodeDisabledInLegacy => .EOFOpcodeDisabledInLegacy
  | .EOFFunctionStackOverflow => .EOFFunctionStackOverflow | .EofAuxDataOverflow => .EofAuxDataOverflow
  | .EofAuxDataTooSmall => .EofAuxDataTooSmall | .InvalidEXTCALLTarget => .InvalidEXTCALLTarget

theorem toIR_name (r : Interp.IResult) : TxGas.IR.ofName r.name = some (toIR r) := by
  cases r <;> decide

/-- the two revert-class results that `SuccessOrHalt::from` reports as halts are translations of themselves only -/
theorem toIR_depth_or_funds {r : Interp.IResult} :
    (toIR r = .CallTooDeep → r = .CallTooDeep) ∧ (toIR r = .OutOfFunds → r = .OutOfFunds) := by
  cases r <;> constructor <;> intro h <;> first | rfl | cases h

/-- `return_ok!` / `return_revert!` as the interpreter model has them = the gas class of `TxGas` -/
theorem toIR_gasClass (r : Interp.IResult) :
    (toIR r).gasClass = if r.isOk then .ok else if r.isRevert then .revert else .other := by
  cases r <;> rfl

/-- `TxGas.Report` in `Evm.classOf`'s codomain: `none` = `fatal`, where `output` panics -/
def classOfReport : TxGas.Report → Option ResultClass
  | .success => some .success
  | .revert => some .revert
  | .halt => some .halt
  | .fatal => none

/-- the two models classify a result as `SuccessOrHalt::from` does -/
theorem classOf_eq_report (r : Interp.IResult) : classOf r = classOfReport (toIR r).report := by
  cases r <;> rfl

/-- `Proofs.TxValidate.gasEnv` is the same record built from C02's `Block` / `Tx` (`gasEnv_tv`) -/
def gasEnv (e : Evm.Env) (spec : Nat) : TxGas.Env :=
  { spec := spec, gasLimit := e.tx.gasLimit, gasPrice := e.tx.gasPrice, priorityFee := e.tx.priorityFee,
    basefee := e.block.basefee, blobPrice := e.block.blobGasPrice, nBlobs := e.tx.blobHashes.length,
    maxFeePerBlobGas := e.tx.maxFeePerBlobGas, value := e.tx.value }

/-- the first frame's result as the fee pipeline sees it; `limit` is the limit of the frame's own meter, which
`last_frame_return` does not read -/
def frameRes (res : Interp.ChildResult) (limit : Nat) : TxGas.FrameRes :=
  { ir := toIR res.result, gas := { limit := limit, remaining := res.gasRemaining, refunded := res.gasRefunded } }

/-- `SPEC::enabled(X)` is `spec ≥ X`: the component models spell the same test as a `Bool` (`GasCalc.enabled`) or as a
comparison with their own copy of the constant -/
theorem ite_enabled {α : Type} (s x : Nat) (a b : α) :
    (if GasCalc.enabled s x = true then a else b) = if s ≥ x then a else b := by
  by_cases h : s ≥ x <;> simp [GasCalc.enabled, h]

theorem effectiveGasPrice_eq (e : Evm.Env) (spec : Nat) :
    e.effectiveGasPrice = TxGas.effectiveGasPrice (gasEnv e spec) := rfl

theorem totalBlobGas_eq (e : Evm.Env) (spec : Nat) : e.totalBlobGas = TxGas.totalBlobGas (gasEnv e spec) := rfl

theorem calcDataFee_eq (e : Evm.Env) (spec : Nat) : e.calcDataFee = TxGas.calcDataFee (gasEnv e spec) := by
  unfold Evm.Env.calcDataFee TxGas.calcDataFee
  cases h : e.block.blobGasPrice <;> simp only [gasEnv, h, Option.map] <;> rfl

theorem calcMaxDataFee_eq (e : Evm.Env) (spec : Nat) : e.calcMaxDataFee = TxGas.calcMaxDataFee (gasEnv e spec) := by
  unfold Evm.Env.calcMaxDataFee TxGas.calcMaxDataFee
  cases h : e.tx.maxFeePerBlobGas <;> simp only [gasEnv, h, Option.map] <;> rfl

/-- the transaction meter of `Evm.finalGas` is `TxGas`'s `floorAdjust ∘ refund ∘ lastFrameReturn`, for EVERY
first-frame result and every refund value handed over by the EIP-7702 stage -/
theorem finalGas_eq_stages (e : Evm.Env) (spec floorGas r7 : Nat) (res : Interp.ChildResult) (limit : Nat) :
    Evm.finalGas e spec floorGas r7 res =
      TxGas.floorAdjust
        (TxGas.refund (gasEnv e spec) (TxGas.lastFrameReturn (gasEnv e spec) (frameRes res limit)) (Gas.u64AsI64 r7))
        floorGas := by
  unfold Evm.finalGas TxGas.floorAdjust TxGas.refund TxGas.lastFrameReturn
  simp only [frameRes, toIR_gasClass]
  cases h1 : res.result.isOk
  · cases h2 : res.result.isRevert <;> simp [gasEnv]
  · simp [gasEnv]

/-- the refund `apply_eip7702_auth_list` hands over for `k` refunded authorities is `TxGas.eip7702Refund k` -/
theorem authRefund_eq (k : Nat) :
    Gas.u64AsI64 (U64ops.wmul k (Evm.PER_EMPTY_ACCOUNT_COST - Evm.PER_AUTH_BASE_COST)) = TxGas.eip7702Refund k := rfl

/-- the gas pipeline of `EvmTx` is `TxGas.finalGas` (`last_frame_return`, `refund`, the EIP-7623 floor) -/
theorem finalGas_eq_txgas (e : Evm.Env) (spec floorGas k : Nat) (res : Interp.ChildResult) (limit : Nat) :
    Evm.finalGas e spec floorGas (U64ops.wmul k (Evm.PER_EMPTY_ACCOUNT_COST - Evm.PER_AUTH_BASE_COST)) res =
      TxGas.finalGas (gasEnv e spec) floorGas k (frameRes res limit) := by
  rw [finalGas_eq_stages e spec floorGas _ res limit]
  rfl

/-- `output`: the two reported gas numbers -/
theorem txResultOf_gas (cls : ResultClass) (res : Interp.ChildResult) (isCreate : Bool) (g : Gas.Gas)
    (logs : List LogRec) :
    (txResultOf cls res isCreate g logs).gasUsed = TxGas.gasUsed g ∧
    (cls = .success → (txResultOf cls res isCreate g logs).gasRefunded = TxGas.gasRefunded g) ∧
    (cls ≠ .success → (txResultOf cls res isCreate g logs).gasRefunded = 0) := by
  cases cls <;> refine ⟨rfl, ?_, ?_⟩ <;> intro h <;> first | rfl | exact absurd rfl h | exact nomatch h

theorem frameGasLimit_eq (e : Evm.Env) (spec initialGas : Nat) :
    U64ops.wsub e.tx.gasLimit initialGas = TxGas.frameGasLimit (gasEnv e spec) initialGas := rfl

def feeEnv (e : Evm.Env) : TxFeeLegs.FeeEnv :=
  { caller := e.tx.caller, coinbase := e.block.coinbase, gasLimit := e.tx.gasLimit, gasPrice := e.tx.gasPrice,
    priorityFee := e.tx.priorityFee, basefee := e.block.basefee, blobGasPrice := e.block.blobGasPrice,
    totalBlobGas := e.totalBlobGas, isCall := e.tx.to.isSome }

theorem feeEnv_eff (e : Evm.Env) : TxFeeLegs.effectiveGasPrice (feeEnv e) = e.effectiveGasPrice := rfl
theorem feeEnv_dataFee (e : Evm.Env) : TxFeeLegs.calcDataFee (feeEnv e) = e.calcDataFee := rfl

end Revm.Proofs.EvmLink
