import Revm.Proofs.JournalInv
import Revm.Proofs.Frame
/-! C07 on top of C06: under journal well-formedness (`Good`) the journal operations used by the frame machine never
hit an `unwrap` on a vacant entry, and they keep `Good`. A lemma `op_good` gives the result of `op` with its `Good`,
`Grows` and journal length; `good_op` gives `Good` of a result already at hand. `CBal s` with `DbBal db` is C06's
`BalOk (absT db s)` = `WF db s` (`balOk_of`, `cbal_of`); the pair keeps the database out of `Good`. -/
namespace Revm.Proofs.Frame
open Revm Revm.Model.Journal Revm.Model.Frame Revm.Spec.JournalAbs Revm.Proofs.Journal

def DbBal (db : Db) : Prop := ∀ a, ((db.basic a).getD Info.default).balance < W
def CBal (s : JState) : Prop := ∀ a acc, s.state a = some acc → acc.info.balance < W

/-- What keeps the `unwrap`s of the journal from failing: its entries refer to present accounts / slots (`JRefs`), the
transaction level is there, cached balances are 256-bit words. -/
structure Good (s : JState) : Prop where
  refs : JRefs s
  ne : s.journal ≠ []
  bal : CBal s

theorem balOk_of {db : Db} {s : JState} (hdb : DbBal db) (h : CBal s) : BalOk (absT db s) := by
  intro a
  show (absAcct db s a).balance < W
  cases hs : s.state a with
  | none => rw [absAcct_none db s hs]; exact hdb a
  | some acc => rw [absAcct_some db s hs]; exact h a acc hs

theorem cbal_of {db : Db} {s : JState} (h : BalOk (absT db s)) : CBal s := by
  intro a acc hs
  have := h a
  change (absAcct db s a).balance < W at this
  rw [absAcct_some db s hs] at this; exact this

theorem CBal.setAcct {t : JState} {a : Addr} {acc' : Acct} (ht : CBal t) (hlt : acc'.info.balance < W) :
    CBal (setAcct t a acc') := by
  intro b accb hbs
  by_cases e : b = a
  · subst e; rw [setAcct_state_same] at hbs; cases hbs; exact hlt
  · rw [setAcct_state_ne _ _ e] at hbs; exact ht b accb hbs

theorem wf_iff {db : Db} {s : JState} : WF db s ↔ BalOk (absT db s) := Iff.rfl

theorem journal_len_pos {s : JState} (g : Good s) : 1 ≤ s.journal.length :=
  List.length_pos_iff.2 g.ne

theorem good_new (spec : Nat) (pre : Addr → Bool) : Good (JState.new spec pre) :=
  ⟨JRefs.new spec pre, by simp [JState.new], fun a acc h => by simp [JState.new] at h⟩

theorem Good.of_pushes {db : Db} {s s' : JState} {es : List Entry} (hdb : DbBal db) (g : Good s)
    (p : Pushes db s s' es) : Good s' ∧ Grows s s' ∧ s'.journal.length = s.journal.length := by
  obtain ⟨top, rest, hj⟩ := List.exists_cons_of_ne_nil g.ne
  have hj' := p.journal top rest hj
  exact ⟨⟨g.refs.of_pushes p g.ne, by rw [hj']; simp, cbal_of (p.bal (balOk_of hdb g.bal))⟩, p.grows, by rw [hj', hj]; simp⟩

theorem touchAccount_total {s : JState} (a : Addr) (acc : Acct) (h : s.journal ≠ []) :
    ∃ s' acc', touchAccount s a acc = some (s', acc') := by
  unfold touchAccount
  by_cases ht : acc.touched
  · simp [ht]
  · obtain ⟨s1, h1⟩ := pushEntry_total (.accountTouched a) h
    simp [ht, h1, bind]

theorem warmed_total {α : Type} {s : JState} (e : Entry) (c : Bool) (x y : α) (h : s.journal ≠ []) :
    ∃ s' r, (if c = true then (pushEntry s e).map (·, x) else some (s, y)) = some (s', r) := by
  split
  · obtain ⟨s1, h1⟩ := pushEntry_total e h
    exact ⟨s1, x, by rw [h1]; rfl⟩
  · exact ⟨s, y, rfl⟩

theorem loadAccount_total (db : Db) {s : JState} (a : Addr) (h : s.journal ≠ []) :
    ∃ s' c, loadAccount db s a = some (s', c) := by
  unfold loadAccount
  split
  · exact warmed_total _ _ _ _ h
  · exact warmed_total _ _ _ _ h

theorem loadAccount_good {db : Db} {s : JState} (hdb : DbBal db) (g : Good s) (a : Addr) :
    ∃ s' c, loadAccount db s a = some (s', c) ∧ Good s' ∧ Grows s s' ∧ s'.journal.length = s.journal.length ∧
      (s'.state a).isSome := by
  obtain ⟨s', c, h⟩ := loadAccount_total db a g.ne
  obtain ⟨p, _, hp⟩ := loadAccount_pushes (db := db) h
  obtain ⟨g', gr, hl⟩ := g.of_pushes hdb p
  exact ⟨s', c, h, g', gr, hl, hp⟩

theorem loadCode_good {db : Db} {s : JState} (hdb : DbBal db) (g : Good s) (a : Addr) :
    ∃ s' c, loadCode db s a = some (s', c) ∧ Good s' ∧ Grows s s' ∧ s'.journal.length = s.journal.length ∧
      (s'.state a).isSome := by
  obtain ⟨s1, c, h1, g1, gr1, hl1, hp1⟩ := loadAccount_good hdb g a
  obtain ⟨acc, hacc⟩ := isSome_cases hp1
  have : ∃ s', loadCode db s a = some (s', c) := by
    simp only [loadCode, h1, bind, Option.bind, hacc]
    split <;> exact ⟨_, rfl⟩
  obtain ⟨s', h⟩ := this
  obtain ⟨p, _, hp⟩ := loadCode_pushes (db := db) h
  obtain ⟨g', gr, hl⟩ := g.of_pushes hdb p
  exact ⟨s', c, h, g', gr, hl, hp⟩

theorem loadAccountDelegated_good {db : Db} {s : JState} (hdb : DbBal db) (g : Good s) (a : Addr) :
    ∃ s' r, loadAccountDelegated db s a = some (s', r) ∧ Good s' ∧ Grows s s' ∧
      s'.journal.length = s.journal.length := by
  obtain ⟨s1, c, h1, g1, gr1, hl1, hp1⟩ := loadCode_good hdb g a
  obtain ⟨acc, hacc⟩ := isSome_cases hp1
  have : ∃ s' r, loadAccountDelegated db s a = some (s', r) := by
    simp only [loadAccountDelegated, h1, bind, Option.bind, hacc]
    split
    · rename_i d hd
      obtain ⟨s2, c2, h2, _⟩ := loadAccount_good hdb g1 d
      simp [h2]
    · exact ⟨_, _, rfl⟩
  obtain ⟨s', ⟨e, c', d⟩, h⟩ := this
  obtain ⟨⟨es, p⟩, _⟩ := loadAccountDelegated_pushes (db := db) h
  obtain ⟨g', gr, hl⟩ := g.of_pushes hdb p
  exact ⟨s', _, h, g', gr, hl⟩

theorem touch_good {db : Db} {s : JState} (hdb : DbBal db) (g : Good s) (a : Addr) :
    ∃ s', touch s a = some s' ∧ Good s' ∧ Grows s s' ∧ s'.journal.length = s.journal.length := by
  have : ∃ s', touch s a = some s' := by
    unfold touch
    cases hs : s.state a with
    | none => exact ⟨_, rfl⟩
    | some acc =>
      obtain ⟨s1, acc1, h1⟩ := touchAccount_total a acc g.ne
      simp [h1]
  obtain ⟨s', h⟩ := this
  obtain ⟨es, p, _⟩ := touch_pushes (db := db) h
  obtain ⟨g', gr, hl⟩ := g.of_pushes hdb p
  exact ⟨s', h, g', gr, hl⟩

/-! ### `Good` followed write by write (`Good.step_upd`, `Good.step_push`): for `set_code`, `create_account_checkpoint`
and `revert`, which have no `Pushes` lemma free of admissibility -/

theorem JRefs.mono {s s' : JState} (h : JRefs s) (g : Grows s s') (hj : s'.journal = s.journal) : JRefs s' := by
  intro l hl e he
  rw [hj] at hl
  exact refsOk_mono g (h l hl e he)

theorem Good.upd {s : JState} {a : Addr} {acc acc' : Acct} (g : Good s) (hs : s.state a = some acc)
    (hst : acc'.storage = acc.storage) (hb : acc'.info.balance < W) : Good (setAcct s a acc') :=
  ⟨JRefs.mono g.refs (Grows.upd hs hst) rfl, g.ne, g.bal.setAcct hb⟩

/-- the three facts the `*_good` lemmas conclude as a conjunction, as one step that composes (`GoodStep.trans`) -/
structure GoodStep (s s' : JState) : Prop where
  good : Good s'
  grows : Grows s s'
  len : s'.journal.length = s.journal.length

theorem GoodStep.refl {s : JState} (g : Good s) : GoodStep s s := ⟨g, Grows.refl _, rfl⟩

theorem GoodStep.trans {s s1 s2 : JState} (h1 : GoodStep s s1) (h2 : GoodStep s1 s2) : GoodStep s s2 :=
  ⟨h2.good, Grows.trans h1.grows h2.grows, h2.len.trans h1.len⟩

theorem Good.step_upd {s : JState} {a : Addr} {acc acc' : Acct} (g : Good s) (hs : s.state a = some acc)
    (hst : acc'.storage = acc.storage) (hb : acc'.info.balance < W) : GoodStep s (setAcct s a acc') :=
  ⟨g.upd hs hst hb, Grows.upd hs hst, rfl⟩

theorem Good.step_push {s s' : JState} {e : Entry} (g : Good s) (hp : pushEntry s e = some s') (hr : refsOk s e) :
    GoodStep s s' ∧ s'.state = s.state := by
  have p := pushEntry_some hp
  obtain ⟨top, rest, hj⟩ := List.exists_cons_of_ne_nil g.ne
  have hj' := p.journal top rest hj
  refine ⟨⟨⟨?_, by rw [hj']; simp, fun a acc h => g.bal a acc (by rw [← p.state]; exact h)⟩, Grows.of_state_eq p.state,
    by rw [hj', hj]; simp⟩, p.state⟩
  intro l hl e' he'
  rw [hj'] at hl
  rcases List.mem_cons.1 hl with rfl | hl
  · rcases List.mem_cons.1 he' with rfl | he'
    · exact refsOk_congr p.state hr
    · exact refsOk_congr p.state (g.refs top (by rw [hj]; simp) e' he')
  · exact refsOk_congr p.state (g.refs l (by rw [hj]; simp [hl]) e' he')

theorem touchAccount_good {s : JState} {a : Addr} {acc : Acct} (g : Good s) (hs : s.state a = some acc) :
    ∃ s' acc', touchAccount s a acc = some (s', acc') ∧ Good s' ∧ s'.state a = some acc' ∧
      acc' = { acc with touched := true } ∧ (∀ b, ¬ b = a → s'.state b = s.state b) ∧
      s'.journal.length = s.journal.length ∧ Grows s s' := by
  unfold touchAccount
  by_cases ht : acc.touched
  · refine ⟨s, acc, by simp [ht], g, hs, ?_, fun _ _ => rfl, rfl, Grows.refl _⟩
    cases acc; simp_all
  · obtain ⟨s1, h1⟩ := pushEntry_total (.accountTouched a) g.ne
    obtain ⟨k1, hst⟩ := g.step_push h1 (by simp [refsOk, hs])
    have k := k1.trans (k1.good.step_upd (acc := acc) (acc' := { acc with touched := true }) (hst ▸ hs) rfl (g.bal a acc hs))
    exact ⟨_, _, by simp [ht, h1, bind], k.good, setAcct_state_same _ _ _, rfl,
      fun b hb => by rw [setAcct_state_ne _ _ hb, hst], k.len, k.grows⟩

theorem transfer_good {db : Db} {s : JState} (hdb : DbBal db) (g : Good s) (src dst : Addr) (v : Nat) :
    ∃ s' r, transfer db s src dst v = some (s', r) ∧ Good s' ∧ Grows s s' ∧ s'.journal.length = s.journal.length := by
  obtain ⟨s1, c1, h1, g1, gr1, _, p1⟩ := loadAccount_good hdb g src
  obtain ⟨s2, c2, h2, g2, gr2, _, p2⟩ := loadAccount_good hdb g1 dst
  obtain ⟨fa, hfa⟩ := isSome_cases (gr2.acct src p1)
  obtain ⟨s3, fa', h3, g3, hs3, _, hoth3, _, _⟩ := touchAccount_good g2 hfa
  have : ∃ s' r, transfer db s src dst v = some (s', r) := by
    simp only [transfer, h1, h2, bind, Option.bind, hfa, h3]
    by_cases hlt : fa'.info.balance < v
    · rw [if_pos hlt]; exact ⟨_, _, rfl⟩
    rw [if_neg hlt]
    -- the debit keeps the journal well-formed, and both accounts stay present through the second touch
    have g4 := g3.upd (acc' := { fa' with info := { fa'.info with balance := fa'.info.balance - v } }) hs3 rfl
      (Nat.lt_of_le_of_lt (Nat.sub_le _ _) (g3.bal src fa' hs3))
    obtain ⟨ta, hta⟩ : ∃ ta, (setAcct s3 src { fa' with info := { fa'.info with balance := fa'.info.balance - v } }).state dst = some ta := by
      by_cases e : dst = src
      · subst e; exact ⟨_, setAcct_state_same _ _ _⟩
      · rw [setAcct_state_ne _ _ e, hoth3 dst e]; exact isSome_cases p2
    obtain ⟨s4, ta', h4, g5, hs4, _, hoth4, _, _⟩ := touchAccount_good g4 hta
    simp only [hta, h4]
    by_cases hov : ta'.info.balance + v ≥ W
    · rw [if_pos hov]
      obtain ⟨f, hf⟩ : ∃ f, s4.state src = some f := by
        by_cases e : src = dst
        · exact ⟨_, e ▸ hs4⟩
        · exact ⟨_, (hoth4 src e).trans (setAcct_state_same _ _ _)⟩
      rw [hf]; exact ⟨_, _, rfl⟩
    · rw [if_neg hov]
      obtain ⟨s5, h5⟩ := pushEntry_total (s := setAcct s4 dst { ta' with info := { ta'.info with balance := ta'.info.balance + v } })
        (.balanceTransfer src dst v) g5.ne
      rw [h5]; exact ⟨_, _, rfl⟩
  obtain ⟨s', r, h⟩ := this
  obtain ⟨⟨es, p⟩, _⟩ := transfer_pushes (db := db) (balOk_of hdb g.bal) h
  obtain ⟨g', gr, hl⟩ := g.of_pushes hdb p
  exact ⟨s', r, h, g', gr, hl⟩
theorem incNonce_good {db : Db} {s : JState} (hdb : DbBal db) (g : Good s) {a : Addr} (hp : (s.state a).isSome) :
    ∃ s' r, incNonce s a = some (s', r) ∧ Good s' ∧ Grows s s' ∧ s'.journal.length = s.journal.length := by
  obtain ⟨acc, hacc⟩ := isSome_cases hp
  have : ∃ s' r, incNonce s a = some (s', r) := by
    simp only [incNonce, hacc, bind, Option.bind]
    by_cases hn : acc.info.nonce = U64 - 1
    · simp [hn]
    · obtain ⟨s1, acc1, h1, g1, _⟩ := touchAccount_good g hacc
      obtain ⟨s2, h2⟩ := pushEntry_total (.nonceChange a) g1.ne
      simp [hn, h1, h2]
  obtain ⟨s', r, h⟩ := this
  obtain ⟨es, p, _⟩ := incNonce_pushes (db := db) h
  obtain ⟨g', gr, hl⟩ := g.of_pushes hdb p
  exact ⟨s', r, h, g', gr, hl⟩

/-- no admissibility needed, unlike `setCode_pushes` -/
theorem setCode_good {s : JState} (g : Good s) {a : Addr} (hash : Nat) (hp : (s.state a).isSome) :
    ∃ s', setCode s a hash = some s' ∧ Good s' ∧ Grows s s' ∧ s'.journal.length = s.journal.length := by
  obtain ⟨acc, hacc⟩ := isSome_cases hp
  obtain ⟨s1, acc1, h1, g1, hs1, hacc1, _, hl1, gr1⟩ := touchAccount_good g hacc
  obtain ⟨s2, h2⟩ := pushEntry_total (.codeChange a) g1.ne
  obtain ⟨k2, hst2⟩ := g1.step_push h2 (by simp [refsOk, hs1])
  have k3 := k2.good.step_upd (acc := acc1) (acc' := { acc1 with info := { acc1.info with codeHash := hash, code := some hash } })
    (hst2 ▸ hs1) rfl (by subst hacc1; exact g.bal a acc hacc)
  have k := (GoodStep.mk g1 gr1 hl1).trans (k2.trans k3)
  exact ⟨_, by simp [setCode, hacc, h1, h2, bind], k.good, k.grows, k.len⟩

/-- a database with no account: `CBal` does not mention the database, so the facts of C06 about `BalOk (absT db s)`
can be read over it -/
def emptyDb : Db := { basic := fun _ => none, storage := fun _ _ => 0, delegate := fun _ => none }

theorem dbBal_empty : DbBal emptyDb := fun _ => by
  show Info.default.balance < W
  rw [W_val]; decide

theorem cbal_revert {s s' : JState} {cp : Checkpoint} (h : revert s cp = some s') (hb : CBal s) : CBal s' := by
  obtain ⟨_, habs, _⟩ := revert_abs emptyDb s s' cp h (fun _ _ _ => rfl)
  exact cbal_of (db := emptyDb) (habs ▸ undoTs_balOk _ _ _ (balOk_of dbBal_empty hb))

/-- `h1`: `cp` is not the transaction level, so the journal stays non-empty -/
theorem revert_good {s : JState} {cp : Checkpoint} (g : Good s) (h1 : 1 ≤ cp.journalI) (hlen : cp.journalI ≤ s.journal.length) :
    ∃ s', revert s cp = some s' ∧ Good s' ∧ Grows s s' ∧ s'.journal.length = cp.journalI := by
  obtain ⟨s', hr, gr, jr⟩ := revert_isSome (cp := cp) g.refs hlen
  obtain ⟨_, _, _, _, hj, _⟩ := revert_abs emptyDb s s' cp hr (fun _ _ _ => rfl)
  have hl : s'.journal.length = cp.journalI := by rw [hj, List.length_drop]; omega
  exact ⟨s', hr, ⟨jr, fun e => Nat.ne_of_gt h1 (hl.symm.trans (congrArg List.length e)), cbal_revert hr g.bal⟩, gr, hl⟩

theorem good_checkpoint {s : JState} (g : Good s) : Good (checkpoint s).1 :=
  ⟨g.refs.checkpoint, by simp [checkpoint], fun a acc h => g.bal a acc h⟩

theorem good_commit {s : JState} (g : Good s) : Good (commit s) :=
  ⟨JRefs.mono g.refs (Grows.of_state_eq rfl) rfl, g.ne, fun a acc h => g.bal a acc h⟩

/-- on loaded target and caller; its internal reverts included; no admissibility needed, unlike `create_pushes` -/
theorem createAccountCheckpoint_good {s : JState} (g : Good s) {caller a : Addr} (hs : Bool) (v spec : Nat)
    (ha : (s.state a).isSome) (hc : (s.state caller).isSome) :
    ∃ s' r, createAccountCheckpoint s caller a hs v spec = some (s', r) ∧ Good s' ∧ Grows s s' ∧
      (match r with
       | .ok cp => cp = (checkpoint s).2 ∧ s'.journal.length = s.journal.length + 1
       | .error _ => s'.journal.length = s.journal.length) := by
  obtain ⟨acc, hacc⟩ := isSome_cases ha
  have gsc := good_checkpoint g
  have hscl : (checkpoint s).1.journal.length = s.journal.length + 1 := by simp [checkpoint]
  have hsca : (checkpoint s).1.state a = some acc := hacc
  -- an error path reverts the checkpoint from a state reached inside it
  have reverts : ∀ {sm}, GoodStep (checkpoint s).1 sm → ∃ s', revert sm (checkpoint s).2 = some s' ∧ Good s' ∧ Grows s s' ∧
      s'.journal.length = s.journal.length := fun k => by
    obtain ⟨s', hr, g', gr, hl⟩ := revert_good (cp := (checkpoint s).2) k.good (journal_len_pos g)
      (by rw [k.len, hscl]; exact Nat.le_succ _)
    exact ⟨s', hr, g', Grows.trans (Grows.congr_left (s0 := (checkpoint s).1) rfl k.grows) gr, hl⟩
  simp only [createAccountCheckpoint, bind, Option.bind, hsca]
  by_cases hcol : acc.info.codeHash ≠ KECCAK_EMPTY ∨ acc.info.nonce ≠ 0 ∨ hs = true
  · obtain ⟨s', hr, g', gr, hl⟩ := reverts (.refl gsc)
    exact ⟨s', .error .collision, by rw [if_pos hcol, hr], g', gr, hl⟩
  rw [if_neg hcol]
  -- mark created and journal it, drop the cached code, touch
  have k1 := gsc.step_upd (acc' := { acc with created := true }) hsca rfl (g.bal a acc hacc)
  obtain ⟨s2, h2⟩ := pushEntry_total (.accountCreated a) k1.good.ne
  obtain ⟨k2, hst2⟩ := k1.good.step_push h2 (by simp [refsOk, setAcct_state_same])
  have hs2a : s2.state a = some { acc with created := true } := by rw [hst2]; exact setAcct_state_same _ _ _
  have k3 := k2.good.step_upd (acc' := { { acc with created := true } with info := { acc.info with code := none } })
    hs2a rfl (g.bal a acc hacc)
  obtain ⟨s4, acc4, h4, g4, hs4a, _, _, hl4, gr4⟩ := touchAccount_good k3.good (setAcct_state_same _ _ _)
  have k4 : GoodStep (checkpoint s).1 s4 := k1.trans (k2.trans (k3.trans ⟨g4, gr4, hl4⟩))
  simp only [h2, h4]
  by_cases hov : acc4.info.balance + v ≥ W
  · obtain ⟨s', hr, g', gr, hl⟩ := reverts k4
    exact ⟨s', .error .overflowPayment, by rw [if_pos hov, hr], g', gr, hl⟩
  rw [if_neg hov]
  -- the endowment: credit the new account, debit the caller, journal the transfer
  generalize hacc5 : (if spec ≥ SPURIOUS_DRAGON then
      { { acc4 with info := { acc4.info with balance := acc4.info.balance + v } } with
        info := { { acc4.info with balance := acc4.info.balance + v } with nonce := 1 } }
    else { acc4 with info := { acc4.info with balance := acc4.info.balance + v } }) = acc5
  have hacc5s : acc5.storage = acc4.storage ∧ acc5.info.balance = acc4.info.balance + v := by
    subst hacc5; split <;> exact ⟨rfl, rfl⟩
  have k5 := g4.step_upd (acc' := acc5) hs4a hacc5s.1 (by rw [hacc5s.2]; exact Nat.lt_of_not_le hov)
  obtain ⟨c, hcs⟩ := isSome_cases ((k4.trans k5).grows.acct caller hc)
  have k6 := k5.good.step_upd (acc' := { c with info := { c.info with balance := bsub c.info.balance v } }) hcs rfl
    (bsub_lt (k5.good.bal caller c hcs))
  obtain ⟨s7, h7⟩ := pushEntry_total (.balanceTransfer caller a v) k6.good.ne
  obtain ⟨k7, _⟩ := k6.good.step_push h7
    ⟨by simp [setAcct_state_same], k6.grows.acct a (by simp [setAcct_state_same])⟩
  have k := k4.trans (k5.trans (k6.trans k7))
  exact ⟨s7, .ok (checkpoint s).2, by simp only [hcs, h7], k.good, Grows.congr_left (s0 := (checkpoint s).1) rfl k.grows,
    rfl, k.len.trans hscl⟩

/-- `initial_account_load` (the transaction's pre-warming, no frame-machine operation) only adds an account and slots -/
theorem ial_good {db : Db} {j : JState} (hbal : DbBal db) (g : Good j) (a : Addr) (ks : List Nat) :
    Good (initialAccountLoad db j a ks) := by
  rw [ial_eq]
  refine ⟨JRefs.mono g.refs (Grows.setAcct ?_) rfl, g.ne, ?_⟩
  · intro acc hacc k hk
    show (ialSt db a ks (loadedAcct db j a).storage k).isSome
    unfold loadedAcct; rw [hacc]
    exact ialSt_mono db a ks _ k hk
  · intro b accb hb
    by_cases e : b = a
    · subst e
      simp only [setAcct, if_true, Option.some.injEq] at hb
      subst hb
      show (loadedAcct db j b).info.balance < W
      unfold loadedAcct
      have := hbal b
      cases hx : j.state b with
      | some x => exact g.bal b x hx
      | none => cases hd : db.basic b <;> rw [hd] at this <;> exact this
    · simp only [setAcct, e, if_false] at hb
      exact g.bal b accb hb

/-! ### the journal operations an instruction reaches through `Host` -/

/-- the account an instruction dereferences is loaded (SLOAD / SSTORE / SELFDESTRUCT act on the executing
contract, which `make_*_frame` loaded; the Rust `unwrap`s there) -/
def hostOk (s : JState) : HostOp → Prop
  | .sload a _ => (s.state a).isSome
  | .sstore a _ _ => (s.state a).isSome
  | .selfdestruct a _ => (s.state a).isSome
  | _ => True

theorem sload_total {db : Db} {s : JState} (g : Good s) {a : Addr} (k : Nat) (ha : (s.state a).isSome) :
    ∃ s' r, sload db s a k = some (s', r) := by
  obtain ⟨acc, hacc⟩ := isSome_cases ha
  simp only [sload, hacc, bind, Option.bind_some]
  split
  · exact warmed_total _ _ _ _ g.ne
  · obtain ⟨s1, h1⟩ := pushEntry_total (s := setAcct s a (setSlot acc k _)) (.storageWarmed a k) g.ne
    exact ⟨s1, _, by rw [h1]; rfl⟩

theorem pushEntry_isSome {s : JState} (e : Entry) (h : s.journal ≠ []) : (pushEntry s e).isSome = true := by
  obtain ⟨s', h'⟩ := pushEntry_total e h; simp [h']

theorem selfdestruct_total {db : Db} {s : JState} (hdb : DbBal db) (g : Good s) {a : Addr} (t : Addr)
    (hok : (s.state a).isSome) : ∃ s' r, selfdestruct db s a t = some (s', r) := by
  obtain ⟨s1, c1, h1, g1, gr1, l1, pt⟩ := loadAccount_good hdb g t
  obtain ⟨tacc, htacc⟩ := isSome_cases pt
  obtain ⟨acc, hacc⟩ := isSome_cases (gr1.acct a hok)
  simp only [selfdestruct, h1, bind, Option.bind_some, htacc]
  by_cases hat : a = t
  · subst hat
    rw [htacc] at hacc; cases hacc
    simp only [ne_eq, not_true_eq_false, if_false, Option.bind_some, htacc]
    split
    · obtain ⟨x, hx⟩ := pushEntry_total (s := setAcct s1 a { tacc with selfdestructed := true, info := { tacc.info with balance := 0 } })
        (.accountDestroyed a a tacc.selfdestructed tacc.info.balance) g1.ne
      rw [hx]; exact ⟨_, _, rfl⟩
    · exact ⟨_, _, rfl⟩
  · obtain ⟨s2, t2, h2, g2, hs2, _, hoth, _, gr2⟩ := touchAccount_good g1 htacc
    have ha2 : (setAcct s2 t { t2 with info := { t2.info with balance := U256.wadd t2.info.balance acc.info.balance } }).state a = some acc := by
      rw [setAcct_state_ne _ _ hat, hoth a hat]; exact hacc
    simp only [ne_eq, hat, not_false_eq_true, if_true, hacc, h2, Option.bind_some, ha2]
    split
    · obtain ⟨x, hx⟩ := pushEntry_total
        (s := setAcct (setAcct s2 t { t2 with info := { t2.info with balance := U256.wadd t2.info.balance acc.info.balance } }) a
          { acc with selfdestructed := true, info := { acc.info with balance := 0 } })
        (.accountDestroyed a t acc.selfdestructed acc.info.balance) g2.ne
      rw [hx]; exact ⟨_, _, rfl⟩
    · obtain ⟨x, hx⟩ := pushEntry_total
        (s := setAcct (setAcct s2 t { t2 with info := { t2.info with balance := U256.wadd t2.info.balance acc.info.balance } }) a
          { acc with info := { acc.info with balance := 0 } })
        (.balanceTransfer a t acc.info.balance) g2.ne
      rw [hx]; exact ⟨_, _, rfl⟩

theorem sstore_total {db : Db} {s : JState} (hdb : DbBal db) (g : Good s) {a : Addr} (k v : Nat) (ha : (s.state a).isSome) :
    ∃ s' r, sstore db s a k v = some (s', r) := by
  obtain ⟨s1, ⟨pv, c⟩, h1⟩ := sload_total (db := db) g k ha
  obtain ⟨p1, _, _, acc, sl, hacc, hsl, _⟩ := sload_pushes (db := db) h1
  simp only [sstore, h1, bind, Option.bind_some, hacc, hsl]
  by_cases he : pv = v
  · rw [if_pos he]; exact ⟨_, _, rfl⟩
  · obtain ⟨s2, h2⟩ := pushEntry_total (.storageChanged a k pv) (g.of_pushes hdb p1).1.ne
    rw [if_neg he, h2]; exact ⟨_, _, rfl⟩

/-- the end of the `hostStep_total` cases whose operation has a `Pushes` lemma -/
theorem hostStep_pushes {db : Db} {s s' : JState} {α : Type} {o : Option (JState × α)} {r : α} {es : List Entry}
    (hdb : DbBal db) (g : Good s) (h : o = some (s', r)) (p : Pushes db s s' es) :
    ∃ s', o.map (·.1) = some s' ∧ Good s' ∧ Grows s s' ∧ s'.journal.length = s.journal.length :=
  ⟨s', by rw [h]; rfl, g.of_pushes hdb p⟩

theorem hostStep_total {db : Db} {s : JState} (hdb : DbBal db) (g : Good s) (op : HostOp) (hok : hostOk s op) :
    ∃ s', hostStep db s op = some s' ∧ Good s' ∧ Grows s s' ∧ s'.journal.length = s.journal.length := by
  cases op with
  | loadAccountDelegated a =>
    obtain ⟨s', r, h, g', gr, l⟩ := loadAccountDelegated_good hdb g a
    exact ⟨s', by rw [hostStep, h]; rfl, g', gr, l⟩
  | balance a =>
    obtain ⟨s', r, h, g', gr, l, _⟩ := loadAccount_good hdb g a
    exact ⟨s', by rw [hostStep, h]; rfl, g', gr, l⟩
  | code a =>
    obtain ⟨s', r, h, g', gr, l, _⟩ := loadCode_good hdb g a
    exact ⟨s', by rw [hostStep, h]; rfl, g', gr, l⟩
  | sload a k =>
    obtain ⟨s', ⟨v, c⟩, h⟩ := sload_total (db := db) g k hok
    exact hostStep_pushes hdb g h (sload_pushes (db := db) h).1
  | sstore a k v =>
    obtain ⟨s', r, h⟩ := sstore_total hdb g k v hok
    obtain ⟨⟨es, p⟩, _⟩ := sstore_pushes (db := db) h
    exact hostStep_pushes hdb g h p
  | tload a k => exact ⟨s, rfl, g, Grows.refl _, rfl⟩
  | tstore a k v =>
    obtain ⟨s', h⟩ := tstore_total a k v g.ne
    obtain ⟨es, p, _⟩ := tstore_pushes (db := db) h
    exact ⟨s', h, g.of_pushes hdb p⟩
  | log lg =>
    exact ⟨log s lg, rfl, ⟨JRefs.mono g.refs (Grows.of_state_eq rfl) rfl, g.ne, fun a acc h => g.bal a acc h⟩,
      Grows.of_state_eq rfl, rfl⟩
  | selfdestruct a t =>
    obtain ⟨s', r, h⟩ := selfdestruct_total hdb g t hok
    obtain ⟨⟨es, p⟩, _⟩ := selfdestruct_pushes (db := db) (balOk_of hdb g.bal) h
    exact hostStep_pushes hdb g h p

end Revm.Proofs.Frame
