import Revm.Proofs.EvmStep2Run
/-! The instructions that read or change the state through the host (BALANCE, SELFBALANCE, EXTCODESIZE, EXTCODEHASH,
EXTCODECOPY, BLOCKHASH, SSTORE, TSTORE, SELFDESTRUCT): `Interp.step` is the rule of `Spec/EvmRules2.lean`; the gas is the
`Spec/GasCalc.lean` formula of the host's answer. -/
namespace Revm.Proofs.EvmStep2
open Revm Revm.Model Revm.Model.Interp
open Revm.Model.GasCalc (enabled)
open Revm.Spec.EvmRules Revm.Spec.EvmRules2
open Revm.Spec.GasCalc (Fork)
open Revm.Proofs.EvmStep

theorem requireSome_ok (r : HostResp) (s : IState) (h : r.ok = true) : requireSome r s = .ok () s := by
  simp [requireSome, h]

theorem gasCharge_bind (s : IState) (c : Nat) (f : Unit → M Unit) (hg : s.gas.remaining < U64) :
    ((gasCharge c >>= f) s).toDone = needGas s c (fun s' => (f () s').toDone) :=
  bind_ite Exec.toDone (gasCharge_eq s c hg) f

theorem accountQuery_run (op : Nat → HostOp) (cost : IState → HostResp → Nat) (value : HostResp → Nat)
    (price : Bool → Nat) (s : IState) (hwf : WFM s)
    (hcost : ∀ (s' : IState) (r : HostResp), s'.spec = s.spec → cost s' r = price r.isCold) :
    hostCall (do let a ← popAddress; pure (op a, ()))
      (fun (_ : Unit) r => do
        requireSome r
        let s ← getS
        gasCharge (cost s r)
        push (value r)) (adv s) = accountQueryRule op price value s := by
  unfold accountQueryRule needGas
  show hostRun _ (_ : Exec _) = _
  exact popAddress_run hwf.inv fun a rest hrev h1 => host_run fun r => requireSome_run <| getS_run <| by
    have hlen : rest.reverse.length ≠ 1024 := by
      have : (adv s).stack.length = rest.reverse.length + 1 := by rw [stack_of_reverse (pre := [a]) hrev]; simp
      have : (adv s).stack.length ≤ 1024 := hwf.depth
      omega
    rw [hcost { adv s with stack := rest.reverse } r rfl]
    refine gas_run h1 fun _ => ?_
    rw [push_toDone, if_neg (show ¬ (charge { adv s with stack := rest.reverse } (price r.isCold)).stack.length = 1024
      from hlen)]
    simp only [List.reverse_cons]
    rfl

theorem balanceCost_eq (f : Fork) (c : Bool) :
    (if enabled f.id GasCalc.SpecId.BERLIN then GasCalc.warmColdCost c
     else if enabled f.id GasCalc.SpecId.ISTANBUL then 700
     else if enabled f.id GasCalc.SpecId.TANGERINE then 400 else 20) = balanceCost f c := by
  rw [Proofs.GasCalc.en_berlin, Proofs.GasCalc.en_istanbul, Proofs.GasCalc.en_tangerine]
  cases c <;> rfl

theorem extcodehashCost_eq (f : Fork) (c : Bool) :
    (if enabled f.id GasCalc.SpecId.BERLIN then GasCalc.warmColdCost c
     else if enabled f.id GasCalc.SpecId.ISTANBUL then 700 else 400) = extcodehashCost f c := by
  rw [Proofs.GasCalc.en_berlin, Proofs.GasCalc.en_istanbul]
  cases c <;> rfl

theorem step_balance (f : Fork) (s : IState) (hcode : s.code[s.pc]? = some 0x31) (hwf : WFM s) (hf : s.spec = f.id) :
    step s = balanceRule f s :=
  (step_eq s _ hcode).trans <| accountQuery_run HostOp.balance _ (·.word) (balanceCost f) s hwf fun s' r hs' => by
    simp only [hs'.trans hf]; exact balanceCost_eq f r.isCold

theorem step_extcodesize (f : Fork) (s : IState) (hcode : s.code[s.pc]? = some 0x3b) (hwf : WFM s)
    (hf : s.spec = f.id) : step s = extcodesizeRule f s :=
  (step_eq s _ hcode).trans <|
    accountQuery_run HostOp.code _ (·.bytes.length) (Spec.GasCalc.accountAccess f 20) s hwf fun s' r hs' => by
      simp only [hs'.trans hf]; exact Proofs.GasCalc.extBase_eq f r.isCold

theorem step_extcodehash (f : Fork) (s : IState) (hcode : s.code[s.pc]? = some 0x3f) (hwf : WFM s)
    (hf : s.spec = f.id) : step s = extcodehashRule f s := by
  rw [step_eq s _ hcode]
  unfold extcodehashRule
  show hostRun _ (_ : Exec _) = _
  exact check_run <| accountQuery_run HostOp.codeHash _ (·.word) (extcodehashCost f) s hwf fun s' r hs' => by
    simp only [hs'.trans hf]; exact extcodehashCost_eq f r.isCold

theorem step_selfbalance (s : IState) (hcode : s.code[s.pc]? = some 0x47) (hwf : WFM s) :
    step s = selfbalanceRule s := by
  rw [step_eq s _ hcode]
  unfold selfbalanceRule needGasO
  show hostRun _ (_ : Exec _) = _
  exact check_run <| gas_run hwf.inv fun _ => getS_run <| host_run fun r => requireSome_run <| push_toDone _ _

theorem step_blockhash (s : IState) (hcode : s.code[s.pc]? = some 0x40) (hwf : WFM s) :
    step s = blockhashRule s := by
  rw [step_eq s _ hcode]
  unfold blockhashRule needGasO
  show hostRun _ (_ : Exec _) = _
  exact gas_run hwf.inv fun h1 => popTop1_run h1 fun n rest hrev _ => by
    rw [asUsizeSat_min]
    exact host_run fun r => requireSome_run <| congrArg Exec.toDone
      (setTop_cons _ (charge (adv s) GasCalc.BLOCKHASH) n rest (List.reverse_eq_iff.mp hrev))

theorem step_tstore (s : IState) (hcode : s.code[s.pc]? = some 0x5d) (hwf : WFM s) : step s = tstoreRule s := by
  rw [step_eq s _ hcode]
  unfold tstoreRule needGasO
  show hostRun _ (_ : Exec _) = _
  exact check_run <| nonStatic_run <| gas_run hwf.inv fun h1 => pop2_run h1 fun key v rest _ _ _ _ => getS_run <|
    host_run fun _ => rfl

theorem sstoreRefund_bound (f : Fork) (pat : Spec.GasCalc.Pattern) :
    -(2^20 : Int) ≤ Spec.GasCalc.sstoreRefund f pat ∧ Spec.GasCalc.sstoreRefund f pat ≤ 2^20 := by
  unfold Spec.GasCalc.sstoreRefund Spec.GasCalc.netParams
  cases f.hasEIP2200 <;> cases f.hasEIP3529 <;> cases f.hasEIP2929 <;> cases pat <;> decide

/-- `refund!` on a counter far from the ends of `i64` is addition -/
theorem refund_eq (s : IState) (r : Int) (hs : -(2^62 : Int) ≤ s.gas.refunded ∧ s.gas.refunded ≤ 2^62)
    (hr : -(2^20 : Int) ≤ r ∧ r ≤ 2^20) : refund r s = .ok () (addRefund s r) := by
  have e := Proofs.Gas.i64WrapAdd_exact s.gas.refunded r (by unfold Gas.I64MIN; omega) (by unfold Gas.I64MAX; omega)
  simp only [refund, modifyS, addRefund, Gas.recordRefund, e]

theorem step_sstore (f : Fork) (s : IState) (hcode : s.code[s.pc]? = some 0x55) (hwf : WFM s) (hf : s.spec = f.id) :
    step s = sstoreRule f s := by
  rw [step_eq s _ hcode]
  unfold sstoreRule needGas
  show hostRun _ (_ : Exec _) = _
  refine nonStatic_run <| pop2_run hwf.inv fun key v rest _ _ _ h1 => getS_run <| host_run fun r =>
    requireSome_run <| getS_run ?_
  show ((gasOrFail (GasCalc.sstoreCost s.spec r.original r.present r.new s.gas.remaining r.isCold) >>= fun _ =>
    refund (GasCalc.sstoreRefund s.spec r.original r.present r.new)) { adv s with stack := rest.reverse }).toDone = _
  rw [hf, Proofs.GasCalc.sstoreCost_eq f _ _ _ _ _ _ (Proofs.GasCalc.classify_holds r.original r.present r.new),
    Proofs.GasCalc.sstoreRefund_eq f _ _ _ _ (Proofs.GasCalc.classify_holds r.original r.present r.new)]
  generalize Spec.GasCalc.classify r.original r.present r.new = pat
  show _ = match Spec.GasCalc.sstoreCost f pat s.gas.remaining r.isCold with | none => _ | some c => _
  cases Spec.GasCalc.sstoreCost f pat s.gas.remaining r.isCold with
  | none => rfl
  | some c =>
    exact gas_run h1 fun _ => congrArg Exec.toDone
      (refund_eq (charge { adv s with stack := rest.reverse } c) _ hwf.refund (sstoreRefund_bound f pat))

theorem step_selfdestruct (f : Fork) (s : IState) (hcode : s.code[s.pc]? = some 0xff) (hwf : WFM s)
    (hf : s.spec = f.id) : step s = selfdestructRule f s := by
  rw [step_eq s _ hcode]
  unfold selfdestructRule needGas
  show hostRun _ (_ : Exec _) = _
  refine nonStatic_run <| popAddress_run hwf.inv fun t rest _ h1 => getS_run <| host_run fun r =>
    requireSome_run <| getS_run ?_
  have hrf1 : -(2^62 : Int) ≤ ({ adv s with stack := rest.reverse } : IState).gas.refunded ∧
      ({ adv s with stack := rest.reverse } : IState).gas.refunded ≤ 2^62 := hwf.refund
  have hsp1 : ({ adv s with stack := rest.reverse } : IState).spec = f.id := hf
  generalize ({ adv s with stack := rest.reverse } : IState) = s1 at h1 hrf1 hsp1 ⊢
  rw [hsp1, Proofs.GasCalc.en_london, Proofs.GasCalc.selfdestructCost_eq]
  cases (!f.hasEIP3529 && !r.previouslyDestroyed)
  · rw [if_neg Bool.false_ne_true, if_neg Bool.false_ne_true]
    exact gas_run h1 fun _ => rfl
  · rw [if_pos rfl, if_pos rfl]
    exact ok_run (refund_eq s1 24000 hrf1 (by decide)) <|
      gas_run (mb := false) (s := addRefund s1 24000) ⟨h1.gas, h1.words, fun hb => nomatch hb⟩ fun _ => rfl

theorem accountAccess_lt (f : Fork) (c : Bool) : Spec.GasCalc.accountAccess f 20 c < 2^40 := by
  cases f <;> cases c <;> decide

theorem extCharge_eq (f : Fork) (s : IState) (len : Nat) (cold : Bool) (hsp : s.spec = f.id) (hl : len < U64)
    (hg : s.gas.remaining < GAS_BOUND) :
    gasOrFail (GasCalc.extcodecopyCost s.spec len cold) s
      = if s.gas.remaining < Spec.GasCalc.extcodecopyCost f len cold then .halt .OutOfGas [] s
        else .ok () (charge s (Spec.GasCalc.extcodecopyCost f len cold)) := by
  unfold GasCalc.extcodecopyCost Spec.GasCalc.extcodecopyCost
  simp only []
  rw [hsp, Proofs.GasCalc.extBase_eq]
  exact gasOrFail_words s _ GasCalc.COPY len (by decide) (by decide) (accountAccess_lt f cold) hl hg

/-- `min(as_usize_saturated!(code_offset), code.len())` reads the same bytes as the unbounded offset -/
theorem paddedSlice_min (data : List Nat) (d len : Nat) (hd : data.length ≤ Memory.ISIZE_MAX) :
    Spec.Memory.paddedSlice data (min (asUsizeSat d) data.length) len = Spec.Memory.paddedSlice data d len := by
  have hI := Proofs.Memory.isize_lt_u64
  unfold asUsizeSat U256.asU64Sat
  by_cases h : d < U64
  · rw [if_pos h]
    by_cases h2 : d ≤ data.length
    · rw [Nat.min_eq_left h2]
    · rw [Nat.min_eq_right (by omega)]
      unfold Spec.Memory.paddedSlice
      rw [List.drop_of_length_le (Nat.le_refl _), List.drop_of_length_le (by omega)]
  · rw [if_neg h, Nat.min_eq_right (by omega)]
    unfold Spec.Memory.paddedSlice
    rw [List.drop_of_length_le (Nat.le_refl _), List.drop_of_length_le (by omega)]

/-- EXTCODECOPY agrees with its rule for every answer whose code is a Rust slice (`≤ isize::MAX` bytes) -/
theorem step_extcodecopy (f : Fork) (s : IState) (hcode : s.code[s.pc]? = some 0x3c) (hwf : WFM s)
    (hf : s.spec = f.id) :
    AgreeOn (fun r => r.bytes.length ≤ Memory.ISIZE_MAX) (step s) (extcodecopyRule f s) := by
  rw [step_eq s _ hcode]
  show AgreeOn _ (hostRun _ ((popAddress >>= fun a => pop3 >>= fun args => pure (HostOp.code a, args)) (adv s))) _
  unfold extcodecopyRule needGas memAccess
  rcases hrev : s.stack.reverse with _ | ⟨a, tl⟩
  · rw [halt_run (E := hostRun _) (popAddress_underflow (adv s) (short_of_reverse (s := adv s) hrev (by simp)))]
    exact rfl
  · obtain ⟨_, h1⟩ := hwf.inv.split (pre := [a]) hrev
    rw [ok_run (E := hostRun _) (popAddress_ok (adv s) _ a (stack_of_reverse (pre := [a]) hrev)) rfl,
      pop3_run (E := hostRun _) h1 fun _ _ _ _ _ _ _ _ _ => rfl]
    show AgreeOn _ (match tl.reverse.reverse with | x :: y :: z :: rest => _ | _ => _) _
    rw [List.reverse_reverse]
    rcases tl with _ | ⟨memOff, _ | ⟨codeOff, _ | ⟨len, rest⟩⟩⟩
    · exact rfl
    · exact rfl
    · exact rfl
    · obtain ⟨hw, h2⟩ := hwf.inv.split (pre := [a, memOff, codeOff, len]) hrev
      refine ⟨rfl, fun r hb => ?_⟩
      exact requireSome_run <| usize_run (hw len (by simp)) fun hl => getS_run <|
        gasOrFail_run h2 (extCharge_eq f _ len r.isCold hf hl h2.bound) fun h3 => ite_run (fun _ => rfl) fun _ =>
          usize_run (hw memOff (by simp)) fun hm => resize_run h3 fun h4 hcov => by
            rw [← paddedSlice_min _ codeOff len hb]
            exact congrArg Exec.toDone (memSetData_eq _ memOff _ len r.bytes h4.wf hb
              (Nat.lt_of_le_of_lt (Nat.min_le_left _ _) (asUsizeSat_lt _)) hcov)

end Revm.Proofs.EvmStep2
