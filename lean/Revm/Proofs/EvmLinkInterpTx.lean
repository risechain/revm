import Revm.Proofs.EvmLinkInterpLoop
import Revm.Proofs.EvmLinkTotalTx
/-! The interpreter side of panic-freedom for the transaction: `prepare` keeps the stores well-formed (the EIP-7702 list
adds 23-byte designators to the code store) and the frame it opens satisfies `SI` (`prepare_si`: C25's `init_inv'` on
`SharedMemory::new()`, measure = its gas limit). Hence `transact_tot3`: on a `WOk` world and inputs that are Rust values
(`WTyped`, `ETyped`), for every fork and fuel, `Evm.transact` ends in a result on a well-formed world, a soft failure or
"out of fuel": no interpreter fault, no fault of an outcome insertion, no failing `free_context`. -/
namespace Revm.Proofs.EvmLink
open Revm Revm.Model Revm.Model.Evm
open Revm.Proofs.EvmInstLife (loadAccessList)

local notation "ISZ" => Memory.ISIZE_MAX

theorem foldl_noteSlot_store (a : Nat) : ∀ (keys : List Nat) (w : World),
    StoreEq w (keys.foldl (fun w k => w.noteSlot a k) w) := by
  intro keys
  induction keys with
  | nil => intro w; exact StoreEq.refl _
  | cons k ks ih => intro w; simp only [List.foldl_cons]; exact (noteSlot_store w a k).trans (ih _)

theorem loadAccessList_store (e : Evm.Env) : ∀ (w : World), StoreEq w (loadAccessList e w) := by
  unfold loadAccessList
  generalize e.tx.accessList = l
  induction l with
  | nil => intro w; exact StoreEq.refl _
  | cons it l ih =>
    intro w
    simp only [List.foldl_cons]
    refine StoreEq.trans ?_ (ih _)
    have h0 : StoreEq w ({ w with js := Journal.initialAccountLoad w.db w.js it.addr it.keys }.noteAddr it.addr) :=
      StoreEq.trans (b := { w with js := Journal.initialAccountLoad w.db w.js it.addr it.keys }) ⟨rfl, rfl⟩
        (noteAddr_store _ _)
    exact h0.trans (foldl_noteSlot_store _ _ _)

theorem loadAccounts_store (e : Evm.Env) (spec : Nat) (w : World) : StoreEq w (loadAccounts e spec w) := by
  rw [loadAccounts_eq]
  have h1 : ∀ (x : World) sp pre, StoreEq x (setMetaW x sp pre) := fun _ _ _ => ⟨rfl, rfl⟩
  exact ((h1 _ _ _).trans (loadAccessList_store e _)).trans (h1 _ _ _)

theorem deductCaller_store {e : Evm.Env} {spec : Nat} {w w' : World} (h : deductCaller e spec w = .ok w') :
    StoreEq w w' := by
  obtain ⟨_, _, _, l⟩ := deductCaller_isLeg h
  exact l.only.store

theorem beBytes_length' (len n : Nat) : (Keccak.beBytes len n).length = len := by
  unfold Keccak.beBytes; rw [List.length_map, List.length_range]

theorem designator_length (a : Nat) : (designator a).length = 23 := by
  show ([0xef, 0x01, 0x00] ++ Keccak.beBytes 20 a).length = 23
  rw [List.length_append, beBytes_length']
  rfl

theorem applyAuthList_store {e : Evm.Env} {spec : Nat} {w w' : World} {r : Nat}
    (h : applyAuthList e spec w = .ok (w', r)) (hs : StoreOk w) : StoreOk w' := by
  refine applyAuthList_rel (fun a b => StoreOk a → StoreOk b) (fun _ h => h) (fun _ _ _ h1 h2 h => h2 (h1 h))
    (fun w1 w2 a b hst hs1 => ?_) h hs
  rcases applyAuth_ok hst with rfl | ⟨authority, w3, c, acc, h1, _, rfl | ⟨w4, acc', hw4, rfl, _⟩⟩
  · exact hs1
  · exact hs1.eq ((w_loadCode_wstep h1).2 []).only.store
  · show StoreOk w4
    rcases hw4 with rfl | rfl
    · exact hs1.eq ((w_loadCode_wstep h1).2 []).only.store
    · exact addCode_storeOk (hs1.eq ((w_loadCode_wstep h1).2 []).only.store) _ _
        (by rw [designator_length]; unfold Memory.ISIZE_MAX; decide)

theorem firstAction_dataLen (e : Evm.Env) (g : Nat) :
    dataLen (Proofs.EvmFrame.firstAction e g) = e.tx.data.length := by
  unfold Proofs.EvmFrame.firstAction; split <;> rfl

theorem prepare_si (pco : PcOut) {e : Evm.Env} {spec ig : Nat} {w w2 : World} {f : JFrame} {isCreate k}
    (h : prepare journalOps e spec ig w = .ok (.frame f, w2, isCreate, k)) (hs : StoreOk w)
    (hdata : e.tx.data.length ≤ ISZ) (hgl : e.tx.gasLimit ≤ U64 - 2) (hig : ig ≤ e.tx.gasLimit)
    (henv : Revm.Proofs.Interp.EnvOk (e.toCfg spec).spec (e.toCfg spec).env) : SI [f] w2 := by
  have hU := U64_val
  obtain ⟨wd, wa, hd, hauth, hmk, _⟩ := Proofs.EvmFrame.prepare_ok h
  have sa : StoreOk wa := applyAuthList_store hauth ((hs.eq (loadAccounts_store e spec w)).eq (deductCaller_store hd))
  have hg : U64ops.wsub e.tx.gasLimit ig ≤ U64 - 2 := by
    rw [Revm.Proofs.Gas.wsub_of_le _ _ (by omega) hig]; omega
  -- for a variable action (on the closed record of `firstAction` the kernel would evaluate it)
  have fin : ∀ (a : Interp.Action), makeFrame journalOps (e.toCfg spec) wa a Memory.new = .ok (.frame f, w2) →
      dataLen a ≤ ISZ → a.gasLimit = U64ops.wsub e.tx.gasLimit ig → SI [f] w2 := by
    intro a hmk hd hgas
    have hnl : Memory.new.buffer.length ≤ 2^62 := by show 0 ≤ _; exact Nat.zero_le _
    obtain ⟨i1, i2, i3, _⟩ := makeFrame_init pco hmk sa hd (by rw [hgas]; omega) henv Revm.Proofs.Memory.new_wf hnl
    refine ⟨⟨i1, ?_, trivial, trivial⟩, ?_, sa.eq (makeFrame_out pco hmk sa hd).store⟩
    · rw [i3]; show (0 : Nat) ≤ _; exact Nat.zero_le _
    · simp only [msum]
      rw [i2, hgas, Nat.add_zero]; exact hg
  exact fin _ hmk (firstAction_dataLen e _ ▸ hdata) (firstAction_gasLimit e _)

theorem envOk_of_validate {e : Evm.Env} {spec : Nat} (h : Evm.validateEnv e spec = .ok true) :
    Revm.Proofs.Interp.EnvOk (e.toCfg spec).spec (e.toCfg spec).env := by
  intro hm
  show e.block.prevrandao ≠ none
  intro hn
  unfold Evm.validateEnv at h
  simp only [hn, Option.isNone_none, and_true] at h
  have hm' : GasCalc.enabled spec GasCalc.SpecId.MERGE = true := hm
  simp only [hm', if_true, pure, Except.pure] at h
  cases h


/-- the inputs are Rust values: code store and oracle hold `Bytes`, the journal is between two transactions -/
structure WTyped (w : World) : Prop where
  store : StoreOk w
  depth : w.js.depth = 0

/-- the transaction is a Rust value: calldata a `Bytes`; `gas_limit` a `u64` other than `u64::MAX` -/
structure ETyped (e : Evm.Env) : Prop where
  data : e.tx.data.length ≤ ISZ
  gas : e.tx.gasLimit ≤ U64 - 2

theorem transact_tot3 (pco : PcOut) (fuel : Nat) (w : World) (e : Evm.Env) (spec : Nat)
    (h : WOk w) (hw : WTyped w) (he : ETyped e) : Tot3 (Evm.transact fuel w e spec) (fun p => WOk p.2) :=
  transact_totE (fun _ => Or.inl) fuel w e spec h fun w1 ig fg f w2 _ _ hp hprep hq => by
    obtain ⟨hvE, _, hig, _, acc, code, hl, _⟩ := preverify_some_inv w w1 e _ ig fg hp
    obtain ⟨cold, hh, hlc, _⟩ := loadSender_inv hl
    have hd1 : w1.js.depth = 0 := by rw [w_loadCode_depth hlc, hw.depth]
    have hs1 : StoreOk w1 := hw.store.eq ((w_loadCode_wstep hlc).2 []).only.store
    have henv := envOk_of_validate hvE
    exact tot3_contOf pco _ henv fuel (.run [f] w2)
      ⟨⟨⟨List.cons_ne_nil _ _, hq⟩, Proofs.EvmInstLoaded.prepare_inv hprep⟩, .run ((prepare_inv hd1 hprep).1 f rfl),
        prepare_si pco hprep hs1 he.data he.gas hig henv⟩

end Revm.Proofs.EvmLink
