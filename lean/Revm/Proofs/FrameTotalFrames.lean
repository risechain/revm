import Revm.Proofs.FrameTotalJournal
import Revm.Proofs.FrameDepth
/-! C07: under journal well-formedness (`Good`) the `make_*_frame` and `*_return` functions never panic and keep it
(`*_total`). `FrameOut` places a handed-out checkpoint inside the journal, as closing it requires (`close_total`). -/
namespace Revm.Proofs.Frame
open Revm Revm.Model.Journal Revm.Model.Frame Revm.Spec.JournalAbs Revm.Proofs.Journal

/-- what a `make_*_frame` guarantees about the journal it leaves: `Good`, and a handed-out checkpoint at or above the
old top and strictly below the new one -/
structure FrameOut (s s1 : JState) (r : FrameOrResult) : Prop where
  good : Good s1
  grows : Grows s s1
  len : s.journal.length ≤ s1.journal.length
  cp : ∀ cp, r = .frame cp → s.journal.length ≤ cp.journalI ∧ cp.journalI < s1.journal.length

theorem FrameOut.refused {s : JState} (g : Good s) (res : IRes) : FrameOut s s (.result res) :=
  ⟨g, Grows.refl _, Nat.le_refl _, fun _ h => by cases h⟩

theorem FrameOut.after {s0 s s1 : JState} {r : FrameOrResult} (fo : FrameOut s s1 r) (gr : Grows s0 s)
    (l : s.journal.length = s0.journal.length) : FrameOut s0 s1 r :=
  ⟨fo.good, Grows.trans gr fo.grows, l ▸ fo.len, fun cp h => l ▸ fo.cp cp h⟩

theorem callValueStep_good {db : Db} {s : JState} (hdb : DbBal db) (g : Good s) (inp : CallInputs) :
    ∃ s' r, callValueStep db s inp = some (s', r) ∧ Good s' ∧ Grows s s' ∧ s'.journal.length = s.journal.length := by
  unfold callValueStep
  cases hv : inp.value with
  | transfer v =>
    simp only
    by_cases h0 : v = 0
    · obtain ⟨s1, c, h1, g1, gr1, l1, _⟩ := loadAccount_good hdb g inp.target
      obtain ⟨s2, h2, g2, gr2, l2⟩ := touch_good hdb g1 inp.target
      exact ⟨s2, none, by simp [h0, h1, h2, bind], g2, Grows.trans gr1 gr2, by rw [l2, l1]⟩
    · obtain ⟨s1, r, h1, g1, gr1, l1⟩ := transfer_good hdb g inp.caller inp.target v
      exact ⟨s1, r, by simp [h0, h1], g1, gr1, l1⟩
  | apparent v => exact ⟨s, none, rfl, g, Grows.refl _, rfl⟩

theorem callTail_total {db : Db} {s : JState} (hdb : DbBal db) (g : Good s) (cp : Checkpoint) (inp : CallInputs)
    (o : CallOracle) (h1 : 1 ≤ cp.journalI) (hlt : cp.journalI < s.journal.length) :
    ∃ s1 r, callTail true db s cp inp o = some (s1, r) ∧ Good s1 ∧ Grows s s1 ∧ cp.journalI ≤ s1.journal.length ∧
      (∀ cp', r = .frame cp' → cp' = cp ∧ cp.journalI < s1.journal.length) := by
  obtain ⟨s2, c, h2, g2, gr2, l2, p2⟩ := loadCode_good hdb g inp.bytecodeAddr
  obtain ⟨acc, hacc⟩ := isSome_cases p2
  have hlt2 : cp.journalI < s2.journal.length := l2 ▸ hlt
  simp only [callTail, h2, bind, Option.bind_some, hacc]
  by_cases hext : inp.isExtDelegate = true ∧ (!o.codeIsEof) = true
  · obtain ⟨s3, h3, g3, gr3, l3⟩ := revert_good (cp := cp) g2 h1 (Nat.le_of_lt hlt2)
    exact ⟨s3, .result .invalidExtDelegateCallTarget, by rw [if_pos hext, if_pos trivial, h3]; rfl, g3, Grows.trans gr2 gr3, Nat.le_of_eq l3.symm, fun _ h => nomatch h⟩
  rw [if_neg hext]
  by_cases hem : o.codeIsEmpty = true
  · exact ⟨commit s2, .result .stop, if_pos hem, good_commit g2, Grows.trans gr2 (Grows.of_state_eq rfl), Nat.le_of_lt hlt2,
      fun _ h => nomatch h⟩
  rw [if_neg hem]
  cases hd : acc.info.code.bind db.delegate with
  | none => exact ⟨s2, .frame cp, rfl, g2, gr2, Nat.le_of_lt hlt2, fun _ h => by cases h; exact ⟨rfl, hlt2⟩⟩
  | some d =>
    obtain ⟨s3, c3, h3, g3, gr3, l3, _⟩ := loadCode_good hdb g2 d
    have hlt3 : cp.journalI < s3.journal.length := l3 ▸ hlt2
    exact ⟨s3, .frame cp, by simp only [h3, Option.bind_some], g3, Grows.trans gr2 gr3, Nat.le_of_lt hlt3,
      fun _ h => by cases h; exact ⟨rfl, hlt3⟩⟩

theorem makeCallFrame_total {db : Db} {s : JState} (hdb : DbBal db) (g : Good s) (inp : CallInputs) (o : CallOracle) :
    ∃ s1 r, makeCallFrame db s inp o = some (s1, r) ∧ FrameOut s s1 r := by
  simp only [makeCallFrame, makeCallFrameCore]
  by_cases hd : s.depth > CALL_STACK_LIMIT
  · exact ⟨s, .result .callTooDeep, if_pos hd, .refused g _⟩
  obtain ⟨s0, ⟨x1, x2, x3⟩, h0, g0, gr0, l0⟩ := loadAccountDelegated_good hdb g inp.bytecodeAddr
  obtain ⟨sv, terr, hv, gv, grv, lv⟩ := callValueStep_good hdb (good_checkpoint g0) inp
  -- the checkpoint sits at the old journal length, one level below the journal inside it
  have hcp : (checkpoint s0).2.journalI = s.journal.length := l0
  have hsv : sv.journal.length = s.journal.length + 1 := lv.trans (congrArg (· + 1) l0)
  have h1 : 1 ≤ (checkpoint s0).2.journalI := hcp ▸ journal_len_pos g
  have hlt : (checkpoint s0).2.journalI < sv.journal.length := by rw [hcp, hsv]; exact Nat.lt_succ_self _
  have grsv : Grows s sv := Grows.trans gr0 (Grows.trans (Grows.of_state_eq (s' := (checkpoint s0).1) rfl) grv)
  have reverts : ∀ res, ∃ s3, revert sv (checkpoint s0).2 = some s3 ∧ FrameOut s s3 (.result res) := fun res => by
    obtain ⟨s3, h3, g3, gr3, l3⟩ := revert_good (cp := (checkpoint s0).2) gv h1 (Nat.le_of_lt hlt)
    exact ⟨s3, h3, g3, Grows.trans grsv gr3, Nat.le_of_eq (l3.trans hcp).symm, fun _ h => nomatch h⟩
  simp only [hd, if_false, h0, bind, Option.bind_some, hv]
  cases terr with
  | some e =>
    obtain ⟨s3, h3, fo⟩ := reverts (transferErrRes e)
    exact ⟨s3, _, by simp only [h3, Option.bind_some], fo⟩
  | none =>
    simp only
    cases hpc : (if inp.isExtDelegate = true then none else o.precompile) with
    | some pc =>
      simp only
      cases hres : pc.toRes with
      | none => exact ⟨sv, .fatal, rfl, gv, grsv, hsv ▸ Nat.le_succ _, fun _ h => nomatch h⟩
      | some r =>
        simp only
        by_cases hok : r.isOk = true
        · exact ⟨commit sv, .result r, if_pos hok, good_commit gv, Grows.trans grsv (Grows.of_state_eq rfl),
            hsv ▸ Nat.le_succ _, fun _ h => nomatch h⟩
        · obtain ⟨s3, h3, fo⟩ := reverts r
          exact ⟨s3, _, by rw [if_neg hok, h3]; rfl, fo⟩
    | none =>
      simp only
      obtain ⟨s3, r, h3, g3, gr3, l3, hf⟩ := callTail_total hdb gv (checkpoint s0).2 inp o h1 hlt
      refine ⟨s3, r, h3, g3, Grows.trans grsv gr3, Nat.le_trans (Nat.le_of_eq hcp.symm) l3, fun cp' hr => ?_⟩
      obtain ⟨rfl, hlt'⟩ := hf cp' hr
      exact ⟨Nat.le_of_eq hcp.symm, hlt'⟩

theorem createTail_total {db : Db} {s : JState} (hdb : DbBal db) (g : Good s) (spec caller v created : Nat)
    (ip hs : Addr → Bool) (hc : (s.state caller).isSome) :
    ∃ s1 r, createTail db s spec caller v created ip hs = some (s1, r, created) ∧ FrameOut s s1 r ∧
      (∀ cp, r = .frame cp → (s1.state created).isSome) := by
  unfold createTail
  by_cases hp : ip created = true
  · exact ⟨s, .result .createCollision, if_pos hp, .refused g _, fun _ h => nomatch h⟩
  rw [if_neg hp]
  obtain ⟨s2, c, h2, g2, gr2, l2, p2⟩ := loadAccount_good hdb g created
  obtain ⟨s3, r, h3, g3, gr3, hr⟩ := createAccountCheckpoint_good g2 (caller := caller) (a := created) (hs created) v spec p2
    (gr2.acct caller hc)
  simp only [h2, bind, Option.bind_some, h3]
  cases r with
  | ok cp =>
    obtain ⟨rfl, hl⟩ := hr
    have fo : FrameOut s2 s3 (.frame (checkpoint s2).2) :=
      ⟨g3, gr3, hl ▸ Nat.le_succ _, fun _ h => by cases h; exact ⟨Nat.le_refl _, hl ▸ Nat.lt_succ_self _⟩⟩
    exact ⟨s3, _, rfl, fo.after gr2 l2, fun _ _ => gr3.acct created p2⟩
  | error e =>
    have fo : FrameOut s2 s3 (.result (createErrRes e)) := ⟨g3, gr3, Nat.le_of_eq hr.symm, fun _ h => nomatch h⟩
    exact ⟨s3, _, rfl, fo.after gr2 l2, fun _ h => nomatch h⟩

theorem createFrom_total {db : Db} {s : JState} (hdb : DbBal db) (g : Good s) (spec : Nat) (inp : CreateInputs)
    (addrOf : Nat → Addr) (o : CreateOracle) :
    ∃ s1 r a, createFrom db s spec inp addrOf o = some (s1, r, a) ∧ FrameOut s s1 r ∧
      (∀ cp, r = .frame cp → (s1.state a).isSome) := by
  obtain ⟨s1, c, h1, g1, gr1, l1, p1⟩ := loadAccount_good hdb g inp.caller
  obtain ⟨cacc, hcacc⟩ := isSome_cases p1
  simp only [createFrom, h1, bind, Option.bind_some, hcacc]
  by_cases hb : cacc.info.balance < inp.value
  · exact ⟨s1, .result .outOfFunds, 0, if_pos hb, (FrameOut.refused g1 _).after gr1 l1, fun _ h => nomatch h⟩
  rw [if_neg hb]
  obtain ⟨s2, n, h2, g2, gr2, l2⟩ := incNonce_good hdb g1 p1
  simp only [h2, Option.bind_some]
  cases n with
  | none => exact ⟨s2, .result .ret, 0, rfl, ((FrameOut.refused g2 _).after gr2 l2).after gr1 l1, fun _ h => nomatch h⟩
  | some nonce =>
    obtain ⟨s3, r, h3, fo, hp⟩ := createTail_total hdb g2 spec inp.caller inp.value (addrOf nonce)
      o.isPrecompile o.hasStorage (gr2.acct _ p1)
    exact ⟨s3, r, _, h3, (fo.after gr2 l2).after gr1 l1, hp⟩

theorem makeCreateFrame_total {db : Db} {s : JState} (hdb : DbBal db) (g : Good s) (spec : Nat) (inp : CreateInputs)
    (o : CreateOracle) :
    ∃ s1 r a, makeCreateFrame db s spec inp o = some (s1, r, a) ∧ FrameOut s s1 r ∧
      (∀ cp, r = .frame cp → (s1.state a).isSome) := by
  rw [makeCreateFrame_from]
  by_cases hd : s.depth > CALL_STACK_LIMIT
  · exact ⟨s, _, 0, if_pos hd, .refused g _, fun _ h => by cases h⟩
  rw [if_neg hd]
  by_cases hef : spec ≥ OSAKA ∧ o.initStartsEF00 = true
  · exact ⟨s, _, 0, if_pos hef, .refused g _, fun _ h => by cases h⟩
  rw [if_neg hef]
  exact createFrom_total hdb g spec inp _ o

/-- `hcaller`: for a create transaction the caller is loaded by `deduct_caller` -/
theorem makeEofCreateFrame_total {db : Db} {s : JState} (hdb : DbBal db) (g : Good s) (spec : Nat) (inp : CreateInputs)
    (kind : EofCreateKind) (o : CreateOracle)
    (hcaller : ∀ d v f, kind = .tx d v f → (s.state inp.caller).isSome) :
    ∃ s1 r a, makeEofCreateFrame db s spec inp kind o = some (s1, r, a) ∧ FrameOut s s1 r ∧
      (∀ cp, r = .frame cp → (s1.state a).isSome) := by
  -- the part after the container checks
  have main : ∀ addrOf, ∃ s1 r a,
      (if s.depth > CALL_STACK_LIMIT then some (s, FrameOrResult.result .callTooDeep, 0) else
        createFrom db s spec inp addrOf o) = some (s1, r, a) ∧
      FrameOut s s1 r ∧ (∀ cp, r = .frame cp → (s1.state a).isSome) := by
    intro addrOf
    by_cases hd : s.depth > CALL_STACK_LIMIT
    · exact ⟨s, _, 0, if_pos hd, .refused g _, fun _ h => by cases h⟩
    rw [if_neg hd]
    exact createFrom_total hdb g spec inp addrOf o
  cases kind with
  | opcode a => exact main _
  | tx d v f =>
    by_cases hbad : (!d) = true ∨ (!v) = true
    · obtain ⟨s2, n, h2, g2, gr2, l2⟩ := incNonce_good hdb g (hcaller d v f rfl)
      exact ⟨s2, .result .invalidEOFInitCode, 0, by rw [makeEofCreateFrame_tx_invalid db s spec inp f o hbad, h2]; rfl,
        (FrameOut.refused g2 _).after gr2 l2, fun _ h => nomatch h⟩
    · simp only [not_or, Bool.not_eq_true', Bool.not_eq_false] at hbad
      obtain ⟨rfl, rfl⟩ := hbad
      exact main _

/-- the account a verdict dereferences is loaded, and it is not the panic -/
def Verdict.ok (s : JState) : Verdict → Prop
  | .deploy _ a _ => (s.state a).isSome
  | .panic => False
  | _ => True

theorem close_total {s : JState} {cp : Checkpoint} {v : Verdict} (g : Good s) (h1 : 1 ≤ cp.journalI)
    (hlt : cp.journalI < s.journal.length) (hv : v.ok s) :
    ∃ s' res, close s cp v = some (s', res) ∧ Good s' ∧ Grows s s' ∧ cp.journalI ≤ s'.journal.length := by
  cases v with
  | revert r =>
    obtain ⟨sr, hr, g', gr, l⟩ := revert_good (cp := cp) g h1 (Nat.le_of_lt hlt)
    exact ⟨sr, r, by simp only [close, hr]; rfl, g', gr, Nat.le_of_eq l.symm⟩
  | commit r => exact ⟨commit s, r, rfl, good_commit g, Grows.of_state_eq rfl, Nat.le_of_lt hlt⟩
  | deploy r a hh =>
    obtain ⟨s2, h2, g2, gr2, l2⟩ := setCode_good (good_commit g) (a := a) hh hv
    exact ⟨s2, r, by simp only [close, h2]; rfl, g2, Grows.trans (Grows.of_state_eq (s' := commit s) rfl) gr2,
      l2 ▸ Nat.le_of_lt hlt⟩
  | panic => exact hv.elim

theorem callVerdict_ok (s : JState) (ok : Bool) : (callVerdict ok).ok s := by cases ok <;> trivial

theorem createVerdict_ok {s : JState} {a : Addr} (spec : Nat) (r : CreateRet) (ha : (s.state a).isSome) :
    (createVerdict spec a r).ok s := by
  rcases createVerdict_cases spec a r with ⟨res, hv, _⟩ | ⟨h, hv⟩ <;> rw [hv]
  · trivial
  · exact ha

theorem eofcreateVerdict_ok {s : JState} {a : Addr} (r : EofCreateRet) (ha : (s.state a).isSome)
    (hdec : r.decodes = true) : (eofcreateVerdict a r).ok s := by
  rcases eofcreateVerdict_cases a r with ⟨res, hv, _⟩ | ⟨hf, _⟩ | ⟨_, hv⟩
  · rw [hv]; trivial
  · rw [hdec] at hf; cases hf
  · rw [hv]; exact ha

theorem callReturn_total {s : JState} {cp : Checkpoint} (g : Good s) (ok : Bool) (h1 : 1 ≤ cp.journalI)
    (hlt : cp.journalI < s.journal.length) :
    ∃ s', callReturn s cp ok = some s' ∧ Good s' ∧ Grows s s' ∧ cp.journalI ≤ s'.journal.length := by
  obtain ⟨s', res, h, rest⟩ := close_total g h1 hlt (callVerdict_ok s ok)
  obtain ⟨s2, h2, e⟩ := Option.map_eq_some_iff.1 ((callReturn_close s cp ok).trans h)
  cases e; exact ⟨s', h2, rest⟩

theorem createReturn_total {s : JState} {cp : Checkpoint} (g : Good s) (spec : Nat) (a : Addr) (r : CreateRet)
    (h1 : 1 ≤ cp.journalI) (hlt : cp.journalI < s.journal.length) (ha : (s.state a).isSome) :
    ∃ s' res, createReturn s spec cp a r = some (s', res) ∧ Good s' ∧ Grows s s' ∧ cp.journalI ≤ s'.journal.length :=
  createReturn_close .. ▸ close_total g h1 hlt (createVerdict_ok spec r ha)

theorem eofcreateReturn_total {s : JState} {cp : Checkpoint} (g : Good s) (a : Addr) (r : EofCreateRet)
    (h1 : 1 ≤ cp.journalI) (hlt : cp.journalI < s.journal.length) (ha : (s.state a).isSome)
    (hdec : r.decodes = true) :
    ∃ s' res, eofcreateReturn s cp a r = some (s', res) ∧ Good s' ∧ Grows s s' ∧ cp.journalI ≤ s'.journal.length :=
  eofcreateReturn_close .. ▸ close_total g h1 hlt (eofcreateVerdict_ok r ha hdec)

end Revm.Proofs.Frame
