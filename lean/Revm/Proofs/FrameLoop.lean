import Revm.Proofs.FrameDepth
/-! The invariant of `run_the_loop` (`Inv`): journal depth = number of frames on `call_stack` (C07). Then the run that
reaches every allowed depth: nested calls of a warm account with plain code each open a frame (`Warm`, `run_nest`). -/
namespace Revm.Proofs.Frame
open Revm Revm.Model.Journal Revm.Model.Frame

/-- while the interpreter of the top frame runs: depth = number of open frames, between 1 and 1025 (`level` in Props/C07
is one less: it leaves the first frame out) -/
def Inv (l : Loop) : Prop :=
  l.js.depth = l.stack.length ∧ 1 ≤ l.stack.length ∧ l.stack.length ≤ CALL_STACK_LIMIT + 1

def OutInv : StepOut → Prop
  | .running l => Inv l
  | .done js _ => js.depth = 0
  | .fatal => True

theorem hostStep_depth {db : Db} {s s' : JState} {op : HostOp} (h : hostStep db s op = some s') :
    s'.depth = s.depth := by
  cases op <;> simp only [hostStep, Option.map_eq_some_iff] at h
  · obtain ⟨⟨s1, r⟩, h1, rfl⟩ := h; exact (lvl_loadAccountDelegated h1).depth
  · obtain ⟨⟨s1, r⟩, h1, rfl⟩ := h; exact (lvl_loadAccount h1).depth
  · obtain ⟨⟨s1, r⟩, h1, rfl⟩ := h; exact (lvl_loadCode h1).depth
  · obtain ⟨⟨s1, r⟩, h1, rfl⟩ := h; exact (lvl_sload h1).depth
  · obtain ⟨⟨s1, r⟩, h1, rfl⟩ := h; exact (lvl_sstore h1).depth
  · cases h; rfl
  · exact (lvl_tstore h).depth
  · cases h; rfl
  · obtain ⟨⟨s1, r⟩, h1, rfl⟩ := h; exact (lvl_selfdestruct h1).1.depth

theorem afterFrameOrResult_inv {l : Loop} {s : JState} {mk : Checkpoint → Frame} {r : FrameOrResult}
    (hi : Inv l) (ho : Opens l.js.depth r s.depth) : OutInv (afterFrameOrResult l.stack s mk r) := by
  obtain ⟨h1, h2, h3⟩ := hi
  cases r with
  | result res => exact ⟨ho.1.trans h1, h2, h3⟩
  | frame cp =>
    have hle : l.stack.length ≤ CALL_STACK_LIMIT := h1 ▸ Nat.le_of_not_gt ho.2
    have hd : s.depth = l.js.depth + 1 := ho.1.trans (inc_small (h1 ▸ hle))
    exact ⟨hd.trans (congrArg (· + 1) h1), Nat.le_add_left _ _, Nat.succ_le_succ hle⟩
  | fatal => trivial

theorem afterFrameOrResult_len {st : List Frame} {s : JState} {mk : Checkpoint → Frame} {r : FrameOrResult} {l' : Loop}
    (h : afterFrameOrResult st s mk r = .running l') : l'.stack.length ≤ st.length + 1 := by
  cases r <;> cases h
  · exact Nat.le_succ _
  · exact Nat.le_refl _

/-- the `*_return` of the popped frame's kind, as the return step of `run_the_loop` calls it -/
def frameReturn (s : JState) (spec : Nat) (r : RetOracle) : Frame → Option (JState × IRes)
  | .call cp => (callReturn s cp r.callOk).map (·, if r.callOk then IRes.otherOk else IRes.otherHalt)
  | .create cp a => createReturn s spec cp a r.create
  | .eofcreate cp a => eofcreateReturn s cp a r.eofcreate

def afterReturn (rest : List Frame) (s : JState) (res : IRes) : StepOut :=
  match rest with
  | [] => .done s res
  | _ :: _ => .running { js := s, stack := rest }

theorem step_ret {db : Db} {spec : Nat} {l : Loop} {r : RetOracle} {f : Frame} {rest : List Frame}
    (hst : l.stack = f :: rest) :
    step db spec l (.ret r) = (frameReturn l.js spec r f).map fun p => afterReturn rest p.1 p.2 := by
  simp only [step, hst]
  cases f <;> rfl

def frameCp : Frame → Checkpoint
  | .call cp => cp
  | .create cp _ => cp
  | .eofcreate cp _ => cp

def frameVerdict (spec : Nat) (r : RetOracle) : Frame → Verdict
  | .call _ => callVerdict r.callOk
  | .create _ a => createVerdict spec a r.create
  | .eofcreate _ a => eofcreateVerdict a r.eofcreate

theorem frameReturn_close (s : JState) (spec : Nat) (r : RetOracle) (f : Frame) :
    frameReturn s spec r f = close s (frameCp f) (frameVerdict spec r f) := by
  cases f with
  | call cp => exact callReturn_close ..
  | create cp a => exact createReturn_close ..
  | eofcreate cp a => exact eofcreateReturn_close ..

theorem frameReturn_depth {s s' : JState} {spec : Nat} {r : RetOracle} {f : Frame} {res : IRes}
    (h : frameReturn s spec r f = some (s', res)) : s'.depth = decU64 s.depth :=
  close_depth (frameReturn_close .. ▸ h)

theorem afterReturn_inv {l : Loop} {f : Frame} {rest : List Frame} {s1 : JState} {res : IRes} (hi : Inv l)
    (hst : l.stack = f :: rest) (hd : s1.depth = decU64 l.js.depth) : OutInv (afterReturn rest s1 res) := by
  obtain ⟨h1, _, h3⟩ := hi
  rw [hst, List.length_cons] at h1 h3
  rw [h1, dec_pos (Nat.le_add_left 1 _)] at hd
  cases rest with
  | nil => exact hd
  | cons g rest' => exact ⟨hd, Nat.le_add_left _ _, Nat.le_of_succ_le h3⟩

theorem step_inv {db : Db} {spec : Nat} {l : Loop} {a : Action} {out : StepOut}
    (hi : Inv l) (h : step db spec l a = some out) : OutInv out := by
  cases a with
  | host op =>
    obtain ⟨s1, h1, rfl⟩ := Option.map_eq_some_iff.1 h
    exact ⟨(hostStep_depth h1).trans hi.1, hi.2⟩
  | call inp o =>
    obtain ⟨⟨s1, r⟩, h1, rfl⟩ := Option.map_eq_some_iff.1 h
    exact afterFrameOrResult_inv hi (makeCallFrame_opens h1)
  | create inp o =>
    obtain ⟨⟨s1, r, a⟩, h1, rfl⟩ := Option.map_eq_some_iff.1 h
    exact afterFrameOrResult_inv hi (makeCreateFrame_opens h1)
  | eofcreate inp kind o =>
    obtain ⟨⟨s1, r, a⟩, h1, rfl⟩ := Option.map_eq_some_iff.1 h
    exact afterFrameOrResult_inv hi (makeEofCreateFrame_opens h1)
  | ret r =>
    cases hst : l.stack with
    | nil => simp only [step, hst] at h; cases h
    | cons f rest =>
      rw [step_ret hst] at h
      obtain ⟨⟨s1, res⟩, hr, rfl⟩ := Option.map_eq_some_iff.1 h
      exact afterReturn_inv hi hst (frameReturn_depth hr)

theorem run_inv {db : Db} {spec : Nat} (acts : List Action) : ∀ {l : Loop} {out : StepOut},
    Inv l → run db spec l acts = some out → OutInv out := by
  induction acts with
  | nil => intro l out hi h; simp only [run] at h; cases h; exact hi
  | cons a rest ih =>
    intro l out hi h
    simp only [run] at h
    split at h
    · cases h
    · rename_i l' hs
      exact ih (step_inv hi hs) h
    · rename_i o hne hs
      cases h
      exact step_inv hi hs

theorem firstOut_inv {s s1 : JState} {r : FrameOrResult} (mk : Checkpoint → Frame) (h0 : s.depth = 0)
    (ho : Opens s.depth r s1.depth) :
    OutInv (match (generalizing := false) r with
      | .frame cp => .running { js := s1, stack := [mk cp] }
      | .result res => .done s1 res
      | .fatal => .fatal) := by
  cases r with
  | result res => exact ho.1.trans h0
  | frame cp =>
    have hd : s1.depth = incU64 s.depth := ho.1
    rw [h0] at hd
    exact ⟨hd, Nat.le_refl _, Nat.le_add_left _ _⟩
  | fatal => trivial

theorem firstFrame_inv {db : Db} {spec : Nat} {s : JState} {f : FirstFrame} {out : StepOut}
    (h0 : s.depth = 0) (h : firstFrame db spec s f = some out) : OutInv out := by
  cases f with
  | call inp o =>
    obtain ⟨⟨s1, r⟩, h1, rfl⟩ := Option.map_eq_some_iff.1 h
    exact firstOut_inv Frame.call h0 (makeCallFrame_opens h1)
  | create inp o =>
    obtain ⟨⟨s1, r, a⟩, h1, rfl⟩ := Option.map_eq_some_iff.1 h
    exact firstOut_inv (Frame.create · a) h0 (makeCreateFrame_opens h1)
  | eofcreate inp kind o =>
    obtain ⟨⟨s1, r, a⟩, h1, rfl⟩ := Option.map_eq_some_iff.1 h
    exact firstOut_inv (Frame.eofcreate · a) h0 (makeEofCreateFrame_opens h1)

theorem transactFrames_inv {db : Db} {spec : Nat} {s : JState} {f : FirstFrame} {prog : List Action} {out : StepOut}
    (h0 : s.depth = 0) (h : transactFrames db spec s f prog = some out) : OutInv out := by
  simp only [transactFrames] at h
  split at h
  · cases h
  · rename_i l hf
    exact run_inv prog (firstFrame_inv h0 hf) h
  · rename_i o hne hf
    cases h
    exact firstFrame_inv h0 hf

/-- `a` is loaded, warm, its code cached and no EIP-7702 designator: calling it journals nothing but the checkpoint -/
def Warm (db : Db) (s : JState) (a : Addr) : Prop :=
  ∃ acc h, s.state a = some acc ∧ acc.cold = false ∧ acc.info.code = some h ∧ db.delegate h = none

theorem loadAccount_warm {db : Db} {s : JState} {a : Addr} {acc : Acct}
    (h : s.state a = some acc) (hc : acc.cold = false) : loadAccount db s a = some (s, false) := by
  have e : ({ acc with cold := false } : Acct) = acc := by cases acc; simp_all
  simp only [loadAccount, h, hc, e, Proofs.Journal.setAcct_same h]
  rfl

theorem loadCode_warm {db : Db} {s : JState} {a : Addr} {acc : Acct} {hh : Nat}
    (h : s.state a = some acc) (hc : acc.cold = false) (hcode : acc.info.code = some hh) :
    loadCode db s a = some (s, false) := by
  simp [loadCode, loadAccount_warm h hc, h, hcode, bind]

/-- plain call: apparent value, not a precompile, non-empty legacy code -/
def plainCall (caller a : Addr) : CallInputs :=
  { caller := caller, target := a, bytecodeAddr := a, value := .apparent 0, isExtDelegate := false }
def plainOracle : CallOracle := { precompile := none, codeIsEof := false, codeIsEmpty := false }

theorem checkpoint_state (s : JState) : (checkpoint s).1.state = s.state := rfl

theorem makeCallFrame_plain {db : Db} {s : JState} {caller a : Addr}
    (hw : Warm db s a) (hd : ¬ s.depth > CALL_STACK_LIMIT) :
    makeCallFrame db s (plainCall caller a) plainOracle = some ((checkpoint s).1, .frame (checkpoint s).2) := by
  obtain ⟨acc, hh, h1, h2, h3, h4⟩ := hw
  have lc := loadCode_warm (db := db) h1 h2 h3
  have lc2 : loadCode db (checkpoint s).1 a = some ((checkpoint s).1, false) :=
    loadCode_warm (db := db) (s := (checkpoint s).1) h1 h2 h3
  have h1' : (checkpoint s).1.state a = some acc := h1
  simp [makeCallFrame, makeCallFrameCore, hd, loadAccountDelegated, lc, h1, h3, h4, bind, plainCall, plainOracle,
    callValueStep, callTail, lc2, h1']

theorem step_plain {db : Db} {spec : Nat} {l : Loop} {caller a : Addr}
    (hw : Warm db l.js a) (hd : ¬ l.js.depth > CALL_STACK_LIMIT) :
    step db spec l (.call (plainCall caller a) plainOracle) =
      some (.running { js := (checkpoint l.js).1, stack := Frame.call (checkpoint l.js).2 :: l.stack }) := by
  simp [step, makeCallFrame_plain hw hd, afterFrameOrResult]

theorem run_nest {db : Db} {spec : Nat} {caller a : Addr} : ∀ (n : Nat) (l : Loop), Inv l → Warm db l.js a →
    l.stack.length + n ≤ CALL_STACK_LIMIT + 1 →
    ∃ l', run db spec l (List.replicate n (.call (plainCall caller a) plainOracle)) = some (.running l') ∧
      l'.stack.length = l.stack.length + n ∧ Warm db l'.js a ∧ Inv l' := by
  intro n
  induction n with
  | zero => intro l hi hw _; exact ⟨l, rfl, rfl, hw, hi⟩
  | succ n ih =>
    intro l hi hw hle
    have hd : ¬ l.js.depth > CALL_STACK_LIMIT := by rw [hi.1]; omega
    have hs := step_plain (spec := spec) (caller := caller) hw hd
    have hi1 := step_inv hi hs
    obtain ⟨l', h1, h2, h3, h4⟩ := ih _ hi1 hw (by simp only [List.length_cons]; omega)
    refine ⟨l', ?_, ?_, h3, h4⟩
    · simp only [List.replicate_succ, run, hs]; exact h1
    · rw [h2]; simp only [List.length_cons]; omega

theorem run_append {db : Db} {spec : Nat} (p q : List Action) : ∀ (l l' : Loop),
    run db spec l p = some (.running l') → run db spec l (p ++ q) = run db spec l' q := by
  induction p with
  | nil => intro l l' h; simp only [run] at h; cases h; rfl
  | cons a rest ih =>
    intro l l' h
    simp only [run, List.cons_append] at h ⊢
    split at h
    · cases h
    · rename_i l1 hs; exact ih _ _ h
    · rename_i o hne hs
      cases h
      exact absurd rfl (hne l')

end Revm.Proofs.Frame
