import Revm.Proofs.FrameKept
import Revm.Proofs.InterpCost
/-! What every pure handler of `Model.Interp` leaves alone. `KaO` (`FrameKept`) is closed under `>>=` and holds of the
forty-odd primitives, so it holds of every pure handler and of the named parts of the host / call / create instructions,
and the proof of each is the term that mirrors it (`KaP.execPure`); a further frame condition is one more conjunct of
`KeptAll` with one line in each primitive that writes the field. RETURN, REVERT and RETURNCONTRACT end a frame with an
output, which is no primitive: they are walked with the bound on that output (`OutBnd`). The flag of `KaO` / `KaP` says
"every path on which the frame continues has charged at least 1 gas" (what termination needs). -/
namespace Revm.Proofs.EvmLink
open Revm Revm.Model Revm.Model.Interp

namespace KaO
variable {E : Prop} {O : List Nat → IState → Prop} {s0 : IState}

theorem memSetU256 (o v : Nat) : KaO E O s0 false (Interp.memSetU256 o v) := .liftMemWrite _
theorem memSetByte (o v : Nat) : KaO E O s0 false (Interp.memSetByte o v) := .liftMemWrite _
theorem memSetData (a b c : Nat) (d : List Nat) : KaO E O s0 false (Interp.memSetData a b c d) := .liftMemWrite _
theorem memCopy (a b c : Nat) : KaO E O s0 false (Interp.memCopy a b c) := .liftMemWrite _

theorem gasOrFail (c : Option Nat) : KaO E O s0 false (Interp.gasOrFail c) := by
  unfold Interp.gasOrFail
  cases c with
  | some c => exact .gasCharge c
  | none => exact .haltWith _ _ (by decide)

theorem gasOrFail1 (c : Option Nat) (hc : ∀ x, c = some x → 1 ≤ x) : KaO E O s0 true (Interp.gasOrFail c) := by
  unfold Interp.gasOrFail
  cases c with
  | some c => exact .gasCharge1 c (hc c rfl)
  | none => exact .haltWith _ _ (by decide)

theorem asUsizeOrFail (v : Nat) (r : IResult) (hr : RGood r) : KaO E O s0 false (Interp.asUsizeOrFail v r) := by
  unfold Interp.asUsizeOrFail
  split
  · exact .pure _
  · exact .haltWith _ _ hr

theorem pop1 : KaO E O s0 false Interp.pop1 := .bindF (.popN _) fun _ => by
  split
  · exact .pure _
  · exact .faultWith _ _
theorem pop2 : KaO E O s0 false Interp.pop2 := .bindF (.popN _) fun _ => by
  split
  · exact .pure _
  · exact .faultWith _ _
theorem pop3 : KaO E O s0 false Interp.pop3 := .bindF (.popN _) fun _ => by
  split
  · exact .pure _
  · exact .faultWith _ _
theorem pop4 : KaO E O s0 false Interp.pop4 := .bindF (.popN _) fun _ => by
  split
  · exact .pure _
  · exact .faultWith _ _
theorem popTop1 : KaO E O s0 false Interp.popTop1 :=
  .bindF (.popTop _) fun ⟨_, _⟩ => .pure _
theorem popTop2 : KaO E O s0 false Interp.popTop2 := .bindF (.popTop _) fun ⟨_, _⟩ => by
  dsimp only
  split
  · exact .pure _
  · exact .faultWith _ _
theorem popTop3 : KaO E O s0 false Interp.popTop3 := .bindF (.popTop _) fun ⟨_, _⟩ => by
  dsimp only
  split
  · exact .pure _
  · exact .faultWith _ _
theorem readU16 (o : Nat) : KaO E O s0 false (Interp.readU16 o) :=
  .bindF (.codeByte _) fun _ => .bindF (.codeByte _) fun _ => .pure _
theorem readI16 (o : Nat) : KaO E O s0 false (Interp.readI16 o) :=
  .bindF (.readU16 _) fun _ => .pure _
theorem popAddress : KaO E O s0 false Interp.popAddress :=
  .bindF .pop1 fun _ => .pure _
theorem checkWhen (b : Bool) (fork : Nat) : KaO E O s0 false (Interp.checkWhen b fork) := .ite (.check _) (.pure _)
theorem jumpInner (t : Nat) : KaO E O s0 false (Interp.jumpInner t) :=
  .bindF (.asUsizeOrFail _ _ (by decide)) fun _ => .bindF .getS fun _ => .ite (.haltWith _ _ (by decide)) (.setPc _)

theorem unopI (g : Nat) (hg : 1 ≤ g) (f) : KaO E O s0 true (Interp.unopI g f) :=
  .bindT (.gasCharge1 _ hg) fun _ => .bindF .popTop1 fun _ => .setTop _
theorem binopI (g : Nat) (hg : 1 ≤ g) (k f) : KaO E O s0 true (Interp.binopI g k f) :=
  .bindF (.check _) fun _ => .bindT (.gasCharge1 _ hg) fun _ => .bindF .popTop2 fun _ => .setTop _
theorem teropI (g : Nat) (hg : 1 ≤ g) (f) : KaO E O s0 true (Interp.teropI g f) :=
  .bindT (.gasCharge1 _ hg) fun _ => .bindF .popTop3 fun _ => .setTop _
theorem expI : KaO E O s0 true Interp.expI :=
  .bindF .popTop2 fun _ => .bindF .getS fun _ =>
    .bindT (.gasOrFail1 _ fun _ => Interp.expCost_ge) fun _ => .setTop _
theorem pushValI (g : Nat) (hg : 1 ≤ g) (k v) : KaO E O s0 true (Interp.pushValI g k v) :=
  .bindF (.check _) fun _ => .bindT (.gasCharge1 _ hg) fun _ => .bindF .getS fun _ => .push _
theorem calldataloadI : KaO E O s0 true Interp.calldataloadI :=
  .bindT (.gasCharge1 _ (by decide)) fun _ => .bindF .popTop1 fun _ => .bindF .getS fun _ => .setTop _
theorem codesizeI : KaO E O s0 true Interp.codesizeI :=
  .bindT (.gasCharge1 _ (by decide)) fun _ => .bindF .assumeNotEof fun _ => .bindF .getS fun _ => .push _
theorem copyToMem (data) (guard : M Unit) (hg : KaO E O s0 false guard) : KaO E O s0 true (Interp.copyToMem data guard) :=
  .bindF .pop3 fun ⟨_, _, _⟩ => .bindF (.asUsizeOrFail _ _ (by decide)) fun _ =>
    .bindT (.gasOrFail1 _ (copyCost_pos _)) fun _ => .ite (.pure _)
      (.bindF (.asUsizeOrFail _ _ (by decide)) fun _ => .bindF (.resizeMem _ _) fun _ => .bindF hg fun _ =>
        .bindF .getS fun _ => .memSetData _ _ _ _)
theorem returndatacopyI : KaO E O s0 true Interp.returndatacopyI :=
  .bindF (.check _) fun _ => .bindF .pop3 fun ⟨_, _, _⟩ => .bindF (.asUsizeOrFail _ _ (by decide)) fun _ =>
    .bindT (.gasOrFail1 _ (copyCost_pos _)) fun _ => .bindF .getS fun _ =>
      .ite (.haltWith _ _ (by decide)) (.ite (.pure _)
        (.bindF (.asUsizeOrFail _ _ (by decide)) fun _ => .bindF (.resizeMem _ _) fun _ => .memSetData _ _ _ _))
theorem blobhashI : KaO E O s0 true Interp.blobhashI :=
  .bindF (.check _) fun _ => .bindT (.gasCharge1 _ (by decide)) fun _ => .bindF .popTop1 fun _ =>
    .bindF .getS fun _ => .setTop _
theorem popI : KaO E O s0 true Interp.popI :=
  .bindT (.gasCharge1 _ (by decide)) fun _ => .stackCall _
theorem push0I : KaO E O s0 true Interp.push0I :=
  .bindF (.check _) fun _ => .bindT (.gasCharge1 _ (by decide)) fun _ => .stackCall _
theorem pushI (n) : KaO E O s0 true (Interp.pushI n) :=
  .bindT (.gasCharge1 _ (by decide)) fun _ => .bindF (.codeSlice _) fun _ => .bindF (.stackCall _) fun _ => .advancePc _
theorem dupI (n) : KaO E O s0 true (Interp.dupI n) :=
  .bindT (.gasCharge1 _ (by decide)) fun _ => .stackCall _
theorem swapI (n) : KaO E O s0 true (Interp.swapI n) :=
  .bindT (.gasCharge1 _ (by decide)) fun _ => .stackCall _
theorem mloadI : KaO E O s0 true Interp.mloadI :=
  .bindT (.gasCharge1 _ (by decide)) fun _ => .bindF .popTop1 fun _ =>
    .bindF (.asUsizeOrFail _ _ (by decide)) fun _ => .bindF (.resizeMem _ _) fun _ =>
      .bindF (.memGetU256 _) fun _ => .setTop _
theorem mstoreI : KaO E O s0 true Interp.mstoreI :=
  .bindT (.gasCharge1 _ (by decide)) fun _ => .bindF .pop2 fun ⟨_, _⟩ =>
    .bindF (.asUsizeOrFail _ _ (by decide)) fun _ => .bindF (.resizeMem _ _) fun _ => .memSetU256 _ _
theorem mstore8I : KaO E O s0 true Interp.mstore8I :=
  .bindT (.gasCharge1 _ (by decide)) fun _ => .bindF .pop2 fun ⟨_, _⟩ =>
    .bindF (.asUsizeOrFail _ _ (by decide)) fun _ => .bindF (.resizeMem _ _) fun _ => .memSetByte _ _
theorem mcopyI : KaO E O s0 true Interp.mcopyI :=
  .bindF (.check _) fun _ => .bindF .pop3 fun ⟨_, _, _⟩ => .bindF (.asUsizeOrFail _ _ (by decide)) fun _ =>
    .bindT (.gasOrFail1 _ (copyCost_pos _)) fun _ => .ite (.pure _)
      (.bindF (.asUsizeOrFail _ _ (by decide)) fun _ => .bindF (.asUsizeOrFail _ _ (by decide)) fun _ =>
        .bindF (.resizeMem _ _) fun _ => .memCopy _ _ _)
theorem jumpI : KaO E O s0 true Interp.jumpI :=
  .bindT (.gasCharge1 _ (by decide)) fun _ => .bindF .pop1 fun _ => .jumpInner _
theorem jumpiI : KaO E O s0 true Interp.jumpiI :=
  .bindT (.gasCharge1 _ (by decide)) fun _ => .bindF .pop2 fun ⟨_, _⟩ => .ite (.jumpInner _) (.pure _)
theorem rjumpI : KaO E O s0 true Interp.rjumpI :=
  .bindF .requireEof fun _ => .bindT (.gasCharge1 _ (by decide)) fun _ => .bindF (.readI16 _) fun _ => .jumpRel _
theorem rjumpiI : KaO E O s0 true Interp.rjumpiI :=
  .bindF .requireEof fun _ => .bindT (.gasCharge1 _ (by decide)) fun _ => .bindF .pop1 fun _ =>
    .ite (.bindF (.readI16 _) fun _ => .jumpRel _) (.jumpRel _)
theorem rjumpvI : KaO E O s0 true Interp.rjumpvI :=
  .bindF .requireEof fun _ => .bindT (.gasCharge1 _ (by decide)) fun _ => .bindF .pop1 fun _ =>
    .bindF (.codeByte _) fun _ => .ite (.bindF (.readI16 _) fun _ => .jumpRel _) (.jumpRel _)
theorem dupnI : KaO E O s0 true Interp.dupnI :=
  .bindF .requireEof fun _ => .bindT (.gasCharge1 _ (by decide)) fun _ => .bindF (.codeByte _) fun _ => .stackCallAdv _ _
theorem swapnI : KaO E O s0 true Interp.swapnI :=
  .bindF .requireEof fun _ => .bindT (.gasCharge1 _ (by decide)) fun _ => .bindF (.codeByte _) fun _ => .stackCallAdv _ _
theorem exchangeI : KaO E O s0 true Interp.exchangeI :=
  .bindF .requireEof fun _ => .bindT (.gasCharge1 _ (by decide)) fun _ => .bindF (.codeByte _) fun _ => .stackCallAdv _ _
theorem dataloadI : KaO E O s0 true Interp.dataloadI :=
  .bindF .requireEof fun _ => .bindT (.gasCharge1 _ (by decide)) fun _ => .bindF .popTop1 fun _ =>
    .bindF .getEof fun _ => .setTop _
theorem dataloadnI : KaO E O s0 true Interp.dataloadnI :=
  .bindF .requireEof fun _ => .bindT (.gasCharge1 _ (by decide)) fun _ => .bindF (.readU16 _) fun _ =>
    .bindF .getEof fun _ => .bindF (.push _) fun _ => .advancePc _
theorem datasizeI : KaO E O s0 true Interp.datasizeI :=
  .bindF .requireEof fun _ => .bindT (.gasCharge1 _ (by decide)) fun _ => .bindF .getEof fun _ => .push _
theorem datacopyI : KaO E O s0 true Interp.datacopyI :=
  .bindF .requireEof fun _ => .bindT (.gasCharge1 _ (by decide)) fun _ => .bindF .pop3 fun ⟨_, _, _⟩ =>
    .bindF (.asUsizeOrFail _ _ (by decide)) fun _ => .ite (.pure _)
      (.bindF (.asUsizeOrFail _ _ (by decide)) fun _ => .bindF (.resizeMem _ _) fun _ =>
        .bindF (.gasOrFail _) fun _ => .bindF .getEof fun _ => .memSetData _ _ _ _)
theorem returndataloadI : KaO E O s0 true Interp.returndataloadI :=
  .bindF .requireEof fun _ => .bindT (.gasCharge1 _ (by decide)) fun _ => .bindF .popTop1 fun _ =>
    .bindF .getS fun _ => .setTop _

theorem difficultyI : KaO E O s0 true Interp.difficultyI :=
  .bindT (.gasCharge1 _ (by decide)) fun _ => .bindF .getS fun s =>
    .ite (match s.env.prevrandao with
         | some _ => .push _
         | none => .faultWith _ _) (.push _)
theorem callfI : KaO E O s0 true Interp.callfI :=
  .bindF .requireEof fun _ => .bindT (.gasCharge1 _ (by decide)) fun _ => .bindF (.readU16 _) fun idx =>
    .bindF .getEof fun c => .ite (.haltWith _ _ (by decide))
      (match c.types[idx]? with
       | none => .faultWith _ _
       | some _ => .bindF .getS fun _ => .ite (.haltWith _ _ (by decide))
          (.bindF (.setEof _) fun _ => .loadEofCode _ _))
theorem retfI : KaO E O s0 true Interp.retfI :=
  .bindF .requireEof fun _ => .bindT (.gasCharge1 _ (by decide)) fun _ => .bindF .getEof fun c =>
    match c.retStack with
    | [] => .faultWith _ _
    | (_, _) :: _ => .bindF (.setEof _) fun _ => .loadEofCode _ _
theorem jumpfI : KaO E O s0 true Interp.jumpfI :=
  .bindF .requireEof fun _ => .bindT (.gasCharge1 _ (by decide)) fun _ => .bindF (.readU16 _) fun idx =>
    .bindF .getEof fun c =>
      match c.types[idx]? with
      | none => .faultWith _ _
      | some _ => .bindF .getS fun _ => .ite (.haltWith _ _ (by decide))
          (.bindF (.setEof _) fun _ => .loadEofCode _ _)

theorem keccakPre : KaO E O s0 true Interp.keccakPre :=
  .bindF .popTop2 fun ⟨_, _⟩ => .bindF (.asUsizeOrFail _ _ (by decide)) fun _ =>
    .bindT (.gasOrFail1 _ (keccakCost_pos _)) fun _ => .ite (.pure _)
      (.bindF (.asUsizeOrFail _ _ (by decide)) fun _ => .bindF (.resizeMem _ _) fun _ =>
        .bindF (.memSlice _ _) fun _ => .pure _)
theorem resizeMemRange (o l : Nat) : KaO E O s0 false (Interp.resizeMemRange o l) :=
  .bindF (.asUsizeOrFail _ _ (by decide)) fun _ =>
    .ite (.bindF (.asUsizeOrFail _ _ (by decide)) fun _ => .bindF (.resizeMem _ _) fun _ => .pure _) (.pure _)
theorem getMemoryInputAndOutRanges : KaO E O s0 false Interp.getMemoryInputAndOutRanges :=
  .bindF .pop4 fun ⟨_, _, _, _⟩ => .bindF (.resizeMemRange _ _) fun ⟨_, _⟩ =>
    .bindF (.ite (.memSliceRange _ _) (.pure _)) fun _ => .bindF (.resizeMemRange _ _) fun ⟨_, _⟩ => .pure _
theorem popExtcallTarget : KaO E O s0 false Interp.popExtcallTarget :=
  .bindF .pop1 fun _ => .ite (.haltWith _ _ (by decide)) (.pure _)
theorem extcallInput : KaO E O s0 false Interp.extcallInput :=
  .bindF .pop2 fun ⟨_, _⟩ => .bindF (.resizeMemRange _ _) fun ⟨_, _⟩ => .ite (.memSliceRange _ _) (.pure _)
theorem initcodeCharge (l : Nat) : KaO E O s0 false (Interp.initcodeCharge l) :=
  .bindF .getS fun _ => .ite (.ite (.haltWith _ _ (by decide))
    (match GasCalc.initcodeCost l with
     | some _ => .gasCharge _
     | none => .faultWith _ _)) (.pure _)
theorem createCode (o l : Nat) : KaO E O s0 false (Interp.createCode o l) :=
  .ite (.bindF (.initcodeCharge _) fun _ => .bindF (.asUsizeOrFail _ _ (by decide)) fun _ =>
    .bindF (.resizeMem _ _) fun _ => .memSlice _ _) (.pure _)
theorem createScheme (b : Bool) (l : Nat) : KaO E O s0 true (Interp.createScheme b l) :=
  .ite (.bindF .pop1 fun _ => .bindT (.gasOrFail1 _ (create2Cost_pos _)) fun _ => .pure _)
    (.bindT (.gasCharge1 _ (by decide)) fun _ => .pure _)

section
variable (hout : ∀ {α : Type} (b : Bool) (r : IResult) (o : List Nat), RGood r → KaO E O s0 b (haltOut r o : M α))
include hout


theorem returnContractI : KaO E O s0 true Interp.returnContractI := by
  refine .bindF .requireInitEof fun _ => .bindF (.codeByte _) fun idx => .bindF .pop2 fun ⟨_, _⟩ =>
    .bindF (.asUsizeOrFail _ _ (by decide)) fun _ => .bindF .getEof fun c => ?_
  cases c.containers[idx]? with
  | none => exact .faultWith _ _
  | some container =>
    dsimp only
    cases headerOf container with
    | none => exact .faultWith _ _
    | some hd =>
      refine .bindF (.ite (.bindF (.asUsizeOrFail _ _ (by decide)) fun _ => .bindF (.resizeMem _ _) fun _ =>
        .memSlice _ _) (.pure _)) fun aux => .ite (.haltWith _ _ (by decide)) (.ite (.haltWith _ _ (by decide)) ?_)
      split
      · exact .faultWith _ _
      · exact hout _ _ _ (by decide)
end

end KaO

variable {E : Prop}

/-- RETURN / REVERT: the output is a slice of the memory -/
theorem KaP.returnInner {s0 : IState} (r : IResult) (hr : RGood r) : KaP E s0 true (Interp.returnInner r) := fun _ _ h =>
  ka_bind (KaO.pop2.run h) fun ⟨_, _⟩ _ h1 _ =>
    ka_bind ((KaO.asUsizeOrFail _ _ (by decide)).run h1) fun _ _ h2 _ => by
      split
      · exact ka_bind ((KaO.asUsizeOrFail _ _ (by decide)).run h2) fun _ _ h3 _ =>
          ka_bind ((KaO.resizeMem _ _).run h3) fun _ _ h4 _ => ka_bind (ka_memSlice h4 _ _) fun out _ h5 hl =>
            ka_haltOut h5 r out hr fun _ => hl
      · exact ka_haltOut h2 r [] hr .nil

theorem KaP.revertI {s0 : IState} : KaP E s0 true Interp.revertI := by
  unfold Interp.revertI
  exact .bindF (.check _) (fun _ => KaP.returnInner _ (by decide))

/-- RETURNCONTRACT outside init code stops at its `require_init_eof!`; inside, its output is the new container -/
theorem KaP.returnContractI {s0 : IState} : KaP E s0 true Interp.returnContractI := by
  by_cases hi : s0.isEofInit = false
  · intro fl s h
    have e : Interp.returnContractI s = .halt .ReturnContractInNotInitEOF [] s := by
      show M.bind requireInitEof _ s = _
      unfold M.bind requireInitEof
      rw [h.init, hi]; rfl
    rw [e]
    exact .halt h (.good (by decide)) (.inl rfl)
  · exact KaO.returnContractI fun _ r o hr _ _ h => ka_haltOut h r o hr fun h0 => absurd h0 hi

theorem KaP.execPure {s0 : IState} (i : Instr) (m : M Unit) (hm : Interp.execPure i = some m) : KaP E s0 true m := by
  have h : (Interp.execPure i).elim True (fun m => KaP E s0 true m) := by
    cases i with
    | stop | invalid | unknown => exact .haltWith _ _ (by decide)
    | ret => exact KaP.returnInner _ (by decide)
    | revert => exact KaP.revertI
    | returnContract => exact KaP.returnContractI
    | rjump => exact .rjumpI
    | rjumpi => exact .rjumpiI
    | rjumpv => exact .rjumpvI
    | callf => exact .callfI
    | retf => exact .retfI
    | jumpf => exact .jumpfI
    | dupn => exact .dupnI
    | swapn => exact .swapnI
    | exchange => exact .exchangeI
    | dataload => exact .dataloadI
    | dataloadn => exact .dataloadnI
    | datasize => exact .datasizeI
    | datacopy => exact .datacopyI
    | returndataload => exact .returndataloadI
    | unop g f => exact .unopI _ (Proofs.Interp.Tier.cost_pos g) f
    | binop g k f => exact .binopI _ (Proofs.Interp.Tier.cost_pos g) k f
    | terop g f => exact .teropI _ (Proofs.Interp.Tier.cost_pos g) f
    | exp => exact .expI
    | pushVal g k v => exact .pushValI _ (Proofs.Interp.Tier.cost_pos g) k v
    | difficulty => exact .difficultyI
    | calldataload => exact .calldataloadI
    | calldatacopy => exact .copyToMem _ _ (.pure _)
    | codecopy => exact .copyToMem _ _ .assumeNotEof
    | codesize => exact .codesizeI
    | returndatacopy => exact .returndatacopyI
    | blobhash => exact .blobhashI
    | pop => exact .popI
    | push0 => exact .push0I
    | push n => exact .pushI _
    | dup n => exact .dupI _
    | swap n => exact .swapI _
    | mload => exact .mloadI
    | mstore => exact .mstoreI
    | mstore8 => exact .mstore8I
    | mcopy => exact .mcopyI
    | jump => exact .jumpI
    | jumpi => exact .jumpiI
    | jumpdest => exact .gasCharge1 _ (by decide)
    | _ => exact trivial  -- `execPure` is `none` there
  rw [hm] at h
  exact h


end Revm.Proofs.EvmLink
