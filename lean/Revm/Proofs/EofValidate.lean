import Revm.Proofs.Eof
import Revm.Model.EofValidate
import Revm.Spec.Eof
/-! The EOF validator, one code section: what an accepting run of `opSpecific`, `step` and `validateEofCode` went
through, each stated with `Holds` and proved along the code. `EofTracker`, `EofJumps`, `EofSection` and `EofTop`
continue this namespace. -/
namespace Revm.Proofs.EofValidate
open Revm.Model.Eof Revm.Model.EofValidate Revm.Spec.Eof Revm.Proofs.Eof


theorem mapErr_eq_ok {ε ε' α : Type} {g : ε → ε'} {x : R ε α} {a : α}
    (h : x.mapErr g = .ok a) : x = .ok a := by
  cases x <;> simp [R.mapErr] at h ⊢; exact h

section holds
variable {ε α β : Type}
/-- `Eof.Spec` without its no-panic half, with the same `_bind / _guard / _ok / _pure / _err` rules: the codec is proved
total, the validator is only followed along its accepting runs (a panic satisfies `Holds`). -/
def Holds (P : α → Prop) (x : R ε α) : Prop := ∀ r, x = .ok r → P r

theorem holds_bind {P : β → Prop} {x : R ε α} {f : α → R ε β}
    (h : ∀ a, x = .ok a → Holds P (f a)) : Holds P (x >>= f) := by
  intro r hr
  rw [bind_eq_ok] at hr
  obtain ⟨a, h1, h2⟩ := hr
  exact h a h1 r h2
theorem holds_ite {P : α → Prop} {c : Prop} [Decidable c] {a b : R ε α}
    (ha : c → Holds P a) (hb : ¬c → Holds P b) : Holds P (if c then a else b) := by
  by_cases hc : c
  · rw [if_pos hc]; exact ha hc
  · rw [if_neg hc]; exact hb hc
theorem holds_err {P : α → Prop} {e : ε} : Holds P (R.err e : R ε α) := by
  intro r hr; cases hr
theorem holds_panic {P : α → Prop} : Holds P (R.panic : R ε α) := by
  intro r hr; cases hr
theorem holds_ok {P : α → Prop} {a : α} (h : P a) : Holds P (R.ok a : R ε α) := by
  intro r hr; cases hr; exact h
theorem holds_pure {P : α → Prop} {a : α} (h : P a) : Holds P (pure a : R ε α) := holds_ok h
theorem holds_guard {P : α → Prop} {c : Prop} [Decidable c] {e : ε} {x : R ε α} (h : ¬c → Holds P x) :
    Holds P (if c then R.err e else x) := holds_ite (fun _ => holds_err) h
end holds

theorem range_map_getElem? {α β : Type} (a : Array α) (f : Nat → Option α → β) :
    (List.range a.size).map (fun i => f i a[i]?) = a.toList.zipIdx.map (fun p => f p.2 (some p.1)) := by
  apply List.ext_getElem?
  intro i
  rw [List.getElem?_map, List.getElem?_map, List.getElem?_zipIdx, Array.getElem?_toList (xs := a), Nat.zero_add]
  by_cases hi : i < a.size
  · rw [List.getElem?_range hi, Array.getElem?_eq_getElem hi]
    simp only [Option.map_some, Array.getElem?_eq_getElem hi]
  · rw [List.getElem?_eq_none (by rw [List.length_range]; omega), Array.getElem?_eq_none (by omega)]; rfl

theorem byteAt_ok {code : Array Nat} {k b : Nat} (h : byteAt code k = .ok b) : code[k]? = some b := by
  unfold byteAt at h
  split at h
  · rename_i hb; simp only [R.ok.injEq] at h; rw [hb, h]
  · simp at h

theorem readU16_ok {code : Array Nat} {k v : Nat} (h : readU16 code k = .ok v) :
    u16At code k = some v := by
  unfold readU16 at h
  unfold u16At
  split at h
  · rename_i h1 h2; simp only [R.ok.injEq] at h; rw [h1, h2]; simp only [h]
  · simp at h

theorem readI16_ok {code : Array Nat} {k : Nat} {o : Int} (h : readI16 code k = .ok o) :
    ∃ v, u16At code k = some v ∧ o = toI16 v := by
  unfold readI16 at h
  rw [bind_eq_ok] at h
  obtain ⟨v, h1, h2⟩ := h
  simp only [pure_def, R.ok.injEq] at h2
  exact ⟨v, readU16_ok h1, h2.symm⟩

theorem readVtable_ok (code : Array Nat) (i extra : Nat) : ∀ (n k : Nat) (ts : List Int),
    readVtable code i extra k n = .ok ts →
    ∀ j, k ≤ j → j < k + n → ∃ v, u16At code (i + 2 + 2 * j) = some v ∧
      (toI16 v + (i : Int) + 2 + (extra : Int)) ∈ ts
  | 0, k, ts, _, j, h1, h2 => by omega
  | n + 1, k, ts, h, j, h1, h2 => by
    simp only [readVtable] at h
    rw [bind_eq_ok] at h
    obtain ⟨o, ho, h⟩ := h
    rw [bind_eq_ok] at h
    obtain ⟨rest, hr, h⟩ := h
    simp only [pure_def, R.ok.injEq] at h
    subst h
    by_cases hjk : j = k
    · subst hjk
      obtain ⟨v, hv, hov⟩ := readI16_ok ho
      exact ⟨v, hv, by rw [hov]; exact List.mem_cons_self ..⟩
    · obtain ⟨v, hv, hm⟩ := readVtable_ok code i extra n (k + 1) rest hr j (by omega) (by omega)
      exact ⟨v, hv, List.mem_cons_of_mem _ hm⟩

theorem lt_of_getElem? {α : Type} {a : Array α} {i : Nat} {x : α} (h : a[i]? = some x) :
    i < a.size := by
  by_cases hi : i < a.size
  · exact hi
  · rw [Array.getElem?_eq_none (by omega)] at h; cases h

/-- reached by the tracker's own operations; what holds across them is proved by induction on this -/
inductive Tracker.Steps : Tracker → Tracker → Prop
  | refl (a : Tracker) : Steps a a
  | access {a b c : Tracker} {k : Nat} : a.accessCode k = .ok b → Steps b c → Steps a c
  | setSub {a b c : Tracker} {k : Nat} {t : CodeType} : a.setSubcontainerType k t = .ok b → Steps b c → Steps a c
  | require {a b c : Tracker} {t : CodeType} : a.requireType t = .ok b → Steps b c → Steps a c

theorem Tracker.Steps.trans {a b c : Tracker} (h1 : Tracker.Steps a b) (h2 : Tracker.Steps b c) :
    Tracker.Steps a c := by
  induction h1 with
  | refl => exact h2
  | access h _ ih => exact .access h (ih h2)
  | setSub h _ ih => exact .setSub h (ih h2)
  | require h _ ih => exact .require h (ih h2)

/-- what the `match op` of `validate_eof_code` leaves alone -/
structure OpFrame (op i : Nat) (jumps : Array InstrInfo) (tr : Tracker) (isRet : Bool) (r : OpRes) : Prop where
  extra : op ≠ RJUMPV → r.extra = 0
  marked : markImmRange jumps (i + 2) r.extra = .ok r.jumps
  ret : op ≠ RETF → op ≠ JUMPF → r.isReturning = isRet
  tracker : Tracker.Steps tr r.tracker

theorem opSpecific_frame {c : Ctx} {i op : Nat} {inf : OpInfo} {this : InstrInfo}
    {jumps : Array InstrInfo} {tr : Tracker} {isRet : Bool} :
    Holds (OpFrame op i jumps tr isRet) (opSpecific c i op inf this jumps tr isRet) := by
  have keep : ∀ {r : OpRes}, r.extra = 0 → r.jumps = jumps → r.isReturning = isRet →
      Tracker.Steps tr r.tracker → OpFrame op i jumps tr isRet r :=
    fun h1 h2 h3 h4 => ⟨fun _ => h1, by rw [h1, h2]; rfl, fun _ _ => h3, h4⟩
  unfold opSpecific
  dsimp only
  -- RJUMP, RJUMPI
  refine holds_ite (fun _ => holds_bind fun _ _ => holds_pure (keep rfl rfl rfl (.refl _))) fun _ => ?_
  -- RJUMPV
  refine holds_ite (fun hv => holds_bind fun _ _ => holds_guard fun _ => holds_bind fun _ hm => holds_bind fun _ _ =>
    holds_pure ⟨fun hne => absurd hv hne, hm, fun _ _ => rfl, .refl _⟩) fun _ => ?_
  -- CALLF
  refine holds_ite (fun _ => holds_bind fun _ _ => ?_) fun _ => ?_
  · split
    · exact holds_err
    · exact holds_guard fun _ => holds_bind fun _ ha => holds_guard fun _ =>
        holds_pure (keep rfl rfl rfl (.access ha (.refl _)))
  -- JUMPF
  refine holds_ite (fun hj => holds_bind fun _ _ => ?_) fun _ => ?_
  · split
    · exact holds_err
    · refine holds_guard fun _ => holds_bind fun _ ha => holds_ite
        (fun _ => holds_pure (keep rfl rfl rfl (.access ha (.refl _)))) fun _ => ?_
      exact holds_guard fun _ => holds_guard fun _ => holds_guard fun _ =>
        holds_pure ⟨fun _ => rfl, rfl, fun _ hne => absurd hj hne, .access ha (.refl _)⟩
  -- EOFCREATE
  refine holds_ite (fun _ => holds_bind fun _ _ => holds_guard fun _ => holds_bind fun _ hs =>
    holds_pure (keep rfl rfl rfl (.setSub hs (.refl _)))) fun _ => ?_
  -- RETURNCONTRACT
  refine holds_ite (fun _ => holds_bind fun _ _ => holds_guard fun _ => holds_bind fun _ hr => holds_bind fun _ hs =>
    holds_pure (keep rfl rfl rfl (.require hr (.setSub hs (.refl _))))) fun _ => ?_
  -- RETURN, STOP
  refine holds_ite (fun _ => holds_bind fun _ hr =>
    holds_pure (keep rfl rfl rfl (.require hr (.refl _)))) fun _ => ?_
  -- DATALOADN
  refine holds_ite (fun _ => holds_bind fun _ _ =>
    holds_ite (fun _ => holds_err) fun _ => holds_pure (keep rfl rfl rfl (.refl _))) fun _ => ?_
  -- RETF
  refine holds_ite (fun hr => holds_guard fun _ =>
    holds_pure ⟨fun _ => rfl, rfl, fun hne _ => absurd hr hne, .refl _⟩) fun _ => ?_
  -- DUPN, SWAPN, EXCHANGE, everything else
  refine holds_ite (fun _ => holds_bind fun _ _ => holds_pure (keep rfl rfl rfl (.refl _))) fun _ => ?_
  refine holds_ite (fun _ => holds_bind fun _ _ => holds_pure (keep rfl rfl rfl (.refl _))) fun _ => ?_
  refine holds_ite (fun _ => holds_bind fun _ _ => holds_pure (keep rfl rfl rfl (.refl _))) fun _ => ?_
  exact holds_pure (keep rfl rfl rfl (.refl _))

section opcodes
variable {c : Ctx} {i : Nat} {inf : OpInfo} {this : InstrInfo} {jumps : Array InstrInfo} {tr : Tracker}
  {isRet : Bool}

/-- the target is written as `Spec.Eof` writes it: offset of the byte behind the immediates, plus the operand -/
theorem opSpecific_rjump {op : Nat} (hop : op = RJUMP ∨ op = RJUMPI) :
    Holds (fun r => ∃ v, u16At c.code (i + 1) = some v ∧ ((i + 3 : Int) + toI16 v) ∈ r.targets)
      (opSpecific c i op inf this jumps tr isRet) := by
  unfold opSpecific
  dsimp only
  rw [if_pos hop]
  refine holds_bind fun o ho => holds_pure ?_
  obtain ⟨v, hv, hov⟩ := readI16_ok ho
  refine ⟨v, hv, ?_⟩
  rw [show (i + 3 : Int) + toI16 v = o + 3 + (i : Int) by omega]
  exact List.mem_cons_self ..

theorem opSpecific_rjumpv :
    Holds (fun r => ∃ m, c.code[i + 1]? = some m ∧ r.extra = 2 * (m + 1) ∧ i + 1 + r.extra < c.code.size ∧
      ∀ k, k ≤ m → ∃ v, u16At c.code (i + 2 + 2 * k) = some v ∧
        ((i + 2 + 2 * (m + 1) : Int) + toI16 v) ∈ r.targets)
      (opSpecific c i RJUMPV inf this jumps tr isRet) := by
  unfold opSpecific
  dsimp only
  rw [if_neg (by decide), if_pos rfl]
  refine holds_bind fun m hm => holds_guard fun hlt => holds_bind fun j2 hj2 => holds_bind fun ts hts =>
    holds_pure ⟨m, byteAt_ok hm, by dsimp only; omega, by dsimp only; omega, fun k hk => ?_⟩
  obtain ⟨v, hv, hmem⟩ := readVtable_ok _ _ _ _ _ _ hts k (by omega) (by omega)
  refine ⟨v, hv, ?_⟩
  rwa [show (i + 2 + 2 * (m + 1) : Int) + toI16 v = toI16 v + (i : Int) + 2 + ((m + 1) * 2 : Nat) by omega]

theorem opSpecific_callf :
    Holds (fun _ => ∃ k, u16At c.code (i + 1) = some k ∧ k < c.types.size)
      (opSpecific c i CALLF inf this jumps tr isRet) := by
  unfold opSpecific
  dsimp only
  rw [if_neg (by decide), if_neg (by decide), if_pos rfl]
  refine holds_bind fun k hk => ?_
  split
  · exact holds_err
  · rename_i tt htt
    exact fun _ _ => ⟨k, readU16_ok hk, lt_of_getElem? htt⟩

theorem opSpecific_jumpf :
    Holds (fun r => ∃ k tt, u16At c.code (i + 1) = some k ∧ c.types[k]? = some tt ∧
      (r.isReturning = true ∨ (tt.isNonReturning = true ∧ r.isReturning = isRet)))
      (opSpecific c i JUMPF inf this jumps tr isRet) := by
  unfold opSpecific
  dsimp only
  rw [if_neg (by decide), if_neg (by decide), if_neg (by decide), if_pos rfl]
  refine holds_bind fun k hk => ?_
  split
  · exact holds_err
  rename_i tt htt
  refine holds_guard fun _ => holds_bind fun _ _ => holds_ite
    (fun hn => holds_pure ⟨k, tt, readU16_ok hk, htt, Or.inr ⟨hn, rfl⟩⟩) fun _ => ?_
  exact holds_guard fun _ => holds_guard fun _ => holds_guard fun _ =>
    holds_pure ⟨k, tt, readU16_ok hk, htt, Or.inl rfl⟩

theorem opSpecific_eofcreate :
    Holds (fun r => ∃ k, c.code[i + 1]? = some k ∧ k < c.nContainers ∧
      tr.setSubcontainerType k .ReturnContract = .ok r.tracker)
      (opSpecific c i EOFCREATE inf this jumps tr isRet) := by
  unfold opSpecific
  dsimp only
  rw [if_neg (by decide), if_neg (by decide), if_neg (by decide), if_neg (by decide), if_pos rfl]
  exact holds_bind fun k hk => holds_guard fun hlt => holds_bind fun tr1 h1 =>
    holds_pure ⟨k, byteAt_ok hk, by omega, h1⟩

theorem opSpecific_returncontract :
    Holds (fun _ => ∃ k, c.code[i + 1]? = some k ∧ k < c.nContainers)
      (opSpecific c i RETURNCONTRACT inf this jumps tr isRet) := by
  unfold opSpecific
  dsimp only
  rw [if_neg (by decide), if_neg (by decide), if_neg (by decide), if_neg (by decide),
    if_neg (by decide), if_pos rfl]
  exact holds_bind fun k hk => holds_guard fun hlt _ _ => ⟨k, byteAt_ok hk, by omega⟩

theorem opSpecific_retf :
    Holds (fun r => r.isReturning = true) (opSpecific c i RETF inf this jumps tr isRet) := by
  unfold opSpecific
  dsimp only
  rw [if_neg (by decide), if_neg (by decide), if_neg (by decide), if_neg (by decide), if_neg (by decide),
    if_neg (by decide), if_neg (by decide), if_neg (by decide), if_pos rfl]
  exact holds_guard fun _ => holds_pure rfl

end opcodes

/-- the successful path through `step`. `this0`, `this`: the `jumps` entry of this offset before and after the stack
heights are merged in; `j1`: `jumps` with the immediates marked; `r`: the result of the `match op` -/
structure StepOk (c : Ctx) (s s' : St) (op : Nat) (inf : OpInfo) (this0 this : InstrInfo)
    (j1 : Array InstrInfo) (r : OpRes) : Prop where
  code : c.code[s.i]? = some op
  info : opInfo op = some inf
  eof : inf.notEof = false
  entry : s.jumps[s.i]? = some this0
  flags : this.isImm = this0.isImm ∧ this.isJumpdest = this0.isJumpdest
  immIn : inf.imm = 0 ∨ s.i + inf.imm < c.code.size
  marked : markImmRange (s.jumps.setIfInBounds s.i this) (s.i + 1) inf.imm = .ok j1
  spec : opSpecific c s.i op inf this j1 s.tracker s.isReturning = .ok r
  jumps : ∃ ns nb, processJumps c.code.size s.i ns nb r.jumps r.targets = .ok s'.jumps
  afterTerm : s'.afterTerm = inf.terminating
  isReturning : s'.isReturning = r.isReturning
  next : s'.i = s.i + 1 + inf.imm + r.extra
  tracker : s'.tracker = r.tracker

theorem step_eq_ok {c : Ctx} {s : St} :
    Holds (fun s' => ∃ op inf this0 this j1 r, StepOk c s s' op inf this0 this j1 r) (step c s) := by
  unfold step
  refine holds_bind fun op hop => ?_
  split
  · exact holds_err
  rename_i inf hinf
  refine holds_guard fun hne => ?_
  split
  · exact holds_panic
  rename_i this0 hthis
  dsimp only
  refine holds_guard fun _ => holds_guard fun himm => holds_bind fun j1 hj1 => holds_bind fun r hr =>
    holds_guard fun _ => holds_bind fun j2 hj2 => holds_pure ?_
  refine ⟨op, inf, this0, _, j1, r, byteAt_ok hop, hinf, by simpa using hne, hthis, ?_, ?_, hj1, hr,
    ⟨_, _, hj2⟩, rfl, rfl, rfl, rfl⟩
  · split
    · exact ⟨rfl, rfl⟩
    · exact ⟨rfl, rfl⟩
  · by_cases h0 : inf.imm = 0
    · exact Or.inl h0
    · exact Or.inr (Nat.lt_of_not_le fun hge => himm ⟨h0, hge⟩)

theorem rjumpv_imm {inf : OpInfo} (h : opInfo RJUMPV = some inf) : inf.imm = 1 := by
  have : (opInfo RJUMPV).map (·.imm) = some 1 := by decide +kernel
  rw [h] at this
  exact Option.some.inj this

theorem validateEofCode_eq_ok {code : Array Nat} {dataSize idx nContainers : Nat}
    {types : Array TypesSection} {tr : Tracker} :
    Holds (fun tr' => ∃ thisTypes s0 s, types[idx]? = some thisTypes ∧
      loop ⟨code, dataSize, nContainers, types, thisTypes⟩ code.size s0 = .ok s ∧
      s0.i = 0 ∧ s0.jumps = Array.replicate code.size {} ∧ s0.afterTerm = false ∧
      s0.tracker = tr ∧ s.isReturning ≠ thisTypes.isNonReturning ∧ s.afterTerm = true ∧ s.tracker = tr')
      (validateEofCode code dataSize idx nContainers types tr) := by
  unfold validateEofCode
  split
  · exact holds_panic
  rename_i thisTypes hty
  dsimp only
  exact holds_bind fun s hs => holds_guard fun hret => holds_guard fun hat => holds_guard fun _ =>
    holds_pure ⟨thisTypes, _, s, hty, hs, rfl, rfl, rfl, rfl, by simpa using hret, by simpa using hat, rfl⟩

end Revm.Proofs.EofValidate
