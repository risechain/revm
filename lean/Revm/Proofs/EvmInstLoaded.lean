import Revm.Proofs.EvmLinkEtherLoop
import Revm.Proofs.FrameKeptViews
/-! C30 instance, the run invariant "the executing contract is in the journal": `Inv stack w`, the target of every open
frame is in `JournaledState::state`. It holds of the first frame (`prepare_inv`) and every move of the loop keeps it
(`move_inv`; not the lemmas of these two names in `EvmLinkLoop`): no instruction and no outcome insertion changes a
frame's `target` (`Resolved.target`), no journal operation removes an account (`KLe`), and a new frame's target is loaded
by its creation (`make_call_frame` loads / touches / credits `target_address` when the call transfers value,
`make_create_frame` loads the created address before `create_account_checkpoint`) or is the running frame's own
(DELEGATECALL). -/
namespace Revm.Proofs.EvmInstLoaded
open Revm Revm.Model Revm.Model.Evm
open Revm.Proofs.EvmLink (KLe Pres makeCallFrame_frame makeCallFrame_hist opLoads)

/-- the account is in the journal's state map -/
def In (w : World) (a : Nat) : Prop := w.js.state a ≠ none

abbrev P0 (w w' : World) : Prop := Pres [] (fun _ => 0) w w'

theorem In.mono {w w' : World} {a : Nat} (h : In w a) (k : KLe w.js w'.js) : In w' a := k a h

theorem init_target (code input : List Nat) (gl : Nat) (st : Bool) (spec target caller value : Nat) (env : Interp.Env)
    (mem : Memory.SharedMemory) : (Interp.IState.init code input gl st spec target caller value env mem).target = target :=
  rfl

/-- a call that does not transfer value (DELEGATECALL) loads nothing: its address has to be in the journal already -/
theorem makeCallFrame_target {cfg : Cfg} {w w' : World} {i : Interp.CallInputs} {mem}
    {f : Frame Journal.Checkpoint} (h : makeCallFrame journalOps cfg w i mem = .ok (.frame f, w'))
    (ht : i.valueTransfer = false → In w i.targetAddress) :
    f.interp.target = i.targetAddress ∧ In w' i.targetAddress := by
  obtain ⟨code, hf⟩ := makeCallFrame_frame h
  refine ⟨by rw [hf]; rfl, ?_⟩
  rcases makeCallFrame_hist h [] with ⟨_, hfr, _⟩ | ⟨_, cp, vops, tail, hh, hv, _⟩
  · cases hfr
  · rcases hv with ⟨hvt, rfl⟩ | rfl | ⟨_, _, rfl⟩
    · exact hh.kle _ (ht hvt)
    · exact hh.present (op := .load i.targetAddress) (by simp) (List.mem_singleton.mpr rfl)
    · exact hh.present (op := .transfer i.caller i.targetAddress i.value) (by simp)
        (by simp [opLoads, Spec.Ether.opAddrs])

theorem makeCreateFrame_target {cfg : Cfg} {w w' : World} {i : Interp.CreateInputs} {mem}
    {f : Frame Journal.Checkpoint} (h : makeCreateFrame journalOps cfg w i mem = .ok (.frame f, w')) :
    In w' f.interp.target := by
  rcases Revm.Proofs.EvmLink.makeCreateFrame_hist h [] with ⟨_, hfr, _⟩ | ⟨_, _, _, _, _, he⟩
  · cases hfr
  · cases he with | frame created _ _ s => exact s.named created (by simp [opLoads, Spec.Ether.opAddrs])

open Revm.Proofs.EvmLink (KLe deliver_ok makeFrame_wrun frameReturn_wrun)
open Revm.Proofs.Evm (Move iterate_moves)
open Revm.Proofs.EvmInstTgt (KeptT KeepT TDone)
open Revm.Proofs.EvmInstSd (Resolved)


/-- the same abbreviation as `EvmLink.JFrame` -/
abbrev JFrame := Frame Journal.Checkpoint

def Inv (stack : List JFrame) (w : World) : Prop := ∀ f ∈ stack, In w f.interp.target

def InvN : Next Journal.Checkpoint → Prop
  | .run st w => Inv st w
  | .ended _ rest _ _ _ w => Inv rest w
  | .done _ _ => True

theorem Inv.mono {st : List JFrame} {w w' : World} (h : Inv st w) (k : KLe w.js w'.js) : Inv st w' :=
  fun f hf => k _ (h f hf)

theorem Inv.cons {f : JFrame} {st : List JFrame} {w : World} (hf : In w f.interp.target) (h : Inv st w) :
    Inv (f :: st) w := by
  intro g hg
  rcases List.mem_cons.1 hg with rfl | hg
  · exact hf
  · exact h g hg

theorem Inv.tail {f : JFrame} {st : List JFrame} {w : World} (h : Inv (f :: st) w) : Inv st w :=
  fun g hg => h g (List.mem_cons_of_mem _ hg)

theorem Inv.head {f : JFrame} {st : List JFrame} {w : World} (h : Inv (f :: st) w) : In w f.interp.target :=
  h f (List.mem_cons_self ..)

theorem insertBy_target (kind : FrameKind) (o : Interp.ChildResult) (s0 : Interp.IState) :
    KeepT s0 Revm.Proofs.EvmInstTgt.T (insertBy kind o s0) := (Revm.Proofs.EvmLink.insertBy_all kind o s0).keepT

theorem deliver_inv {kind : FrameKind} {o : Interp.ChildResult} {parent : JFrame} {rest : List JFrame}
    {mem : Memory.SharedMemory} {w : World} {nx} (h : deliver kind o parent rest mem w = .ok nx)
    (hp : In w parent.interp.target) (hr : Inv rest w) : InvN nx := by
  have hk := insertBy_target kind o { parent.interp with mem := mem }
  rcases deliver_ok h with ⟨s, hi, rfl⟩ | ⟨r, out, s, hi, rfl⟩
  · rw [hi] at hk
    cases hk with
    | ok hkept _ =>
      refine Inv.cons ?_ hr
      show In w s.target
      rw [hkept.tgt]
      exact hp
  · exact hr

theorem makeFrame_target {cfg : Cfg} {w w1 : World} {a : Interp.Action} {mem} {f : JFrame}
    (h : makeFrame journalOps cfg w a mem = .ok (.frame f, w1))
    (hq : ∀ i, a = .call i → i.valueTransfer = false → In w i.targetAddress) : In w1 f.interp.target := by
  rcases Revm.Proofs.EvmLink.makeFrame_cases h with ⟨i, rfl, hm⟩ | ⟨i, rfl, hm⟩
  · obtain ⟨htg, hin⟩ := makeCallFrame_target hm (hq i rfl)
    rw [htg]; exact hin
  · exact makeCreateFrame_target hm

/-- the target view of `Resolved.all` (`DoneAll.target`) -/
theorem Resolved.target {he : HostEnv} {s : Interp.IState} {w w1 : World} {d : Interp.Done}
    (h : Resolved he s w d w1) : TDone s d := h.all.target

theorem Inv.updTop {top : JFrame} {rest : List JFrame} {w w1 : World} (hi : Inv (top :: rest) w) {s : Interp.IState}
    (hs : KeptT top.interp s) (k : KLe w.js w1.js) : Inv ({ top with interp := s } :: rest) w1 :=
  Inv.cons (by show In w1 s.target; rw [hs.tgt]; exact k _ hi.head) (hi.tail.mono k)

theorem move_inv {cfg : Cfg} {b : Bool} {n m : Next Journal.Checkpoint} (h : Move journalOps cfg b n m)
    (hi : InvN n) : InvN m := by
  cases h with
  | next hr => cases Resolved.target hr with | next hk => exact Inv.updTop hi hk (hr.wrun.kle)
  | halt hr => exact (Inv.tail hi).mono (hr.wrun.kle)
  | push hr hmk =>
    cases Resolved.target hr with
    | action hk hq =>
      have hs := Inv.updTop hi hk (hr.wrun.kle)
      refine Inv.cons (makeFrame_target hmk fun i hi' hv => ?_) (hs.mono (makeFrame_wrun hmk).kle)
      rw [hq i hi' hv, ← hk.tgt]
      exact hs.head
  | early hr hmk hdl =>
    cases Resolved.target hr with
    | action hk hq =>
      have hs := (Inv.updTop hi hk (hr.wrun.kle)).mono (makeFrame_wrun hmk).kle
      exact deliver_inv hdl hs.head hs.tail
  | done hm hret => trivial
  | ret hm hret hdl =>
    have hs := Inv.mono hi (frameReturn_wrun hret).kle
    exact deliver_inv hdl hs.head hs.tail

theorem iterate_inv {cfg : Cfg} {stack : List JFrame} {w : World} {nx}
    (h : iterate journalOps cfg stack w = .ok nx) (hi : Inv stack w) : InvN nx :=
  (iterate_moves h).inv move_inv hi

theorem prepare_inv {e : Env} {spec initialGas : Nat} {w w' : World} {f : JFrame} {isCreate : Bool} {refund : Nat}
    (h : prepare journalOps e spec initialGas w = .ok (.frame f, w', isCreate, refund)) : Inv [f] w' := by
  obtain ⟨_, _, _, _, hm, _⟩ := Revm.Proofs.EvmFrame.prepare_ok h
  exact Inv.cons (makeFrame_target hm fun i hi hv => by rw [Revm.Proofs.EvmFrame.firstAction_transfer hi] at hv; cases hv)
    (fun g hg => nomatch hg)

end Revm.Proofs.EvmInstLoaded
