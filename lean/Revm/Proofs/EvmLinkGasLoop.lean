import Revm.Proofs.FrameKeptViews
import Revm.Proofs.EvmLinkLoop
import Revm.Proofs.EvmLinkHandler
/-! Frame accounting along `Evm.runLoop`. The invariant `GasNext`: the running frame has at most its gas limit left, every
waiting frame has paid for the limit of the frame above it; it holds along every run, with no fuel in the statement
(`steps_gas`). Hence `frameAccounting`: the first frame of every `Evm.transact` gives back at most
`gas_limit − initial_gas`, which is what C09's pipeline asks of its input (`Exec.admissible`). -/
namespace Revm.Proofs.EvmLink
open Revm Revm.Model Revm.Model.Evm
open Revm.Proofs.Evm (Move)

theorem makeCallFrame_gas {cfg : Cfg} {w w' : World} {i : Interp.CallInputs} {mem fr}
    (h : makeCallFrame journalOps cfg w i mem = .ok (fr, w')) :
    (∀ r, fr = .result r → r.gasRemaining ≤ i.gasLimit) ∧
    (∀ f, fr = .frame f → f.interp.gas = Gas.new i.gasLimit ∧ f.interp.isStatic = i.isStatic) := by
  rcases makeCallFrame_hist h [] with ⟨_, rfl, _⟩ | ⟨_, _, _, _, _, _, he⟩
  · exact ⟨fun r hr => (by cases hr; exact Nat.le_refl _), fun f hf => nomatch hf⟩
  · cases he with
    | reverted | empty => exact ⟨fun r hr => (by cases hr; exact Nat.le_refl _), fun f hf => nomatch hf⟩
    | committed => exact ⟨fun r hr => (by cases hr; exact Nat.sub_le _ _), fun f hf => nomatch hf⟩
    | frame | delegated => exact ⟨fun r hr => (nomatch hr), fun f hf => by cases hf; exact ⟨rfl, rfl⟩⟩

theorem makeCreateFrame_gas {cfg : Cfg} {w w' : World} {i : Interp.CreateInputs} {mem fr}
    (h : makeCreateFrame journalOps cfg w i mem = .ok (fr, w')) :
    (∀ r, fr = .result r → r.gasRemaining ≤ i.gasLimit) ∧
    (∀ f, fr = .frame f → f.interp.gas = Gas.new i.gasLimit ∧ f.interp.isStatic = false) := by
  rcases makeCreateFrame_hist h [] with ⟨_, rfl, _⟩ | ⟨_, _, _, _, _, he⟩
  · exact ⟨fun r hr => (by cases hr; exact Nat.le_refl _), fun f hf => nomatch hf⟩
  · cases he with
    | early | refused => exact ⟨fun r hr => (by cases hr; exact Nat.le_refl _), fun f hf => nomatch hf⟩
    | frame => exact ⟨fun r hr => (nomatch hr), fun f hf => by cases hf; exact ⟨rfl, rfl⟩⟩

theorem frameReturn_gas {κ : Type} {C : CpOps κ} {cfg : Cfg} {top : Frame κ} {w w' : World}
    {res res' : Interp.ChildResult} (h : frameReturn C cfg top w res = .ok (res', w')) :
    res'.gasRemaining ≤ res.gasRemaining := by
  rcases frameReturn_cases h with ⟨_, _, _, h⟩ | ⟨_, _, h⟩
  · rw [(callReturn_ok h).1]; exact Nat.le_refl _
  · rw [(createReturn_ok h).1]; exact createVerdict_gas cfg _ _

theorem makeFrame_gas {cfg : Cfg} {w w' : World} {a : Interp.Action} {mem fr}
    (h : makeFrame journalOps cfg w a mem = .ok (fr, w')) :
    (∀ o, fr = .result o → o.gasRemaining ≤ a.gasLimit) ∧ (∀ f, fr = .frame f → f.interp.gas = Gas.new a.gasLimit) := by
  rcases makeFrame_cases h with ⟨i, rfl, hm⟩ | ⟨i, rfl, hm⟩
  · exact ⟨(makeCallFrame_gas hm).1, fun f hf => ((makeCallFrame_gas hm).2 f hf).1⟩
  · exact ⟨(makeCreateFrame_gas hm).1, fun f hf => ((makeCreateFrame_gas hm).2 f hf).1⟩

abbrev remOf (f : JFrame) : Nat := f.interp.gas.remaining
abbrev limOf (f : JFrame) : Nat := f.interp.gas.limit

/-- the waiting frames below a frame whose gas limit is `L`: each has paid for the limit of the frame above it; the
bottom frame's limit is `L0` -/
def Waiting : List JFrame → Nat → Nat → Prop
  | [], L, L0 => L = L0
  | p :: rest, L, L0 => remOf p + L ≤ limOf p ∧ Waiting rest (limOf p) L0

/-- the gas invariant of a loop state, for a first frame with gas limit `L0` -/
inductive GasNext (L0 : Nat) : Next Journal.Checkpoint → Prop
  | run {top rest w} (h1 : remOf top ≤ limOf top) (h2 : Waiting rest (limOf top) L0) : GasNext L0 (.run (top :: rest) w)
  | ended {top rest r out s w} (h1 : s.gas.remaining ≤ s.gas.limit) (h2 : Waiting rest s.gas.limit L0) :
      GasNext L0 (.ended top rest r out s w)
  | done {r w} (h : r.gasRemaining ≤ L0) : GasNext L0 (.done r w)

/-- deliver a result that gives back at most `g`, to a parent that has paid for `g` -/
theorem deliver_gas {L0 : Nat} {kind : FrameKind} {o : Interp.ChildResult} {parent : JFrame} {rest : List JFrame}
    {mem : Memory.SharedMemory} {w : World} {nx} {g : Nat} (ho : o.gasRemaining ≤ g)
    (hp : remOf parent + g ≤ limOf parent) (hw : Waiting rest (limOf parent) L0)
    (h : deliver kind o parent rest mem w = .ok nx) : GasNext L0 nx := by
  have hk := insertBy_kept kind o { parent.interp with mem := mem }
  have key : ∀ s, Kept (plusGas { parent.interp with mem := mem } o.gasRemaining) s →
      s.gas.remaining ≤ s.gas.limit ∧ Waiting rest s.gas.limit L0 := fun s hs => by
    have e1 : s.gas.limit = limOf parent := hs.lim
    have e2 : s.gas.remaining ≤ remOf parent + o.gasRemaining := hs.rem
    exact ⟨by omega, by rw [e1]; exact hw⟩
  rcases deliver_ok h with ⟨s, heq, rfl⟩ | ⟨r, out, s, heq, rfl⟩ <;> rw [heq] at hk
  · cases hk with | ok hs _ => exact .run (key s hs).1 (key s hs).2
  · cases hk with | halt hs => exact .ended (key s hs).1 (key s hs).2

theorem move_gas {L0 : Nat} {cfg : Cfg} {b : Bool} {n m : Next Journal.Checkpoint} (h : Move journalOps cfg b n m)
    (hi : GasNext L0 n) : GasNext L0 m := by
  cases h with
  | @next top _ _ s _ hr =>
    cases hi with | run h1 h2 =>
    cases hr.kept with | next hk =>
    have h1 : top.interp.gas.remaining ≤ top.interp.gas.limit := h1
    have := hk.rem; have := hk.lim
    exact .run (by show s.gas.remaining ≤ s.gas.limit; omega) (by show Waiting _ s.gas.limit L0; rw [hk.lim]; exact h2)
  | @halt top _ _ _ _ s _ hr =>
    cases hi with | run h1 h2 =>
    cases hr.kept with | halt hk =>
    have h1 : top.interp.gas.remaining ≤ top.interp.gas.limit := h1
    have := hk.rem; have := hk.lim
    exact .ended (by omega) (by rw [hk.lim]; exact h2)
  | @push top _ _ a s _ f _ hr hmk =>
    cases hi with | run h1 h2 =>
    cases hr.kept with | action hk hg =>
    have hf := (makeFrame_gas hmk).2 f rfl
    refine .run ?_ ⟨?_, ?_⟩
    · show f.interp.gas.remaining ≤ f.interp.gas.limit; rw [hf]; exact Nat.le_refl _
    · show s.gas.remaining + f.interp.gas.limit ≤ s.gas.limit
      rw [hf, hk.lim]; show _ + a.gasLimit ≤ _
      have h1 : top.interp.gas.remaining ≤ top.interp.gas.limit := h1
      omega
    · show Waiting _ s.gas.limit L0; rw [hk.lim]; exact h2
  | @early top _ _ a s _ o _ _ hr hmk hdl =>
    cases hi with | run h1 h2 =>
    cases hr.kept with | action hk hg =>
    refine deliver_gas (parent := { top with interp := s }) (g := a.gasLimit) ((makeFrame_gas hmk).1 o rfl) ?_ ?_ hdl
    · show s.gas.remaining + a.gasLimit ≤ s.gas.limit
      have h1 : top.interp.gas.remaining ≤ top.interp.gas.limit := h1
      rw [hk.lim]; omega
    · show Waiting _ s.gas.limit L0; rw [hk.lim]; exact h2
  | done hm hret =>
    cases hi with | ended h1 h2 =>
    have := frameReturn_gas hret
    have : _ = L0 := h2
    exact .done (by show _ ≤ L0; simp only [resultOf] at *; omega)
  | @ret _ _ _ _ _ s _ _ _ _ _ hm hret hdl =>
    cases hi with | ended h1 h2 =>
    have hres := frameReturn_gas hret
    exact deliver_gas (g := s.gas.limit) (by simp only [resultOf] at hres; omega) h2.1 h2.2 hdl

theorem steps_gas {L0 : Nat} {cfg : Cfg} {n m : Next Journal.Checkpoint} (t : Steps cfg n m) (hi : GasNext L0 n) :
    GasNext L0 m :=
  t.inv move_gas hi

theorem runLoop_gas {cfg : Cfg} {fuel : Nat} {f : JFrame} {w w' : World} {res : Interp.ChildResult}
    (hf : remOf f ≤ limOf f) (h : runLoop journalOps cfg fuel [f] w = .ok (res, w')) :
    res.gasRemaining ≤ limOf f := by
  have := steps_gas (L0 := limOf f) (contOf_steps fuel (.run _ _) h) (.run hf rfl)
  cases this with
  | done h => exact h

theorem firstAction_gasLimit (e : Evm.Env) (g : Nat) : (Revm.Proofs.EvmFrame.firstAction e g).gasLimit = g := by
  unfold Revm.Proofs.EvmFrame.firstAction
  cases e.tx.to <;> rfl

theorem prepare_gas {e : Evm.Env} {spec ig : Nat} {w w2 : World} {first : FrameOrResult Journal.Checkpoint}
    {isCreate : Bool} {k : Nat} (h : prepare journalOps e spec ig w = .ok (first, w2, isCreate, k)) :
    (∀ r, first = .result r → r.gasRemaining ≤ U64ops.wsub e.tx.gasLimit ig) ∧
    (∀ f, first = .frame f → f.interp.gas = Gas.new (U64ops.wsub e.tx.gasLimit ig)) := by
  obtain ⟨_, _, _, _, hmk, _⟩ := Revm.Proofs.EvmFrame.prepare_ok h
  have := makeFrame_gas hmk
  rw [firstAction_gasLimit] at this
  exact this

/-- for every world, transaction, fork and fuel, the first frame of `Evm.transact` gives back at most the gas it was
given, `gas_limit − initial_gas` -/
theorem frameAccounting (fuel : Nat) (w : World) (e : Evm.Env) (spec : Nat) : FrameAccounting fuel w e spec := by
  intro ig fg k res w3 hff
  obtain ⟨w1, first, w2, isCreate, hp, hpr, hrf⟩ := hff
  obtain ⟨_, _, hig, _, _⟩ := preverify_some_inv w w1 e _ ig fg hp
  have hgl : U64ops.wsub e.tx.gasLimit ig ≤ e.tx.gasLimit - ig := by
    have := wsub_le' e.tx.gasLimit ig hig; omega
  obtain ⟨hr, hf⟩ := prepare_gas hpr
  cases first with
  | result r =>
    simp only [runFirst, pure, Except.pure, Except.ok.injEq, Prod.mk.injEq] at hrf
    rw [← hrf.1]
    exact Nat.le_trans (hr r rfl) hgl
  | frame f =>
    have hg := hf f rfl
    have := runLoop_gas (f := f) (by show f.interp.gas.remaining ≤ f.interp.gas.limit; rw [hg]; exact Nat.le_refl _) hrf
    have hl : limOf f = U64ops.wsub e.tx.gasLimit ig := by show f.interp.gas.limit = _; rw [hg]; rfl
    omega

end Revm.Proofs.EvmLink
