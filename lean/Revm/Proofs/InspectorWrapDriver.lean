import Revm.Model.InspectorWrap
/-! The driver of an arbitrary frame machine (`Model/InspectorWrap.lean`: `run`, `execute_frame`, `run_the_loop`,
`exec`) as a program of binds: a handler's `Result` is consumed by `andThen` (Rust's `?`), a part that can run out of fuel
by `obind`; `loop_succ` and `exec_bind` write the loop body and `exec` with them, so that two drivers are compared bind by
bind (`RSim.andThen` / `OSim.bind` in `InspectorWrapLoop`). The fuel is nested (`loop (n+1)` runs `runInterp n`, then
`loop n`); `Ans m ln x` (the loop answers `x` from the verdict `ln` of `handle_action` on some fuel) with `Ans.step` /
`Ans.handle` steps the loop from the outside, one instruction at a time, without fuel arithmetic. -/
namespace Revm.Proofs.InspectorWrap
open Revm Revm.Model Revm.Model.InspectorWrap

variable {T : Ty} {C : Type}

/-- what `Interpreter::run` makes of the interpreter the `while` loop left -/
def runPost (st : IState T) (c : C) : Action T × IState T × C :=
  match st.nextAction with
  | .none => (.ret { result := st.instructionResult, output := [], gas := st.gas }, st, c)
  | a => (a, { st with nextAction := .none }, c)

/-- `execute_frame` once the `while` loop of `run` has returned `(st, c)` -/
def framePost (m : Machine T C) (f : Frame T) (st : IState T) (c : C) : Action T × Frame T × T.Mem × C :=
  ((runPost st c).1, { f with interp := { (runPost st c).2.1 with mem := m.emptyMem } }, (runPost st c).2.1.mem,
    (runPost st c).2.2)

theorem run_eq (m : Machine T C) (n : Nat) (st0 : IState T) (mem : T.Mem) (c : C) :
    m.run n st0 mem c =
      (m.runInterp n { st0 with nextAction := .none, mem := mem } c).map (fun p => runPost p.1 p.2) := by
  unfold Machine.run
  dsimp only
  generalize m.runInterp n _ c = r
  cases r with
  | none => rfl
  | some p =>
    obtain ⟨st, c'⟩ := p
    simp only [Option.map, runPost]
    cases h : st.nextAction <;> rfl

theorem executeFrame_eq (m : Machine T C) (n : Nat) (f : Frame T) (shared : T.Mem) (c : C) :
    m.executeFrame n f shared c =
      (m.runInterp n { f.interp with nextAction := .none, mem := shared } c).map (fun p => framePost m f p.1 p.2) := by
  unfold Machine.executeFrame
  rw [run_eq]
  cases m.runInterp n { f.interp with nextAction := .none, mem := shared } c with
  | none => rfl
  | some p => rfl

/-- `r?` inside the driver: `err` and `panic` end the run with themselves, `ok a` goes on with `k a` -/
def andThen {ε α β : Type} : Res ε α → (α → Option (Res ε β)) → Option (Res ε β)
  | .ok a, k => k a
  | .err e, _ => some (.err e)
  | .panic, _ => some .panic

/-- `andThen` after a part of the driver that can run out of fuel -/
def obind {ε α β : Type} (x : Option (Res ε α)) (k : α → Option (Res ε β)) : Option (Res ε β) :=
  x.bind fun r => andThen r k

def loopCont (m : Machine T C) (n : Nat) : LoopNext T C → Option (Res T.Err (FrameResult × C))
  | .done r c => some (.ok (r, c))
  | .continue stack shared c => m.loop n stack shared c

/-- the loop body after `execute_frame`: `take_error()?`, `handle_action`, and its verdict -/
def loopBody (m : Machine T C) (n : Nat) (rest : List (Frame T)) (x : Action T × Frame T × T.Mem × C) :
    Option (Res T.Err (FrameResult × C)) :=
  andThen ((m.takeError x.2.2.2).bind (m.handleAction x.1 x.2.1 rest x.2.2.1)) (loopCont m n)

theorem loop_succ (m : Machine T C) (n : Nat) (f : Frame T) (rest : List (Frame T)) (shared : T.Mem) (c : C) :
    m.loop (n + 1) (f :: rest) shared c = (m.executeFrame n f shared c).bind (loopBody m n rest) := by
  rw [Machine.loop]
  cases m.executeFrame n f shared c with
  | none => rfl
  | some x =>
    obtain ⟨a, f', sh', c'⟩ := x
    simp only [Option.bind, loopBody]
    cases m.takeError c' with
    | err e => rfl
    | panic => rfl
    | ok c2 =>
      simp only [Res.bind]
      cases m.handleAction a f' rest sh' c2 with
      | err e => rfl
      | panic => rfl
      | ok nx => cases nx <;> rfl

theorem loop_of_runInterp (m : Machine T C) (n : Nat) (f : Frame T) (rest : List (Frame T)) (shared : T.Mem) (c : C)
    (st : IState T) (c' : C)
    (h : m.runInterp n { f.interp with nextAction := .none, mem := shared } c = some (st, c')) :
    m.loop (n + 1) (f :: rest) shared c = loopBody m n rest (framePost m f st c') := by
  rw [loop_succ, executeFrame_eq, h]; rfl

/-- `exec` after the first frame handler: `last_frame_return` on the immediate result, or on what the loop returns -/
def execCont (m : Machine T C) (fuel : Nat) (p : (Frame T ⊕ FrameResult) × C) : Option (Res T.Err (FrameResult × C)) :=
  match p with
  | (.inr r, c) => some (m.lastFrameReturn c r)
  | (.inl f, c) => obind (m.loop fuel [f] (m.newContext m.newMem) c) fun q => some (m.lastFrameReturn q.2 q.1)

theorem exec_bind (m : Machine T C) (fuel : Nat) (inp : FirstInput T) (c : C) :
    m.exec fuel inp c = andThen (m.firstFrame inp c) (execCont m fuel) := by
  unfold Machine.exec
  cases m.firstFrame inp c with
  | err e => rfl
  | panic => rfl
  | ok p =>
    obtain ⟨x, c1⟩ := p
    cases x with
    | inr r => rfl
    | inl f =>
      simp only [andThen, execCont, obind]
      cases m.loop fuel [f] (m.newContext m.newMem) c1 with
      | none => rfl
      | some y => cases y <;> rfl

theorem runInterp_halted (m : Machine T C) (n : Nat) (st : IState T) (c : C)
    (h : st.instructionResult ≠ .Continue) : m.runInterp (n + 1) st c = some (st, c) := by
  rw [Machine.runInterp]; simp only [h, if_false]

theorem runInterp_step (m : Machine T C) (n : Nat) (st : IState T) (c : C)
    (h : st.instructionResult = .Continue) :
    m.runInterp (n + 1) st c = m.runInterp n (m.step st c).1 (m.step st c).2 := by
  rw [Machine.runInterp]; simp only [h, if_true]

/-- one instruction that leaves `instruction_result` set ends the `while` loop -/
theorem runInterp_last (m : Machine T C) (n : Nat) (st : IState T) (c : C)
    (h : st.instructionResult = .Continue) (h' : (m.step st c).1.instructionResult ≠ .Continue) :
    m.runInterp (n + 2) st c = some (m.step st c) := by
  rw [runInterp_step m (n + 1) st c h, runInterp_halted m n _ _ h']

theorem andThen_mono {ε α β : Type} {x : Res ε α} {k k' : α → Option (Res ε β)} {r : Res ε β}
    (hk : ∀ a, k a = some r → k' a = some r) (h : andThen x k = some r) : andThen x k' = some r := by
  cases x with
  | ok a => exact hk a h
  | err e => exact h
  | panic => exact h

theorem runInterp_mono (m : Machine T C) : ∀ (n : Nat) (st : IState T) (c : C) (x : IState T × C),
    m.runInterp n st c = some x → m.runInterp (n + 1) st c = some x := by
  intro n
  induction n with
  | zero => intro st c x h; simp [Machine.runInterp] at h
  | succ n ih =>
    intro st c x h
    by_cases hc : st.instructionResult = .Continue
    · rw [runInterp_step m _ st c hc] at h ⊢
      exact ih _ _ x h
    · rw [runInterp_halted m _ st c hc] at h ⊢
      exact h

theorem executeFrame_mono (m : Machine T C) (n : Nat) (f : Frame T) (shared : T.Mem) (c : C)
    (x : Action T × Frame T × T.Mem × C) (h : m.executeFrame n f shared c = some x) :
    m.executeFrame (n + 1) f shared c = some x := by
  rw [executeFrame_eq] at h ⊢
  cases hr : m.runInterp n { f.interp with nextAction := .none, mem := shared } c with
  | none => rw [hr] at h; simp at h
  | some p => rw [hr] at h; rw [runInterp_mono m n _ _ p hr]; exact h

theorem loop_zero (m : Machine T C) (fs : List (Frame T)) (shared : T.Mem) (c : C) : m.loop 0 fs shared c = none := by
  rw [Machine.loop]

theorem loop_mono (m : Machine T C) : ∀ (n : Nat) (fs : List (Frame T)) (shared : T.Mem) (c : C)
    (x : Res T.Err (FrameResult × C)), m.loop n fs shared c = some x → m.loop (n + 1) fs shared c = some x := by
  intro n
  induction n with
  | zero => intro fs shared c x h; rw [loop_zero] at h; cases h
  | succ n ih =>
    intro fs shared c x h
    cases fs with
    | nil => rw [Machine.loop] at h ⊢; exact h
    | cons f rest =>
      rw [loop_succ] at h ⊢
      cases he : m.executeFrame n f shared c with
      | none => rw [he] at h; cases h
      | some y =>
        rw [he] at h
        rw [executeFrame_mono m n f shared c y he]
        refine andThen_mono (fun nx hnx => ?_) h
        cases nx with
        | done r c3 => exact hnx
        | «continue» st sh c3 => exact ih st sh c3 x hnx

theorem loop_mono_add (m : Machine T C) (k n : Nat) (fs : List (Frame T)) (shared : T.Mem) (c : C)
    (x : Res T.Err (FrameResult × C)) (h : m.loop n fs shared c = some x) : m.loop (n + k) fs shared c = some x := by
  induction k with
  | zero => exact h
  | succ k ih => exact loop_mono m (n + k) fs shared c x ih

theorem loop_mono_le (m : Machine T C) {n n' : Nat} (hle : n ≤ n') (fs : List (Frame T)) (shared : T.Mem) (c : C)
    (x : Res T.Err (FrameResult × C)) (h : m.loop n fs shared c = some x) : m.loop n' fs shared c = some x := by
  obtain ⟨k, rfl⟩ := Nat.exists_eq_add_of_le hle
  exact loop_mono_add m k n fs shared c x h

theorem loopCont_mono (m : Machine T C) (n : Nat) (ln : LoopNext T C) (x : Res T.Err (FrameResult × C))
    (h : loopCont m n ln = some x) : loopCont m (n + 1) ln = some x := by
  cases ln with
  | done r c => exact h
  | «continue» st sh c => exact loop_mono m n st sh c x h

theorem loop_after_step (m : Machine T C) (f : Frame T) (rest : List (Frame T)) (shared : T.Mem) (c : C)
    (hc : f.interp.instructionResult = .Continue)
    (st1 : IState T) (c1 : C) (hs : m.step { f.interp with nextAction := .none, mem := shared } c = (st1, c1))
    (hna : { st1 with nextAction := .none, mem := st1.mem } = st1)
    (n : Nat) (x : Res T.Err (FrameResult × C))
    (h : m.loop n ({ f with interp := st1 } :: rest) st1.mem c1 = some x) :
    m.loop (n + 1) (f :: rest) shared c = some x := by
  cases n with
  | zero => rw [loop_zero] at h; cases h
  | succ n =>
    rw [loop_succ, executeFrame_eq] at h ⊢
    have hc' : ({ f.interp with nextAction := .none, mem := shared } : IState T).instructionResult = .Continue := hc
    rw [runInterp_step m n _ c hc', hs]
    simp only [hna] at h
    cases hr : m.runInterp n st1 c1 with
    | none => rw [hr] at h; cases h
    | some p => rw [hr] at h; exact andThen_mono (fun ln => loopCont_mono m n ln x) h

def Ans (m : Machine T C) (ln : LoopNext T C) (x : Res T.Err (FrameResult × C)) : Prop :=
  ∃ N, loopCont m N ln = some x

/-- an instruction that leaves the frame running is absorbed -/
theorem Ans.step (m : Machine T C) (f : Frame T) (rest : List (Frame T)) (shared : T.Mem) (c : C)
    (hc : f.interp.instructionResult = .Continue) (st1 : IState T) (c1 : C)
    (hs : m.step { f.interp with nextAction := .none, mem := shared } c = (st1, c1))
    (hna : { st1 with nextAction := .none, mem := st1.mem } = st1) {x : Res T.Err (FrameResult × C)}
    (h : Ans m (.continue ({ f with interp := st1 } :: rest) st1.mem c1) x) : Ans m (.continue (f :: rest) shared c) x := by
  obtain ⟨N, hN⟩ := h
  exact ⟨N + 1, loop_after_step m f rest shared c hc st1 c1 hs hna N x hN⟩

/-- the `while` loop of the top frame returns `(st1, c1)` (after at most one instruction), no error is pending and
`handle_action` says `ln'`: what the loop answers from `ln'`, it answers from here -/
theorem Ans.handle (m : Machine T C) (f : Frame T) (rest : List (Frame T)) (shared : T.Mem) (c : C) (st1 : IState T)
    (c1 : C) (hrun : ∀ n, m.runInterp (n + 2) { f.interp with nextAction := .none, mem := shared } c = some (st1, c1))
    (htake : m.takeError (framePost m f st1 c1).2.2.2 = .ok (framePost m f st1 c1).2.2.2) {ln' : LoopNext T C}
    (hh : m.handleAction (framePost m f st1 c1).1 (framePost m f st1 c1).2.1 rest (framePost m f st1 c1).2.2.1
      (framePost m f st1 c1).2.2.2 = .ok ln') {x : Res T.Err (FrameResult × C)} (h : Ans m ln' x) :
    Ans m (.continue (f :: rest) shared c) x := by
  obtain ⟨N, hN⟩ := h
  refine ⟨N + 3, ?_⟩
  show m.loop (N + 3) (f :: rest) shared c = some x
  rw [loop_of_runInterp m (N + 2) f rest shared c st1 c1 (hrun N)]
  unfold loopBody
  rw [htake]
  show andThen (m.handleAction _ _ rest _ _) _ = some x
  rw [hh]
  exact loopCont_mono m _ ln' x (loopCont_mono m _ ln' x hN)

end Revm.Proofs.InspectorWrap
