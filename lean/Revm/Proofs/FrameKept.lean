import Revm.Proofs.Gas
import Revm.Proofs.Memory
import Revm.Model.Interp
/-! What every handler of `Model.Interp` leaves alone from the state `s0` in which an instruction starts: `is_static`,
the gas limit, `target`, `caller`, `spec`, `is_eof_init`; no gas comes back, and a unit is paid before the frame continues
or hands out an action (`KeptAll`). A halt carries a result `SuccessOrHalt::from` classifies, or `FatalExternalError`
after a host error (`RHalt`). `KeepO` says so of a result, `KaO` / `KaP` of a handler: here of the primitives (`ka_x` also
hands on a fact about the value), in `InterpHandlers` of the pure instructions, in `FrameKeptStep` of the others. -/

-- `EvmInstTgt` and `EvmLink` are the namespaces of the users of these notions, not modules
namespace Revm.Proofs.EvmInstTgt
open Revm Revm.Model Revm.Model.Interp

structure KeptT (s0 s : IState) : Prop where
  tgt : s.target = s0.target
  clr : s.caller = s0.caller
  spc : s.spec = s0.spec

theorem KeptT.refl (s : IState) : KeptT s s := ⟨rfl, rfl, rfl⟩
theorem KeptT.trans {a b c : IState} (h1 : KeptT a b) (h2 : KeptT b c) : KeptT a c :=
  ⟨h2.tgt.trans h1.tgt, h2.clr.trans h1.clr, h2.spc.trans h1.spc⟩

end Revm.Proofs.EvmInstTgt

namespace Revm.Proofs.EvmLink
open Revm Revm.Model Revm.Model.Interp
open Revm.Proofs.EvmInstTgt (KeptT)

/-- a result a frame may end with: not one of the four internal flags on which `output` (`SuccessOrHalt::from`) panics -/
def RGood (r : IResult) : Prop :=
  r ≠ .Continue ∧ r ≠ .CallOrCreate ∧ r ≠ .FatalExternalError ∧ r ≠ .InvalidExtDelegateCallTarget

instance (r : IResult) : Decidable (RGood r) := by unfold RGood; exact inferInstance

structure Kept (s0 s : IState) : Prop where
  st : s.isStatic = s0.isStatic
  lim : s.gas.limit = s0.gas.limit
  rem : s.gas.remaining ≤ s0.gas.remaining

theorem Kept.refl (s : IState) : Kept s s := ⟨rfl, rfl, Nat.le_refl _⟩
theorem Kept.trans {a b c : IState} (h1 : Kept a b) (h2 : Kept b c) : Kept a c :=
  ⟨h2.st.trans h1.st, h2.lim.trans h1.lim, Nat.le_trans h2.rem h1.rem⟩

theorem kept_of_eq {s x : IState} (h1 : x.isStatic = s.isStatic) (h2 : x.gas = s.gas) : Kept s x :=
  ⟨h1, by rw [h2], by rw [h2]; exact Nat.le_refl _⟩

/-- `Kept`, and with the flag set at least one unit of gas has been consumed since `s0` -/
structure KeptB (fl : Bool) (s0 s : IState) : Prop extends Kept s0 s where
  strict : fl = true → s.gas.remaining + 1 ≤ s0.gas.remaining

theorem KeptB.refl (s : IState) : KeptB false s s := ⟨Kept.refl s, fun h => nomatch h⟩
theorem KeptB.trans {fl : Bool} {a x c : IState} (h1 : KeptB fl a x) (h2 : Kept x c) : KeptB fl a c :=
  ⟨h1.toKept.trans h2, fun h => by have := h1.strict h; have := h2.rem; omega⟩
theorem KeptB.charge {fl : Bool} {a x c : IState} (h1 : KeptB fl a x) (h2 : Kept x c)
    (hc : c.gas.remaining + 1 ≤ x.gas.remaining) : KeptB true a c :=
  ⟨h1.toKept.trans h2, fun _ => by have := h1.rem; omega⟩
theorem KeptB.rebase {fl : Bool} {a x c : IState} (h1 : Kept a x) (h2 : KeptB fl x c) : KeptB fl a c :=
  ⟨h1.trans h2.toKept, fun h => by have := h2.strict h; have := h1.rem; omega⟩

theorem rgood_stackErr (e : Stack.Err) : RGood (stackErr e) := by cases e <;> decide

/-- `E`: the host's answer may be an error, and then `let Some(x) = host.f(..) else` halts with `FatalExternalError`;
instantiated with `True` (any host) or `False` (a host whose answers are not errors) -/
def RHalt (E : Prop) (r : IResult) : Prop := RGood r ∨ (E ∧ r = .FatalExternalError)

theorem RHalt.good {E : Prop} {r : IResult} (h : RGood r) : RHalt E r := .inl h
theorem RHalt.rgood {r : IResult} (h : RHalt False r) : RGood r := h.resolve_right (fun h => h.1)
theorem RHalt.ne_continue {E : Prop} {r : IResult} (h : RHalt E r) : r ≠ .Continue := by
  cases h with
  | inl h => exact h.1
  | inr h => rw [h.2]; decide

/-- the `Host` questions that change the journaled world state -/
def mutating : HostOp → Bool
  | .sstore _ _ _ | .tstore _ _ _ | .log _ _ _ | .selfdestruct _ _ => true
  | _ => false

/-- the address of a storage / self-destruct request is `t` -/
def OpT (t : Nat) : HostOp → Prop
  | .sload a _ => a = t
  | .sstore a _ _ => a = t
  | .selfdestruct a _ => a = t
  | _ => True

/-- a call a static frame may hand out: static again, and no value moves between two different accounts (`Transfer(0)`,
CALLCODE's transfer from the frame to itself, or DELEGATECALL's apparent value) -/
def StaticCall (i : CallInputs) : Prop :=
  i.isStatic = true ∧ (i.valueTransfer = true → i.value = 0 ∨ i.targetAddress = i.caller)

/-- what the frame that started the instruction in `s0` may ask the host: about storage and self-destruction for its
own address only, and nothing that mutates when it is static -/
def OpOk (s0 : IState) (op : HostOp) : Prop := OpT s0.target op ∧ (s0.isStatic = true → mutating op = false)

/-- the questions on which `OpOk` imposes nothing -/
def quiet : HostOp → Bool
  | .sload _ _ | .sstore _ _ _ | .tstore _ _ _ | .log _ _ _ | .selfdestruct _ _ => false
  | _ => true

theorem OpOk.quiet {s0 : IState} {op : HostOp} (h : quiet op = true) : OpOk s0 op := by
  cases op <;> first | exact ⟨trivial, fun _ => rfl⟩ | cases h

theorem OpOk.own {s0 : IState} {op : HostOp} (ht : OpT s0.target op) (hs : s0.isStatic = false) : OpOk s0 op :=
  ⟨ht, fun h => by rw [hs] at h; cases h⟩

/-- the action a frame that started the instruction in `s0` may hand out: a static frame only calls, statically -/
def ActStatic (s0 : IState) : Action → Prop
  | .call i => s0.isStatic = true → StaticCall i
  | _ => s0.isStatic = false

/-- `s` is a later state of the instruction that started in `s0`; `fl`: a unit of gas has been paid since -/
structure KeptAll (fl : Bool) (s0 s : IState) : Prop extends KeptB fl s0 s, KeptT s0 s where
  init : s.isEofInit = s0.isEofInit

theorem KeptAll.refl (s : IState) : KeptAll false s s := ⟨KeptB.refl s, KeptT.refl s, rfl⟩
theorem KeptAll.trans {fl : Bool} {a x c : IState} (h1 : KeptAll fl a x) (h2 : Kept x c) (h3 : KeptT x c)
    (h4 : c.isEofInit = x.isEofInit) : KeptAll fl a c := ⟨h1.toKeptB.trans h2, h1.toKeptT.trans h3, h4.trans h1.init⟩
theorem KeptAll.upd {fl : Bool} {a x c : IState} (h : KeptAll fl a x) (h1 : c.isStatic = x.isStatic)
    (h2 : c.gas = x.gas) (h3 : c.target = x.target) (h4 : c.caller = x.caller) (h5 : c.spec = x.spec)
    (h6 : c.isEofInit = x.isEofInit) : KeptAll fl a c := h.trans (kept_of_eq h1 h2) ⟨h3, h4, h5⟩ h6
theorem KeptAll.rebase {fl fl' : Bool} {a x c : IState} (h1 : KeptAll fl' a x) (h2 : KeptAll fl x c) :
    KeptAll fl a c := ⟨KeptB.rebase h1.toKept h2.toKeptB, h1.toKeptT.trans h2.toKeptT, h2.init.trans h1.init⟩

/-- the output of a halt is within the memory buffer of the halting state — in a frame that does not run EOF init code,
where RETURNCONTRACT hands out the new container -/
def OutBnd (s0 : IState) (o : List Nat) (s : IState) : Prop := s0.isEofInit = false → o.length ≤ s.mem.buffer.length

theorem OutBnd.nil {s0 s : IState} : OutBnd s0 [] s := fun _ => Nat.zero_le _

abbrev T {α} : α → IState → Prop := fun _ _ => True

/-- a handler result whose state (ok or halt) is `KeptAll` after `s0`, with the flag on an ok result; `Q` holds of an
ok result; a halt carries an `RHalt E` result and the empty output or one that satisfies `O`, and may have any flag -/
inductive KeepO (E : Prop) (O : List Nat → IState → Prop) (fl : Bool) (s0 : IState) {α} (Q : α → IState → Prop) :
    Exec α → Prop
  | ok {a s} (h : KeptAll fl s0 s) (hq : Q a s) : KeepO E O fl s0 Q (.ok a s)
  | halt {r o s} {fl' : Bool} (h : KeptAll fl' s0 s) (hr : RHalt E r) (ho : o = [] ∨ O o s) :
      KeepO E O fl s0 Q (.halt r o s)
  | fault {f} : KeepO E O fl s0 Q (.fault f)

/-- … with an `OutBnd` output -/
abbrev KeepAll (E : Prop) (fl : Bool) (s0 : IState) {α} (Q : α → IState → Prop) : Exec α → Prop :=
  KeepO E (OutBnd s0) fl s0 Q

theorem OutBnd.of {s0 s : IState} {o : List Nat} (h : o = [] ∨ OutBnd s0 o s) : OutBnd s0 o s :=
  h.elim (fun e => e ▸ .nil) id

variable {E : Prop} {O : List Nat → IState → Prop}

theorem ka_bind {fl fl' : Bool} {s0 s : IState} {α β} {m : M α} {f : α → M β} {Q : α → IState → Prop}
    {Q' : β → IState → Prop} (h1 : KeepO E O fl s0 Q (m s))
    (h2 : ∀ a s', KeptAll fl s0 s' → Q a s' → KeepO E O fl' s0 Q' (f a s')) : KeepO E O fl' s0 Q' ((m >>= f) s) := by
  show KeepO E O fl' s0 Q' (M.bind m f s)
  unfold M.bind
  cases hm : m s with
  | ok a s' => rw [hm] at h1; cases h1 with | ok h hq => exact h2 a s' h hq
  | halt r o s' => rw [hm] at h1; cases h1 with | halt h hr ho => exact .halt h hr ho
  | fault f => exact .fault

theorem ka_pure {fl : Bool} {s0 s : IState} {α} {a : α} {Q : α → IState → Prop} (h : KeptAll fl s0 s) (hq : Q a s) :
    KeepO E O fl s0 Q ((pure a : M α) s) := .ok h hq

theorem ka_mono {fl : Bool} {s0 : IState} {α} {e : Exec α} {Q Q' : α → IState → Prop} (h : KeepO E O fl s0 Q e)
    (hq : ∀ a s, KeptAll fl s0 s → Q a s → Q' a s) : KeepO E O fl s0 Q' e := by
  cases h with
  | ok h hq' => exact .ok h (hq _ _ h hq')
  | halt h hr ho => exact .halt h hr ho
  | fault => exact .fault

theorem ka_rebase {fl fl' : Bool} {s0 s : IState} {α} {Q : α → IState → Prop} {e : Exec α} (h : KeptAll fl' s0 s)
    (hk : KeepAll E fl s Q e) : KeepAll E fl s0 Q e := by
  cases hk with
  | ok h' hq => exact .ok (h.rebase h') hq
  | halt h' hr ho => exact .halt (h.rebase h') hr (ho.imp_right fun ho h0 => ho (h.init.trans h0))
  | fault => exact .fault

theorem wsub_le' (a c : Nat) (h : c ≤ a) : U64ops.wsub a c + c ≤ a := by
  unfold U64ops.wsub
  generalize U64 = u
  have h1 : c % u ≤ c := Nat.mod_le _ _
  have h2 : a + u - c % u = (a - c) + u * (c / u) + u := by
    have := Nat.div_add_mod c u
    generalize c / u = q at *
    generalize c % u = x at *
    generalize hm : u * q = m at *
    omega
  rw [h2, Nat.add_mod_right, Nat.add_mul_mod_self_left]
  have := Nat.mod_le (a - c) u
  omega

theorem recordCost_spec (g g' : Gas.Gas) (c : Nat) (ok : Bool) (h : Gas.recordCost g c = (g', ok)) :
    g'.limit = g.limit ∧ g'.remaining ≤ g.remaining ∧ (ok = true → g'.remaining + c ≤ g.remaining) := by
  by_cases hlt : g.remaining < c
  · rw [Proofs.Gas.recordCost_fail g c hlt] at h
    obtain ⟨rfl, rfl⟩ := Prod.mk.inj h
    exact ⟨rfl, Nat.le_refl _, fun h => nomatch h⟩
  · simp only [Gas.recordCost, Gas.overflowingSub, hlt, decide_false, Bool.not_false, if_true] at h
    obtain ⟨rfl, rfl⟩ := Prod.mk.inj h
    have k := wsub_le' g.remaining c (by omega)
    dsimp only
    generalize U64ops.wsub g.remaining c = x at k ⊢
    exact ⟨rfl, by omega, fun _ => k⟩

/-- `KeepO` as a predicate on handlers, from any state `KeptAll` after the state `s0` in which the instruction
started; `b`: an ok result has the flag set -/
def KaO (E : Prop) (O : List Nat → IState → Prop) (s0 : IState) (b : Bool) {α : Type} (m : M α) : Prop :=
  ∀ fl s, KeptAll fl s0 s → KeepO E O (b || fl) s0 T (m s)

/-- … with an `OutBnd` output: what holds of every handler -/
abbrev KaP (E : Prop) (s0 : IState) (b : Bool) {α : Type} (m : M α) : Prop := KaO E (OutBnd s0) s0 b m

theorem KaO.run {α : Type} {m : M α} {fl : Bool} {s0 s : IState} (h : KaO E O s0 false m) (hk : KeptAll fl s0 s) :
    KeepO E O fl s0 T (m s) := h fl s hk
theorem KaO.run1 {α : Type} {m : M α} {fl : Bool} {s0 s : IState} (h : KaO E O s0 true m) (hk : KeptAll fl s0 s) :
    KeepO E O true s0 T (m s) := h fl s hk

section prims
variable {fl : Bool} {s0 s : IState}

theorem ka_haltWith {α} {fl' : Bool} (h : KeptAll fl s0 s) (r : IResult) (hr : RGood r) {Q : α → IState → Prop} :
    KeepO E O fl' s0 Q ((haltWith r : M α) s) := .halt h (.good hr) (.inl rfl)
theorem ka_haltOut {α} {fl' : Bool} (h : KeptAll fl s0 s) (r : IResult) (o : List Nat) (hr : RGood r)
    (ho : O o s) {Q : α → IState → Prop} : KeepO E O fl' s0 Q ((haltOut r o : M α) s) := .halt h (.good hr) (.inr ho)
theorem ka_faultWith {α} {fl' : Bool} (f : Fault) {Q : α → IState → Prop} :
    KeepO E O fl' s0 Q ((faultWith f : M α) s) := .fault

theorem ka_getS (h : KeptAll fl s0 s) : KeepO E O fl s0 (fun x s' => x = s ∧ s' = s) (getS s) := .ok h ⟨rfl, rfl⟩

theorem ka_modifyS (h : KeptAll fl s0 s) (f : IState → IState) (hf : Kept s (f s)) (hft : KeptT s (f s))
    (hfi : (f s).isEofInit = s.isEofInit) : KeepO E O fl s0 T (modifyS f s) := .ok (h.trans hf hft hfi) trivial

theorem ka_modifyS_gas (h : KeptAll fl s0 s) (f : IState → IState) (hst : (f s).isStatic = s.isStatic)
    (hg : (f s).gas = s.gas) (hft : KeptT s (f s)) (hfi : (f s).isEofInit = s.isEofInit) :
    KeepO E O fl s0 (fun _ s' => s'.gas = s.gas) (modifyS f s) := .ok (h.trans (kept_of_eq hst hg) hft hfi) hg

theorem KaO.check (fork : Nat) : KaO E O s0 false (Interp.check fork) := fun fl s h => by
  unfold Interp.check; split
  · exact .ok h trivial
  · exact .halt h (.good (by decide)) (.inl rfl)

theorem ka_requireNonStatic (h : KeptAll fl s0 s) :
    KeepO E O fl s0 (fun _ _ => s0.isStatic = false) (requireNonStatic s) := by
  unfold requireNonStatic
  by_cases hs : s.isStatic = true
  · rw [if_pos hs]; exact .halt h (.good (by decide)) (.inl rfl)
  · rw [if_neg hs]; exact .ok h (by rw [← h.st]; exact Bool.eq_false_iff.mpr hs)

theorem KaO.requireEof : KaO E O s0 false (Interp.requireEof) := fun fl s h => by
  unfold Interp.requireEof; split
  · exact .halt h (.good (by decide)) (.inl rfl)
  · exact .ok h trivial

theorem KaO.requireInitEof : KaO E O s0 false (Interp.requireInitEof) := fun fl s h => by
  unfold Interp.requireInitEof; split
  · exact .halt h (.good (by decide)) (.inl rfl)
  · exact .ok h trivial

/-- the one halt that is not `RGood`: the host's answer is an error -/
theorem ka_requireSome (h : KeptAll fl s0 s) (r : HostResp) (hok : r.ok = true ∨ E) :
    KeepO E O fl s0 T (requireSome r s) := by
  unfold requireSome
  by_cases hr : r.ok = true
  · rw [if_pos hr]; exact .ok h trivial
  · rw [if_neg hr]; exact .halt h (.inr ⟨hok.resolve_left hr, rfl⟩) (.inl rfl)

theorem KaO.assumeNotEof : KaO E O s0 false (Interp.assumeNotEof) := fun fl s h => by
  unfold Interp.assumeNotEof; split
  · exact .fault
  · exact .ok h trivial

theorem ka_charge (h : KeptAll fl s0 s) (c : Nat) {fl' : Bool} (hc : fl' = true → fl = true ∨ 1 ≤ c) :
    KeepO E O fl' s0 (fun _ s' => s'.gas.remaining + c ≤ s.gas.remaining) (gasCharge c s) := by
  unfold gasCharge
  have hsp := fun g' ok => recordCost_spec s.gas g' c ok
  generalize Gas.recordCost s.gas c = r at hsp ⊢
  obtain ⟨g', ok⟩ := r
  obtain ⟨h1, h2, h3⟩ := hsp g' ok rfl
  cases ok with
  | false => exact .halt h (.good (by decide)) (.inl rfl)
  | true =>
    refine .ok ⟨⟨h.toKept.trans ⟨rfl, h1, h2⟩, fun hf => ?_⟩, h.toKeptT.trans ⟨rfl, rfl, rfl⟩, h.init⟩ (h3 rfl)
    show g'.remaining + 1 ≤ s0.gas.remaining
    have h4 : g'.remaining + c ≤ s.gas.remaining := h3 rfl
    cases hc hf with
    | inl hfl => have := h.strict hfl; omega
    | inr hc => have := h.rem; omega

theorem ka_gasCharge (h : KeptAll fl s0 s) (c : Nat) :
    KeepO E O fl s0 (fun _ s' => s'.gas.remaining + c ≤ s.gas.remaining) (gasCharge c s) :=
  ka_charge h c .inl
theorem ka_gasCharge1 (h : KeptAll fl s0 s) (c : Nat) (hc : 1 ≤ c) :
    KeepO E O true s0 (fun _ s' => s'.gas.remaining + c ≤ s.gas.remaining) (gasCharge c s) :=
  ka_charge h c (fun _ => .inr hc)

theorem KaO.refund (r : Int) : KaO E O s0 false (Interp.refund r) := fun _ _ h =>
  ka_modifyS h _ ⟨rfl, rfl, Nat.le_refl _⟩ ⟨rfl, rfl, rfl⟩ rfl

theorem KaO.advancePc (n : Nat) : KaO E O s0 false (Interp.advancePc n) := fun _ _ h =>
  ka_modifyS h _ ⟨rfl, rfl, Nat.le_refl _⟩ ⟨rfl, rfl, rfl⟩ rfl

theorem ka_advancePc_gas (h : KeptAll fl s0 s) (n : Nat) :
    KeepO E O fl s0 (fun _ s' => s'.gas = s.gas) (advancePc n s) := ka_modifyS_gas h _ rfl rfl ⟨rfl, rfl, rfl⟩ rfl

theorem KaO.setEof (f : EofCtx → EofCtx) : KaO E O s0 false (Interp.setEof f) := fun _ _ h =>
  ka_modifyS h _ ⟨rfl, rfl, Nat.le_refl _⟩ ⟨rfl, rfl, rfl⟩ rfl

theorem KaO.popN (k : Nat) : KaO E O s0 false (Interp.popN k) := fun fl s h => by
  unfold Interp.popN
  generalize Stack.popMacro s.stack k = p
  obtain ⟨d, r⟩ := p
  cases r with
  | ok vs => exact .ok (h.upd rfl rfl rfl rfl rfl rfl) trivial
  | err e => exact .halt h (.good (rgood_stackErr e)) (.inl rfl)
  | _ => exact .fault

theorem KaO.popTop (k : Nat) : KaO E O s0 false (Interp.popTop k) := fun fl s h => by
  unfold Interp.popTop
  split
  · exact .halt h (.good (by decide)) (.inl rfl)
  · generalize Stack.popNUnsafe (k - 1) s.stack = p
    obtain ⟨d, r⟩ := p
    cases r with
    | ok vs =>
      dsimp only
      generalize Stack.peek d 0 = q
      obtain ⟨d2, r2⟩ := q
      cases r2 with
      | ok t => exact .ok (h.upd rfl rfl rfl rfl rfl rfl) trivial
      | _ => exact .fault
    | _ => exact .fault

theorem KaO.setTop (v : Nat) : KaO E O s0 false (Interp.setTop v) := fun fl s h => by
  unfold Interp.setTop
  generalize Stack.set s.stack 0 v = p
  obtain ⟨d, r⟩ := p
  cases r with
  | ok x => exact .ok (h.upd rfl rfl rfl rfl rfl rfl) trivial
  | _ => exact .fault

theorem KaO.push (v : Nat) : KaO E O s0 false (Interp.push v) := fun fl s h => by
  unfold Interp.push
  generalize Stack.push s.stack v = p
  obtain ⟨d, r⟩ := p
  cases r with
  | ok x => exact .ok (h.upd rfl rfl rfl rfl rfl rfl) trivial
  | err e => exact .halt h (.good (rgood_stackErr e)) (.inl rfl)
  | _ => exact .fault

theorem KaO.stackCall (f : List Nat → List Nat × Stack.Res Unit) : KaO E O s0 false (Interp.stackCall f) := fun fl s h => by
  unfold Interp.stackCall
  generalize f s.stack = p
  obtain ⟨d, r⟩ := p
  cases r with
  | ok x => exact .ok (h.upd rfl rfl rfl rfl rfl rfl) trivial
  | err e => exact .halt h (.good (rgood_stackErr e)) (.inl rfl)
  | _ => exact .fault

theorem KaO.stackCallAdv (f : List Nat → List Nat × Stack.Res Unit) (n : Nat) : KaO E O s0 false (Interp.stackCallAdv f n) := fun fl s h => by
  unfold Interp.stackCallAdv
  generalize f s.stack = p
  obtain ⟨d, r⟩ := p
  cases r with
  | ok x => exact .ok (h.upd rfl rfl rfl rfl rfl rfl) trivial
  | err e => exact .halt (h.upd rfl rfl rfl rfl rfl rfl) (.good (rgood_stackErr e)) (.inl rfl)
  | _ => exact .fault

theorem ka_memRes {α β} (r : Memory.Res α) (k : α → Exec β) {Q : β → IState → Prop}
    (hk : ∀ a, r = .ok a → KeepO E O fl s0 Q (k a)) : KeepO E O fl s0 Q (memRes r k) := by
  cases r with
  | ok a => exact hk a rfl
  | panic => exact .fault
  | ub => exact .fault

theorem KaO.resizeMem (o l : Nat) : KaO E O s0 false (Interp.resizeMem o l) := fun fl s h => by
  unfold Interp.resizeMem
  refine ka_memRes _ _ fun r hr => ?_
  obtain ⟨b, m', r'⟩ := r
  have hle := (Proofs.Memory.resizeMemoryMacro_inv hr).1
  cases b with
  | true => exact .ok (h.trans ⟨rfl, rfl, hle⟩ ⟨rfl, rfl, rfl⟩ rfl) trivial
  | false => exact .halt h (.good (by decide)) (.inl rfl)

theorem KaO.liftMemWrite (f : Memory.SharedMemory → Memory.Res Memory.SharedMemory) : KaO E O s0 false (Interp.liftMemWrite f) := fun fl s h => by
  unfold Interp.liftMemWrite
  exact ka_memRes _ _ fun m _ => .ok (h.upd rfl rfl rfl rfl rfl rfl) trivial

theorem sliceRange_len {m : Memory.SharedMemory} {a b : Nat} {v : List Nat} (h : Memory.sliceRange m a b = .ok v) :
    v.length ≤ m.buffer.length := by
  unfold Memory.sliceRange at h
  split at h
  · split at h
    · cases h
      unfold Memory.readAt
      rw [List.length_take, List.length_drop]
      omega
    · cases h
  · cases h

theorem ka_memSlice (h : KeptAll fl s0 s) (o l : Nat) :
    KeepO E O fl s0 (fun out s' => out.length ≤ s'.mem.buffer.length) (memSlice o l s) := by
  unfold memSlice
  exact ka_memRes _ _ fun a ha => .ok h (sliceRange_len ha)

theorem KaO.memSliceRange (a c : Nat) : KaO E O s0 false (Interp.memSliceRange a c) := fun fl s h => by
  unfold Interp.memSliceRange
  exact ka_memRes _ _ fun x _ => .ok h trivial

theorem KaO.memGetU256 (o : Nat) : KaO E O s0 false (Interp.memGetU256 o) := fun fl s h => by
  unfold Interp.memGetU256
  exact ka_memRes _ _ fun x _ => .ok h trivial

theorem KaO.codeSlice (n : Nat) : KaO E O s0 false (Interp.codeSlice n) := fun fl s h => by
  unfold Interp.codeSlice; split
  · exact .ok h trivial
  · exact .fault

theorem KaO.codeByte (off : Nat) : KaO E O s0 false (Interp.codeByte off) := fun fl s h => by
  unfold Interp.codeByte
  cases s.code[s.pc + off]? with
  | some b => exact .ok h trivial
  | none => exact .fault

theorem KaO.jumpRel (d : Int) : KaO E O s0 false (Interp.jumpRel d) := fun fl s h => by
  unfold Interp.jumpRel
  dsimp only
  split
  · exact .fault
  · exact .ok (h.upd rfl rfl rfl rfl rfl rfl) trivial

theorem KaO.getEof : KaO E O s0 false (Interp.getEof) := fun fl s h => by
  unfold Interp.getEof
  cases s.eof with
  | some c => exact .ok h trivial
  | none => exact .fault

theorem KaO.loadEofCode (idx pc : Nat) : KaO E O s0 false (Interp.loadEofCode idx pc) := fun fl s h => by
  unfold Interp.loadEofCode
  cases s.eof with
  | none => exact .fault
  | some c =>
    dsimp only
    cases c.sections[idx]? with
    | none => exact .fault
    | some code => exact .ok (h.upd rfl rfl rfl rfl rfl rfl) trivial

end prims

/-! `KaO` is closed under `>>=`; a charge of at least 1 sets the flag, and it stays set -/
namespace KaO
variable {s0 : IState} {α β : Type}

theorem bindT {m : M α} {f : α → M β} (h1 : KaO E O s0 true m) (h2 : ∀ a, KaO E O s0 false (f a)) :
    KaO E O s0 true (m >>= f) := fun _ _ h => ka_bind (h1.run1 h) (fun a _ h' _ => (h2 a).run h')
theorem bindF {b : Bool} {m : M α} {f : α → M β} (h1 : KaO E O s0 false m) (h2 : ∀ a, KaO E O s0 b (f a)) :
    KaO E O s0 b (m >>= f) := fun fl _ h => ka_bind (h1.run h) (fun a s' h' _ => h2 a fl s' h')
theorem ite {b : Bool} {c : Prop} [Decidable c] {x y : M α} (hx : KaO E O s0 b x) (hy : KaO E O s0 b y) :
    KaO E O s0 b (if c then x else y) := by
  split
  · exact hx
  · exact hy
theorem pure (a : α) : KaO E O s0 false (Pure.pure a : M α) := fun _ _ h => ka_pure h trivial
theorem haltWith (b : Bool) (r : IResult) (hr : RGood r) : KaO E O s0 b (Interp.haltWith r : M α) :=
  fun _ _ h => ka_haltWith h r hr
theorem faultWith (b : Bool) (f : Fault) : KaO E O s0 b (Interp.faultWith f : M α) := fun _ _ _ => ka_faultWith f
theorem getS : KaO E O s0 false Interp.getS := fun _ _ h => .ok h trivial
theorem gasCharge (c : Nat) : KaO E O s0 false (Interp.gasCharge c) :=
  fun _ _ h => ka_mono (ka_gasCharge h c) (fun _ _ _ _ => trivial)
theorem gasCharge1 (c : Nat) (hc : 1 ≤ c) : KaO E O s0 true (Interp.gasCharge c) :=
  fun _ _ h => ka_mono (ka_gasCharge1 h c hc) (fun _ _ _ _ => trivial)
theorem requireSome (r : HostResp) (hok : r.ok = true ∨ E) : KaO E O s0 false (Interp.requireSome r) :=
  fun _ _ h => ka_requireSome h r hok
theorem memSlice (o l : Nat) : KaO E O s0 false (Interp.memSlice o l) :=
  fun _ _ h => ka_mono (ka_memSlice h o l) (fun _ _ _ _ => trivial)
theorem setPc (t : Nat) : KaO E O s0 false (Interp.modifyS fun s => { s with pc := t }) :=
  fun _ _ h => ka_modifyS h _ ⟨rfl, rfl, Nat.le_refl _⟩ ⟨rfl, rfl, rfl⟩ rfl

end KaO
end Revm.Proofs.EvmLink
