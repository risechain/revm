import Revm.Proofs.EvmInstScript
import Revm.Proofs.EvmInstLoaded
import Revm.Proofs.EvmInstInsn
import Revm.Props.C29
import Revm.Props.C30
/-! C29 / C30 instance: the theorems about a whole `Evm.transact` run (`evm_hooks_*`, `evm_selfdestruct_*`). Every
`.insn x g` of the trace of ANY run stems from an instruction the loop resolved in a frame whose target is in the journal
(`contract_loaded`: `EvmInstLoaded.Inv` along `contTr_all`), and the script of a completed run is consumed entirely by the
handler-register machine (`completed_finished`); C29 / C30 and `insn_consistent` do the rest. The file alternates between
the namespaces `EvmInstSd` (SELFDESTRUCT), `EvmInstLoaded` (what uses the invariant) and `EvmInstHooks` (C29). -/
namespace Revm.Proofs.EvmInstSd
open Revm Revm.Model Revm.Model.Evm
open Revm.Proofs.EvmInstHooks

/-- an instruction event that stems from an instruction the loop resolved -/
def EvOk (he : HostEnv) : LEv → Prop
  | .insn x g => ∃ s w d w', Resolved he s w d w' ∧ x = insnOf s w.js w'.js d ∧ g = truthOf s w d
  | .next _ => True

/-- an instruction event whose executing contract is in the journal when the instruction starts -/
def EvLoaded (he : HostEnv) : LEv → Prop
  | .insn x g => ∃ s w d w', Resolved he s w d w' ∧ x = insnOf s w.js w'.js d ∧ g = truthOf s w d ∧
      (w.js.state s.target).isSome = true
  | .next _ => True

end Revm.Proofs.EvmInstSd

namespace Revm.Proofs.EvmInstLoaded
open Revm Revm.Model Revm.Model.Evm
open Revm.Proofs.EvmInstHooks
open Revm.Proofs.EvmInstSd (Resolved EvLoaded)

theorem iterEvs_loaded (cfg : Cfg) (stack : List JFrame) (w : World) (hi : Inv stack w) :
    ∀ ev ∈ iterEvs journalOps cfg stack w, EvLoaded cfg.he ev := by
  intro ev hev
  cases ev with
  | next n => trivial
  | insn x g =>
    cases stack with
    | nil => cases hev
    | cons top rest =>
      obtain ⟨d, w', hr, heq⟩ := iterEvs_insn hev
      cases heq
      refine ⟨top.interp, w, d, w', hr, rfl, rfl, ?_⟩
      cases hs : w.js.state top.interp.target with
      | none => exact absurd hs hi.head
      | some _ => rfl

theorem runLoopTr_loaded (cfg : Cfg) (fuel : Nat) (stack : List JFrame) (w : World) (hi : Inv stack w) :
    ∀ ev ∈ (runLoopTr journalOps cfg fuel stack w).2, EvLoaded cfg.he ev :=
  contTr_all (EvLoaded cfg.he) InvN trivial (fun st w hj => iterEvs_loaded cfg st w hj)
    (fun _ _ hj m => m.inv move_inv hj) fuel (.run stack w) hi

/-- in every `transact` run, completed or not, every instruction executes in a frame whose target is in the journal -/
theorem contract_loaded (fuel : Nat) (w : World) (e : Env) (spec : Nat) (r : R (Outcome × World))
    (first : InspectorHooks.Spawn) (evs : List LEv) (h : transactTr fuel w e spec = (r, some (first, evs))) :
    ∀ ev ∈ evs, EvLoaded { blockNumber := e.block.number } ev :=
  transactWithTr_all _ h fun _ _ f w2 _ _ hq =>
    runLoopTr_loaded (e.toCfg (GasCalc.canon spec)) fuel [f] w2 (prepare_inv hq)

end Revm.Proofs.EvmInstLoaded

namespace Revm.Proofs.EvmInstSd
open Revm Revm.Model Revm.Model.Evm
open Revm.Proofs.EvmInstHooks
open Revm.Model.InspectorHooks (Insn Spawn Turn Kind Ev Stacks St Status runTx)
open Revm.Spec.InspectorHooks (logsOf sdsOf insnLog insnSd)

theorem evOk_of_loaded {he : HostEnv} {ev : LEv} (h : EvLoaded he ev) : EvOk he ev := by
  cases ev with
  | next n => trivial
  | insn x g =>
    obtain ⟨s, w, d, w', hr, hx, hg, _⟩ := h
    exact ⟨s, w, d, w', hr, hx, hg⟩

/-- the host environment of the resolved instructions is the transaction's block number -/
theorem transactTr_resolved (fuel : Nat) (w : World) (e : Env) (spec : Nat) (r : R (Outcome × World)) (first : Spawn)
    (evs : List LEv) (h : transactTr fuel w e spec = (r, some (first, evs))) :
    ∀ ev ∈ evs, EvOk { blockNumber := e.block.number } ev :=
  fun ev hev => evOk_of_loaded (Revm.Proofs.EvmInstLoaded.contract_loaded fuel w e spec r first evs h ev hev)

theorem consistent_of_ok {he : HostEnv} {ev : LEv} (h : EvOk he ev) : Consistent ev := by
  cases ev with
  | next n => trivial
  | insn x g =>
    obtain ⟨s, w, d, w', hr, rfl, rfl⟩ := h
    exact insn_consistent hr

theorem filterMap_insns_truths {α : Type} (f : Insn → Option α) (g : Truth → Option α) : ∀ (evs : List LEv),
    (∀ x t, LEv.insn x t ∈ evs → f x = g t) → (insnsOf evs).filterMap f = (truthsOf evs).filterMap g := by
  intro evs
  induction evs with
  | nil => intro _; rfl
  | cons ev l ih =>
    intro h
    have hl := ih (fun x t h' => h x t (List.mem_cons_of_mem _ h'))
    cases ev with
    | next n => exact hl
    | insn x t =>
      show ((x :: insnsOf l).filterMap f) = ((t :: truthsOf l).filterMap g)
      rw [List.filterMap_cons, List.filterMap_cons, h x t List.mem_cons_self, hl]

end Revm.Proofs.EvmInstSd

namespace Revm.Proofs.EvmInstHooks
open Revm Revm.Model Revm.Model.Evm
open Revm.Model.InspectorHooks (Insn Spawn Turn Kind Ev Stacks St Status runTx)
open Revm.Spec.InspectorHooks (Balanced logsOf sdsOf insnLog insnSd)

/-- C29 instance: the inspector callbacks of every completed `Evm.transact` run form a well-bracketed
word; more precisely ONE bracket: the transaction's own `call` / `create` (inputs number 0) first, its `*_end` last,
everything in between balanced -/
theorem evm_hooks_balanced (b : Stacks) (fuel : Nat) (w : World) (e : Env) (spec : Nat) (o : Outcome) (w' : World)
    (first : Spawn) (evs : List LEv) (h : transactTr fuel w e spec = (.ok (o, w'), some (first, evs))) :
    (runTx b first (scriptOf evs)).1 = .finished ∧
    Balanced (runTx b first (scriptOf evs)).2.word ∧
    first.i = 0 ∧
    ∃ u oo, (runTx b first (scriptOf evs)).2.word = Ev.opn first.k 0 :: (u ++ [Ev.cls first.k 0 oo]) ∧ Balanced u := by
  have hc := transactTr_completed fuel w e spec o w' first evs h
  have hfin := (completed_finished b hc).1
  have hi : first.i = 0 := by cases hc <;> rfl
  refine ⟨hfin, Revm.Props.C29.hooks_balanced b first _ hfin, hi, ?_⟩
  have := Revm.Props.C29.transaction_is_one_bracket b first _ hfin
  rw [hi] at this
  exact this

/-- `.pop().unwrap()` / `.expect()` of the handler never panic, on the script of any trace -/
theorem evm_hooks_never_panic (b : Stacks) (first : Spawn) (evs : List LEv) :
    (runTx b first (scriptOf evs)).1 ≠ .panicked := Revm.Props.C29.hooks_never_panic b first _

/-- the `log` callbacks of a completed run are, in order, what the LOG instructions of the trace appended -/
theorem evm_hooks_logs_insns (b : Stacks) (fuel : Nat) (w : World) (e : Env) (spec : Nat) (o : Outcome)
    (w' : World) (first : Spawn) (evs : List LEv) (h : transactTr fuel w e spec = (.ok (o, w'), some (first, evs))) :
    logsOf (runTx b first (scriptOf evs)).2.word = (insnsOf evs).filterMap insnLog := by
  have hc := transactTr_completed fuel w e spec o w' first evs h
  rw [Revm.Props.C29.log_reported_once, (completed_finished b hc).2, List.take_length, ← completed_insns hc,
    List.filterMap_flatMap]

/-- the `selfdestruct` callbacks of a completed run are, in order, the notes of the SELFDESTRUCT wrapper at the
SELFDESTRUCT instructions of the trace -/
theorem evm_hooks_sds_insns (b : Stacks) (fuel : Nat) (w : World) (e : Env) (spec : Nat) (o : Outcome)
    (w' : World) (first : Spawn) (evs : List LEv) (h : transactTr fuel w e spec = (.ok (o, w'), some (first, evs))) :
    sdsOf (runTx b first (scriptOf evs)).2.word = (insnsOf evs).filterMap insnSd := by
  have hc := transactTr_completed fuel w e spec o w' first evs h
  rw [Revm.Props.C30.selfdestruct_callbacks_exact, (completed_finished b hc).2, List.take_length,
    ← completed_insns hc, List.filterMap_flatMap]

end Revm.Proofs.EvmInstHooks

namespace Revm.Proofs.EvmInstSd
open Revm Revm.Model Revm.Model.Evm
open Revm.Proofs.EvmInstHooks
open Revm.Model.InspectorHooks (Spawn Stacks runTx)
open Revm.Spec.InspectorHooks (sdsOf insnSd)

/-- C30 instance: in every completed `Evm.transact` run the inspector's `selfdestruct` callbacks are, in
order, exactly one per SELFDESTRUCT instruction that completed (`.halt .SelfDestruct`), naming the executing contract,
the beneficiary popped from the stack and the balance that moved; no other instruction or frame event makes one -/
theorem evm_selfdestruct_notified_once (b : Stacks) (fuel : Nat) (w : World) (e : Env) (spec : Nat) (o : Outcome)
    (w' : World) (first : Spawn) (evs : List LEv) (h : transactTr fuel w e spec = (.ok (o, w'), some (first, evs))) :
    sdsOf (runTx b first (scriptOf evs)).2.word = completedSelfdestructs evs := by
  rw [evm_hooks_sds_insns b fuel w e spec o w' first evs h]
  exact filterMap_insns_truths insnSd (·.sd) evs fun x t hev =>
    (consistent_of_ok (transactTr_resolved fuel w e spec _ first evs h _ hev)).1

end Revm.Proofs.EvmInstSd

namespace Revm.Proofs.EvmInstLoaded
open Revm Revm.Model Revm.Model.Evm
open Revm.Proofs.EvmInstHooks
open Revm.Proofs.EvmInstSd (Resolved)

/-- C30 on `Evm.transact`, "the balance that left the contract", with no assumption on the run: every entry `(c, t, v)` of
the completed SELFDESTRUCTs of a traced `transact` run belongs to an instruction the loop resolved in a frame at `c`
whose account `acc` was in the journal, `v` is what `acc` loses (`movedValue`), and the journal balance of `c` before
the instruction is its balance after it plus `v` -/
theorem evm_selfdestruct_balance_left (fuel : Nat) (w : World) (e : Env) (spec : Nat) (r : R (Outcome × World))
    (first : InspectorHooks.Spawn) (evs : List LEv) (h : transactTr fuel w e spec = (r, some (first, evs)))
    (x : InspectorHooks.Insn) (g : Truth) (hev : LEv.insn x g ∈ evs) (y : Nat × Nat × Nat) (hy : g.sd = some y) :
    ∃ s w0 d w1 acc, Resolved { blockNumber := e.block.number } s w0 d w1 ∧ s.code[s.pc]? = some 0xff ∧
      w0.js.state s.target = some acc ∧ y.1 = s.target ∧
      y.2.2 = Revm.Proofs.SelfdestructNotify.movedValue acc w0.js.spec s.target y.2.1 ∧
      SelfdestructNotify.balanceOf w0.js s.target = SelfdestructNotify.balanceOf w1.js s.target + y.2.2 := by
  obtain ⟨s, w0, d, w1, hr, _, hg, hl⟩ := contract_loaded fuel w e spec r first evs h _ hev
  cases hacc : w0.js.state s.target with
  | none => rw [hacc] at hl; cases hl
  | some acc =>
    -- the ground truth carries a self-destruct only at opcode 0xFF
    have hcode : s.code[s.pc]? = some 0xff ∧ sdTruth s w0 d = some y := by
      rw [hg] at hy
      unfold truthOf at hy
      cases hc : s.code[s.pc]? with
      | none => rw [hc] at hy; cases hy
      | some op =>
        rw [hc] at hy
        simp only at hy
        by_cases hlog : isLogOp op
        · simp only [hlog, if_true] at hy; cases hy
        · simp only [hlog, if_false] at hy
          by_cases hop : op = 0xff
          · simp only [hop, if_true] at hy
            exact ⟨by rw [hop], hy⟩
          · simp only [hop, if_false] at hy; cases hy
    obtain ⟨h1, h2, h3⟩ :=
      Revm.Proofs.EvmInstSd.evm_selfdestruct_balance_left_partial hcode.1 hr hacc hcode.2
    exact ⟨s, w0, d, w1, acc, hr, hcode.1, hacc, h1, h2, h3⟩


end Revm.Proofs.EvmInstLoaded
