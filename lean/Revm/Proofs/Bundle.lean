import Revm.Model.Bundle
import Revm.Spec.Bundle
/-! The bundle-state model (C16–C18) in closed form. Maps are association lists (`BMap`) with unique keys (`WF`). A loop
of the model whose step touches only the key of its element is named `xStep`, its effect on one key `xF`, and
`xStep_get` feeds `foldl_get`, which turns the loop into a lookup (`extendStorage_get`, `revStorage_get`, …). `Wit`
holds the concrete histories of the findings F1–F5, shared by the counterexamples and the instances of Props C16–C18.

The Bundle* modules: on this one rest `BundleStatus` (status tables) and `BundleSRel` → `BundlePlain` (storage deltas,
the reference plain state); then the chain `BundleCommit` → `BundleMerge` → `BundleRevAcct` (per address) →
`BundleState` (whole `State`); then `BundleChangeset` (C16) and `BundleRevertBlock` (C17, per block) on `BundleState`,
`BundleRevert` (C17, `revert(j)`) on `BundleChangeset`, `BundleExtend` (C18) on `BundleRevert` and
`BundleRevertBlock`. -/
namespace Revm.Proofs.Bundle
open Revm.Model.Bundle Revm.Spec.Bundle

section bmap
variable {α β : Type}

theorem get_cons (e : Nat × α) (r : BMap α) (k : Nat) :
    BMap.get (e :: r) k = if e.1 = k then some e.2 else BMap.get r k := by
  obtain ⟨k', v⟩ := e; rfl

theorem get_del (m : BMap α) (k k' : Nat) : (BMap.del m k).get k' = if k = k' then none else m.get k' := by
  induction m with
  | nil => simp [BMap.del, BMap.get]
  | cons e r ih =>
    unfold BMap.del at ih ⊢
    rw [List.filter_cons]
    by_cases he : e.1 = k
    · subst he
      simp only [bne_self_eq_false, Bool.false_eq_true, if_false, ih, get_cons]
      by_cases h : e.1 = k' <;> simp [h]
    · have hb : (e.1 != k) = true := by simp [he]
      simp only [hb, if_true, get_cons, ih]
      by_cases h : k = k'
      · subst h; simp [he]
      · simp [h]

theorem get_set (m : BMap α) (k k' : Nat) (v : α) :
    (BMap.set m k v).get k' = if k = k' then some v else m.get k' := by
  unfold BMap.set
  rw [get_cons, get_del]
  by_cases h : k = k' <;> simp [h]

/-- keys of a `BMap` are unique (what a `HashMap` guarantees) -/
def WF {α : Type} (m : BMap α) : Prop := (m.map (·.1)).Nodup


theorem WF_nil : WF ([] : BMap α) := by unfold WF; exact List.nodup_nil

theorem WF_cons (e : Nat × α) (r : BMap α) : WF (e :: r) ↔ e.1 ∉ r.map (·.1) ∧ WF r := by
  unfold WF; simp only [List.map, List.nodup_cons]

theorem get_none_of_not_mem (m : BMap α) (k : Nat) (h : k ∉ m.map (·.1)) : m.get k = none := by
  induction m with
  | nil => rfl
  | cons e r ih =>
    simp only [List.map, List.mem_cons, not_or] at h
    rw [get_cons, if_neg (fun h1 => h.1 h1.symm)]
    exact ih h.2

theorem mem_of_get (m : BMap α) (k : Nat) (v : α) (h : m.get k = some v) : (k, v) ∈ m := by
  induction m with
  | nil => simp [BMap.get] at h
  | cons e r ih =>
    rw [get_cons] at h
    by_cases hk : e.1 = k
    · simp only [hk, if_true, Option.some.injEq] at h
      rw [← hk, ← h]; exact List.mem_cons_self
    · rw [if_neg hk] at h; exact List.mem_cons_of_mem _ (ih h)

theorem mem_keys_of_get {m : BMap α} {k : Nat} {v : α} (h : m.get k = some v) : k ∈ m.map (·.1) :=
  List.mem_map_of_mem (f := (·.1)) (mem_of_get m k v h)

theorem get_some_of_mem (m : BMap α) (hw : WF m) (k : Nat) (v : α) (h : (k, v) ∈ m) : m.get k = some v := by
  induction m with
  | nil => cases h
  | cons e r ih =>
    rw [WF_cons] at hw
    rw [get_cons]
    cases h with
    | head => simp
    | tail _ hin =>
      rw [if_neg (fun (h1 : e.1 = k) => hw.1 (h1 ▸ List.mem_map_of_mem (f := (·.1)) hin))]
      exact ih hw.2 hin

theorem present_unique (m : BMap Slot) (hw : WF m) (k : Nat) (a b : Slot) (ha : (k, a) ∈ m) (hb : (k, b) ∈ m) :
    a.present = b.present := by
  have h1 := get_some_of_mem m hw k a ha
  have h2 := get_some_of_mem m hw k b hb
  rw [h1] at h2; injection h2 with h2; rw [h2]

theorem get_isSome_of_mem_keys (m : BMap α) (k : Nat) (h : k ∈ m.map (·.1)) : ∃ v, m.get k = some v := by
  induction m with
  | nil => cases h
  | cons e r ih =>
    rw [get_cons]
    by_cases hk : e.1 = k
    · exact ⟨e.2, by simp [hk]⟩
    · simp only [hk, if_false]
      simp only [List.map, List.mem_cons] at h
      cases h with
      | inl h1 => exact absurd h1.symm hk
      | inr h1 => exact ih h1

theorem keys_filter_sub (m : BMap α) (c : Nat × α → Bool) (k : Nat) (h : k ∈ (m.filter c).map (·.1)) :
    k ∈ m.map (·.1) := by
  obtain ⟨e, he, hk⟩ := List.mem_map.mp h
  exact List.mem_map.mpr ⟨e, (List.mem_filter.mp he).1, hk⟩

theorem WF_filter (m : BMap α) (c : Nat × α → Bool) (hw : WF m) : WF (m.filter c) := by
  induction m with
  | nil => exact WF_nil
  | cons e r ih =>
    rw [WF_cons] at hw
    by_cases hc : c e = true
    · simp only [List.filter, hc]
      rw [WF_cons]
      exact ⟨fun h => hw.1 (keys_filter_sub r c _ h), ih hw.2⟩
    · have hc' : c e = false := by simpa using hc
      simp only [List.filter, hc']
      exact ih hw.2

theorem WF_del (m : BMap α) (k : Nat) (hw : WF m) : WF (BMap.del m k) := WF_filter m _ hw

theorem WF_set (m : BMap α) (k : Nat) (v : α) (hw : WF m) : WF (BMap.set m k v) := by
  unfold BMap.set
  rw [WF_cons]
  refine ⟨fun h => ?_, WF_del m k hw⟩
  obtain ⟨v', hv⟩ := get_isSome_of_mem_keys _ _ h
  rw [get_del, if_pos rfl] at hv
  cases hv

theorem get_filter (m : BMap α) (c : Nat × α → Bool) (k : Nat) (hw : WF m) :
    BMap.get (m.filter c) k = (m.get k).bind (fun v => if c (k, v) then some v else none) := by
  induction m with
  | nil => rfl
  | cons e r ih =>
    obtain ⟨k', v⟩ := e
    rw [WF_cons] at hw
    rw [List.filter_cons]
    by_cases hk : k' = k
    · subst hk
      have hn := get_none_of_not_mem r k' hw.1
      by_cases hc : c (k', v) = true <;> simp [hc, get_cons, ih hw.2, hn]
    · by_cases hc : c (k', v) = true <;> simp [hc, get_cons, hk, ih hw.2]

theorem get_filter_none (m : BMap α) (c : Nat × α → Bool) (h : m.filter c = []) (k : Nat) (v : α)
    (hg : m.get k = some v) : c (k, v) = false := by
  have hm := mem_of_get m k v hg
  cases hc : c (k, v) with
  | false => rfl
  | true =>
    have : (k, v) ∈ m.filter c := List.mem_filter.mpr ⟨hm, hc⟩
    rw [h] at this; cases this
theorem keys_map_val (m : BMap α) (f : Nat × α → β) :
    (m.map (fun e => (e.1, f e))).map (·.1) = m.map (·.1) := by
  induction m with
  | nil => rfl
  | cons e r ih => simp only [List.map, ih]

theorem WF_map_val (m : BMap α) (f : Nat × α → β) (hw : WF m) : WF (m.map (fun e => (e.1, f e))) := by
  unfold WF at *; rw [keys_map_val]; exact hw

theorem get_map_val (m : BMap α) (f : Nat × α → β) (k : Nat) :
    BMap.get (m.map (fun e => (e.1, f e))) k = (m.get k).map (fun v => f (k, v)) := by
  induction m with
  | nil => rfl
  | cons e r ih =>
    simp only [List.map, get_cons]
    by_cases hk : e.1 = k
    · obtain ⟨k', v⟩ := e
      simp only at hk; subst hk; simp
    · simp only [hk, if_false]; exact ih

theorem filterMap_ite (m : List α) (c : α → Bool) (g : α → β) :
    m.filterMap (fun e => if c e then some (g e) else none) = (m.filter c).map g := by
  induction m with
  | nil => rfl
  | cons e r ih =>
    by_cases h : c e = true
    · simp [h, ih]
    · have h' : c e = false := by simpa using h
      simp [h', ih]

theorem get_filterMap (m : BMap α) (c : Nat × α → Bool) (g : Nat × α → β) (hw : WF m) (k : Nat) :
    BMap.get (m.filterMap (fun e => if c e then some (e.1, g e) else none)) k =
      (m.get k).bind (fun v => if c (k, v) then some (g (k, v)) else none) := by
  rw [filterMap_ite m c (fun e => (e.1, g e)), get_map_val (m.filter c) g k, get_filter _ _ _ hw]
  cases m.get k with
  | none => rfl
  | some v => by_cases hc : c (k, v) = true <;> simp [hc]

theorem WF_filterMap (m : BMap α) (c : Nat × α → Bool) (g : Nat × α → β) (hw : WF m) :
    WF (m.filterMap (fun e => if c e then some (e.1, g e) else none)) := by
  rw [filterMap_ite m c (fun e => (e.1, g e))]; exact WF_map_val _ _ (WF_filter _ _ hw)

theorem get_map_present (m : BMap Slot) (k : Nat) :
    BMap.get (m.map (fun e => (e.1, e.2.present))) k = (m.get k).map (·.present) :=
  get_map_val m (fun e => e.2.present) k

theorem foldl_get_not_mem {step : BMap β → Nat × α → BMap β}
    (hstep : ∀ acc e k, e.1 ≠ k → (step acc e).get k = acc.get k)
    (l : BMap α) (s : BMap β) (k : Nat) (h : k ∉ l.map (·.1)) : (l.foldl step s).get k = s.get k := by
  induction l generalizing s with
  | nil => rfl
  | cons e r ih =>
    simp only [List.map, List.mem_cons, not_or] at h
    simp only [List.foldl]
    rw [ih _ h.2, hstep _ _ _ (fun h1 => h.1 h1.symm)]

/-- lookups after a loop `l.foldl step s` whose step only touches the key of the element -/
theorem foldl_get {step : BMap β → Nat × α → BMap β} {F : α → Option β → Option β}
    (hstep : ∀ acc e k, (step acc e).get k = if e.1 = k then F e.2 (acc.get k) else acc.get k)
    (l : BMap α) (hw : WF l) (s : BMap β) (k : Nat) :
    (l.foldl step s).get k = (BMap.get l k).elim (s.get k) (fun x => F x (s.get k)) := by
  induction l generalizing s with
  | nil => rfl
  | cons e r ih =>
    rw [WF_cons] at hw
    simp only [List.foldl]
    rw [ih hw.2, get_cons, hstep]
    by_cases hk : e.1 = k
    · have : BMap.get r k = none := get_none_of_not_mem r k (hk ▸ hw.1)
      simp only [hk, if_true, this, Option.elim]
    · simp only [hk, if_false]

theorem foldl_WF {step : BMap β → Nat × α → BMap β}
    (hstep : ∀ acc e, WF acc → WF (step acc e)) (l : List (Nat × α)) (s : BMap β) (hs : WF s) :
    WF (l.foldl step s) := by
  induction l generalizing s with
  | nil => exact hs
  | cons e r ih => simp only [List.foldl]; exact ih _ (hstep s e hs)

end bmap

theorem get_append_single {α : Type} (m : BMap α) (a : Nat) (v : α) (a' : Nat) :
    BMap.get (m ++ [(a, v)]) a' = match m.get a' with
      | some x => some x
      | none => if a = a' then some v else none := by
  induction m with
  | nil => simp [BMap.get]
  | cons e r ih =>
    simp only [List.cons_append, get_cons]
    by_cases h : e.1 = a'
    · simp [h]
    · simp only [h, if_false]; exact ih

theorem WF_append_single {α : Type} (m : BMap α) (a : Nat) (v : α) (hw : WF m) (hn : m.get a = none) :
    WF (m ++ [(a, v)]) := by
  induction m with
  | nil => rw [List.nil_append, WF_cons]; exact ⟨by simp, WF_nil⟩
  | cons e r ih =>
    rw [WF_cons] at hw
    rw [get_cons] at hn
    by_cases h : e.1 = a
    · simp [h] at hn
    · simp only [h, if_false] at hn
      rw [List.cons_append, WF_cons]
      refine ⟨?_, ih hw.2 hn⟩
      simp only [List.map_append, List.map, List.mem_append, List.mem_cons, List.not_mem_nil, or_false, not_or]
      exact ⟨hw.1, h⟩

theorem takeN_fst (b : BState) (n : Nat) : (takeNReverts b n).1 = b.reverts.take n := by
  unfold takeNReverts
  by_cases h : n > b.reverts.length
  · simp only [h, if_true]; exact (List.take_of_length_le (Nat.le_of_lt h)).symm
  · simp [h]

theorem takeN_snd_reverts (b : BState) (n : Nat) : (takeNReverts b n).2.reverts = b.reverts.drop n := by
  unfold takeNReverts
  by_cases h : n > b.reverts.length
  · simp only [h, if_true]; exact (List.drop_of_length_le (Nat.le_of_lt h)).symm
  · simp [h]

theorem revertLatest_reverts (b : BState) : (revertLatest b).1.reverts = b.reverts.dropLast := by
  unfold revertLatest
  cases h : b.reverts.getLast? with
  | none =>
    have : b.reverts = [] := List.getLast?_eq_none_iff.mp h
    simp [this]
  | some blk => simp

theorem revertLatest_flag (b : BState) : (revertLatest b).2 = !b.reverts.isEmpty := by
  unfold revertLatest
  cases h : b.reverts.getLast? with
  | none =>
    have : b.reverts = [] := List.getLast?_eq_none_iff.mp h
    simp [this]
  | some blk =>
    have : b.reverts ≠ [] := by intro h0; simp [h0] at h
    cases hr : b.reverts with
    | nil => exact absurd hr this
    | cons _ _ => simp

theorem revertLatest_noop (b : BState) (h : b.reverts = []) : (revertLatest b).1 = b := by
  unfold revertLatest; simp [h]

theorem revertN_zero (b : BState) : revertN b 0 = b := rfl

theorem revertN_succ (b : BState) (j : Nat) :
    revertN b (j + 1) = if (revertLatest b).2 then revertN (revertLatest b).1 j else (revertLatest b).1 := rfl

/-! ## `extend_storage` and `extend_state` as lookups: the newer bundle's values win -/

/-- one iteration of the `extend_storage` closure -/
def esStep (acc : BMap Slot) (e : Nat × Slot) : BMap Slot :=
  match acc.get e.1 with
  | none => acc.set e.1 e.2
  | some s => acc.set e.1 { s with present := e.2.present }

def esF (x : Slot) (o : Option Slot) : Option Slot :=
  some (match o with | none => x | some s => { s with present := x.present })

theorem extendStorage_eq (this upd : BMap Slot) : extendStorage this upd = upd.foldl esStep this := rfl

theorem esStep_get (acc : BMap Slot) (e : Nat × Slot) (k : Nat) :
    (esStep acc e).get k = if e.1 = k then esF e.2 (acc.get k) else acc.get k := by
  unfold esStep esF
  by_cases hk : e.1 = k
  · subst hk; cases acc.get e.1 <;> simp [get_set]
  · cases acc.get e.1 <;> simp [get_set, hk]

theorem esStep_WF (acc : BMap Slot) (e : Nat × Slot) (hw : WF acc) : WF (esStep acc e) := by
  unfold esStep; cases acc.get e.1 <;> exact WF_set _ _ _ hw

theorem extendStorage_get (this upd : BMap Slot) (hw : WF upd) (k : Nat) :
    (extendStorage this upd).get k = (upd.get k).elim (this.get k) (fun x => esF x (this.get k)) := by
  rw [extendStorage_eq]; exact foldl_get esStep_get upd hw this k

theorem extendStorage_WF (this upd : BMap Slot) (hw : WF this) : WF (extendStorage this upd) := by
  rw [extendStorage_eq]; exact foldl_WF esStep_WF upd this hw

theorem extendStorage_present (this upd : BMap Slot) (hw : WF upd) (k : Nat) (s : Slot) (hm : (k, s) ∈ upd) :
    ∃ r, (extendStorage this upd).get k = some r ∧ r.present = s.present ∧
         r.orig = (match this.get k with | some o => o.orig | none => s.orig) := by
  rw [extendStorage_get _ _ hw, get_some_of_mem upd hw k s hm]
  cases this.get k <;> exact ⟨_, rfl, rfl, rfl⟩

theorem extendStorage_other (this upd : BMap Slot) (k : Nat) (h : k ∉ upd.map (·.1)) :
    (extendStorage this upd).get k = this.get k := by
  rw [extendStorage_eq]
  exact foldl_get_not_mem (fun acc e k hk => by rw [esStep_get, if_neg hk]) upd this k h

theorem extendStorage_keys (this upd : BMap Slot) (hw : WF upd) (k : Nat)
    (h : (this.get k).isSome = true ∨ (upd.get k).isSome = true) : ((extendStorage this upd).get k).isSome = true := by
  rw [extendStorage_get _ _ hw]
  cases hu : upd.get k with
  | none =>
    rw [hu] at h
    simp only [Option.elim]
    cases h with
    | inl h => exact h
    | inr h => cases h
  | some x => simp [Option.elim, esF]

/-- one iteration of `extend_state` -/
def extStep (acc : BMap BAcct) (e : Nat × BAcct) : BMap BAcct :=
  match acc.get e.1 with
  | some t =>
    acc.set e.1 { t with storage := if e.2.status.wasDestroyed then e.2.storage else extendStorage t.storage e.2.storage,
                         info := e.2.info, status := t.status.transition e.2.status }
  | none => acc.set e.1 e.2

def extF (o : BAcct) (t? : Option BAcct) : Option BAcct :=
  some (match t? with
    | some t => { t with storage := if o.status.wasDestroyed then o.storage else extendStorage t.storage o.storage,
                         info := o.info, status := t.status.transition o.status }
    | none => o)

theorem extendState_eq (this other : BMap BAcct) : extendState this other = other.foldl extStep this := rfl

theorem extStep_get (acc : BMap BAcct) (e : Nat × BAcct) (k : Nat) :
    (extStep acc e).get k = if e.1 = k then extF e.2 (acc.get k) else acc.get k := by
  unfold extStep extF
  by_cases hk : e.1 = k
  · subst hk; cases acc.get e.1 <;> simp [get_set]
  · cases acc.get e.1 <;> simp [get_set, hk]

theorem extStep_WF (acc : BMap BAcct) (e : Nat × BAcct) (hw : WF acc) : WF (extStep acc e) := by
  unfold extStep; cases acc.get e.1 <;> exact WF_set _ _ _ hw

theorem extendState_get (this other : BMap BAcct) (hw : WF other) (a : Nat) :
    (extendState this other).get a = (other.get a).elim (this.get a) (fun o => extF o (this.get a)) := by
  rw [extendState_eq]; exact foldl_get extStep_get other hw this a

theorem extendState_WF (this other : BMap BAcct) (hw : WF this) : WF (extendState this other) := by
  rw [extendState_eq]; exact foldl_WF extStep_WF other this hw

/-- what `extend_state` leaves for an address of the newer (`other`) state -/
def NewerWins (o r : BAcct) : Prop :=
  r.info = o.info ∧ (o.status.wasDestroyed = true → r.storage = o.storage) ∧
  (WF o.storage → ∀ k s, (k, s) ∈ o.storage → ∃ rs, r.storage.get k = some rs ∧ rs.present = s.present)

theorem extendState_newer_wins (this other : BMap BAcct) (hw : WF other) (a : Nat) (o : BAcct)
    (hm : (a, o) ∈ other) : ∃ r, (extendState this other).get a = some r ∧ NewerWins o r := by
  rw [extendState_get _ _ hw, get_some_of_mem other hw a o hm]
  cases this.get a with
  | none => exact ⟨o, rfl, rfl, fun _ => rfl, fun hws k s hk => ⟨s, get_some_of_mem _ hws k s hk, rfl⟩⟩
  | some t =>
    refine ⟨_, rfl, rfl, fun hd => by simp [hd], fun hws k s hk => ?_⟩
    cases hd : o.status.wasDestroyed with
    | true => exact ⟨s, by simpa [hd] using get_some_of_mem _ hws k s hk, rfl⟩
    | false =>
      obtain ⟨r, h1, h2, _⟩ := extendStorage_present t.storage o.storage hws k s hk
      exact ⟨r, by simpa [hd] using h1, h2⟩

/-- one iteration of the storage loop of `TransitionAccount::update` -/
def upStep (acc : BMap Slot) (e : Nat × Slot) : BMap Slot :=
  match acc.get e.1 with
  | none => acc.set e.1 e.2
  | some v => if v.orig = e.2.present then acc.del e.1 else acc.set e.1 { v with present := e.2.present }

def upF (x : Slot) (o : Option Slot) : Option Slot :=
  match o with
  | none => some x
  | some v => if v.orig = x.present then none else some { v with present := x.present }

theorem upStep_get (acc : BMap Slot) (e : Nat × Slot) (k : Nat) :
    (upStep acc e).get k = if e.1 = k then upF e.2 (acc.get k) else acc.get k := by
  unfold upStep upF
  by_cases hk : e.1 = k
  · subst hk
    cases h : acc.get e.1 with
    | none => simp [get_set]
    | some v => by_cases hv : v.orig = e.2.present <;> simp [hv, get_set, get_del]
  · cases h : acc.get e.1 with
    | none => simp [get_set, hk]
    | some v => by_cases hv : v.orig = e.2.present <;> simp [hv, get_set, get_del, hk]

theorem upStep_WF (acc : BMap Slot) (e : Nat × Slot) (hw : WF acc) : WF (upStep acc e) := by
  unfold upStep
  cases acc.get e.1 with
  | none => exact WF_set _ _ _ hw
  | some v => by_cases hv : v.orig = e.2.present <;> simp only [hv, if_true, if_false]
              · exact WF_del _ _ hw
              · exact WF_set _ _ _ hw

theorem update_storage_eq (s o : Transition) :
    (s.update o).storage = if o.status = .destroyed ∨ o.status = .destroyedAgain then o.storage
      else o.storage.foldl upStep s.storage := by
  unfold Transition.update
  by_cases h : o.status = .destroyed ∨ o.status = .destroyedAgain
  · simp only [h, if_true]
  · simp only [h, if_false]; rfl

/-- the loop of `new_selfdestructed_again` and of the revert rewriting of `extend`: absent keys only -/
def fillStep (f : Slot → RevSlot) (acc : BMap RevSlot) (e : Nat × Slot) : BMap RevSlot :=
  match acc.get e.1 with
  | none => acc.set e.1 (f e.2)
  | some _ => acc

theorem fill_get (f : Slot → RevSlot) (upd : BMap Slot) (base : BMap RevSlot) (hw : WF upd) (k : Nat) :
    (upd.foldl (fillStep f) base).get k = match base.get k with
      | some v => some v
      | none => (upd.get k).map f := by
  rw [foldl_get (F := fun x o => match o with | none => some (f x) | some v => some v) ?_ upd hw base k]
  · cases upd.get k <;> cases base.get k <;> rfl
  · intro acc e k
    unfold fillStep
    by_cases hk : e.1 = k
    · subst hk; cases h : acc.get e.1 <;> simp [get_set, h]
    · cases h : acc.get e.1 <;> simp [get_set, hk]

theorem fill_WF (f : Slot → RevSlot) (upd : BMap Slot) (base : BMap RevSlot) (hw : WF base) :
    WF (upd.foldl (fillStep f) base) := by
  refine foldl_WF (fun acc e hw => ?_) upd base hw
  unfold fillStep
  cases acc.get e.1 with
  | none => exact WF_set _ _ _ hw
  | some _ => exact hw

theorem fill_nil (f : Slot → RevSlot) (upd : BMap Slot) (base : BMap RevSlot)
    (h : upd.foldl (fillStep f) base = []) : base = [] := by
  induction upd generalizing base with
  | nil => exact h
  | cons e r ih =>
    have := ih _ h
    unfold fillStep at this
    cases hg : base.get e.1 with
    | none => rw [hg] at this; cases this
    | some v => rw [hg] at this; exact this

theorem markDestroyed_get (upd : BMap Slot) (base : BMap RevSlot) (hw : WF upd) (k : Nat) :
    (markDestroyed upd base).get k = match base.get k with
      | some v => some v
      | none => (upd.get k).map (fun _ => RevSlot.destroyed) :=
  fill_get (fun _ => RevSlot.destroyed) upd base hw k

theorem markDestroyed_WF (upd : BMap Slot) (base : BMap RevSlot) (hw : WF base) : WF (markDestroyed upd base) :=
  fill_WF (fun _ => RevSlot.destroyed) upd base hw

theorem md_none_us (us : BMap Slot) (base : BMap RevSlot) (hw : WF us) (k : Nat)
    (h : (markDestroyed us base).get k = none) : us.get k = none := by
  rw [markDestroyed_get _ _ hw] at h
  cases hb : base.get k with
  | some v => rw [hb] at h; cases h
  | none =>
    rw [hb] at h
    cases hu : us.get k with
    | none => rfl
    | some s => rw [hu] at h; simp at h

/-- the storage merge of the revert rewriting of `extend` (`extendReverts`): present values of the older bundle's
account fill the slots the revert does not list -/
def erMergeStorage (taStorage : BMap Slot) (rs : BMap RevSlot) : BMap RevSlot :=
  taStorage.foldl (fun acc s => match acc.get s.1 with
    | none => acc.set s.1 (RevSlot.some s.2.present)
    | some _ => acc) rs

theorem erMergeStorage_get (ts : BMap Slot) (rs : BMap RevSlot) (hw : WF ts) (k : Nat) :
    (erMergeStorage ts rs).get k = match rs.get k with
      | some v => some v
      | none => (ts.get k).map (fun s => RevSlot.some s.present) :=
  fill_get (fun s => RevSlot.some s.present) ts rs hw k

theorem erMergeStorage_WF (ts : BMap Slot) (rs : BMap RevSlot) (hw : WF rs) : WF (erMergeStorage ts rs) :=
  fill_WF (fun s => RevSlot.some s.present) ts rs hw

theorem presentAsRevert_get (st : BMap Slot) (k : Nat) :
    (presentAsRevert st).get k = (st.get k).map (fun s => RevSlot.some s.present) := by
  unfold presentAsRevert; exact get_map_val st (fun e => RevSlot.some e.2.present) k

theorem presentAsRevert_WF (st : BMap Slot) (hw : WF st) : WF (presentAsRevert st) :=
  WF_map_val st _ hw

theorem prevStorage_get (upd : BMap Slot) (hw : WF upd) (k : Nat) :
    (prevStorageFromUpdate upd).get k =
      (upd.get k).bind (fun s => if s.isChanged then some (RevSlot.some s.orig) else none) := by
  unfold prevStorageFromUpdate
  rw [get_map_val (upd.filter fun e => e.2.isChanged) (fun e => RevSlot.some e.2.orig) k, get_filter _ _ _ hw]
  cases upd.get k with
  | none => rfl
  | some s => by_cases h : s.isChanged = true <;> simp [h]

theorem prevStorage_listed {upd : BMap Slot} (hw : WF upd) {k : Nat} {x : RevSlot}
    (h : (prevStorageFromUpdate upd).get k = some x) : ∃ s, upd.get k = some s ∧ x = RevSlot.some s.orig := by
  rw [prevStorage_get _ hw] at h
  cases hu : upd.get k with
  | none => rw [hu] at h; cases h
  | some s =>
    rw [hu] at h
    simp only [Option.bind] at h
    by_cases hch : s.isChanged = true
    · simp only [hch, if_true, Option.some.injEq] at h; exact ⟨s, rfl, h.symm⟩
    · simp only [hch, Bool.false_eq_true, if_false] at h; cases h

theorem prevStorage_WF (upd : BMap Slot) (hw : WF upd) : WF (prevStorageFromUpdate upd) :=
  WF_map_val _ _ (WF_filter _ _ hw)

/-- one iteration of the storage loop of `BundleAccount::revert` -/
def rvStep (acc : BMap Slot) (e : Nat × RevSlot) : BMap Slot :=
  match e.2 with
  | .some v => (match acc.get e.1 with
      | none => acc.set e.1 ⟨v, v⟩
      | some s => acc.set e.1 { s with present := v })
  | .destroyed => acc.del e.1

def rvF (x : RevSlot) (o : Option Slot) : Option Slot :=
  match x with
  | .some v => some (match o with | none => ⟨v, v⟩ | some s => { s with present := v })
  | .destroyed => none

theorem rvStep_get (acc : BMap Slot) (e : Nat × RevSlot) (k : Nat) :
    (rvStep acc e).get k = if e.1 = k then rvF e.2 (acc.get k) else acc.get k := by
  obtain ⟨a, x⟩ := e
  cases x with
  | some v =>
    simp only [rvStep, rvF]
    by_cases hk : a = k
    · subst hk; cases acc.get a <;> simp [get_set]
    · cases acc.get a <;> simp [get_set, hk]
  | destroyed => simp only [rvStep, rvF, get_del]

theorem rvStep_WF (acc : BMap Slot) (e : Nat × RevSlot) (hw : WF acc) : WF (rvStep acc e) := by
  obtain ⟨a, x⟩ := e
  cases x with
  | some v => simp only [rvStep]; cases acc.get a <;> exact WF_set _ _ _ hw
  | destroyed => exact WF_del _ _ hw

def revStorage (rs : BMap RevSlot) (st : BMap Slot) : BMap Slot := rs.foldl rvStep st

theorem revStorage_get (rs : BMap RevSlot) (hw : WF rs) (st : BMap Slot) (k : Nat) :
    (revStorage rs st).get k = (rs.get k).elim (st.get k) (fun x => rvF x (st.get k)) :=
  foldl_get rvStep_get rs hw st k

theorem revStorage_WF (rs : BMap RevSlot) (st : BMap Slot) (hw : WF st) : WF (revStorage rs st) :=
  foldl_WF rvStep_WF rs st hw

/-- the storage `BundleAccount::revert` leaves under `DeleteIt` when the account was known to the database -/
def zeroed (st : BMap Slot) : BMap Slot := st.map (fun e => (e.1, { e.2 with present := 0 }))

/-! ## optional insertion into the bundle state and into a block of reverts (`apply_transitions_and_create_reverts`) -/

def setOpt (m : BMap BAcct) (a : Nat) (x? : Option BAcct) : BMap BAcct :=
  match x? with | some x => m.set a x | none => m

def pushOpt (revs : BMap ARevert) (a : Nat) (r? : Option ARevert) : BMap ARevert :=
  match r? with | some r => revs ++ [(a, r)] | none => revs

theorem setOpt_get_self {m : BMap BAcct} {a : Nat} {x? : Option BAcct} (h : x? = none → m.get a = none) :
    (setOpt m a x?).get a = x? := by
  cases x? with
  | some x => simp [setOpt, get_set]
  | none => exact h rfl

theorem setOpt_get_ne (m : BMap BAcct) {a : Nat} (x? : Option BAcct) {a' : Nat} (h : a' ≠ a) :
    (setOpt m a x?).get a' = m.get a' := by
  cases x? with
  | some x =>
    have hne : ¬ a = a' := fun hh => h hh.symm
    simp only [setOpt, get_set, hne, if_false]
  | none => rfl

theorem setOpt_WF {m : BMap BAcct} (a : Nat) (x? : Option BAcct) (hw : WF m) : WF (setOpt m a x?) := by
  cases x? with
  | some x => exact WF_set _ _ _ hw
  | none => exact hw

theorem pushOpt_get_self {m : BMap ARevert} {a : Nat} (r? : Option ARevert) (h : m.get a = none) :
    (pushOpt m a r?).get a = r? := by
  cases r? with
  | some r => simp only [pushOpt, get_append_single, h]; simp
  | none => exact h

theorem pushOpt_get_ne (m : BMap ARevert) {a : Nat} (r? : Option ARevert) {a' : Nat} (h : a' ≠ a) :
    (pushOpt m a r?).get a' = m.get a' := by
  cases r? with
  | some r =>
    simp only [pushOpt, get_append_single]
    have hne : ¬ a = a' := fun hh => h hh.symm
    cases m.get a' with
    | some x => rfl
    | none => simp only [hne, if_false]
  | none => rfl

theorem pushOpt_WF {m : BMap ARevert} {a : Nat} (r? : Option ARevert) (hw : WF m) (h : m.get a = none) :
    WF (pushOpt m a r?) := by
  cases r? with
  | some r => exact WF_append_single _ _ _ hw h
  | none => exact hw

/-! ## concrete witnesses: the cases of corpus/C16..C18 -/

namespace Wit

def ea (bal nonce code : Nat) (created sd : Bool) (st : BMap Slot) : EvmAcct :=
  { info := ⟨bal, nonce, code, true⟩, created := created, selfdestructed := sd, touched := true, storage := st }

def runLast (s : SState) (p : Plain) (h : List Group) : Option (SState × Plain) :=
  (runHistory s p h).bind (fun l => l.getLast?)

/-- for every block of the plain reverts of the final bundle: the value the block gives slot (a,k)
when applied to the reference state after that block -/
def slotsBefore (dbr : Bool) (b : BState) (p0 : Plain) (refs : List Plain) (a k : Nat) : List Nat :=
  (toPlainStateReverts b).zipIdx.map fun (blk, i) => (applyRevertBlock dbr p0 blk (refs.getD i {})).slot a k

def refsOf (s : SState) (p : Plain) (h : List Group) : List Plain :=
  match runHistory s p h with | some l => l.map (·.2) | none => []

/-- F1: account 1 (slot 1 = 7) destroyed and re-created writing slot 1 inside one merge group -/
def f1db : BMap Info := [(1, ⟨0, 1, 1, false⟩)]
def f1p0 : Plain := { accts := [(1, some ⟨0, 1, 1, false⟩)], stor := [(1, 1, 7)] }
def f1h : List Group := [[[(1, ea 0 1 1 false true [])], [(1, ea 0 1 1 true false [(1, ⟨0, 5⟩)])]]]

/-- F2a: balance-only account 1 created over (slot 2 := 9), next group destroyed; revert(1) -/
def f2adb : BMap Info := [(1, ⟨5, 0, 0, false⟩)]
def f2ap0 : Plain := { accts := [(1, some ⟨5, 0, 0, false⟩)] }
def f2ah : List Group := [[[(1, ea 5 1 1 true false [(2, ⟨0, 9⟩)])]], [[(1, ea 0 1 1 false true [])]]]

/-- F2b: contract 3 (slot 1 = 9) destroyed, next group re-created (slot 1 := 7); revert(2) -/
def f2bdb : BMap Info := [(3, ⟨0xb1, 1, 1, false⟩)]
def f2bp0 : Plain := { accts := [(3, some ⟨0xb1, 1, 1, false⟩)], stor := [(3, 1, 9)] }
def f2bh : List Group := [[[(3, ea 0 1 1 false true [])]], [[(3, ea 0 1 3 true false [(1, ⟨0, 7⟩)])]]]

/-- F3: contract 2 destroyed and re-created (slot 4 := 7) in bundle A; `take_bundle`; balance change in bundle B -/
def f3db : BMap Info := [(2, ⟨0xb5, 1, 2, false⟩)]
def f3p0 : Plain := { accts := [(2, some ⟨0xb5, 1, 2, false⟩)], stor := [(2, 4, 7)] }
def f3h1 : List Group := [[[(2, ea 0 1 2 false true [])], [(2, ea 0 1 1 true false [(4, ⟨0, 7⟩)])]]]
def f3h2 : List Group := [[[(2, ea 1 1 1 false false [])]]]
/-- `State::take_bundle` -/
def takeBundle (s : SState) : SState := { s with bundle := {} }

/-- F4: slot 1 of contract 2 set to 7 in bundle A; bundle B (fresh `State`) destroys and re-creates it writing slot 1 -/
def f4db : BMap Info := [(2, ⟨3, 1, 1, false⟩)]
def f4p0 : Plain := { accts := [(2, some ⟨3, 1, 1, false⟩)] }
def f4h1 : List Group := [[[(2, ea 3 1 1 false false [(1, ⟨0, 7⟩)])]]]
def f4h2 : List Group := [[[(2, ea 0 1 1 false true [])], [(2, ea 0 1 3 true false [(1, ⟨0, 9⟩)])]]]

/-- F5: contract 5 (slot 3 = 7) destroyed in bundle A; bundle B (fresh `State`) re-creates it -/
def f5db : BMap Info := [(5, ⟨0xb0, 1, 2, false⟩)]
def f5p0 : Plain := { accts := [(5, some ⟨0xb0, 1, 2, false⟩)], stor := [(5, 3, 7)] }
def f5h1 : List Group := [[[(5, ea 0 1 2 false true [])]]]
def f5h2 : List Group := [[[(5, ea 0 1 1 true false [(3, ⟨0, 7⟩)])]]]

/-- bundle A from (db, p0, h1), bundle B from a fresh `State` over `db2` and h2, the reference states -/
def split (db db2 : BMap Info) (p0 : Plain) (h1 h2 : List Group) : Option (BState × BState × Plain × Plain) :=
  (runLast { db := db, sc := true } p0 h1).bind fun (s1, r1) =>
    (runLast { db := db2, sc := true } r1 h2).map fun (s2, r2) => (s1.bundle, s2.bundle, r1, r2)

end Wit

end Revm.Proofs.Bundle
