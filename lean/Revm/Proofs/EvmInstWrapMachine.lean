import Revm.Proofs.EvmInstWrapTypes
/-! `evmMachine C cfg lim : Machine (evmTy κ) ECtx`: the record of handlers of `Model/InspectorWrap.lean` filled with the
functions of the concrete model (`Model/Interp.lean`, `Model/EvmHost.lean`, `Model/EvmFrame.lean`).
* The abstract interpreter keeps the WHOLE concrete interpreter in `rest`; its named fields `ip`, `gas`, `mem` override
  `pc`, `gas`, `mem` of `rest` (`sync`): an instruction syncs, runs `Interp.execInstr (Interp.decode op)`, answers a host
  question with `Evm.answer`, and writes the three fields back (`unsync`).
* A Rust panic / database error inside an instruction is `FatalExternalError` + the error slot, surfaced by `takeError`.
* EOF creation is outside the legacy-only concrete model: `eofcreate*` fail (as `Evm.makeFrame` does).
The results of the concrete model go through helpers that `match` on their ARGUMENT (`ofOutcome`, `ofCallFrame`, …), so that
unfolding a handler need not evaluate the concrete model. -/
namespace Revm.Proofs.EvmInstWrap
open Revm Revm.Model

variable {κ : Type}

/-- the concrete interpreter an abstract one stands for when it runs on the memory `mem` -/
def sync (st : AState κ) (mem : Memory.SharedMemory) : Interp.IState :=
  { st.rest with pc := st.ip, gas := st.gas, mem := mem }

/-- the abstract interpreter after the concrete one ended in `s`: `rest := s`, the three mirrored fields taken from it -/
def unsync (s : Interp.IState) (ir : IR) (a : AAction κ) : AState κ :=
  { ip := s.pc, instructionResult := ir, gas := s.gas, mem := s.mem, nextAction := a, rest := s }

/-- `Interpreter::new`: a fresh interpreter (owns `EMPTY_SHARED_MEMORY` until `run` is handed the shared one) -/
def newInterp (s : Interp.IState) : AState κ :=
  { ip := s.pc, instructionResult := .Continue, gas := s.gas, mem := Memory.new, nextAction := .none, rest := s }

/-- the opcode byte under the instruction pointer; 256 (no opcode) outside the bytecode -/
def evmFetch (st : AState κ) : Nat := (st.rest.code[st.ip]?).getD 256

/-- a Rust panic / database error inside an instruction: `FatalExternalError` and the error slot -/
def fatal (st : AState κ) (c : ECtx) (e : Evm.Err) : AState κ × ECtx :=
  ({ st with instructionResult := .FatalExternalError }, { c with err := some e })

def ofDone (st : AState κ) (c : ECtx) : Interp.Done → AState κ × ECtx
  | .next s => (unsync s st.instructionResult st.nextAction, c)
  | .action a s => (unsync s .CallOrCreate (actionOf a), c)
  | .halt r out s => (unsync s (toIR r) (.ret { result := toIR r, output := out, gas := s.gas }), c)
  | .fault f => fatal st c (.panic s!"interpreter: {f.name}")

def ofAnswer (st : AState κ) (c : ECtx) (k : Interp.HostResp → Interp.Done) :
    Evm.R (Interp.HostResp × Evm.World) → AState κ × ECtx
  | .ok (resp, w) => ofDone st { c with w := w } (k resp)
  | .error e => fatal st c e

def ofOutcome (cfg : Evm.Cfg) (st : AState κ) (c : ECtx) : Interp.Outcome → AState κ × ECtx
  | .pure d => ofDone st c d
  | .host op k => ofAnswer st c k (Evm.answer cfg.he c.w op)

/-- `instruction_table[opcode]`, entered with the pointer already advanced: the byte it was read from must lie in the
bytecode (the concrete model's checked access; `Interp.step` faults with `oobCode` otherwise) -/
def evmTable (cfg : Evm.Cfg) (op : Nat) (st : AState κ) (c : ECtx) : AState κ × ECtx :=
  match st.rest.code[st.ip - 1]? with
  | none => fatal st c (.panic "interpreter: oob-code")
  | some _ => ofOutcome cfg st c (Interp.execInstr (Interp.decode op) (sync st st.mem))

/-- `context.evm.take_error()` -/
def evmTakeError (c : ECtx) : ARes ECtx :=
  match c.err with
  | some e => .err e
  | none => .ok c

def ofCallFrame (c : ECtx) (i : Interp.CallInputs) :
    Evm.R (Evm.FrameOrResult κ × Evm.World) → ARes (InspectorWrap.FrameOr (evmTy κ) InspectorWrap.CallOutcome × ECtx)
  | .ok (.frame f, w) => .ok (.frame (newInterp f.interp) (f.kind, f.checkpoint), { c with w := w })
  | .ok (.result r, w) => .ok (.result (callOutcomeOf i.gasLimit r i.retStart i.retEnd), { c with w := w })
  | .error e => .err e

def ofCreateFrame (c : ECtx) (i : Interp.CreateInputs) :
    Evm.R (Evm.FrameOrResult κ × Evm.World) → ARes (InspectorWrap.FrameOr (evmTy κ) InspectorWrap.CreateOutcome × ECtx)
  | .ok (.frame f, w) => .ok (.frame (newInterp f.interp) (f.kind, f.checkpoint), { c with w := w })
  | .ok (.result r, w) => .ok (.result (createOutcomeOf i.gasLimit r), { c with w := w })
  | .error e => .err e

/-- `make_call_frame` (`Interpreter::new` does not see the shared memory: the frame is made over `SharedMemory::new()`
and its `mem` is replaced at `run`) -/
def evmCall (C : Evm.CpOps κ) (cfg : Evm.Cfg) (c : ECtx) (i : Interp.CallInputs) :
    ARes (InspectorWrap.FrameOr (evmTy κ) InspectorWrap.CallOutcome × ECtx) :=
  ofCallFrame c i (Evm.makeCallFrame C cfg c.w i Memory.new)

def evmCreate (C : Evm.CpOps κ) (cfg : Evm.Cfg) (c : ECtx) (i : Interp.CreateInputs) :
    ARes (InspectorWrap.FrameOr (evmTy κ) InspectorWrap.CreateOutcome × ECtx) :=
  ofCreateFrame c i (Evm.makeCreateFrame C cfg c.w i Memory.new)

def ofCallReturn (c : ECtx) (lim rs re : Nat) : Evm.R (Interp.ChildResult × Evm.World) →
    ARes (InspectorWrap.CallOutcome × ECtx)
  | .ok (res, w) => .ok (callOutcomeOf lim res rs re, { c with w := w })
  | .error e => .err e

def ofCreateReturn (c : ECtx) (lim : Nat) : Evm.R (Interp.ChildResult × Evm.World) →
    ARes (InspectorWrap.CreateOutcome × ECtx)
  | .ok (res, w) => .ok (createOutcomeOf lim res, { c with w := w })
  | .error e => .err e

/-- `call_return` on the frame's checkpoint; the `return_memory_offset` of the outcome is the frame's -/
def evmCallReturn (C : Evm.CpOps κ) (c : ECtx) (f : AFrame κ) (r : InspectorWrap.InterpreterResult) :
    ARes (InspectorWrap.CallOutcome × ECtx) :=
  match f.data.1 with
  | .call rs re => ofCallReturn c r.gas.limit rs re (Evm.callReturn C c.w f.data.2 (childOf r none))
  | .create _ => .panic

/-- `create_return` on the frame's checkpoint and created address -/
def evmCreateReturn (C : Evm.CpOps κ) (cfg : Evm.Cfg) (c : ECtx) (f : AFrame κ)
    (r : InspectorWrap.InterpreterResult) : ARes (InspectorWrap.CreateOutcome × ECtx) :=
  match f.data.1 with
  | .create a => ofCreateReturn c r.gas.limit (Evm.createReturn C cfg c.w f.data.2 a (childOf r none))
  | .call _ _ => .panic

/-- the parent's interpreter after the insertion ended in the concrete state `s` (it still owns
`EMPTY_SHARED_MEMORY`; `next_action` is untouched) -/
def insertedState (f : AFrame κ) (s : Interp.IState) (ir : IR) : AState κ :=
  { ip := s.pc, instructionResult := ir, gas := s.gas, mem := f.interp.mem, nextAction := f.interp.nextAction,
    rest := s }

/-- `insert_call_outcome`: `instruction_result = Continue`, then the body; a failing `push!` leaves the result set -/
def ofInsertCall (c : ECtx) (f : AFrame κ) : Interp.Exec Unit → ARes (AState κ × Memory.SharedMemory × ECtx)
  | .ok _ s => .ok (insertedState f s .Continue, s.mem, c)
  | .halt r _ s => .ok (insertedState f s (toIR r), s.mem, c)
  | .fault fl => .err (.panic s!"insert outcome: {fl.name}")

def ofInsertCreate (c : ECtx) (f : AFrame κ) : Interp.Exec Unit → ARes (AState κ × ECtx)
  | .ok _ s => .ok (insertedState f s .Continue, c)
  | .halt r _ s => .ok (insertedState f s (toIR r), c)
  | .fault fl => .err (.panic s!"insert outcome: {fl.name}")

/-- `handler::mainnet::insert_call_outcome`: `take_error()?`, then `Interpreter::insert_call_outcome` on the shared memory -/
def evmInsertCall (c : ECtx) (f : AFrame κ) (sh : Memory.SharedMemory) (o : InspectorWrap.CallOutcome) :
    ARes (AState κ × Memory.SharedMemory × ECtx) :=
  (evmTakeError c).bind fun c =>
    ofInsertCall c f
      (Interp.insertCallOutcome o.memoryOffset.1 o.memoryOffset.2 (childOf o.result none) (sync f.interp sh))

/-- `handler::mainnet::insert_create_outcome` (does not touch the shared memory: the interpreter runs on its own
`mem`, the empty one) -/
def evmInsertCreate (c : ECtx) (f : AFrame κ) (o : InspectorWrap.CreateOutcome) : ARes (AState κ × ECtx) :=
  (evmTakeError c).bind fun c =>
    ofInsertCreate c f (Interp.insertCreateOutcome (childOf o.result o.address) (sync f.interp f.interp.mem))

/-- `free_context`, totalised: the concrete `Memory.freeContext` can fail (`set_len` beyond the length, outside its
safety contract); the abstract machine's memory operation is total, so a failure leaves the memory as it is. On
completed concrete runs it never fails (`Evm.freeCtx` would have thrown). -/
def freeContextT (m : Memory.SharedMemory) : Memory.SharedMemory :=
  match Memory.freeContext m with
  | .ok m' => m'
  | _ => m

/-- the frame machine of the whole-EVM model over the subroutine discipline `C`; `lim` is `env.tx.gas_limit` -/
def evmMachine (C : Evm.CpOps κ) (cfg : Evm.Cfg) (lim : Nat) : InspectorWrap.Machine (evmTy κ) ECtx where
  fetch := evmFetch
  table := evmTable cfg
  takeError := evmTakeError
  call := evmCall C cfg
  create := evmCreate C cfg
  eofcreate := fun _ _ => .err (.panic "unsupported: Action.eofCreate (EOF frames are not modelled)")
  callReturn := evmCallReturn C
  createReturn := evmCreateReturn C cfg
  eofcreateReturn := fun _ _ _ => .panic
  insertCallOutcome := evmInsertCall
  insertCreateOutcome := evmInsertCreate
  insertEofcreateOutcome := fun _ _ _ => .panic
  lastFrameReturn := fun c r => .ok (InspectorWrap.lastFrameReturn lim r, c)
  newContext := Memory.newContext
  freeContext := freeContextT
  emptyMem := Memory.new
  newMem := Memory.new

@[simp] theorem sync_unsync (s : Interp.IState) (ir : IR) (a : AAction κ) : sync (unsync s ir a) s.mem = s := rfl

theorem sync_newInterp (s : Interp.IState) (m : Memory.SharedMemory) :
    sync (newInterp (κ := κ) s) m = { s with mem := m } := rfl

theorem sync_mem (st : AState κ) (m m' : Memory.SharedMemory) : { sync st m with mem := m' } = sync st m' := rfl

theorem freeContextT_ok {m m' : Memory.SharedMemory} (h : Memory.freeContext m = .ok m') : freeContextT m = m' := by
  unfold freeContextT; rw [h]

theorem freeCtx_ok {m m' : Memory.SharedMemory} (h : Evm.freeCtx m = .ok m') : freeContextT m = m' := by
  unfold Evm.freeCtx at h
  cases hf : Memory.freeContext m with
  | ok m1 =>
    rw [hf] at h
    simp only [pure, Except.pure, Except.ok.injEq] at h
    rw [freeContextT_ok hf, h]
  | panic => rw [hf] at h; simp [throw, throwThe, MonadExceptOf.throw] at h
  | ub => rw [hf] at h; simp [throw, throwThe, MonadExceptOf.throw] at h

end Revm.Proofs.EvmInstWrap
