import Revm.Proofs.BundleState
/-! C17, first sentence: each block of `PlainStateReverts`, applied to the reference state after its merge
group, gives the reference state before the group (wipe-aware reading of unlisted slots). -/
namespace Revm.Proofs.Bundle
open Revm.Model.Bundle Revm.Spec.Bundle


def revInfoRow (ir : InfoRevert) : Option (Option Info) :=
  match ir with
  | .revertTo i => some (some i)
  | .deleteIt => some none
  | .doNothing => none

theorem revert_accounts_eq (blk : BMap ARevert) :
    (revertBlockToPlain blk).accounts =
      (blk.filter (fun e => (revInfoRow e.2.account).isSome)).map (fun e => (e.1, (revInfoRow e.2.account).getD none)) := by
  unfold revertBlockToPlain
  simp only
  induction blk with
  | nil => rfl
  | cons e r ih =>
    cases he : e.2.account <;> simp [he, revInfoRow, ih]

theorem revSlotV_literal (st : BMap RevSlot) (wipe : Bool) (Ps Rs : Nat → Nat) (k : Nat)
    (h : (!wipe || st.all (fun s => s.2 != RevSlot.destroyed)) = true) :
    revSlotV false st wipe Ps Rs k = revSlotV true st wipe Ps Rs k := by
  unfold revSlotV
  cases hg : st.get k with
  | none => rfl
  | some v =>
    cases v with
    | some x => rfl
    | destroyed =>
      cases wipe with
      | false => rfl
      | true =>
        exfalso
        simp only [Bool.not_true, Bool.false_or, List.all_eq_true] at h
        have := h (k, RevSlot.destroyed) (mem_of_get _ _ _ hg)
        simp at this

/-- a block that satisfies `BlockSem` (before ← after), rendered by `to_plain_state_reverts` and applied to
`after`, gives `before` — under the database reading of `Destroyed`, or under the literal reading when no
wiping revert of the block lists a `Destroyed` slot -/
theorem revert_block_correct (dbr : Bool) (blk : BMap ARevert) (p0 before after : Plain)
    (h : BlockSem blk p0 before after) (hd : dbr = true ∨ literalOk blk = true) :
    PlainEq (applyRevertBlock dbr p0 (revertBlockToPlain blk) after) before := by
  obtain ⟨hw, hall⟩ := h
  constructor
  · intro a
    rw [applyRevertBlock_eq, acct_foldl_revrows, revert_accounts_eq,
      acct_foldl_setAcct _ (WF_map_val _ _ (WF_filter _ _ hw)),
      get_map_val (blk.filter fun e => (revInfoRow e.2.account).isSome) (fun e => (revInfoRow e.2.account).getD none),
      get_filter _ _ _ hw]
    obtain ⟨ms, hs⟩ := hall a
    cases hg : blk.get a with
    | none => rw [hg] at hs; simp only [Option.bind, Option.map_none]; exact hs.1.symm
    | some r =>
      rw [hg] at hs
      obtain ⟨_, _, hi, _⟩ := hs
      simp only [Option.bind]
      cases hra : r.account with
      | doNothing => rw [hra] at hi; simp [revInfoRow]; exact hi.symm
      | deleteIt => rw [hra] at hi; simp [revInfoRow, hra]; exact hi.symm
      | revertTo i => rw [hra] at hi; simp [revInfoRow, hra]; exact hi.symm
  · intro a k
    obtain ⟨ms, hs⟩ := hall a
    have hsl : ((revertBlockToPlain blk).storage.foldl (revRowStep dbr p0)
        ((revertBlockToPlain blk).accounts.foldl (fun p e => p.setAcct e.1 (e.2.map Info.withoutCode)) after)).slot a k = _ :=
      slot_foldl_filterMap (ok := fun r => WF r.2)
        (G := fun a (r : Bool × List (Nat × RevSlot)) => revSlotV dbr r.2 r.1 (fun k => p0.slot a k))
        (slot_revRowStep_ne dbr p0) (slot_revRowStep_self dbr p0) blk
        (fun e => e.2.wipe || !e.2.storage.isEmpty) (fun e => (e.2.wipe, e.2.storage)) hw _ a k
        (fun v hv _ => by rw [hv] at hs; exact hs.2.1)
    rw [applyRevertBlock_eq, hsl]
    simp only [slot_foldl_setAcct]
    cases hg : blk.get a with
    | none => rw [hg] at hs; exact (hs.2 k).symm
    | some r =>
      rw [hg] at hs
      obtain ⟨_, _, _, hsl⟩ := hs
      have hlit : revSlotV dbr r.storage r.wipe (fun k => p0.slot a k) (fun k => after.slot a k) k =
          revSlotV true r.storage r.wipe (fun k => p0.slot a k) (fun k => after.slot a k) k := by
        cases hd with
        | inl h => rw [h]
        | inr h =>
          cases dbr with
          | true => rfl
          | false => exact revSlotV_literal _ _ _ _ _ (List.all_eq_true.mp h (a, r) (mem_of_get _ _ _ hg))
      simp only [Option.elim]
      by_cases hc : (r.wipe || !r.storage.isEmpty) = true
      · simp only [hc, if_true]; rw [hlit]; exact hsl.1 k
      · have hc' : (r.wipe || !r.storage.isEmpty) = false := by simpa using hc
        simp only [hc', Bool.false_eq_true, if_false]
        simp only [Bool.or_eq_false_iff, Bool.not_eq_false', List.isEmpty_iff] at hc'
        have := hsl.1 k
        rw [hc'.1, hc'.2] at this
        simpa [revSlotV, BMap.get] using this

theorem revert_k_proof (dbr : Bool) (db : BMap Info) (sc : Bool) (p0 : Plain) (h : List Group)
    (hdb : dbMatches db p0) (hwf : plainWF p0) (hr : reachHistory sc p0 h = true) :
    ∃ l, runHistory { db := db, sc := sc } p0 h = some l ∧
      ∀ s r, l.getLast? = some (s, r) →
        ∀ (k : Nat) b before after, s.bundle.reverts[k]? = some b → dbr = true ∨ literalOk b = true →
          ((p0 :: l.map (·.2))[k]? = some before) → ((l.map (·.2))[k]? = some after) →
          PlainEq (applyRevertBlock dbr p0 (revertBlockToPlain b) after) before := by
  obtain ⟨l, h1, _, h3⟩ := fresh_run db sc p0 h hdb hwf hr
  refine ⟨l, h1, fun s r hl k b before after hb hd hbe haf => ?_⟩
  exact revert_block_correct dbr b p0 before after ((h3 s r hl).blocks.2 k b before after hb hbe haf) hd

end Revm.Proofs.Bundle
