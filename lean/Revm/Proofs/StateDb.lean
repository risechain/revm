import Revm.Spec.StateDb
/-! C15 and C19: `State` (`Model.StateDb`) against the reference of `Spec.StateDb`. `AcctInv` relates one cache
entry to the reference entry, `Inv` the whole state; every operation keeps them (`run_ok`). With a preloaded bundle
(C19) the reference starts from the effective database `E` instead of `D` (`inv_init_pre`). The hypothesis named
`hE` is `CodelessNoStorage` of the database its type names, mostly `D`, not a fact about `E`. -/
namespace Revm.Proofs.StateDb
open Revm Revm.Model.StateDb Revm.Spec.StateDb


/-- two infos a reader cannot tell apart: same balance, nonce and code hash, and the same code
bytes once resolved through the code table `T` -/
def Sim (T : Nat → Code) (i j : Info) : Prop :=
  i.balance = j.balance ∧ i.nonce = j.nonce ∧ i.codeHash = j.codeHash ∧
    resolveCode T i = resolveCode T j

/-- facts about the reference entry itself: well-formed info; while state clearing is off an empty
account has no storage (follows from the two exclusions) -/
def RefOk (sc : Bool) (ra : Option (Info × (Slot → Word))) : Prop :=
  ∀ p, ra = some p → WfInfo p.1 ∧ (sc = false → p.1.isEmpty = true → ∀ k, p.2 k = 0)

/-- What a status says of the cached info `i`. The three `False` statuses go with `account = none`, so they
never meet the `some` arm of `CacheRel`. -/
def StatusOk (D : Db) (a : Addr) (st : Status) (i : Info) : Prop :=
  match st with
  | .Loaded => D.basic a = some i ∧ i.isEmpty = false
  | .LoadedEmptyEIP161 => i = Info.default ∧ ∃ i0, D.basic a = some i0 ∧ i0.isEmpty = true
  | .Changed => i.isEmpty = false
  | .InMemoryChange | .DestroyedChanged => True
  | .LoadedNotExisting | .Destroyed | .DestroyedAgain => False

/-- what `State::storage` answers from a cached account -/
def readSlot (D : Db) (a : Addr) (st : Status) (m : Storage) (k : Slot) : Word :=
  match m k with
  | some v => v
  | none => if st.isStorageKnown then 0 else D.storage a k

/-- the cached account against the reference entry -/
def CacheRel (D : Db) (T : Nat → Code) (a : Addr) (c : CacheAccount) (ra : Option (Info × (Slot → Word))) : Prop :=
  match c.account with
  | none => (c.status = .LoadedNotExisting ∨ c.status = .Destroyed ∨ c.status = .DestroyedAgain) ∧ ra = none
  | some am => ∃ j σ, ra = some (j, σ) ∧ Sim T am.1 j ∧ WfInfo am.1 ∧
      (∀ k, σ k = readSlot D a c.status am.2 k) ∧ StatusOk D a c.status am.1

/-- `D` is the database the State reads from, `E` the effective database (`D` itself, or `D` with the
prestate bundle's changeset applied) -/
def AcctInv (D E : Db) (sc : Bool) (a : Addr) (oc : Option CacheAccount)
    (ra : Option (Info × (Slot → Word))) : Prop :=
  RefOk sc ra ∧ match oc with
    | none => ra = refOfDb E a
    | some c => CacheRel D E.code a c ra

variable {T : Nat → Code} {E : Db}

theorem wf_default : WfInfo Info.default := by
  refine ⟨by decide, fun _ => Or.inr rfl⟩

theorem default_isEmpty : Info.default.isEmpty = true := by decide

theorem sim_refl (i : Info) : Sim T i i := ⟨rfl, rfl, rfl, rfl⟩

theorem isEmpty_of_sim {i j : Info} (h : Sim T i j) : i.isEmpty = j.isEmpty := by
  unfold Info.isEmpty Info.isEmptyCodeHash; rw [h.1, h.2.1, h.2.2.1]

theorem codeless_of_sim {i j : Info} (h : Sim T i j) : i.hasNoCodeAndNonce = j.hasNoCodeAndNonce := by
  unfold Info.hasNoCodeAndNonce Info.isEmptyCodeHash; rw [h.2.1, h.2.2.1]

theorem empty_hash {i : Info} (hw : WfInfo i) (he : i.isEmpty = true) :
    i.balance = 0 ∧ i.nonce = 0 ∧ i.codeHash = KECCAK_EMPTY := by
  unfold Info.isEmpty Info.isEmptyCodeHash at he
  have h0 := hw.1
  simp only [Bool.and_eq_true, Bool.or_eq_true, beq_iff_eq] at he
  rcases he with ⟨⟨h | h, hb⟩, hn⟩
  · exact ⟨hb, hn, h⟩
  · exact absurd h h0

theorem empty_noCodeNonce {i : Info} (hw : WfInfo i) (he : i.isEmpty = true) :
    i.hasNoCodeAndNonce = true := by
  have := empty_hash hw he
  unfold Info.hasNoCodeAndNonce Info.isEmptyCodeHash
  simp [this.2.1, this.2.2]

theorem sim_of_empty {i j : Info} (hi : WfInfo i) (hj : WfInfo j) (ei : i.isEmpty = true)
    (ej : j.isEmpty = true) : Sim T i j := by
  have a := empty_hash hi ei; have b := empty_hash hj ej
  refine ⟨by rw [a.1, b.1], by rw [a.2.1, b.2.1], by rw [a.2.2, b.2.2], ?_⟩
  unfold resolveCode
  rcases hi.2 a.2.2 with c1 | c1 <;> rcases hj.2 b.2.2 with c2 | c2 <;> simp [c1, c2, a.2.2, b.2.2]

theorem view_of_sim {i j : Info} (h : Sim T i j) : i.view T = j.view T := by
  obtain ⟨h1, h2, h3, h4⟩ := h
  unfold Info.view
  rw [h1, h2, h3, h4]

theorem over_nil (σ : Slot → Word) : over [] σ = σ := by
  funext k; simp [over, Changes.get]

theorem extend_nil (m : Storage) : m.extend [] = m := by
  funext k; simp [Storage.extend, Changes.get]

theorem cacheRel_inv {D : Db} {a : Addr} {c : CacheAccount} {ra} (h : CacheRel D T a c ra) :
    (∃ st, c = ⟨none, st⟩ ∧ ra = none ∧
      (st = .LoadedNotExisting ∨ st = .Destroyed ∨ st = .DestroyedAgain)) ∨
    (∃ am st j σ, c = ⟨some am, st⟩ ∧ ra = some (j, σ) ∧ Sim T am.1 j ∧ WfInfo am.1 ∧
      (∀ k, σ k = readSlot D a st am.2 k) ∧ StatusOk D a st am.1) := by
  rcases c with ⟨acc, st⟩
  cases acc with
  | none => exact Or.inl ⟨st, rfl, h.2, h.1⟩
  | some am => obtain ⟨j, σ, hra, h⟩ := h; exact Or.inr ⟨am, st, j, σ, rfl, hra, h⟩

theorem rel_selfdestruct {D : Db} {a : Addr} (c : CacheAccount) :
    CacheRel D T a c.selfdestruct.1 none := by
  unfold CacheRel CacheAccount.selfdestruct
  refine ⟨?_, rfl⟩
  cases c.status <;> simp [Status.onSelfdestructed]

theorem readSlot_known_ofChanges (D : Db) (a : Addr) (st : Status) (ch : Changes) (k : Slot)
    (hk : st.isStorageKnown = true) :
    readSlot D a st (Storage.ofChanges ch) k = over ch zeroStorage k := by
  unfold readSlot Storage.ofChanges over zeroStorage
  cases ch.get k <;> simp [hk]

theorem rel_newlyCreated {D : Db} {a : Addr} {c : CacheAccount} (info : Info) (ch : Changes)
    (hw : WfInfo info) :
    CacheRel D T a (c.newlyCreated info ch).1 (some (info, over ch zeroStorage)) := by
  unfold CacheRel CacheAccount.newlyCreated
  refine ⟨info, _, rfl, sim_refl _, hw, ?_, ?_⟩
  · intro k
    rw [readSlot_known_ofChanges]
    cases c.status <;> rfl
  · cases c.status <;> simp [Status.onCreated, StatusOk]

theorem readSlot_onChanged {D : Db} {a : Addr} {st : Status} {i : Info} (m : Storage) (k : Slot)
    (hD : DbWf D) (hE : CodelessNoStorage D) (hs : StatusOk D a st i) :
    readSlot D a (st.onChanged i.hasNoCodeAndNonce) m k = readSlot D a st m k := by
  unfold readSlot
  cases hm : m k with
  | some v => rfl
  | none =>
    cases st <;> simp only [StatusOk] at hs <;> simp only [Status.onChanged, Status.isStorageKnown]
      <;> try rfl
    · -- Loaded
      cases hc : i.hasNoCodeAndNonce
      · simp
      · simp [hE a i hs.1 hc k]
    · -- LoadedEmptyEIP161
      obtain ⟨_, i0, h0, he⟩ := hs
      simp [hE a i0 h0 (empty_noCodeNonce (hD a i0 h0) he) k]

theorem statusOk_onChanged {D : Db} {a : Addr} {st : Status} {i : Info} (i' : Info) (b : Bool)
    (hs : StatusOk D a st i) (hne : i.isEmpty = false → i'.isEmpty = false) :
    StatusOk D a (st.onChanged b) i' := by
  cases st <;> simp only [StatusOk] at hs <;> simp only [Status.onChanged, StatusOk]
  · cases b <;> simp [hne hs.2]
  · exact hne hs

theorem rel_change {D : Db} {a : Addr} {c : CacheAccount} {ra} (new info : Info) (ch : Changes)
    (hD : DbWf D) (hE : CodelessNoStorage D) (h : CacheRel D T a c ra) (hw : WfInfo new)
    (hsim : Sim T new info)
    (hne : ∀ am, c.account = some am → am.1.isEmpty = false → new.isEmpty = false) :
    CacheRel D T a (c.change new ch).1 (some (info, over ch (storageOf ra))) := by
  rcases cacheRel_inv h with ⟨st, rfl, rfl, hst⟩ | ⟨am, st, j, σ, rfl, rfl, _, _, hslots, hok⟩
  · simp only [CacheRel, CacheAccount.change, CacheAccount.accountInfo, Option.map]
    refine ⟨info, _, rfl, hsim, hw, ?_, ?_⟩
    · intro k
      have : (st.onChanged false).isStorageKnown = true := by
        rcases hst with h | h | h <;> (subst h; rfl)
      unfold readSlot Storage.extend Storage.empty over storageOf zeroStorage
      cases ch.get k <;> simp [this]
    · rcases hst with h | h | h <;> (subst h; simp [Status.onChanged, StatusOk])
  · simp only [CacheRel, CacheAccount.change, CacheAccount.accountInfo, Option.map]
    refine ⟨info, _, rfl, hsim, hw, ?_, statusOk_onChanged _ _ hok (hne am rfl)⟩
    intro k
    have h1 := readSlot_onChanged am.2 k hD hE hok
    unfold over
    unfold readSlot Storage.extend
    cases hg : ch.get k with
    | some v => simp
    | none =>
      simp only [storageOf, hslots k]
      unfold readSlot at h1
      exact h1.symm

/-- `Loaded` and `Changed` are the statuses of the `unreachable!` arms of the two touch functions -/
theorem status_of_emptyRef {D : Db} {a : Addr} {c : CacheAccount} {ra} (h : CacheRel D T a c ra)
    (he : isEmptyRef ra) : c.status ≠ .Loaded ∧ c.status ≠ .Changed := by
  rcases cacheRel_inv h with ⟨st, rfl, rfl, hst⟩ | ⟨am, st, j, σ, rfl, rfl, hsim, _, _, hok⟩
  · rcases hst with h | h | h <;> (subst h; exact ⟨nofun, nofun⟩)
  · have hi : am.1.isEmpty = true := (isEmpty_of_sim hsim).trans he
    constructor <;> intro hs <;> (simp only at hs; subst hs; simp only [StatusOk] at hok)
    · rw [hok.2] at hi; cases hi
    · rw [hok] at hi; cases hi

theorem rel_touchEmpty {D : Db} {a : Addr} {c : CacheAccount} {ra} (h : CacheRel D T a c ra)
    (he : isEmptyRef ra) : ∃ r, c.touchEmptyEip161 = .ok r ∧ CacheRel D T a r.1 none := by
  have hst := status_of_emptyRef h he
  unfold CacheAccount.touchEmptyEip161
  cases hs : c.status with
  | Loaded => exact absurd hs hst.1
  | Changed => exact absurd hs hst.2
  | LoadedNotExisting => exact ⟨_, rfl, Or.inl rfl, rfl⟩
  | InMemoryChange | Destroyed | LoadedEmptyEIP161 => exact ⟨_, rfl, Or.inr (Or.inl rfl), rfl⟩
  | DestroyedAgain | DestroyedChanged => exact ⟨_, rfl, Or.inr (Or.inr rfl), rfl⟩

/-- the account both touch functions rebuild: default info, no slots, storage known -/
theorem rel_rebuilt {D : Db} {a : Addr} (st : Status) (info : Info) (σ : Slot → Word)
    (hdi : Sim T Info.default info) (hk : st.isStorageKnown = true) (hok : StatusOk D a st Info.default)
    (hz : ∀ k, σ k = 0) :
    CacheRel D T a ⟨some (Info.default, Storage.ofChanges []), st⟩ (some (info, σ)) :=
  ⟨info, σ, rfl, hdi, wf_default, fun k => (hz k).trans (readSlot_known_ofChanges D a st [] k hk).symm, hok⟩

theorem rel_touchCreatePre {D : Db} {a : Addr} {c : CacheAccount} {ra} (info : Info)
    (h : CacheRel D T a c ra) (hr : RefOk false ra) (he : isEmptyRef ra) (hw : WfInfo info)
    (hie : info.isEmpty = true) :
    ∃ r, c.touchCreatePreEip161 [] = .ok r ∧
      CacheRel D T a r.1 (some (info, storageOf ra)) := by
  have hdi : Sim T Info.default info := sim_of_empty wf_default hw default_isEmpty hie
  have hst := status_of_emptyRef h he
  have hz : ∀ k, storageOf ra k = 0 := by
    cases ra with
    | none => exact fun _ => rfl
    | some p => exact (hr p rfl).2 rfl he
  rcases cacheRel_inv h with ⟨st, rfl, rfl, hst⟩ | ⟨am, st, j, σ, rfl, rfl, hsim, hwf, hslots, hok⟩
  · rcases hst with h | h | h <;> subst h <;> exact ⟨_, rfl, rel_rebuilt _ info _ hdi rfl trivial hz⟩
  · have hi : am.1.isEmpty = true := (isEmpty_of_sim hsim).trans he
    have hai : Sim T am.1 info := sim_of_empty hwf hw hi hie
    cases st with
    | Loaded => exact absurd rfl hst.1
    | Changed => exact absurd rfl hst.2
    | LoadedEmptyEIP161 => exact ⟨_, rfl, info, σ, rfl, hai, hwf, hslots, hok⟩
    | InMemoryChange => exact ⟨_, rfl, rel_rebuilt _ info _ hdi rfl trivial hz⟩
    | DestroyedChanged =>
      simp only [CacheAccount.touchCreatePreEip161, Status.onTouchedCreatedPreEip161, hi, if_true]
      exact ⟨_, rfl, info, σ, rfl, hai, hwf, hslots, trivial⟩
    | _ => exact hok.elim

def setBalance (v : Nat) (ra : Option (Info × (Slot → Word))) : Info × (Slot → Word) :=
  match ra with
  | some p => ({ p.1 with balance := v }, p.2)
  | none => ({ Info.default with balance := v }, zeroStorage)

/-- the info `account_info_change` applies its update to -/
def infoOrDefault (c : CacheAccount) : Info :=
  match c.account with
  | some a => a.1
  | none => Info.default

theorem infoChange_eq_change (c : CacheAccount) (f : Info → Info) :
    (c.accountInfoChange f).1 = (c.change (f (infoOrDefault c)) []).1 := by
  rcases c with ⟨acc, st⟩
  cases acc <;> simp only [CacheAccount.accountInfoChange, CacheAccount.change, extend_nil, infoOrDefault]

theorem rel_balance {D : Db} {a : Addr} {c : CacheAccount} {ra} (h : CacheRel D T a c ra) :
    (infoOrDefault c).balance = balanceOf ra := by
  rcases cacheRel_inv h with ⟨st, rfl, rfl, _⟩ | ⟨am, st, j, σ, rfl, rfl, hsim, _⟩
  · rfl
  · exact hsim.1

theorem rel_setBalance {D : Db} {a : Addr} {c : CacheAccount} {ra} (v : Nat) (f : Info → Info)
    (hD : DbWf D) (hE : CodelessNoStorage D) (h : CacheRel D T a c ra)
    (hf : f (infoOrDefault c) = { infoOrDefault c with balance := v })
    (hne : ∀ p, ra = some p → p.1.isEmpty = false → ({ p.1 with balance := v } : Info).isEmpty = false) :
    CacheRel D T a (c.accountInfoChange f).1 (some (setBalance v ra)) := by
  have hm : setBalance v ra = ((setBalance v ra).1, over [] (storageOf ra)) := by
    rw [over_nil]; cases ra <;> rfl
  rw [infoChange_eq_change, hf, hm]
  rcases cacheRel_inv h with ⟨st, rfl, rfl, _⟩ | ⟨am, st, j, σ, rfl, rfl, hsim, hwf, _⟩
  · exact rel_change { Info.default with balance := v } _ [] hD hE h ⟨wf_default.1, wf_default.2⟩ (sim_refl _) nofun
  · have hsim' : Sim T ({ am.1 with balance := v } : Info) { j with balance := v } := ⟨rfl, hsim.2⟩
    refine rel_change { am.1 with balance := v } { j with balance := v } [] hD hE h ⟨hwf.1, hwf.2⟩ hsim'
      fun am' he hne1 => ?_
    cases he
    rw [isEmpty_of_sim hsim']
    exact hne (j, σ) rfl (isEmpty_of_sim hsim ▸ hne1)

theorem refOk_setBalance {sc : Bool} {ra} (v : Nat) (h : RefOk sc ra)
    (hne : ∀ p, ra = some p → p.1.isEmpty = false → ({ p.1 with balance := v } : Info).isEmpty = false) :
    RefOk sc (some (setBalance v ra)) := by
  intro p hp
  cases hp
  cases ra with
  | none => exact ⟨⟨wf_default.1, wf_default.2⟩, fun _ _ _ => rfl⟩
  | some q =>
    refine ⟨⟨(h q rfl).1.1, (h q rfl).1.2⟩, fun hsc he k => ?_⟩
    -- an entry that is empty afterwards was empty before, so its storage was already zero
    cases hie : q.1.isEmpty with
    | true => exact (h q rfl).2 hsc hie k
    | false => rw [show (setBalance v (some q)).1.isEmpty = false from hne q rfl hie] at he; cases he

theorem rel_inc {D : Db} {sc : Bool} {a : Addr} {c : CacheAccount} {ra} (amount : Nat)
    (hD : DbWf D) (hE : CodelessNoStorage D) (hrok : RefOk sc ra) (h : CacheRel D T a c ra)
    (hamt : amount ≠ 0) (hno : balanceOf ra + amount < W) :
    RefOk sc (incAcct ra amount) ∧ CacheRel D T a (c.incrementBalance amount).1 (incAcct ra amount) := by
  have hi : incAcct ra amount = some (setBalance (balanceOf ra + amount) ra) := by
    cases ra with
    | none => simp [incAcct, setBalance, balanceOf]
    | some p => rfl
  have hne : ∀ p, ra = some p → p.1.isEmpty = false →
      ({ p.1 with balance := balanceOf ra + amount } : Info).isEmpty = false := fun p _ _ => by
    have : (balanceOf ra + amount == 0) = false := by simp; omega
    simp [Info.isEmpty, this]
  unfold CacheAccount.incrementBalance
  rw [if_neg hamt, hi]
  refine ⟨refOk_setBalance _ hrok hne,
    rel_setBalance _ (fun i => { i with balance := U256.saturatingAdd i.balance amount }) hD hE h ?_ hne⟩
  simp only [U256.saturatingAdd, rel_balance h, if_pos hno]

theorem rel_drain {D : Db} {sc : Bool} {a : Addr} {c : CacheAccount} {ra}
    (hD : DbWf D) (hE : CodelessNoStorage D) (hrok : RefOk sc ra) (h : CacheRel D T a c ra)
    (hb : balanceOf ra < U128)
    (hr2 : ∀ p, ra = some p → p.1.isEmpty = false → ({ p.1 with balance := 0 } : Info).isEmpty = false) :
    ∃ c' t, c.drainBalance = .ok (balanceOf ra, c', t) ∧
      RefOk sc (drainAcct ra) ∧ CacheRel D T a c' (drainAcct ra) := by
  have hi : drainAcct ra = some (setBalance 0 ra) := by cases ra <;> rfl
  have hbal := rel_balance h
  have hd : c.drainBalance = .ok (balanceOf ra, (c.accountInfoChange fun i => { i with balance := 0 }).1,
      (c.accountInfoChange fun i => { i with balance := 0 }).2) := by
    rcases c with ⟨_ | am, st⟩
    all_goals
      simp only [CacheAccount.drainBalance]
      rw [← hbal] at hb ⊢
      exact if_pos hb
  exact ⟨_, _, hd, hi ▸ refOk_setBalance 0 hrok hr2, hi ▸ rel_setBalance 0 _ hD hE h rfl hr2⟩

theorem acct_step {D : Db} {sc : Bool} {a : Addr} {oc : Option CacheAccount} {ra} (acct : CommitAcct)
    (hD : DbWf D) (hE : CodelessNoStorage D) (hinv : AcctInv D E sc a oc ra)
    (hl : acct.touched = true → oc ≠ none) (hw : acct.touched = true → WfInfo acct.info)
    (hre : acct.touched = true → acct.selfdestructed = false → acct.created = false →
      acct.info.isEmpty = true → isEmptyRef ra ∧ acct.changed = [])
    (hx : ExclAcct sc acct) :
    ∃ oc' t, applyAccountState sc oc acct = .ok (oc', t) ∧ AcctInv D E sc a oc' (applyAcct sc ra acct) ∧
      (oc' = none → oc = none) := by
  unfold applyAccountState applyAcct
  cases ht : acct.touched with
  | false => exact ⟨oc, none, rfl, hinv, id⟩
  | true =>
    have hw := hw ht
    cases oc with
    | none => exact absurd rfl (hl ht)
    | some c =>
      obtain ⟨hrok, hrel⟩ := hinv
      have hnone : RefOk sc none := nofun
      cases hsd : acct.selfdestructed with
      | true => exact ⟨_, _, rfl, ⟨hnone, rel_selfdestruct c⟩, nofun⟩
      | false =>
        cases hcr : acct.created with
        | true =>
          refine ⟨_, _, rfl, ⟨fun p hp => ?_, rel_newlyCreated _ _ hw⟩, nofun⟩
          cases hp
          exact ⟨hw, fun hsc hem => hx hsc ht hsd hcr hem⟩
        | false =>
          cases hem : acct.info.isEmpty with
          | true =>
            obtain ⟨her, hch⟩ := hre ht hsd hcr hem
            cases sc with
            | true =>
              obtain ⟨r, hr1, hr2⟩ := rel_touchEmpty hrel her
              exact ⟨some r.1, r.2, by simp [hr1], ⟨hnone, hr2⟩, nofun⟩
            | false =>
              obtain ⟨r, hr1, hr2⟩ := rel_touchCreatePre acct.info hrel hrok her hw hem
              rw [hch]
              refine ⟨some r.1, r.2, by simp [hr1], ⟨fun p hp => ?_, over_nil _ ▸ hr2⟩, nofun⟩
              cases hp
              refine ⟨hw, fun _ _ k => ?_⟩
              -- with state clearing off an empty reference entry has no storage (`RefOk`)
              cases ra with
              | none => rfl
              | some q => exact (hrok q rfl).2 rfl her k
          | false =>
            refine ⟨_, _, rfl,
              ⟨fun p hp => ?_, rel_change _ _ _ hD hE hrel hw (sim_refl _) fun _ _ _ => hem⟩, nofun⟩
            cases hp
            exact ⟨hw, fun _ h => by rw [hem] at h; cases h⟩

/-- what a vacant cache entry will be filled with from the preloaded bundle -/
def fromBundle (s : State) (a : Addr) : Option CacheAccount :=
  if s.usePreloadedBundle then (s.bundle a).map BundleAccount.toCache else none
def codeFromBundle (s : State) (h : Nat) : Option Code :=
  if s.usePreloadedBundle then s.bundleContracts h else none

/-- `State` `s` over `D` against the reference state `t` started from `E` (`D` and `E` as in `AcctInv`). -/
structure Inv (D E : Db) (sc : Bool) (s : State) (t : St) : Prop where
  db : s.db = D
  hsc : s.hasStateClear = sc
  accts : ∀ a, AcctInv D E sc a (s.accounts a) (t.ref a)
  /-- `State::storage` is `unreachable!` on an account not in the cache; `ReachOp` asks for `t.loaded` -/
  loaded : ∀ a, t.loaded a = true → s.accounts a ≠ none
  contracts : ∀ h c, s.contracts h = some c → c = E.code h
  /-- a bundle account, read as a cache account over `D`, is related to `E`'s entry; addresses
  outside the bundle are unchanged (`Prestate.bundle_rel` has this shape) -/
  preA : ∀ a, match fromBundle s a with
    | some c => CacheRel D E.code a c (refOfDb E a)
    | none => refOfDb E a = refOfDb D a
  preC : ∀ h, E.code h = match codeFromBundle s h with
    | some c => c
    | none => D.code h

theorem inv_addTransition {D : Db} {sc : Bool} {s : State} {t : St} (a : Addr) (tr : Option Transition)
    (h : Inv D E sc s t) : Inv D E sc (s.addTransition a tr) t := by
  unfold State.addTransition
  cases tr <;> cases s.transitions <;> exact ⟨h.db, h.hsc, h.accts, h.loaded, h.contracts, h.preA, h.preC⟩

theorem inv_set {D : Db} {sc : Bool} {s : State} {t : St} (a : Addr) (c : CacheAccount) (v)
    (h : Inv D E sc s t) (hc : AcctInv D E sc a (some c) v) : Inv D E sc (s.setAccount a c) (t.set a v) := by
  refine ⟨h.db, h.hsc, fun x => ?_, fun x hx => ?_, h.contracts, h.preA, h.preC⟩
  · by_cases hxa : x = a
    · subst hxa; simpa [State.setAccount, St.set] using hc
    · simpa [State.setAccount, St.set, hxa] using h.accts x
  · by_cases hxa : x = a
    · simp [State.setAccount, hxa]
    · simpa [State.setAccount, hxa] using h.loaded x hx

theorem inv_setCache {D : Db} {sc : Bool} {s : State} {t : St} (a : Addr) (c : CacheAccount)
    (h : Inv D E sc s t) (hc : AcctInv D E sc a (some c) (t.ref a)) : Inv D E sc (s.setAccount a c) t := by
  have hself : t.set a (t.ref a) = t := by
    cases t; simp only [St.set]; congr; funext x; by_cases hx : x = a <;> simp [hx]
  exact hself ▸ inv_set a c (t.ref a) h hc

theorem inv_load_mark {D : Db} {sc : Bool} {s : State} {t : St} (a : Addr)
    (h : Inv D E sc s t) (hs : s.accounts a ≠ none) : Inv D E sc s (t.load a) := by
  refine ⟨h.db, h.hsc, h.accts, fun x hx => ?_, h.contracts, h.preA, h.preC⟩
  by_cases hxa : x = a
  · exact hxa ▸ hs
  · exact h.loaded x (by simpa [St.load, hxa] using hx)

theorem initial_acct {sc : Bool} (a : Addr) (hD : DbWf E) (hE : CodelessNoStorage E) :
    RefOk sc (refOfDb E a) := by
  intro p hp
  unfold refOfDb at hp
  cases hb : E.basic a with
  | none => rw [hb] at hp; cases hp
  | some i =>
    rw [hb] at hp
    cases hp
    exact ⟨hD a i hb, fun _ he k => hE a i hb (empty_noCodeNonce (hD a i hb) he) k⟩

theorem rel_loaded {D : Db} (hD : DbWf D) (a : Addr) :
    CacheRel D T a
      (match D.basic a with
        | none => CacheAccount.newLoadedNotExisting
        | some acc => if acc.isEmpty then CacheAccount.newLoadedEmptyEip161 else CacheAccount.newLoaded acc)
      (refOfDb D a) := by
  unfold refOfDb
  cases hb : D.basic a with
  | none => exact ⟨Or.inl rfl, rfl⟩
  | some acc =>
    have hwacc := hD a acc hb
    dsimp only
    cases he : acc.isEmpty with
    | true =>
      exact ⟨acc, D.storage a, rfl, sim_of_empty wf_default hwacc default_isEmpty he, wf_default,
        fun _ => rfl, rfl, acc, hb, he⟩
    | false => exact ⟨acc, D.storage a, rfl, sim_refl _, hwacc, fun _ => rfl, hb, he⟩

theorem inv_load {D : Db} {sc : Bool} {s : State} {t : St} (a : Addr) (hD : DbWf D)
    (h : Inv D E sc s t) :
    Inv D E sc (s.loadCacheAccount a).1 (t.load a) ∧
    (s.loadCacheAccount a).1.accounts a = some (s.loadCacheAccount a).2 ∧
    CacheRel D E.code a (s.loadCacheAccount a).2 (t.ref a) := by
  have hai := h.accts a
  unfold State.loadCacheAccount
  cases hacc : s.accounts a with
  | some c =>
    rw [hacc] at hai
    exact ⟨inv_load_mark a h (by rw [hacc]; simp), hacc, hai.2⟩
  | none =>
    rw [hacc] at hai
    obtain ⟨hrok, href⟩ := hai
    simp only at href
    have key : ∀ c : CacheAccount, CacheRel D E.code a c (t.ref a) →
        Inv D E sc (s.setAccount a c) (t.load a) ∧ (s.setAccount a c).accounts a = some c ∧
          CacheRel D E.code a c (t.ref a) := by
      intro c hc
      exact ⟨inv_load_mark a (inv_setCache a c h ⟨hrok, hc⟩) (by simp [State.setAccount]),
        by simp [State.setAccount], hc⟩
    -- the vacant entry is filled from the bundle if it has the address, else from the database;
    -- `preA` says that either way the new account is related to the effective database's entry
    have hpre := h.preA a
    unfold fromBundle at hpre
    rw [← href] at hpre
    cases hfb : (if s.usePreloadedBundle = true then Option.map BundleAccount.toCache (s.bundle a) else none) with
    | some c => rw [hfb] at hpre; exact key c hpre
    | none =>
      rw [hfb] at hpre
      rw [h.db]
      exact key _ (by rw [show t.ref a = refOfDb D a from hpre]; exact rel_loaded hD a)

theorem inv_codeByHash {D : Db} {sc : Bool} {s : State} {t : St} (h : Nat) (hi : Inv D E sc s t) :
    Inv D E sc (s.codeByHash h).1 t ∧ (s.codeByHash h).2 = E.code h := by
  unfold State.codeByHash
  cases hc : s.contracts h with
  | some c => exact ⟨hi, hi.contracts h c hc⟩
  | none =>
    -- the code fetched (bundle first, then the database) is the effective database's
    have hpc := hi.preC h
    unfold codeFromBundle at hpc
    rw [← hi.db] at hpc
    refine ⟨⟨hi.db, hi.hsc, hi.accts, hi.loaded, fun x c hx => ?_, hi.preA, hi.preC⟩, hpc.symm⟩
    by_cases hxh : x = h
    · cases (if_pos hxh).symm.trans hx; rw [hxh]; exact hpc.symm
    · exact hi.contracts x c ((if_neg hxh).symm.trans hx)

theorem basic_ok {D : Db} {sc : Bool} {s : State} {t : St} (a : Addr) (hD : DbWf D)
    (hi : Inv D E sc s t) :
    Inv D E sc (s.basicView a).1 (t.load a) ∧
    (s.basicView a).2 = (t.ref a).map (fun p => p.1.view E.code) := by
  obtain ⟨h1, _, h3⟩ := inv_load a hD hi
  unfold State.basicView State.basic
  generalize s.loadCacheAccount a = r at h1 h3
  obtain ⟨s1, c⟩ := r
  rcases cacheRel_inv h3 with ⟨st, rfl, hra, _⟩ | ⟨am, st, j, σ, rfl, hra, hsim, _⟩
  · exact ⟨h1, by rw [hra]; rfl⟩
  · -- the reply resolves the code the way `resolveCode` does, the last case through `code_by_hash`
    simp only [CacheAccount.accountInfo, Option.map]
    rw [hra]
    dsimp only
    rw [← view_of_sim hsim]
    unfold Info.view resolveCode
    cases hcode : am.1.code with
    | some c => exact ⟨h1, rfl⟩
    | none =>
      by_cases hk : am.1.codeHash = KECCAK_EMPTY
      · simp only [hk, if_true]; exact ⟨h1, trivial⟩
      · simp only [hk, if_false]
        obtain ⟨h4, h5⟩ := inv_codeByHash am.1.codeHash h1
        exact ⟨h4, by rw [h5]⟩

theorem storage_ok {D : Db} {sc : Bool} {s : State} {t : St} (a : Addr) (k : Slot)
    (hi : Inv D E sc s t) (hl : t.loaded a = true) :
    ∃ s', s.storage a k = .ok (s', storageOf (t.ref a) k) ∧ Inv D E sc s' t := by
  have hne := hi.loaded a hl
  have hai := hi.accts a
  unfold State.storage
  cases hacc : s.accounts a with
  | none => exact absurd hacc hne
  | some c =>
    rw [hacc] at hai
    obtain ⟨hrok, hrel⟩ := hai
    rcases cacheRel_inv hrel with ⟨st, rfl, hra, _⟩ | ⟨⟨i, m⟩, st, j, σ, rfl, hra, hsim, hwf, hslots, hok⟩
    · exact ⟨s, by simp [hra, storageOf, zeroStorage], hi⟩
    · simp only at hslots hok hsim hwf
      have hk := hslots k
      unfold readSlot at hk
      simp only [hra, storageOf]
      cases hm : m k with
      | some v =>
        rw [hm] at hk
        exact ⟨s, by simp [hk], hi⟩
      | none =>
        rw [hm] at hk
        simp only at hk
        refine ⟨s.setAccount a ⟨some (i, m.insert k (if st.isStorageKnown then 0 else s.db.storage a k)), st⟩,
          by simp only [hi.db, hk], ?_⟩
        refine inv_setCache a _ hi ⟨hrok, j, σ, hra, hsim, hwf, fun x => ?_, hok⟩
        simp only [readSlot, Storage.insert]
        by_cases hx : x = k
        · subst hx; simp [hk, hi.db]
        · simp only [hx, if_false]; exact hslots x

theorem commit_ok {D : Db} {sc : Bool} (hD : DbWf D) (hE : CodelessNoStorage D) (accts : List CommitAcct) :
    ∀ (s : State) (t : St), Inv D E sc s t → ReachCommit sc t accts → (∀ a ∈ accts, ExclAcct sc a) →
      ∃ s', s.commit accts = .ok s' ∧ Inv D E sc s' (applyCommit sc t accts) := by
  induction accts with
  | nil => intro s t hi _ _; exact ⟨s, rfl, hi⟩
  | cons a rest ih =>
    intro s t hi hr hx
    obtain ⟨hra, hrr⟩ := hr
    have hxa := hx a (List.mem_cons_self ..)
    obtain ⟨oc', tr, h1, h2, h3⟩ := acct_step a hD hE (hi.accts a.addr)
      (fun ht => hi.loaded _ (hra ht).1) (fun ht => (hra ht).2.1)
      (fun ht hsd hcr hem => (hra ht).2.2 hsd hcr hem) hxa
    simp only [State.commit, applyCommit, hi.hsc, h1]
    apply ih _ _ ?_ hrr (fun b hb => hx b (List.mem_cons_of_mem _ hb))
    apply inv_addTransition
    cases oc' with
    | some c => exact inv_set a.addr c _ hi h2
    | none =>
      -- only an untouched account that was never loaded stays vacant
      refine ⟨hi.db, hi.hsc, fun x => ?_, hi.loaded, hi.contracts, hi.preA, hi.preC⟩
      by_cases hxa : x = a.addr
      · subst hxa; rw [h3 rfl]; simpa [St.set] using h2
      · simpa [St.set, hxa] using hi.accts x

theorem inc_ok {D : Db} {sc : Bool} (hD : DbWf D) (hE : CodelessNoStorage D) (l : List (Addr × Nat)) :
    ∀ (s : State) (t : St), Inv D E sc s t → ReachInc t l → Inv D E sc (s.incrementBalances l) (applyInc t l) := by
  induction l with
  | nil => intro s t hi _; exact hi
  | cons x rest ih =>
    intro s t hi hr
    obtain ⟨a, amount⟩ := x
    unfold State.incrementBalances applyInc
    unfold ReachInc at hr
    by_cases hz : amount = 0
    · simp only [hz, if_true] at hr ⊢; exact ih s t hi hr
    · simp only [hz, if_false] at hr ⊢
      obtain ⟨hno, hrr⟩ := hr
      obtain ⟨h1, h2, h3⟩ := inv_load a hD hi
      have hrok := (hi.accts a).1
      apply ih _ _ ?_ hrr
      apply inv_addTransition
      exact inv_set a _ _ h1 (rel_inc amount hD hE hrok h3 hz hno)

theorem drain_ok {D : Db} {sc : Bool} (hD : DbWf D) (hE : CodelessNoStorage D) (l : List Addr) :
    ∀ (s : State) (t : St), Inv D E sc s t → ReachDrain t l →
      ∃ s', s.drainBalances l = .ok (s', (applyDrain t l).2) ∧ Inv D E sc s' (applyDrain t l).1 := by
  induction l with
  | nil => intro s t hi _; exact ⟨s, rfl, hi⟩
  | cons a rest ih =>
    intro s t hi hr
    obtain ⟨hb, hr2, hrr⟩ := hr
    obtain ⟨h1, h2, h3⟩ := inv_load a hD hi
    have hrok := (hi.accts a).1
    obtain ⟨c', tr, hd, hrel⟩ := rel_drain hD hE hrok h3 hb hr2
    have hinv := inv_addTransition a (some tr) (inv_set a c' _ h1 hrel)
    obtain ⟨s', hs1, hs2⟩ := ih _ _ hinv hrr
    refine ⟨s', ?_, hs2⟩
    simp only [State.drainBalances, applyDrain, hd, hs1]

theorem step_ok {D : Db} {sc : Bool} {s : State} {t : St} (op : Op) (hD : DbWf D)
    (hE : CodelessNoStorage D) (hi : Inv D E sc s t) (hr : ReachOp sc t op) (hx : ExclOp sc op) :
    ∃ s', s.step op = .ok (s', (step E.code sc t op).2) ∧ Inv D E sc s' (step E.code sc t op).1 := by
  cases op with
  | basic a =>
    obtain ⟨h1, h2⟩ := basic_ok a hD hi
    exact ⟨_, by simp only [State.step, step, h2], h1⟩
  | storage a k =>
    obtain ⟨s', h1, h2⟩ := storage_ok a k hi hr
    refine ⟨s', ?_, h2⟩
    simp only [State.step, step, h1, storageOf]
    cases t.ref a <;> rfl
  | code h =>
    obtain ⟨h1, h2⟩ := inv_codeByHash h hi
    exact ⟨_, by simp only [State.step, step, h2], h1⟩
  | commit accts =>
    obtain ⟨s', h1, h2⟩ := commit_ok hD hE accts s t hi hr hx
    exact ⟨s', by simp only [State.step, step, h1], h2⟩
  | inc l =>
    exact ⟨_, rfl, inc_ok hD hE l s t hi hr⟩
  | drain l =>
    obtain ⟨s', h1, h2⟩ := drain_ok hD hE l s t hi hr
    exact ⟨s', by simp only [State.step, step, h1], h2⟩

theorem run_ok {D : Db} {sc : Bool} (hD : DbWf D) (hE : CodelessNoStorage D) (ops : List Op) :
    ∀ (s : State) (t : St), Inv D E sc s t → Reach E.code sc t ops → Excl sc ops →
      ∃ s', s.run ops = .ok (s', (run E.code sc t ops).2) ∧ Inv D E sc s' (run E.code sc t ops).1 := by
  induction ops with
  | nil => intro s t hi _ _; exact ⟨s, rfl, hi⟩
  | cons op rest ih =>
    intro s t hi hr hx
    obtain ⟨hr1, hr2⟩ := hr
    obtain ⟨s1, h1, h2⟩ := step_ok op hD hE hi hr1 (hx op (List.mem_cons_self ..))
    obtain ⟨s2, h3, h4⟩ := ih s1 _ h2 hr2 (fun o ho => hx o (List.mem_cons_of_mem _ ho))
    exact ⟨s2, by simp only [State.run, run, h1, h3], h4⟩

theorem inv_init {D : Db} (sc bu : Bool) (hD : DbWf D) (hE : CodelessNoStorage D) :
    Inv D D sc (State.build D sc bu none) (St.init D) :=
  ⟨rfl, rfl, fun a => ⟨initial_acct a hD hE, rfl⟩, fun a h => by simp [St.init] at h,
    fun h c hc => by simp [State.build] at hc, fun a => rfl, fun h => rfl⟩

theorem state_reads_ref {D : Db} (sc bu : Bool) (ops : List Op) (hD : DbWf D)
    (hE : CodelessNoStorage D) (hx : Excl sc ops) (hr : Reach D.code sc (St.init D) ops) :
    ∃ s', (State.build D sc bu none).run ops = .ok (s', (run D.code sc (St.init D) ops).2) := by
  obtain ⟨s', h, _⟩ := run_ok (E := D) hD hE ops _ _ (inv_init sc bu hD hE) hr hx
  exact ⟨s', h⟩

theorem inv_init_pre {D : Db} (sc bu : Bool) (B : Addr → Option BundleAccount) (BC : Nat → Option Code)
    (hD : DbWf E) (hE : CodelessNoStorage E)
    (hA : ∀ a, match (B a).map BundleAccount.toCache with
      | some c => CacheRel D E.code a c (refOfDb E a)
      | none => refOfDb E a = refOfDb D a)
    (hC : ∀ h, E.code h = match BC h with | some c => c | none => D.code h) :
    Inv D E sc (State.build D sc bu (some (B, BC))) (St.init E) :=
  ⟨rfl, rfl, fun a => ⟨initial_acct a hD hE, rfl⟩, fun a h => by simp [St.init] at h,
    fun h c hc => by simp [State.build] at hc, hA, hC⟩

end Revm.Proofs.StateDb
