import Revm.Proofs.InterpLoop
import Revm.Proofs.InterpCall
import Revm.Proofs.Jump
/-! C25, legacy code: the host and action instructions in any code format (`execHost_good`), `execInstr` and `step` as a
whole (`step_fetch`), the invariant of instruction boundaries, and the instantiation of the generic loop theorems; the
initial state of a frame satisfies `Inv` (`init_inv`, for any list of naturals as code), and `gas_decreases` read on the
meter itself, in the form `Props/C25.lean` states it (`step_next_gas`). -/
namespace Revm.Proofs.Interp
open Revm Revm.Model Revm.Model.Interp
open Revm.Proofs.Memory (WF)

/-- the instructions that ask the host or hand out a CALL / CREATE action; their handlers do not look at the code
format -/
def isHostI : Instr → Bool
  | .keccak256 | .balance | .selfbalance | .extcodesize | .extcodehash | .extcodecopy | .blockhash | .sload
  | .sstore | .tload | .tstore | .log _ | .selfdestruct | .create _ | .call | .callcode | .delegatecall
  | .staticcall => true
  | _ => false

theorem execHost_good {N : IState → Prop} {A : Action → IState → Prop} {s0 : IState} (hb : Base s0)
    (hN : ∀ s', Done1 s0 s' → N s') (hA : ∀ a s', ActRel s0 a s' ∧ EvmLink.ActOk2 a → A a s') (i : Instr)
    (hi : isHostI i = true) :
    GoodP (Halt s0) N A (execInstr i s0) := by
  cases i with
  | keccak256 => exact keccak256I_good hb hN
  | balance => exact balanceI_good hb hN
  | selfbalance => exact selfbalanceI_good hb hN
  | extcodesize => exact extcodesizeI_good hb hN
  | extcodehash => exact extcodehashI_good hb hN
  | extcodecopy => exact extcodecopyI_good hb hN
  | blockhash => exact blockhashI_good hb hN
  | sload => exact sloadI_good hb hN
  | sstore => exact sstoreI_good hb hN
  | tload => exact tloadI_good hb hN
  | tstore => exact tstoreI_good hb hN
  | log n => exact logI_good hb hN n.val
  | selfdestruct => exact selfdestructI_good hb hN
  | create c2 => exact .pure (toDoneActionP hA ((createI_tr c2).act s0 hb.rel))
  | call => exact callI_good hb hA
  | callcode => exact callcodeI_good hb hA
  | delegatecall => exact delegatecallI_good hb hA
  | staticcall => exact staticcallI_good hb hA
  | _ => cases hi

/-- one instruction of legacy code, for any post-condition `A` of the action it may hand out that follows from what
the CALL / CREATE handlers establish: the resources (`ActRel`) and a calldata / initcode that is a Rust `Bytes` -/
theorem execInstr_goodA {A : Action → IState → Prop} {s0 : IState} (hs : Start s0)
    (hA : ∀ a s', ActRel s0 a s' ∧ EvmLink.ActOk2 a → A a s') (i : Instr) :
    GoodP (Halt s0) (Next s0) A (execInstr i s0) := by
  have hN : ∀ s', Done1 s0 s' → Next s0 s' := fun _ h => Done1.next hs h
  by_cases hh : isHostI i = true
  · exact execHost_good hs.toBase hN hA i hh
  unfold execInstr
  cases hp : execPure i with
  | some m => exact .pure (toDoneP (fun _ hq => hq) (execPure_tr hs i m hp s0 hs.rel))
  | none =>
    cases i with
    | eofcreate =>
      exact hostCallAction_tr hs.toBase hA (fun _ _ => False) (eofGuard_tr hs _) fun _ _ _ hf => hf.elim
    | extcall =>
      exact hostCallOptAction_tr hs.toBase hN hA (fun _ _ => False) (eofGuard_tr hs _) fun _ _ _ hf => hf.elim
    | extdelegatecall =>
      exact hostCallOptAction_tr hs.toBase hN hA (fun _ _ => False) (eofGuard_tr hs _) fun _ _ _ hf => hf.elim
    | extstaticcall =>
      exact hostCallOptAction_tr hs.toBase hN hA (fun _ _ => False) (eofGuard_tr hs _) fun _ _ _ hf => hf.elim
    -- what is left is a pure instruction (`hp` is absurd) or a host one (excluded by `hh`)
    | _ => first | (cases hp; done) | exact absurd rfl hh

/-- what holds of every state `run` reaches between two instructions of legacy code -/
structure Inv (s : IState) : Prop where
  codeLen : s.code.length = s.origLen + 33
  pad : ∀ i, s.origLen ≤ i → i < s.code.length → s.code[i]? = some 0
  jt : ∀ t, Jump.isValid s.jumpTable t = true → t < s.origLen
  legacy : s.isEof = false
  notInit : s.isEofInit = false
  envOk : GasCalc.enabled s.spec GasCalc.SpecId.MERGE = true → s.env.prevrandao ≠ none
  origLe : s.origLen ≤ Memory.ISIZE_MAX
  /-- `pc_in_bounds` -/
  pc : s.pc < s.code.length
  stack : s.stack.length ≤ 1024
  memWF : WF s.mem
  memCk : s.mem.lastCheckpoint ≤ 2^62
  rdLen : s.returnData.length ≤ Memory.ISIZE_MAX
  inLen : s.input.length ≤ Memory.ISIZE_MAX
  meas : measure s ≤ U64 - 1
  safe : measure s < U64 - 1 ∨ s.stack = []

theorem Inv.base {s : IState} (h : Inv s) : Base s :=
  { envOk := h.envOk, stack := h.stack, memWF := h.memWF, memCk := h.memCk, rdLen := h.rdLen, inLen := h.inLen,
    meas := h.meas, safe := h.safe }

/-- `Inv` only looks at the static part of the state beyond `Base` -/
theorem Inv.of {s x : IState} (h : Inv s) (hb : Base x) (hcode : x.code = s.code) (hol : x.origLen = s.origLen)
    (hjt : x.jumpTable = s.jumpTable) (heof : x.isEof = s.isEof) (hinit : x.isEofInit = s.isEofInit)
    (hpc : x.pc < x.code.length) : Inv x :=
  { codeLen := by rw [hcode, hol]; exact h.codeLen
    pad := by rw [hcode, hol]; exact h.pad
    jt := by rw [hjt, hol]; exact h.jt
    legacy := by rw [heof]; exact h.legacy
    notInit := by rw [hinit]; exact h.notInit
    envOk := hb.envOk
    origLe := by rw [hol]; exact h.origLe
    pc := hpc
    stack := hb.stack, memWF := hb.memWF, memCk := hb.memCk, rdLen := hb.rdLen, inLen := hb.inLen
    meas := hb.meas, safe := hb.safe }

theorem Inv.transfer {s x : IState} (h : Inv s) (hs : SameStatic s x) (hb : Base x) : Inv x :=
  h.of hb hs.code hs.origLen hs.jt hs.isEof hs.isEofInit (by rw [hs.pc, hs.code]; exact h.pc)

/-- the legacy invariant together with "the code is still `c`" (what `pc_in_bounds` is stated about) -/
def InvC (c : List Nat) (n : Nat) (s : IState) : Prop := Inv s ∧ s.code = c ∧ s.origLen = n

theorem invC_loop (c : List Nat) (n : Nat) : LoopInv (InvC c n) :=
  ⟨fun _ h => h.1.base,
   fun _ _ h hs hb => ⟨h.1.transfer hs hb, hs.code.trans h.2.1, hs.origLen.trans h.2.2⟩⟩

theorem decode_zero : decode 0 = .stop := rfl

theorem step_eq {s : IState} (h : s.pc < s.code.length) :
    step s = execInstr (decode s.code[s.pc]) { s with pc := s.pc + 1 } := by
  unfold step
  rw [List.getElem?_eq_getElem h]

theorem Inv.start {s : IState} (hi : Inv s) (hin : s.pc < s.origLen) : Start { s with pc := s.pc + 1 } :=
  { codeLen := hi.codeLen, jt := hi.jt, legacy := hi.legacy, notInit := hi.notInit, envOk := hi.envOk,
    origLe := hi.origLe, pc := hin, stack := hi.stack, memWF := hi.memWF, memCk := hi.memCk,
    rdLen := hi.rdLen, inLen := hi.inLen, meas := hi.meas, safe := hi.safe }

theorem InvC.next {c : List Nat} {n : Nat} {s s' : IState} (hi : InvC c n s)
    (hc : Core 1 true false 0 { s with pc := s.pc + 1 } s') (hpc : s'.pc < s'.code.length) : InvC c n s' :=
  ⟨hi.1.of ((hi.1.base : Base s).ofRes (s := s) { hc.toRes with }) hc.code hc.origLen hc.jt hc.isEof hc.isEofInit hpc,
    hc.code.trans hi.2.1, hc.origLen.trans hi.2.2⟩

theorem step_in_padding {s : IState} (hi : Inv s) (h : s.origLen ≤ s.pc) :
    step s = .halt .Stop [] { s with pc := s.pc + 1 } := by
  have hpc := hi.pc
  rw [step_eq hpc]
  have h0 := hi.pad s.pc h hpc
  rw [List.getElem?_eq_getElem hpc] at h0
  injection h0 with h0
  rw [h0, decode_zero]
  rfl

/-- one instruction of legacy code from a boundary, relative to the state after the opcode fetch: what
`execInstr_goodA` says inside the code, the `STOP` of the padding behind it -/
theorem step_fetch {s : IState} (hi : Inv s) :
    GoodP (Halt { s with pc := s.pc + 1 }) (Next { s with pc := s.pc + 1 })
      (fun a s' => ActOk { s with pc := s.pc + 1 } a s' ∧ EvmLink.ActOk2 a) (step s) := by
  by_cases hin : s.pc < s.origLen
  · rw [step_eq hi.pc]
    exact execInstr_goodA (hi.start hin) (fun _ _ h => ⟨ActRel.ok (hi.start hin) h.1, h.2⟩) _
  · rw [step_in_padding hi (by omega)]
    exact .pure (.halt (Base.rel (s := { s with pc := s.pc + 1 }) { hi.base with }).toCore.toHalt)

theorem step_good (c : List Nat) (n : Nat) : StepInv (InvC c n) := fun s hi =>
  (step_fetch hi.1).mono (fun _ h => by have := h.meas; rw [Nat.add_zero] at this; exact this)
    (fun _ hn => ⟨hi.next hn.core hn.pcOk, hn.core.meas⟩) (fun _ _ hn => ⟨hi.next hn.1.core hn.1.pcOk, hn.1.gas, hn.1.ret⟩)

theorem reach_inv (c : List Nat) (n : Nat) {η : Type} (o : Oracle η) (ho : OracleOk o) {s0 : IState} {h0 : η}
    (hi0 : InvC c n s0) {s : IState} {h : η} (hr : Reach o s0 h0 s h) : InvC c n s ∧ measure s ≤ measure s0 :=
  reach_invP (invC_loop c n) (step_good c n) o ho hi0 hr

/-- the `Env` passed `Env::validate_block_env`: from the Merge on `prevrandao` is set -/
def EnvOk (spec : Nat) (env : Env) : Prop :=
  GasCalc.enabled spec GasCalc.SpecId.MERGE = true → env.prevrandao ≠ none

/-- a memory whose running context is fresh (`SharedMemory::new()` or right after `new_context()`) -/
structure FreshMem (m : Memory.SharedMemory) : Prop where
  wf : WF m
  ck : m.lastCheckpoint ≤ 2^62
  empty : clen m = 0

theorem freshMem_new : FreshMem Memory.new :=
  ⟨Proofs.Memory.new_wf, by show (0 : Nat) ≤ 2^62; omega, rfl⟩

theorem mcost_fresh {m : Memory.SharedMemory} (h : FreshMem m) : Memory.currentExpansionCost m = 0 := by
  unfold Memory.currentExpansionCost
  rw [len_clen h.wf, h.empty]
  rfl

/-- the initial state of a frame satisfies `Inv` for any list of naturals as code: the analysis marks `t` only
where `code[t] = JUMPDEST`, so there is no jump destination in the padding -/
theorem init_inv' (code input : List Nat) (gasLimit : Nat) (isStatic : Bool) (spec target caller callValue : Nat)
    (env : Env) (mem : Memory.SharedMemory)
    (hcl : code.length ≤ Memory.ISIZE_MAX) (hil : input.length ≤ Memory.ISIZE_MAX)
    (hgas : gasLimit < U64) (henv : EnvOk spec env) (hmem : FreshMem mem) :
    Inv (IState.init code input gasLimit isStatic spec target caller callValue env mem)
      ∧ measure (IState.init code input gasLimit isStatic spec target caller callValue env mem) = gasLimit := by
  have hmeas : measure (IState.init code input gasLimit isStatic spec target caller callValue env mem)
      = gasLimit := by
    show gasLimit + Memory.currentExpansionCost mem = gasLimit
    rw [mcost_fresh hmem]; rfl
  refine ⟨?_, hmeas⟩
  exact
    { codeLen := Proofs.Jump.pad_length code
      pad := Proofs.Jump.pad_getElem code
      jt := by
        intro t ht
        show t < code.length
        by_cases h : t < code.length
        · exact h
        · have := Proofs.Jump.isValid_beyond' code t (by omega)
          have ht' : Jump.isValid (Jump.analyze (Jump.pad code)) t = true := ht
          rw [this] at ht'; cases ht'
      legacy := rfl
      notInit := rfl
      envOk := henv
      origLe := hcl
      pc := by show 0 < (Jump.pad code).length; rw [Proofs.Jump.pad_length]; omega
      stack := by show ([] : List Nat).length ≤ 1024; simp
      memWF := hmem.wf
      memCk := hmem.ck
      rdLen := by show ([] : List Nat).length ≤ _; simp
      inLen := hil
      meas := by rw [hmeas]; omega
      safe := Or.inr rfl }

theorem init_inv (code input : List Nat) (gasLimit : Nat) (isStatic : Bool) (spec target caller callValue : Nat)
    (env : Env) (mem : Memory.SharedMemory)
    (hcl : code.length ≤ Memory.ISIZE_MAX) (hil : input.length ≤ Memory.ISIZE_MAX)
    (hgas : gasLimit < U64) (henv : EnvOk spec env) (hmem : FreshMem mem) :
    InvC (Jump.pad code) code.length (IState.init code input gasLimit isStatic spec target caller callValue env mem)
      ∧ measure (IState.init code input gasLimit isStatic spec target caller callValue env mem) = gasLimit :=
  have h := init_inv' code input gasLimit isStatic spec target caller callValue env mem hcl hil hgas henv hmem
  ⟨⟨h.1, rfl, rfl⟩, h.2⟩

theorem mcost_mono {s0 s : IState} (h1 : WF s0.mem) (h2 : WF s.mem) (hg : clen s0.mem ≤ clen s.mem) :
    mcost s0 ≤ mcost s := by
  unfold mcost Memory.currentExpansionCost
  rw [len_clen h1, len_clen h2]
  exact Proofs.Memory.memoryGas_mono (Proofs.Memory.numWords_mono hg)

/-- `gas_decreases` on the meter itself: the memory of the frame does not shrink, so what the measure loses the
meter loses -/
theorem Next.gasLt {s0 s' : IState} (h0 : WF s0.mem) (hn : Next s0 s') : s'.gas.remaining + 1 ≤ s0.gas.remaining := by
  have h1 := hn.core.meas
  have h2 : mcost s0 ≤ mcost s' := mcost_mono h0 hn.core.memWF hn.core.grow
  have e1 : measure s0 = s0.gas.remaining + mcost s0 := rfl
  have e2 : measure s' = s'.gas.remaining + mcost s' := rfl
  rw [e1, e2] at h1
  omega

theorem step_next_gas {η : Type} (o : Oracle η) (ho : OracleOk o) {s s' : IState} (hi : Inv s) (h h' : η)
    (hres : resolve o (step s) h = (.next s', h')) : s'.gas.remaining + 1 ≤ s.gas.remaining := by
  have hg := ((step_fetch hi).mono (H' := fun _ => True) (N' := fun s' => s'.gas.remaining + 1 ≤ s.gas.remaining)
    (A' := fun _ _ => True) (fun _ _ => trivial) (fun _ hn => hn.gasLt (s0 := { s with pc := s.pc + 1 }) hi.memWF)
    (fun _ _ _ => trivial)).resolve o ho h
  rw [hres] at hg
  cases hg with
  | next hlt => exact hlt

end Revm.Proofs.Interp
