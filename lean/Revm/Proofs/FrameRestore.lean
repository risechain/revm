import Revm.Proofs.FrameTotalJournal
import Revm.Proofs.FrameDepth
/-! C07 tied to C06: the frame functions read as C06 histories (`Spec.JournalAbs.run` over `Op`s), so that
`revert_restores_total` applies: a create frame that fails leaves the observable journal state (`AbsEq`) as it was just
before its checkpoint, after the effects `PreCreate` records (`createFrom_restored`). Of a call frame only the history
is here (`inCall_run`); Props/C07 does the rest. The frame's checkpoint is number 0 (`cps := [cp]`) and the body is
admissible from base 1: it reverts only checkpoints of its own. -/
namespace Revm.Proofs.Frame
open Revm Revm.Model.Journal Revm.Model.Frame Revm.Spec.JournalAbs Revm.Proofs.Journal

abbrev jstep := Spec.JournalAbs.step

/-- the journal operations of the value step of `make_call_frame` -/
def valueOps (inp : CallInputs) : List Op :=
  match inp.value with
  | .transfer v => if v = 0 then [.load inp.target, .touch inp.target] else [.transfer inp.caller inp.target v]
  | .apparent _ => []

theorem callValueStep_run {db : Db} {hs : Addr → Bool} {b : Nat} {s s' : JState} {inp : CallInputs} {e}
    (h : callValueStep db s inp = some (s', e)) (cps : List Checkpoint) :
    jrun db { js := s, cps := cps } (valueOps inp) = some { js := s', cps := cps } ∧
    admissibleRun db hs b { js := s, cps := cps } (valueOps inp) = true := by
  unfold callValueStep at h
  unfold valueOps
  cases hv : inp.value with
  | transfer v =>
    simp only [hv] at h ⊢
    by_cases h0 : v = 0
    · rw [if_pos h0] at h ⊢
      obtain ⟨⟨s1, c⟩, h1, h⟩ := Option.bind_eq_some_iff.1 h
      obtain ⟨s2, h2, h3⟩ := Option.bind_eq_some_iff.1 h
      cases h3
      simp [jrun, Spec.JournalAbs.run, Spec.JournalAbs.step, h1, h2, admissibleRun, admissible]
    · rw [if_neg h0] at h ⊢
      simp [jrun, Spec.JournalAbs.run, Spec.JournalAbs.step, h, admissibleRun, admissible]
  | apparent v =>
    simp only [hv] at h ⊢
    cases h
    exact ⟨rfl, rfl⟩

theorem loadCodes_run {db : Db} {hs : Addr → Bool} {b : Nat} : ∀ {codes : List Addr} {s sm : JState},
    loadCodes db s codes = some sm → ∀ cps : List Checkpoint,
    jrun db { js := s, cps := cps } (codes.map .loadCode) = some { js := sm, cps := cps } ∧
    admissibleRun db hs b { js := s, cps := cps } (codes.map .loadCode) = true
  | [], s, sm, h, cps => by cases h; exact ⟨rfl, rfl⟩
  | a :: rest, s, sm, h, cps => by
    obtain ⟨⟨s1, c⟩, h1, h2⟩ := Option.bind_eq_some_iff.1 h
    obtain ⟨r2, a2⟩ := loadCodes_run (hs := hs) (b := b) h2 cps
    have st : jstep db { js := s, cps := cps } (.loadCode a) = some { js := s1, cps := cps } := by
      simp only [jstep, Spec.JournalAbs.step, h1, Option.map_some]
    exact ⟨by simp only [List.map_cons, jrun, Spec.JournalAbs.run, st]; exact r2,
      by simp only [List.map_cons, admissibleRun, admissible, st, Bool.true_and]; exact a2⟩

theorem inCall_run {db : Db} {hs : Addr → Bool} {b : Nat} {s sv sm : JState} {inp : CallInputs} {e} {codes : List Addr}
    (hv : callValueStep db s inp = some (sv, e)) (hc : loadCodes db sv codes = some sm) (cps : List Checkpoint) :
    jrun db { js := s, cps := cps } (valueOps inp ++ codes.map .loadCode) = some { js := sm, cps := cps } ∧
    admissibleRun db hs b { js := s, cps := cps } (valueOps inp ++ codes.map .loadCode) = true := by
  obtain ⟨rv, av⟩ := callValueStep_run (hs := hs) (b := b) hv cps
  obtain ⟨rc, ac⟩ := loadCodes_run (hs := hs) (b := b) hc cps
  exact ⟨(jrun_append _ _ rv).trans rc, adm_append _ _ av rv ac⟩

theorem good_loadAccountDelegated {db : Db} {s s0 : JState} {a : Addr} {x} (hdb : DbBal db) (g : Good s)
    (h0 : loadAccountDelegated db s a = some (s0, x)) : Good s0 := by
  obtain ⟨x1, x2, x3⟩ := x
  obtain ⟨⟨es, p⟩, _⟩ := loadAccountDelegated_pushes (db := db) h0
  exact (g.of_pushes hdb p).1

theorem dbOk_trivial (db : Db) : DbOk db (fun _ => true) := by intro a h; cases h

/-- the effects of `make_create_frame` / `make_eofcreate_frame` BEFORE the checkpoint: the caller is loaded
(warm), its nonce is bumped, the created address is loaded (warm) -/
def PreCreate (db : Db) (s : JState) (caller created : Addr) (sPre : JState) : Prop :=
  ∃ s1 c n s2 c3, loadAccount db s caller = some (s1, c) ∧ incNonce s1 caller = some (s2, some n) ∧
    loadAccount db s2 created = some (sPre, c3)

theorem preCreate_funded {db : Db} {s1 s2 s3 : JState} {caller created : Addr} {cacc : Acct} {v : Nat} {r} {c3 : Bool}
    (hc : s1.state caller = some cacc) (hb : ¬ cacc.info.balance < v)
    (hn : incNonce s1 caller = some (s2, r)) (hl : loadAccount db s2 created = some (s3, c3)) :
    ∀ acc, s3.state caller = some acc → v ≤ acc.info.balance := by
  intro acc hacc
  obtain ⟨acc2, h2, hb2⟩ := incNonce_balance hn hc
  obtain ⟨acc3, h3, hi3⟩ := loadAccount_info hl caller acc2 h2
  rw [hacc] at h3; cases h3
  rw [hi3, hb2]; omega

theorem createTail_frame {db : Db} {s2 s1 : JState} {spec caller v created : Nat} {ip hs : Addr → Bool} {cp : Checkpoint} {a : Addr}
    (h : createTail db s2 spec caller v created ip hs = some (s1, .frame cp, a)) :
    a = created ∧ ∃ s3 c, loadAccount db s2 created = some (s3, c) ∧
      createAccountCheckpoint s3 caller created (hs created) v spec = some (s1, .ok cp) := by
  obtain ⟨rfl, h⟩ := createTail_cases h
  rcases h with ⟨_, _, hr⟩ | ⟨_, s3, c, cp', h1, h2, hr⟩ | ⟨_, _, _, _, _, _, hr⟩
  · cases hr
  · cases hr; exact ⟨rfl, s3, c, h1, h2⟩
  · cases hr

/-- `createTail` rejected inside `create_account_checkpoint` (collision found there, or balance overflow) -/
theorem createTail_rejected {db : Db} {s2 s1 : JState} {spec caller v created : Nat} {ip hs : Addr → Bool} {res : IRes} {a : Addr}
    (h : createTail db s2 spec caller v created ip hs = some (s1, .result res, a)) (hip : ip created = false) :
    ∃ s3 c e, loadAccount db s2 created = some (s3, c) ∧
      createAccountCheckpoint s3 caller created (hs created) v spec = some (s1, .error e) := by
  rcases (createTail_cases h).2 with ⟨hp, _⟩ | ⟨_, _, _, _, _, _, hr⟩ | ⟨_, s3, c, e, h1, h2, _⟩
  · rw [hip] at hp; cases hp
  · cases hr
  · exact ⟨s3, c, e, h1, h2⟩

/-- what C06's `admissible` asks of a creation, but for the endowment: the frame function's balance check covers it -/
structure CreateAdm (hasStorage : Addr → Bool) (sPre : JState) (created : Addr) (hsAns : Bool) : Prop where
  fresh : ∀ acc, sPre.state created = some acc → acc.created = false
  faithful : hsAns = true ∨ hasStorage created = false

theorem create_admissible {db : Db} {hasStorage : Addr → Bool} {sPre : JState} {caller created : Addr} {hsAns : Bool} {v spec : Nat}
    (ca : CreateAdm hasStorage sPre created hsAns)
    (hf : ∀ acc, sPre.state caller = some acc → v ≤ acc.info.balance) (cps : List Checkpoint) :
    admissible db hasStorage 0 { js := sPre, cps := cps } (.create caller created hsAns v spec) = true := by
  simp only [admissible, Bool.and_eq_true, Bool.or_eq_true, Bool.not_eq_true']
  refine ⟨⟨?_, ca.faithful⟩, ?_⟩
  · cases hs : sPre.state created with
    | none => rfl
    | some acc => simp [ca.fresh acc hs]
  · cases hs : sPre.state caller with
    | none => rfl
    | some acc => simp [hf acc hs]

/-- `revert_restores_total` on the history `.create … :: body` from `sPre` -/
theorem created_then_reverted {db : Db} {hasStorage : Addr → Bool} {sPre s1 : JState} {caller created : Addr} {hsAns : Bool}
    {v spec : Nat} {cp : Checkpoint} (hdb : DbBal db) (hok : DbOk db hasStorage) (g : Good sPre)
    (ca : CreateAdm hasStorage sPre created hsAns)
    (hf : ∀ acc, sPre.state caller = some acc → v ≤ acc.info.balance)
    (hc : createAccountCheckpoint sPre caller created hsAns v spec = some (s1, .ok cp))
    (body : List Op) (r : Run)
    (hadm : admissibleRun db hasStorage 1 { js := s1, cps := [cp] } body = true)
    (hrun : jrun db { js := s1, cps := [cp] } body = some r) :
    ∃ sR, revert r.js cp = some sR ∧ AbsEq db sR sPre := by
  exact Proofs.Journal.revert_restores_total (db := db) hok (rpre := { js := sPre, cps := [] })
    (op := .create caller created hsAns v spec) (r0 := { js := s1, cps := [cp] }) (cp := cp) (ops := body) (r := r)
    (balOk_of hdb g.bal) g.refs g.ne (create_admissible ca hf []) (by simp [Spec.JournalAbs.step, hc]) rfl hadm hrun

theorem good_preCreate {db : Db} {s sPre : JState} {caller created : Addr} (hdb : DbBal db) (g : Good s)
    (hp : PreCreate db s caller created sPre) : Good sPre := by
  obtain ⟨s1, c, n, s2, c3, h1, h2, h3⟩ := hp
  obtain ⟨p1, _⟩ := loadAccount_pushes (db := db) h1
  have g1 := (g.of_pushes hdb p1).1
  obtain ⟨es, p2, _⟩ := incNonce_pushes (db := db) h2
  have g2 := (g1.of_pushes hdb p2).1
  obtain ⟨p3, _⟩ := loadAccount_pushes (db := db) h3
  exact (g2.of_pushes hdb p3).1

theorem createFrom_frame {db : Db} {s s1 : JState} {spec : Nat} {inp : CreateInputs} {addrOf : Nat → Addr} {o : CreateOracle}
    {cp : Checkpoint} {a : Addr} (h : createFrom db s spec inp addrOf o = some (s1, .frame cp, a)) :
    ∃ sPre, PreCreate db s inp.caller a sPre ∧
      createAccountCheckpoint sPre inp.caller a (o.hasStorage a) inp.value spec = some (s1, .ok cp) ∧
      (∀ acc, sPre.state inp.caller = some acc → inp.value ≤ acc.info.balance) := by
  obtain ⟨s1', c, cacc, h1, h2, h3⟩ := createFrom_cases h
  rcases h3 with ⟨_, _, hr, _⟩ | ⟨hb, s2, n, h4, ⟨_, _, hr, _⟩ | ⟨nonce, rfl, h5⟩⟩
  · cases hr
  · cases hr
  · obtain ⟨rfl, s3, c3, h6, h7⟩ := createTail_frame h5
    exact ⟨s3, ⟨s1', c, nonce, s2, c3, h1, h4, h6⟩, h7, preCreate_funded h2 hb h4 h6⟩

theorem createFrom_restored {db : Db} {hasStorage : Addr → Bool} {s s1 : JState} {spec : Nat} {inp : CreateInputs}
    {addrOf : Nat → Addr} {o : CreateOracle} {cp : Checkpoint} {a : Addr} (hdb : DbBal db) (hok : DbOk db hasStorage)
    (g : Good s) (h : createFrom db s spec inp addrOf o = some (s1, .frame cp, a))
    (hadmc : ∀ sPre, PreCreate db s inp.caller a sPre → CreateAdm hasStorage sPre a (o.hasStorage a))
    (body : List Op) (r : Run)
    (hadm : admissibleRun db hasStorage 1 { js := s1, cps := [cp] } body = true)
    (hrun : jrun db { js := s1, cps := [cp] } body = some r) :
    ∃ sPre sR, PreCreate db s inp.caller a sPre ∧ revert r.js cp = some sR ∧ AbsEq db sR sPre := by
  obtain ⟨sPre, hp, hc, hf⟩ := createFrom_frame h
  obtain ⟨sR, hr, he⟩ := created_then_reverted hdb hok (good_preCreate hdb g hp) (hadmc sPre hp) hf hc body r hadm hrun
  exact ⟨sPre, sR, hp, hr, he⟩

end Revm.Proofs.Frame
