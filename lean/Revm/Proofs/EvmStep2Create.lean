import Revm.Proofs.EvmStep2Run
import Revm.Spec.EvmRules2Call
/-! CREATE, CREATE2: `Interp.step` is the rule of `Spec/EvmRules2Call.lean`. -/
namespace Revm.Proofs.EvmStep2
open Revm Revm.Model Revm.Model.Interp
open Revm.Model.GasCalc (enabled)
open Revm.Spec.EvmRules Revm.Spec.EvmRules2
open Revm.Spec.GasCalc (Fork ceil32)
open Revm.Proofs.EvmStep

theorem create_en_petersburg (f : Fork) : enabled f.id GasCalc.SpecId.PETERSBURG = hasCreate2 f := by cases f <;> rfl

/-- `if IS_CREATE2 { check!(interp, PETERSBURG) }` -/
theorem checkWhen_eq (f : Fork) (c2 : Bool) (s : IState) (hf : s.spec = f.id) :
    checkWhen c2 GasCalc.SpecId.PETERSBURG s =
      if (c2 && !hasCreate2 f) = true then .halt .NotActivated [] s else .ok () s := by
  cases c2
  · rfl
  · show check GasCalc.SpecId.PETERSBURG s = _
    rw [check_eq, hf, create_en_petersburg]
    rfl

/-- the EIP-3860 part: the size limit, then `2` per word (the 64-bit word count saturates only where the charge
exceeds any budget below the gas bound) -/
theorem initcodeCharge_eq (f : Fork) (len : Nat) (s : IState) (hf : s.spec = f.id) (hg : s.gas.remaining < GAS_BOUND)
    (hlen : len < U64) :
    initcodeCharge len s =
      if f.hasEIP3860 then
        if maxInitcodeSize s.env < len then .halt .CreateInitCodeSizeLimit [] s
        else if s.gas.remaining < Spec.GasCalc.initcodeCost len then .halt .OutOfGas [] s
        else .ok () (charge s (Spec.GasCalc.initcodeCost len))
      else .ok () s := by
  have hU := U64_val
  have hG := GAS_BOUND_val
  have hcost : ∃ c, GasCalc.initcodeCost len = some c ∧ (c = Spec.GasCalc.initcodeCost len ∨
      (s.gas.remaining < c ∧ s.gas.remaining < Spec.GasCalc.initcodeCost len)) := by
    by_cases h31 : len + 31 < U64
    · exact ⟨_, Proofs.GasCalc.initcodeCost_eq len h31, .inl rfl⟩
    · refine ⟨2 * ((U64 - 1) / 32), ?_, .inr ⟨by omega, by unfold Spec.GasCalc.initcodeCost ceil32; omega⟩⟩
      unfold GasCalc.initcodeCost GasCalc.costPerWord U64ops.checkedMul GasCalc.numWords U64ops.saturatingAdd
        GasCalc.INITCODE_WORD_COST
      rw [if_neg h31, if_pos (by omega)]
  unfold initcodeCharge
  rw [bind_ok _ _ _ _ _ (getS_ok s), hf, Proofs.GasCalc.en_shanghai]
  cases f.hasEIP3860
  · rfl
  · rw [if_pos rfl, if_pos rfl]
    by_cases hlim : maxInitcodeSize s.env < len
    · rw [if_pos hlim, if_pos (show len > maxInitcodeSize s.env from hlim)]
      rfl
    · rw [if_neg hlim, if_neg (show ¬ len > maxInitcodeSize s.env from hlim)]
      obtain ⟨c, hc, h⟩ := hcost
      rw [hc]
      rcases h with rfl | ⟨h1, h2⟩
      · exact gasCharge_eq s _ (by omega)
      · rw [if_pos h2]
        exact gasCharge_fail s c h1

theorem create2Charge_eq (s : IState) (len : Nat) (hl : len < U64) (hg : s.gas.remaining < GAS_BOUND) :
    gasOrFail (GasCalc.create2Cost len) s
      = if s.gas.remaining < Spec.GasCalc.create2Cost len then .halt .OutOfGas [] s
        else .ok () (charge s (Spec.GasCalc.create2Cost len)) :=
  gasOrFail_words s GasCalc.CREATE GasCalc.KECCAK256WORD len (by decide) (by decide) (by decide) hl hg

theorem createCode_run (f : Fork) (off len : Nat) (k : List Nat → M Action) (s : IState)
    (K : IState → List Nat → Done) (hf : s.spec = f.id) (h : Inv true s) (hoff : off < W) (hlen : len < U64)
    (hK : ∀ (g : Gas.Gas) (m : Memory.SharedMemory) (code : List Nat), Inv true { s with gas := g, mem := m } →
        (k code { s with gas := g, mem := m }).toDoneAction = K { s with gas := g, mem := m } code) :
    ((createCode off len >>= k) s).toDoneAction = initCodeAccess f s off len K := by
  unfold createCode initCodeAccess
  refine ite_not_bind_run (fun hz => assoc_run ?_) fun _ => hK s.gas s.mem [] h
  -- what follows the EIP-3860 part, on any state that differs from `s` in the gas meter only
  have hread : ∀ (g0 : Gas.Gas), Inv true { s with gas := g0 } →
      (((asUsizeOrFail off >>= fun o => resizeMem o len >>= fun _ => memSlice o len) >>= k)
          { s with gas := g0 }).toDoneAction
        = (if U64 ≤ off then Done.halt .InvalidOperandOOG [] { s with gas := g0 }
           else memAccess { s with gas := g0 } off len fun s2 => K s2 (load (memOf s2) off len)) := fun g0 h0 => by
    unfold memAccess
    exact assoc_run <| usize_run hoff fun ho => assoc_run <| resize_run h0 fun h3 hcov =>
      slice_run h3 hcov (hK _ _ _ h3)
  have hic := initcodeCharge_eq f len s hf h.bound hlen
  by_cases hsh : f.hasEIP3860 = true
  · rw [if_pos hsh] at hic
    rw [if_pos hsh]
    by_cases hlim : maxInitcodeSize s.env < len
    · rw [if_pos hlim] at hic
      rw [if_pos hlim]
      exact halt_run hic
    · rw [if_neg hlim] at hic
      rw [if_neg hlim]
      unfold needGas
      exact fail_run hic fun _ => hread _ (h.charge _)
  · rw [if_neg hsh] at hic
    rw [if_neg hsh]
    exact ok_run hic (hread s.gas h)

theorem createGas_le (f : Fork) (g : Gas.Gas) : createGas f g ≤ g.remaining := by
  unfold createGas Spec.Gas.remaining63of64 Spec.Gas.abs
  split
  · exact Nat.sub_le _ _
  · exact Nat.le_refl _

/-- the end of `create`: the child's gas is taken from the meter, the action is emitted. The scheme's charge is a variable `c`:
`charge s c` meets the goal syntactically, where a numeral has `s` and `charge s c` compared field by field -/
theorem createTail_eq (f : Fork) (salt : Option Nat) (value : Nat) (code : List Nat) (s0 s : IState) (c : Nat)
    (hf : s.spec = f.id) (hg : s.gas.remaining < U64) (ht : s.target = s0.target) :
    ((do
        let s ← getS
        let gasLimit := s.gas.remaining
        let gasLimit :=
          if enabled s.spec GasCalc.SpecId.TANGERINE then U64ops.wsub gasLimit (gasLimit / 64) else gasLimit
        gasCharge gasLimit
        let s ← getS
        pure (Action.create { caller := s.target, salt := salt, value := value, initCode := code,
                              gasLimit := gasLimit }) : M Action)
      (charge s c)).toDoneAction = createEmit f s0 (charge s c) salt value code := by
  have hU := U64_val
  have hf : (charge s c).spec = f.id := hf
  have hg : (charge s c).gas.remaining < U64 := by show s.gas.remaining - c < U64; omega
  have ht : (charge s c).target = s0.target := ht
  generalize charge s c = s at hf hg ht ⊢
  refine getS_run (E := Exec.toDoneAction) ?_
  have hgl : (if enabled s.spec GasCalc.SpecId.TANGERINE = true then U64ops.wsub s.gas.remaining (s.gas.remaining / 64)
      else s.gas.remaining) = createGas f s.gas := by
    unfold createGas
    rw [hf, Proofs.GasCalc.en_tangerine, Proofs.Gas.wsub_of_le _ _ hg (by omega)]
    rfl
  rw [hgl]
  refine ok_run (gasCharge_ok s _ hg (createGas_le f s.gas)) (getS_run ?_)
  unfold createEmit
  rw [← ht]
  rfl

/-- the scheme's charge (CREATE2: after its salt is popped) and the end of `create`, on the state `s2` left after the init
code was read, with the words `rest` on its stack -/
theorem createScheme_run (f : Fork) (c2 : Bool) (value len : Nat) (code rest : List Nat) (s0 s2 : IState)
    (hm : Inv true s2) (hf : s2.spec = f.id) (hst : s2.stack = rest.reverse) (ht : s2.target = s0.target)
    (hl : len < U64) :
    ((createScheme c2 len >>= fun salt => do
        let s ← getS
        let gasLimit := s.gas.remaining
        let gasLimit :=
          if enabled s.spec GasCalc.SpecId.TANGERINE then U64ops.wsub gasLimit (gasLimit / 64) else gasLimit
        gasCharge gasLimit
        let s ← getS
        pure (Action.create { caller := s.target, salt := salt, value := value, initCode := code,
                              gasLimit := gasLimit }) : M Action) s2).toDoneAction =
      if c2 then
        match (generalizing := false) rest with
        | salt :: rest' =>
          needGas { s2 with stack := rest'.reverse } (Spec.GasCalc.create2Cost len) fun s3 =>
            createEmit f s0 s3 (some salt) value code
        | [] => .halt .StackUnderflow [] s2
      else needGas s2 GasCalc.CREATE fun s3 => createEmit f s0 s3 none value code := by
  unfold createScheme needGas
  cases c2
  · simp only [Bool.false_eq_true, if_false]
    exact assoc_run <| gas_run hm fun _ => ok_run (a := (none : Option Nat)) rfl <|
      createTail_eq f none value code s0 s2 _ hf hm.gas ht
  · simp only [if_true]
    refine assoc_run ?_
    rcases rest with _ | ⟨salt, rest'⟩
    · exact halt_run (pop1_underflow _ (by rw [hst]; simp))
    · have h2 := (hm.split (pre := [salt]) (rest := rest') (by rw [hst]; simp)).2
      exact ok_run (pop1_ok _ rest'.reverse salt (by rw [hst]; simp)) <| assoc_run <|
        gasOrFail_run h2 (create2Charge_eq _ len hl h2.bound) fun _ => ok_run (a := some salt) rfl <|
          createTail_eq f (some salt) value code s0 { s2 with stack := rest'.reverse } _ hf h2.gas ht

theorem create_run (f : Fork) (c2 : Bool) (s : IState) (hwf : WFM s) (hf : s.spec = f.id) :
    (createI c2 (adv s)).toDoneAction = createRule f c2 s := by
  unfold createI createRule
  exact nonStatic_run <| fail_run (checkWhen_eq f c2 (adv s) hf) fun _ =>
    pop3_run hwf.inv fun value off len rest _ _ hoff hlen h1 => usize_run hlen fun hl =>
      createCode_run f off len _ _ _ hf h1 hoff hl fun g m code hm =>
        createScheme_run f c2 value len code rest s _ hm hf rfl rfl hl

theorem step_create (f : Fork) (s : IState) (hcode : s.code[s.pc]? = some 0xf0) (hwf : WFM s) (hf : s.spec = f.id) :
    step s = .pure (createRule f false s) :=
  (step_eq s _ hcode).trans (congrArg Outcome.pure (create_run f false s hwf hf))

theorem step_create2 (f : Fork) (s : IState) (hcode : s.code[s.pc]? = some 0xf5) (hwf : WFM s) (hf : s.spec = f.id) :
    step s = .pure (createRule f true s) :=
  (step_eq s _ hcode).trans (congrArg Outcome.pure (create_run f true s hwf hf))

/-- where the table of `hasCreate2` (the implementation's `PETERSBURG` gate) differs from the main-net activation of
EIP-1014 (Constantinople): on the fork value `constantinople` CREATE2 is not activated. The implementation never runs
an interpreter on that value (`spec_to_generic!` maps Constantinople to Petersburg). -/
theorem create2_constantinople_notActivated (s : IState) (hs : s.isStatic = false) :
    createRule .constantinople true s = .halt .NotActivated [] (adv s) := by
  unfold createRule
  rw [if_neg (by rw [hs]; exact Bool.false_ne_true)]
  rfl

end Revm.Proofs.EvmStep2
