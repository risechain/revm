import Revm.Proofs.FrameTotalFrames
import Revm.Proofs.FrameLoop
/-! C07: `run_the_loop` never panics: `LInv` is kept by every step whose action meets `actOk` (`step_total`,
`run_total`). `LInv` stands beside the depth invariant `Inv` of FrameLoop and does not imply it; a lemma about a
running loop assumes both. -/
namespace Revm.Proofs.Frame
open Revm Revm.Model.Journal Revm.Model.Frame Revm.Spec.JournalAbs Revm.Proofs.Journal

/-- the created address of a create frame is loaded (`set_code` dereferences it) -/
def frameAddrOk (s : JState) : Frame → Prop
  | .call _ => True
  | .create _ a => (s.state a).isSome
  | .eofcreate _ a => (s.state a).isSome

/-- checkpoints of the open frames: journal indices strictly increasing inwards, at least 1, the innermost
below `n` -/
def Chain : List Frame → Nat → Prop
  | [], _ => True
  | f :: rest, n => 1 ≤ (frameCp f).journalI ∧ (frameCp f).journalI < n ∧ Chain rest (frameCp f).journalI

theorem Chain.mono {st : List Frame} {n m : Nat} (h : Chain st n) (hnm : n ≤ m) : Chain st m := by
  cases st with
  | nil => trivial
  | cons f rest => exact ⟨h.1, by have := h.2.1; omega, h.2.2⟩

/-- what makes every `unwrap` / index subtraction of the frame machine safe while the loop runs -/
structure LInv (l : Loop) : Prop where
  good : Good l.js
  chain : Chain l.stack l.js.journal.length
  addrs : ∀ f, f ∈ l.stack → frameAddrOk l.js f

theorem frameAddrOk_mono {s s' : JState} (g : Grows s s') {f : Frame} (h : frameAddrOk s f) : frameAddrOk s' f := by
  cases f with
  | call cp => trivial
  | create cp a => exact g.acct a h
  | eofcreate cp a => exact g.acct a h

/-- what an action needs beyond the invariant: loaded accounts for the instructions that `unwrap`, a container
that decodes for `eofcreate_return`'s `expect`, a loaded caller for an EOF create transaction -/
def actOk (l : Loop) : Action → Prop
  | .host op => hostOk l.js op
  | .ret r => r.eofcreate.decodes = true
  | .eofcreate inp kind _ => ∀ d v f, kind = .tx d v f → (l.js.state inp.caller).isSome
  | _ => True

theorem afterFrameOrResult_linv {l : Loop} {s1 : JState} {r : FrameOrResult} {mk : Checkpoint → Frame}
    (hl : LInv l) (fo : FrameOut l.js s1 r) (hmk : ∀ cp, frameCp (mk cp) = cp)
    (haddr : ∀ cp, r = .frame cp → frameAddrOk s1 (mk cp)) :
    ∀ l', afterFrameOrResult l.stack s1 mk r = .running l' → LInv l' := by
  intro l' h
  cases r with
  | result res =>
    simp only [afterFrameOrResult] at h; cases h
    exact ⟨fo.good, hl.chain.mono fo.len, fun f hf => frameAddrOk_mono fo.grows (hl.addrs f hf)⟩
  | frame cp =>
    simp only [afterFrameOrResult] at h; cases h
    obtain ⟨h1, h2⟩ := fo.cp cp rfl
    have hpos := journal_len_pos hl.good
    refine ⟨fo.good, ⟨by rw [hmk]; omega, by rw [hmk]; exact h2, by rw [hmk]; exact hl.chain.mono h1⟩, ?_⟩
    intro f hf
    rcases List.mem_cons.1 hf with rfl | hf
    · exact haddr cp rfl
    · exact frameAddrOk_mono fo.grows (hl.addrs f hf)
  | fatal => simp only [afterFrameOrResult] at h; cases h

theorem frameVerdict_ok {s : JState} {spec : Nat} {r : RetOracle} {f : Frame} (ha : frameAddrOk s f)
    (hdec : r.eofcreate.decodes = true) : (frameVerdict spec r f).ok s := by
  cases f with
  | call cp => exact callVerdict_ok s r.callOk
  | create cp a => exact createVerdict_ok spec r.create ha
  | eofcreate cp a => exact eofcreateVerdict_ok r.eofcreate ha hdec

theorem frameReturn_total {s : JState} (g : Good s) (spec : Nat) (r : RetOracle) {f : Frame}
    (h1 : 1 ≤ (frameCp f).journalI) (hlt : (frameCp f).journalI < s.journal.length) (ha : frameAddrOk s f)
    (hdec : r.eofcreate.decodes = true) :
    ∃ s' res, frameReturn s spec r f = some (s', res) ∧ Good s' ∧ Grows s s' ∧
      (frameCp f).journalI ≤ s'.journal.length :=
  frameReturn_close .. ▸ close_total g h1 hlt (frameVerdict_ok ha hdec)

theorem step_total {db : Db} {spec : Nat} {l : Loop} (hdb : DbBal db) (hi : Inv l) (hl : LInv l) (a : Action)
    (hok : actOk l a) :
    ∃ out, Model.Frame.step db spec l a = some out ∧ ∀ l', out = .running l' → LInv l' := by
  cases a with
  | host op =>
    obtain ⟨s', h, g', gr, len⟩ := hostStep_total hdb hl.good op hok
    refine ⟨.running { l with js := s' }, by simp [Model.Frame.step, h], ?_⟩
    intro l' e; cases e
    exact ⟨g', by show Chain l.stack s'.journal.length; rw [len]; exact hl.chain,
      fun f hf => frameAddrOk_mono gr (hl.addrs f hf)⟩
  | call inp o =>
    obtain ⟨s1, r, h, fo⟩ := makeCallFrame_total hdb hl.good inp o
    exact ⟨_, by simp [Model.Frame.step, h], afterFrameOrResult_linv (mk := Frame.call) hl fo (fun _ => rfl) (fun _ _ => trivial)⟩
  | create inp o =>
    obtain ⟨s1, r, a, h, fo, ha⟩ := makeCreateFrame_total hdb hl.good spec inp o
    exact ⟨_, by simp [Model.Frame.step, h], afterFrameOrResult_linv (mk := (Frame.create · a)) hl fo (fun _ => rfl) (fun cp hr => ha cp hr)⟩
  | eofcreate inp kind o =>
    obtain ⟨s1, r, a, h, fo, ha⟩ := makeEofCreateFrame_total hdb hl.good spec inp kind o hok
    exact ⟨_, by simp [Model.Frame.step, h], afterFrameOrResult_linv (mk := (Frame.eofcreate · a)) hl fo (fun _ => rfl) (fun cp hr => ha cp hr)⟩
  | ret r =>
    cases hst : l.stack with
    | nil => exact absurd hi.2.1 (by rw [hst]; exact Nat.lt_irrefl 0)
    | cons f rest =>
      have hch := hl.chain; rw [hst] at hch
      obtain ⟨s', res, h, g', gr, len⟩ := frameReturn_total hl.good spec r hch.1 hch.2.1
        (hl.addrs f (by rw [hst]; exact List.mem_cons_self)) hok
      refine ⟨_, by rw [step_ret hst, h]; rfl, fun l' e => ?_⟩
      cases rest with
      | nil => cases e
      | cons f2 rest2 =>
        cases e
        exact ⟨g', Chain.mono hch.2.2 len, fun f' hf' =>
          frameAddrOk_mono gr (hl.addrs f' (by rw [hst]; exact List.mem_cons_of_mem _ hf'))⟩

/-- the conditions of `actOk` along a run (each evaluated in the state the action is taken in) -/
def ActsOk (db : Db) (spec : Nat) : Loop → List Action → Prop
  | _, [] => True
  | l, a :: rest => actOk l a ∧ ∀ l', Model.Frame.step db spec l a = some (.running l') → ActsOk db spec l' rest

theorem run_total {db : Db} {spec : Nat} (hdb : DbBal db) (acts : List Action) : ∀ {l : Loop},
    Inv l → LInv l → ActsOk db spec l acts →
    ∃ out, Model.Frame.run db spec l acts = some out ∧ ∀ l', out = .running l' → LInv l' := by
  induction acts with
  | nil => intro l hi hl _; exact ⟨.running l, rfl, fun l' e => by cases e; exact hl⟩
  | cons a rest ih =>
    intro l hi hl hok
    obtain ⟨out, hs, hout⟩ := step_total (spec := spec) hdb hi hl a hok.1
    cases out with
    | running l1 =>
      obtain ⟨out2, h2, ho2⟩ := ih (step_inv hi hs) (hout l1 rfl) (hok.2 l1 hs)
      exact ⟨out2, by simp [Model.Frame.run, hs, h2], ho2⟩
    | done js r => exact ⟨.done js r, by simp [Model.Frame.run, hs], fun _ e => by cases e⟩
    | fatal => exact ⟨.fatal, by simp [Model.Frame.run, hs], fun _ e => by cases e⟩

theorem firstOut_linv {s s1 : JState} {r : FrameOrResult} (mk : Checkpoint → Frame) (hmk : ∀ cp, frameCp (mk cp) = cp)
    (g : Good s) (fo : FrameOut s s1 r) (haddr : ∀ cp, r = .frame cp → frameAddrOk s1 (mk cp)) :
    ∀ l', (match (generalizing := false) r with
      | .frame cp => StepOut.running { js := s1, stack := [mk cp] }
      | .result res => .done s1 res
      | .fatal => .fatal) = .running l' → LInv l' := by
  intro l' e
  cases r with
  | result res => cases e
  | fatal => cases e
  | frame cp =>
    cases e
    obtain ⟨h1, h2⟩ := fo.cp cp rfl
    have hpos := journal_len_pos g
    refine ⟨fo.good, ⟨by rw [hmk]; omega, by rw [hmk]; exact h2, trivial⟩, fun f hf => ?_⟩
    cases List.mem_singleton.1 hf
    exact haddr cp rfl

theorem firstFrame_total {db : Db} {spec : Nat} {s : JState} (hdb : DbBal db) (g : Good s) (f : FirstFrame)
    (hcaller : ∀ inp d v x o, f = .eofcreate inp (.tx d v x) o → (s.state inp.caller).isSome) :
    ∃ out, firstFrame db spec s f = some out ∧ ∀ l', out = .running l' → LInv l' := by
  cases f with
  | call inp o =>
    obtain ⟨s1, r, h, fo⟩ := makeCallFrame_total hdb g inp o
    exact ⟨_, by rw [firstFrame, h]; rfl, firstOut_linv Frame.call (fun _ => rfl) g fo (fun _ _ => trivial)⟩
  | create inp o =>
    obtain ⟨s1, r, a, h, fo, ha⟩ := makeCreateFrame_total hdb g spec inp o
    exact ⟨_, by rw [firstFrame, h]; rfl, firstOut_linv (Frame.create · a) (fun _ => rfl) g fo ha⟩
  | eofcreate inp kind o =>
    obtain ⟨s1, r, a, h, fo, ha⟩ := makeEofCreateFrame_total hdb g spec inp kind o
      (fun d v x hk => hcaller inp d v x o (by rw [hk]))
    exact ⟨_, by rw [firstFrame, h]; rfl, firstOut_linv (Frame.eofcreate · a) (fun _ => rfl) g fo ha⟩

end Revm.Proofs.Frame
