import Revm.Model.Static
import Revm.Proofs.Frame
/-! C10, frame level: `Benign` - what the operations left to a static frame may do to a journaled state (marks, caches,
loads, benign journal entries) - leaves the world state as it was; the loading and touching operations of the journal
are `Benign`, and so is a transfer that moves nothing (caller = target, or value 0). -/
namespace Revm.Proofs.Static
open Revm Revm.Model.Journal Revm.Spec.JournalAbs Revm.Model.Static

/-- journal entries that the operations of a static frame push: warm marks, touch marks, and transfers of a word
amount that move nothing (caller = target, or value 0) -/
def benignEntry : Entry → Bool
  | .accountWarmed _ | .accountTouched _ | .storageWarmed _ _ => true
  | .balanceTransfer s d v => decide (v < W) && (decide (s = d) || decide (v = 0))
  | _ => false

/-- original and present value of slot `k`, the database's where the slot is not loaded -/
def slotView (db : Db) (a : Addr) (acc : Acct) (k : Nat) : Nat × Nat :=
  let v := absSlot db a (some acc) k
  (v.orig, v.present)

/-- the same account up to warm/cold marks, the touch mark and the bytecode cache -/
def AcctSim (db : Db) (a : Addr) (x y : Acct) : Prop :=
  x.info.balance = y.info.balance ∧ x.info.nonce = y.info.nonce ∧ x.info.codeHash = y.info.codeHash ∧
  x.created = y.created ∧ x.selfdestructed = y.selfdestructed ∧ x.notExisting = y.notExisting ∧
  ∀ k, slotView db a x k = slotView db a y k

theorem AcctSim.refl (db : Db) (a : Addr) (x : Acct) : AcctSim db a x x :=
  ⟨rfl, rfl, rfl, rfl, rfl, rfl, fun _ => rfl⟩

theorem AcctSim.trans {db : Db} {a : Addr} {x y z : Acct} (h1 : AcctSim db a x y) (h2 : AcctSim db a y z) :
    AcctSim db a x z := by
  obtain ⟨a1, a2, a3, a4, a5, a6, a7⟩ := h1
  obtain ⟨b1, b2, b3, b4, b5, b6, b7⟩ := h2
  exact ⟨a1.trans b1, a2.trans b2, a3.trans b3, a4.trans b4, a5.trans b5, a6.trans b6, fun k => (a7 k).trans (b7 k)⟩

/-- what `load_account` inserts for an address that is not in the state map -/
def fresh (db : Db) (a : Addr) : Acct :=
  match db.basic a with
  | some i => Acct.ofInfo i
  | none => Acct.newNotExisting

/-- an entry of the state map compared with the entry it had before (vacant = as in the database) -/
def StateSim (db : Db) (a : Addr) : Option Acct → Option Acct → Prop
  | some p, some q => AcctSim db a p q
  | none, some q => AcctSim db a (fresh db a) q
  | none, none => True
  | some _, none => False

theorem StateSim.refl (db : Db) (a : Addr) (x : Option Acct) : StateSim db a x x := by
  cases x with
  | none => trivial
  | some p => exact AcctSim.refl db a p

theorem StateSim.trans {db : Db} {a : Addr} {x y z : Option Acct} (h1 : StateSim db a x y) (h2 : StateSim db a y z) :
    StateSim db a x z := by
  cases x <;> cases y <;> cases z <;> simp only [StateSim] at * <;>
    first | trivial | exact h1.trans h2 | exact h2 | exact h1.elim | exact h2.elim

/-- the journal gained benign entries on its innermost level, nothing else -/
def JournalExt : List (List Entry) → List (List Entry) → Prop
  | [], j' => j' = []
  | l :: rest, j' => ∃ es : List Entry, (∀ e ∈ es, benignEntry e = true) ∧ j' = (es ++ l) :: rest

theorem JournalExt.refl (j : List (List Entry)) : JournalExt j j := by
  cases j with
  | nil => rfl
  | cons l rest => exact ⟨[], by simp, by simp⟩

theorem JournalExt.trans {a b c : List (List Entry)} (h1 : JournalExt a b) (h2 : JournalExt b c) : JournalExt a c := by
  cases a with
  | nil => simp only [JournalExt] at h1; subst h1; exact h2
  | cons l rest =>
    obtain ⟨es, hes, rfl⟩ := h1
    obtain ⟨es2, hes2, rfl⟩ := h2
    refine ⟨es2 ++ es, ?_, by simp⟩
    intro e he
    rcases List.mem_append.mp he with h | h
    · exact hes2 e h
    · exact hes e h

/-- `t` arises from `s` by operations that only set warm/touch marks, cache code, load accounts and slots
from the database, and push benign journal entries -/
structure Benign (db : Db) (s t : JState) : Prop where
  state : ∀ a, StateSim db a (s.state a) (t.state a)
  transient : t.transient = s.transient
  logs : t.logs = s.logs
  spec : t.spec = s.spec
  preloaded : t.preloaded = s.preloaded
  journal : JournalExt s.journal t.journal

theorem Benign.refl (db : Db) (s : JState) : Benign db s s :=
  ⟨fun a => StateSim.refl db a _, rfl, rfl, rfl, rfl, JournalExt.refl _⟩

theorem Benign.trans {db : Db} {s t u : JState} (h1 : Benign db s t) (h2 : Benign db t u) : Benign db s u :=
  ⟨fun a => (h1.state a).trans (h2.state a), h2.transient.trans h1.transient, h2.logs.trans h1.logs,
   h2.spec.trans h1.spec, h2.preloaded.trans h1.preloaded, h1.journal.trans h2.journal⟩

theorem worldAcct_of_sim {db : Db} {s t : JState} {a : Addr}
    (h : StateSim db a (s.state a) (t.state a)) : worldAcct db t a = worldAcct db s a := by
  unfold worldAcct absAcct
  cases hs : s.state a with
  | none =>
    cases ht : t.state a with
    | none => simp
    | some q =>
      rw [hs, ht] at h
      obtain ⟨h1, h2, h3, h4, h5, h6, _⟩ := h
      simp only [← h1, ← h2, ← h3, ← h4, ← h5, ← h6]
      unfold fresh
      cases db.basic a <;> simp [Acct.ofInfo, Acct.newNotExisting]
  | some p =>
    cases ht : t.state a with
    | none => rw [hs, ht] at h; exact h.elim
    | some q =>
      rw [hs, ht] at h
      obtain ⟨h1, h2, h3, h4, h5, h6, _⟩ := h
      simp only [h1, h2, h3, h4, h5, h6]

theorem worldSlot_of_sim {db : Db} {s t : JState} {a : Addr} (k : Nat)
    (h : StateSim db a (s.state a) (t.state a)) : worldSlot db t a k = worldSlot db s a k := by
  unfold worldSlot absAcct
  cases hs : s.state a with
  | none =>
    cases ht : t.state a with
    | none => simp
    | some q =>
      rw [hs, ht] at h
      have h7 := h.2.2.2.2.2.2 k
      simp only [slotView] at h7
      simp only
      rw [← h7]
      unfold fresh
      cases db.basic a <;> simp [Acct.ofInfo, Acct.newNotExisting, absSlot]
  | some p =>
    cases ht : t.state a with
    | none => rw [hs, ht] at h; exact h.elim
    | some q =>
      rw [hs, ht] at h
      have h7 := h.2.2.2.2.2.2 k
      simp only [slotView] at h7
      simp only
      exact h7.symm

theorem Benign.world {db : Db} {s t : JState} (h : Benign db s t) : WorldEq db t s :=
  ⟨fun a => worldAcct_of_sim (h.state a), fun a k => worldSlot_of_sim k (h.state a),
   fun a k => by simp [tload, h.transient], h.logs⟩

theorem benign_setAcct {db : Db} {s : JState} {a : Addr} {acc' : Acct} (hs : StateSim db a (s.state a) (some acc')) :
    Benign db s (setAcct s a acc') := by
  refine ⟨fun b => ?_, rfl, rfl, rfl, rfl, JournalExt.refl _⟩
  by_cases hb : b = a
  · subst hb
    simp only [setAcct, if_true]; exact hs
  · simp only [setAcct, hb, if_false]; exact StateSim.refl _ _ _

theorem benign_setAcct_upd {db : Db} {s : JState} {a : Addr} {acc acc' : Acct} (h : s.state a = some acc)
    (hs : AcctSim db a acc acc') : Benign db s (setAcct s a acc') :=
  benign_setAcct (h ▸ hs)

theorem benign_setAcct_ins {db : Db} {s : JState} {a : Addr} {acc' : Acct} (h : s.state a = none)
    (hs : AcctSim db a (fresh db a) acc') : Benign db s (setAcct s a acc') :=
  benign_setAcct (h ▸ hs)

theorem benign_setAcct2 {db : Db} {s : JState} {a : Addr} {acc x acc' : Acct} (h : s.state a = some acc)
    (hs : AcctSim db a acc acc') : Benign db s (setAcct (setAcct s a x) a acc') := by
  have e : setAcct (setAcct s a x) a acc' = setAcct s a acc' := by
    simp only [setAcct]
    congr 1
    funext b
    by_cases hb : b = a <;> simp only [hb, if_true, if_false]
  exact e ▸ benign_setAcct_upd h hs

theorem benign_push {db : Db} {s : JState} {e : Entry} {s' : JState} (hb : benignEntry e = true)
    (h : pushEntry s e = some s') : Benign db s s' := by
  obtain ⟨l, rest, hj, rfl⟩ := Proofs.Journal.pushEntry_eq h
  refine ⟨fun a => StateSim.refl _ _ _, rfl, rfl, rfl, rfl, ?_⟩
  show JournalExt s.journal ((e :: l) :: rest)
  rw [hj]
  exact ⟨[e], by simpa using hb, rfl⟩

theorem touchAccount_spec {db : Db} {s : JState} {a : Addr} {acc : Acct} {s' : JState} {acc' : Acct}
    (hst : s.state a = some acc) (h : touchAccount s a acc = some (s', acc')) :
    Benign db s s' ∧ s'.state a = some acc' ∧ AcctSim db a acc acc' ∧ acc'.touched = true := by
  simp only [touchAccount, bind] at h
  split at h
  · obtain ⟨s1, hp, h⟩ := Option.bind_eq_some_iff.1 h
    cases h
    have h1 : s1.state a = some acc := (Proofs.Journal.pushEntry_state hp).symm ▸ hst
    have hsim : AcctSim db a acc { acc with touched := true } := ⟨rfl, rfl, rfl, rfl, rfl, rfl, fun _ => rfl⟩
    exact ⟨(benign_push rfl hp).trans (benign_setAcct_upd h1 hsim), if_pos rfl, hsim, rfl⟩
  · rename_i ht
    cases h
    exact ⟨Benign.refl _ _, hst, AcctSim.refl _ _ _, by simpa using ht⟩

theorem touch_benign {db : Db} {s : JState} {a : Addr} {s' : JState} (h : touch s a = some s') : Benign db s s' := by
  rcases Proofs.Journal.touch_some h with ⟨acc, _, hst, ht⟩ | ⟨_, rfl⟩
  · exact (touchAccount_spec hst ht).1
  · exact Benign.refl _ _

theorem warmed_benign {db : Db} {α : Type} {s s' : JState} {e : Entry} {c : Bool} {x y r : α} (he : benignEntry e = true)
    (h : (if c = true then (pushEntry s e).map (·, x) else some (s, y)) = some (s', r)) : Benign db s s' := by
  rcases Proofs.Frame.warmed_cases h with hp | rfl
  · exact benign_push he hp
  · exact Benign.refl _ _

theorem loadAccount_benign {db : Db} {s : JState} {a : Addr} {s' : JState} {c : Bool}
    (h : loadAccount db s a = some (s', c)) : Benign db s s' := by
  simp only [loadAccount] at h
  split at h
  · rename_i acc hst
    exact (benign_setAcct_upd (acc' := { acc with cold := false }) hst ⟨rfl, rfl, rfl, rfl, rfl, rfl, fun _ => rfl⟩).trans
      (warmed_benign rfl h)
  · rename_i hst
    exact (benign_setAcct_ins hst (AcctSim.refl _ _ _)).trans (warmed_benign rfl h)

theorem loadCode_benign {db : Db} {s : JState} {a : Addr} {s' : JState} {c : Bool}
    (h : loadCode db s a = some (s', c)) : Benign db s s' := by
  obtain ⟨s1, acc, h1, hacc, rfl⟩ := Proofs.Journal.loadCode_some h
  have hb1 := loadAccount_benign (db := db) h1
  split
  · exact hb1.trans (benign_setAcct_upd hacc ⟨rfl, rfl, rfl, rfl, rfl, rfl, fun _ => rfl⟩)
  · exact hb1

theorem loadAccountDelegated_benign {db : Db} {s : JState} {a : Addr} {s' : JState} {x : Bool × Bool × Option Bool}
    (h : loadAccountDelegated db s a = some (s', x)) : Benign db s s' := by
  obtain ⟨e, c, d⟩ := x
  obtain ⟨s1, acc, h1, _, _, h⟩ := Proofs.Journal.loadAccountDelegated_some h
  split at h
  · obtain ⟨dc, h2, _⟩ := h; exact (loadCode_benign h1).trans (loadAccount_benign h2)
  · rw [h.1]; exact loadCode_benign h1

theorem sim_setSlot_mark {db : Db} {a : Addr} {acc : Acct} {k : Nat} {sl : Slot} (c : Bool) (hsl : acc.storage k = some sl) :
    AcctSim db a acc (setSlot acc k { sl with cold := c }) := by
  refine ⟨rfl, rfl, rfl, rfl, rfl, rfl, fun k' => ?_⟩
  by_cases hk : k' = k
  · subst hk; simp [slotView, absSlot, setSlot, hsl]
  · simp [slotView, absSlot, setSlot, hk]; first | done | exact ⟨rfl, rfl⟩

theorem sim_setSlot_load {db : Db} {a : Addr} {acc : Acct} {k : Nat} (c : Bool) (hsl : acc.storage k = none) :
    AcctSim db a acc (setSlot acc k ⟨(if acc.created then 0 else db.storage a k), (if acc.created then 0 else db.storage a k), c⟩) := by
  refine ⟨rfl, rfl, rfl, rfl, rfl, rfl, fun k' => ?_⟩
  by_cases hk : k' = k
  · subst hk; simp [slotView, absSlot, setSlot, hsl]; first | done | exact ⟨rfl, rfl⟩
  · simp [slotView, absSlot, setSlot, hk]; first | done | exact ⟨rfl, rfl⟩

theorem sload_benign {db : Db} {s : JState} {a : Addr} {k : Nat} {s' : JState} {x : Nat × Bool}
    (h : sload db s a k = some (s', x)) : Benign db s s' := by
  simp only [sload, bind, Option.bind_eq_some_iff] at h
  obtain ⟨acc, hacc, h⟩ := h
  split at h
  · rename_i sl hsl
    exact (benign_setAcct_upd hacc (sim_setSlot_mark false hsl)).trans (warmed_benign rfl h)
  · rename_i hsl
    obtain ⟨s1, hp, h⟩ := Option.map_eq_some_iff.1 h
    cases h; exact (benign_setAcct_upd hacc (sim_setSlot_load false hsl)).trans (benign_push rfl hp)

theorem balOk_acc {db : Db} {s : JState} {a : Addr} {acc : Acct} (hb : BalOk db s) (h : s.state a = some acc) :
    acc.info.balance < W := by
  have := hb a
  simpa [worldAcct, absAcct, h] using this

theorem balOk_of_world {db : Db} {s t : JState} (hb : BalOk db s) (hw : WorldEq db t s) : BalOk db t :=
  fun a => by rw [hw.1 a]; exact hb a

theorem touchAccount_touched {s : JState} {a : Addr} {acc : Acct} (h : acc.touched = true) :
    touchAccount s a acc = some (s, acc) := by
  simp [touchAccount, h]

theorem transfer_benign {db : Db} {s : JState} {src dst : Addr} {v : Nat} {s' : JState} {r : Option TransferErr}
    (hbal : BalOk db s) (hcase : src = dst ∨ v = 0)
    (h : transfer db s src dst v = some (s', r)) : Benign db s s' := by
  obtain ⟨s1, c1, s2, c2, fa0, s3, fa, h1, h2, hf, ht, h⟩ := Proofs.Journal.transfer_some h
  obtain ⟨B23, hs3, _, htch⟩ := touchAccount_spec (db := db) hf ht
  have B03 : Benign db s s3 := ((loadAccount_benign h1).trans (loadAccount_benign h2)).trans B23
  have hb3 : BalOk db s3 := balOk_of_world hbal B03.world
  have hfa : fa.info.balance < W := balOk_acc hb3 hs3
  refine B03.trans ?_
  split at h
  · rw [h.1]; exact Benign.refl _ _
  rename_i hlt
  obtain ⟨toAcc, s5, toAcc', hto, htt, h⟩ := h
  -- an amount the balance covers is a word
  have hbe : benignEntry (.balanceTransfer src dst v) = true := by
    simp only [benignEntry, Bool.and_eq_true, Bool.or_eq_true, decide_eq_true_eq]
    exact ⟨by omega, hcase⟩
  rcases hcase with hsd | hv0
  · -- caller = target: the touched account is debited and credited back, the second touch does nothing
    subst hsd
    simp only [setAcct, ↓reduceIte, Option.some.injEq] at hto
    subst hto
    rw [touchAccount_touched (acc := { fa with info := { fa.info with balance := fa.info.balance - v } }) htch] at htt
    cases htt
    rw [if_neg (show ¬ (fa.info.balance - v + v ≥ W) by omega)] at h
    refine (benign_setAcct2 hs3 ?_).trans (benign_push hbe h.2)
    exact ⟨show fa.info.balance = fa.info.balance - v + v by omega, rfl, rfl, rfl, rfl, rfl, fun _ => rfl⟩
  · -- value 0: neither balance moves
    have B34 := benign_setAcct_upd (db := db) hs3 (acc' := { fa with info := { fa.info with balance := fa.info.balance - v } })
      ⟨show fa.info.balance = fa.info.balance - v by omega, rfl, rfl, rfl, rfl, rfl, fun _ => rfl⟩
    obtain ⟨B45, hs5, _, _⟩ := touchAccount_spec (db := db) hto htt
    have B35 := B34.trans B45
    have hto' : toAcc'.info.balance < W := balOk_acc (balOk_of_world hb3 B35.world) hs5
    rw [if_neg (show ¬ (toAcc'.info.balance + v ≥ W) by omega)] at h
    refine (B35.trans (benign_setAcct_upd hs5 ?_)).trans (benign_push hbe h.2)
    exact ⟨show toAcc'.info.balance = toAcc'.info.balance + v by omega, rfl, rfl, rfl, rfl, rfl, fun _ => rfl⟩

end Revm.Proofs.Static
