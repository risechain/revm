import Revm.Proofs.AccessStep
/-! C34: `sim_run`, the invariant along every lockstep history from `sim_init`; what Props/C34 needs of the set machine
alone (the pre-warmed set only grows, the keys a keyed operation adds); and what the code has warmed when the first frame
starts, against the EIP lists (`prewarm_cur`, `codeKeys_sets`; `lockRun_append`, `addAll_append` and `addAll_congr` are
general). -/
namespace Revm.Proofs.Access
open Revm Revm.Model.Journal Revm.Spec.JournalAbs Revm.Proofs.Journal Revm.Spec.AccessHistory
open Revm.Spec.AccessSets (Access Sets TxEnv)

/-- along every run of the set machine beside the journal the invariant `Sim` holds: the model's warm flags are the
specification's accessed sets, for every open checkpoint -/
theorem sim_run {db : Db} {hasStorage : Addr → Bool} (hdb : DbOk db hasStorage) (ops : List Op) {l l' : Lock}
    (h : Sim db l) (hr : lockRun db hasStorage l ops = some l') : Sim db l' := by
  induction ops generalizing l with
  | nil => cases hr; exact h
  | cons op ops ih =>
    obtain ⟨l1, hs, hr⟩ := lockRun_cons hr
    exact ih (sim_step hdb h hs).1 hr

/-- the start of a transaction satisfies the invariant (balances in the database are 256-bit words) -/
theorem sim_init {db : Db} (spec : Nat) (pre : Addr → Bool) (hwf : WF db (JState.new spec pre)) :
    Sim db (Lock.init spec pre) := by
  refine ⟨⟨fun a => ?_, fun a k => ?_⟩, hwf, rfl, fun i hi => by simp [Lock.init] at hi, List.Pairwise.nil,
    SetsLe.refl _, fun i hi => by simp [Lock.init] at hi⟩
  · simp [warmSets, Lock.init, Spec.AccessSets.State.init, absAcct, JState.new]
  · simp [warmSets, Lock.init, Spec.AccessSets.State.init, absAcct, JState.new, absSlot]

theorem lockStep_pre_mono {db : Db} {hasStorage : Addr → Bool} {l l' : Lock} {op : Op}
    (hs : lockStep db hasStorage l op = some l') : SetsLe l.st.pre l'.st.pre := by
  obtain ⟨_, r', o', st', bits, _, _, hsp, rfl⟩ := lockStep_some hs
  show SetsLe l.st.pre st'.pre
  by_cases hk : keyed op = true
  · rw [(specStep_keyed hk hsp).2.2.1]; exact addAll_le _ _
  · cases op <;> first | exact absurd rfl hk | skip
    case checkpoint | commit => cases hsp; exact SetsLe.refl _
    case create => cases hsp; split <;> exact SetsLe.refl _
    case revert i =>
      obtain ⟨x, hrev, hx⟩ := Option.map_eq_some_iff.1 hsp
      obtain ⟨snap, _, rfl⟩ := Option.map_eq_some_iff.1 hrev
      cases hx; exact SetsLe.refl _

theorem lockRun_pre_mono {db : Db} {hasStorage : Addr → Bool} (ops : List Op) {l l' : Lock}
    (hr : lockRun db hasStorage l ops = some l') : SetsLe l.st.pre l'.st.pre := by
  induction ops generalizing l with
  | nil => cases hr; exact SetsLe.refl _
  | cons op ops ih =>
    obtain ⟨l1, hs, hr⟩ := lockRun_cons hr
    exact SetsLe.trans (lockStep_pre_mono hs) (ih hr)

theorem lockStep_initLoad_pre {db : Db} {hasStorage : Addr → Bool} {l l' : Lock} {a : Addr} {ks : List Nat}
    (hs : lockStep db hasStorage l (.initLoad a ks) = some l') :
    l'.st.pre.addrs a = true ∧ ∀ k, k ∈ ks → l'.st.pre.slots a k = true := by
  obtain ⟨_, r', o', st', bits, _, _, hsp, rfl⟩ := lockStep_some hs
  have e : st'.pre = _ := (specStep_keyed (op := .initLoad a ks) rfl hsp).2.2.1
  have hm : ∀ x, x ∈ preKeys (.initLoad a ks) → st'.pre.has x = true := fun x hx => by
    rw [e, addAll_has, List.contains_iff_mem.2 hx, Bool.or_true]
  exact ⟨hm (.addr a) List.mem_cons_self,
    fun k hk => hm (.slot a k) (List.mem_cons_of_mem _ (List.mem_map_of_mem hk))⟩

theorem lockStep_keys {db : Db} {hasStorage : Addr → Bool} {l l' : Lock} {op : Op}
    (hs : lockStep db hasStorage l op = some l') (hop : keyed op = true) :
    l'.st.cur = l.st.cur.addAll (opKeys db l.r.js op) := by
  obtain ⟨_, r', o', st', bits, _, _, hsp, rfl⟩ := lockStep_some hs
  exact (specStep_keyed hop hsp).1

theorem addAll_append (s : Sets) (xs ys : List Access) : (s.addAll xs).addAll ys = s.addAll (xs ++ ys) := by
  simp [Sets.addAll, List.foldl_append]

/-- keys of the pre-execution operations that do not depend on the state -/
def staticKeys : Op → List Access
  | .initLoad a ks => Access.addr a :: ks.map (Access.slot a)
  | .load a => [Access.addr a]
  | .loadCode a => [Access.addr a]
  | _ => []

/-- the operations whose keys do not depend on the state; not the static mode of a frame -/
def isStatic : Op → Prop
  | .initLoad _ _ => True
  | .load _ => True
  | .loadCode _ => True
  | _ => False

theorem lockRun_static {db : Db} {hasStorage : Addr → Bool} (ops : List Op) (hall : ∀ op, op ∈ ops → isStatic op)
    {l l' : Lock} (hr : lockRun db hasStorage l ops = some l') :
    l'.st.cur = l.st.cur.addAll (ops.flatMap staticKeys) := by
  induction ops generalizing l with
  | nil => cases hr; rfl
  | cons op ops ih =>
    obtain ⟨l1, hs, hr⟩ := lockRun_cons hr
    have h1 := ih (fun o ho => hall o (List.mem_cons_of_mem _ ho)) hr
    have hop := hall op List.mem_cons_self
    have hk : l1.st.cur = l.st.cur.addAll (staticKeys op) := by
      cases op with
      | initLoad a ks | load a | loadCode a => exact lockStep_keys hs rfl
      | _ => exact False.elim hop
    rw [h1, hk, addAll_append, List.flatMap_cons]

theorem lockRun_append {db : Db} {hasStorage : Addr → Bool} (xs ys : List Op) {l l' : Lock}
    (hr : lockRun db hasStorage l (xs ++ ys) = some l') :
    ∃ l1, lockRun db hasStorage l xs = some l1 ∧ lockRun db hasStorage l1 ys = some l' := by
  induction xs generalizing l with
  | nil => exact ⟨l, rfl, hr⟩
  | cons x xs ih =>
    obtain ⟨l1, hs, hr⟩ := lockRun_cons hr
    obtain ⟨l2, h1, h2⟩ := ih hr
    exact ⟨l2, by simp only [lockRun, hs]; exact h1, h2⟩

theorem map_addr_contains (xs : List Addr) (b : Addr) : (xs.map Access.addr).contains (Access.addr b) = xs.contains b := by
  rw [List.contains_eq_mem, List.contains_eq_mem, decide_eq_decide, List.mem_map]
  exact ⟨fun ⟨x, hx, h⟩ => Access.addr.inj h ▸ hx, fun h => ⟨b, h, rfl⟩⟩

theorem map_addr_contains_slot (xs : List Addr) (b : Addr) (k : Nat) :
    (xs.map Access.addr).contains (Access.slot b k) = false := by
  rw [List.contains_eq_mem, decide_eq_false_iff_not, List.mem_map]
  exact fun ⟨x, _, h⟩ => nomatch h

/-- `codePrewarmOps` without its last operation `prewarmLast`, the first frame's load of the target: all `isStatic` -/
def prewarmPrefix (e : TxEnv) : List Op :=
  e.accessList.map (fun x => Op.initLoad x.1 x.2) ++ [Op.load e.sender] ++
  (if e.spec ≥ Spec.AccessSets.PRAGUE then e.authorities.map Op.loadCode else [])

def prewarmLast (e : TxEnv) (isCreate : Bool) : Op := if isCreate then Op.load e.target else Op.loadDelegated e.target

theorem codePrewarmOps_eq (e : TxEnv) (isCreate : Bool) :
    codePrewarmOps e isCreate = prewarmPrefix e ++ [prewarmLast e isCreate] := by
  simp [codePrewarmOps, prewarmPrefix, prewarmLast]

/-- every key the code has warmed when the first frame starts -/
def codeKeys (e : TxEnv) (delegate : Option Addr) : List Access :=
  (codePreloaded e).map Access.addr ++
  ((prewarmPrefix e).flatMap staticKeys ++ (Access.addr e.target :: (delegate.map Access.addr).toList))

/-- after `codePrewarmOps` the current sets are `codeKeys`, the delegate read in the state `l1` after the prefix -/
theorem prewarm_cur {db : Db} {hasStorage : Addr → Bool} (e : TxEnv) (isCreate : Bool) {l : Lock}
    (hr : lockRun db hasStorage (Lock.init e.spec (fun a => (codePreloaded e).contains a))
      (codePrewarmOps e isCreate) = some l) :
    ∃ l1, lockRun db hasStorage (Lock.init e.spec (fun a => (codePreloaded e).contains a)) (prewarmPrefix e) = some l1 ∧
      SetsEq l.st.cur (Sets.empty.addAll (codeKeys e (if isCreate then none else delegateOf db l1.r.js e.target))) := by
  rw [codePrewarmOps_eq] at hr
  obtain ⟨l1, h1, h2⟩ := lockRun_append _ _ hr
  refine ⟨l1, h1, ?_⟩
  have hstat : ∀ op, op ∈ prewarmPrefix e → isStatic op := by
    intro op hop
    simp only [prewarmPrefix, List.mem_append, List.mem_map, List.mem_singleton] at hop
    rcases hop with (⟨x, _, rfl⟩ | rfl) | hop
    · trivial
    · trivial
    · split at hop
      · obtain ⟨x, _, rfl⟩ := List.mem_map.1 hop; trivial
      · cases hop
  have c1 := lockRun_static _ hstat h1
  obtain ⟨l2, hs, h2⟩ := lockRun_cons h2
  cases h2
  have c2 : l.st.cur = l1.st.cur.addAll (opKeys db l1.r.js (prewarmLast e isCreate)) :=
    lockStep_keys hs (by cases isCreate <;> rfl)
  rw [c2, c1, addAll_append]
  have hk : opKeys db l1.r.js (prewarmLast e isCreate) =
      Access.addr e.target :: ((if isCreate then none else delegateOf db l1.r.js e.target).map Access.addr).toList := by
    cases isCreate <;> simp [prewarmLast, opKeys, accessesOf]
  rw [hk]
  refine setsEq_iff.2 fun k => ?_
  rw [addAll_has, addAll_has]
  cases k with
  | addr b =>
    simp only [Sets.has, codeKeys, Lock.init, Spec.AccessSets.State.init, Sets.empty, List.contains_append,
      map_addr_contains, Bool.false_or]
  | slot b j =>
    simp only [Sets.has, codeKeys, Lock.init, Spec.AccessSets.State.init, Sets.empty, List.contains_append,
      map_addr_contains_slot, Bool.false_or]

theorem contains_congr {xs ys : List Access} (h : ∀ x, x ∈ xs ↔ x ∈ ys) (x : Access) :
    xs.contains x = ys.contains x := by
  rw [Bool.eq_iff_iff, List.contains_iff_mem, List.contains_iff_mem]; exact h x

theorem addAll_congr {xs ys : List Access} (h : ∀ x, x ∈ xs ↔ x ∈ ys) (s : Sets) :
    SetsEq (s.addAll xs) (s.addAll ys) :=
  setsEq_iff.2 fun k => by rw [addAll_has, addAll_has, contains_congr h]

theorem staticKeys_prefix (e : TxEnv) : (prewarmPrefix e).flatMap staticKeys =
    Spec.AccessSets.accessListKeys e.accessList ++ Access.addr e.sender ::
      (if e.spec ≥ Spec.AccessSets.PRAGUE then e.authorities.map Access.addr else []) := by
  have h1 : (e.accessList.map (fun x => Op.initLoad x.1 x.2)).flatMap staticKeys =
      Spec.AccessSets.accessListKeys e.accessList := List.flatMap_map ..
  have h2 : ∀ l : List Addr, (l.map Op.loadCode).flatMap staticKeys = l.map Access.addr := fun l => by
    rw [List.flatMap_map, List.map_eq_flatMap]; rfl
  unfold prewarmPrefix
  rw [List.flatMap_append, List.flatMap_append, h1, List.append_assoc]
  split
  · rw [h2]; rfl
  · rfl

/-- the keys the code warms are, as a set, the EIP lists -/
theorem mem_codeKeys (e : TxEnv) (hB : e.spec ≥ Spec.AccessSets.BERLIN) (x : Access) :
    x ∈ codeKeys e (if e.spec ≥ Spec.AccessSets.PRAGUE then e.targetDelegate else none) ↔
    x ∈ Spec.AccessSets.eipPrewarm e := by
  have hS : (if e.spec ≥ Spec.AccessSets.SHANGHAI then [e.coinbase] else []).map Access.addr =
      if e.spec ≥ Spec.AccessSets.SHANGHAI then [Access.addr e.coinbase] else [] := by split <;> rfl
  unfold codeKeys codePreloaded Spec.AccessSets.eipPrewarm
  rw [if_neg (Nat.not_lt.2 hB), staticKeys_prefix, List.map_append, hS]
  by_cases hP : e.spec ≥ Spec.AccessSets.PRAGUE
  · simp only [if_pos hP, List.mem_append, List.mem_cons, List.not_mem_nil, or_false]
    exact Iff.of_eq (by ac_rfl)
  · simp only [if_neg hP, List.mem_append, List.mem_cons, List.not_mem_nil, or_false, Option.map_none, Option.toList_none]
    exact Iff.of_eq (by ac_rfl)
theorem codeKeys_sets (e : TxEnv) (hB : e.spec ≥ Spec.AccessSets.BERLIN) :
    SetsEq (Sets.empty.addAll (codeKeys e (if e.spec ≥ Spec.AccessSets.PRAGUE then e.targetDelegate else none)))
      (Spec.AccessSets.txInit e).cur :=
  addAll_congr (mem_codeKeys e hB) _

theorem addAll_nil (s : Sets) : s.addAll [] = s := rfl

end Revm.Proofs.Access
