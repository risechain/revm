import Revm.Proofs.EvmInstLifeTx
/-! C31 instance: the hypothesis `HSpecBlind` of C31 holds of the concrete stages (`evm_hspec_blind`), so histories of
entry-point calls on ONE context of the whole-EVM handler equal the same calls on freshly built contexts
(`evm_sequence_on_one_instance_eq_fresh_instances`: C31's `sequence_eq` with its hypothesis discharged), and the same stated with `Evm.transact` alone for histories of executed transactions
(`evmFreshSeq`, `evm_fresh_history`). -/
namespace Revm.Proofs.EvmInstLife
open Revm Revm.Model Revm.Model.Evm Revm.Proofs.EvmInst
open Revm.Model.Journal (JState)
open Revm.Proofs.EvmLifecycle (Clean SpecBlind HSpecBlind)

section
variable (spec : Nat)

theorem workWorld_setSpec (w : LWork) (s : Nat) :
    workWorld (Revm.Proofs.EvmLifecycle.Work.setSpec w s) = mkWorld w.db (EvmLifecycle.setSpecId w.js s) := rfl

theorem world_loadCode_setSpecId (d : WDb) (js : JState) (s a : Nat) :
    (mkWorld d (EvmLifecycle.setSpecId js s)).loadCode a =
      ((mkWorld d js).loadCode a).map (fun p => (mkWorld (WDb.of p.1) (EvmLifecycle.setSpecId p.1.js s), p.2)) := by
  unfold World.loadCode
  show (do
    let (js', cold) ← ofOpt "load_code" (Journal.loadCode (mkWorld d js).db (EvmLifecycle.setSpecId js s) a)
    pure (({ mkWorld d (EvmLifecycle.setSpecId js s) with js := js' } : World).noteAddr a, cold)) = _
  rw [Revm.Proofs.EvmLifecycle.loadCode_setSpecId]
  show _ = Except.map _ (do
    let (js', cold) ← ofOpt "load_code" (Journal.loadCode (mkWorld d js).db js a)
    pure (({ mkWorld d js with js := js' } : World).noteAddr a, cold))
  cases Journal.loadCode (mkWorld d js).db js a with
  | none => rfl
  | some p =>
    obtain ⟨js1, cold⟩ := p
    simp only [Option.map_some, ofOpt, bind, Except.bind, pure, Except.pure, Except.map, World.noteAddr, mkWorld]
    by_cases h : d.addrs.contains a = true
    · simp only [h, if_true]; rfl
    · simp only [h]; rfl

theorem acct_setSpec (x : World) (s a : Nat) :
    (mkWorld (WDb.of x) (EvmLifecycle.setSpecId x.js s)).acct a = x.acct a := rfl
theorem codeOf_setSpec (x : World) (s h : Nat) :
    (mkWorld (WDb.of x) (EvmLifecycle.setSpecId x.js s)).codeOf h = x.codeOf h := rfl

/-- `validation.tx_against_state` of the concrete model (`load_code(caller)` and a check of the loaded account) does not
read `journaled_state.spec` -/
theorem evm_txAgainstState_specBlind : SpecBlind (evmHandler spec).txAgainstState := by
  intro e w s
  rw [h_txAgainstState, h_txAgainstState, workWorld_setSpec]
  unfold txAgainstState
  rw [world_loadCode_setSpecId]
  simp only [bind, Except.bind, workWorld]
  cases (mkWorld w.db w.js).loadCode e.tx.caller with
  | error er => rfl
  | ok p =>
    obtain ⟨x1, cold⟩ := p
    simp only [Except.map, acct_setSpec, codeOf_setSpec]
    cases x1.acct e.tx.caller with
    | error er => rfl
    | ok acc =>
      simp only []
      cases ofOpt "code not cached" acc.info.code with
      | error er => rfl
      | ok hh =>
        simp only []
        cases ofOpt "code_by_hash" (x1.codeOf hh) with
        | error er => rfl
        | ok code =>
          simp only [pure, Except.pure]
          cases validateAgainstState e (GasCalc.canon spec) code acc.info <;> rfl

/-- the one hypothesis of C31's theorems holds of `evmHandler` -/
theorem evm_hspec_blind : HSpecBlind (evmHandler spec) :=
  ⟨evm_txAgainstState_specBlind spec, fun _ _ _ _ => rfl⟩

end

def EvmOps (ops : List (EvmLifecycle.Op WDb Env LErr Nat Empty (Nat × Nat) LS Act FRes ERes)) : Prop :=
  ∀ op ∈ ops, ∃ s, op.h = evmHandler s

/-- C31 for the whole-EVM model, with no assumption on the handler left: any history of entry-point calls of `evmHandler`s
(any environments, spec changes, rejected / reverted / halted / failing transactions, `preverify` calls, any fuel) on ONE
instance that starts `Clean` gives the same results and the same final database as running every call on a freshly
built instance. -/
theorem evm_sequence_on_one_instance_eq_fresh_instances (commit : WDb → EvmLifecycle.EvmState → WDb) (pre0 : Nat)
    (ops : List (EvmLifecycle.Op WDb Env LErr Nat Empty (Nat × Nat) LS Act FRes ERes)) (hops : EvmOps ops)
    (c : LCtx) (hc : Clean c) :
    (EvmLifecycle.runOne commit ops c).map (fun p => (p.1, p.2.db)) = EvmLifecycle.runFresh commit pre0 ops c.db :=
  Revm.Proofs.EvmLifecycle.sequence_eq commit pre0 ops c hc (fun op hop => by
    obtain ⟨s, hs⟩ := hops op hop
    rw [hs]; exact evm_hspec_blind s)

/-- one `transact_commit` request -/
structure TxReq where
  env : Env
  spec : Nat
  fuel : Nat
  /-- whether the handler was rebuilt through the builder before the call (`Evm::new` runs again) -/
  rebuilt : Bool := false

def TxReq.op (t : TxReq) : EvmLifecycle.Op WDb Env LErr Nat Empty (Nat × Nat) LS Act FRes ERes :=
  { h := evmHandler t.spec, rebuilt := t.rebuilt, env := t.env, entry := .transactCommit, fuel := t.fuel }

/-- every transaction by `Evm.transact` on a FRESH world over the database committed so far; `none` when one of them
is not executed. Each result comes with the log store of its final world. -/
def evmFreshSeq (commit : WDb → EvmLifecycle.EvmState → WDb) : List TxReq → WDb → Option (List (TxResult × World) × WDb)
  | [], db => some ([], db)
  | t :: ts, db =>
    match Evm.transact t.fuel (mkWorld db (JState.new t.spec EvmLifecycle.noPreloaded)) t.env t.spec with
    | .ok (.executed r, x) =>
      match evmFreshSeq commit ts (commit (WDb.of x) x.js.state) with
      | some (rs, db') => some ((r, x) :: rs, db')
      | none => none
    | _ => none

/-- the abstract results are the concrete ones with the log ids not yet resolved: pointwise
`resolve (log store of the final world) er = r`. Unrelated to `EvmInstSd.Resolved` (a resolved instruction). -/
inductive Resolved : List ERes → List (TxResult × World) → Prop
  | nil : Resolved [] []
  | cons {er : ERes} {p : TxResult × World} {ers : List ERes} {rs : List (TxResult × World)} :
      resolve p.2.logs er = p.1 → Resolved ers rs → Resolved (er :: ers) (p :: rs)

theorem evm_fresh_history (commit : WDb → EvmLifecycle.EvmState → WDb) (pre0 : Nat) :
    ∀ (ts : List TxReq) (db : WDb) (rs : List (TxResult × World)) (db' : WDb),
      evmFreshSeq commit ts db = some (rs, db') →
      ∃ ers : List ERes, EvmLifecycle.runFresh commit pre0 (ts.map TxReq.op) db =
          some (ers.map (fun er => EvmLifecycle.CallResult.commit (.ok er)), db') ∧
        Resolved ers rs := by
  intro ts
  induction ts with
  | nil =>
    intro db rs db' h
    simp only [evmFreshSeq, Option.some.injEq, Prod.mk.injEq] at h
    obtain ⟨rfl, rfl⟩ := h
    exact ⟨[], rfl, .nil⟩
  | cons t ts ih =>
    intro db rs db' h
    unfold evmFreshSeq at h
    cases ht : Evm.transact t.fuel (mkWorld db (JState.new t.spec EvmLifecycle.noPreloaded)) t.env t.spec with
    | error er => rw [ht] at h; simp at h
    | ok p =>
      obtain ⟨o, x⟩ := p
      cases o with
      | rejected => rw [ht] at h; simp at h
      | executed r =>
        rw [ht] at h
        simp only [] at h
        cases hrest : evmFreshSeq commit ts (commit (WDb.of x) x.js.state) with
        | none => rw [hrest] at h; simp at h
        | some q =>
          obtain ⟨rs1, db1⟩ := q
          rw [hrest] at h
          simp only [Option.some.injEq, Prod.mk.injEq] at h
          obtain ⟨rfl, rfl⟩ := h
          obtain ⟨ers1, hf, hall⟩ := ih _ _ _ hrest
          obtain ⟨er, c', hL, hres, hdb⟩ := evm_transact_executed t.spec t.fuel
            (EvmLifecycle.Ctx.build db t.env t.spec pre0) rfl r x ht
          refine ⟨er :: ers1, ?_, .cons hres hall⟩
          show EvmLifecycle.runFresh commit pre0 (t.op :: ts.map TxReq.op) db = _
          unfold EvmLifecycle.runFresh
          have hcall : EvmLifecycle.call t.op.h commit t.op.entry t.op.fuel
              (EvmLifecycle.Ctx.build db t.op.env t.op.h.spec pre0) =
              some (.commit (.ok er), { c' with db := commit c'.db x.js.state }) := by
            show (EvmLifecycle.transactCommit (evmHandler t.spec) commit t.fuel
              (EvmLifecycle.Ctx.build db t.env t.spec pre0)).map _ = _
            unfold EvmLifecycle.transactCommit
            rw [hL]
            rfl
          rw [hcall]
          simp only []
          rw [hdb, hf]
          rfl

end Revm.Proofs.EvmInstLife
