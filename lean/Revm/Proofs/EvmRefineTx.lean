import Revm.Proofs.EvmRefineWorld
import Revm.Proofs.EvmSimTx
/-! The transaction-level obligations of the simulation, at the empty checkpoint stacks. Before execution begins the
relation is `R0` (`CfgRel [] · [] ·` plus `SameSt`): validation (`pre_rr`), `load_accounts` with the access list
(`load_rel`). From then on `CfgRel [] · [] ·`: `deduct_rr`, `auth_rr` (EIP-7702 authorization list), `fin_rr`
(`reimburse_caller` / `reward_beneficiary` / `output`). -/
namespace Revm.Proofs.EvmRefine
open Revm Revm.Model Revm.Model.Journal Revm.Spec.JournalAbs Revm.Proofs.Journal Revm.Proofs.Frame
open Revm.Model.Evm
open Revm.Proofs.EvmRR Revm.Proofs.EvmSim

variable {w1 w2 : World}

/-- the storage maps of the two state maps are the same (true before anything was reverted; `initial_account_load` of
the access list is a function of the map, not of the observable slots) -/
def SameSt (j s : JState) : Prop := ∀ a x y, j.state a = some x → s.state a = some y → x.storage = y.storage

/-- before execution begins; `SameSt` is for the access list (`ial_rel`) and is dropped by `load_rel` -/
def R0 (w1 w2 : World) : Prop := CfgRel [] w1 [] w2 ∧ SameSt w1.js w2.js

theorem loadAccount_storage {db : Db} {s s' : JState} {a : Addr} {c : Bool} (h : loadAccount db s a = some (s', c)) :
    ∀ b x', s'.state b = some x' →
      (∃ x, s.state b = some x ∧ x'.storage = x.storage) ∨ (s.state b = none ∧ x'.storage = fun _ => none) := by
  intro b x' hb
  rw [(loadAccount_state h).1] at hb
  by_cases hba : b = a
  · subst hba
    simp only [setAcct, if_true, Option.some.injEq] at hb
    subst hb
    cases hs : s.state b with
    | some x => exact .inl ⟨x, rfl, rfl⟩
    | none => exact .inr ⟨rfl, by unfold dbAcct; cases db.basic b <;> rfl⟩
  · simp only [setAcct, hba, if_false] at hb
    exact .inl ⟨x', hb, rfl⟩

theorem loadCode_storage {db : Db} {s s' : JState} {a : Addr} {c : Bool} (h : loadCode db s a = some (s', c)) :
    ∀ b x', s'.state b = some x' →
      (∃ x, s.state b = some x ∧ x'.storage = x.storage) ∨ (s.state b = none ∧ x'.storage = fun _ => none) := by
  intro b x' hb
  obtain ⟨s1, x, h1, hx, rfl⟩ := loadCode_some h
  by_cases hc : x.info.code.isNone = true
  · rw [if_pos hc] at hb
    by_cases hba : b = a
    · subst hba
      simp only [setAcct, if_true, Option.some.injEq] at hb
      subst hb
      exact loadAccount_storage h1 b x hx
    · simp only [setAcct, hba, if_false] at hb
      exact loadAccount_storage h1 b x' hb
  · rw [if_neg hc] at hb
    exact loadAccount_storage h1 b x' hb

/-- two loads that only add pristine accounts keep `SameSt` -/
theorem SameSt.of_storage {db : Db} {j s j' s' : JState} (h : SameSt j s) (hrel : JRel db j s)
    (hj : ∀ b x', j'.state b = some x' →
      (∃ x, j.state b = some x ∧ x'.storage = x.storage) ∨ (j.state b = none ∧ x'.storage = fun _ => none))
    (hs : ∀ b y', s'.state b = some y' →
      (∃ y, s.state b = some y ∧ y'.storage = y.storage) ∨ (s.state b = none ∧ y'.storage = fun _ => none)) :
    SameSt j' s' := by
  intro b x' y' hx' hy'
  rcases hj b x' hx' with ⟨x, hx, ex⟩ | ⟨hxn, ex⟩
  · rcases hs b y' hy' with ⟨y, hy, ey⟩ | ⟨hyn, ey⟩
    · rw [ex, ey]; exact h b x y hx hy
    · have := hrel.get hx
      obtain ⟨y, hy, _⟩ := this
      rw [hyn] at hy; cases hy
  · rcases hs b y' hy' with ⟨y, hy, ey⟩ | ⟨hyn, ey⟩
    · have := hrel.get_none hxn
      rw [this] at hy; cases hy
    · rw [ex, ey]

theorem wLoadCode_sameSt (h : R0 w1 w2) {a : Addr} {wa wb : World} {c : Bool} (h1 : w1.loadCode a = .ok (wa, c))
    (h2 : w2.loadCode a = .ok (wb, c)) : SameSt wa.js wb.js :=
  h.2.of_storage h.1.w.rel (loadCode_storage (EvmHost.loadCode_ok h1).1) (loadCode_storage (EvmHost.loadCode_ok h2).1)

theorem pre_rr (e : Evm.Env) (spec : Nat) (h : R0 w1 w2) :
    RR (PreRel R0) (preverify w1 e spec) (preverify w2 e spec) := by
  unfold preverify
  refine RR.bindSame (validateEnv e spec) fun b => ?_
  by_cases hb : (!b) = true
  · simp only [hb, if_true]; exact RR.pure trivial
  · simp only [hb, Bool.false_eq_true, if_false]
    refine RR.bindSame _ fun ⟨ig, fg⟩ => ?_
    simp only
    by_cases c1 : ig > e.tx.gasLimit
    · simp only [c1, if_true]; exact RR.pure trivial
    · simp only [c1, if_false]
      by_cases c2 : GasCalc.enabled spec GasCalc.SpecId.PRAGUE = true ∧ fg > e.tx.gasLimit
      · rw [if_pos c2, if_pos c2]; exact RR.pure trivial
      · rw [if_neg c2, if_neg c2]
        refine RR.bind (RR.withEq (wLoadCode_rr h.1 e.tx.caller)) ?_
        rintro ⟨wa, c⟩ ⟨wb, c'⟩ ⟨⟨hc, hr⟩, h1, h2⟩
        simp only at hc hr
        subst hc
        refine RR.bind (acct_rr hr _) ?_
        intro x y hxy
        rw [fetch_info _ h1 h2 hr hxy]
        refine code_rr hr rfl fun code => ?_
        by_cases hva : (!validateAgainstState e spec code x.info) = true
        · simp only [hva, if_true]; exact RR.pure trivial
        · simp only [hva, Bool.false_eq_true, if_false]
          exact RR.pure ⟨rfl, rfl, hr, wLoadCode_sameSt h h1 h2⟩

theorem pre_rel (e : Evm.Env) (spec : Nat) (h : R0 w1 w2) {o1 : Option (World × Nat × Nat)}
    (hl : preverify w1 e spec = .ok o1) : ∃ o2, preverify w2 e spec = .ok o2 ∧ PreRel R0 o1 o2 :=
  (pre_rr e spec h).ok hl

theorem ial_congr {db db' : Db} (hb : db'.basic = db.basic) (hs : db'.storage = db.storage) (s : JState) (a : Addr)
    (ks : List Nat) : initialAccountLoad db' s a ks = initialAccountLoad db s a ks := by
  unfold initialAccountLoad; rw [hb, hs]

theorem ial_rel {db : Db} {j s : JState} (h : JRel db j s) (hst : SameSt j s)
    (hdb : ∀ b i, db.basic b = some i → ∀ hh, i.code = some hh → hh = i.codeHash) (a : Addr) (ks : List Nat) :
    JRel db (initialAccountLoad db j a ks) (initialAccountLoad db s a ks) ∧
    SameSt (initialAccountLoad db j a ks) (initialAccountLoad db s a ks) := by
  rw [ial_eq, ial_eq]
  unfold loadedAcct
  cases hx : j.state a with
  | some x =>
    obtain ⟨y, hy, ar⟩ := h.get hx
    rw [hy]
    simp only
    have est : x.storage = y.storage := hst a x y hx hy
    obtain ⟨e1, e2, e3, e4, e5, e6, e7, e8, e9⟩ := ar
    refine ⟨h.setAcct a _ _ ⟨e1, e2, e3, e4, e5, e6, e7, e8, ?_⟩ (h.cj a x hx) (h.cs a y hy), ?_⟩
    · show slotsOf db a x.created (ialSt db a ks x.storage) = slotsOf db a y.created (ialSt db a ks y.storage)
      rw [est, e4]
    · intro b x' y' hx' hy'
      by_cases hb : b = a
      · subst hb
        simp only [Journal.setAcct, if_true, Option.some.injEq] at hx' hy'
        subst hx'; subst hy'
        show ialSt db b ks x.storage = ialSt db b ks y.storage
        rw [est]
      · simp only [Journal.setAcct, hb, if_false] at hx' hy'
        exact hst b x' y' hx' hy'
  | none =>
    rw [h.get_none hx]
    simp only
    refine ⟨h.setAcct a _ _ ⟨rfl, rfl, rfl, rfl, rfl, rfl, rfl, rfl, rfl⟩ (dbAcct_code hdb a) (dbAcct_code hdb a), ?_⟩
    intro b x' y' hx' hy'
    by_cases hb : b = a
    · subst hb
      simp only [Journal.setAcct, if_true, Option.some.injEq] at hx' hy'
      subst hx'; subst hy'
      rfl
    · simp only [Journal.setAcct, hb, if_false] at hx' hy'
      exact hst b x' y' hx' hy'

theorem R0.setSpecPre (h : R0 w1 w2) {sp1 sp2 : Nat} (hsp : sp1 = sp2) (f : (Addr → Bool) → Addr → Bool) :
    R0 { w1 with js := { w1.js with spec := sp1, preloaded := f w1.js.preloaded } }
       { w2 with js := { w2.js with spec := sp2, preloaded := f w2.js.preloaded } } := by
  obtain ⟨hc, hst⟩ := h
  have g := hc.good
  refine ⟨hc.nil_step (Upd.js w1 _) (Upd.js w2 _) ?_ ?_ (.of_state_eq rfl) (fun _ => rfl), hst⟩
  · refine ⟨hc.w.rel.ent, hc.w.rel.tr, hc.w.rel.logs, hc.w.rel.depth, hsp, ?_, hc.w.rel.jne, hc.w.rel.sne, hc.w.rel.cj,
      hc.w.rel.cs⟩
    show f w1.js.preloaded = f w2.js.preloaded
    rw [hc.w.rel.pre]
  · exact ⟨Revm.Proofs.Frame.JRefs.mono g.refs (Grows.of_state_eq rfl) rfl, g.ne, g.bal⟩

theorem R0.setPre (h : R0 w1 w2) (f : (Addr → Bool) → Addr → Bool) :
    R0 { w1 with js := { w1.js with preloaded := f w1.js.preloaded } }
       { w2 with js := { w2.js with preloaded := f w2.js.preloaded } } :=
  h.setSpecPre h.1.w.rel.spec f

/-- one access-list item of `loadAccounts`, the body of its fold (`EvmInstLife.loadAccessList` has the same body) -/
def alItem (w : World) (it : AccessItem) : World :=
  let w := { w with js := Journal.initialAccountLoad w.db w.js it.addr it.keys }.noteAddr it.addr
  it.keys.foldl (fun w k => w.noteSlot it.addr k) w

theorem alItem_rel (h : R0 w1 w2) (it : AccessItem) : R0 (alItem w1 it) (alItem w2 it) := by
  obtain ⟨hc, hst⟩ := h
  obtain ⟨hrel, hst'⟩ := ial_rel hc.w.rel hst (dbCode_pre _) it.addr it.keys
  have g' := ial_good hc.w.dbBal hc.good it.addr it.keys
  unfold alItem
  simp only
  rw [ial_congr (db_basic w1) (db_storage w1), ial_congr hc.db2 hc.st2]
  have u1 := ((Upd.js w1 (initialAccountLoad (dbPre w1.pre) w1.js it.addr it.keys)).note it.addr).slots it.addr it.keys
  have u2 := ((Upd.js w2 (initialAccountLoad (dbPre w1.pre) w2.js it.addr it.keys)).note it.addr).slots it.addr it.keys
  exact ⟨hc.nil_step u1 u2 hrel g' (dom_initialAccountLoad _ _ _ _) (fun b => by simp), by rw [u1.1, u2.1]; exact hst'⟩

theorem alFold_rel (l : List AccessItem) (h : R0 w1 w2) :
    R0 (l.foldl alItem w1) (l.foldl alItem w2) := by
  induction l generalizing w1 w2 with
  | nil => exact h
  | cons it l ih => simp only [List.foldl_cons]; exact ih (alItem_rel h it)

theorem load_rel (e : Evm.Env) (spec : Nat) (h : R0 w1 w2) :
    CfgRel [] (loadAccounts e spec w1) [] (loadAccounts e spec w2) := by
  have hA := h.setSpecPre (sp1 := spec) rfl
    (fun p a => p a || (GasCalc.enabled spec GasCalc.SpecId.SHANGHAI && a == e.block.coinbase))
  have hB := alFold_rel e.tx.accessList hA
  exact (hB.setPre (fun p a => p a || isPrecompile spec a)).1

variable {w1 w2 : World}

theorem deduct_rr (e : Evm.Env) (spec : Nat) (h : CfgRel [] w1 [] w2) :
    RR (fun a b => CfgRel [] a [] b) (deductCaller e spec w1) (deductCaller e spec w2) := by
  unfold deductCaller
  refine RR.bind (wLoadAccount_rr h _) ?_
  rintro ⟨wa, c⟩ ⟨wb, c'⟩ ⟨_, hr⟩
  simp only at hr
  refine RR.bind (acct_rr hr _) ?_
  rintro x y ⟨ar, hxs, hys⟩
  refine RR.bindSame _ fun gasCost => ?_
  obtain ⟨e1, e2, e3, e4, e5, e6, e7, e8, e9⟩ := ar
  have hbx : x.info.balance < W := hr.good.bal _ x hxs
  -- the caller's entry is rewritten without journaling: balance, touched mark, and the nonce of a call
  have key : ∀ nf : Nat → Nat, CfgRel []
      { wa with js := Journal.setAcct wa.js e.tx.caller { x with touched := true, info := { x.info with
        balance := U256.saturatingSub x.info.balance gasCost, nonce := nf x.info.nonce } } } []
      { wb with js := Journal.setAcct wb.js e.tx.caller { y with touched := true, info := { y.info with
        balance := U256.saturatingSub y.info.balance gasCost, nonce := nf y.info.nonce } } } := by
    intro nf
    refine hr.nil_upd hxs hys ⟨by simp [e1], by simp [e2], e3, e4, e5, rfl, e7, e8, e9⟩ rfl ?_
      (hr.w.rel.cj _ x hxs) (hr.w.rel.cs _ y hys)
    show U256.saturatingSub x.info.balance gasCost < W
    unfold U256.saturatingSub; omega
  refine RR.pure ?_
  by_cases hto : e.tx.to.isSome = true
  · simp only [hto, if_true]
    exact key fun n => U64ops.saturatingAdd n 1
  · simp only [hto, Bool.false_eq_true, if_false]
    exact key id

theorem deduct_rel (e : Evm.Env) (spec : Nat) (h : CfgRel [] w1 [] w2) {w1' : World}
    (hl : deductCaller e spec w1 = .ok w1') : ∃ w2', deductCaller e spec w2 = .ok w2' ∧ CfgRel [] w1' [] w2' :=
  (deduct_rr e spec h).ok hl

/-- the unjournaled rewrite of balance and touched mark that `reimburse_caller` / `reward_beneficiary` make in `finish` -/
def updBT (x : Acct) (b : Nat) (g : Bool → Bool) : Acct := { x with touched := g x.touched, info := { x.info with balance := b } }

theorem updBT_rel {wa wb : World} (hr : CfgRel [] wa [] wb) {a : Addr} {x y : Acct} (hxy : AcctRel wa wb a x y)
    (f : Nat → Nat) (g : Bool → Bool) (hf : ∀ b, f b < W) :
    CfgRel [] { wa with js := Journal.setAcct wa.js a (updBT x (f x.info.balance) g) } []
      { wb with js := Journal.setAcct wb.js a (updBT y (f y.info.balance) g) } := by
  obtain ⟨ar, hxs, hys⟩ := hxy
  obtain ⟨e1, e2, e3, e4, e5, e6, e7, e8, e9⟩ := ar
  exact hr.nil_upd hxs hys ⟨by simp [updBT, e1], e2, e3, e4, e5, by simp [updBT, e6], e7, e8, e9⟩ rfl (hf _)
    (hr.w.rel.cj _ x hxs) (hr.w.rel.cs _ y hys)

theorem fin_rr (e : Evm.Env) (spec fg rf : Nat) (ic : Bool) (res : Interp.ChildResult) (h : CfgRel [] w1 [] w2) :
    RR (ValRel CfgRel [] []) (finish e spec fg rf ic res w1) (finish e spec fg rf ic res w2) := by
  unfold finish
  simp only
  refine RR.bind (wLoadAccount_rr h _) ?_
  rintro ⟨wa, c⟩ ⟨wb, c'⟩ ⟨_, hr⟩
  simp only at hr
  refine RR.bind (acct_rr hr _) ?_
  intro x y hxy
  have hn := updBT_rel hr hxy
    (fun b => U256.saturatingAdd b (U256.wmul e.effectiveGasPrice
      (U64ops.wadd (finalGas e spec fg rf res).remaining (Gas.i64AsU64 (finalGas e spec fg rf res).refunded))))
    id (fun b => U256.satAdd_lt _ _)
  refine RR.bind (wLoadAccount_rr hn _) ?_
  rintro ⟨wc, c3⟩ ⟨wd, c3'⟩ ⟨_, hr3⟩
  simp only at hr3
  refine RR.bind (acct_rr hr3 _) ?_
  intro x3 y3 hxy3
  have hn3 := updBT_rel hr3 hxy3
    (fun b => U256.saturatingAdd b (U256.wmul
      (if GasCalc.enabled spec GasCalc.SpecId.LONDON = true then U256.saturatingSub e.effectiveGasPrice e.block.basefee
        else e.effectiveGasPrice)
      (U64ops.wsub (Gas.spent (finalGas e spec fg rf res)) (Gas.i64AsU64 (finalGas e spec fg rf res).refunded))))
    (fun _ => true) (fun b => U256.satAdd_lt _ _)
  refine RR.bindSame _ fun cls => ?_
  refine RR.pure ⟨?_, hn3⟩
  show txResultOf cls res ic _ (List.filterMap (fun i => wc.logs[i]?) wc.js.logs) =
    txResultOf cls res ic _ (List.filterMap (fun i => wd.logs[i]?) wd.js.logs)
  rw [hr3.w.logs, hr3.w.rel.logs]

theorem fin_rel (e : Evm.Env) (spec fg rf : Nat) (ic : Bool) (res : Interp.ChildResult) (h : CfgRel [] w1 [] w2)
    {r : TxResult} {w1' : World} (hl : finish e spec fg rf ic res w1 = .ok (r, w1')) :
    ∃ w2', finish e spec fg rf ic res w2 = .ok (r, w2') ∧ CfgRel [] w1' [] w2' :=
  ValRel.ok (fin_rr e spec fg rf ic res h) hl

theorem applyAuth_rr (e : Evm.Env) (a : Auth) (h : CfgRel [] w1 [] w2) :
    RR (WV [] []) (applyAuth e w1 a) (applyAuth e w2 a) := by
  unfold applyAuth
  by_cases c1 : a.chainId ≠ 0 ∧ a.chainId ≠ e.cfg.chainId
  · rw [if_pos c1, if_pos c1]; exact RR.pure ⟨rfl, h⟩
  · rw [if_neg c1, if_neg c1]
    by_cases c2 : a.nonce = U64 - 1
    · rw [if_pos c2, if_pos c2]; exact RR.pure ⟨rfl, h⟩
    · rw [if_neg c2, if_neg c2]
      cases hau : a.authority with
      | none => exact RR.pure ⟨rfl, h⟩
      | some authority =>
        simp only
        refine fetch_rr h authority fun wa wb c x y code F => ?_
        obtain ⟨hr, hxy, hi⟩ := F
        rw [hi]
        by_cases c3 : (!code.isEmpty) = true ∧ (delegateOf code).isNone = true
        · rw [if_pos c3, if_pos c3]; exact RR.pure ⟨rfl, hr⟩
        · rw [if_neg c3, if_neg c3]
          by_cases c4 : a.nonce ≠ x.info.nonce
          · rw [if_pos c4, if_pos c4]; exact RR.pure ⟨rfl, hr⟩
          · rw [if_neg c4, if_neg c4]
            -- the authority's entry is rewritten without journaling: code hash, cache, nonce, touched mark
            obtain ⟨⟨_, _, _, e4, e5, _, e7, e8, e9⟩, hxs, hys⟩ := hxy
            have hbx : x.info.balance < W := hr.good.bal _ x hxs
            by_cases c5 : a.address = 0
            · simp only [c5, if_true]
              exact RR.pure ⟨rfl, hr.nil_upd hxs hys ⟨rfl, rfl, rfl, e4, e5, rfl, e7, e8, e9⟩ rfl hbx
                (fun c hc' => (Option.some.inj hc').symm) (fun c hc' => (Option.some.inj hc').symm)⟩
            · simp only [c5, if_false]
              have hr' := addCode_rel hr (Keccak.keccak256w (designator a.address)) (designator a.address)
              refine RR.pure ⟨rfl, hr'.nil_upd (x := x) (y := y) (by rw [addCode_js]; exact hxs) (by rw [addCode_js]; exact hys)
                ⟨rfl, rfl, rfl, e4, e5, rfl, e7, e8, by rw [addCode_pre]; exact e9⟩ rfl hbx
                (fun c hc' => (Option.some.inj hc').symm) (fun c hc' => (Option.some.inj hc').symm)⟩

theorem applyAuth_rel (e : Evm.Env) (a : Auth) (h : CfgRel [] w1 [] w2) {w1' : World} {r : Bool}
    (hl : applyAuth e w1 a = .ok (w1', r)) : ∃ w2', applyAuth e w2 a = .ok (w2', r) ∧ CfgRel [] w1' [] w2' :=
  WV.ok (applyAuth_rr e a h) hl

/-- the body of the loop of `apply_eip7702_auth_list` -/
def authBody (e : Evm.Env) (a : Auth) (s : World × Nat) : R (ForInStep (World × Nat)) := do
  let x ← applyAuth e s.1 a
  match x with
  | (w', r) => if r = true then pure (ForInStep.yield (w', s.2 + 1)) else pure (ForInStep.yield (w', s.2))

theorem forIn_auth_rr (e : Evm.Env) (l : List Auth) : ∀ (w1 w2 : World) (n : Nat), CfgRel [] w1 [] w2 →
    RR (fun p1 p2 => p1.2 = p2.2 ∧ CfgRel [] p1.1 [] p2.1) (forIn l (w1, n) (authBody e)) (forIn l (w2, n) (authBody e)) := by
  induction l with
  | nil => intro w1 w2 n h; simp only [List.forIn_nil]; exact RR.pure ⟨rfl, h⟩
  | cons a l ih =>
    intro w1 w2 n h
    simp only [List.forIn_cons]
    have step : RR (fun s1 s2 => ∃ wa wb m, s1 = ForInStep.yield (wa, m) ∧ s2 = ForInStep.yield (wb, m) ∧ CfgRel [] wa [] wb)
        (authBody e a (w1, n)) (authBody e a (w2, n)) := by
      unfold authBody
      refine RR.bind (applyAuth_rr e a h) ?_
      rintro ⟨wa, r⟩ ⟨wb, r'⟩ ⟨hr, hrel⟩
      simp only at hr hrel
      subst hr
      by_cases hrr : r = true
      · simp only [hrr, if_true]; exact RR.pure ⟨wa, wb, _, rfl, rfl, hrel⟩
      · simp only [hrr]; exact RR.pure ⟨wa, wb, _, rfl, rfl, hrel⟩
    refine RR.bind step ?_
    rintro s1 s2 ⟨wa, wb, m, h1, h2, hrel⟩
    subst h1; subst h2
    exact ih wa wb m hrel

theorem auth_rr (e : Evm.Env) (spec : Nat) (h : CfgRel [] w1 [] w2) :
    RR (fun p1 p2 => p1.2 = p2.2 ∧ CfgRel [] p1.1 [] p2.1) (applyAuthList e spec w1) (applyAuthList e spec w2) := by
  unfold applyAuthList
  by_cases c1 : (!GasCalc.enabled spec GasCalc.SpecId.PRAGUE) = true
  · rw [if_pos c1, if_pos c1]; exact RR.pure ⟨rfl, h⟩
  · rw [if_neg c1, if_neg c1]
    cases hal : e.tx.authList with
    | none => exact RR.pure ⟨rfl, h⟩
    | some l =>
      show RR _ (do
        let s ← forIn l (w1, 0) (authBody e)
        pure (s.1, U64ops.wmul s.2 (PER_EMPTY_ACCOUNT_COST - PER_AUTH_BASE_COST)) : R (World × Nat)) (do
        let s ← forIn l (w2, 0) (authBody e)
        pure (s.1, U64ops.wmul s.2 (PER_EMPTY_ACCOUNT_COST - PER_AUTH_BASE_COST)) : R (World × Nat))
      refine RR.bind (forIn_auth_rr e l w1 w2 0 h) ?_
      rintro ⟨wa, na⟩ ⟨wb, nb⟩ ⟨hn, hr⟩
      simp only at hn hr
      subst hn
      exact RR.pure ⟨rfl, hr⟩

theorem auth_rel (e : Evm.Env) (spec : Nat) (h : CfgRel [] w1 [] w2) {w1' : World} {n : Nat}
    (hl : applyAuthList e spec w1 = .ok (w1', n)) :
    ∃ w2', applyAuthList e spec w2 = .ok (w2', n) ∧ CfgRel [] w1' [] w2' :=
  WV.ok (auth_rr e spec h) hl

end Revm.Proofs.EvmRefine
