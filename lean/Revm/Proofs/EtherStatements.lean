import Revm.Proofs.EtherHistory
import Revm.Model.TxFeeLegs
/-! C08: the per-operation statements in the vocabulary of `Props/C08.lean` — totals (`make_create_frame` included), the
burn ledger, untouched accounts, an operation followed by the undo of its own entries: each is the refinement of the
operation (`*_refines`, `step_refines`) followed by the balance machine's lemma of `Proofs/Ether.lean`. -/
namespace Revm.Proofs.Ether
open Revm Revm.Model.Journal Revm.Model.TxFeeLegs Revm.Spec.JournalAbs Revm.Spec.Ether

theorem crt_eq_abs (db : Db) (s : JState) (a : Addr) : crt s a = (absAcct db s a).created := by
  unfold crt absAcct; cases s.state a <;> rfl

theorem bal_of_absB {db : Db} {s : JState} {b : BState} (h : absB db s = b) : bal db s = b.f := congrArg BState.f h

theorem total_of_same {db : Db} {L : List Addr} {s s' : JState} (h : Same db s s') : total L db s' = total L db s := by
  simp only [total, h.1]

theorem total_of_absB {db : Db} {L : List Addr} {s s' : JState} (h : absB db s' = absB db s) :
    total L db s' = total L db s := by
  have : bal db s' = bal db s := congrArg BState.f h
  simp only [total, this]

theorem transfer_total {db : Db} {L : List Addr} {s s' : JState} {src dst : Addr} {v : Nat} {r : Option TransferErr}
    (hn : L.Nodup) (hs : src ∈ L) (hd : dst ∈ L) (hok : BalOk db s)
    (h : transfer db s src dst v = some (s', r)) : total L db s' = total L db s := by
  have e := bal_of_absB (transfer_refines hok h).1
  simp only [total, e]
  exact bTransfer_sum hn (absB db s) v hs hd

theorem create_total {db : Db} {L : List Addr} {s s' : JState} {caller a : Addr} {hs : Bool} {v spec : Nat}
    {r : Except CreateErr Checkpoint} (hn : L.Nodup) (hc : caller ∈ L) (ha : a ∈ L)
    (hfund : caller = a ∨ v ≤ bal db s caller)
    (h : createAccountCheckpoint s caller a hs v spec = some (s', r)) : total L db s' = total L db s := by
  obtain ⟨k1, k2, _⟩ := create_refines (db := db) h
  cases r with
  | ok cp =>
    obtain ⟨_, e⟩ := k1 rfl
    simp only [total, bal_of_absB e]
    exact bCreateOk_sum hn (absB db s) hc ha hfund
  | error er => exact total_of_absB (k2 (by cases er <;> simp [createOutcome]))

/-- `make_create_frame` conserves on every path and needs no hypothesis about the endowment: its own
balance check is what makes the wrapping subtraction in `create_account_checkpoint` exact -/
theorem makeCreateFrame_conserves {db : Db} {L : List Addr} {s s' : JState} {caller created : Addr}
    {hs : Bool} {v spec : Nat} {r : CreateFrame} (hn : L.Nodup) (hc : caller ∈ L) (ha : created ∈ L)
    (h : makeCreateFrame db s caller created hs v spec = some (s', r)) : total L db s' = total L db s := by
  unfold makeCreateFrame at h
  simp only [bind, Option.bind_eq_some_iff] at h
  obtain ⟨⟨s1, c1⟩, h1, c, h2, h⟩ := h
  simp only [] at h2 h
  obtain ⟨e1, _⟩ := loadAccount_same (db := db) h1
  split at h
  · cases h; exact total_of_same e1
  · rename_i hfund
    simp only [Option.bind_eq_some_iff] at h
    obtain ⟨⟨s2, n⟩, h3, h⟩ := h
    simp only [] at h
    have e2 := incNonce_same (db := db) h3
    split at h
    · cases h; exact total_of_same (e1.trans e2)
    · simp only [Option.bind_eq_some_iff] at h
      obtain ⟨⟨s3, c3⟩, h4, ⟨s4, r4⟩, h5, h⟩ := h
      simp only [] at h5 h
      obtain ⟨e3, _⟩ := loadAccount_same (db := db) h4
      have e13 := (e1.trans e2).trans e3
      have hb : v ≤ bal db s3 caller := by
        rw [e13.1, ← e1.1, bal_some h2]; omega
      obtain ⟨k1, k2, _⟩ := create_refines (db := db) h5
      have hs4 : total L db s4 = total L db s := by
        cases r4 with
        | ok cp =>
          obtain ⟨_, e⟩ := k1 rfl
          have : bal db s4 = (bCreateOk (absB db s3) caller created v).f := congrArg BState.f e
          simp only [total, this]
          rw [bCreateOk_sum hn (absB db s3) hc ha (Or.inr hb)]
          exact total_of_same e13
        | error er =>
          rw [total_of_absB (k2 (by cases er <;> simp [createOutcome]))]
          exact total_of_same e13
      cases r4 with
      | ok cp => cases h; exact hs4
      | error er => cases er <;> (cases h; exact hs4)

theorem selfdestruct_total {db : Db} {L : List Addr} {s s' : JState} {a t : Addr} {res : Bool × Bool × Bool × Bool}
    (hn : L.Nodup) (ha : a ∈ L) (ht : t ∈ L) (hok : BalOk db s)
    (h : selfdestruct db s a t = some (s', res)) :
    total L db s'
      + (if a = t ∧ ((absAcct db s a).created ∨ !decide (s.spec ≥ CANCUN)) then bal db s a else 0)
      + (if a ≠ t ∧ W ≤ bal db s t + bal db s a then W else 0) = total L db s := by
  obtain ⟨prev, e⟩ := selfdestruct_refines (db := db) h
  simp only [total, bal_of_absB e, ← crt_eq_abs db s a]
  exact bSelfdestruct_sum hn (b := absB db s) hok _ _ _ ha ht

theorem ledger_of_inv {db : Db} {L : List Addr} {B : Addr → Nat} {s : JState} (hn : L.Nodup)
    (h : BInv L B (absB db s)) : total L db s + burnt s = sumOver L B := h.ledger hn

theorem burnt_of_absB {db : Db} {s : JState} {b : BState} (h : absB db s = b) : burnt s = burntJ b.j :=
  congrArg (fun x : BState => burntJ x.j) h

theorem step_only_named {db : Db} {r r' : Run} {op : Op} (hok : BalOk db r.js) (h : step db r op = some r')
    (hnr : ∀ i, op ≠ .revert i) {x : Addr} (hx : x ∉ opAddrs op) : bal db r'.js x = bal db r.js x := by
  by_cases hop : isEtherOp op = false
  · rw [(non_ether_step (db := db) hop h).1]
  have e := step_refines hok h
  cases op <;> (first | exact absurd rfl hop | skip)
  all_goals simp only [opAddrs, List.mem_cons, List.not_mem_nil, or_false, not_or] at hx
  case transfer src dst v =>
    rw [bal_of_absB e]; exact bTransfer_others _ v hx.1 hx.2
  case selfdestruct a t =>
    obtain ⟨prev, e⟩ := e
    rw [bal_of_absB e]; exact bSelfdestruct_others _ _ _ _ hx.1 hx.2
  case create caller a hs v spec =>
    rcases e with e | ⟨_, e⟩
    · rw [bal_of_absB e]; rfl
    · rw [bal_of_absB e]; exact bCreateOk_others _ v hx.1 hx.2
  case revert i => exact absurd rfl (hnr i)

/-- DESIGN A.1 (b), projected to balances: the balance entries an operation pushes undo exactly what it did to every
balance, whether or not its arithmetic wrapped (an unfunded creation, a self-destruct credit beyond 2^256) -/
theorem step_undoes {db : Db} {r r' : Run} {op : Op} (hok : BalOk db r.js)
    (h : step db r op = some r') (hnr : ∀ i, op ≠ .revert i) :
    ∃ new, JB r'.js = new ++ JB r.js ∧ undoAll (bal db r'.js) new = bal db r.js := by
  have e := step_refines hok h
  -- the operation of the balance machine, run on an empty journal, is undone by its own entries
  have fin : ∀ {b' : BState}, absB db r'.js = ⟨b'.f, b'.j ++ JB r.js⟩ → undoAll b'.f b'.j = bal db r.js →
      ∃ new, JB r'.js = new ++ JB r.js ∧ undoAll (bal db r'.js) new = bal db r.js :=
    fun e hu => ⟨_, congrArg BState.j e, by rw [bal_of_absB e]; exact hu⟩
  by_cases hop : isEtherOp op = false
  · have e := non_ether_step (db := db) hop h
    exact ⟨[], by rw [e.2]; rfl, by rw [e.1]; rfl⟩
  · cases op <;> (first | (exact absurd rfl hop) | dsimp only at e)
    case transfer src dst v =>
      rw [show absB db r.js = ⟨bal db r.js, JB r.js⟩ from rfl, bTransfer_suffix] at e
      exact fin e (bTransfer_inv (L := [src, dst]) (binv_fresh' hok) v (by simp) (by simp)).base
    case selfdestruct a t =>
      obtain ⟨prev, e⟩ := e
      rw [show absB db r.js = ⟨bal db r.js, JB r.js⟩ from rfl, bSelfdestruct_suffix] at e
      exact fin e (bSelfdestruct_undo hok a t _ _ prev)
    case create caller a hs v spec =>
      rcases e with e | ⟨hlt, e⟩
      · exact ⟨[], congrArg BState.j e, congrArg BState.f e⟩
      · rw [show absB db r.js = ⟨bal db r.js, JB r.js⟩ from rfl, bCreateOk_suffix] at e
        exact fin e (bCreateOk_undo hok hlt)
    case revert i => exact absurd rfl (hnr i)

/-- `step_undoes` carrying the hypothesis `StepOk` of `Props.C08.op_then_undo_restores`, which the proof does not use -/
theorem step_undo_restores {db : Db} {r r' : Run} {op : Op} (hok : BalOk db r.js)
    (_hloc : StepOk db r op) (h : step db r op = some r') (hnr : ∀ i, op ≠ .revert i) :
    ∃ new, JB r'.js = new ++ JB r.js ∧ undoAll (bal db r'.js) new = bal db r.js :=
  step_undoes hok h hnr

end Revm.Proofs.Ether
