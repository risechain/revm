import Revm.Proofs.InterpCtl
import Revm.Proofs.MemoryOutcome
/-! C25: re-entry of a child result (`insert_call_outcome`, `insert_create_outcome`, `insert_eofcreate_outcome`). Gas
comes BACK here, so the walk cannot stay inside one `Rel` (whose measure only falls): between two primitives it keeps
`Mid B s x` (the basic invariant, a bound `B` on the measure, the static part of `s`), and each primitive is run by its
`Step` from `Rel x x` (`mid_step`). -/
namespace Revm.Proofs.Interp
open Revm Revm.Model Revm.Model.Interp

/-- the part of the state that stack / memory / gas / return-data updates leave alone -/
structure SameStatic (s x : IState) : Prop where
  code : x.code = s.code
  origLen : x.origLen = s.origLen
  jt : x.jumpTable = s.jumpTable
  pc : x.pc = s.pc
  isEof : x.isEof = s.isEof
  isEofInit : x.isEofInit = s.isEofInit
  spec : x.spec = s.spec
  env : x.env = s.env
  eofc : x.eof = s.eof
  input : x.input = s.input

theorem SameStatic.ofEq {s x : IState} (h1 : x.code = s.code) (h2 : x.origLen = s.origLen)
    (h3 : x.jumpTable = s.jumpTable) (h4 : x.pc = s.pc) (h5 : x.isEof = s.isEof) (h6 : x.isEofInit = s.isEofInit)
    (h7 : x.spec = s.spec) (h8 : x.env = s.env) (h9 : x.eof = s.eof) (h10 : x.input = s.input) : SameStatic s x :=
  ⟨h1, h2, h3, h4, h5, h6, h7, h8, h9, h10⟩

theorem SameStatic.refl (s : IState) : SameStatic s s := ⟨rfl, rfl, rfl, rfl, rfl, rfl, rfl, rfl, rfl, rfl⟩

theorem SameStatic.trans {a b c : IState} (h1 : SameStatic a b) (h2 : SameStatic b c) : SameStatic a c :=
  ⟨h2.code.trans h1.code, h2.origLen.trans h1.origLen, h2.jt.trans h1.jt, h2.pc.trans h1.pc,
   h2.isEof.trans h1.isEof, h2.isEofInit.trans h1.isEofInit, h2.spec.trans h1.spec, h2.env.trans h1.env,
   h2.eofc.trans h1.eofc, h2.input.trans h1.input⟩

theorem Rel.sameStatic {k : Nat} {st ne : Bool} {L : Nat} {s s' : IState} (h : Rel k st ne L s s') :
    SameStatic s s' :=
  ⟨h.code, h.origLen, h.jt, h.pc, h.isEof, h.isEofInit, h.spec, h.env, h.eofc, h.input⟩

theorem Base.ofRes {s s' : IState} {k : Nat} {st ne : Bool} {L : Nat} (hi : Base s) (hr : Res k st ne L s s') :
    Base s' :=
  { envOk := by rw [hr.spec, hr.env]; exact hi.envOk
    stack := hr.stack, memWF := hr.memWF, memCk := hr.memCk, rdLen := hr.rdLen, inLen := hr.inLen
    meas := by have := hr.meas; have := hr.m0; omega
    safe := hr.safe }

theorem Base.ofRel {s s' : IState} {k : Nat} {st ne : Bool} {L : Nat} (hi : Base s) (hr : Rel k st ne L s s') :
    Base s' := hi.ofRes hr.toRes

/-- what the frame machine hands back for an action: at most the gas it was given, never `FatalExternalError`
(the EVM loop leaves through `take_error()?` before `insert_*_outcome` in that case), output a Rust `Bytes` -/
structure ChildOk (a : Action) (c : ChildResult) : Prop where
  gas : c.gasRemaining ≤ a.gasLimit
  notFatal : c.result ≠ .FatalExternalError
  outLen : c.output.length ≤ Memory.ISIZE_MAX
  /-- an EOFCREATE child that ended in `ReturnContract` carries the created address (`expect("EOF Address")`) -/
  addr : ∀ i, a = .eofCreate i → c.result = .ReturnContract → c.address ≠ none

/-- the basic invariant, a bound on the measure, same static part as `s` -/
def Mid (B : Nat) (s x : IState) : Prop := Base x ∧ measure x ≤ B ∧ SameStatic s x

theorem modifyS_sat {H : IState → Prop} (f : IState → IState) (s : IState) :
    Exec.Sat (modifyS f s) H (fun _ x => x = f s) := .ok rfl

theorem Mid.mono {B B' : Nat} {s0 s : IState} (h : Mid B s0 s) (hB : B ≤ B') : Mid B' s0 s :=
  ⟨h.1, Nat.le_trans h.2.1 hB, h.2.2⟩

theorem Mid.setReturnData {B : Nat} {s0 s : IState} (h : Mid B s0 s) (rd : List Nat)
    (hrd : rd.length ≤ Memory.ISIZE_MAX) : Mid B s0 { s with returnData := rd } :=
  ⟨{ envOk := h.1.envOk, stack := h.1.stack, memWF := h.1.memWF, memCk := h.1.memCk, rdLen := hrd,
     inLen := h.1.inLen, meas := h.1.meas, safe := h.1.safe },
   h.2.1, h.2.2.trans (SameStatic.ofEq rfl rfl rfl rfl rfl rfl rfl rfl rfl rfl)⟩

/-- giving gas back: `erase_cost(returned)` (+ `record_refund`) keeps the invariant while the total stays below
`u64::MAX` -/
theorem Mid.gasBack {B B' : Nat} {s0 s : IState} (h : Mid B s0 s) (g' : Gas.Gas) (ret : Nat)
    (hg : g'.remaining = U64ops.wadd s.gas.remaining ret) (hB : B + ret ≤ B') (hB' : B' ≤ U64 - 2) :
    Mid B' s0 { s with gas := g' } := by
  have hU := U64_val
  have hle : measure s + ret ≤ B' := Nat.le_trans (Nat.add_le_add_right h.2.1 ret) hB
  have hms : measure s = s.gas.remaining + mcost s := rfl
  have hm' : measure { s with gas := g' } = measure s + ret := by
    show g'.remaining + mcost s = _
    rw [hg, Proofs.Gas.wadd_of_lt _ _ (by omega), hms, Nat.add_right_comm]
  have hlt : measure { s with gas := g' } < U64 - 1 := by rw [hm']; omega
  exact
    ⟨{ envOk := h.1.envOk, stack := h.1.stack, memWF := h.1.memWF,
       memCk := h.1.memCk, rdLen := h.1.rdLen, inLen := h.1.inLen,
       meas := Nat.le_of_lt hlt, safe := Or.inl hlt },
     by rw [hm']; exact hle, h.2.2.trans (SameStatic.ofEq rfl rfl rfl rfl rfl rfl rfl rfl rfl rfl)⟩

/-- a primitive that keeps `Rel`, run in a state of which `Mid` is known -/
theorem mid_step {B B' : Nat} {s0 s : IState} (h : Mid B s0 s) (hB : B ≤ B') {st : Bool}
    (hst : st = true → measure s < U64 - 1) {m : M Unit} {j : Idx}
    (hm : Step s ⟨0, st, false, clen s.mem⟩ m j fun _ => True) :
    Exec.Sat (m s) (fun x => measure x ≤ B') (fun _ x => Mid B s0 x) := by
  refine sat_conv (hm s (h.1.relL st hst)) ?_ ?_
  · intro x hx; have := hx.meas; have := h.2.1; omega
  · rintro _ x ⟨_, _, hx⟩
    exact ⟨h.1.ofRel hx, by have := hx.meas; have := h.2.1; omega, h.2.2.trans hx.sameStatic⟩

theorem mid_push {B B' : Nat} {s0 s : IState} (h : Mid B s0 s) (hB : B ≤ B') (hB' : B' ≤ U64 - 2) (v : Nat) :
    Exec.Sat (push v s) (fun x => measure x ≤ B') (fun _ x => Mid B s0 x) :=
  mid_step h hB (st := true) (fun _ => by have := h.2.1; have := U64_val; omega) (.push v)

theorem mid_memSet {B : Nat} {s0 s : IState} (h : Mid B s0 s) (off : Nat) (val : List Nat)
    (hin : val = [] ∨ off + val.length ≤ clen s.mem) :
    Exec.Sat (liftMemWrite (fun m => Memory.set m off val) s) (fun x => measure x ≤ B)
      (fun _ x => Mid B s0 x) :=
  mid_step h (Nat.le_refl _) (st := false) (fun e => by cases e) (.memSet hin)

/-- the create re-entries push before the gas comes back, so the bound is checked after the `push!` -/
theorem giveBackCreate_sat {B0 B ret : Nat} {s0 s : IState} (h : Mid B0 s0 s) (hB : B0 + ret ≤ B)
    (hB2 : B ≤ U64 - 2) (f : Gas.Gas → Gas.Gas) (hf : ∀ g, (f g).remaining = U64ops.wadd g.remaining ret)
    (v : Nat) :
    Exec.Sat ((push v >>= fun _ => modifyS fun s => { s with gas := f s.gas }) s)
      (fun x => measure x ≤ B) (fun _ x => Mid B s0 x) := by
  refine sat_bind (mid_push h (by omega) hB2 v) ?_
  intro _ s2 h2
  exact .ok (h2.gasBack _ ret (hf _) hB hB2)

theorem statusOnly_sat {B0 B : Nat} {s0 s : IState} (h : Mid B0 s0 s) (hB : B0 ≤ B) (hB2 : B ≤ U64 - 2) (v : Nat) :
    Exec.Sat (push v s) (fun x => measure x ≤ B) (fun _ x => Mid B s0 x) :=
  sat_mono (mid_push h hB hB2 v) (fun _ _ hq => hq.mono hB)

theorem Base.mid {s : IState} (hi : Base s) : Mid (measure s) s s := ⟨hi, Nat.le_refl _, SameStatic.refl s⟩

/-- the verdict on a child result, once `return_data_buffer` is set: `ok` and `rev` give the unused gas back, any
other result only pushes a status word (`FatalExternalError` never arrives) -/
theorem childVerdict_sat {B0 B : Nat} {s0 s : IState} (h : Mid B0 s0 s) (hB : B0 ≤ B) (hB2 : B ≤ U64 - 2)
    {c : ChildResult} (hnf : c.result ≠ .FatalExternalError) {p : Prop} [Decidable p] {ok rev : M Unit} (v : Nat)
    (hok : p → Exec.Sat (ok s) (fun x => measure x ≤ B) (fun _ x => Mid B s0 x))
    (hrev : Exec.Sat (rev s) (fun x => measure x ≤ B) (fun _ x => Mid B s0 x)) :
    Exec.Sat ((if p then ok else if c.result.isRevert then rev
        else if c.result = .FatalExternalError then faultWith .panic else push v) s)
      (fun x => measure x ≤ B) (fun _ x => Mid B s0 x) := by
  split
  · rename_i hp; exact hok hp
  · split
    · exact hrev
    · exact statusOnly_sat h hB hB2 v

theorem insertCall_sat {s : IState} {B gl : Nat} (hi : Base s) (hB1 : measure s + gl ≤ B) (hB2 : B ≤ U64 - 2)
    (retStart retEnd : Nat) (c : ChildResult)
    (hret : retEnd - retStart = 0 ∨ (retStart ≤ retEnd ∧ retEnd ≤ clen s.mem))
    (hg : c.gasRemaining ≤ gl) (hnf : c.result ≠ .FatalExternalError)
    (hol : c.output.length ≤ Memory.ISIZE_MAX) :
    Exec.Sat (insertCallOutcome retStart retEnd c s) (fun x => measure x ≤ B) (fun _ x => Mid B s x) := by
  have h1 : Mid (measure s) s { s with returnData := c.output } := hi.mid.setReturnData _ hol
  have hval : (c.output.take (min (retEnd - retStart) c.output.length)) = []
      ∨ retStart + (c.output.take (min (retEnd - retStart) c.output.length)).length ≤ clen s.mem := by
    rcases hret with h0 | ⟨h1, h2⟩
    · left; rw [h0]; simp
    · right; simp only [List.length_take]; omega
  rw [Proofs.MemoryOutcome.insertCallOutcome_eq]
  by_cases hc : c.result.isOk = true ∨ c.result.isRevert = true
  · -- the unused gas comes back, then the window is written, then the status word is pushed
    rw [if_pos hc]
    refine sat_bind (mid_memSet (h1.gasBack _ c.gasRemaining (Proofs.MemoryOutcome.gasBack_rem hc _) (by omega) hB2)
      retStart _ hval) ?_
    intro _ s3 h3
    exact mid_push h3 (Nat.le_refl _) hB2 _
  · rw [if_neg hc, if_neg hnf]
    exact statusOnly_sat h1 (by omega) hB2 _

theorem insertCreate_sat {s : IState} {B gl : Nat} (hi : Base s) (hB1 : measure s + gl ≤ B) (hB2 : B ≤ U64 - 2)
    (c : ChildResult) (hg : c.gasRemaining ≤ gl) (hnf : c.result ≠ .FatalExternalError)
    (hol : c.output.length ≤ Memory.ISIZE_MAX) :
    Exec.Sat (insertCreateOutcome c s) (fun x => measure x ≤ B) (fun _ x => Mid B s x) := by
  unfold insertCreateOutcome
  refine sat_bind (modifyS_sat _ s) ?_
  rintro _ s1 rfl
  have h1 : Mid (measure s) s { s with returnData := if c.result.isRevert = true then c.output else [] } :=
    hi.mid.setReturnData _ (by split <;> simp [hol])
  exact childVerdict_sat h1 (by omega) hB2 hnf _
    (fun _ => giveBackCreate_sat h1 (by omega) hB2
      (fun g => Gas.recordRefund (Gas.eraseCost g c.gasRemaining) c.gasRefunded) (fun _ => rfl) _)
    (giveBackCreate_sat h1 (by omega) hB2 (fun g => Gas.eraseCost g c.gasRemaining) (fun _ => rfl) _)

theorem insertEofCreate_sat {s : IState} {B gl : Nat} (hi : Base s) (hB1 : measure s + gl ≤ B) (hB2 : B ≤ U64 - 2)
    (c : ChildResult) (hg : c.gasRemaining ≤ gl) (hnf : c.result ≠ .FatalExternalError)
    (hol : c.output.length ≤ Memory.ISIZE_MAX) (haddr : c.result = .ReturnContract → c.address ≠ none) :
    Exec.Sat (insertEofCreateOutcome c s) (fun x => measure x ≤ B) (fun _ x => Mid B s x) := by
  unfold insertEofCreateOutcome
  refine sat_bind (modifyS_sat _ s) ?_
  rintro _ s1 rfl
  have h1 : Mid (measure s) s { s with returnData := if c.result = .Revert then c.output else [] } :=
    hi.mid.setReturnData _ (by split <;> simp [hol])
  refine childVerdict_sat h1 (by omega) hB2 hnf _ (fun hok => ?_)
    (giveBackCreate_sat h1 (by omega) hB2 (fun g => Gas.eraseCost g c.gasRemaining) (fun _ => rfl) _)
  cases ha : c.address with
  | none => exact absurd ha (haddr hok)
  | some a =>
    exact giveBackCreate_sat h1 (by omega) hB2
      (fun g => Gas.recordRefund (Gas.eraseCost g c.gasRemaining) c.gasRefunded) (fun _ => rfl) _

theorem insertOutcome_sat {s : IState} {B : Nat} (a : Action) (c : ChildResult) (hi : Base s)
    (hB1 : measure s + a.gasLimit ≤ B) (hB2 : B ≤ U64 - 2) (hret : RetOk a (clen s.mem)) (hc : ChildOk a c) :
    Exec.Sat (insertOutcome a c s) (fun x => measure x ≤ B) (fun _ x => Mid B s x) := by
  cases a with
  | call i => exact insertCall_sat hi hB1 hB2 i.retStart i.retEnd c hret hc.gas hc.notFatal hc.outLen
  | create i => exact insertCreate_sat hi hB1 hB2 c hc.gas hc.notFatal hc.outLen
  | eofCreate i => exact insertEofCreate_sat hi hB1 hB2 c hc.gas hc.notFatal hc.outLen (hc.addr i rfl)

end Revm.Proofs.Interp
