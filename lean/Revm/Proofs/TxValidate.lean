import Revm.Proofs.GasCalcTx
import Revm.Proofs.Checks
import Revm.Proofs.TxValidateRes
import Revm.Spec.TxValid
/-! C02, validation: the code-shaped `Model.TxValidate.validate` against `Spec.TxValid`, stage by stage.
Every stage of the code is `resOf (firstViolated (rules of the stage))`: one check of the
code is one rule (`fv_step`), in the code's order. -/
namespace Revm.Proofs.TxValidate
open Revm
open Revm.Model.GasCalc (enabled canon)
open Revm.Model.GasCalc.SpecId
open Revm.Model.TxValidate
open Revm.Spec.GasCalc (Fork intrinsicGas floorGas)
open Revm.Spec.TxValid

theorem fv_append (l1 l2 : List Rule) :
    resOf (firstViolated (l1 ++ l2)) = (resOf (firstViolated l1)).andThen (resOf (firstViolated l2)) := by
  induction l1 with
  | nil => rfl
  | cons r rs ih =>
    obtain ⟨e, b⟩ := r
    cases b
    · simp [firstViolated, resOf, Res.andThen]
    · simpa [firstViolated] using ih

theorem fv_none_iff (l : List Rule) : firstViolated l = none ↔ ∀ r ∈ l, r.2 = true := by
  induction l with
  | nil => simp [firstViolated]
  | cons r rs ih =>
    obtain ⟨e, b⟩ := r
    cases b <;> simp [firstViolated, ih]

theorem resOf_eq_ok (o : Option Err) : resOf o = .ok ↔ o = none := by
  cases o <;> simp [resOf]

theorem fv_cons (e : Err) (b : Bool) (l : List Rule) :
    resOf (firstViolated ((e, b) :: l)) = if b then resOf (firstViolated l) else .err e := by
  cases b <;> simp [firstViolated, resOf]

theorem fv_pos {P : Prop} [Decidable P] {e : Err} {l : List Rule} (h : P) :
    resOf (firstViolated ((e, decide P) :: l)) = resOf (firstViolated l) := by
  rw [fv_cons, decide_eq_true h]; rfl
theorem fv_neg {P : Prop} [Decidable P] {e : Err} {l : List Rule} (h : ¬ P) :
    resOf (firstViolated ((e, decide P) :: l)) = .err e := by
  rw [fv_cons, decide_eq_false h]; rfl
theorem fv_nil : resOf (firstViolated []) = .ok := rfl

/-- **One check of the code is one rule.** The code rejects with `e` exactly when the rule `P` is violated, and
goes on with `k`, which is the rest of the list once `P` is known to hold. -/
theorem fv_step {c P : Prop} [Decidable c] [Decidable P] {e : Err} {k : Res} {l : List Rule}
    (hc : c ↔ ¬ P) (hk : P → k = resOf (firstViolated l)) :
    (if c then .err e else k) = resOf (firstViolated ((e, decide P) :: l)) := by
  by_cases hP : P
  · rw [fv_pos hP, if_neg (fun h => hc.1 h hP)]; exact hk hP
  · rw [fv_neg hP, if_pos (hc.2 hP)]

theorem andThen_assoc (a b c : Res) : (a.andThen b).andThen c = a.andThen (b.andThen c) := by
  cases a <;> rfl

theorem fv_cons_none (e : Err) (P : Prop) [Decidable P] (l : List Rule) :
    firstViolated ((e, decide P) :: l) = none ↔ P ∧ firstViolated l = none := by
  by_cases h : P <;> simp [firstViolated, h]

theorem fv_nil_none : firstViolated [] = none := rfl

theorem fv_append_none (l1 l2 : List Rule) :
    firstViolated (l1 ++ l2) = none ↔ firstViolated l1 = none ∧ firstViolated l2 = none := by
  rw [← resOf_eq_ok, fv_append, andThen_eq_ok, resOf_eq_ok, resOf_eq_ok]

/-! ### the gates after `spec_to_generic!` -/

theorem enc_berlin (f : Fork) : enabled (canon f.id) BERLIN = hasEIP2930 f := by cases f <;> rfl
theorem enc_london (f : Fork) : enabled (canon f.id) LONDON = hasEIP1559 f := by cases f <;> rfl
theorem enc_merge (f : Fork) : enabled (canon f.id) MERGE = hasMerge f := by cases f <;> rfl
theorem enc_shanghai (f : Fork) : enabled (canon f.id) SHANGHAI = hasEIP3860 f := by cases f <;> rfl
theorem enc_cancun (f : Fork) : enabled (canon f.id) CANCUN = hasEIP4844 f := by cases f <;> rfl
theorem enc_prague (f : Fork) : enabled (canon f.id) PRAGUE = hasEIP7702 f := by cases f <;> rfl
theorem canon_of_cancun (f : Fork) (h : hasEIP4844 f = true) : canon f.id = f.id := by
  cases f <;> first | rfl | (exact absurd h (by decide))
theorem gates_mono (f : Fork) :
    (hasEIP7702 f = true → hasEIP4844 f = true) ∧ (hasEIP4844 f = true → hasEIP3860 f = true) ∧
    (hasEIP3860 f = true → hasMerge f = true) ∧ (hasMerge f = true → hasEIP1559 f = true) ∧
    (hasEIP1559 f = true → hasEIP2930 f = true) := by cases f <;> decide
theorem eip7702_eq (f : Fork) : hasEIP7702 f = Fork.hasEIP7623 f := by cases f <;> rfl

/-! ### header -/

theorem validateBlockEnv_eq (f : Fork) (blk : Block) :
    validateBlockEnv (canon f.id) blk = resOf (firstViolated (rulesHeader f blk)) := by
  unfold validateBlockEnv rulesHeader
  rw [enc_merge, enc_cancun]
  refine fv_step (by cases hasMerge f <;> cases blk.prevrandaoSet <;> simp) fun _ =>
    fv_step (by cases hasEIP4844 f <;> cases blk.blobGasPrice <;> simp) fun _ => rfl

/-! ### the blocks of `validate_tx` -/

def rulesTxHead (f : Fork) (cfg : Cfg) (blk : Block) (tx : Tx) : List Rule :=
  [(.InvalidChainId, decide (ChainIdOk cfg tx)),
   (.CallerGasLimitMoreThanBlock, decide (BlockGasOk blk tx)),
   (.AccessListNotSupported, decide (tx.accessList ≠ [] → hasEIP2930 f = true))]
def rulesFee (f : Fork) (blk : Block) (tx : Tx) : List Rule :=
  [(.PriorityFeeGreaterThanMaxFee, decide (hasEIP1559 f = true → PriorityOk tx)),
   (.GasPriceLessThanBasefee, decide (hasEIP1559 f = true → blk.basefee ≤ tx.gasPrice))]
def rulesInit (f : Fork) (cfg : Cfg) (tx : Tx) : List Rule :=
  [(.CreateInitCodeSizeLimit, decide (InitcodeOk f cfg tx))]

theorem prioTooHigh_iff (tx : Tx) :
    (match tx.priorityFee with | some p => decide (p > tx.gasPrice) | none => false) = true ↔ ¬ PriorityOk tx := by
  unfold PriorityOk
  cases tx.priorityFee <;> simp

theorem effective_lt_basefee_iff (blk : Block) (tx : Tx)
    (hwrap : ∀ p, tx.priorityFee = some p → blk.basefee + p < W) :
    effectiveGasPrice blk tx < blk.basefee ↔ ¬ blk.basefee ≤ tx.gasPrice := by
  unfold effectiveGasPrice
  cases hp : tx.priorityFee with
  | none => exact Nat.not_le.symm
  | some p =>
    have hadd : U256.wadd blk.basefee p = blk.basefee + p := Nat.mod_eq_of_lt (hwrap p hp)
    simp only [hadd]
    omega

theorem feeChecks_eq {f : Fork} {blk : Block} {tx : Tx}
    (hwrap : hasEIP1559 f = true → ∀ p, tx.priorityFee = some p → blk.basefee + p < W) :
    feeChecks (canon f.id) blk tx = resOf (firstViolated (rulesFee f blk tx)) := by
  unfold feeChecks rulesFee
  rw [enc_london]
  cases hl : hasEIP1559 f
  · rw [fv_pos (fun h => nomatch h), fv_pos (fun h => nomatch h)]; rfl
  · rw [if_pos rfl]
    refine fv_step ((prioTooHigh_iff tx).trans (by simp)) fun _ =>
      fv_step ((effective_lt_basefee_iff blk tx (hwrap hl)).trans (by simp)) fun _ => rfl

theorem maxInitcodeSize_cmp (cfg : Cfg) (len : Nat) (hlen : len < U64) :
    len > maxInitcodeSize cfg ↔ ¬ len ≤ 2 * maxCodeSize cfg := by
  have hU := U64_val
  unfold maxInitcodeSize maxCodeSize MAX_INITCODE_SIZE U64ops.saturatingMul
  cases cfg.limitContractCodeSize with
  | none => simp only [Option.getD_none]; omega
  | some l => simp only [Option.getD_some]; split <;> omega

theorem initcodeCheck_eq {f : Fork} {cfg : Cfg} {tx : Tx} (hlen : tx.data.length < U64) :
    initcodeCheck (canon f.id) cfg tx = resOf (firstViolated (rulesInit f cfg tx)) := by
  unfold initcodeCheck rulesInit
  rw [enc_shanghai]
  by_cases hg : (hasEIP3860 f && tx.isCreate) = true
  · have hg' : hasEIP3860 f = true ∧ tx.isCreate = true := by simpa using hg
    rw [if_pos hg]
    exact fv_step ((maxInitcodeSize_cmp cfg _ hlen).trans (by simp [InitcodeOk, hg'.1, hg'.2])) fun _ => rfl
  · have hok : InitcodeOk f cfg tx := fun h1 h2 => absurd (by rw [h1, h2]; rfl) hg
    rw [if_neg hg, fv_pos hok]; rfl

/-- reverse `find` = forward fold that keeps the last match -/
theorem rev_find_fold (p : Nat × Nat → Bool) (l : List (Nat × Nat)) (d : Nat) :
    (match l.reverse.find? p with
     | some e => e.2
     | none => d) = l.foldl (fun cur e => if p e then e.2 else cur) d := by
  induction l generalizing d with
  | nil => rfl
  | cons x xs ih =>
    rw [List.reverse_cons, List.find?_append, List.foldl_cons, ← ih]
    cases h : xs.reverse.find? p with
    | some e => simp
    | none =>
      by_cases hx : p x <;> simp [List.find?, hx]

theorem blobMaxCount_eq (cfg : Cfg) (f : Fork) (h : hasEIP4844 f = true) :
    blobMaxCount cfg (canon f.id) = maxBlobs cfg f := by
  unfold blobMaxCount maxBlobs
  rw [canon_of_cancun f h]
  have := rev_find_fold (fun e => decide (f.id ≥ e.1)) cfg.blobSchedule 6
  simp only [ge_iff_le, decide_eq_true_eq] at this ⊢
  exact this

theorem any_ne_iff (l : List Nat) :
    l.any (fun v => v != VERSIONED_HASH_VERSION_KZG) = true ↔ ¬ ∀ v ∈ l, v = 1 := by
  unfold VERSIONED_HASH_VERSION_KZG
  simp [List.any_eq_true]

def rulesBlob (f : Fork) (cfg : Cfg) (blk : Block) (tx : Tx) : List Rule :=
  [(.BlobVersionedHashesNotSupported,
      decide ((tx.maxFeePerBlobGas.isSome = true ∨ tx.blobHashes ≠ []) → hasEIP4844 f = true)),
   (.BlobGasPriceGreaterThanMax, decide (BlobPriceOk blk tx)),
   (.EmptyBlobs, decide (tx.maxFeePerBlobGas.isSome = true → tx.blobHashes ≠ [])),
   (.BlobCreateTransaction, decide (tx.maxFeePerBlobGas.isSome = true → tx.isCreate = false)),
   (.BlobVersionNotSupported, decide (tx.maxFeePerBlobGas.isSome = true → ∀ v ∈ tx.blobHashes, v = 1)),
   (.TooManyBlobs, decide (tx.maxFeePerBlobGas.isSome = true → tx.blobHashes.length ≤ maxBlobs cfg f)),
   (.BlobVersionedHashesNotSupported, decide (tx.maxFeePerBlobGas = none → tx.blobHashes = []))]

theorem blobPriceOk_none (blk : Block) (tx : Tx) (h : tx.maxFeePerBlobGas = none) : BlobPriceOk blk tx := by
  unfold BlobPriceOk; rw [h]; trivial
theorem blobPriceOk_some {blk : Block} {tx : Tx} {m price : Nat} (h : tx.maxFeePerBlobGas = some m)
    (hb : blk.blobGasPrice = some price) : BlobPriceOk blk tx ↔ price ≤ m := by
  unfold BlobPriceOk; rw [h, hb]

theorem blobChecks_eq {f : Fork} {cfg : Cfg} {blk : Block} {tx : Tx}
    (hhdr : hasEIP4844 f = true → blk.blobGasPrice.isSome = true) :
    blobChecks (canon f.id) cfg blk tx = resOf (firstViolated (rulesBlob f cfg blk tx)) := by
  unfold blobChecks rulesBlob
  rw [enc_cancun]
  refine fv_step
    (by cases hasEIP4844 f <;> cases tx.maxFeePerBlobGas <;> cases tx.blobHashes <;> simp) fun hsup => ?_
  cases hm : tx.maxFeePerBlobGas with
  | none =>
    rw [fv_pos (blobPriceOk_none blk tx hm), fv_pos (by simp), fv_pos (by simp), fv_pos (by simp),
      fv_pos (by simp)]
    exact fv_step (by cases tx.blobHashes <;> simp) fun _ => rfl
  | some m =>
    -- a blob transaction got past the first check, so the fork has blobs and the header their price
    have hc : hasEIP4844 f = true := hsup (Or.inl (by rw [hm]; rfl))
    cases hbp : blk.blobGasPrice with
    | none => have := hhdr hc; rw [hbp] at this; exact nomatch this
    | some price =>
      refine fv_step (by rw [blobPriceOk_some hm hbp]; omega) fun _ =>
        fv_step (by cases tx.blobHashes <;> simp) fun _ =>
        fv_step (by cases tx.isCreate <;> simp) fun _ =>
        fv_step ((any_ne_iff _).trans (by simp)) fun _ =>
        fv_step (by rw [hc, blobMaxCount_eq cfg f hc]; simp) fun _ => ?_
      rw [fv_pos (by simp)]; rfl

def rulesAuth (f : Fork) (tx : Tx) : List Rule :=
  [(.AuthorizationListNotSupported, decide (tx.authList.isSome = true → hasEIP7702 f = true)),
   (.EmptyAuthorizationList, decide (tx.authList ≠ some 0)),
   (.AuthorizationListInvalidFields,
      decide (tx.authList.isSome = true → tx.maxFeePerBlobGas = none ∧ tx.blobHashes = [])),
   (.AuthorizationListInvalidFields, decide (tx.authList.isSome = true → tx.isCreate = false))]

theorem authChecks_eq (f : Fork) (tx : Tx) :
    authChecks (canon f.id) tx = resOf (firstViolated (rulesAuth f tx)) := by
  unfold authChecks rulesAuth
  rw [enc_prague]
  refine fv_step (by cases hasEIP7702 f <;> cases tx.authList <;> simp) fun _ => ?_
  cases tx.authList with
  | none => rw [fv_pos (by simp), fv_pos (by simp), fv_pos (by simp)]; rfl
  | some n =>
    exact fv_step (by simp) fun _ =>
      fv_step (by cases tx.maxFeePerBlobGas <;> cases tx.blobHashes <;> simp) fun _ =>
      fv_step (by cases tx.isCreate <;> simp) fun _ => rfl

/-! ### `validate_tx` as a whole -/

theorem rulesTx_split (f : Fork) (cfg : Cfg) (blk : Block) (tx : Tx) :
    rulesTx f cfg blk tx =
      rulesTxHead f cfg blk tx ++ (rulesFee f blk tx ++ (rulesInit f cfg tx ++ (rulesBlob f cfg blk tx ++ rulesAuth f tx))) := rfl

theorem chainIdMismatch_iff (cfg : Cfg) (tx : Tx) : chainIdMismatch cfg tx = true ↔ ¬ ChainIdOk cfg tx := by
  unfold chainIdMismatch ChainIdOk
  cases tx.chainId <;> simp

theorem validateTx_eq {f : Fork} {cfg : Cfg} {blk : Block} {tx : Tx}
    (hwrap : hasEIP1559 f = true → ∀ p, tx.priorityFee = some p → blk.basefee + p < W)
    (hlen : tx.data.length < U64)
    (hhdr : hasEIP4844 f = true → blk.blobGasPrice.isSome = true) :
    validateTx (canon f.id) cfg blk tx = resOf (firstViolated (rulesTx f cfg blk tx)) := by
  have htail : (feeChecks (canon f.id) blk tx).andThen ((initcodeCheck (canon f.id) cfg tx).andThen
      ((blobChecks (canon f.id) cfg blk tx).andThen (authChecks (canon f.id) tx))) =
      resOf (firstViolated (rulesFee f blk tx ++ (rulesInit f cfg tx ++ (rulesBlob f cfg blk tx ++ rulesAuth f tx)))) := by
    rw [fv_append, fv_append, fv_append, feeChecks_eq hwrap, initcodeCheck_eq hlen,
      blobChecks_eq hhdr, authChecks_eq]
  unfold validateTx
  rw [enc_berlin, htail]
  exact fv_step (chainIdMismatch_iff cfg tx) fun _ =>
    fv_step (by unfold BlockGasOk; omega) fun _ =>
    fv_step (by cases hasEIP2930 f <;> cases tx.accessList <;> simp) fun _ => rfl

/-! ### `validate_initial_tx_gas` -/

/-- the intrinsic gas and the floor are representable in `u64` (they are for every transaction that
fits into memory; beyond, `calculate_initial_tx_gas` wraps — the C14 finding `tx-gas-wraps`) -/
def GasFits (f : Fork) (tx : Tx) : Prop :=
  intrinsicGas f tx.data tx.isCreate tx.accessList (tx.authList.getD 0) < U64 ∧ floorGas f tx.data < U64

theorem validateInitialTxGas_eq {f : Fork} {tx : Tx} (hfit : GasFits f tx) :
    validateInitialTxGas (canon f.id) tx = resOf (firstViolated (rulesGas f tx)) := by
  obtain ⟨h1, h2⟩ := hfit
  unfold validateInitialTxGas rulesGas
  rw [Proofs.GasCalc.canon_id, Proofs.GasCalc.calculateInitialTxGas_eq (Proofs.GasCalc.canonFork f) tx.data
    tx.isCreate tx.accessList (tx.authList.getD 0)
    (by rw [Proofs.GasCalc.intrinsic_canon]; exact h1) (by rw [Proofs.GasCalc.floor_canon]; exact h2),
    Proofs.GasCalc.intrinsic_canon, Proofs.GasCalc.floor_canon, ← Proofs.GasCalc.canon_id, enc_prague]
  simp only []
  refine fv_step (by omega) fun _ => fv_step ?_ fun _ => rfl
  -- the floor is 0 before Prague
  rw [eip7702_eq]; unfold floorGas
  cases Fork.hasEIP7623 f <;> simp

/-! ### `validate_tx_against_state` -/

/-- ranges of the Rust types of the fields that take part in 256-bit / 64-bit arithmetic -/
structure InRange (blk : Block) (tx : Tx) (snd : Sender) : Prop where
  basefee : blk.basefee < W
  gasPrice : tx.gasPrice < W
  priorityFee : ∀ p, tx.priorityFee = some p → p < W
  value : tx.value < W
  maxFeePerBlobGas : ∀ m, tx.maxFeePerBlobGas = some m → m < W
  balance : snd.balance < W
  dataLen : tx.data.length < U64
  nonce : ∀ n, tx.nonce = some n → n < U64
  /-- fewer than 2^47 blob hashes (`GAS_PER_BLOB * len` does not wrap in `u64`) -/
  blobLen : 131072 * tx.blobHashes.length < U64

theorem totalBlobGas_eq (tx : Tx) (h : 131072 * tx.blobHashes.length < U64) :
    totalBlobGas tx = blobGas tx := by
  unfold totalBlobGas blobGas GAS_PER_BLOB U64ops.wmul
  exact Nat.mod_eq_of_lt h

/-- the MAXIMUM blob fee, the data fee term of the Spec's `maxCost` (the fee charged is `Props.C09.blobFee`) -/
def blobFee (tx : Tx) : Nat := (tx.maxFeePerBlobGas.getD 0) * blobGas tx

theorem maxDataFee_eq (tx : Tx) (hb : 131072 * tx.blobHashes.length < U64) :
    maxDataFee tx = if blobFee tx < W then blobFee tx else W - 1 := by
  unfold maxDataFee blobFee U256.saturatingMul
  rw [totalBlobGas_eq tx hb]
  cases tx.maxFeePerBlobGas with
  | none => have := W_val; simp only [Option.getD_none, Nat.zero_mul]; rw [if_pos (by omega)]
  | some m => simp only [Option.getD_some]

theorem nonceCheck_eq {tx : Tx} {snd : Sender} (hnr : ∀ n, tx.nonce = some n → n < U64) :
    nonceCheck tx snd = resOf (firstViolated
      [(.NonceTooHigh, decide (NonceNotHigh tx snd)), (.NonceTooLow, decide (NonceNotLow tx snd)),
       (.NonceOverflowInTransaction, decide (NonceNotMax tx))]) := by
  have hU := U64_val
  have e1 : NonceNotHigh tx snd ↔ ∀ n, tx.nonce = some n → n ≤ snd.nonce := by
    unfold NonceNotHigh; cases tx.nonce <;> simp
  have e2 : NonceNotLow tx snd ↔ ∀ n, tx.nonce = some n → snd.nonce ≤ n := by
    unfold NonceNotLow; cases tx.nonce <;> simp
  have e3 : NonceNotMax tx ↔ ∀ n, tx.nonce = some n → n < 2^64 - 1 := by
    unfold NonceNotMax; cases tx.nonce <;> simp
  unfold nonceCheck
  cases hn : tx.nonce with
  | none =>
    rw [fv_pos (e1.2 (by simp [hn])), fv_pos (e2.2 (by simp [hn])), fv_pos (e3.2 (by simp [hn])), fv_nil]
  | some n =>
    simp only [hn, Option.some.injEq, forall_eq'] at e1 e2 e3
    have hnr' := hnr n hn
    exact fv_step (by rw [e1]; omega) fun _ => fv_step (by rw [e2]; omega) fun _ =>
      fv_step (by rw [e3]; omega) fun _ => rfl

theorem balanceCheck_val (s : Nat) (tx : Tx) :
    balanceCheck s tx =
      if tx.gasLimit * tx.gasPrice + tx.value + (if enabled s CANCUN then maxDataFee tx else 0) < W
      then some (tx.gasLimit * tx.gasPrice + tx.value + (if enabled s CANCUN then maxDataFee tx else 0)) else none :=
  Proofs.Gas.checkedCost_val _ _ _ _ _

theorem balanceCheck_eq {f : Fork} {tx : Tx} {snd : Sender} (hr : InRange blk tx snd)
    (hblob : hasEIP4844 f = false → tx.maxFeePerBlobGas = none)
    (hnosat : blobFee tx < W) :
    balanceCheck (canon f.id) tx = if maxCost tx < W then some (maxCost tx) else none := by
  have hfee : (if hasEIP4844 f then maxDataFee tx else 0) = blobFee tx := by
    cases hc : hasEIP4844 f
    · unfold blobFee; rw [hblob hc]; simp
    · rw [if_pos rfl, maxDataFee_eq tx hr.blobLen, if_pos hnosat]
  rw [balanceCheck_val, enc_cancun, hfee]
  rfl

theorem validateTxAgainstState_eq {f : Fork} {blk : Block} {tx : Tx} {snd : Sender} (hr : InRange blk tx snd)
    (hblob : hasEIP4844 f = false → tx.maxFeePerBlobGas = none)
    (hnosat : blobFee tx < W) :
    validateTxAgainstState (canon f.id) tx snd = resOf (firstViolated (rulesState tx snd)) := by
  have hWW : W = 2^256 := rfl
  unfold validateTxAgainstState
  refine fv_step (by simp) fun _ => ?_
  show _ = resOf (firstViolated
    ([(.NonceTooHigh, decide (NonceNotHigh tx snd)), (.NonceTooLow, decide (NonceNotLow tx snd)),
      (.NonceOverflowInTransaction, decide (NonceNotMax tx))] ++
     [(.OverflowPaymentInTransaction, decide (maxCost tx < 2^256)),
      (.LackOfFundForMaxFee, decide (maxCost tx ≤ snd.balance))]))
  rw [fv_append, nonceCheck_eq hr.nonce, balanceCheck_eq hr hblob hnosat]
  congr 1
  by_cases h1 : maxCost tx < W
  · rw [if_pos h1, fv_pos (hWW ▸ h1)]; exact fv_step (by omega) fun _ => rfl
  · rw [if_neg h1, fv_neg (hWW ▸ h1)]

end Revm.Proofs.TxValidate
