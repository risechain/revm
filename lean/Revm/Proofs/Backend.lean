import Revm.Spec.Backend
/-! C24: over any curve with `CurveLaws`, the secp256k1 core and the k256 core (`normalize_s`, then checks after the
recovery) are both the textbook `Spec.Backend.recover` behind the same range gates (`secp_spec`, `k256_spec`), hence
equal. Then `ec_recover_run` and `kzg_point_evaluation::run` in closed form, the library a parameter. -/
namespace Revm.Proofs.Backend
open Revm.Model.Backend Revm.Spec.Backend

section group
variable {C : Curve} (L : CurveLaws C)
include L

theorem zero_add (a : C.Pt) : C.add C.zero a = a := by rw [L.add_comm, L.add_zero]
theorem neg_add_self (a : C.Pt) : C.add (C.neg a) a = C.zero := by rw [L.add_comm, L.add_neg]
theorem add_left_comm (a b c : C.Pt) : C.add a (C.add b c) = C.add b (C.add a c) := by
  rw [← L.add_assoc, L.add_comm a b, L.add_assoc]
theorem neg_unique (a b : C.Pt) (h : C.add a b = C.zero) : b = C.neg a := by
  have h2 : C.add (C.neg a) (C.add a b) = C.neg a := by rw [h, L.add_zero]
  rw [← L.add_assoc, neg_add_self L, zero_add L] at h2
  exact h2
theorem neg_neg (a : C.Pt) : C.neg (C.neg a) = a :=
  (neg_unique L (C.neg a) a (neg_add_self L a)).symm
theorem add_neg_cancel_left (a b : C.Pt) : C.add a (C.add (C.neg a) b) = b := by
  rw [← L.add_assoc, L.add_neg, zero_add L]

omit L in
theorem smul_succ (k : Nat) (Q : C.Pt) : smul C (k + 1) Q = C.add (smul C k Q) Q := rfl
omit L in
theorem smul_zero (Q : C.Pt) : smul C 0 Q = C.zero := rfl
theorem smul_one (Q : C.Pt) : smul C 1 Q = Q := by
  show C.add C.zero Q = Q
  exact zero_add L Q
theorem smul_add (a b : Nat) (Q : C.Pt) : smul C (a + b) Q = C.add (smul C a Q) (smul C b Q) := by
  induction b with
  | zero => rw [Nat.add_zero, smul_zero, L.add_zero]
  | succ k ih => rw [← Nat.add_assoc, smul_succ, ih, smul_succ, L.add_assoc]
theorem smul_zero_pt (k : Nat) : smul C k C.zero = C.zero := by
  induction k with
  | zero => rfl
  | succ k ih => rw [smul_succ, ih, L.add_zero]
theorem smul_add_pt (k : Nat) (a b : C.Pt) :
    smul C k (C.add a b) = C.add (smul C k a) (smul C k b) := by
  induction k with
  | zero => rw [smul_zero, smul_zero, smul_zero, L.add_zero]
  | succ k ih =>
    rw [smul_succ, smul_succ, smul_succ, ih, L.add_assoc, L.add_assoc]
    congr 1
    exact add_left_comm L _ _ _
theorem smul_mul (a b : Nat) (Q : C.Pt) : smul C (a * b) Q = smul C a (smul C b Q) := by
  induction a with
  | zero => rw [Nat.zero_mul, smul_zero, smul_zero]
  | succ k ih => rw [Nat.succ_mul, smul_add L, ih, smul_succ]
theorem smul_mod (a : Nat) (Q : C.Pt) : smul C (a % C.n) Q = smul C a Q := by
  have h : smul C a Q = smul C (C.n * (a / C.n) + a % C.n) Q := by rw [Nat.div_add_mod]
  rw [h, smul_add L, smul_mul L, L.order, zero_add L]
theorem smul_of_mod_one (k : Nat) (Q : C.Pt) (h : k % C.n = 1) : smul C k Q = Q := by
  rw [← smul_mod L, h, smul_one L]
theorem smul_negModN (a : Nat) (Q : C.Pt) : smul C (negModN C a) Q = C.neg (smul C a Q) := by
  apply neg_unique L
  unfold negModN
  rw [smul_mod L, ← smul_mod L a, ← smul_add L]
  have hlt : a % C.n < C.n := Nat.mod_lt a (Nat.lt_trans Nat.zero_lt_one L.n_gt_one)
  have : a % C.n + (C.n - a % C.n) = C.n := by omega
  rw [this, L.order]
theorem smul_neg_pt (k : Nat) (Q : C.Pt) : smul C k (C.neg Q) = C.neg (smul C k Q) := by
  apply neg_unique L
  rw [← smul_add_pt L, L.add_neg, smul_zero_pt L]

/-- the ECDSA verification equation holds on every recovered key:
`[z s^-1]G + [r s^-1]([-(r^-1 z)]G + [r^-1 s]R) = R` -/
theorem verify_point (z r s : Nat) (R : C.Pt) (hr0 : 0 < r) (hr : r < C.n) (hs0 : 0 < s) (hs : s < C.n) :
    C.add (smul C (z * C.inv s % C.n) C.G)
      (smul C (r * C.inv s % C.n)
        (C.add (smul C (negModN C (C.inv r * z % C.n)) C.G) (smul C (C.inv r * s % C.n) R))) = R := by
  have hri := L.inv_mul r hr0 hr
  have hsi := L.inv_mul s hs0 hs
  rw [smul_mod L (z * C.inv s), smul_mod L (r * C.inv s), smul_add_pt L, smul_negModN L,
    smul_mod L (C.inv r * z), smul_mod L (C.inv r * s), smul_neg_pt L, ← smul_mul L, ← smul_mul L]
  have e1 : r * C.inv s * (C.inv r * z) = (r * C.inv r) * (z * C.inv s) := by ac_rfl
  have e2 : r * C.inv s * (C.inv r * s) = (r * C.inv r) * (s * C.inv s) := by ac_rfl
  rw [e1, e2, smul_mul L (r * C.inv r), smul_mul L (r * C.inv r), smul_of_mod_one L _ _ hri,
    smul_of_mod_one L _ _ hri, smul_of_mod_one L _ _ hsi]
  exact add_neg_cancel_left L _ _


omit L in
theorem isOdd_xor (recid : Nat) (h : recid < 2) : isOdd (recid ^^^ 1) = !isOdd recid := by
  have h2 : recid = 0 ∨ recid = 1 := by omega
  rcases h2 with rfl | rfl <;> decide

omit L in
theorem negModN_of_pos (s : Nat) (hs0 : 0 < s) (hs : s < C.n) : negModN C s = C.n - s := by
  unfold negModN
  rw [Nat.mod_eq_of_lt hs, Nat.mod_eq_of_lt (by omega)]

/-- `x` behind the two checks on `(r, s)` that both cores start with (`secpCore C z r s v` and
`k256Core C z r s v` are `gated C r s _` by unfolding) -/
def gated (C : Curve) (r s : Nat) (x : Option C.Pt) : Option C.Pt :=
  if r ≥ C.n ∨ s ≥ C.n then none else if r = 0 ∨ s = 0 then none else x

omit L in
theorem gated_congr {r s : Nat} {x y : Option C.Pt}
    (h : 0 < r → r < C.n → 0 < s → s < C.n → x = y) : gated C r s x = gated C r s y := by
  unfold gated
  by_cases hov : r ≥ C.n ∨ s ≥ C.n
  · rw [if_pos hov, if_pos hov]
  by_cases hz : r = 0 ∨ s = 0
  · rw [if_neg hov, if_pos hz, if_neg hov, if_pos hz]
  rw [if_neg hov, if_neg hz, if_neg hov, if_neg hz]
  exact h (by omega) (by omega) (by omega) (by omega)

omit L in
theorem gated_out {r s : Nat} (x : Option C.Pt) (h : ¬ (0 < r ∧ r < C.n ∧ 0 < s ∧ s < C.n)) :
    gated C r s x = none := by
  unfold gated
  by_cases hov : r ≥ C.n ∨ s ≥ C.n
  · rw [if_pos hov]
  · rw [if_neg hov, if_pos (by omega)]

omit L in
theorem gated_in {r s : Nat} (x : Option C.Pt) (hr0 : 0 < r) (hr : r < C.n) (hs0 : 0 < s) (hs : s < C.n) :
    gated C r s x = x := by
  unfold gated
  rw [if_neg (by omega), if_neg (by omega)]

omit L in
theorem gated_neg {r s : Nat} (x : Option C.Pt) (hs0 : 0 < s) (hs : s < C.n) :
    gated C r (C.n - s) x = gated C r s x := by
  have h1 : (r ≥ C.n ∨ C.n - s ≥ C.n) ↔ (r ≥ C.n ∨ s ≥ C.n) := by omega
  have h2 : (r = 0 ∨ C.n - s = 0) ↔ (r = 0 ∨ s = 0) := by omega
  simp only [gated, h1, h2]

/-- the key as the libraries compute it, `[r^-1 s]R + [-(r^-1 z)]G`, is `r^-1 (s R - z G)` -/
theorem recover_point (z r s : Nat) (R : C.Pt) :
    C.add (smul C (C.inv r * s % C.n) R) (smul C (negModN C (C.inv r * (z % C.n) % C.n)) C.G)
      = smul C (C.inv r) (C.add (smul C s R) (C.neg (smul C z C.G))) := by
  rw [smul_add_pt L, smul_neg_pt L, smul_negModN L, smul_mod L, smul_mod L, smul_mul L, smul_mul L,
    smul_mod L z]

/-- malleability, on the specification: `(r, -s)` with the other parity recovers the same key
(what `normalize_s` + `recid ^= 1` relies on) -/
theorem recover_neg (z r s : Nat) (b : Bool) :
    Spec.Backend.recover C z r (negModN C s) (!b) = Spec.Backend.recover C z r s b := by
  unfold Spec.Backend.recover
  rw [L.lift_neg]
  cases C.lift r b with
  | none => rfl
  | some R =>
    dsimp only [Option.map]
    rw [smul_negModN L, smul_neg_pt L, neg_neg L]

theorem secp_spec (z r s recid : Nat) :
    secpCore C z r s recid = gated C r s (Spec.Backend.recover C z r s (isOdd recid)) := by
  show gated C r s _ = _
  refine congrArg (gated C r s) ?_
  unfold Spec.Backend.recover
  cases C.lift r (isOdd recid) with
  | none => rfl
  | some R => dsimp only; rw [recover_point L]

/-- the k256 path after `normalize_s`, on a low `s'` in range: the checks that follow the recovery
(low `s`, the verification equation) always pass, so it is the textbook formula too -/
theorem k256_checked (z r s' : Nat) (b : Bool) (hr0 : 0 < r) (hr : r < C.n) (hs0 : 0 < s') (hs : s' < C.n)
    (hlow : ¬ s' > C.n / 2) :
    (match C.lift r b with
     | none => none
     | some R =>
       let pk := C.add (smul C (negModN C (C.inv r * (z % C.n) % C.n)) C.G) (smul C (C.inv r * s' % C.n) R)
       if pk = C.zero then none else
       if s' > C.n / 2 then none else
       if C.xmodn (C.add (smul C ((z % C.n) * C.inv s' % C.n) C.G) (smul C (r * C.inv s' % C.n) pk)) = r
       then some pk else none)
    = Spec.Backend.recover C z r s' b := by
  unfold Spec.Backend.recover
  cases hl : C.lift r b with
  | none => rfl
  | some R =>
    dsimp only
    rw [verify_point L (z % C.n) r s' R hr0 hr hs0 hs, L.lift_x r b R hr hl, if_neg hlow, if_pos rfl,
      L.add_comm, recover_point L]

theorem k256_spec (z r s recid : Nat) (hrec : recid < 2) :
    k256Core C z r s recid = gated C r s (Spec.Backend.recover C z r s (isOdd recid)) := by
  show gated C r s _ = _
  refine gated_congr fun hr0 hr hs0 hs => ?_
  by_cases hhigh : s > C.n / 2
  · -- `normalize_s` + `recid ^= 1`: the mirror image, which is low and recovers the same key
    rw [← recover_neg L, ← isOdd_xor recid hrec]
    simp only [decide_eq_true hhigh, if_true]
    rw [negModN_of_pos s hs0 hs]
    exact k256_checked L z r (C.n - s) _ hr0 hr (by omega) (by omega) (by omega)
  · simp only [decide_eq_false hhigh, Bool.false_eq_true, if_false]
    exact k256_checked L z r s _ hr0 hr hs0 hs hhigh

theorem k256_eq_secp (z r s recid : Nat) (hrec : recid < 2) :
    k256Core C z r s recid = secpCore C z r s recid :=
  (k256_spec L z r s recid hrec).trans (secp_spec L z r s recid).symm

theorem secp_malleable (z r s recid : Nat) (hrec : recid < 2) (hs0 : 0 < s) (hs : s < C.n) :
    secpCore C z r (C.n - s) (recid ^^^ 1) = secpCore C z r s recid := by
  rw [secp_spec L, secp_spec L, gated_neg _ hs0 hs, isOdd_xor recid hrec, ← negModN_of_pos s hs0 hs,
    recover_neg L]

theorem secp_eq_spec (z r s recid : Nat) (hr0 : 0 < r) (hr : r < C.n) (hs0 : 0 < s) (hs : s < C.n) :
    secpCore C z r s recid = Spec.Backend.recover C z r s (isOdd recid) :=
  (secp_spec L z r s recid).trans (gated_in _ hr0 hr hs0 hs)


end group

theorem vGate_head (inp : List Nat) (h : vGate inp = true) :
    (inp.drop 63).head? = some 27 ∨ (inp.drop 63).head? = some 28 := by
  unfold vGate at h
  rw [Bool.and_eq_true] at h
  have h2 := h.2
  split at h2
  · left; assumption
  · right; assumption
  · exact absurd h2 (by decide)

/-- `ec_recover_run` in closed form: the `expect` / `unwrap` arm is gone, and the back end is only ever
called with recovery id 0 or 1 -/
theorem ecRecoverRun_eq (f : Nat → Nat → Nat → Nat → List Nat) (input : List Nat) (gas : Nat) :
    ecRecoverRun f input gas =
      if 3000 > gas then .err .OutOfGas else
      if vGate (rightPad 128 input) = false then .ok 3000 [] else
      .ok 3000 (f (beNat ((rightPad 128 input).take 32)) (beNat (((rightPad 128 input).drop 64).take 32))
        (beNat (((rightPad 128 input).drop 96).take 32))
        (if ((rightPad 128 input).drop 63).head? = some 27 then 0 else 1)) := by
  unfold ecRecoverRun
  by_cases hg : 3000 > gas
  · rw [if_pos hg, if_pos hg]
  rw [if_neg hg, if_neg hg]
  dsimp only
  cases hv : vGate (rightPad 128 input) with
  | false => rfl
  | true => rcases vGate_head _ hv with h | h <;> rw [h] <;> rfl

theorem ecRecoverRun_congr (f g : Nat → Nat → Nat → Nat → List Nat)
    (h : ∀ z r s recid, recid < 2 → f z r s recid = g z r s recid) (input : List Nat) (gas : Nat) :
    ecRecoverRun f input gas = ecRecoverRun g input gas := by
  rw [ecRecoverRun_eq, ecRecoverRun_eq, h _ _ _ _ (by split <;> decide)]

theorem rightPad_length (len : Nat) (bs : List Nat) : (rightPad len bs).length = len := by
  unfold rightPad
  rw [List.length_take, List.length_append, List.length_replicate]
  omega

theorem beNat_lt (bs : List Nat) (hb : ∀ b ∈ bs, b < 256) : beNat bs < 256 ^ bs.length := by
  have := foldl_be_lt bs hb 0
  simpa [beNat] using this

theorem beNat32_lt (bs : List Nat) (hb : ∀ b ∈ bs, b < 256) (hl : bs.length = 32) : beNat bs < 2 ^ 256 := by
  have := beNat_lt bs hb
  rw [hl] at this
  exact this

theorem length_take_drop {l : List Nat} {k m : Nat} (h : k + m ≤ l.length) :
    ((l.drop k).take m).length = m := by
  rw [List.length_take, List.length_drop]; omega

/-- `kzg_point_evaluation::run` either fails at one of its own gates, whatever the library, or passes
them all and then only relays the library's verdict -/
theorem kzgRun_cases (input : List Nat) (gas : Nat) :
    (∃ e, ∀ v, kzgRun v input gas = .err e) ∨
    (50000 ≤ gas ∧ input.length = 192 ∧ versionedHash ((input.drop 96).take 48) = input.take 32 ∧
      ∀ v, kzgRun v input gas =
        if !v ((input.drop 96).take 48) (beNat ((input.drop 32).take 32)) (beNat ((input.drop 64).take 32))
          ((input.drop 144).take 48) then .err .BlobVerifyKzgProofFailed else .ok 50000 returnValue) := by
  by_cases hg : gas < 50000
  · exact Or.inl ⟨_, fun v => by unfold kzgRun; rw [if_pos hg]⟩
  by_cases hlen : input.length ≠ 192
  · exact Or.inl ⟨_, fun v => by unfold kzgRun; rw [if_neg hg, if_pos hlen]⟩
  by_cases hv : versionedHash ((input.drop 96).take 48) ≠ input.take 32
  · exact Or.inl ⟨_, fun v => by unfold kzgRun; rw [if_neg hg, if_neg hlen]; exact if_pos hv⟩
  · exact Or.inr ⟨Nat.le_of_not_lt hg, Classical.not_not.mp hlen, Classical.not_not.mp hv,
      fun v => by unfold kzgRun; rw [if_neg hg, if_neg hlen]; exact if_neg hv⟩

end Revm.Proofs.Backend
