import Revm.Proofs.Ether
import Revm.Proofs.JournalUndo
/-! C08: `transfer`, `selfdestruct`, `create_account_checkpoint` and `checkpoint_revert` of the code-shaped journal
model act on (observable balances, balance entries of the journal) like the balance machine of `Spec/Ether.lean`. -/
namespace Revm.Proofs.Ether
open Revm Revm.Model.Journal Revm.Spec.JournalAbs Revm.Spec.Ether

/-- what the balance machine sees of a journal state; every `*_refines` is stated through it -/
def absB (db : Db) (s : JState) : BState := { f := bal db s, j := JB s }

theorem bal_some {db : Db} {s : JState} {a : Addr} {acc : Acct} (h : s.state a = some acc) :
    bal db s a = acc.info.balance := by
  simp only [bal, absAcct, h]

theorem bal_none {db : Db} {s : JState} {a : Addr} (h : s.state a = none) :
    bal db s a = ((db.basic a).getD Info.default).balance := by
  simp only [bal, absAcct, h]

theorem bal_setAcct (db : Db) (s : JState) (a : Addr) (acc : Acct) :
    bal db (setAcct s a acc) = upd (bal db s) a acc.info.balance :=
  congrArg Journal.AState.balance (Journal.absT_setAcct db s a acc)

/-- nothing observable about balances changed, and no balance entry was journaled -/
def Same (db : Db) (s s' : JState) : Prop := bal db s' = bal db s ∧ JB s' = JB s

theorem Same.refl (db : Db) (s : JState) : Same db s s := ⟨rfl, rfl⟩
theorem Same.trans {db : Db} {s s' s'' : JState} (h1 : Same db s s') (h2 : Same db s' s'') : Same db s s'' :=
  ⟨h2.1.trans h1.1, h2.2.trans h1.2⟩
theorem Same.absB {db : Db} {s s' : JState} (h : Same db s s') : absB db s' = absB db s := by
  simp only [Proofs.Ether.absB, h.1, h.2]

theorem same_setAcct {db : Db} {s : JState} {a : Addr} {acc : Acct} (h : acc.info.balance = bal db s a) :
    Same db s (setAcct s a acc) := by
  refine ⟨?_, rfl⟩
  rw [bal_setAcct, h]
  funext x; by_cases hx : x = a
  · subst hx; rw [upd_same]
  · rw [upd_other _ _ hx]

theorem pushEntry_state {s s' : JState} {e : Entry} (h : pushEntry s e = some s') :
    s'.state = s.state ∧ JB s' = if isBal e then e :: JB s else JB s := by
  obtain ⟨l, rest, hj, rfl⟩ := Proofs.Journal.pushEntry_eq h
  refine ⟨rfl, ?_⟩
  simp only [JB, hj, List.flatten_cons, List.cons_append, List.filter_cons]

theorem bal_congr_state {db : Db} {s s' : JState} (h : s'.state = s.state) : bal db s' = bal db s := by
  funext x
  cases hs : s.state x with
  | none => rw [bal_none (h ▸ hs), bal_none hs]
  | some ac => rw [bal_some (h ▸ hs), bal_some hs]

export Revm.Proofs.Journal (setAcct_state_same setAcct_state_ne)

theorem same_pushEntry {db : Db} {s s' : JState} {e : Entry} (h : pushEntry s e = some s') (he : isBal e = false) :
    Same db s s' := by
  obtain ⟨h1, h2⟩ := pushEntry_state h
  exact ⟨bal_congr_state h1, by rw [h2, he]; rfl⟩

theorem touchAccount_same {db : Db} {s s' : JState} {a : Addr} {acc acc' : Acct}
    (hs : s.state a = some acc) (h : touchAccount s a acc = some (s', acc')) :
    Same db s s' ∧ s'.state a = some acc' ∧ acc'.info = acc.info ∧ acc'.created = acc.created ∧
      acc'.selfdestructed = acc.selfdestructed := by
  obtain ⟨rfl, hp⟩ := Journal.touchAccount_some h
  split at hp
  · rename_i ht
    rw [hp]
    exact ⟨Same.refl _ _, by rw [hs]; cases acc; simp_all, rfl, rfl, rfl⟩
  · obtain ⟨s1, hp, rfl⟩ := hp
    have h1 := same_pushEntry (db := db) hp rfl
    refine ⟨h1.trans (same_setAcct ?_), setAcct_state_same _ _ _, rfl, rfl, rfl⟩
    rw [h1.1]; exact (bal_some hs).symm

theorem loadAccount_same {db : Db} {s s' : JState} {a : Addr} {c : Bool}
    (h : loadAccount db s a = some (s', c)) : Same db s s' ∧ ∃ acc, s'.state a = some acc := by
  obtain ⟨acc0, hl, hp⟩ := Journal.loadAccount_some h
  have h0 : Same db s (setAcct s a acc0) := by
    rcases hl with ⟨acc, hs, rfl, _⟩ | ⟨hs, _, rfl⟩
    · exact same_setAcct (bal_some hs).symm
    · refine same_setAcct ((?_ : _ = _).trans (bal_none hs).symm)
      cases db.basic a <;> rfl
  split at hp
  · exact ⟨h0.trans (same_pushEntry hp rfl), _, by rw [(pushEntry_state hp).1]; exact setAcct_state_same _ _ _⟩
  · rw [hp]; exact ⟨h0, _, setAcct_state_same _ _ _⟩

def resOf : Option TransferErr → TransferResult
  | none => .ok
  | some .outOfFunds => .outOfFunds
  | some .overflowPayment => .overflowPayment

theorem absB_eq {db : Db} {s : JState} {f : Addr → Nat} {j : List Entry} (h1 : bal db s = f) (h2 : JB s = j) :
    absB db s = { f := f, j := j } := by simp only [absB, h1, h2]

theorem transfer_refines {db : Db} {s s' : JState} {src dst v : Nat} {r : Option TransferErr}
    (hok : FOk (bal db s)) (h : transfer db s src dst v = some (s', r)) :
    absB db s' = (bTransfer (absB db s) src dst v).1 ∧ resOf r = (bTransfer (absB db s) src dst v).2 := by
  obtain ⟨s1, c1, s2, c2, fa0, s3, fa, h1, h2, h3, h4, h⟩ := Journal.transfer_some h
  obtain ⟨e1, _⟩ := loadAccount_same h1
  obtain ⟨e2, _⟩ := loadAccount_same h2
  obtain ⟨e3, hs3, hi3, _, _⟩ := touchAccount_same (db := db) h3 h4
  have e123 := (e1.trans e2).trans e3
  have hb : fa.info.balance = bal db s src := by
    rw [hi3, ← bal_some (db := db) h3, e2.1, e1.1]
  rw [hb] at h
  unfold bTransfer
  simp only [absB]
  by_cases hlt : bal db s src < v
  · rw [if_pos hlt] at h
    obtain ⟨rfl, rfl⟩ := h
    simp only [hlt, if_true, resOf, and_true]
    exact e123.absB
  · rw [if_neg hlt] at h
    simp only [hlt, if_false]
    obtain ⟨ta0, s5, ta, h5, h6, h⟩ := h
    have hd : bal db (setAcct s3 src { fa with info := { fa.info with balance := bal db s src - v } })
        = upd (bal db s) src (bal db s src - v) := by
      rw [bal_setAcct, e123.1]
    obtain ⟨e4, hs4, hi4, _, _⟩ := touchAccount_same (db := db) h5 h6
    have hb4 : ta.info.balance = upd (bal db s) src (bal db s src - v) dst := by
      rw [hi4, ← bal_some (db := db) h5, hd]
    rw [hb4] at h
    by_cases hov : upd (bal db s) src (bal db s src - v) dst + v ≥ W
    · rw [if_pos hov] at h
      obtain ⟨f, h7, rfl, rfl⟩ := h
      simp only [hov, if_true, resOf, and_true]
      apply absB_eq
      · have hf : f.info.balance = bal db s src - v := by
          rw [← bal_some (db := db) h7, e4.1, hd, upd_same]
        have hs := hok src
        rw [bal_setAcct, e4.1, hd]
        show upd _ src (U256.wadd f.info.balance v) = _
        rw [hf, wadd_eq (by omega)]
        apply fun_eq2 src src
        · rw [upd_same]; omega
        · rw [upd_same]; omega
        · intro x hx _; rw [upd_other _ _ hx, upd_other _ _ hx]
      · exact e4.2.trans e123.2
    · rw [if_neg hov] at h
      obtain ⟨rfl, h7⟩ := h
      simp only [hov, if_false, resOf, and_true]
      obtain ⟨hst, hj⟩ := pushEntry_state h7
      apply absB_eq
      · rw [bal_congr_state hst, bal_setAcct, e4.1, hd]
      · rw [hj, show isBal (.balanceTransfer src dst v) = true from rfl, if_pos rfl]
        show _ :: JB s5 = _
        rw [e4.2]; exact congrArg _ e123.2

theorem bal_setAcct_same {db : Db} {s : JState} {a : Addr} {acc acc' : Acct}
    (hb : acc'.info.balance = acc.info.balance) (hs : s.state a = some acc) :
    bal db (setAcct s a acc') = bal db s :=
  (same_setAcct (hb.trans (bal_some hs).symm)).1

theorem undoBal_noBal (f : Addr → Nat) {e : Entry} (h : isBal e = false) : undoBal f e = f := by
  cases e <;> first | rfl | cases h

theorem undoAll_filter (f : Addr → Nat) (es : List Entry) : undoAll f (es.filter isBal) = undoAll f es := by
  induction es generalizing f with
  | nil => rfl
  | cons e es ih =>
    by_cases he : isBal e = true
    · rw [List.filter_cons_of_pos he]; simp only [undoAll]; exact ih _
    · have he' : isBal e = false := by simpa using he
      rw [List.filter_cons_of_neg he]; simp only [undoAll]; rw [undoBal_noBal f he']; exact ih _

/-- the balance component of C06's `undoEntry_abs` (which needs its hypothesis for `AccountCreated` only) -/
theorem undoEntry_bal {db : Db} {sd : Bool} {s s' : JState} {e : Entry} (h : undoEntry sd s e = some s') :
    bal db s' = undoBal (bal db s) e ∧ s'.journal = s.journal := by
  cases e
  case accountCreated a =>
    obtain ⟨acc, h1, rfl⟩ := Journal.undoEntry_some h
    exact ⟨bal_setAcct_same (acc := acc) rfl h1, rfl⟩
  all_goals
    obtain ⟨a1, _, _, a4, _⟩ := Journal.undoEntry_abs db s s' _ h (fun _ hc => nomatch hc)
    exact ⟨(congrArg Journal.AState.balance a1).trans (undoT_balance _ _ _), a4⟩

theorem undoLevel_bal {db : Db} {sd : Bool} {s s' : JState} {es : List Entry} (h : undoLevel sd s es = some s') :
    bal db s' = undoAll (bal db s) es ∧ s'.journal = s.journal := by
  induction es generalizing s with
  | nil => simp only [undoLevel] at h; cases h; exact ⟨rfl, rfl⟩
  | cons e es ih =>
    simp only [undoLevel, bind, Option.bind_eq_some_iff] at h
    obtain ⟨s1, h1, h2⟩ := h
    obtain ⟨a1, a2⟩ := undoEntry_bal (db := db) h1
    obtain ⟨b1, b2⟩ := ih h2
    exact ⟨by rw [b1, a1]; rfl, b2.trans a2⟩

/-- number of balance entries in the `k` innermost journal levels -/
def balCount (s : JState) (k : Nat) : Nat := ((s.journal.take k).flatten.filter isBal).length

theorem revert_refines {db : Db} {s s' : JState} {cp : Checkpoint} (h : revert s cp = some s') :
    absB db s' = bRevert (absB db s) (balCount s (s.journal.length - cp.journalI)) := by
  obtain ⟨_, s1, hu, rfl⟩ := Journal.revert_some h
  obtain ⟨a1, _⟩ := undoLevel_bal (db := db) hu
  unfold Journal.above at a1
  generalize s.journal.length - cp.journalI = n at *
  have hsplit : JB s = (s.journal.take n).flatten.filter isBal ++ (s.journal.drop n).flatten.filter isBal := by
    rw [← List.filter_append, ← List.flatten_append, List.take_append_drop]; rfl
  simp only [bRevert, absB, balCount]
  apply absB_eq
  · rw [hsplit, List.take_left, undoAll_filter, ← a1]
    exact bal_congr_state rfl
  · rw [hsplit, List.drop_left]; rfl


theorem pushEntry_JB_bal {s s' : JState} {e : Entry} (h : pushEntry s e = some s') (he : isBal e = true) :
    JB s' = e :: JB s := by
  rw [(pushEntry_state h).2, if_pos he]

/-- "created in this transaction" flag of an address (false when the account is not loaded); it is
`(absAcct db s a).created` (`crt_eq_abs`) -/
def crt (s : JState) (a : Addr) : Bool := match s.state a with | some acc => acc.created | none => false

def SameC (s s' : JState) : Prop := (∀ x, crt s' x = crt s x) ∧ s'.spec = s.spec

theorem SameC.refl (s : JState) : SameC s s := ⟨fun _ => rfl, rfl⟩
theorem SameC.trans {s s' s'' : JState} (h1 : SameC s s') (h2 : SameC s' s'') : SameC s s'' :=
  ⟨fun x => (h2.1 x).trans (h1.1 x), h2.2.trans h1.2⟩

theorem crt_some {s : JState} {a : Addr} {acc : Acct} (h : s.state a = some acc) : crt s a = acc.created := by
  simp only [crt, h]

theorem sameC_setAcct {s : JState} {a : Addr} {acc : Acct} (h : acc.created = crt s a) : SameC s (setAcct s a acc) := by
  refine ⟨fun x => ?_, rfl⟩
  by_cases hx : x = a
  · subst hx; rw [crt_some (setAcct_state_same _ _ _), h]
  · simp only [crt, setAcct_state_ne s acc hx]

theorem sameC_pushEntry {s s' : JState} {e : Entry} (h : pushEntry s e = some s') : SameC s s' := by
  obtain ⟨_, _, _, rfl⟩ := Proofs.Journal.pushEntry_eq h
  exact ⟨fun _ => rfl, rfl⟩

theorem touchAccount_sameC {s s' : JState} {a : Addr} {acc acc' : Acct}
    (hs : s.state a = some acc) (h : touchAccount s a acc = some (s', acc')) : SameC s s' := by
  obtain ⟨rfl, hp⟩ := Journal.touchAccount_some h
  split at hp
  · rw [hp]; exact SameC.refl _
  · obtain ⟨s1, hp, rfl⟩ := hp
    have h1 := sameC_pushEntry hp
    refine h1.trans (sameC_setAcct ?_)
    rw [h1.1, crt_some hs]

theorem loadAccount_sameC {db : Db} {s s' : JState} {a : Addr} {c : Bool}
    (h : loadAccount db s a = some (s', c)) : SameC s s' := by
  obtain ⟨acc0, hl, hp⟩ := Journal.loadAccount_some h
  have h0 : SameC s (setAcct s a acc0) := by
    rcases hl with ⟨acc, hs, rfl, _⟩ | ⟨hs, _, rfl⟩
    · exact sameC_setAcct (crt_some hs).symm
    · refine sameC_setAcct ((?_ : _ = false).trans (by simp only [crt, hs]))
      cases db.basic a <;> rfl
  split at hp
  · exact h0.trans (sameC_pushEntry hp)
  · rw [hp]; exact h0

theorem selfdestruct_refines {db : Db} {s s' : JState} {a t : Addr} {res : Bool × Bool × Bool × Bool}
    (h : selfdestruct db s a t = some (s', res)) :
    ∃ prev, absB db s' = bSelfdestruct (absB db s) a t (crt s a) (decide (s.spec ≥ CANCUN)) prev := by
  obtain ⟨s1, c1, tacc, s2, acc, h1, h2, h3, h4, h5, _⟩ := Journal.selfdestruct_some h
  obtain ⟨e1, _⟩ := loadAccount_same (db := db) h1
  have c1' := loadAccount_sameC h1
  have step2 : bal db s2 = (if a ≠ t then upd (bal db s) t (U256.wadd (bal db s t) (bal db s a)) else bal db s) ∧
      JB s2 = JB s ∧ SameC s s2 := by
    split at h3
    · rename_i hat
      obtain ⟨acc0, s1', t1, g1, g3, rfl⟩ := h3
      obtain ⟨e2, hs2, hi2, hc2, _⟩ := touchAccount_same (db := db) h2 g3
      have c2 := touchAccount_sameC h2 g3
      refine ⟨?_, e2.2.trans e1.2, (c1'.trans c2).trans (sameC_setAcct ?_)⟩
      · rw [if_pos hat, bal_setAcct]
        show upd (bal db s1') t (U256.wadd t1.info.balance acc0.info.balance) = _
        rw [hi2, ← bal_some (db := db) h2, ← bal_some (db := db) g1, e2.1, e1.1]
      · show t1.created = _
        rw [hc2, c2.1, crt_some h2]
    · rename_i hat
      rw [h3, if_neg hat]
      exact ⟨e1.1, e1.2, c1'⟩
  obtain ⟨b2, j2, c2⟩ := step2
  have hbal : acc.info.balance = bal db s2 a := (bal_some h4).symm
  have hcr : acc.created = crt s a := by rw [← crt_some h4, c2.1]
  refine ⟨acc.selfdestructed, ?_⟩
  unfold bSelfdestruct
  simp only [absB]
  rw [← b2, ← hbal, ← hcr, ← c2.2]
  split at h5
  · rename_i hc
    rw [if_pos hc]
    apply absB_eq
    · rw [bal_congr_state (pushEntry_state h5).1, bal_setAcct]
    · rw [pushEntry_JB_bal h5 rfl]; show _ :: JB s2 = _; rw [j2]
  · rename_i hc
    rw [if_neg hc]
    split at h5
    · rename_i hat
      rw [if_pos hat]
      apply absB_eq
      · rw [bal_congr_state (pushEntry_state h5).1, bal_setAcct]
      · rw [pushEntry_JB_bal h5 rfl]; show _ :: JB s2 = _; rw [j2]
    · rename_i hat
      rw [if_neg hat, h5]
      exact absB_eq rfl j2

/-- `create_account_checkpoint` before the endowment moves: the level its checkpoint opened on `J0` holds no balance
entry, so a revert to it changes no balance (`revert_top`) -/
def Top (s : JState) (J0 : List (List Entry)) : Prop := ∃ es, s.journal = es :: J0 ∧ es.filter isBal = []

theorem top_push {s s' : JState} {J0} {e : Entry} (ht : Top s J0) (h : pushEntry s e = some s')
    (he : isBal e = false) : Top s' J0 := by
  obtain ⟨es, h1, h2⟩ := ht
  unfold pushEntry at h
  rw [h1] at h
  cases h
  exact ⟨e :: es, rfl, by rw [List.filter_cons_of_neg (by simp [he]), h2]⟩

theorem top_touch {s s' : JState} {J0} {a : Addr} {acc acc' : Acct} (ht : Top s J0)
    (h : touchAccount s a acc = some (s', acc')) : Top s' J0 := by
  obtain ⟨rfl, hp⟩ := Journal.touchAccount_some h
  split at hp
  · rw [hp]; exact ht
  · obtain ⟨s1, hp, rfl⟩ := hp
    have h1 : Top s1 J0 := top_push ht hp rfl
    exact h1

theorem bRevert_zero (b : BState) : bRevert b 0 = b := by
  cases b; simp [bRevert, undoAll]

theorem revert_top {db : Db} {s s' : JState} {J0} {cp : Checkpoint} (ht : Top s J0)
    (hcp : cp.journalI = J0.length) (h : revert s cp = some s') : absB db s' = absB db s := by
  obtain ⟨es, h1, h2⟩ := ht
  rw [revert_refines h]
  have : balCount s (s.journal.length - cp.journalI) = 0 := by
    rw [h1, hcp]
    simp only [balCount, h1, List.length_cons, Nat.add_sub_cancel_left, List.take_succ_cons, List.take_zero,
      List.flatten_cons, List.flatten_nil, List.append_nil, h2, List.length_nil]
  rw [this, bRevert_zero]

inductive CreateOutcome | ok | collision | overflowPayment deriving DecidableEq, Repr

def createOutcome : Except CreateErr Checkpoint → CreateOutcome
  | .ok _ => .ok
  | .error .collision => .collision
  | .error .overflowPayment => .overflowPayment

theorem create_refines {db : Db} {s s' : JState} {caller a : Addr} {hs : Bool} {v spec : Nat}
    {r : Except CreateErr Checkpoint} (h : createAccountCheckpoint s caller a hs v spec = some (s', r)) :
    (createOutcome r = .ok → bal db s a + v < W ∧ absB db s' = bCreateOk (absB db s) caller a v) ∧
    (createOutcome r ≠ .ok → absB db s' = absB db s) ∧
    (createOutcome r = .overflowPayment → W ≤ bal db s a + v) := by
  obtain ⟨acc, h1, h⟩ := Journal.create_some h
  have e0 : Same db s (checkpoint s).1 := ⟨bal_congr_state rfl, by simp [checkpoint, JB]⟩
  have t0 : Top (checkpoint s).1 s.journal := ⟨[], rfl, rfl⟩
  have hba : acc.info.balance = bal db s a := (bal_some h1).symm
  by_cases hcol : acc.info.codeHash ≠ KECCAK_EMPTY ∨ acc.info.nonce ≠ 0 ∨ hs = true
  · rw [if_pos hcol] at h
    obtain ⟨h2, rfl⟩ := h
    refine ⟨(fun hh => by cases hh), (fun _ => ?_), (fun hh => by cases hh)⟩
    rw [revert_top t0 rfl h2]; exact e0.absB
  · rw [if_neg hcol] at h
    obtain ⟨s1, s2, acc2, h2, h3, h⟩ := h
    have e1 : Same db (checkpoint s).1 s1 := (same_setAcct (db := db) (s := (checkpoint s).1) (a := a)
      (acc := { acc with created := true }) (by rw [e0.1]; exact hba)).trans (same_pushEntry h2 rfl)
    have t1 : Top s1 s.journal := top_push (s := setAcct (checkpoint s).1 a { acc with created := true }) t0 h2 rfl
    have e2 : Same db s1 (setAcct s1 a { acc with created := true, info := { acc.info with code := none } }) :=
      same_setAcct (by rw [e1.1, e0.1]; exact hba)
    obtain ⟨e3, hs3, hi3, _, _⟩ := touchAccount_same (db := db) (setAcct_state_same _ _ _) h3
    have t2 : Top s2 s.journal := top_touch (s := setAcct s1 a _) t1 h3
    have e03 := ((e0.trans e1).trans e2).trans e3
    have hb2 : acc2.info.balance = bal db s a := by rw [hi3]; exact hba
    rw [hb2] at h
    by_cases hov : bal db s a + v ≥ W
    · rw [if_pos hov] at h
      obtain ⟨h4, rfl⟩ := h
      refine ⟨(fun hh => by cases hh), (fun _ => ?_), (fun _ => hov)⟩
      rw [revert_top t2 rfl h4]; exact e03.absB
    · rw [if_neg hov] at h
      obtain ⟨c, n4, _, h4, h5, rfl⟩ := h
      refine ⟨(fun _ => ⟨by omega, ?_⟩), (fun hh => absurd rfl hh), (fun hh => by cases hh)⟩
      have hs4 : bal db (setAcct s2 a { acc2 with info := { acc2.info with balance := bal db s a + v, nonce := n4 } })
          = upd (bal db s) a (bal db s a + v) := by
        rw [bal_setAcct, e03.1]
      have hc : c.info.balance = upd (bal db s) a (bal db s a + v) caller := by
        rw [← bal_some (db := db) h4, hs4]
      unfold bCreateOk
      apply absB_eq
      · rw [bal_congr_state (pushEntry_state h5).1, bal_setAcct, hs4]
        show upd _ caller (bsub c.info.balance v) = _
        rw [hc]; rfl
      · rw [pushEntry_JB_bal h5 rfl]
        show _ :: JB s2 = _
        rw [e03.2]; rfl

end Revm.Proofs.Ether
