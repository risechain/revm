import Revm.Model.InspectorWrap
import Revm.Model.EvmTx
/-! The abstract frame machine of C28 (`Model/InspectorWrap.lean`) instantiated with the whole-EVM model: the type parameters
and the conversions between the two vocabularies. `Interp.IResult` and `InspectorWrap.IR` are the same 40-variant enum
(`toIR` / `ofIR`). The concrete `Interp.ChildResult` has NO `gas.limit`: going to the abstract `InterpreterResult` the limit
is a parameter (`resOfChild lim`), the limit of the interpreter / inputs that produced the result, as `Gas::new(gas_limit)`
does; no consumer of an outcome reads it (`insert_*_outcome` read `remaining` / `refunded`, `last_frame_return` overwrites
the record). -/
namespace Revm.Proofs.EvmInstWrap
open Revm Revm.Model

abbrev IR := InspectorWrap.IR

def toIR : Interp.IResult → IR
  | .Continue => .Continue | .Stop => .Stop | .Return => .Return | .SelfDestruct => .SelfDestruct
  | .ReturnContract => .ReturnContract | .Revert => .Revert | .CallTooDeep => .CallTooDeep
  | .OutOfFunds => .OutOfFunds | .CreateInitCodeStartingEF00 => .CreateInitCodeStartingEF00
  | .InvalidEOFInitCode => .InvalidEOFInitCode
  | .InvalidExtDelegateCallTarget => .InvalidExtDelegateCallTarget | .CallOrCreate => .CallOrCreate
  | .OutOfGas => .OutOfGas | .MemoryOOG => .MemoryOOG | .MemoryLimitOOG => .MemoryLimitOOG
  | .PrecompileOOG => .PrecompileOOG | .InvalidOperandOOG => .InvalidOperandOOG
  | .OpcodeNotFound => .OpcodeNotFound | .CallNotAllowedInsideStatic => .CallNotAllowedInsideStatic
  | .StateChangeDuringStaticCall => .StateChangeDuringStaticCall | .InvalidFEOpcode => .InvalidFEOpcode
  | .InvalidJump => .InvalidJump | .NotActivated => .NotActivated | .StackUnderflow => .StackUnderflow
  | .StackOverflow => .StackOverflow | .OutOfOffset => .OutOfOffset | .CreateCollision => .CreateCollision
  | .OverflowPayment => .OverflowPayment | .PrecompileError => .PrecompileError
  | .NonceOverflow => .NonceOverflow | .CreateContractSizeLimit => .CreateContractSizeLimit
  | .CreateContractStartingWithEF => .CreateContractStartingWithEF
  | .CreateInitCodeSizeLimit => .CreateInitCodeSizeLimit | .FatalExternalError => .FatalExternalError
  | .ReturnContractInNotInitEOF => .ReturnContractInNotInitEOF
  | .EOFOpcodeDisabledInLegacy => .EOFOpcodeDisabledInLegacy
  | .EOFFunctionStackOverflow => .EOFFunctionStackOverflow | .EofAuxDataOverflow => .EofAuxDataOverflow
  | .EofAuxDataTooSmall => .EofAuxDataTooSmall | .InvalidEXTCALLTarget => .InvalidEXTCALLTarget

def ofIR : IR → Interp.IResult
  | .Continue => .Continue | .Stop => .Stop | .Return => .Return | .SelfDestruct => .SelfDestruct
  | .ReturnContract => .ReturnContract | .Revert => .Revert | .CallTooDeep => .CallTooDeep
  | .OutOfFunds => .OutOfFunds | .CreateInitCodeStartingEF00 => .CreateInitCodeStartingEF00
  | .InvalidEOFInitCode => .InvalidEOFInitCode
  | .InvalidExtDelegateCallTarget => .InvalidExtDelegateCallTarget | .CallOrCreate => .CallOrCreate
  | .OutOfGas => .OutOfGas | .MemoryOOG => .MemoryOOG | .MemoryLimitOOG => .MemoryLimitOOG
  | .PrecompileOOG => .PrecompileOOG | .InvalidOperandOOG => .InvalidOperandOOG
  | .OpcodeNotFound => .OpcodeNotFound | .CallNotAllowedInsideStatic => .CallNotAllowedInsideStatic
  | .StateChangeDuringStaticCall => .StateChangeDuringStaticCall | .InvalidFEOpcode => .InvalidFEOpcode
  | .InvalidJump => .InvalidJump | .NotActivated => .NotActivated | .StackUnderflow => .StackUnderflow
  | .StackOverflow => .StackOverflow | .OutOfOffset => .OutOfOffset | .CreateCollision => .CreateCollision
  | .OverflowPayment => .OverflowPayment | .PrecompileError => .PrecompileError
  | .NonceOverflow => .NonceOverflow | .CreateContractSizeLimit => .CreateContractSizeLimit
  | .CreateContractStartingWithEF => .CreateContractStartingWithEF
  | .CreateInitCodeSizeLimit => .CreateInitCodeSizeLimit | .FatalExternalError => .FatalExternalError
  | .ReturnContractInNotInitEOF => .ReturnContractInNotInitEOF
  | .EOFOpcodeDisabledInLegacy => .EOFOpcodeDisabledInLegacy
  | .EOFFunctionStackOverflow => .EOFFunctionStackOverflow | .EofAuxDataOverflow => .EofAuxDataOverflow
  | .EofAuxDataTooSmall => .EofAuxDataTooSmall | .InvalidEXTCALLTarget => .InvalidEXTCALLTarget

theorem ofIR_toIR (r : Interp.IResult) : ofIR (toIR r) = r := by cases r <;> rfl
theorem toIR_ofIR (r : IR) : toIR (ofIR r) = r := by cases r <;> rfl

theorem toIR_injective {a b : Interp.IResult} (h : toIR a = toIR b) : a = b := by
  rw [← ofIR_toIR a, ← ofIR_toIR b, h]

/-- `return_error!()` on the concrete enum: neither ok nor revert nor the internal `CallOrCreate` -/
def isErr (r : Interp.IResult) : Bool := !(r.isOk || r.isRevert || decide (r = .CallOrCreate))

theorem toIR_isOk (r : Interp.IResult) : (toIR r).isOk = r.isOk := by cases r <;> rfl
theorem toIR_isRevert (r : Interp.IResult) : (toIR r).isRevert = r.isRevert := by cases r <;> rfl
theorem toIR_isError (r : Interp.IResult) : (toIR r).isError = isErr r := by cases r <;> rfl
theorem ofIR_isOk (r : IR) : (ofIR r).isOk = r.isOk := by rw [← toIR_isOk, toIR_ofIR]
theorem ofIR_isRevert (r : IR) : (ofIR r).isRevert = r.isRevert := by rw [← toIR_isRevert, toIR_ofIR]
theorem ofIR_isErr (r : IR) : isErr (ofIR r) = r.isError := by rw [← toIR_isError, toIR_ofIR]

theorem toIR_eq_continue {r : Interp.IResult} : toIR r = .Continue ↔ r = .Continue :=
  ⟨fun h => toIR_injective (b := .Continue) h, fun h => by rw [h]; rfl⟩
theorem ofIR_eq_fatal {r : IR} : ofIR r = .FatalExternalError ↔ r = .FatalExternalError :=
  ⟨fun h => by rw [← toIR_ofIR r, h]; rfl, fun h => by rw [h]; rfl⟩

theorem isErr_not_ok_revert {r : Interp.IResult} (h : isErr r = true) : r.isOk = false ∧ r.isRevert = false := by
  simp only [isErr, Bool.not_eq_true', Bool.or_eq_false_iff] at h
  exact ⟨h.1.1, h.1.2⟩

/-- `EvmContext`: the world (journal, code store, logs, database) and the sticky error slot
(`context.evm.error`): a database error or Rust panic inside an instruction / host call is recorded here, the
instruction ends with `FatalExternalError`, and `take_error()?` surfaces it after `execute_frame` -/
structure ECtx where
  w : Evm.World
  err : Option Evm.Err := none

/-- the type parameters of the frame machine of the whole-EVM model; `κ` is what a frame keeps to be able to revert. A `Log`
is the index of a log record in the world's store (what `js.logs` holds), `SD` the `(contract, target, value)` triple. -/
abbrev evmTy (κ : Type) : InspectorWrap.Ty where
  E := ECtx
  Rest := Interp.IState
  Mem := Memory.SharedMemory
  CallIn := Interp.CallInputs
  CreateIn := Interp.CreateInputs
  EofIn := Interp.EofCreateInputs
  FrameData := Evm.FrameKind × κ
  Err := Evm.Err
  Log := Nat
  SD := Nat × Nat × Nat

abbrev AState (κ : Type) := InspectorWrap.IState (evmTy κ)
abbrev AFrame (κ : Type) := InspectorWrap.Frame (evmTy κ)
abbrev AAction (κ : Type) := InspectorWrap.Action (evmTy κ)
abbrev ARes (α : Type) := InspectorWrap.Res Evm.Err α

/-- abstract `InterpreterResult` (+ address) → concrete `ChildResult`; `gas.limit` is dropped -/
def childOf (r : InspectorWrap.InterpreterResult) (addr : Option Nat) : Interp.ChildResult :=
  { result := ofIR r.result, output := r.output, gasRemaining := r.gas.remaining, gasRefunded := r.gas.refunded,
    address := addr }

/-- concrete `ChildResult` → abstract `InterpreterResult` whose `gas.limit` is `lim` -/
def resOfChild (lim : Nat) (c : Interp.ChildResult) : InspectorWrap.InterpreterResult :=
  { result := toIR c.result, output := c.output,
    gas := { limit := lim, remaining := c.gasRemaining, refunded := c.gasRefunded } }

def callOutcomeOf (lim : Nat) (c : Interp.ChildResult) (rs re : Nat) : InspectorWrap.CallOutcome :=
  { result := resOfChild lim c, memoryOffset := (rs, re) }

def createOutcomeOf (lim : Nat) (c : Interp.ChildResult) : InspectorWrap.CreateOutcome :=
  { result := resOfChild lim c, address := c.address }

theorem childOf_resOfChild (lim : Nat) (c : Interp.ChildResult) : childOf (resOfChild lim c) c.address = c := by
  cases c; simp only [childOf, resOfChild, ofIR_toIR]

theorem resOfChild_childOf (r : InspectorWrap.InterpreterResult) (a : Option Nat) :
    resOfChild r.gas.limit (childOf r a) = r := by
  obtain ⟨res, out, ⟨l, rem, ref⟩⟩ := r
  simp only [childOf, resOfChild, toIR_ofIR]

/-- `resultOf r out s` is the concrete reading of the abstract `Return { result: r, output: out, gas: s.gas }` -/
theorem childOf_ret (r : Interp.IResult) (out : List Nat) (s : Interp.IState) :
    childOf { result := toIR r, output := out, gas := s.gas } none = Evm.resultOf r out s := by
  simp only [childOf, Evm.resultOf, ofIR_toIR]

/-- the `FrameResult` of the first frame of a transaction (`isCreate`: `TxKind::Create`) -/
def frameResultOf (isCreate : Bool) (lim : Nat) (c : Interp.ChildResult) : InspectorWrap.FrameResult :=
  if isCreate then .create (createOutcomeOf lim c) else .call (callOutcomeOf lim c 0 0)

/-- back: what `output` reads of the first frame's result -/
def childOfFrameResult : InspectorWrap.FrameResult → Interp.ChildResult
  | .call o => childOf o.result none
  | .create o => childOf o.result o.address
  | .eofcreate o => childOf o.result o.address

def actionOf {κ : Type} : Interp.Action → AAction κ
  | .call i => .call i
  | .create i => .create i
  | .eofCreate i => .eofcreate i

end Revm.Proofs.EvmInstWrap
