import Revm.Model.OpFees
import Revm.Spec.OpFees
import Revm.Proofs.Checks
/-! Lemmas for C33: the saturating word operations (exact without overflow, monotone), the operator fee (monotone in
the gas, exact for the scalars `try_fetch` reads), the L1 cost cache. -/
namespace Revm.Proofs.OpFees
open Revm Revm.U256 Revm.Model.Gas Revm.Model.OpFees

/-! ### saturating word operations: exact without overflow, bounded, monotone -/

theorem satSub_eq (a b : Nat) : saturatingSub a b = a - b := rfl

theorem satMul_le (a b : Nat) : saturatingMul a b ≤ a * b ∨ saturatingMul a b = W - 1 := by
  unfold saturatingMul; split <;> simp

theorem satAdd_mono (a b c : Nat) (h : a ≤ b) : saturatingAdd a c ≤ saturatingAdd b c := by
  unfold saturatingAdd
  by_cases h1 : b + c < W
  · have h2 : a + c < W := by omega
    simp [h1, h2]; omega
  · by_cases h2 : a + c < W
    · simp [h1, h2]; omega
    · simp [h1, h2]

/-! ### operator fee -/

theorem opCharge_mono (s c g1 g2 : Nat) (h : g1 ≤ g2) : opCharge s c g1 ≤ opCharge s c g2 := by
  unfold opCharge wdiv
  apply satAdd_mono
  exact Nat.div_le_div_right (Revm.Proofs.Gas.satMul_mono g1 g2 s h)

theorem opCharge_exact (s c g : Nat) (h1 : g * s < W) (h2 : g * s / 1000000 + c < W) :
    opCharge s c g = g * s / 1000000 + c := by
  unfold opCharge wdiv
  rw [satMul_eq h1, satAdd_eq h2]

theorem operatorFeeCharge_cache (info : L1Info) (x : Option Nat) (g spec : Nat) :
    operatorFeeCharge { info with txL1Cost := x } g spec = operatorFeeCharge info g spec := rfl

theorem operatorFeeCharge_mono {info : L1Info} {g1 g2 spec a b : Nat} (h : g1 ≤ g2)
    (h1 : operatorFeeCharge info g1 spec = some a) (h2 : operatorFeeCharge info g2 spec = some b) : a ≤ b := by
  unfold operatorFeeCharge at h1 h2
  by_cases hi : enabled spec ISTHMUS = true
  · simp only [hi, Bool.not_true] at h1 h2
    cases hs : info.operatorFeeScalar <;> cases hc : info.operatorFeeConstant <;> simp_all
    subst h1 h2; exact opCharge_mono _ _ _ _ h
  · simp only [hi] at h1 h2; simp_all

theorem operatorFeeCharge_total (info : L1Info) (g1 g2 spec a : Nat)
    (h1 : operatorFeeCharge info g1 spec = some a) : ∃ b, operatorFeeCharge info g2 spec = some b := by
  unfold operatorFeeCharge at h1 ⊢
  by_cases hi : enabled spec ISTHMUS = true
  · simp only [hi, Bool.not_true] at h1 ⊢
    cases hs : info.operatorFeeScalar <;> cases hc : info.operatorFeeConstant <;> simp_all
  · simp only [hi]; simp

theorem opCharge_fetched (sc co gas : Nat) (h1 : sc < 2 ^ 32) (h2 : co < 2 ^ 64) (h3 : gas < 2 ^ 64) :
    opCharge sc co gas = gas * sc / 1000000 + co := by
  have hW := W_val
  have hm : gas * sc < 2 ^ 64 * 2 ^ 32 := Nat.mul_lt_mul'' h3 h1
  have hd : gas * sc / 1000000 ≤ gas * sc := Nat.div_le_self _ _
  apply opCharge_exact
  · generalize gas * sc = p at *; omega
  · generalize gas * sc / 1000000 = q at *; generalize gas * sc = p at *; omega

theorem beSlice_lt (w frm to : Nat) : beSlice w frm to < 2 ^ (8 * (to - frm)) := by
  unfold beSlice; exact Nat.mod_lt _ (Nat.two_pow_pos _)

theorem tryFetch_isthmus (s : Slots) (spec : Nat) (h : enabled spec ISTHMUS = true) :
    (tryFetch s spec).operatorFeeScalar = some (beSlice s.s8 20 24) ∧
    (tryFetch s spec).operatorFeeConstant = some (beSlice s.s8 24 32) := by
  have he : enabled spec ECOTONE = true := by
    unfold enabled ISTHMUS at h; unfold enabled ECOTONE; simp at h ⊢; omega
  unfold tryFetch
  simp [he, h]

/-! ### the L1 cost cache -/

theorem calculateTxL1Cost_idem (info : L1Info) (env : List Nat) (spec : Nat) :
    calculateTxL1Cost (calculateTxL1Cost info env spec).2 env spec = calculateTxL1Cost info env spec := by
  unfold calculateTxL1Cost
  cases h : info.txL1Cost with
  | some c => simp [h]
  | none =>
    by_cases he : zeroCostEnvelope env = true
    · simp [h, he]
    · simp [he]

theorem calculateTxL1Cost_op (info : L1Info) (env : List Nat) (spec g : Nat) :
    operatorFeeCharge (calculateTxL1Cost info env spec).2 g spec = operatorFeeCharge info g spec := by
  unfold calculateTxL1Cost
  cases h : info.txL1Cost with
  | some c => simp
  | none =>
    by_cases he : zeroCostEnvelope env = true
    · simp [he]
    · simp [he]; rfl

/-- with an empty cache (what `try_fetch` returns and `clear` restores) the cost is a function of the
envelope, the fork and the L1 parameters only -/
theorem calculateTxL1Cost_fresh (info : L1Info) (env : List Nat) (spec : Nat) (h : info.txL1Cost = none) :
    (calculateTxL1Cost info env spec).1 =
      if zeroCostEnvelope env then 0 else l1CostFresh info env spec := by
  unfold calculateTxL1Cost
  by_cases he : zeroCostEnvelope env = true
  · simp [h, he]
  · simp [h, he]

theorem tryFetch_cache (s : Slots) (spec : Nat) : (tryFetch s spec).txL1Cost = none := by
  unfold tryFetch
  by_cases h1 : (!enabled spec ECOTONE) = true
  · simp only [h1, if_true]; rfl
  · by_cases h2 : enabled spec ISTHMUS = true
    · simp [h1, h2]
    · simp [h1, h2]

end Revm.Proofs.OpFees
