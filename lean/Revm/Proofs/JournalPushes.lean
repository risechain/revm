import Revm.Proofs.JournalUndo
/-! C06: `Pushes` (an operation's own journal entries undo its own observable effect) and its proof for the
operations that move no balance: loads, touch, nonce, code, storage, transient storage. -/
namespace Revm.Proofs.Journal
open Revm Revm.Model.Journal Revm.Spec.JournalAbs
open Revm.Spec.AccessSets (Access)

/-- balances are 256-bit words; `Spec.JournalAbs.WF db s` and `Spec.Ether.BalOk db s` unfold to `BalOk (absT db s)`
and are passed for it -/
def BalOk (x : AState) : Prop := ∀ a, x.balance a < W

/-- The operation from `s` to `s'` put the entries `es` (newest first: `Pushes.trans` gives `es2 ++ es1`) on the
innermost journal level, and undoing them leads observably back to `s`. `zero`, `bal`: for `Inv`, explained there;
`warmedA`, `warmedS`: a key whose warming is in `es` is warm in `s'`; `grows`, `refs`: for `JRefs`. -/
structure Pushes (db : Db) (s s' : JState) (es : List Entry) : Prop where
  journal : ∀ top rest, s.journal = top :: rest → s'.journal = (es ++ top) :: rest
  spec : s'.spec = s.spec
  pre : s'.preloaded = s.preloaded
  logs : s'.logs = s.logs
  undo : undoTs (sdOf s) (absT db s') es = absT db s
  zero : ∀ a, Entry.accountCreated a ∈ es → ∀ k, db.storage a k = 0
  bal : BalOk (absT db s) → BalOk (absT db s')
  warmedA : ∀ b, Entry.accountWarmed b ∈ es → (absT db s').warm b = true
  warmedS : ∀ b k, Entry.storageWarmed b k ∈ es → ((absT db s').slot b k).warm = true
  grows : Grows s s'
  refs : ∀ e, e ∈ es → refsOk s' e


theorem Pushes.refl (db : Db) (s : JState) : Pushes db s s [] :=
  ⟨fun _ _ h => by simpa using h, rfl, rfl, rfl, rfl, fun _ h => by simp at h, id,
   fun _ h => by simp at h, fun _ _ h => by simp at h, Grows.refl _, fun _ h => by simp at h⟩

/-- what `warmedA` and `warmedS` say together -/
theorem Pushes.warmed {db : Db} {s s' : JState} {es : List Entry} (p : Pushes db s s' es) {k : Access}
    (h : warmEntry k ∈ es) : (absT db s').has k = true := by
  cases k with
  | addr a => exact p.warmedA a h
  | slot a j => exact p.warmedS a j h

theorem Pushes.trans {db : Db} {s s1 s2 : JState} {es1 es2 : List Entry}
    (h1 : Pushes db s s1 es1) (h2 : Pushes db s1 s2 es2) : Pushes db s s2 (es2 ++ es1) := by
  -- a key warmed by the first operation is still warm: the second one's undo leads back to a state where it is
  have hw : ∀ k, warmEntry k ∈ es2 ++ es1 → (absT db s2).has k = true := by
    intro k hk
    rcases List.mem_append.1 hk with h | h
    · exact h2.warmed h
    · have e := congrArg (AState.has · k) h2.undo
      simp only [undoTs_has, h1.warmed h] at e
      cases hw : (absT db s2).has k
      · rw [hw] at e; simp at e
      · rfl
  refine ⟨fun top rest h => ?_, h2.spec.trans h1.spec, h2.pre.trans h1.pre, h2.logs.trans h1.logs, ?_, ?_,
    fun h => h2.bal (h1.bal h), fun b => hw (.addr b), fun b k => hw (.slot b k), Grows.trans h1.grows h2.grows, ?_⟩
  · rw [h2.journal _ _ (h1.journal _ _ h), List.append_assoc]
  · rw [undoTs_append, ← sdOf_eq h1.spec, h2.undo, sdOf_eq h1.spec, h1.undo]
  · intro a ha; rcases List.mem_append.1 ha with h | h
    · exact h2.zero a h
    · exact h1.zero a h
  · intro e he; rcases List.mem_append.1 he with h | h
    · exact h2.refs e h
    · exact refsOk_mono h2.grows (h1.refs e h)

theorem Pushes.silent {db : Db} {s s' : JState} (h1 : absT db s' = absT db s) (hj : s'.journal = s.journal)
    (h2 : s'.spec = s.spec) (h3 : s'.preloaded = s.preloaded) (h4 : s'.logs = s.logs) (hg : Grows s s') :
    Pushes db s s' [] :=
  ⟨fun _ _ h => by simpa [hj] using h, h2, h3, h4, by simpa [undoTs] using h1, fun _ h => by simp at h,
   fun h => by rw [h1]; exact h, fun _ h => by simp at h, fun _ _ h => by simp at h, hg, fun _ h => by simp at h⟩

/-- `pushEntry` changed the journal and nothing else: `pushEntry_eq` field by field -/
structure PushedOn (s s' : JState) (e : Entry) : Prop where
  journal : ∀ top rest, s.journal = top :: rest → s'.journal = (e :: top) :: rest
  state : s'.state = s.state
  transient : s'.transient = s.transient
  logs : s'.logs = s.logs
  spec : s'.spec = s.spec
  pre : s'.preloaded = s.preloaded

theorem pushEntry_some {s s' : JState} {e : Entry} (h : pushEntry s e = some s') : PushedOn s s' e := by
  obtain ⟨l, rest, hj, rfl⟩ := pushEntry_eq h
  exact ⟨fun t r ht => by rw [hj] at ht; cases ht; rfl, rfl, rfl, rfl, rfl, rfl⟩

theorem PushedOn.absT {s s' : JState} {e : Entry} (h : PushedOn s s' e) (db : Db) : absT db s' = absT db s :=
  absT_congr db h.state h.spec h.pre h.transient

theorem Pushes.of_push {db : Db} {s s1 s' : JState} {e : Entry} (hp : pushEntry s1 e = some s')
    (hj : s1.journal = s.journal) (hspec : s1.spec = s.spec) (hpre : s1.preloaded = s.preloaded)
    (hlogs : s1.logs = s.logs)
    (hu : undoT (sdOf s) (absT db s1) e = absT db s)
    (hz : ∀ a, e = .accountCreated a → ∀ k, db.storage a k = 0)
    (hb : BalOk (absT db s) → BalOk (absT db s1))
    (hg : Grows s s1) (hr : refsOk s1 e)
    (hwA : ∀ b, e = .accountWarmed b → (absT db s1).warm b = true := by intro b hb; cases hb)
    (hwS : ∀ b k, e = .storageWarmed b k → ((absT db s1).slot b k).warm = true := by intro b k hb; cases hb) :
    Pushes db s s' [e] := by
  have p := pushEntry_some hp
  refine ⟨fun t r ht => ?_, p.spec.trans hspec, p.pre.trans hpre, p.logs.trans hlogs, ?_, ?_, ?_, ?_, ?_,
    Grows.congr_right p.state hg, fun e' he' => by simp at he'; subst he'; exact refsOk_congr p.state hr⟩
  · rw [p.journal t r (hj.trans ht)]; rfl
  · simp only [undoTs]; rw [p.absT db]; exact hu
  · intro a ha; simp at ha; exact hz a ha.symm
  · intro h; rw [p.absT db]; exact hb h
  · intro b hb; simp at hb; rw [p.absT db]; exact hwA b hb.symm
  · intro b k hb; simp at hb; rw [p.absT db]; exact hwS b k hb.symm


def NoWarm (es : List Entry) : Prop :=
  (∀ b, Entry.accountWarmed b ∉ es) ∧ (∀ b k, Entry.storageWarmed b k ∉ es)

theorem NoWarm.nil : NoWarm [] := ⟨fun _ h => by simp at h, fun _ _ h => by simp at h⟩
theorem NoWarm.append {es fs : List Entry} (h1 : NoWarm es) (h2 : NoWarm fs) : NoWarm (es ++ fs) :=
  ⟨fun b h => by rcases List.mem_append.1 h with h | h; exact h1.1 b h; exact h2.1 b h,
   fun b k h => by rcases List.mem_append.1 h with h | h; exact h1.2 b k h; exact h2.2 b k h⟩
theorem NoWarm.single {e : Entry} (h1 : ∀ b, ¬ e = Entry.accountWarmed b) (h2 : ∀ b k, ¬ e = Entry.storageWarmed b k) :
    NoWarm [e] :=
  ⟨fun b h => by simp at h; exact h1 b h.symm, fun b k h => by simp at h; exact h2 b k h.symm⟩
theorem NoWarm.touched (c : Bool) (a : Addr) : NoWarm (if c then [] else [Entry.accountTouched a]) := by
  cases c
  · exact NoWarm.single (fun _ h => by cases h) (fun _ _ h => by cases h)
  · exact NoWarm.nil

theorem NoWarm.not_mem {es : List Entry} (h : NoWarm es) (k : Access) : warmEntry k ∉ es := by
  cases k with
  | addr a => exact h.1 a
  | slot a j => exact h.2 a j

/-- forward effect of an operation on the warm component: exactly the keys `xs` become warm, nothing becomes cold -/
def Warms (db : Db) (s s' : JState) (xs : List Access) : Prop :=
  ∀ k, (absT db s').has k = ((absT db s).has k || xs.contains k)

theorem Warms.refl (db : Db) (s : JState) : Warms db s s [] := fun _ => (Bool.or_false _).symm

theorem Warms.trans {db : Db} {s s1 s2 : JState} {xs ys : List Access} (h1 : Warms db s s1 xs)
    (h2 : Warms db s1 s2 ys) : Warms db s s2 (xs ++ ys) :=
  fun k => by rw [h2 k, h1 k, List.contains_append, Bool.or_assoc]

theorem Pushes.has_eq {db : Db} {s s' : JState} {es : List Entry} (p : Pushes db s s' es) (k : Access) :
    (absT db s').has k = ((absT db s).has k || es.contains (warmEntry k)) := by
  have e := congrArg (AState.has · k) p.undo
  simp only [undoTs_has] at e
  by_cases h : warmEntry k ∈ es
  · rw [p.warmed h]; simp [h]
  · simp [h] at e; simp [h, e]

theorem Pushes.warms_nil {db : Db} {s s' : JState} {es : List Entry} (p : Pushes db s s' es) (h : NoWarm es) :
    Warms db s s' [] :=
  fun k => by rw [p.has_eq, List.contains_eq_mem, decide_eq_false (h.not_mem k)]; rfl

/-- an access that journals its warming exactly when the key was cold (`load_account`, `sload`) -/
theorem Warms.of_access {db : Db} {s s' : JState} {k : Access} {c : Bool}
    (p : Pushes db s s' (if c then [warmEntry k] else [])) (hc : c = !(absT db s).has k) : Warms db s s' [k] := by
  intro j
  rw [p.has_eq]
  by_cases hj : j = k
  · subst hj; cases c <;> simp_all
  · have h1 : ¬ warmEntry k = warmEntry j := fun e => hj (warmEntry_inj e).symm
    have h2 : ¬ k = j := fun e => hj e.symm
    have h3 : ¬ warmEntry j = warmEntry k := fun e => hj (warmEntry_inj e)
    cases c <;> simp [h3, hj]


theorem BalOk.of_eq {x y : AState} (h : y.balance = x.balance) (hb : BalOk x) : BalOk y := by
  intro a; rw [h]; exact hb a

theorem pushEntry_setAcct {s s1 : JState} {e : Entry} (hp : pushEntry s e = some s1) (a : Addr) (acc' : Acct) :
    pushEntry (setAcct s a acc') e = some (setAcct s1 a acc') := by
  obtain ⟨l, rest, hj, rfl⟩ := pushEntry_eq hp
  simp [pushEntry, setAcct, hj]

/-- journal entry first, then the modification (the order of `inc_nonce`, `set_code`, `sstore`): the two commute -/
theorem Pushes.of_push_set {db : Db} {s s1 : JState} {a : Addr} {acc' : Acct} {e : Entry}
    (hp : pushEntry s e = some s1)
    (hu : undoT (sdOf s) (absT db (setAcct s a acc')) e = absT db s)
    (hz : ∀ a, e = .accountCreated a → ∀ k, db.storage a k = 0)
    (hb : BalOk (absT db s) → BalOk (absT db (setAcct s a acc')))
    (hg : Grows s (setAcct s a acc')) (hr : refsOk (setAcct s a acc') e)
    (hnA : ∀ b, ¬ e = .accountWarmed b := by intro b hb; cases hb)
    (hnS : ∀ b k, ¬ e = .storageWarmed b k := by intro b k hb; cases hb) : Pushes db s (setAcct s1 a acc') [e] :=
  Pushes.of_push (pushEntry_setAcct hp a acc') rfl rfl rfl rfl hu hz hb hg hr
    (fun b h => absurd h (hnA b)) (fun b k h => absurd h (hnS b k))

theorem Pushes.of_warming {db : Db} {s s1 s' : JState} {a : Addr} {c : Bool}
    (e : absT db s1 = { absT db s with warm := upd (absT db s).warm a true })
    (hc : c = !(absT db s).warm a) (hg : Grows s s1) (hr : (s1.state a).isSome)
    (hj : s1.journal = s.journal) (hspec : s1.spec = s.spec) (hpre : s1.preloaded = s.preloaded)
    (hlogs : s1.logs = s.logs)
    (h : if c then pushEntry s1 (.accountWarmed a) = some s' else s' = s1) :
    Pushes db s s' (if c then [.accountWarmed a] else []) ∧ c = !(absT db s).warm a ∧ (s'.state a).isSome := by
  cases c
  · have hw : (absT db s).warm a = true := by simpa using hc
    simp only [Bool.false_eq_true, if_false] at h
    subst h
    exact ⟨Pushes.silent (by rw [e, upd_self hw]) hj hspec hpre hlogs hg, hc, hr⟩
  · have hw : (absT db s).warm a = false := by simpa using hc
    simp only [if_true] at h
    refine ⟨Pushes.of_push h hj hspec hpre hlogs ?_ (by simp) (BalOk.of_eq (by rw [e])) hg hr
      (by intro b hb; cases hb; rw [e]; exact upd_same _ _ _), hc, by rw [(pushEntry_some h).state]; exact hr⟩
    rw [e]; simp only [undoT, upd_upd_same]; rw [upd_self hw]

theorem loadAccount_pushes {db : Db} {s s' : JState} {a : Addr} {c : Bool}
    (h : loadAccount db s a = some (s', c)) :
    Pushes db s s' (if c then [.accountWarmed a] else []) ∧ c = !(absT db s).warm a ∧ (s'.state a).isSome := by
  obtain ⟨acc0, hl, hp⟩ := loadAccount_some h
  rcases hl with ⟨acc, hs, rfl, rfl⟩ | ⟨hs, rfl, rfl⟩
  · exact Pushes.of_warming (absT_set_cold db hs false) (by rw [(absT_at db hs).2.2.2.1, Bool.not_not])
      (Grows.upd hs rfl) (by simp [setAcct_state_same]) rfl rfl rfl rfl hp
  · exact Pushes.of_warming (absT_insert db hs) (by rw [absT_warm, absAcct_none db s hs]; rfl)
      (Grows.ins hs) (by simp [setAcct_state_same]) rfl rfl rfl rfl hp

theorem touchAccount_pushes {db : Db} {s s' : JState} {a : Addr} {acc acc' : Acct}
    (hs : s.state a = some acc) (h : touchAccount s a acc = some (s', acc')) :
    Pushes db s s' (if acc.touched then [] else [.accountTouched a]) ∧ s'.state a = some acc' ∧
      acc' = { acc with touched := true } ∧ (∀ b, ¬ b = a → s'.state b = s.state b) ∧
      (absT db s').balance = (absT db s).balance := by
  obtain ⟨rfl, hp⟩ := touchAccount_some h
  cases ht : acc.touched with
  | true =>
    simp only [ht, if_true] at hp
    rw [hp]
    exact ⟨Pushes.refl db s, by rw [hs]; cases acc; simp_all, rfl, fun _ _ => rfl, rfl⟩
  | false =>
    simp only [ht, Bool.false_eq_true, if_false] at hp
    obtain ⟨s1, hp, rfl⟩ := hp
    have e := absT_set_touched db hs true
    have p := pushEntry_some hp
    refine ⟨Pushes.of_push_set hp ?_ (by simp) (BalOk.of_eq (by rw [e])) (Grows.upd hs rfl)
        (by simp [refsOk, setAcct_state_same]), setAcct_state_same _ _ _, rfl,
      fun b hb => by rw [setAcct_state_ne _ _ hb, p.state], ?_⟩
    · rw [e]
      simp only [undoT, upd_upd_same, upd_same, unT_maskT]
      rw [upd_self (by rw [(absT_at db hs).2.2.1, ht])]
    · rw [absT_set_touched db (p.state ▸ hs : s1.state a = some acc), p.absT db]

theorem touch_pushes {db : Db} {s s' : JState} {a : Addr} (h : touch s a = some s') :
    ∃ es, Pushes db s s' es ∧ NoWarm es := by
  rcases touch_some h with ⟨acc, _, hs, h⟩ | ⟨_, rfl⟩
  · exact ⟨_, (touchAccount_pushes hs h).1, NoWarm.touched _ _⟩
  · exact ⟨[], Pushes.refl db _, NoWarm.nil⟩

theorem loadCode_pushes {db : Db} {s s' : JState} {a : Addr} {c : Bool}
    (h : loadCode db s a = some (s', c)) :
    Pushes db s s' (if c then [.accountWarmed a] else []) ∧ c = !(absT db s).warm a ∧ (s'.state a).isSome := by
  obtain ⟨s1, acc, hl, hs, rfl⟩ := loadCode_some h
  obtain ⟨p1, hc, hsome⟩ := loadAccount_pushes (db := db) hl
  split
  · have p2 := Pushes.silent (absT_set_cache db hs (some acc.info.codeHash)) rfl rfl rfl rfl (Grows.upd hs rfl)
    exact ⟨by simpa using Pushes.trans p1 p2, hc, by simp [setAcct_state_same]⟩
  · exact ⟨p1, hc, by simp [hs]⟩

/-- `inc_nonce` and `set_code`: touch, journal the entry, then rewrite the account -/
theorem Pushes.of_touch_push_set {db : Db} {s s1 s2 : JState} {a : Addr} {acc acc1 acc' : Acct} {e : Entry}
    (hs : s.state a = some acc) (ht : touchAccount s a acc = some (s1, acc1)) (hp : pushEntry s1 e = some s2)
    (hu : s1.state a = some acc1 → undoT (sdOf s1) (absT db (setAcct s1 a acc')) e = absT db s1)
    (hb : s1.state a = some acc1 → (absT db (setAcct s1 a acc')).balance = (absT db s1).balance)
    (hst : acc'.storage = acc1.storage) (hnc : ∀ b, ¬ e = .accountCreated b)
    (hnA : ∀ b, ¬ e = .accountWarmed b) (hnS : ∀ b k, ¬ e = .storageWarmed b k)
    (hr : refsOk (setAcct s1 a acc') e) :
    ∃ es, Pushes db s (setAcct s2 a acc') es ∧ NoWarm es := by
  obtain ⟨p1, hs1, _, _, _⟩ := touchAccount_pushes (db := db) hs ht
  exact ⟨_, Pushes.trans p1 (Pushes.of_push_set hp (hu hs1) (fun b hb => absurd hb (hnc b)) (BalOk.of_eq (hb hs1))
      (Grows.upd hs1 hst) hr hnA hnS),
    NoWarm.append (NoWarm.single hnA hnS) (NoWarm.touched _ _)⟩

theorem incNonce_pushes {db : Db} {s s' : JState} {a : Addr} {r : Option Nat}
    (h : incNonce s a = some (s', r)) : ∃ es, Pushes db s s' es ∧ NoWarm es := by
  obtain ⟨acc, hs, h⟩ := incNonce_some h
  split at h
  · obtain ⟨rfl, rfl⟩ := h; exact ⟨[], Pushes.refl db _, NoWarm.nil⟩
  · obtain ⟨s1, acc1, s2, ht, hp, rfl, rfl⟩ := h
    refine Pushes.of_touch_push_set hs ht hp (fun hs1 => ?_) (fun hs1 => by rw [absT_set_nonce db hs1]) rfl
      (fun _ h => by cases h) (fun _ h => by cases h) (fun _ _ h => by cases h) (by simp [refsOk, setAcct_state_same])
    rw [absT_set_nonce db hs1]
    simp only [undoT, upd_upd_same, upd_same]
    rw [upd_self (by rw [(absT_at db hs1).2.1]; simp [decU64])]

theorem setCode_pushes {db : Db} {s s' : JState} {a : Addr} {hash : Nat}
    (hadm : ∀ acc, s.state a = some acc → acc.info.codeHash = KECCAK_EMPTY)
    (h : setCode s a hash = some s') : ∃ es, Pushes db s s' es ∧ NoWarm es := by
  obtain ⟨acc, s1, acc1, s2, hs, ht, hp, rfl⟩ := setCode_some h
  have hacc1 := (touchAccount_some ht).1
  refine Pushes.of_touch_push_set hs ht hp (fun hs1 => ?_) (fun hs1 => by rw [absT_set_code db hs1]) rfl
    (fun _ h => by cases h) (fun _ h => by cases h) (fun _ _ h => by cases h) (by simp [refsOk, setAcct_state_same])
  have hk : (absT db s1).codeHash a = KECCAK_EMPTY := by
    rw [absT_codeHash, absAcct_some db s1 hs1, hacc1]; exact hadm acc hs
  rw [absT_set_code db hs1]
  simp only [undoT, upd_upd_same]
  rw [upd_self hk]

theorem loadAccountDelegated_pushes {db : Db} {s s' : JState} {a : Addr} {e c : Bool} {d : Option Bool}
    (h : loadAccountDelegated db s a = some (s', e, c, d)) :
    (∃ es, Pushes db s s' es) ∧ c = !(absT db s).warm a ∧
    (match delegateOf db s a with
     | none => d = none ∧ Warms db s s' [.addr a]
     | some dl => d = some (!((absT db s).warm dl || dl == a)) ∧ Warms db s s' [.addr a, .addr dl]) := by
  obtain ⟨s1, acc, hl, hs, _, hm⟩ := loadAccountDelegated_some h
  obtain ⟨p1, hc1, _⟩ := loadCode_pushes (db := db) hl
  have w1 := Warms.of_access (k := .addr a) p1 hc1
  have hdel : delegateOf db s a = acc.info.code.bind db.delegate := by
    simp [delegateOf, hl, hs]
  rw [hdel]
  cases hd : acc.info.code.bind db.delegate <;> simp only [hd] at hm ⊢
  · obtain ⟨rfl, rfl⟩ := hm
    exact ⟨⟨_, p1⟩, hc1, rfl, w1⟩
  · rename_i dl
    obtain ⟨dc, hl2, rfl⟩ := hm
    obtain ⟨p2, hc2, _⟩ := loadAccount_pushes (db := db) hl2
    refine ⟨⟨_, Pushes.trans p1 p2⟩, hc1, ?_, Warms.trans w1 (Warms.of_access (k := .addr dl) p2 hc2)⟩
    have e : (absT db s1).warm dl = ((absT db s).warm dl || dl == a) := (w1 (.addr dl)).trans (by simp [AState.has]; rfl)
    rw [hc2, e]

theorem Pushes.of_slot_warming {db : Db} {s s1 s' : JState} {a : Addr} {k v v' : Nat} {c c' : Bool}
    (e : absT db s1 = { absT db s with
      slot := upd (absT db s).slot a (updK ((absT db s).slot a) k { (absT db s).slot a k with warm := true }) })
    (hc : c = !((absT db s).slot a k).warm) (hg : Grows s s1) (hr : refsOk s1 (.storageWarmed a k))
    (hj : s1.journal = s.journal) (hspec : s1.spec = s.spec) (hpre : s1.preloaded = s.preloaded)
    (hlogs : s1.logs = s.logs)
    (h : (if c then (pushEntry s1 (.storageWarmed a k)).map (·, v, true) else some (s1, v, false)) = some (s', v', c')) :
    Pushes db s s' (if c' then [.storageWarmed a k] else []) ∧ c' = c ∧ v' = v ∧ s'.state = s1.state := by
  cases c
  · have hw : ((absT db s).slot a k).warm = true := by simpa using hc
    simp only [Bool.false_eq_true, if_false, Option.some.injEq, Prod.mk.injEq] at h
    obtain ⟨rfl, rfl, rfl⟩ := h
    refine ⟨Pushes.silent ?_ hj hspec hpre hlogs hg, rfl, rfl, rfl⟩
    rw [e, updK_self (by rw [← hw]), upd_self rfl]
  · have hw : ((absT db s).slot a k).warm = false := by simpa using hc
    simp only [if_true, Option.map_eq_some_iff, Prod.mk.injEq] at h
    obtain ⟨s2, h1, rfl, rfl, rfl⟩ := h
    refine ⟨Pushes.of_push h1 hj hspec hpre hlogs ?_ (by simp) (BalOk.of_eq (by rw [e])) hg hr (hwS := ?_),
      rfl, rfl, (pushEntry_some h1).state⟩
    · rw [e]
      simp only [undoT, upd_upd_same, upd_same, updK_updK_same, updK_same]
      rw [updK_self (by rw [← hw]), upd_self rfl]
    · intro b j hb; cases hb
      rw [e]; simp only [upd_same, updK_same]

theorem sload_pushes {db : Db} {s s' : JState} {a : Addr} {k v : Nat} {c : Bool}
    (h : sload db s a k = some (s', v, c)) :
    Pushes db s s' (if c then [.storageWarmed a k] else []) ∧ c = !((absT db s).slot a k).warm ∧
      v = ((absT db s).slot a k).present ∧
      ∃ acc sl, s'.state a = some acc ∧ acc.storage k = some sl ∧ sl.present = v ∧
        sl.orig = ((absT db s).slot a k).orig := by
  obtain ⟨acc, hs⟩ : ∃ acc, s.state a = some acc := by
    cases hs : s.state a with
    | none => simp [sload, hs] at h
    | some acc => exact ⟨acc, rfl⟩
  rw [sload_eq db s a k acc hs] at h
  have hA : (absT db s).slot a k = slotsOf db a acc.created acc.storage k := by rw [(absT_at db hs).2.2.2.2]
  generalize slotsOf db a acc.created acc.storage k = A at h hA
  obtain ⟨p, rfl, rfl, hst⟩ := Pushes.of_slot_warming (db := db) (c := !A.warm)
    (by rw [absT_set_slot db hs, hA]; rfl) (by rw [hA]) (Grows.slot' hs k _)
    (by simp [refsOk, setAcct_state_same, setSlot]) rfl rfl rfl rfl h
  exact ⟨p, by rw [hA], by rw [hA], _, ⟨A.orig, A.present, false⟩, by rw [hst]; exact setAcct_state_same _ _ _,
    by simp [setSlot], rfl, by rw [hA]⟩

theorem sstore_pushes {db : Db} {s s' : JState} {a : Addr} {k new o p n : Nat} {c : Bool}
    (h : sstore db s a k new = some (s', o, p, n, c)) :
    (∃ es, Pushes db s s' es) ∧ c = !((absT db s).slot a k).warm ∧ Warms db s s' [.slot a k] := by
  obtain ⟨s1, acc0, sl0, hl, hs0, hk0, -, -, h⟩ := sstore_some h
  obtain ⟨p1, hc, hv, acc, sl, hs1, hk, hpres, -⟩ := sload_pushes (db := db) hl
  obtain rfl : acc = acc0 := Option.some.inj (hs1.symm.trans hs0)
  obtain rfl : sl = sl0 := Option.some.inj (hk.symm.trans hk0)
  split at h
  · subst h
    exact ⟨⟨_, p1⟩, hc, Warms.of_access (k := .slot a k) p1 hc⟩
  · obtain ⟨s2, hp, rfl⟩ := h
    have hsl : (absT db s1).slot a k = { orig := sl.orig, present := p, warm := !sl.cold } := by
      rw [(absT_at db hs1).2.2.2.2, slotsOf_some db a acc.created hk, hpres]
    have p2 : Pushes db s1 (setAcct s2 a (setSlot acc k { sl with present := new })) [.storageChanged a k p] := by
      refine Pushes.of_push_set hp ?_ (by simp) (BalOk.of_eq (by rw [absT_set_slot db hs1]))
        (hg := Grows.slot' hs1 k _) (hr := by simp [refsOk, setAcct_state_same, setSlot])
      rw [absT_set_slot db hs1]
      simp only [undoT, upd_upd_same, upd_same, updK_updK_same, updK_same]
      rw [updK_self hsl, upd_self rfl]
    have w2 := p2.warms_nil (NoWarm.single (fun _ h => by cases h) (fun _ _ h => by cases h))
    exact ⟨⟨_, Pushes.trans p1 p2⟩, hc, Warms.trans (Warms.of_access (k := .slot a k) p1 hc) w2⟩

theorem tr_write_self {f : Addr → Nat → Nat} {a : Addr} {k w : Nat} (h : f a k = w) :
    (fun b j => if b = a ∧ j = k then w else f b j) = f := by
  funext b j; by_cases hb : b = a ∧ j = k
  · obtain ⟨rfl, rfl⟩ := hb; simp [h]
  · simp [hb]

theorem tr_write_write (f : Addr → Nat → Nat) (a : Addr) (k v w : Nat) :
    (fun b j => if b = a ∧ j = k then w else if b = a ∧ j = k then v else f b j) =
      fun b j => if b = a ∧ j = k then w else f b j := by
  funext b j; by_cases hb : b = a ∧ j = k <;> simp [hb]

theorem tstore_pushes {db : Db} {s s' : JState} {a : Addr} {k new : Nat}
    (h : tstore s a k new = some s') : ∃ es, Pushes db s s' es ∧ NoWarm es := by
  rw [tstore_eq] at h
  split at h
  · -- journaled with what `tload` gave before: the undo writes that back
    refine ⟨_, Pushes.of_push h rfl rfl rfl rfl ?_ (by simp) (BalOk.of_eq (by simp [absT_setTransient]))
        (hg := Grows.of_state_eq rfl) (hr := trivial),
      NoWarm.single (fun _ h => by cases h) (fun _ _ h => by cases h)⟩
    simp only [undoT, absT_setTransient]
    apply AState.ext' <;> try rfl
    show (fun b j => if b = a ∧ j = k then tload s a k else if b = a ∧ j = k then _ else tload s b j) = tload s
    rw [tr_write_write, tr_write_self rfl]
  · rename_i hj
    cases h
    refine ⟨[], Pushes.silent ?_ rfl rfl rfl rfl (Grows.of_state_eq rfl), NoWarm.nil⟩
    rw [absT_setTransient]
    apply AState.ext' <;> try rfl
    exact tr_write_self (f := tload s) (by rw [tstored_getD, tload_of_not_journals hj])

end Revm.Proofs.Journal
