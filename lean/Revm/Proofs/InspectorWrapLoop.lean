import Revm.Proofs.InspectorWrap
/-! C28 for the frame loop: the wrapped `call` / `create` / `eofcreate`, `insert_*_outcome`, `last_frame_return` and
`run_the_loop` return what the plain ones return (`sim_loop`), compared bind by bind with `RSim` / `OSim`. The wrapper
keeps the inputs of every open frame on a stack per kind and pops one at each return; `Inv` is why it never pops an empty one. -/
namespace Revm.Proofs.InspectorWrap
open Revm Revm.Model.InspectorWrap


variable {T : Ty} {S : Type}

/-- handler results of the plain and the wrapped driver: the same class (`ok` / `err e` / `panic`), `P` on the values -/
inductive RSim {ε α β : Type} (P : α → β → Prop) : Res ε α → Res ε β → Prop where
  | ok {a : α} {b : β} : P a b → RSim P (.ok a) (.ok b)
  | err {e : ε} : RSim P (.err e) (.err e)
  | panic : RSim P .panic .panic

theorem RSim.bind {ε α β α' β' : Type} {P : α → β → Prop} {Q : α' → β' → Prop}
    {x : Res ε α} {y : Res ε β} {f : α → Res ε α'} {g : β → Res ε β'}
    (hxy : RSim P x y) (hfg : ∀ a b, P a b → RSim Q (f a) (g b)) : RSim Q (x.bind f) (y.bind g) := by
  cases hxy with
  | ok hp => exact hfg _ _ hp
  | err => exact .err
  | panic => exact .panic

theorem RSim.mono {ε α β : Type} {P Q : α → β → Prop} {x : Res ε α} {y : Res ε β}
    (hxy : RSim P x y) (hpq : ∀ a b, P a b → Q a b) : RSim Q x y := by
  cases hxy with
  | ok hp => exact .ok (hpq _ _ hp)
  | err => exact .err
  | panic => exact .panic

/-- relation between what two drivers return: out of fuel together, else `RSim` -/
def OSim {ε α β : Type} (P : α → β → Prop) : Option (Res ε α) → Option (Res ε β) → Prop
  | none, none => True
  | some x, some y => RSim P x y
  | _, _ => False

theorem RSim.andThen {ε α β α' β' : Type} {P : α → β → Prop} {Q : α' → β' → Prop} {x : Res ε α} {y : Res ε β}
    {k : α → Option (Res ε α')} {k' : β → Option (Res ε β')} (hxy : RSim P x y)
    (hk : ∀ a b, P a b → OSim Q (k a) (k' b)) : OSim Q (andThen x k) (andThen y k') := by
  cases hxy with
  | ok hp => exact hk _ _ hp
  | err => exact RSim.err
  | panic => exact RSim.panic

theorem OSim.bind {ε α β α' β' : Type} {P : α → β → Prop} {Q : α' → β' → Prop} {x : Option (Res ε α)}
    {y : Option (Res ε β)} {k : α → Option (Res ε α')} {k' : β → Option (Res ε β')} (hxy : OSim P x y)
    (hk : ∀ a b, P a b → OSim Q (k a) (k' b)) : OSim Q (obind x k) (obind y k') := by
  cases x <;> cases y
  · exact True.intro
  · exact hxy.elim
  · exact hxy.elim
  · exact RSim.andThen hxy hk

theorem rsim_liftRes {ε α : Type} (w : WState T S) (r : Res ε (α × T.E)) :
    RSim (fun a b => b = (a.1, (a.2, w))) r (liftRes w r) := by
  cases r with
  | ok a => exact .ok rfl
  | err e => exact .err
  | panic => exact .panic

def kindOf : FrameResult → Kind
  | .call _ => .call
  | .create _ => .create
  | .eofcreate _ => .eofcreate

def wlen (k : Kind) (w : WState T S) : Nat :=
  match k with
  | .call => w.callStack.length
  | .create => w.createStack.length
  | .eofcreate => w.eofStack.length

def kcount (k : Kind) : List (Frame T) → Nat
  | [] => 0
  | f :: fs => (if f.kind = k then 1 else 0) + kcount k fs

/-- every open frame still has its inputs on the wrapper's stack of its kind (`kcount`: open frames of a kind, `wlen`:
length of that stack) -/
def Inv (fs : List (Frame T)) (w : WState T S) : Prop := ∀ k, kcount k fs ≤ wlen k w

def InvPlus (k0 : Kind) (fs : List (Frame T)) (w : WState T S) : Prop :=
  ∀ k, kcount k fs + (if k = k0 then 1 else 0) ≤ wlen k w

@[simp] theorem wlen_withObs (k : Kind) (w : WState T S) (s : S) : wlen k (withObs w s) = wlen k w := by
  cases k <;> rfl

theorem Inv.withObs {fs : List (Frame T)} {w : WState T S} (h : Inv fs w) (s : S) : Inv fs (withObs w s) := by
  intro k; rw [wlen_withObs]; exact h k

theorem InvPlus.withObs {k0 : Kind} {fs : List (Frame T)} {w : WState T S} (h : InvPlus k0 fs w) (s : S) :
    InvPlus k0 fs (withObs w s) := by
  intro k; rw [wlen_withObs]; exact h k

theorem initFrame_eq {O : Type} {rel : ORel} {obs : Observer T S} (h : Observing obs rel) (w : WState T S)
    (r : Res T.Err (FrameOr T O × T.E)) : ∃ s', initFrame obs w r = liftRes (withObs w s') r := by
  cases r with
  | err e => exact ⟨w.obs, rfl⟩
  | panic => exact ⟨w.obs, rfl⟩
  | ok a =>
    obtain ⟨x, e⟩ := a
    cases x with
    | result o => exact ⟨w.obs, rfl⟩
    | frame interp data =>
      have hi := h.initializeInterp w.obs interp e
      refine ⟨(obs.initializeInterp w.obs interp e).1, ?_⟩
      simp only [initFrame, hi, liftRes]

def pushCall (w : WState T S) (i : T.CallIn) : WState T S := { w with callStack := i :: w.callStack }
def pushCreate (w : WState T S) (i : T.CreateIn) : WState T S := { w with createStack := i :: w.createStack }
def pushEof (w : WState T S) (i : T.EofIn) : WState T S := { w with eofStack := i :: w.eofStack }

theorem wrap_call {rel : ORel} {obs : Observer T S} (h : Observing obs rel) (ops : EnvOps T) (m : Machine T T.E)
    (c : T.E × WState T S) (i : T.CallIn) :
    ∃ s', (wrap ops obs m).call c i = liftRes (withObs (pushCall c.2 i) s') (m.call c.1 i) := by
  have hc := h.call c.2.obs c.1 i
  obtain ⟨s2, h2⟩ := initFrame_eq h
    ({ c.2 with obs := (obs.call c.2.obs c.1 i).1, callStack := i :: c.2.callStack } : WState T S) (m.call c.1 i)
  refine ⟨s2, ?_⟩
  show (match (obs.call c.2.obs c.1 i).2.2.2 with
    | some outcome => _
    | none => initFrame obs _ (m.call (obs.call c.2.obs c.1 i).2.1 (obs.call c.2.obs c.1 i).2.2.1)) = _
  simp only [hc]
  exact h2

theorem wrap_create {rel : ORel} {obs : Observer T S} (h : Observing obs rel) (ops : EnvOps T) (m : Machine T T.E)
    (c : T.E × WState T S) (i : T.CreateIn) :
    ∃ s', (wrap ops obs m).create c i = liftRes (withObs (pushCreate c.2 i) s') (m.create c.1 i) := by
  have hc := h.create c.2.obs c.1 i
  obtain ⟨s2, h2⟩ := initFrame_eq h
    ({ c.2 with obs := (obs.create c.2.obs c.1 i).1, createStack := i :: c.2.createStack } : WState T S) (m.create c.1 i)
  refine ⟨s2, ?_⟩
  show (match (obs.create c.2.obs c.1 i).2.2.2 with
    | some outcome => _
    | none => initFrame obs _ (m.create (obs.create c.2.obs c.1 i).2.1 (obs.create c.2.obs c.1 i).2.2.1)) = _
  simp only [hc]
  exact h2

theorem wrap_eofcreate {rel : ORel} {obs : Observer T S} (h : Observing obs rel) (ops : EnvOps T) (m : Machine T T.E)
    (c : T.E × WState T S) (i : T.EofIn) :
    ∃ s', (wrap ops obs m).eofcreate c i = liftRes (withObs (pushEof c.2 i) s') (m.eofcreate c.1 i) := by
  have hc := h.eofcreate c.2.obs c.1 i
  obtain ⟨s2, h2⟩ := initFrame_eq h
    ({ c.2 with obs := (obs.eofcreate c.2.obs c.1 i).1, eofStack := i :: c.2.eofStack } : WState T S) (m.eofcreate c.1 i)
  refine ⟨s2, ?_⟩
  show (match (obs.eofcreate c.2.obs c.1 i).2.2.2 with
    | some outcome => _
    | none => initFrame obs _ (m.eofcreate (obs.eofcreate c.2.obs c.1 i).2.1 (obs.eofcreate c.2.obs c.1 i).2.2.1)) = _
  simp only [hc]
  exact h2

theorem wrap_insertCall {rel : ORel} {obs : Observer T S} (h : Observing obs rel) (ops : EnvOps T)
    (m : Machine T T.E) (hr : Respects m rel) (c : T.E × WState T S) (f : Frame T) (sh : T.Mem)
    (o : CallOutcome) (x : T.CallIn) (rest : List T.CallIn) (hst : c.2.callStack = x :: rest) :
    ∃ s', RSim (fun a b => b = (a.1, a.2.1, (a.2.2, ({ c.2 with obs := s', callStack := rest } : WState T S))))
      (m.insertCallOutcome c.1 f sh o) ((wrap ops obs m).insertCallOutcome c f sh o) := by
  have he := h.callEnd c.2.obs c.1 x o
  refine ⟨(obs.callEnd c.2.obs c.1 x o).1, ?_⟩
  have hw : (wrap ops obs m).insertCallOutcome c f sh o =
      (match m.insertCallOutcome (obs.callEnd c.2.obs c.1 x o).2.1 f sh (obs.callEnd c.2.obs c.1 x o).2.2 with
        | .ok (st, sh, e) => .ok (st, sh, (e, ({ c.2 with obs := (obs.callEnd c.2.obs c.1 x o).1, callStack := rest } : WState T S)))
        | .err e => .err e
        | .panic => .panic) := by
    show (match c.2.callStack with | [] => _ | callInputs :: restStack => _) = _
    (rw [hst]) <;> try rfl
  rw [hw, he.1, hr.insertCall c.1 f sh o _ he.2]
  cases m.insertCallOutcome c.1 f sh o with
  | ok a => exact .ok rfl
  | err e => exact .err
  | panic => exact .panic

theorem wrap_insertCreate {rel : ORel} {obs : Observer T S} (h : Observing obs rel) (ops : EnvOps T)
    (m : Machine T T.E) (hr : Respects m rel) (c : T.E × WState T S) (f : Frame T)
    (o : CreateOutcome) (x : T.CreateIn) (rest : List T.CreateIn) (hst : c.2.createStack = x :: rest) :
    ∃ s', RSim (fun a b => b = (a.1, (a.2, ({ c.2 with obs := s', createStack := rest } : WState T S))))
      (m.insertCreateOutcome c.1 f o) ((wrap ops obs m).insertCreateOutcome c f o) := by
  have he := h.createEnd c.2.obs c.1 x o
  refine ⟨(obs.createEnd c.2.obs c.1 x o).1, ?_⟩
  have hw : (wrap ops obs m).insertCreateOutcome c f o =
      liftRes ({ c.2 with obs := (obs.createEnd c.2.obs c.1 x o).1, createStack := rest } : WState T S)
        (m.insertCreateOutcome (obs.createEnd c.2.obs c.1 x o).2.1 f (obs.createEnd c.2.obs c.1 x o).2.2) := by
    show (match c.2.createStack with | [] => _ | createInputs :: restStack => _) = _
    (rw [hst]) <;> try rfl
  rw [hw, he.1, hr.insertCreate c.1 f o _ he.2]
  exact rsim_liftRes _ _

theorem wrap_insertEofcreate {rel : ORel} {obs : Observer T S} (h : Observing obs rel) (ops : EnvOps T)
    (m : Machine T T.E) (hr : Respects m rel) (c : T.E × WState T S) (f : Frame T)
    (o : CreateOutcome) (x : T.EofIn) (rest : List T.EofIn) (hst : c.2.eofStack = x :: rest) :
    ∃ s', RSim (fun a b => b = (a.1, (a.2, ({ c.2 with obs := s', eofStack := rest } : WState T S))))
      (m.insertEofcreateOutcome c.1 f o) ((wrap ops obs m).insertEofcreateOutcome c f o) := by
  have he := h.eofcreateEnd c.2.obs c.1 x o
  refine ⟨(obs.eofcreateEnd c.2.obs c.1 x o).1, ?_⟩
  have hw : (wrap ops obs m).insertEofcreateOutcome c f o =
      liftRes ({ c.2 with obs := (obs.eofcreateEnd c.2.obs c.1 x o).1, eofStack := rest } : WState T S)
        (m.insertEofcreateOutcome (obs.eofcreateEnd c.2.obs c.1 x o).2.1 f (obs.eofcreateEnd c.2.obs c.1 x o).2.2) := by
    show (match c.2.eofStack with | [] => _ | createInputs :: restStack => _) = _
    (rw [hst]) <;> try rfl
  rw [hw, he.1, hr.insertEofcreate c.1 f o _ he.2]
  exact rsim_liftRes _ _

/-- `last_frame_return` of the wrapper, given the inputs of the first frame are still on their stack -/
theorem wrap_lastFrameReturn {rel : ORel} {obs : Observer T S} (h : Observing obs rel) (ops : EnvOps T)
    (m : Machine T T.E) (hr : Respects m rel) (c : T.E × WState T S) (r : FrameResult)
    (hlen : 1 ≤ wlen (kindOf r) c.2) :
    RSim (fun a b => b.1 = a.1 ∧ b.2.1 = a.2) (m.lastFrameReturn c.1 r) ((wrap ops obs m).lastFrameReturn c r) := by
  cases r with
  | call o =>
    cases hst : c.2.callStack with
    | nil => simp [wlen, kindOf, hst] at hlen
    | cons x rest =>
      have he := h.callEnd c.2.obs c.1 x o
      have hw : (wrap ops obs m).lastFrameReturn c (.call o) =
          liftRes ({ c.2 with obs := (obs.callEnd c.2.obs c.1 x o).1, callStack := rest } : WState T S)
            (m.lastFrameReturn (obs.callEnd c.2.obs c.1 x o).2.1 (.call (obs.callEnd c.2.obs c.1 x o).2.2)) := by
        show (match c.2.callStack with | [] => _ | callInputs :: restStack => _) = _
        (rw [hst]) <;> try rfl
      rw [hw, he.1, hr.lastCall c.1 o _ he.2]
      exact (rsim_liftRes _ _).mono (fun a b hb => by subst hb; exact ⟨rfl, rfl⟩)
  | create o =>
    cases hst : c.2.createStack with
    | nil => simp [wlen, kindOf, hst] at hlen
    | cons x rest =>
      have he := h.createEnd c.2.obs c.1 x o
      have hw : (wrap ops obs m).lastFrameReturn c (.create o) =
          liftRes ({ c.2 with obs := (obs.createEnd c.2.obs c.1 x o).1, createStack := rest } : WState T S)
            (m.lastFrameReturn (obs.createEnd c.2.obs c.1 x o).2.1 (.create (obs.createEnd c.2.obs c.1 x o).2.2)) := by
        show (match c.2.createStack with | [] => _ | createInputs :: restStack => _) = _
        (rw [hst]) <;> try rfl
      rw [hw, he.1, hr.lastCreate c.1 o _ he.2]
      exact (rsim_liftRes _ _).mono (fun a b hb => by subst hb; exact ⟨rfl, rfl⟩)
  | eofcreate o =>
    cases hst : c.2.eofStack with
    | nil => simp [wlen, kindOf, hst] at hlen
    | cons x rest =>
      have he := h.eofcreateEnd c.2.obs c.1 x o
      have hw : (wrap ops obs m).lastFrameReturn c (.eofcreate o) =
          liftRes ({ c.2 with obs := (obs.eofcreateEnd c.2.obs c.1 x o).1, eofStack := rest } : WState T S)
            (m.lastFrameReturn (obs.eofcreateEnd c.2.obs c.1 x o).2.1 (.eofcreate (obs.eofcreateEnd c.2.obs c.1 x o).2.2)) := by
        show (match c.2.eofStack with | [] => _ | eofInputs :: restStack => _) = _
        (rw [hst]) <;> try rfl
      rw [hw, he.1, hr.lastEofcreate c.1 o _ he.2]
      exact (rsim_liftRes _ _).mono (fun a b hb => by subst hb; exact ⟨rfl, rfl⟩)

def NextSim : LoopNext T T.E → LoopNext T (T.E × WState T S) → Prop
  | .done r e, .done r' c' => r' = r ∧ c'.1 = e ∧ 1 ≤ wlen (kindOf r) c'.2
  | .continue fs sh e, .continue fs' sh' c' => fs' = fs ∧ sh' = sh ∧ c'.1 = e ∧ Inv fs c'.2
  | _, _ => False

theorem invPlus_of_push {k0 : Kind} {fs : List (Frame T)} {w w' : WState T S} (hinv : Inv fs w)
    (h : ∀ k, wlen k w' = wlen k w + if k = k0 then 1 else 0) : InvPlus k0 fs w' := by
  intro k; have := hinv k; rw [h k]; omega

theorem inv_of_pop {k0 : Kind} {fs : List (Frame T)} {w w' : WState T S} (hinv : InvPlus k0 fs w)
    (h : ∀ k, wlen k w = wlen k w' + if k = k0 then 1 else 0) : Inv fs w' := by
  intro k; have := hinv k; rw [h k] at this; omega

theorem one_le_of_invPlus_nil {k0 : Kind} {w : WState T S} (h : InvPlus k0 ([] : List (Frame T)) w) :
    1 ≤ wlen k0 w := by
  have := h k0; simp [kcount] at this; exact this

theorem kcount_cons (k : Kind) (f : Frame T) (fs : List (Frame T)) :
    kcount k (f :: fs) = kcount k fs + if k = f.kind then 1 else 0 := by
  show (if f.kind = k then 1 else 0) + kcount k fs = _
  by_cases hk : k = f.kind
  · subst hk; simp [Nat.add_comm]
  · have : ¬ f.kind = k := fun e => hk e.symm
    simp [hk, this]

/-- a frame on the call stack counts like a pending result of its kind -/
theorem inv_cons {f : Frame T} {fs : List (Frame T)} {w : WState T S} : Inv (f :: fs) w ↔ InvPlus f.kind fs w :=
  forall_congr' fun k => by rw [kcount_cons]

theorem sim_insertResult {rel : ORel} {obs : Observer T S} (h : Observing obs rel) (ops : EnvOps T)
    (m : Machine T T.E) (hr : Respects m rel) (r : FrameResult) (fs : List (Frame T)) (sh : T.Mem)
    (c : T.E × WState T S) (hinv : InvPlus (kindOf r) fs c.2) :
    RSim NextSim (m.insertResult r fs sh c.1) ((wrap ops obs m).insertResult r fs sh c) := by
  cases fs with
  | nil => exact .ok ⟨rfl, rfl, one_le_of_invPlus_nil hinv⟩
  | cons top rest =>
    cases r with
    | call o =>
      cases hst : c.2.callStack with
      | nil => have h1 := hinv .call; simp [wlen, kindOf, hst] at h1
      | cons x restS =>
        obtain ⟨s', hs⟩ := wrap_insertCall h ops m hr c top sh o x restS hst
        refine RSim.bind hs fun a b hab => ?_
        subst hab
        exact .ok ⟨rfl, rfl, rfl, inv_of_pop hinv fun k => by cases k <;> simp [wlen, kindOf, hst]⟩
    | create o =>
      cases hst : c.2.createStack with
      | nil => have h1 := hinv .create; simp [wlen, kindOf, hst] at h1
      | cons x restS =>
        obtain ⟨s', hs⟩ := wrap_insertCreate h ops m hr c top o x restS hst
        refine RSim.bind hs fun a b hab => ?_
        subst hab
        exact .ok ⟨rfl, rfl, rfl, inv_of_pop hinv fun k => by cases k <;> simp [wlen, kindOf, hst]⟩
    | eofcreate o =>
      cases hst : c.2.eofStack with
      | nil => have h1 := hinv .eofcreate; simp [wlen, kindOf, hst] at h1
      | cons x restS =>
        obtain ⟨s', hs⟩ := wrap_insertEofcreate h ops m hr c top o x restS hst
        refine RSim.bind hs fun a b hab => ?_
        subst hab
        exact .ok ⟨rfl, rfl, rfl, inv_of_pop hinv fun k => by cases k <;> simp [wlen, kindOf, hst]⟩

/-- The previous `call` / `create` / `eofcreate` handler answered `r` and the wrapper has pushed the inputs (`w'`). What
the two drivers do with a frame and with an immediate result is `F` / `F'` (`handleAction` and `firstFrame` have one
`match` per kind). -/
theorem sim_answer {O A A' : Type} {Q : A → A' → Prop} (w' : WState T S) (r : Res T.Err (FrameOr T O × T.E))
    {F : FrameOr T O × T.E → Res T.Err A} {F' : FrameOr T O × (T.E × WState T S) → Res T.Err A'}
    (hfr : ∀ interp data e, RSim Q (F (.frame interp data, e)) (F' (.frame interp data, (e, w'))))
    (hres : ∀ o e, RSim Q (F (.result o, e)) (F' (.result o, (e, w')))) :
    RSim Q (r.bind F) ((liftRes w' r).bind F') := by
  refine RSim.bind (rsim_liftRes _ _) fun x y hxy => ?_
  subst hxy
  obtain ⟨x, e⟩ := x
  cases x with
  | frame interp data => exact hfr interp data e
  | result o => exact hres o e

theorem sim_return {rel : ORel} {obs : Observer T S} (h : Observing obs rel) (ops : EnvOps T)
    (m : Machine T T.E) (hr : Respects m rel) {O : Type} (k : Kind) (toFR : O → FrameResult)
    (hk : ∀ o, kindOf (toFR o) = k) (fs : List (Frame T)) (sh : T.Mem) (w : WState T S)
    (hinv : InvPlus k fs w) (r : Res T.Err (O × T.E))
    {F : O × T.E → Res T.Err (LoopNext T T.E)}
    {F' : O × (T.E × WState T S) → Res T.Err (LoopNext T (T.E × WState T S))}
    (hF : ∀ o e, F (o, e) = m.insertResult (toFR o) fs sh e)
    (hF' : ∀ o c, F' (o, c) = (wrap ops obs m).insertResult (toFR o) fs sh c) :
    RSim NextSim (r.bind F) ((liftRes w r).bind F') := by
  refine RSim.bind (rsim_liftRes _ _) fun x y hxy => ?_
  subst hxy
  rw [hF, hF']
  exact sim_insertResult h ops m hr (toFR x.1) fs sh (x.2, w) (by rw [hk]; exact hinv)

theorem sim_handleAction {rel : ORel} {obs : Observer T S} (h : Observing obs rel) (ops : EnvOps T)
    (m : Machine T T.E) (hr : Respects m rel) (a : Action T) (f : Frame T) (rest : List (Frame T))
    (sh : T.Mem) (c : T.E × WState T S) (hinv : Inv (f :: rest) c.2) :
    RSim NextSim (m.handleAction a f rest sh c.1) ((wrap ops obs m).handleAction a f rest sh c) := by
  cases a with
  | none => exact .panic
  | call i =>
    obtain ⟨s', hs⟩ := wrap_call h ops m c i
    show RSim NextSim ((m.call c.1 i).bind _) (((wrap ops obs m).call c i).bind _)
    rw [hs]
    have hp : InvPlus .call (f :: rest) (withObs (pushCall c.2 i) s') :=
      invPlus_of_push hinv fun k => by cases k <;> rfl
    exact sim_answer _ _ (fun _ _ _ => .ok ⟨rfl, rfl, rfl, inv_cons.2 hp⟩)
      fun o e => sim_insertResult h ops m hr (.call o) (f :: rest) sh (e, _) hp
  | create i =>
    obtain ⟨s', hs⟩ := wrap_create h ops m c i
    show RSim NextSim ((m.create c.1 i).bind _) (((wrap ops obs m).create c i).bind _)
    rw [hs]
    have hp : InvPlus .create (f :: rest) (withObs (pushCreate c.2 i) s') :=
      invPlus_of_push hinv fun k => by cases k <;> rfl
    exact sim_answer _ _ (fun _ _ _ => .ok ⟨rfl, rfl, rfl, inv_cons.2 hp⟩)
      fun o e => sim_insertResult h ops m hr (.create o) (f :: rest) sh (e, _) hp
  | eofcreate i =>
    obtain ⟨s', hs⟩ := wrap_eofcreate h ops m c i
    show RSim NextSim ((m.eofcreate c.1 i).bind _) (((wrap ops obs m).eofcreate c i).bind _)
    rw [hs]
    have hp : InvPlus .eofcreate (f :: rest) (withObs (pushEof c.2 i) s') :=
      invPlus_of_push hinv fun k => by cases k <;> rfl
    exact sim_answer _ _ (fun _ _ _ => .ok ⟨rfl, rfl, rfl, inv_cons.2 hp⟩)
      fun o e => sim_insertResult h ops m hr (.eofcreate o) (f :: rest) sh (e, _) hp
  | ret r =>
    have hp := inv_cons.1 hinv
    show RSim NextSim (match f.kind with | .call => _ | .create => _ | .eofcreate => _)
      (match f.kind with | .call => _ | .create => _ | .eofcreate => _)
    cases hk : f.kind with
    | call =>
      rw [hk] at hp
      exact sim_return h ops m hr .call .call (fun _ => rfl) rest _ c.2 hp (m.callReturn c.1 f r)
        (fun _ _ => rfl) (fun _ _ => rfl)
    | create =>
      rw [hk] at hp
      exact sim_return h ops m hr .create .create (fun _ => rfl) rest _ c.2 hp (m.createReturn c.1 f r)
        (fun _ _ => rfl) (fun _ _ => rfl)
    | eofcreate =>
      rw [hk] at hp
      exact sim_return h ops m hr .eofcreate .eofcreate (fun _ => rfl) rest _ c.2 hp (m.eofcreateReturn c.1 f r)
        (fun _ _ => rfl) (fun _ _ => rfl)

theorem wrap_takeError (ops : EnvOps T) (obs : Observer T S) (m : Machine T T.E) (c : T.E × WState T S) :
    RSim (fun a b => b = (a, c.2)) (m.takeError c.1) ((wrap ops obs m).takeError c) := by
  show RSim _ _ (Res.map _ (liftRes c.2 (Res.map _ (m.takeError c.1))))
  cases m.takeError c.1 with
  | ok a => exact .ok rfl
  | err e => exact .err
  | panic => exact .panic

/-- out of fuel at the same fuel, and the inputs of the first frame are still on their stack for `last_frame_return` -/
theorem sim_loop {rel : ORel} {obs : Observer T S} (h : Observing obs rel) (ops : EnvOps T)
    (m : Machine T T.E) (hr : Respects m rel) : ∀ (n : Nat) (fs : List (Frame T)) (sh : T.Mem)
    (c : T.E × WState T S), Inv fs c.2 →
    OSim (fun a b => b.1 = a.1 ∧ b.2.1 = a.2 ∧ 1 ≤ wlen (kindOf a.1) b.2.2) (m.loop n fs sh c.1)
      ((wrap ops obs m).loop n fs sh c) := by
  intro n
  induction n with
  | zero => intro fs sh c _; exact True.intro
  | succ n ih =>
    intro fs sh c hinv
    cases fs with
    | nil => exact RSim.panic
    | cons f rest =>
      obtain ⟨s1, h1⟩ := wrap_executeFrame h ops m n f sh c
      rw [loop_succ, loop_succ, h1]
      cases hx : m.executeFrame n f sh c.1 with
      | none => exact True.intro
      | some x =>
        have hinv' : Inv (x.2.1 :: rest) (withObs c.2 s1) := by
          rw [executeFrame_eq, Option.map_eq_some_iff] at hx
          obtain ⟨p, _, hp⟩ := hx
          have hf : x.2.1.kind = f.kind := (congrArg (fun x => x.2.1.kind) hp).symm
          intro k; have hk := hinv.withObs s1 k
          simp only [kcount, hf] at hk ⊢; exact hk
        refine RSim.andThen (P := NextSim) ((wrap_takeError ops obs m (x.2.2.2, withObs c.2 s1)).bind
          fun e2 c2 hc2 => ?_) fun a b hab => ?_
        · subst hc2; exact sim_handleAction h ops m hr x.1 x.2.1 rest x.2.2.1 (e2, withObs c.2 s1) hinv'
        · cases a <;> cases b
          · obtain ⟨rfl, rfl, rfl, hf4⟩ := hab; exact ih _ _ _ hf4
          · exact hab.elim
          · exact hab.elim
          · obtain ⟨rfl, hr2, hr3⟩ := hab; exact RSim.ok ⟨rfl, hr2, hr3⟩

end Revm.Proofs.InspectorWrap
