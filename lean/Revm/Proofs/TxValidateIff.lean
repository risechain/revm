import Revm.Proofs.TxValidate
/-! C02, validation: `validate` = the first violated rule of the whole list; the groups of rules against the
conjuncts of `ValidTx` (`rules_iff`); the two overflow regions, where nothing is valid and the code rejects (the
blob fee one only outside `BlobFeeSaturation`); `validate = ok ↔ ValidTx` outside `TypeGap` and `BlobFeeSaturation`,
where the code accepts and which hold no valid transaction (`valid_no_gap`); validation never panics. -/
namespace Revm.Proofs.TxValidate
open Revm
open Revm.Model.GasCalc (enabled canon)
open Revm.Model.GasCalc.SpecId
open Revm.Model.TxValidate
open Revm.Spec.GasCalc (Fork intrinsicGas)
open Revm.Spec.TxValid

/-! ### the groups of rules against the conjuncts of `ValidTx` -/

theorem header_iff (f : Fork) (blk : Block) :
    firstViolated (rulesHeader f blk) = none ↔ HeaderOk f blk := by
  simp only [rulesHeader, fv_cons_none, fv_nil_none, and_true]
  exact Iff.rfl

theorem gas_iff (f : Fork) (tx : Tx) : firstViolated (rulesGas f tx) = none ↔ GasOk f tx := by
  simp only [rulesGas, fv_cons_none, fv_nil_none, and_true]
  exact Iff.rfl

theorem state_iff {tx : Tx} {snd : Sender} (hb : snd.balance < W) :
    firstViolated (rulesState tx snd) = none ↔ snd.code ≠ .other ∧ NonceOk tx snd ∧ FundsOk tx snd := by
  have hW : W = 2^256 := rfl
  simp only [rulesState, fv_cons_none, fv_nil_none, and_true]
  unfold NonceOk FundsOk NonceNotHigh NonceNotLow NonceNotMax
  cases tx.nonce with
  | none =>
    simp only []
    exact ⟨fun ⟨h1, _, _, _, _, h6⟩ => ⟨h1, trivial, h6⟩, fun ⟨h1, _, h4⟩ => ⟨h1, trivial, trivial, trivial, by omega, h4⟩⟩
  | some n =>
    simp only []
    exact ⟨fun ⟨h1, h2, h3, h4, _, h6⟩ => ⟨h1, ⟨by omega, h4⟩, h6⟩,
      fun ⟨h1, ⟨h2, h3⟩, h4⟩ => ⟨h1, by omega, by omega, h3, by omega, h4⟩⟩

theorem head_iff (f : Fork) (cfg : Cfg) (blk : Block) (tx : Tx) :
    firstViolated (rulesTxHead f cfg blk tx) = none ↔
      ChainIdOk cfg tx ∧ BlockGasOk blk tx ∧ (tx.accessList ≠ [] → hasEIP2930 f = true) := by
  simp only [rulesTxHead, fv_cons_none, fv_nil_none, and_true]

theorem fee_iff (f : Fork) (blk : Block) (tx : Tx) :
    firstViolated (rulesFee f blk tx) = none ↔ FeeOk f blk tx := by
  simp only [rulesFee, fv_cons_none, fv_nil_none, and_true]
  exact ⟨fun ⟨a, b⟩ h => ⟨a h, b h⟩, fun h => ⟨fun hl => (h hl).1, fun hl => (h hl).2⟩⟩

theorem init_iff (f : Fork) (cfg : Cfg) (tx : Tx) :
    firstViolated (rulesInit f cfg tx) = none ↔ InitcodeOk f cfg tx := by
  simp only [rulesInit, fv_cons_none, fv_nil_none, and_true]

theorem blob_iff (f : Fork) (cfg : Cfg) (blk : Block) (tx : Tx) :
    firstViolated (rulesBlob f cfg blk tx) = none ↔
      ((tx.maxFeePerBlobGas.isSome = true ∨ tx.blobHashes ≠ []) → hasEIP4844 f = true) ∧
      BlobOk f cfg blk tx := by
  simp only [rulesBlob, fv_cons_none, fv_nil_none, and_true]
  unfold BlobOk
  cases hmf : tx.maxFeePerBlobGas with
  | none =>
    have hp := blobPriceOk_none blk tx hmf
    simp only [Option.isSome_none, Bool.false_eq_true, false_implies, false_or, forall_const, true_and]
    exact ⟨fun ⟨a, _, b⟩ => ⟨a, b⟩, fun ⟨a, b⟩ => ⟨a, hp, b⟩⟩
  | some m =>
    simp only [Option.isSome_some, true_or, forall_const, reduceCtorEq, false_implies, and_true]
    cases hbp : blk.blobGasPrice with
    | none =>
      have hp : BlobPriceOk blk tx := by unfold BlobPriceOk; rw [hmf, hbp]; trivial
      exact ⟨fun ⟨a, _, b⟩ => ⟨a, trivial, b⟩, fun ⟨a, _, b⟩ => ⟨a, hp, b⟩⟩
    | some price =>
      have hp := blobPriceOk_some hmf hbp
      exact ⟨fun ⟨a, p, b⟩ => ⟨a, hp.1 p, b⟩, fun ⟨a, p, b⟩ => ⟨a, hp.2 p, b⟩⟩

theorem auth_iff (f : Fork) (tx : Tx) :
    firstViolated (rulesAuth f tx) = none ↔
      (tx.authList.isSome = true → hasEIP7702 f = true) ∧ AuthOk tx := by
  simp only [rulesAuth, fv_cons_none, fv_nil_none, and_true]
  unfold AuthOk
  cases tx.authList with
  | none => simp
  | some n =>
    simp only [Option.isSome_some, forall_const, ne_eq, Option.some.injEq]
    exact ⟨fun ⟨a, b, ⟨c1, c2⟩, d⟩ => ⟨a, b, c1, c2, d⟩, fun ⟨a, b, c1, c2, d⟩ => ⟨a, b, ⟨c1, c2⟩, d⟩⟩

theorem tx_iff {f : Fork} {cfg : Cfg} {blk : Block} {tx : Tx}
    (hd1 : tx.priorityFee.isSome = true → hasEIP1559 f = true) :
    firstViolated (rulesTx f cfg blk tx) = none ↔
      ChainIdOk cfg tx ∧ BlockGasOk blk tx ∧ TypeOk f tx ∧ FeeOk f blk tx ∧ InitcodeOk f cfg tx ∧
      BlobOk f cfg blk tx ∧ AuthOk tx := by
  rw [rulesTx_split, fv_append_none, fv_append_none, fv_append_none, fv_append_none, head_iff, fee_iff,
    init_iff, blob_iff, auth_iff]
  unfold TypeOk
  constructor
  · intro ⟨⟨a, b, c⟩, d, e, ⟨g, h⟩, i, j⟩; exact ⟨a, b, ⟨c, hd1, g, i⟩, d, e, h, j⟩
  · intro ⟨a, b, ⟨c, _, g, i⟩, d, e, h, j⟩; exact ⟨⟨a, b, c⟩, d, e, ⟨g, h⟩, i, j⟩

/-! ### what a passed stage tells the later ones -/

theorem header_ok_blob {f : Fork} {blk : Block} (h : resOf (firstViolated (rulesHeader f blk)) = .ok) :
    hasEIP4844 f = true → blk.blobGasPrice.isSome = true := by
  rw [resOf_eq_ok, header_iff] at h
  exact h.2

theorem tx_ok_blob {f : Fork} {cfg : Cfg} {blk : Block} {tx : Tx}
    (h : resOf (firstViolated (rulesTx f cfg blk tx)) = .ok) :
    hasEIP4844 f = false → tx.maxFeePerBlobGas = none := by
  rw [resOf_eq_ok, rulesTx_split, fv_append_none, fv_append_none, fv_append_none, fv_append_none, blob_iff] at h
  intro hc
  cases hm : tx.maxFeePerBlobGas with
  | none => rfl
  | some m => have := h.2.2.2.1.1 (Or.inl (by rw [hm]; rfl)); rw [hc] at this; exact nomatch this

theorem validateEnv_eq {f : Fork} {cfg : Cfg} {blk : Block} {tx : Tx}
    (hwrap : hasEIP1559 f = true → ∀ p, tx.priorityFee = some p → blk.basefee + p < W)
    (hlen : tx.data.length < U64) :
    validateEnv (canon f.id) cfg blk tx
      = resOf (firstViolated (rulesHeader f blk ++ rulesTx f cfg blk tx)) := by
  unfold validateEnv
  rw [validateBlockEnv_eq, fv_append]
  apply andThen_congr
  intro h
  exact validateTx_eq hwrap hlen (header_ok_blob h)

theorem validate_eq_firstViolated {f : Fork} {cfg : Cfg} {blk : Block} {tx : Tx} {snd : Sender}
    (hr : InRange blk tx snd) (hfit : GasFits f tx)
    (hwrap : hasEIP1559 f = true → ∀ p, tx.priorityFee = some p → blk.basefee + p < W)
    (hnosat : blobFee tx < W) :
    validate f.id cfg blk tx snd = resOf (firstViolated (rules f cfg blk tx snd)) := by
  unfold validate validateCanon rules
  rw [validateEnv_eq hwrap hr.dataLen, validateInitialTxGas_eq hfit,
    fv_append (rulesHeader f blk ++ rulesTx f cfg blk tx ++ rulesGas f tx),
    fv_append (rulesHeader f blk ++ rulesTx f cfg blk tx), andThen_assoc]
  apply andThen_congr
  intro h
  rw [fv_append, andThen_eq_ok] at h
  rw [validateTxAgainstState_eq hr (tx_ok_blob h.2) hnosat]

/-! ### the two overflow regions, treated directly -/

theorem intrinsic_ge (f : Fork) (d : List Nat) (c : Bool) (a : List Nat) (n : Nat) :
    21000 ≤ intrinsicGas f d c a n := by
  unfold intrinsicGas; omega

/-- in the fee-wrap region (`basefee + priority fee ≥ 2^256`, London or later) the code rejects … -/
theorem feeChecks_wrap {f : Fork} {blk : Block} {tx : Tx} {p : Nat} (hl : hasEIP1559 f = true)
    (hp : tx.priorityFee = some p) (hw : blk.basefee + p ≥ W) (hpr : p < W) (hbr : blk.basefee < W) :
    feeChecks (canon f.id) blk tx ≠ .ok := by
  intro h
  unfold feeChecks at h
  rw [enc_london, hl] at h
  simp only [if_true] at h
  have heff : effectiveGasPrice blk tx = min tx.gasPrice (U256.wadd blk.basefee p) := by
    unfold effectiveGasPrice; rw [hp]
  have hadd : U256.wadd blk.basefee p = blk.basefee + p - W := by
    unfold U256.wadd
    generalize hx : blk.basefee + p = x
    have hx2 : x = (x - W) + W := by omega
    conv => lhs; rw [hx2]
    rw [Nat.add_mod_right]
    exact Nat.mod_eq_of_lt (by omega)
  rw [heff] at h
  have hlt : min tx.gasPrice (U256.wadd blk.basefee p) < blk.basefee := by
    rw [hadd, Nat.min_def]; split <;> omega
  rw [if_pos hlt] at h
  have key : ∀ b : Bool, (if b = true then Res.err Err.PriorityFeeGreaterThanMaxFee
      else Res.err Err.GasPriceLessThanBasefee) ≠ Res.ok := by
    intro b; cases b <;> simp
  exact key _ h

/-- … and the transaction is not valid either: both caps are at least 2^255 there, so the maximum
cost of at least 21000 gas exceeds every balance -/
theorem valid_not_wrap {f : Fork} {cfg : Cfg} {blk : Block} {tx : Tx} {snd : Sender} {p : Nat}
    (hl : hasEIP1559 f = true) (hp : tx.priorityFee = some p) (hw : blk.basefee + p ≥ W)
    (hbal : snd.balance < W) : ¬ ValidTx f cfg blk tx snd := by
  intro ⟨_, _, _, _, hfee, _, _, _, hgas, _, _, hfunds⟩
  have hW := W_val
  have h1 := hfee hl
  rw [hp] at h1
  simp only [] at h1
  obtain ⟨h1a, h1b⟩ := h1
  have hg := Nat.le_trans (intrinsic_ge f tx.data tx.isCreate tx.accessList (tx.authList.getD 0)) hgas.1
  unfold FundsOk maxCost at hfunds
  have hgp : tx.gasPrice * 2 ≥ W := by omega
  have : 21000 * tx.gasPrice ≤ tx.gasLimit * tx.gasPrice := Nat.mul_le_mul_right _ hg
  generalize tx.gasLimit * tx.gasPrice = a at *
  generalize tx.maxFeePerBlobGas.getD 0 * blobGas tx = b at *
  omega

/-- the exact region in which `saturating_mul` of the blob fee lets an unaffordable transaction
through: the true blob fee does not fit in 256 bits, nothing else is charged, and the balance is 2^256 − 1 -/
def BlobFeeSaturation (tx : Tx) (snd : Sender) : Prop :=
  blobFee tx ≥ W ∧ tx.gasLimit * tx.gasPrice + tx.value = 0 ∧ snd.balance = W - 1

theorem balanceCheck_sat {f : Fork} {blk : Block} {tx : Tx} {snd : Sender} (hr : InRange blk tx snd)
    (hc : hasEIP4844 f = true) (hsat : ¬ blobFee tx < W) :
    balanceCheck (canon f.id) tx =
      if tx.gasLimit * tx.gasPrice + tx.value = 0 then some (W - 1) else none := by
  have hW := W_val
  rw [balanceCheck_val, enc_cancun, hc, if_pos rfl, maxDataFee_eq tx hr.blobLen, if_neg hsat]
  generalize tx.gasLimit * tx.gasPrice + tx.value = c
  by_cases h3 : c = 0
  · rw [if_pos (by omega), if_pos h3]; congr 1; omega
  · rw [if_neg (by omega), if_neg h3]

theorem fundsOk_blobFee {tx : Tx} {snd : Sender} (hbal : snd.balance < W) (hf : FundsOk tx snd) :
    blobFee tx < W :=
  Nat.lt_of_le_of_lt (Nat.le_trans (Nat.le_add_left _ _) hf) hbal

/-- a blob fee that does not fit in 256 bits is rejected outside `BlobFeeSaturation` -/
theorem state_not_ok_sat {f : Fork} {blk : Block} {tx : Tx} {snd : Sender} (hr : InRange blk tx snd)
    (hblob : hasEIP4844 f = false → tx.maxFeePerBlobGas = none)
    (hns : ¬ blobFee tx < W) (hsat : ¬ BlobFeeSaturation tx snd) :
    validateTxAgainstState (canon f.id) tx snd ≠ .ok := by
  have hW := W_val
  have hc : hasEIP4844 f = true := by
    cases h : hasEIP4844 f
    · have := hblob h; unfold blobFee at hns; rw [this] at hns; simp at hns; omega
    · rfl
  have hbal := hr.balance
  intro h
  unfold validateTxAgainstState at h
  rw [balanceCheck_sat hr hc hns] at h
  have h2 := ((andThen_eq_ok _ _).1 (ite_err_ok_iff.1 h).2).2
  by_cases h3 : tx.gasLimit * tx.gasPrice + tx.value = 0
  · rw [if_pos h3] at h2
    exact absurd ⟨by omega, h3, by have := (ite_err_ok_iff.1 h2).1; omega⟩ hsat
  · rw [if_neg h3] at h2; exact nomatch h2

/-! ### `validate = ok ↔ ValidTx` -/

/-- the two places where revm lets a transaction type through before its fork -/
def TypeGap (f : Fork) (tx : Tx) (snd : Sender) : Prop :=
  (tx.priorityFee.isSome = true ∧ hasEIP1559 f = false) ∨ (snd.code = .eip7702 ∧ hasEIP7702 f = false)

/-- the rule list is the conjunction `ValidTx`, once a transaction type cannot precede its fork -/
theorem rules_iff {f : Fork} {cfg : Cfg} {blk : Block} {tx : Tx} {snd : Sender} (hb : snd.balance < W)
    (hgap : ¬ TypeGap f tx snd) :
    firstViolated (rules f cfg blk tx snd) = none ↔ ValidTx f cfg blk tx snd := by
  have hd1 : tx.priorityFee.isSome = true → hasEIP1559 f = true :=
    fun h => Bool.of_not_eq_false fun h5 => hgap (Or.inl ⟨h, h5⟩)
  have hsender : snd.code ≠ .other ↔ SenderOk f snd := by
    have hd2 : snd.code = .eip7702 → hasEIP7702 f = true :=
      fun h => Bool.of_not_eq_false fun h7 => hgap (Or.inr ⟨h, h7⟩)
    unfold SenderOk
    cases hc : snd.code <;> simp [hc] at hd2 ⊢
    exact hd2
  unfold rules ValidTx
  rw [fv_append_none, fv_append_none, fv_append_none, header_iff, tx_iff hd1, gas_iff, state_iff hb, hsender]
  exact ⟨fun ⟨⟨⟨a, b1, b2, b3, b4, b5, b6, b7⟩, c⟩, d⟩ => ⟨a, b1, b2, b3, b4, b5, b6, b7, c, d⟩,
    fun ⟨a, b1, b2, b3, b4, b5, b6, b7, c, d⟩ => ⟨⟨⟨a, b1, b2, b3, b4, b5, b6, b7⟩, c⟩, d⟩⟩

/-- outside the three departure regions (two in `TypeGap`, and `BlobFeeSaturation`): `validate_eq_firstViolated` where
it applies; where the fee wraps or the blob fee does not fit, the code rejects and the transaction is not valid -/
theorem validate_iff (f : Fork) (cfg : Cfg) (blk : Block) (tx : Tx) (snd : Sender)
    (hr : InRange blk tx snd) (hfit : GasFits f tx)
    (hgap : ¬ TypeGap f tx snd) (hsat : ¬ BlobFeeSaturation tx snd) :
    validate f.id cfg blk tx snd = .ok ↔ ValidTx f cfg blk tx snd := by
  by_cases hwrap : hasEIP1559 f = true → ∀ p, tx.priorityFee = some p → blk.basefee + p < W
  · by_cases hns : blobFee tx < W
    · rw [validate_eq_firstViolated hr hfit hwrap hns, resOf_eq_ok, rules_iff hr.balance hgap]
    · refine ⟨fun h => ?_, fun h => absurd (fundsOk_blobFee hr.balance h.2.2.2.2.2.2.2.2.2.2.2) hns⟩
      unfold validate validateCanon at h
      rw [andThen_eq_ok, andThen_eq_ok, validateEnv_eq hwrap hr.dataLen, fv_append, andThen_eq_ok] at h
      exact absurd h.2.2 (state_not_ok_sat hr (tx_ok_blob h.1.2) hns hsat)
  · have hex : ∃ p, hasEIP1559 f = true ∧ tx.priorityFee = some p ∧ blk.basefee + p ≥ W :=
      Classical.byContradiction fun hne => hwrap fun hl p hp =>
        Nat.lt_of_not_le fun hw => hne ⟨p, hl, hp, hw⟩
    obtain ⟨p, hl, hp, hw⟩ := hex
    refine ⟨fun h => ?_, fun h => absurd h (valid_not_wrap hl hp hw hr.balance)⟩
    unfold validate validateCanon validateEnv at h
    rw [andThen_eq_ok, andThen_eq_ok] at h
    have h2 := h.1.2
    unfold validateTx at h2
    have h3 := ((andThen_eq_ok _ _).1 (ite_err_ok_iff.1 (ite_err_ok_iff.1 (ite_err_ok_iff.1 h2).2).2).2).1
    exact absurd h3 (feeChecks_wrap hl hp hw (hr.priorityFee p hp) hr.basefee)

theorem valid_no_gap {f : Fork} {cfg : Cfg} {blk : Block} {tx : Tx} {snd : Sender}
    (hbal : snd.balance < W) (h : ValidTx f cfg blk tx snd) :
    ¬ TypeGap f tx snd ∧ ¬ BlobFeeSaturation tx snd := by
  obtain ⟨_, _, _, hty, _, _, _, _, _, hsnd, _, hfunds⟩ := h
  constructor
  · intro hg
    rcases hg with ⟨h1, h2⟩ | ⟨h1, h2⟩
    · have := hty.2.1 h1; rw [h2] at this; exact nomatch this
    · unfold SenderOk at hsnd
      rcases hsnd with h | ⟨h, _⟩
      · rw [h1] at h; exact nomatch h
      · rw [h2] at h; exact nomatch h
  · exact fun h => absurd (fundsOk_blobFee hbal hfunds) (Nat.not_lt.2 h.1)

/-! ### no panic -/

theorem validateTx_ne_panic {f : Fork} {cfg : Cfg} {blk : Block} {tx : Tx}
    (hhdr : hasEIP4844 f = true → blk.blobGasPrice.isSome = true) :
    validateTx (canon f.id) cfg blk tx ≠ .panic := by
  unfold validateTx
  refine ite_err_ne_panic (ite_err_ne_panic (ite_err_ne_panic ?_))
  rw [blobChecks_eq hhdr, authChecks_eq]
  exact andThen_ne_panic _ _ (feeChecks_ne_panic _ _ _) fun _ =>
    andThen_ne_panic _ _ (initcodeCheck_ne_panic _ _ _) fun _ =>
    andThen_ne_panic _ _ (resOf_ne_panic _) fun _ => resOf_ne_panic _

theorem validate_ne_panic {f : Fork} {cfg : Cfg} {blk : Block} {tx : Tx} {snd : Sender}
    (hfit : GasFits f tx) : validate f.id cfg blk tx snd ≠ .panic := by
  unfold validate validateCanon validateEnv
  rw [validateBlockEnv_eq, validateInitialTxGas_eq hfit]
  apply andThen_ne_panic
  · apply andThen_ne_panic _ _ (resOf_ne_panic _)
    intro h
    exact validateTx_ne_panic (header_ok_blob h)
  · intro _
    exact andThen_ne_panic _ _ (resOf_ne_panic _)
      (fun _ => validateTxAgainstState_ne_panic _ _ _)

end Revm.Proofs.TxValidate
