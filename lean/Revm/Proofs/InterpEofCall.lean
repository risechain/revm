import Revm.Proofs.InterpEofInstr
import Revm.Proofs.InterpCall
/-! C25 for EOF code: EXTCALL / EXTDELEGATECALL / EXTSTATICCALL, EOFCREATE and RETURNCONTRACT. -/
namespace Revm.Proofs.Interp
open Revm Revm.Model Revm.Model.Interp

section ext
variable {s0 : IState} {N : IState → Prop} {A : Action → IState → Prop} {k : Nat} {st ne : Bool} {L : Nat}

theorem popExtcallTarget_tr : Step s0 ⟨k, st, ne, L⟩ popExtcallTarget ⟨k, true, false, L⟩ fun _ => True :=
  .seq .pop1 fun t _ => by
    split
    · exact .halt _
    · exact .pure ⟨rfl, trivial⟩

theorem rangeBytes_tr {a b : Nat} (hr : RangeOk a b L) :
    Step s0 ⟨k, st, ne, L⟩ (if a < b then memSliceRange a b else pure []) ⟨k, st, ne, L⟩ fun _ => True := by
  split
  · have : a ≤ b ∧ b ≤ L := hr.elim (fun h0 => by omega) id
    exact .last (.memSliceRange this.1 this.2) fun _ _ => ⟨rfl, trivial⟩
  · exact .pure ⟨rfl, trivial⟩

theorem extcallInput_tr : Tr s0 ⟨k, true, ne, L⟩ extcallInput fun _ j => ∃ L', j = ⟨k, true, false, L'⟩ :=
  .seq .pop2 fun (off, size) _ => .bind (resizeMemRange_tr off size) fun (_, _) _ ⟨L2, e, _, hr⟩ =>
    e ▸ .last (rangeBytes_tr hr) fun _ _ => ⟨L2, rfl⟩

/-- `extcall_gas_calc` after the account load: the gas consumed covers the child's limit, if there is one, and 1 more -/
theorem extcallGasCalc_tr (r : HostResp) (tv : Bool) :
    Tr s0 ⟨k, st, ne, L⟩ (extcallGasCalc r tv) fun g j =>
      match g with
      | none => 1 ≤ j.k
      | some gl => gl + 1 ≤ j.k :=
  have hcc := (callCost_ge GasCalc.SpecId.BERLIN tv r.isCold r.delegCold r.isEmpty).1
  .seq (.requireSome r) fun _ _ => .seq (.gas _ (Nat.le_trans (by decide) hcc)) fun _ _ => .seq .getS fun s1 _ => by
    dsimp only []
    split
    · -- the light failure: `push(1)` (errors ignored), return data cleared, the instruction continues
      refine .seq (P := fun _ => True)
        (j := ⟨k + GasCalc.callCost GasCalc.SpecId.BERLIN tv r.isCold r.delegCold r.isEmpty, true, false, L⟩) (.ofRel fun s h => sat_ok ⟨?_, trivial⟩) fun _ _ =>
        .pure (Nat.le_trans (by decide) (Nat.le_trans hcc (Nat.le_add_left _ _)))
      have hstk := h.stack
      exact
        { h with
          stack := by
            show (Stack.push s.stack 1).1.length ≤ 1024
            unfold Stack.push Stack.STACK_LIMIT
            split
            · exact hstk
            · simp only [List.length_append, List.length_cons, List.length_nil]; omega
          rdLen := by show ([] : List Nat).length ≤ _; simp
          safe := Or.inl (h.strict rfl)
          nonempty := fun e => by cases e }
    · exact .seq (.gas0 _) fun _ _ => .pure (by show _ + 1 ≤ k + _ + _; omega)

/-- the second half of EXTCALL / EXTDELEGATECALL / EXTSTATICCALL: an action with an empty return window, or the
light failure -/
theorem extTail_tr (r : HostResp) (tv : Bool) {mk : Nat → IState → CallInputs}
    (hmk : ∀ g x, (mk g x).gasLimit = g ∧ (mk g x).retEnd - (mk g x).retStart = 0) :
    TrS s0 ⟨k, st, ne, L⟩ (do
        let g ← extcallGasCalc r tv
        match g with
        | none => pure none
        | some gasLimit => do
          let s ← getS
          pure (some (Action.call (mk gasLimit s))) : M (Option Action))
      fun oa s'' => match oa with
        | some a => ActRel s0 a s''
        | none => Done1 s0 s'' :=
  .bind (extcallGasCalc_tr r tv) fun g j hg => by
    cases g with
    | none => exact .pureS fun _ hs => done1_of hs hg
    | some gl =>
      exact .seq .getS fun s1 _ => .pureS fun _ hs =>
        ⟨j.k, j.st, j.ne, j.L, hs, by show (mk gl s1).gasLimit + 1 ≤ j.k; rw [(hmk gl s1).1]; exact hg,
          Or.inl (hmk gl s1).2⟩

/-- the first half of EXTDELEGATECALL / EXTSTATICCALL, and of EXTCALL up to the value -/
theorem extPre_tr (hE : s0.isEof = true) {β} (f : Nat → List Nat → M β) {Q : β → Idx → Prop}
    (hf : ∀ target input L, Tr s0 ⟨0, true, false, L⟩ (f target input) Q) :
    Tr s0 .zero (do requireEof; let target ← popExtcallTarget; let input ← extcallInput; f target input) Q :=
  .seq (.requireEof hE) fun _ _ => .seq popExtcallTarget_tr fun target _ =>
    .bind extcallInput_tr fun input _ ⟨L2, e⟩ => e ▸ hf target input L2

theorem extcallI_good (hb : Base s0) (hE : s0.isEof = true) (hN : ∀ s', Done1 s0 s' → N s')
    (hA : ∀ a s', ActRel s0 a s' → A a s') : GoodP (Halt s0) N A (extcallI s0) :=
  hostCallOptAction_tr hb hN hA (fun _ j => ∃ L, j = ⟨0, true, false, L⟩)
    (extPre_tr hE _ fun target input L => .seq .pop1 fun value _ => .seq .getS fun s _ => by
      split
      · exact .halt _
      · exact .pure ⟨L, rfl⟩)
    fun (target, input, value) _ r ⟨L, e⟩ _ => e ▸ extTail_tr r (decide (value ≠ 0)) fun _ _ => ⟨rfl, rfl⟩

theorem extdelegatecallI_good (hb : Base s0) (hE : s0.isEof = true) (hN : ∀ s', Done1 s0 s' → N s')
    (hA : ∀ a s', ActRel s0 a s' → A a s') : GoodP (Halt s0) N A (extdelegatecallI s0) :=
  hostCallOptAction_tr hb hN hA (fun _ j => ∃ L, j = ⟨0, true, false, L⟩)
    (extPre_tr hE _ fun _ _ L => .pure ⟨L, rfl⟩)
    fun (_, _) _ r ⟨_, e⟩ _ => e ▸ extTail_tr r false fun _ _ => ⟨rfl, rfl⟩

theorem extstaticcallI_good (hb : Base s0) (hE : s0.isEof = true) (hN : ∀ s', Done1 s0 s' → N s')
    (hA : ∀ a s', ActRel s0 a s' → A a s') : GoodP (Halt s0) N A (extstaticcallI s0) :=
  hostCallOptAction_tr hb hN hA (fun _ j => ∃ L, j = ⟨0, true, false, L⟩)
    (extPre_tr hE _ fun _ _ L => .pure ⟨L, rfl⟩)
    fun (_, _) _ r ⟨_, e⟩ _ => e ▸ extTail_tr r false fun _ _ => ⟨rfl, rfl⟩

end ext

section create
variable {K : EofCtx} {s0 : IState} {c : EofCtx} {sec : List Nat} {i : Nat}

theorem actE_eofCreate (hs : StartE K s0 c sec i) {k : Nat} {st ne : Bool} {L : Nat} {s' : IState}
    (hc : Core k st ne L s0 s') (hpc : s'.pc ∈ boundaries sec) (ci : EofCreateInputs)
    (hg : ci.gasLimit + 1 ≤ k) : ActE K s0 (.eofCreate ci) s' := by
  refine ⟨hs.invE hc hpc, ?_, trivial⟩
  have hm := hc.meas
  show measure s' + ci.gasLimit + 1 ≤ measure s0
  omega

theorem eofcreateI_good (hs : StartE K s0 c sec i) (himm : i + 2 ≤ sec.length) (hnext : i + 2 ∈ boundaries sec)
    {sub : List Nat} (hsub : c.containers[sec.getD (i + 1) 0]? = some sub) (hok : subcontainerOk sub = true) :
    GoodP (Halt s0) (NextE K s0) (ActE K s0) (eofcreateI s0) :=
  hostCallAction_tr (QA := ActE K s0) hs.toBase (fun _ _ hq => hq)
    (fun _ j => ∃ k L, 1 ≤ k ∧ j = ⟨k, true, false, L⟩)
    (.seq (.requireEof hs.isEof) fun _ _ => .seq .requireNonStatic fun _ _ => .seq (.gas _ (by decide)) fun _ _ =>
      .seq (hs.byteAt 0 (p := i + 1) rfl (by omega)) fun idx e1 => .seq .pop4 fun (value, salt, dataOff, dataSize) _ =>
        .seq (.getEof hs.eof) fun c' e2 => by
          subst e1 e2
          rw [hsub]
          refine .bind (resizeMemRange_tr dataOff dataSize) fun (a, b) _ ⟨L3, e, _, hr⟩ => e ▸
            .seq (rangeBytes_tr hr) fun input _ => ?_
          rw [hok]
          simp only [Bool.not_true, Bool.false_eq_true, if_false]
          exact .gasOrFailPaid fun g => .seq .getS fun _ _ => .pure ⟨_, L3,
            Nat.le_trans (by decide : 1 ≤ 0 + GasCalc.EOF_CREATE_GAS) (Nat.le_add_right _ _), rfl⟩)
    fun (value, sub', input) _ r ⟨k, L, hk, e⟩ _ => e ▸ .seq .getS fun s1 _ => .seq (.gas0 _) fun _ _ => fun s2 h2 =>
      sat_ok (actE_eofCreate hs (h2.toCore.withPc _) (by show s2.pc + 1 ∈ _; rw [h2.pc, hs.pc]; exact hnext) _
        (by show Gas.remaining63of64 s1.gas + 1 ≤ k + _; omega))

/-- RETURNCONTRACT of a well-formed container never continues and never faults -/
theorem returnContractI_tr {R : Unit → IState → Prop} (hs : StartE K s0 c sec i) (himm : i + 2 ≤ sec.length)
    {sub : List Nat} (hsub : c.containers[sec.getD (i + 1) 0]? = some sub)
    {hd : Eof.Header} (hh : headerOf sub = some hd) (hp : hd.dataSizeRawI + 2 ≤ sub.length) :
    TrS s0 .zero returnContractI R :=
  .seq .requireInitEof fun _ _ => .seq (hs.byteAt 0 (p := i + 1) rfl (by omega)) fun idx e1 =>
    .seq .pop2 fun (auxOff, auxSize) _ => .seq (.asUsize auxSize _) fun auxSize' _ =>
      .seq (.getEof hs.eof) fun c' e2 => by
        subst e1 e2
        rw [hsub]
        simp only []
        rw [hh]
        simp only []
        refine .bind (Q := fun _ j => True) ?_ fun aux j _ => ?_
        · split
          · exact .seq (.asUsize auxOff _) fun off _ => .seq (.resizeMem off auxSize') fun _ _ =>
              .last (.memSlice (Nat.le_max_right _ _)) fun _ _ => trivial
          · exact .pure trivial
        · split
          · exact .halt _
          · split
            · exact .halt _
            · have hlen : hd.dataSizeRawI + 2 ≤ (sub ++ aux).length := by
                simp only [List.length_append]; omega
              unfold patchU16
              rw [if_pos hlen]
              exact .haltOut _ _

end create

end Revm.Proofs.Interp
