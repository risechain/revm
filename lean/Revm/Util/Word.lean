/-! Machine words as `Nat` with explicit ranges. The primitive operations of ruint's `U256`
and of Rust's `u64`/`i64`/`u128` are *definitions* here (trusted, see DESIGN §10): wrapping
operators are reduction mod 2^n, `checked_*` return `none` exactly when the true value does not
fit, `saturating_*` clamp. -/
namespace Revm

def W : Nat := 2^256
def U64 : Nat := 2^64
def U128 : Nat := 2^128

theorem W_val : W = 115792089237316195423570985008687907853269984665640564039457584007913129639936 := by
  unfold W; rfl
theorem U64_val : U64 = 18446744073709551616 := by unfold U64; rfl
theorem U128_val : U128 = 340282366920938463463374607431768211456 := by unfold U128; rfl

namespace U256
def wadd (a b : Nat) : Nat := (a + b) % W
def wsub (a b : Nat) : Nat := (a + W - b % W) % W
def wmul (a b : Nat) : Nat := (a * b) % W
def wneg (a : Nat) : Nat := (W - a) % W
def not (a : Nat) : Nat := W - 1 - a
def bit (a : Nat) (i : Nat) : Bool := a.testBit i
def isNeg (a : Nat) : Bool := a ≥ 2^255
/-- two's-complement reading -/
def toInt (a : Nat) : Int := if a ≥ 2^255 then (a : Int) - (W : Int) else a
def ofInt (i : Int) : Nat := (i % (W : Int)).toNat
def checkedAdd (a b : Nat) : Option Nat := if a + b < W then some (a + b) else none
def checkedMul (a b : Nat) : Option Nat := if a * b < W then some (a * b) else none
def saturatingAdd (a b : Nat) : Nat := if a + b < W then a + b else W - 1
def saturatingSub (a b : Nat) : Nat := a - b
def saturatingMul (a b : Nat) : Nat := if a * b < W then a * b else W - 1
/-- `as_u64_saturated!` / `as_usize_saturated!` -/
def asU64Sat (a : Nat) : Nat := if a < U64 then a else U64 - 1
end U256

namespace U64ops
def wadd (a b : Nat) : Nat := (a + b) % U64
def wsub (a b : Nat) : Nat := (a + U64 - b % U64) % U64
def wmul (a b : Nat) : Nat := (a * b) % U64
def checkedAdd (a b : Nat) : Option Nat := if a + b < U64 then some (a + b) else none
def checkedSub (a b : Nat) : Option Nat := if b ≤ a then some (a - b) else none
def checkedMul (a b : Nat) : Option Nat := if a * b < U64 then some (a * b) else none
def saturatingAdd (a b : Nat) : Nat := if a + b < U64 then a + b else U64 - 1
def saturatingSub (a b : Nat) : Nat := a - b
def saturatingMul (a b : Nat) : Nat := if a * b < U64 then a * b else U64 - 1
end U64ops

/-! ### the operations where nothing wraps or saturates -/

namespace U256
theorem wadd_eq {a b : Nat} (h : a + b < W) : wadd a b = a + b := Nat.mod_eq_of_lt h
theorem wmul_eq {a b : Nat} (h : a * b < W) : wmul a b = a * b := Nat.mod_eq_of_lt h
theorem satAdd_eq {a b : Nat} (h : a + b < W) : saturatingAdd a b = a + b := if_pos h
theorem satMul_eq {a b : Nat} (h : a * b < W) : saturatingMul a b = a * b := if_pos h
theorem satAdd_lt (a b : Nat) : saturatingAdd a b < W := by
  unfold saturatingAdd
  have := W_val
  split <;> omega
end U256

namespace U64ops
theorem wadd_of_lt (a b : Nat) (h : a + b < U64) : wadd a b = a + b := Nat.mod_eq_of_lt h
theorem wsub_of_le (a b : Nat) (ha : a < U64) (hb : b ≤ a) : wsub a b = a - b := by
  have hU := U64_val
  unfold wsub; rw [hU]; omega
theorem satAdd_le (a b : Nat) : saturatingAdd a b ≤ a + b := by
  unfold saturatingAdd; split <;> omega
end U64ops

theorem pow256_32 : 256 ^ 32 = W := by rw [W_val]

/-- the big-endian fold over `bs.length` bytes, started at `a`, stays below `(a + 1) · 256 ^ bs.length`; with `a = 0`: a
byte string of `n` bytes reads as a number below `256 ^ n` -/
theorem foldl_be_lt (bs : List Nat) (hb : ∀ b ∈ bs, b < 256) :
    ∀ a : Nat, bs.foldl (fun a b => a * 256 + b) a < (a + 1) * 256 ^ bs.length := by
  induction bs with
  | nil => intro a; simp
  | cons b bs ih =>
    intro a
    have hb0 : b < 256 := hb b (List.mem_cons_self ..)
    have ih' := ih (fun x hx => hb x (List.mem_cons_of_mem _ hx)) (a * 256 + b)
    rw [List.foldl_cons, List.length_cons, Nat.pow_succ]
    have h2 := Nat.mul_le_mul_right (256 ^ bs.length) (show a * 256 + b + 1 ≤ (a + 1) * 256 by omega)
    have h3 : (a + 1) * 256 * 256 ^ bs.length = (a + 1) * (256 ^ bs.length * 256) := by
      rw [Nat.mul_assoc, Nat.mul_comm 256]
    omega

end Revm
