import Revm.Model.Journal
/-! What is *observable* of a journaled state (C06, C08, C34), histories of operations over the
model, and the admissibility conditions under which the EVM uses the `JournaledState` API.

`abs` identifies "absent from the state map" with "present, cold (unless tx-level pre-warmed),
equal to the database, no flags, no cached slots" — the only identification the code itself relies on.
Whether the bytecode is cached in `info.code` is not observable and is dropped. -/
namespace Revm.Spec.JournalAbs
open Revm Revm.Model.Journal

structure AbsSlot where
  orig : Nat
  present : Nat
  warm : Bool
deriving DecidableEq, Repr

structure AbsAcct where
  balance : Nat
  nonce : Nat
  codeHash : Nat
  created : Bool
  selfdestructed : Bool
  touched : Bool
  notExisting : Bool
  warm : Bool
  slot : Nat → AbsSlot

/-- the database additionally answers `has_storage` (EIP-7610); `DbOk` says it is faithful -/
def DbOk (db : Db) (hasStorage : Addr → Bool) : Prop :=
  ∀ a, hasStorage a = false → ∀ k, db.storage a k = 0

def absSlot (db : Db) (a : Addr) (acc : Option Acct) (k : Nat) : AbsSlot :=
  match acc with
  | some acc =>
    match acc.storage k with
    | some sl => { orig := sl.orig, present := sl.present, warm := !sl.cold }
    | none =>
      let v := if acc.created then 0 else db.storage a k
      { orig := v, present := v, warm := false }
  | none => let v := db.storage a k; { orig := v, present := v, warm := false }

/-- `sd`: SPURIOUS_DRAGON enabled — then the touched mark of address 0x03 is not observable
(its revert is deliberately skipped by the code, the mainnet RIPEMD-160 precedent; DESIGN §8) -/
def absAcct (db : Db) (s : JState) (a : Addr) : AbsAcct :=
  let sd := decide (s.spec ≥ SPURIOUS_DRAGON)
  match s.state a with
  | some acc =>
    { balance := acc.info.balance, nonce := acc.info.nonce, codeHash := acc.info.codeHash,
      created := acc.created, selfdestructed := acc.selfdestructed,
      touched := if sd ∧ a = PRECOMPILE3 then false else acc.touched,
      notExisting := acc.notExisting, warm := !acc.cold,
      slot := absSlot db a (some acc) }
  | none =>
    let i := (db.basic a).getD Info.default
    { balance := i.balance, nonce := i.nonce, codeHash := i.codeHash,
      created := false, selfdestructed := false, touched := false,
      notExisting := (db.basic a).isNone, warm := s.preloaded a,
      slot := absSlot db a none }

def AbsAcct.eqv (x y : AbsAcct) : Prop :=
  x.balance = y.balance ∧ x.nonce = y.nonce ∧ x.codeHash = y.codeHash ∧ x.created = y.created ∧
  x.selfdestructed = y.selfdestructed ∧ x.touched = y.touched ∧ x.notExisting = y.notExisting ∧
  x.warm = y.warm ∧ ∀ k, x.slot k = y.slot k

/-- observable equality of two journaled states over the same database: accounts, storage,
warm/cold status, flags, transient storage (an explicit zero and an absent entry coincide), logs -/
def AbsEq (db : Db) (s t : JState) : Prop :=
  (∀ a, (absAcct db s a).eqv (absAcct db t a)) ∧
  (∀ a k, tload s a k = tload t a k) ∧ s.logs = t.logs

/-- well-formedness of a journaled state over its database: every balance, cached or still in the
database, is a 256-bit word (what `U256` guarantees in the Rust; the model's words are unbounded `Nat`s) -/
def WF (db : Db) (s : JState) : Prop := ∀ a, (absAcct db s a).balance < W

/-- the delegation target designated by the code of `a`, as `load_account_delegated` reads it -/
def delegateOf (db : Db) (s : JState) (a : Addr) : Option Addr :=
  match loadCode db s a with
  | some (s1, _) => (s1.state a).bind fun acc => acc.info.code.bind db.delegate
  | none => none

/-- the accounts / slots the undo of an entry dereferences are present -/
def refsOk (s : JState) : Entry → Prop
  | .accountWarmed a => (s.state a).isSome
  | .accountTouched a => (s.state a).isSome
  | .accountDestroyed a t _ _ => (s.state a).isSome ∧ (s.state t).isSome
  | .balanceTransfer a t _ => (s.state a).isSome ∧ (s.state t).isSome
  | .nonceChange a => (s.state a).isSome
  | .accountCreated a => (s.state a).isSome
  | .codeChange a => (s.state a).isSome
  | .storageWarmed a k => ∃ acc, s.state a = some acc ∧ (acc.storage k).isSome
  | .storageChanged a k _ => ∃ acc, s.state a = some acc ∧ (acc.storage k).isSome
  | .transientChange _ _ _ => True

/-- every entry in the journal refers to accounts / slots that are present in the state map: what makes
`journal_revert`'s `unwrap`s safe. True of `JournaledState::new`, preserved by every operation (Proofs/JournalUndo,
Proofs/JournalInv) -/
def JRefs (s : JState) : Prop := ∀ l, l ∈ s.journal → ∀ e, e ∈ l → refsOk s e

/-! ## histories -/

inductive Op
  | load (a : Addr) | loadCode (a : Addr) | loadDelegated (a : Addr)
  | initLoad (a : Addr) (ks : List Nat) | touch (a : Addr)
  | transfer (src dst : Addr) (v : Nat) | incNonce (a : Addr) | setCode (a : Addr) (h : Nat)
  | sload (a : Addr) (k : Nat) | sstore (a : Addr) (k v : Nat)
  | tload (a : Addr) (k : Nat) | tstore (a : Addr) (k v : Nat) | log (l : Nat)
  | selfdestruct (a t : Addr) | create (caller a : Addr) (hasStorage : Bool) (bal spec : Nat)
  | checkpoint | commit | revert (i : Nat)
deriving DecidableEq, Repr

/-- a run: the journaled state plus the checkpoints handed out so far (oldest first) -/
structure Run where
  js : JState
  cps : List Checkpoint

/-- one operation; `none` is a Rust panic (`unwrap` on a vacant entry, stale checkpoint) -/
def step (db : Db) (r : Run) : Op → Option Run
  | .load a => (loadAccount db r.js a).map fun x => { r with js := x.1 }
  | .loadCode a => (loadCode db r.js a).map fun x => { r with js := x.1 }
  | .loadDelegated a => (loadAccountDelegated db r.js a).map fun x => { r with js := x.1 }
  | .initLoad a ks => some { r with js := initialAccountLoad db r.js a ks }
  | .touch a => (touch r.js a).map fun js => { r with js := js }
  | .transfer f t v => (transfer db r.js f t v).map fun x => { r with js := x.1 }
  | .incNonce a => (incNonce r.js a).map fun x => { r with js := x.1 }
  | .setCode a h => (setCode r.js a h).map fun js => { r with js := js }
  | .sload a k => (sload db r.js a k).map fun x => { r with js := x.1 }
  | .sstore a k v => (sstore db r.js a k v).map fun x => { r with js := x.1 }
  | .tload _ _ => some r
  | .tstore a k v => (tstore r.js a k v).map fun js => { r with js := js }
  | .log l => some { r with js := log r.js l }
  | .selfdestruct a t => (selfdestruct db r.js a t).map fun x => { r with js := x.1 }
  | .create c a hs bal spec =>
    match createAccountCheckpoint r.js c a hs bal spec with
    | some (js, .ok cp) => some { js := js, cps := r.cps ++ [cp] }
    | some (js, .error _) => some { r with js := js }
    | none => none
  | .checkpoint => let (js, cp) := checkpoint r.js; some { js := js, cps := r.cps ++ [cp] }
  | .commit => some { r with js := commit r.js }
  | .revert i =>
    match r.cps[i]? with
    | some cp => (revert r.js cp).map fun js => { r with js := js }
    | none => none

def run (db : Db) (r : Run) : List Op → Option Run
  | [] => some r
  | op :: ops => match step db r op with
    | some r' => run db r' ops
    | none => none

/-- conditions on the *use* of the API that the EVM's frame machine guarantees and under which C06 is
stated (each is decidable on the current state; the driver evaluates them and prints the Spec
column only while they hold):
* `set_code` only on an account whose code is empty (a contract being created) — the `CodeChange`
  entry does not record the previous code;
* `create_account_checkpoint` only on a target that is not already marked created, with a faithful
  `has_storage` answer and a caller balance that covers the endowment (checked in `make_create_frame`);
* `initial_account_load` (transaction-level pre-warming, deliberately not journaled) only before the
  first checkpoint;
* a reverted checkpoint is one handed out earlier and not older than `base` (the checkpoint the
  theorem is about). -/
def admissible (_db : Db) (hasStorage : Addr → Bool) (base : Nat) (r : Run) : Op → Bool
  | .setCode a _ => match r.js.state a with
    | some acc => acc.info.codeHash = KECCAK_EMPTY
    | none => true
  | .create c a hs bal _ =>
    (match r.js.state a with | some acc => !acc.created | none => true) &&
    (hs || !hasStorage a) &&
    (match r.js.state c with | some acc => decide (bal ≤ acc.info.balance) | none => true)
  | .revert i => decide (base ≤ i)
  | .initLoad _ _ => false
  | _ => true

def admissibleRun (db : Db) (hasStorage : Addr → Bool) (base : Nat) (r : Run) : List Op → Bool
  | [] => true
  | op :: ops => admissible db hasStorage base r op &&
    match step db r op with
    | some r' => admissibleRun db hasStorage base r' ops
    | none => true

end Revm.Spec.JournalAbs
