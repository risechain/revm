import Revm.Spec.JournalAbs
import Revm.Model.TxFeeLegs
/-! C08 — what "ether is conserved" means.

`bal db s a` is the observable balance of an address (the journal's entry if the account is loaded,
the database's otherwise; `absAcct` of `Spec/JournalAbs.lean`), `total L db s` the sum of the
observable balances over a duplicate-free finite list `L` of addresses — an unbounded natural number,
so the sum itself never wraps; everything outside `L` is the constant database.

The *balance machine* below is the specification of what the journal operations may do to balances:
a state is a balance function together with the list of balance-moving journal entries that are
still revertible (newest first). `Proofs/EtherJournal.lean` shows that every operation of the code-shaped
model `Model/Journal.lean` acts on `(bal, JB)` exactly like the corresponding function here, and the
conservation theorems are statements about these functions.

Ether leaves the sum only through an `AccountDestroyed` entry whose target is the destroyed account
itself (`burntEntry`); `burnt s` adds those up over the entries that are still in the journal, so a
reverted frame un-burns what it burnt. -/
namespace Revm.Spec.Ether
open Revm Revm.Model.Journal Revm.Model.TxFeeLegs Revm.Spec.JournalAbs

/-- observable balance of `a` -/
def bal (db : Db) (s : JState) (a : Addr) : Nat := (absAcct db s a).balance

def sumOver : List Addr → (Addr → Nat) → Nat
  | [], _ => 0
  | a :: L, f => f a + sumOver L f

/-- Σ of the observable balances over `L` -/
def total (L : List Addr) (db : Db) (s : JState) : Nat := sumOver L (bal db s)

/-- every observable balance is a 256-bit word -/
def BalOk (db : Db) (s : JState) : Prop := ∀ a, bal db s a < W

def isBal : Entry → Bool
  | .balanceTransfer .. => true
  | .accountDestroyed .. => true
  | _ => false

/-- the balance-moving entries of the whole journal, newest first -/
def JB (s : JState) : List Entry := s.journal.flatten.filter isBal

/-- ether destroyed by the operation that pushed this entry -/
def burntEntry : Entry → Nat
  | .accountDestroyed a t _ had => if a = t then had else 0
  | _ => 0

def burntJ : List Entry → Nat
  | [] => 0
  | e :: es => burntEntry e + burntJ es

/-- ether burnt by the self-destructs that are (still) part of the journal -/
def burnt (s : JState) : Nat := burntJ (JB s)

def entryAddrs : Entry → List Addr
  | .balanceTransfer src dst _ => [src, dst]
  | .accountDestroyed a t _ _ => [a, t]
  | _ => []

def upd (f : Addr → Nat) (a : Addr) (v : Nat) : Addr → Nat := fun x => if x = a then v else f x

/-! ## the balance machine -/

/-- balance effect of undoing one entry (`journal_revert`): wrapping `+=` on the source,
wrapping `-=` on the destination -/
def undoBal (f : Addr → Nat) : Entry → (Addr → Nat)
  | .balanceTransfer src dst v =>
    let f1 := upd f src (U256.wadd (f src) v)
    upd f1 dst (bsub (f1 dst) v)
  | .accountDestroyed a t _ had =>
    let f1 := upd f a (U256.wadd (f a) had)
    if a ≠ t then upd f1 t (bsub (f1 t) had) else f1
  | _ => f

def undoAll (f : Addr → Nat) : List Entry → (Addr → Nat)
  | [] => f
  | e :: es => undoAll (undoBal f e) es

structure BState where
  f : Addr → Nat
  j : List Entry

inductive TransferResult | ok | outOfFunds | overflowPayment deriving DecidableEq, Repr

/-- `transfer`: all or nothing -/
def bTransfer (b : BState) (src dst v : Nat) : BState × TransferResult :=
  if b.f src < v then (b, .outOfFunds) else
  let f1 := upd b.f src (b.f src - v)
  if f1 dst + v ≥ W then (b, .overflowPayment) else
  ({ f := upd f1 dst (f1 dst + v), j := .balanceTransfer src dst v :: b.j }, .ok)

/-- `selfdestruct` of `a` naming `t`, `created` = the account was created in this transaction,
`cancun` = EIP-6780 is active, `prev` = the flag recorded in the entry -/
def bSelfdestruct (b : BState) (a t : Addr) (created cancun prev : Bool) : BState :=
  let f1 := if a ≠ t then upd b.f t (U256.wadd (b.f t) (b.f a)) else b.f
  let balance := f1 a
  if created ∨ !cancun then
    { f := upd f1 a 0, j := .accountDestroyed a t prev balance :: b.j }
  else if a ≠ t then
    { f := upd f1 a 0, j := .balanceTransfer a t balance :: b.j }
  else { f := f1, j := b.j }

/-- `create_account_checkpoint`, success path: the endowment is added to the new account (checked)
and subtracted from the caller with a *wrapping* subtraction -/
def bCreateOk (b : BState) (caller a : Addr) (v : Nat) : BState :=
  let f1 := upd b.f a (b.f a + v)
  { f := upd f1 caller (bsub (f1 caller) v), j := .balanceTransfer caller a v :: b.j }

/-- `checkpoint_revert`: the newest `n` balance entries are undone, newest first -/
def bRevert (b : BState) (n : Nat) : BState :=
  { f := undoAll b.f (b.j.take n), j := b.j.drop n }

/-! ## when undoing an entry moves no ether in or out (beyond giving back what it burnt) -/

/-- the wrapping arithmetic of `undoBal` does not wrap on `f` -/
def NoWrap (f : Addr → Nat) : Entry → Prop
  | .balanceTransfer src dst v => src = dst ∨ (f src + v < W ∧ v ≤ f dst)
  | .accountDestroyed a t _ had => f a + had < W ∧ (a ≠ t → had ≤ f t)
  | _ => True

/-- every entry of the list can be undone in turn without wrapping -/
def Good (f : Addr → Nat) : List Entry → Prop
  | [] => True
  | e :: es => NoWrap f e ∧ Good (undoBal f e) es

def EntriesIn (L : List Addr) (es : List Entry) : Prop := ∀ e ∈ es, ∀ a ∈ entryAddrs e, a ∈ L

/-! ## histories -/

/-- the addresses whose balances an operation may move -/
def opAddrs : Op → List Addr
  | .transfer src dst _ => [src, dst]
  | .selfdestruct a t => [a, t]
  | .create caller a _ _ _ => [caller, a]
  | _ => []

/-- `create_account_checkpoint` is only called with an endowment the caller can pay: the check
`caller_balance < value ⇒ OutOfFunds` of `make_create_frame` (see `Model/TxFeeLegs.lean`,
`makeCreateFrame`). Every other operation is unrestricted. -/
def Funded (db : Db) (r : Run) : Op → Prop
  | .create caller _ _ v _ => v ≤ bal db r.js caller
  | _ => True

/-- all operations of a history are funded, evaluated along the run -/
def FundedRun (db : Db) (r : Run) : List Op → Prop
  | [] => True
  | op :: ops => Funded db r op ∧ ∀ r', step db r op = some r' → FundedRun db r' ops

/-- local form of the hypotheses of the history theorem, decidable on the current state: a creation
is funded, and the beneficiary's credit of a self-destruct fits in 256 bits (implied by Σ < 2^256) -/
def StepOk (db : Db) (r : Run) : Op → Prop
  | .create caller _ _ v _ => v ≤ bal db r.js caller
  | .selfdestruct a t => a ≠ t → bal db r.js t + bal db r.js a < W
  | _ => True

def StepOkRun (db : Db) (r : Run) : List Op → Prop
  | [] => True
  | op :: ops => StepOk db r op ∧ ∀ r', step db r op = some r' → StepOkRun db r' ops

/-! ## fee legs of a transaction (EIP-1559, EIP-4844) over unbounded integers -/

/-- the blob fee that is charged (and burnt): zero before Cancun -/
def dataFee (spec : Nat) (e : FeeEnv) : Nat := if spec ≥ CANCUN then (calcDataFee e).getD 0 else 0

/-- ether that the fee legs burn per unit of gas: the part of the effective price the beneficiary
does not get (the base fee from London on, nothing before) -/
def burntPerGas (spec : Nat) (e : FeeEnv) : Nat := effectiveGasPrice e - coinbaseGasPrice spec e

/-- what validation establishes (`validate_tx_against_state`, `validate_tx`): the caller's balance
covers `gas_limit * gas_price + value + max blob fee` without 256-bit overflow, the effective price
is at most the fee cap, the blob gas price at most the blob fee cap; hence the caller covers
`gas_limit * effective_gas_price + blob fee`. `Validated` keeps only that consequence. -/
def Validated (db : Db) (s : JState) (spec : Nat) (e : FeeEnv) : Prop :=
  e.gasLimit * effectiveGasPrice e + dataFee spec e ≤ bal db s e.caller ∧
  (spec ≥ CANCUN → e.blobGasPrice.isSome)

/-- the gas figures of a finished first frame as the handler sees them: `spent + remaining` is the
gas limit and the (final, capped) refund does not exceed what was spent (C09 / C13) -/
def GasOk (e : FeeEnv) (remaining spent refunded : Nat) : Prop :=
  spent + remaining = e.gasLimit ∧ refunded ≤ spent ∧ e.gasLimit < U64

/-- the amounts of the three legs over unbounded integers -/
def specDebit (spec : Nat) (e : FeeEnv) : Nat := e.gasLimit * effectiveGasPrice e + dataFee spec e
def specReimbursement (e : FeeEnv) (remaining refunded : Nat) : Nat := effectiveGasPrice e * (remaining + refunded)
def specReward (spec : Nat) (e : FeeEnv) (spent refunded : Nat) : Nat := coinbaseGasPrice spec e * (spent - refunded)

/-- what a transaction takes out of the sum of all balances -/
def specTxBurn (spec : Nat) (e : FeeEnv) (rewards : Bool) (spent refunded burntExec : Nat) : Nat :=
  burntPerGas spec e * (spent - refunded) + dataFee spec e + burntExec
    + (if rewards then 0 else specReward spec e spent refunded)

end Revm.Spec.Ether
